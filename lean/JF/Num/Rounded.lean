import JF.Num.Ops
import Mathlib.Algebra.Order.Floor.Ring
import Mathlib.Data.Rat.Floor
import Mathlib.Data.Set.Basic
import Mathlib.Order.Monotone.Basic
import Mathlib.Algebra.Order.AbsoluteValue.Basic
import Mathlib.Tactic.Linarith
import Mathlib.Tactic.Ring
import Mathlib.Tactic.NormNum
/-!
# The rounding-abstract reading of the scalar layer

`FloatModel` is a structure of HYPOTHESES about a rounding function `rnd : ℚ → ℚ` and its set `F` of
representable numbers.  Nothing here is an axiom: every theorem of the rounding-abstract reading is of the
form `∀ fm : FloatModel, …`.  `R fm` is `ℚ` with `+ - * /` that round their exact result with `fm.rnd`;
`Ops.rounded fm : Ops (R fm)` completes it to a scalar layer, so that the model definitions of `JF/Model`
(written once, generically) can be read "as floats".

Proof-side file (imports Mathlib; never linked into a driver).

## Which fields, and why each one is true of IEEE-754 binary64 (round to nearest, ties to even)

(The informal justification below is PROVED in `JF/Lemmas/RoundedBinary.lean`: `FloatModel.binary64` constructs the
instance for the mathematical definition of binary64 RNE.  Smaller instances: `RoundedInstances.lean`.)

Take `F` = the finite doubles (as rationals), `rnd` = round-to-nearest-even of a rational, saturating at
`±max_double` (overflow to `±∞` is outside the model: no theorem ever rounds a number above `huge`),
`eps = 2^-53`, `tiny = 2^-1022` (smallest normal), `huge = 2^1023`.

* `rnd_mem`, `rnd_id`   : the result of rounding is a double; a double rounds to itself.
* `rnd_mono`            : RNE is monotone (non-decreasing) - standard.
* `rnd_neg`             : RNE is sign-symmetric (ties-to-even does not look at the sign).
* `eps_nonneg`, `eps_le_half` : `0 ≤ 2^-53 ≤ 1/2`.
* `huge_ge`             : `2^55 ≤ 2^1023`.
* `rel_err`             : in the NORMAL range `2^-1022 ≤ |x| ≤ 2^1023`, `|RNE x - x| ≤ 2^-53 |x|`
                          (half an ulp, ulp ≤ 2^-52 |x|).  NOT claimed below `tiny` (subnormals have an
                          absolute, not a relative, error bound) nor above `huge` (overflow).
* `add_tiny`            : all doubles are integer multiples of `2^-1074`; so is the sum of two of them, and a
                          multiple of `2^-1074` below `2^-1022` in magnitude is a (subnormal) double:
                          additions that land in the subnormal range are EXACT (Hauser's lemma).
* `int_mem`             : every integer of magnitude ≤ 2^53 is a double.
* `floor_mem`           : IEEE `floor` of a double is a double (doubles ≥ 2^52 are integers; below that the
                          integer part has ≤ 52 bits).
* `fract_mem`           : for `x ≥ 0`, `x - ⌊x⌋ = fmod(x, 1)` is a double (it keeps the low-order bits of the
                          significand of `x`; C `fmod` is exact).  FALSE for negative `x` (e.g. `-2^-60`),
                          hence the hypothesis `0 ≤ x`.
-/
namespace JF

structure FloatModel where
  /-- the rounding function, on exact (rational) results -/
  rnd : ℚ → ℚ
  /-- the representable numbers -/
  F : Set ℚ
  /-- unit roundoff -/
  eps : ℚ
  /-- lower end of the range in which the relative error bound holds (binary64: smallest normal) -/
  tiny : ℚ
  /-- upper end of that range (binary64: anything up to the largest double) -/
  huge : ℚ
  rnd_mem : ∀ x, rnd x ∈ F
  rnd_id : ∀ x, x ∈ F → rnd x = x
  rnd_mono : Monotone rnd
  rnd_neg : ∀ x, rnd (-x) = -rnd x
  eps_nonneg : 0 ≤ eps
  eps_le_half : eps ≤ 1 / 2
  huge_ge : (2:ℚ) ^ 55 ≤ huge
  rel_err : ∀ x, tiny ≤ |x| → |x| ≤ huge → |rnd x - x| ≤ eps * |x|
  add_tiny : ∀ a b, a ∈ F → b ∈ F → |a + b| < tiny → a + b ∈ F
  int_mem : ∀ n : ℤ, |(n:ℚ)| ≤ 2 ^ 53 → (n:ℚ) ∈ F
  floor_mem : ∀ x, x ∈ F → 0 ≤ x → ((⌊x⌋ : ℤ) : ℚ) ∈ F
  fract_mem : ∀ x, x ∈ F → 0 ≤ x → x - ((⌊x⌋ : ℤ) : ℚ) ∈ F

namespace FloatModel
variable (fm : FloatModel)

theorem zero_mem : (0:ℚ) ∈ fm.F := by
  have := fm.int_mem 0 (by norm_num); simpa using this

theorem one_mem : (1:ℚ) ∈ fm.F := by
  have := fm.int_mem 1 (by norm_num); simpa using this

@[simp] theorem rnd_zero : fm.rnd 0 = 0 := fm.rnd_id 0 fm.zero_mem

theorem rnd_nonneg {x : ℚ} (h : 0 ≤ x) : 0 ≤ fm.rnd x := by
  have := fm.rnd_mono h; rwa [rnd_zero] at this

theorem rnd_nonpos {x : ℚ} (h : x ≤ 0) : fm.rnd x ≤ 0 := by
  have := fm.rnd_mono h; rwa [rnd_zero] at this

theorem neg_mem {x : ℚ} (h : x ∈ fm.F) : -x ∈ fm.F := by
  have := fm.rnd_mem (-x); rwa [fm.rnd_neg, fm.rnd_id x h] at this

theorem rnd_int (n : ℤ) (h : |(n:ℚ)| ≤ 2 ^ 53) : fm.rnd n = n := fm.rnd_id _ (fm.int_mem n h)

/-- rounding never crosses a representable number -/
theorem rnd_le_of_le {x y : ℚ} (hy : y ∈ fm.F) (h : x ≤ y) : fm.rnd x ≤ y := by
  have := fm.rnd_mono h; rwa [fm.rnd_id y hy] at this

theorem le_rnd_of_le {x y : ℚ} (hx : x ∈ fm.F) (h : x ≤ y) : x ≤ fm.rnd y := by
  have := fm.rnd_mono h; rwa [fm.rnd_id x hx] at this

/-- The sum of two representable numbers is rounded with relative error `eps`, whatever its size below
`huge`: in the range `[tiny, huge]` by `rel_err`, below `tiny` because it is exact (`add_tiny`). -/
theorem add_err {a b : ℚ} (ha : a ∈ fm.F) (hb : b ∈ fm.F) (hh : |a + b| ≤ fm.huge) :
    |fm.rnd (a + b) - (a + b)| ≤ fm.eps * |a + b| := by
  rcases le_or_gt fm.tiny |a + b| with h | h
  · exact fm.rel_err _ h hh
  · rw [fm.rnd_id _ (fm.add_tiny a b ha hb h)]
    simp only [sub_self, abs_zero]
    exact mul_nonneg fm.eps_nonneg (abs_nonneg _)

theorem sub_err {a b : ℚ} (ha : a ∈ fm.F) (hb : b ∈ fm.F) (hh : |a - b| ≤ fm.huge) :
    |fm.rnd (a - b) - (a - b)| ≤ fm.eps * |a - b| := by
  have := fm.add_err ha (fm.neg_mem hb) (by rwa [← sub_eq_add_neg])
  rwa [← sub_eq_add_neg] at this

end FloatModel

/-! ### the scalar type -/

/-- rationals whose arithmetic rounds with `fm.rnd` -/
def R (_fm : FloatModel) : Type := ℚ

namespace R
variable {fm : FloatModel}

/-- the exact rational value of a scalar (the identity; it only changes the type, so that the exact
operations of `ℚ` are not confused with the rounded ones of `R fm`) -/
def toQ (x : R fm) : ℚ := x
/-- a rational read as a scalar WITHOUT rounding (used for exact operations and literals) -/
def ofQ (x : ℚ) : R fm := x

@[simp] theorem toQ_ofQ (x : ℚ) : toQ (ofQ x : R fm) = x := rfl
@[simp] theorem ofQ_toQ (x : R fm) : ofQ (toQ x) = x := rfl
theorem ext {x y : R fm} (h : toQ x = toQ y) : x = y := h
theorem ext_iff {x y : R fm} : x = y ↔ toQ x = toQ y := Iff.rfl

instance : Add (R fm) := ⟨fun a b => ofQ (fm.rnd (toQ a + toQ b))⟩
instance : Sub (R fm) := ⟨fun a b => ofQ (fm.rnd (toQ a - toQ b))⟩
instance : Mul (R fm) := ⟨fun a b => ofQ (fm.rnd (toQ a * toQ b))⟩
instance : Div (R fm) := ⟨fun a b => ofQ (fm.rnd (toQ a / toQ b))⟩
/-- negation is exact (sign flip) -/
instance : Neg (R fm) := ⟨fun a => ofQ (-toQ a)⟩
/-- comparisons do not round -/
instance : LT (R fm) := ⟨fun a b => toQ a < toQ b⟩
instance : LE (R fm) := ⟨fun a b => toQ a ≤ toQ b⟩
instance : DecidableLT (R fm) := fun a b => inferInstanceAs (Decidable (toQ a < toQ b))
instance : DecidableLE (R fm) := fun a b => inferInstanceAs (Decidable (toQ a ≤ toQ b))
instance : BEq (R fm) := ⟨fun a b => toQ a == toQ b⟩

@[simp] theorem toQ_add (a b : R fm) : toQ (a + b) = fm.rnd (toQ a + toQ b) := rfl
@[simp] theorem toQ_sub (a b : R fm) : toQ (a - b) = fm.rnd (toQ a - toQ b) := rfl
@[simp] theorem toQ_mul (a b : R fm) : toQ (a * b) = fm.rnd (toQ a * toQ b) := rfl
@[simp] theorem toQ_div (a b : R fm) : toQ (a / b) = fm.rnd (toQ a / toQ b) := rfl
@[simp] theorem toQ_neg (a : R fm) : toQ (-a) = -toQ a := rfl
@[simp] theorem lt_iff (a b : R fm) : a < b ↔ toQ a < toQ b := Iff.rfl
@[simp] theorem le_iff (a b : R fm) : a ≤ b ↔ toQ a ≤ toQ b := Iff.rfl
@[simp] theorem beq_iff (a b : R fm) : (a == b) = (toQ a == toQ b) := rfl
@[simp] theorem bne_iff (a b : R fm) : (a != b) = (toQ a != toQ b) := rfl
@[simp] theorem decide_lt (a b : R fm) : decide (a < b) = decide (toQ a < toQ b) := rfl

end R

open R in
/-- The scalar operations over `R fm`.  `floor` and `fmod` are EXACT (IEEE `floor` and C `fmod` are exact
operations: their mathematical result is representable); integer literals are not rounded (exact for
`|n| ≤ 2^53`; the models only use the literals 0, 1, 2); signed zeros are not distinguished;
there is no infinity in this reading (`Time.add`'s infinite branch is covered by `C14.add_inf`, which
holds for every scalar type). -/
def Ops.rounded (fm : FloatModel) : Ops (R fm) where
  ofInt n := ofQ (n : ℚ)
  floor x := ofQ ((⌊toQ x⌋ : ℤ) : ℚ)
  fmod x y := ofQ (Ops.rat.fmod (toQ x) (toQ y))
  toInt x := Rat.trunc (toQ x)
  isInf _ := false
  zeroLike _ := ofQ 0
  sqrt x := x

namespace R
variable {fm : FloatModel}
@[simp] theorem rounded_ofInt (n : ℤ) : toQ ((Ops.rounded fm).ofInt n) = (n : ℚ) := rfl
@[simp] theorem rounded_floor (x : R fm) : toQ ((Ops.rounded fm).floor x) = ((⌊toQ x⌋ : ℤ) : ℚ) := rfl
@[simp] theorem rounded_fmod (x y : R fm) :
    toQ ((Ops.rounded fm).fmod x y) = Ops.rat.fmod (toQ x) (toQ y) := rfl
@[simp] theorem rounded_isInf (x : R fm) : (Ops.rounded fm).isInf x = false := rfl
@[simp] theorem rounded_zeroLike (x : R fm) : toQ ((Ops.rounded fm).zeroLike x) = 0 := rfl
@[simp] theorem rounded_toInt (x : R fm) : (Ops.rounded fm).toInt x = Rat.trunc (toQ x) := by rfl
end R

end JF
