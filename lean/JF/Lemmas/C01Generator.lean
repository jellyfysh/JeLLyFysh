import JF.Props.C01
import Mathlib.Algebra.BigOperators.Fin
/-!
# Pointwise algebra behind the generator statement of C01 (`JF/Props/C01Generator.lean`)

Everything here is about ONE configuration: a factor lists the derivatives `q k` of its energy for the units
`k : Fin n` (C03), C05's lifting schemes act on the table `tableOf q = [(q 0, 0), …, (q (n-1), n-1)]`.

`C05.prob_row_sum` (the selection probabilities `C05.prob` of a valid active unit sum to one) and
`negIdx` (the position of a unit of non-positive derivative in C05's negative list) turn `C05.prob` into `liftP`, the
hand-over probability as a function of unit numbers. What stationarity needs of a lifting kernel `p` is `Balanced q p`:
rows of active units sum to one, and the flow into a unit minus the flow out of it is minus its derivative
(`q⁺ · p` is a coupling of the uphill part `q⁺` and the downhill part `q⁻` of the table). The three schemes are balanced
(`liftP_balanced`: `prob_row_sum` and C01's `inflow_eq`), and for balanced kernels column sum minus row sum of the jump
rates gives `Balanced.jump_sum`:
`Σ_k Σ_M β max 0 (q M k) Σ_j p_M k j (φ j − φ k) = −β Σ_k φ k Σ_M q M k` for every `φ`; `pair_jump` is the two-unit case.
-/
namespace JF.C01Generator
open JF JF.Lifting JF.C05 JF.C01

set_option linter.unusedSectionVars false
variable {K : Type} [Field K] [LinearOrder K] [IsStrictOrderedRing K] {ι : Type}

/-- **The lifting probabilities of a valid active unit sum to one** (all three schemes of C05). -/
theorem prob_row_sum (sch : Scheme) {tbl : List (K × ι)} {a : Nat} (V : Valid tbl a) :
    ∑ k ∈ Finset.range (negOf tbl).length, prob sch tbl a k = 1 :=
  C05.prob_row_sum sch V

/-- index in `negOf tbl` of the table's unit number `i` (meaningful when its derivative is not positive): the number of
non-positive entries inserted before it -/
def negIdx (tbl : List (K × ι)) (i : Nat) : Nat := (negOf (tbl.take i)).length

theorem negOf_cons (r : K) (id : ι) (t : List (K × ι)) :
    negOf ((r, id) :: t) = if 0 < r then negOf t else (-r, id) :: negOf t := rfl

theorem negIdx_cons_succ (r : K) (id : ι) (t : List (K × ι)) (i : Nat) :
    negIdx ((r, id) :: t) (i + 1) = if 0 < r then negIdx t i else negIdx t i + 1 := by
  simp only [negIdx, List.take_succ_cons, negOf_cons]
  split <;> rfl

/-- unit number `i` of the table, if its derivative `r` is not positive, is entry `negIdx tbl i` of the negative list,
stored as `(−r, identifier)` -/
theorem negOf_getElem_negIdx {tbl : List (K × ι)} {i : Nat} (hi : i < tbl.length) (hneg : ¬ 0 < (tbl[i]).1) :
    ∃ h : negIdx tbl i < (negOf tbl).length, (negOf tbl)[negIdx tbl i] = (-(tbl[i]).1, (tbl[i]).2) := by
  induction tbl generalizing i with
  | nil => exact absurd hi (Nat.not_lt_zero _)
  | cons x t ih =>
    obtain ⟨r, id⟩ := x
    cases i with
    | zero =>
      have hr : ¬ 0 < r := hneg
      simp [negIdx, negOf, hr]
    | succ i =>
      obtain ⟨h, he⟩ := ih (Nat.lt_of_succ_lt_succ hi) hneg
      by_cases hr : 0 < r
      · simpa only [negIdx_cons_succ, negOf_cons, hr, if_true, List.getElem_cons_succ] using ⟨h, he⟩
      · simpa only [negIdx_cons_succ, negOf_cons, hr, if_false, List.getElem_cons_succ, List.length_cons,
          Nat.add_lt_add_iff_right] using ⟨h, he⟩

/-- **Re-indexing**: a sum over the units of the negative list is the sum over the table's units of non-positive
derivative, each at its `negIdx` -/
theorem sum_negIdx (tbl : List (K × ι)) (g : Nat → K) :
    ∑ i ∈ Finset.range tbl.length, (if 0 < rate tbl i then 0 else g (negIdx tbl i)) =
      ∑ k ∈ Finset.range (negOf tbl).length, g k := by
  induction tbl generalizing g with
  | nil => simp [negOf]
  | cons x t ih =>
    obtain ⟨r, id⟩ := x
    rw [List.length_cons, Finset.sum_range_succ']
    have hs : ∀ i, rate ((r, id) :: t) (i + 1) = rate t i := fun _ => rfl
    have h0 : rate ((r, id) :: t) 0 = r := rfl
    have e0 : negIdx ((r, id) :: t) 0 = 0 := rfl
    simp only [hs, h0, e0, negIdx_cons_succ, negOf_cons]
    by_cases h : 0 < r
    · simp only [h, if_true, add_zero]
      exact ih g
    · simp only [h, if_false, List.length_cons]
      rw [Finset.sum_range_succ' g, ih (fun k => g (k + 1))]

variable {n : Nat}

/-- the factor table at a configuration: `(derivative of the factor energy when unit k moves, k)` in unit order — what
the event handlers hand to `Lifting.insert` (`jellyfysh/lifting/lifting.py`) -/
def tableOf (q : Fin n → K) : List (K × Fin n) := (List.finRange n).map fun k => (q k, k)

@[simp] theorem tableOf_length (q : Fin n → K) : (tableOf q).length = n := by simp [tableOf]

theorem tableOf_getElem (q : Fin n → K) (k : Fin n) :
    (tableOf q)[(k : Nat)]'(by simp) = (q k, k) := by
  simp [tableOf]

@[simp] theorem rate_tableOf (q : Fin n → K) (k : Fin n) : rate (tableOf q) k = q k := by
  rw [rate_eq _ (by simp), tableOf_getElem]

theorem total_tableOf (q : Fin n → K) : total (tableOf q) = ∑ k, q k := by
  simp [total, tableOf, Fin.sum_univ_def, Function.comp_def]

theorem tableOf_ids_nodup (q : Fin n → K) : ((tableOf q).map Prod.snd).Nodup := by
  have : (tableOf q).map Prod.snd = List.finRange n := by
    simp [tableOf, Function.comp_def]
  rw [this]; exact List.nodup_finRange n

def negIdxOf (q : Fin n → K) (j : Fin n) : Nat := negIdx (tableOf q) j

theorem negOf_tableOf_getElem (q : Fin n → K) {j : Fin n} (hj : ¬ 0 < q j) :
    ∃ h : negIdxOf q j < (negOf (tableOf q)).length, (negOf (tableOf q))[negIdxOf q j] = (-q j, j) := by
  have := negOf_getElem_negIdx (tbl := tableOf q) (i := j) (by simp) (by rw [tableOf_getElem]; exact hj)
  simpa only [tableOf_getElem, negIdxOf] using this

theorem nrate_tableOf (q : Fin n → K) {j : Fin n} (hj : ¬ 0 < q j) : nrate (tableOf q) (negIdxOf q j) = -q j := by
  obtain ⟨h, he⟩ := negOf_tableOf_getElem q hj
  rw [nrate_eq _ h, he]

theorem valid_tableOf (q : Fin n → K) (hz : ∑ k, q k = 0) {k : Fin n} (hk : 0 < q k) : Valid (tableOf q) k :=
  ⟨by rw [total_tableOf, hz], by rw [rate_tableOf]; exact hk⟩

/-- probability that scheme `sch`, with unit `k` active in the factor whose derivatives are `q`, hands the motion to unit
`j`: `C05.prob` at `j`'s index of the negative list; `0` for a unit of positive derivative (never selected:
`C05.choose_negative_of_nodup`) -/
def liftP (sch : Scheme) (q : Fin n → K) (k j : Fin n) : K :=
  if 0 < q j then 0 else prob sch (tableOf q) k (negIdxOf q j)

theorem liftP_eq_prob (sch : Scheme) (q : Fin n → K) (k : Fin n) {j : Fin n} (hj : ¬ 0 < q j) :
    liftP sch q k j = prob sch (tableOf q) k (negIdxOf q j) := by simp [liftP, hj]

theorem liftP_pos (sch : Scheme) (q : Fin n → K) (k : Fin n) {j : Fin n} (hj : 0 < q j) : liftP sch q k j = 0 := by
  simp [liftP, hj]

theorem liftP_nonneg (sch : Scheme) (q : Fin n → K) (k j : Fin n) : 0 ≤ liftP sch q k j := by
  unfold liftP; split
  · exact le_rfl
  · exact le_max_left _ _

theorem liftP_row_sum (sch : Scheme) (q : Fin n → K) (hz : ∑ k, q k = 0) {k : Fin n} (hk : 0 < q k) :
    ∑ j, liftP sch q k j = 1 := by
  rw [← prob_row_sum sch (valid_tableOf q hz hk), ← sum_negIdx (tableOf q) (fun i => prob sch (tableOf q) k i),
    tableOf_length, ← Fin.sum_univ_eq_sum_range]
  apply Finset.sum_congr rfl
  intro j _
  simp [liftP, negIdxOf]

/-- C05's `flow_balance` (through `C01.inflow_eq`) over unit numbers -/
theorem liftP_col (sch : Scheme) (q : Fin n → K) (hz : ∑ k, q k = 0) {j : Fin n} (hj : ¬ 0 < q j) :
    ∑ k, max 0 (q k) * liftP sch q k j = -q j := by
  have h := inflow_eq 1 sch (tableOf q) (by rw [total_tableOf, hz]) (negOf_tableOf_getElem q hj).1
  rw [one_mul, nrate_tableOf q hj, inflow, tableOf_length,
    ← Fin.sum_univ_eq_sum_range (fun a => evRate 1 (tableOf q) a * prob sch (tableOf q) a (negIdxOf q j))] at h
  rw [← h]
  exact Finset.sum_congr rfl fun k _ => by rw [evRate, one_mul, rate_tableOf, liftP_eq_prob sch q k hj]

/-- A lifting kernel `p` for a factor with derivatives `q` is **flow-balanced**: an active unit hands the motion on with
probability one (`row`), and for every unit `j` the flow into it, over all active units at their event rates, minus the
flow out of it is `−q j` (`col`). Stationarity needs nothing else of the lifting scheme. -/
structure Balanced (q : Fin n → K) (p : Fin n → Fin n → K) : Prop where
  row : ∀ k, 0 < q k → ∑ j, p k j = 1
  col : ∀ j, ∑ k, max 0 (q k) * p k j - max 0 (q j) = -q j

theorem Balanced.unit {q : Fin n → K} {p : Fin n → Fin n → K} (h : Balanced q p) (β : K) (j : Fin n) :
    ∑ k, β * max 0 (q k) * p k j - β * max 0 (q j) = -β * q j := by
  rw [Finset.sum_congr rfl fun k _ => mul_assoc β (max 0 (q k)) (p k j), ← Finset.mul_sum, ← mul_sub, h.col j,
    mul_neg, neg_mul]

variable {F : Type} [Fintype F]

theorem sum_rate_mul_diff {κ : Type} [Fintype κ] (A : κ → κ → K) (φ : κ → K) :
    ∑ k, ∑ j, A k j * (φ j - φ k) = ∑ j, φ j * (∑ k, A k j - ∑ k, A j k) := by
  simp only [mul_sub, Finset.sum_sub_distrib, Finset.mul_sum]
  simp only [mul_comm (φ _)]
  rw [Finset.sum_comm]

/-- The rates `β max 0 (q k) · p k j` have row sums `β max 0 (q k)` (`row`), so column sum minus row sum
(`sum_rate_mul_diff`) is the balance `Balanced.unit`. -/
theorem Balanced.jump {q : Fin n → K} {p : Fin n → Fin n → K} (h : Balanced q p) (β : K) (φ : Fin n → K) :
    ∑ k, β * max 0 (q k) * ∑ j, p k j * (φ j - φ k) = -β * ∑ j, φ j * q j := by
  have hrow : ∀ j, ∑ k, β * max 0 (q j) * p j k = β * max 0 (q j) := fun j => by
    rw [← Finset.mul_sum]
    by_cases hj : 0 < q j
    · rw [h.row j hj, mul_one]
    · rw [max_eq_left (not_lt.mp hj), mul_zero, zero_mul]
  calc ∑ k, β * max 0 (q k) * ∑ j, p k j * (φ j - φ k)
      = ∑ k, ∑ j, β * max 0 (q k) * p k j * (φ j - φ k) := by simp only [Finset.mul_sum, mul_assoc]
    _ = ∑ j, φ j * (∑ k, β * max 0 (q k) * p k j - ∑ k, β * max 0 (q j) * p j k) :=
        sum_rate_mul_diff _ φ
    _ = -β * ∑ j, φ j * q j := by
        simp only [hrow, h.unit β, Finset.mul_sum, mul_left_comm (φ _)]

/-- **The three schemes of C05 are flow-balanced** (`prob_row_sum`, `C01.inflow_eq`). -/
theorem liftP_balanced (sch : Scheme) (q : Fin n → K) (hz : ∑ k, q k = 0) : Balanced q (liftP sch q) where
  row _ hk := liftP_row_sum sch q hz hk
  col j := by
    by_cases hj : 0 < q j
    · simp only [liftP_pos sch q _ hj, mul_zero, Finset.sum_const_zero, zero_sub, max_eq_right hj.le]
    · rw [liftP_col sch q hz hj, max_eq_left (not_lt.mp hj), sub_zero]

theorem unit_balance (β : K) (sch : F → Scheme) (q : F → Fin n → K) (hz : ∀ M, ∑ k, q M k = 0) (j : Fin n) :
    ∑ M, (∑ k, β * max 0 (q M k) * liftP (sch M) (q M) k j - β * max 0 (q M j)) = -β * ∑ M, q M j := by
  rw [Finset.mul_sum]
  exact Finset.sum_congr rfl fun M _ => (liftP_balanced (sch M) (q M) (hz M)).unit β j

theorem unit_balance_uniform (β : K) (sch : Scheme) (q : F → Fin n → K) (hz : ∀ M, ∑ k, q M k = 0) (j : Fin n) :
    ∑ M, (∑ k, β * max 0 (q M k) * liftP sch (q M) k j - β * max 0 (q M j)) = -β * ∑ M, q M j :=
  unit_balance β (fun _ => sch) q hz j

/-- **Pointwise core of stationarity**, for any family of flow-balanced kernels: summed over the lifting variable, the
jump part of the generator applied to any `φ` equals minus the transport term `β Σ_k φ k · Σ_M q M k`. -/
theorem Balanced.jump_sum {q : F → Fin n → K} {p : F → Fin n → Fin n → K} (h : ∀ M, Balanced (q M) (p M)) (β : K)
    (φ : Fin n → K) :
    ∑ k, ∑ M, β * max 0 (q M k) * ∑ j, p M k j * (φ j - φ k) = -β * ∑ k, φ k * ∑ M, q M k := by
  rw [Finset.sum_comm, Finset.sum_congr rfl (fun M _ => (h M).jump β φ), ← Finset.mul_sum, Finset.sum_comm]
  congr 1
  apply Finset.sum_congr rfl
  intro k _
  rw [Finset.mul_sum]

theorem jump_balance (β : K) (sch : F → Scheme) (q : F → Fin n → K) (hz : ∀ M, ∑ k, q M k = 0) (φ : Fin n → K) :
    ∑ k, ∑ M, β * max 0 (q M k) * ∑ j, liftP (sch M) (q M) k j * (φ j - φ k) = -β * ∑ k, φ k * ∑ M, q M k :=
  Balanced.jump_sum (fun M => liftP_balanced (sch M) (q M) (hz M)) β φ

/-- a pair factor: whatever the scheme, an active unit hands the motion to the other unit with probability one -/
theorem pair_jump (sch : Scheme) (q : Fin 2 → K) (hz : ∑ k, q k = 0) (φ : Fin 2 → K) (k : Fin 2) :
    max 0 (q k) * ∑ j, liftP sch q k j * (φ j - φ k) = max 0 (q k) * (φ k.rev - φ k) := by
  by_cases hk : 0 < q k
  · -- the term `j = k` vanishes; `k` itself is never selected, so the other unit has probability one
    have hrow := liftP_row_sum sch q hz hk
    have hkk := liftP_pos sch q k hk
    congr 1
    rw [Fin.sum_univ_two] at hrow ⊢
    obtain rfl | rfl : k = 0 ∨ k = 1 := (Fin.exists_fin_two (p := fun i => k = i)).mp ⟨k, rfl⟩
    · rw [hkk, zero_add] at hrow
      rw [hrow, sub_self, mul_zero, zero_add, one_mul]; rfl
    · rw [hkk, add_zero] at hrow
      rw [hrow, sub_self, mul_zero, add_zero, one_mul]; rfl
  · rw [max_eq_left (not_lt.mp hk), zero_mul, zero_mul]

/-- `prob_row_sum` on C05's example table (zero entries, both signs interleaved), second positive unit active -/
example : ∑ k ∈ Finset.range (negOf exTbl).length, prob .outside exTbl 3 k = 1 :=
  prob_row_sum .outside ⟨by norm_num [exTbl, total], by norm_num [exTbl, rate]⟩

/-- non-vacuity: a three-unit factor and a pair factor acting on three units; both tables sum to zero and have non-zero
rates -/
def exQ : Bool → Fin 3 → ℚ := fun M => if M then ![2, -1/2, -3/2] else ![-1, 0, 1]

def exSch : Bool → Scheme := fun M => if M then .inside else .ratio

theorem exQ_sum : ∀ M, ∑ k, exQ M k = 0 := by
  intro M; cases M
  · simp [exQ, Fin.sum_univ_three]
  · simp [exQ, Fin.sum_univ_three]; norm_num

theorem exQ_rates_nonzero : max 0 (exQ true 0) = 2 ∧ max 0 (exQ false 2) = 1 := by
  constructor <;> simp [exQ]

example (β : ℚ) (φ : Fin 3 → ℚ) :
    ∑ k, ∑ M, β * max 0 (exQ M k) * ∑ j, liftP (exSch M) (exQ M) k j * (φ j - φ k) =
      -β * ∑ k, φ k * ∑ M, exQ M k :=
  jump_balance β exSch exQ exQ_sum φ

example (β : ℚ) (j : Fin 3) :
    ∑ M, (∑ k, β * max 0 (exQ M k) * liftP (exSch M) (exQ M) k j - β * max 0 (exQ M j)) = -β * ∑ M, exQ M j :=
  unit_balance β exSch exQ exQ_sum j

example : ∑ j, liftP .outside (exQ true) 0 j = 1 :=
  liftP_row_sum .outside (exQ true) (exQ_sum true) (by simp [exQ])

end JF.C01Generator
