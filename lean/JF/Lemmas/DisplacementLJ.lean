import JF.Lemmas.DisplacementHat
/-! # The Lennard-Jones potential meets the requirements of the Mexican-hat case tree (`Hat.Valid`) -/
namespace JF.DispR
open Set JF.Uphill

noncomputable section

/-- `LennardJonesPotential` as a `Hat`.  `_potential` is `-kσ⁶/(r²)³ + kσ¹²/(r²)⁶ = k((σ/r)¹² - (σ/r)⁶)`;
`equilibrium_separation = σ * 2 ** (1/6)`; the two inversions as in the source
(`sigma_over_r_six = (1 ± (1 + 4 U / k) ** 0.5) / 2`, `σ / sigma_over_r_six ** (1/6)`, `inf` for `U ≥ 0` outside). -/
def ljHat (k σ : ℝ) : Hat where
  U r := k * ((σ / r) ^ 12 - (σ / r) ^ 6)
  r0 := σ * (2:ℝ) ^ ((1:ℝ) / 6)
  invIn y := σ / ((1 + Real.sqrt (1 + 4 * y / k)) / 2) ^ ((1:ℝ) / 6)
  invOut y := if y ≥ 0 then none else some (σ / ((1 - Real.sqrt (1 + 4 * y / k)) / 2) ^ ((1:ℝ) / 6))

theorem ljInvIn_eq (k σ y : ℝ) :
    (ljHat k σ).invIn y = σ / ((1 + Real.sqrt (1 + 4 * y / k)) / 2) ^ ((1:ℝ) / 6) := rfl

theorem ljInvOut_of_nonneg (k σ : ℝ) {y : ℝ} (hy : 0 ≤ y) : (ljHat k σ).invOut y = none := if_pos hy

theorem ljInvOut_of_neg (k σ : ℝ) {y : ℝ} (hy : y < 0) : (ljHat k σ).invOut y =
    some (σ / ((1 - Real.sqrt (1 + 4 * y / k)) / 2) ^ ((1:ℝ) / 6)) := if_neg (not_le.2 hy)

theorem sixth_pow {W : ℝ} (hW : 0 ≤ W) : (W ^ ((1:ℝ) / 6)) ^ 6 = W := by
  have := root_pow hW (p := 6) (by norm_num)
  simpa using this

/-! ### the energy as a function of `w = (σ/r)⁶` -/

/-- `φ(w) = k (w² - w)`: the Lennard-Jones energy as a function of `w = (σ/r)⁶`; decreasing up to the
minimum at `w = 1/2`, increasing from there -/
def ljPhi (k w : ℝ) : ℝ := k * (w * w - w)

theorem ljU_eq (k σ r : ℝ) : (ljHat k σ).U r = ljPhi k ((σ / r) ^ 6) := by
  show k * ((σ / r) ^ 12 - (σ / r) ^ 6) = k * ((σ / r) ^ 6 * (σ / r) ^ 6 - (σ / r) ^ 6)
  ring

theorem ljPhi_diff (k w w' : ℝ) : ljPhi k w' - ljPhi k w = k * ((w' - w) * (w' + w - 1)) := by
  unfold ljPhi; ring

variable {k σ w w' y : ℝ}

theorem ljPhi_lt_hi (hk : 0 < k) (hw : 1 / 2 ≤ w) (h : w < w') : ljPhi k w < ljPhi k w' := by
  have := mul_pos hk (mul_pos (sub_pos.2 h) (by linarith : 0 < w' + w - 1))
  rw [← ljPhi_diff] at this
  exact sub_pos.1 this

theorem ljPhi_lt_lo (hk : 0 < k) (hw' : w' ≤ 1 / 2) (h : w < w') : ljPhi k w' < ljPhi k w := by
  have := mul_pos hk (mul_pos_of_neg_of_neg (sub_neg.2 h) (by linarith : w + w' - 1 < 0))
  rw [← ljPhi_diff] at this
  exact sub_pos.1 this

theorem ljPhi_mono_hi (hk : 0 < k) (hw : 1 / 2 ≤ w) (hww : w ≤ w') : ljPhi k w ≤ ljPhi k w' :=
  hww.eq_or_lt.elim (fun e => e ▸ le_rfl) fun h => (ljPhi_lt_hi hk hw h).le

theorem ljPhi_anti_lo (hk : 0 < k) (hw' : w' ≤ 1 / 2) (hww : w ≤ w') : ljPhi k w' ≤ ljPhi k w :=
  hww.eq_or_lt.elim (fun e => e ▸ le_rfl) fun h => (ljPhi_lt_lo hk hw' h).le

theorem ljPhi_reflect_hi (hk : 0 < k) (hw' : 1 / 2 ≤ w') (h : ljPhi k w ≤ ljPhi k w') : w ≤ w' :=
  le_of_not_gt fun hlt => (ljPhi_lt_hi hk hw' hlt).not_ge h

theorem ljPhi_reflect_lo (hk : 0 < k) (hw' : w' ≤ 1 / 2) (h : ljPhi k w ≤ ljPhi k w') : w' ≤ w :=
  le_of_not_gt fun hlt => (ljPhi_lt_lo hk hw' hlt).not_ge h

theorem ljPhi_ge (k w : ℝ) (hk : 0 < k) : 0 ≤ 1 + 4 * ljPhi k w / k := by
  have : 1 + 4 * ljPhi k w / k = (2 * w - 1) * (2 * w - 1) := by
    unfold ljPhi; field_simp; ring
  rw [this]; exact mul_self_nonneg _

/-- an energy that is reached has a non-negative discriminant -/
theorem ljDisc_nonneg (hk : 0 < k) (h : ljPhi k w ≤ y) : 0 ≤ 1 + 4 * y / k := by
  have := div_le_div_of_nonneg_right (mul_le_mul_of_nonneg_left h (by norm_num : (0:ℝ) ≤ 4)) hk.le
  linarith [ljPhi_ge k w hk]

/-- the roots of `k (W² - W) = y` are `(1 + t) / 2` with `t² = 1 + 4y/k` -/
theorem ljPhi_root (hk : 0 < k) {t : ℝ} (h : t * t = 1 + 4 * y / k) : ljPhi k ((1 + t) / 2) = y := by
  have e : ljPhi k ((1 + t) / 2) = k * (t * t - 1) / 4 := by unfold ljPhi; ring
  rw [e, h]; field_simp; ring

/-! ### `w = (σ/r)⁶` as a function of `r` -/

variable {r r' : ℝ}

theorem ljw_anti (hσ : 0 < σ) (hr : 0 < r) (hrr : r ≤ r') : (σ / r') ^ 6 ≤ (σ / r) ^ 6 :=
  pow_le_pow_left₀ (div_nonneg hσ.le (hr.le.trans hrr)) (div_le_div_of_nonneg_left hσ.le hr hrr) 6

theorem ljw_reflect (hσ : 0 < σ) (hr' : 0 < r') (h : (σ / r') ^ 6 ≤ (σ / r) ^ 6) : r ≤ r' :=
  le_of_not_gt fun hlt => (pow_lt_pow_left₀ (div_lt_div_of_pos_left hσ hr' hlt)
    (div_nonneg hσ.le (hr'.trans hlt).le) (by norm_num)).not_ge h

theorem ljw_r0 (hσ : 0 < σ) : (σ / (σ * (2:ℝ) ^ ((1:ℝ) / 6))) ^ 6 = 1 / 2 := by
  rw [div_pow, mul_pow, sixth_pow (by norm_num)]; field_simp

theorem ljw_ge_half (hσ : 0 < σ) (hr : 0 < r) (h : r ≤ σ * (2:ℝ) ^ ((1:ℝ) / 6)) :
    1 / 2 ≤ (σ / r) ^ 6 :=
  (ljw_r0 hσ).symm.trans_le (ljw_anti hσ hr h)

theorem ljw_le_half (hσ : 0 < σ) (h : σ * (2:ℝ) ^ ((1:ℝ) / 6) ≤ r) : (σ / r) ^ 6 ≤ 1 / 2 :=
  (ljw_anti hσ (mul_pos hσ (Real.rpow_pos_of_pos two_pos _)) h).trans_eq (ljw_r0 hσ)

/-- the distance at which `(σ/r)⁶ = W`, as both inversions compute it -/
theorem ljw_inv (hσ : 0 < σ) {W : ℝ} (hW : 0 < W) :
    0 < σ / W ^ ((1:ℝ) / 6) ∧ (σ / (σ / W ^ ((1:ℝ) / 6))) ^ 6 = W := by
  have ht := Real.rpow_pos_of_pos hW ((1:ℝ) / 6)
  refine ⟨div_pos hσ ht, ?_⟩
  rw [div_div_cancel₀ hσ.ne', sixth_pow hW.le]

theorem lj_valid {q : ℝ} (hk : 0 < k) (hσ : 0 < σ) (hq : 0 < q) : (ljHat k σ).Valid q := by
  have hr0 : 0 < σ * (2:ℝ) ^ ((1:ℝ) / 6) := mul_pos hσ (Real.rpow_pos_of_pos two_pos _)
  refine ⟨hr0, hq, ?_, ?_, ?_, ?_, ?_⟩
  · intro x hx y hy hxy
    rw [ljU_eq, ljU_eq]
    exact ljPhi_mono_hi hk (ljw_ge_half hσ hy.1 hy.2) (ljw_anti hσ hx.1 hxy)
  · intro x hx y hy hxy
    rw [ljU_eq, ljU_eq]
    exact ljPhi_anti_lo hk (ljw_le_half hσ hx) (ljw_anti hσ (hr0.trans_le hx) hxy)
  · -- inner inversion: the root `W ≥ 1/2` of `φ W = y` lies between `w(a)` and `w(b)`
    intro y a b hb hba ha h1 h2
    rw [ljU_eq] at h1 h2
    have hD := ljDisc_nonneg hk h1
    have hroot : ljPhi k ((1 + Real.sqrt (1 + 4 * y / k)) / 2) = y :=
      ljPhi_root hk (Real.mul_self_sqrt hD)
    have hWhalf : 1 / 2 ≤ (1 + Real.sqrt (1 + 4 * y / k)) / 2 :=
      div_le_div_of_nonneg_right (le_add_of_nonneg_right (Real.sqrt_nonneg _)) zero_le_two
    rw [ljInvIn_eq]
    generalize (1 + Real.sqrt (1 + 4 * y / k)) / 2 = W at hroot hWhalf ⊢
    obtain ⟨hn0, hw⟩ := ljw_inv hσ ((half_pos one_pos).trans_le hWhalf)
    refine ⟨ljw_reflect hσ hn0 ?_, ljw_reflect hσ (hb.trans_le hba) ?_, by rw [ljU_eq, hw, hroot]⟩
    · rw [hw]
      exact ljPhi_reflect_hi hk (ljw_ge_half hσ hb (hba.trans ha)) (hroot.trans_le h2)
    · rw [hw]; exact ljPhi_reflect_hi hk hWhalf (h1.trans_eq hroot.symm)
  · -- outer inversion: the root `0 < W ≤ 1/2` of `φ W = y` lies below `w(a)`
    intro y a n ha h1 hn
    rw [ljU_eq] at h1
    have hy : y < 0 := by
      by_contra hy
      rw [ljInvOut_of_nonneg k σ (not_lt.1 hy)] at hn
      cases hn
    rw [ljInvOut_of_neg k σ hy] at hn
    obtain rfl := Option.some.inj hn
    have hD := ljDisc_nonneg hk h1
    have hs1 : Real.sqrt (1 + 4 * y / k) < 1 := by
      have := Real.sqrt_lt_sqrt hD (add_lt_iff_neg_left.2
        (div_neg_of_neg_of_pos (mul_neg_of_pos_of_neg four_pos hy) hk))
      rwa [Real.sqrt_one] at this
    have hroot : ljPhi k ((1 - Real.sqrt (1 + 4 * y / k)) / 2) = y := by
      rw [sub_eq_add_neg]
      exact ljPhi_root hk (by rw [neg_mul_neg]; exact Real.mul_self_sqrt hD)
    have hW0 : 0 < (1 - Real.sqrt (1 + 4 * y / k)) / 2 := half_pos (sub_pos.2 hs1)
    have hWhalf : (1 - Real.sqrt (1 + 4 * y / k)) / 2 ≤ 1 / 2 :=
      div_le_div_of_nonneg_right (sub_le_self 1 (Real.sqrt_nonneg _)) zero_le_two
    generalize (1 - Real.sqrt (1 + 4 * y / k)) / 2 = W at hroot hW0 hWhalf ⊢
    obtain ⟨hn0, hw⟩ := ljw_inv hσ hW0
    refine ⟨ljw_reflect hσ hn0 ?_, by rw [ljU_eq, hw, hroot]⟩
    rw [hw]; exact ljPhi_reflect_lo hk hWhalf (h1.trans_eq hroot.symm)
  · -- `inf` only for energies never reached outside: there the energy is negative
    intro y hn r hr
    have hy : 0 ≤ y := by
      by_contra hy
      rw [ljInvOut_of_neg k σ (not_le.1 hy)] at hn
      cases hn
    have hw0 : 0 < (σ / r) ^ 6 := pow_pos (div_pos hσ (hr0.trans_le hr)) 6
    have hw := ljw_le_half hσ hr
    rw [ljU_eq]
    refine (mul_neg_of_pos_of_neg hk ?_).trans_le hy
    rw [← mul_sub_one]
    exact mul_neg_of_pos_of_neg hw0 (sub_neg.2 (hw.trans_lt one_half_lt_one))

end
end JF.DispR
