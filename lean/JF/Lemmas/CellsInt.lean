import JF.Model.Cells
import Mathlib.Tactic.Linarith
import Mathlib.Tactic.Ring
import Mathlib.Logic.Function.Iterate
/-!
Integer lemmas for the cell systems: mixed-radix index, identifier increment (the windows are in `JF/Lemmas/CellsNear.lean`).
-/
namespace JF.Cells

/-- `ident` is an identifier of the grid with `n` cells per side: same length, `0 ≤ ident[d] < n[d]` -/
def Valid : List Int → List Int → Prop
  | [], [] => True
  | n :: ns, i :: is => 0 ≤ i ∧ i < n ∧ Valid ns is
  | _, _ => False

/-- the list index of an identifier: `sum(ident[d] * cumulative_product[d])` -/
def flat (n ident : List Int) : Int := dot ident (cumProdFrom 1 n)

/-- mixed-radix digits of `k` (inverse of `flat`) -/
def unflat : List Int → Int → List Int
  | [], _ => []
  | n :: ns, k => k % n :: unflat ns (k / n)

theorem dot_nil_right (a : List Int) : dot a [] = 0 := by cases a <;> rfl

theorem dot_cumProd (ns : List Int) : ∀ (is : List Int) (acc : Int),
    dot is (cumProdFrom acc ns) = acc * dot is (cumProdFrom 1 ns) := by
  induction ns with
  | nil => intro is acc; simp [cumProdFrom, dot_nil_right]
  | cons n ns ih =>
    intro is acc
    cases is with
    | nil => simp [dot]
    | cons i is =>
      simp only [cumProdFrom, dot]
      rw [ih is (acc * n), ih is (1 * n)]; ring

theorem flat_cons (n : Int) (ns : List Int) (i : Int) (is : List Int) :
    flat (n :: ns) (i :: is) = i + n * flat ns is := by
  simp only [flat, cumProdFrom, dot]
  rw [dot_cumProd ns is (1 * n)]; ring

@[simp] theorem flat_nil : flat [] [] = 0 := rfl

/-- lockstep induction over two identifiers of one grid (one identifier: take it twice) -/
theorem Valid.rec₂ {motive : List Int → List Int → List Int → Prop} (nil : motive [] [] [])
    (cons : ∀ {n a b ns as bs}, 0 ≤ a → a < n → 0 ≤ b → b < n → motive ns as bs →
      motive (n :: ns) (a :: as) (b :: bs)) :
    ∀ {n a b : List Int}, Valid n a → Valid n b → motive n a b
  | [], [], [], _, _ => nil
  | _ :: _, _ :: _, _ :: _, ha, hb => cons ha.1 ha.2.1 hb.1 hb.2.1 (Valid.rec₂ nil cons ha.2.2 hb.2.2)
  | [], [], _ :: _, _, h | _ :: _, _ :: _, [], _, h => h.elim
  | [], _ :: _, _, h, _ | _ :: _, [], _, h, _ => h.elim

theorem Valid.length_eq {n ident : List Int} (h : Valid n ident) : ident.length = n.length :=
  Valid.rec₂ (motive := fun n a _ => a.length = n.length) rfl (fun _ _ _ _ ih => congrArg (· + 1) ih) h h

theorem Valid.pos : ∀ {n ident : List Int}, Valid n ident → ∀ x ∈ n, 1 ≤ x := fun h =>
  Valid.rec₂ (motive := fun n _ _ => ∀ x ∈ n, 1 ≤ x) (fun _ h => nomatch h)
    (fun a0 a1 _ _ ih => List.forall_mem_cons.mpr ⟨a0.trans_lt a1, ih⟩) h h

theorem numberOfCells_pos : ∀ {n : List Int}, (∀ x ∈ n, 1 ≤ x) → 1 ≤ numberOfCells n
  | [], _ => by simp [numberOfCells]
  | n :: ns, h => by
    obtain ⟨h1, h'⟩ := List.forall_mem_cons.mp h
    exact one_le_mul_of_one_le_of_one_le h1 (numberOfCells_pos h')

theorem flat_bounds {n ident : List Int} (h : Valid n ident) : 0 ≤ flat n ident ∧ flat n ident < numberOfCells n :=
  Valid.rec₂ (motive := fun n a _ => 0 ≤ flat n a ∧ flat n a < numberOfCells n) (by simp [numberOfCells])
    (fun {n i _ ns is _} h0 h1 _ _ ⟨f0, f1⟩ => by
      rw [flat_cons]
      have := Int.mul_le_mul_of_nonneg_left (show flat ns is + 1 ≤ numberOfCells ns by omega) (h0.trans h1.le)
      rw [Int.mul_add, Int.mul_one] at this
      exact ⟨Int.add_nonneg h0 (Int.mul_nonneg (h0.trans h1.le) f0), show _ < n * numberOfCells ns by omega⟩) h h

/-- `unflat` inverts `flat` on the identifiers of the grid (the other direction is `unflat_valid`) -/
theorem unflat_flat {n ident : List Int} (h : Valid n ident) : unflat n (flat n ident) = ident :=
  Valid.rec₂ (motive := fun n a _ => unflat n (flat n a) = a) rfl
    (fun {n i _ ns is _} h0 h1 _ _ ih => by
      rw [flat_cons, unflat, Int.add_mul_emod_self_left, Int.emod_eq_of_lt h0 h1,
        Int.add_mul_ediv_left _ _ (h0.trans_lt h1).ne', Int.ediv_eq_zero_of_lt h0 h1, zero_add, ih]) h h

theorem flat_inj {n a b : List Int} (ha : Valid n a) (hb : Valid n b) (h : flat n a = flat n b) : a = b := by
  rw [← unflat_flat ha, h, unflat_flat hb]

theorem unflat_valid : ∀ {n : List Int} {k : Int}, (∀ x ∈ n, 1 ≤ x) → 0 ≤ k → k < numberOfCells n →
    Valid n (unflat n k) ∧ flat n (unflat n k) = k
  | [], k, _, h0, h1 => by
    simp only [numberOfCells] at h1
    have : k = 0 := by omega
    simp [unflat, Valid, this]
  | n :: ns, k, hp, h0, h1 => by
    have hn : 1 ≤ n := hp n (by simp)
    simp only [numberOfCells] at h1
    have hq0 : 0 ≤ k / n := Int.ediv_nonneg h0 (by omega)
    have hq1 : k / n < numberOfCells ns := Int.ediv_lt_of_lt_mul (by omega) (by linarith [mul_comm n (numberOfCells ns)])
    obtain ⟨hv, hf⟩ := unflat_valid (n := ns) (k := k / n) (fun x hx => hp x (by simp [hx])) hq0 hq1
    refine ⟨⟨Int.emod_nonneg k (by omega), Int.emod_lt_of_pos k (by omega), hv⟩, ?_⟩
    simp only [unflat]; rw [flat_cons, hf]; exact Int.emod_add_mul_ediv k n


theorem incr_spec : ∀ {n ident : List Int}, Valid n ident → flat n ident + 1 < numberOfCells n →
    Valid n (incr n ident) ∧ flat n (incr n ident) = flat n ident + 1
  | [], [], _, h => by simp [numberOfCells] at h
  | n :: ns, i :: is, hv, h => by
    obtain ⟨i0, i1, hv'⟩ := hv
    by_cases hlt : i + 1 < n
    · simp only [incr, hlt, if_true]
      refine ⟨⟨by omega, hlt, hv'⟩, ?_⟩
      rw [flat_cons, flat_cons]; ring
    · have hi : i = n - 1 := by omega
      cases is with
      | nil =>
        cases ns with
        | nil =>
          exfalso
          rw [flat_cons] at h; simp [numberOfCells] at h; omega
        | cons m ms => simp [Valid] at hv'
      | cons j js =>
        simp only [incr, hlt, if_false]
        rw [flat_cons] at h; simp only [numberOfCells] at h
        have hlt' : flat ns (j :: js) + 1 < numberOfCells ns := by
          have : n * (flat ns (j :: js) + 1) < n * numberOfCells ns := by rw [hi] at h; linarith
          exact lt_of_mul_lt_mul_left this (by omega)
        obtain ⟨hv2, hf2⟩ := incr_spec hv' hlt'
        refine ⟨⟨le_refl 0, by omega, hv2⟩, ?_⟩
        rw [flat_cons, flat_cons, hf2, hi]; ring
  | [], _ :: _, h, _ => h.elim
  | _ :: _, [], h, _ => h.elim

theorem incr_iterate {n ident : List Int} (hv : Valid n ident) :
    ∀ j : Nat, flat n ident + j < numberOfCells n →
      Valid n ((incr n)^[j] ident) ∧ flat n ((incr n)^[j] ident) = flat n ident + j := by
  intro j
  induction j with
  | zero => intro _; simp [hv]
  | succ j ih =>
    intro h
    have h' : flat n ident + j < numberOfCells n := by push_cast at h; omega
    obtain ⟨v, f⟩ := ih h'
    rw [Function.iterate_succ_apply']
    have := incr_spec v (by rw [f]; push_cast at h; omega)
    refine ⟨this.1, ?_⟩
    rw [this.2, f]; push_cast; ring

theorem valid_replicate_zero : ∀ {n : List Int}, (∀ x ∈ n, 1 ≤ x) → Valid n (List.replicate n.length 0)
  | [], _ => by simp [Valid]
  | n :: ns, h => by
    have := h n (by simp)
    exact ⟨le_refl 0, by omega, valid_replicate_zero (fun x hx => h x (by simp [hx]))⟩

theorem flat_replicate_zero : ∀ (n : List Int), flat n (List.replicate n.length 0) = 0
  | [] => rfl
  | n :: ns => by
    show flat (n :: ns) (0 :: List.replicate ns.length 0) = 0
    rw [flat_cons, flat_replicate_zero ns]; ring

end JF.Cells
