import JF.Model.Mediator
import JF.Lemmas.HeapList
/-!
The scheduler laws the mediator loop relies on (`Laws`), stated against the ghost dictionary "candidate time of the pending
event of each handler" (`Pend`), and their proofs for the three instances of `JF.Med.SchedI`:
the spec-level scheduler (directly), the model of `ListScheduler` and the model of `HeapScheduler`/`heap.c` (from the
refinement lemmas of C06: `JF/Lemmas/HeapSched.lean`, `JF/Lemmas/HeapList.lean`).
-/
namespace JF.Med
open JF.Act JF.Heap JF.Sched

variable {κ : Type}

/-- ghost: the time handed to `push_event` for the pending (pushed, not yet trashed) event of each handler -/
abbrev Pend (κ : Type) := HandlerId → Option κ

def upd (p : Pend κ) (h : HandlerId) (v : Option κ) : Pend κ := fun x => if x = h then v else p x

@[simp] theorem upd_self (p : Pend κ) (h : HandlerId) (v : Option κ) : upd p h v h = v := by simp [upd]
theorem upd_ne (p : Pend κ) {h x : HandlerId} (v : Option κ) (hx : x ≠ h) : upd p h v x = p x := by simp [upd, hx]

/-- the dictionary over the object numbers of `JF.Sched` (`h + 1`; `0` = `NULL`) -/
def shift (p : Pend κ) : Live κ := fun n => match n with
  | 0 => none
  | h + 1 => p h

theorem shift_set (p : Pend κ) (h : HandlerId) (v : Option κ) : (shift p).set (h + 1) v = shift (upd p h v) := by
  funext n
  cases n with
  | zero => simp [Live.set, shift]
  | succ m =>
    simp only [Live.set, shift, upd]
    by_cases hm : m = h
    · simp [hm]
    · simp [hm]

theorem shift_some {p : Pend κ} {n : Nat} {t : κ} (e : shift p n = some t) : n = (n - 1) + 1 ∧ p (n - 1) = some t := by
  cases n with
  | zero => simp [shift] at e
  | succ m => exact ⟨rfl, e⟩

/-- what `get_succeeding_event` must deliver, in terms of the ghost dictionary: a pending event that the scheduler keeps
(`vis`: the heap and the spec-level scheduler keep finite times only, the list keeps everything), minimal among those; the
guard compares with the last returned time `l`, which a successful call replaces -/
def GetSpec (cfg : Cfg κ) {σ : Type} (vis : κ → Bool) (R : σ → Pend κ → κ → Prop) (p : Pend κ) (l : κ)
    (r : σ × GetRes κ) : Prop :=
  match r.2 with
  | .ok h t => p h = some t ∧ vis t = true ∧ (∀ h' t', p h' = some t' → vis t' = true → cfg.lt t' t = false) ∧
      cfg.lt t l = false ∧ R r.1 p t
  | .guard h t => p h = some t ∧ vis t = true ∧ (∀ h' t', p h' = some t' → vis t' = true → cfg.lt t' t = false) ∧
      cfg.lt t l = true
  | .empty => ∀ h t, p h = some t → vis t = false

/-- the laws of a scheduler instance: `R s p l` = "scheduler state `s` holds exactly the events of `p` it keeps, and its last
returned time is `l`" -/
structure Laws (cfg : Cfg κ) (I : SchedI κ) (vis : κ → Bool) (R : I.σ → Pend κ → κ → Prop) : Prop where
  init : R I.init (fun _ => none) cfg.bot
  push : ∀ {s : I.σ} {p : Pend κ} {l : κ} (t : κ) {h : HandlerId}, R s p l → p h = none →
    R (I.push s t h) (upd p h (some t)) l
  trash : ∀ {s s' : I.σ} {p : Pend κ} {l : κ} {h : HandlerId}, R s p l → I.trash s h = some s' → R s' (upd p h none) l
  trash_ok : ∀ {s : I.σ} {p : Pend κ} {l : κ} {h : HandlerId} {t : κ}, R s p l → p h = some t → ∃ s', I.trash s h = some s'
  get : ∀ {s : I.σ} {p : Pend κ} {l : κ}, R s p l → GetSpec cfg vis R p l (I.get s)

structure SRel (cfg : Cfg κ) (s : SSched κ) (p : Pend κ) (l : κ) : Prop where
  mem : ∀ h t, (t, h) ∈ s.live ↔ p h = some t ∧ cfg.finite t = true
  nodup : s.live.Pairwise (fun a b => a.2 ≠ b.2)
  last : s.last = l

theorem spec_get {cfg : Cfg κ} (o : StrictWeak cfg) {s : SSched κ} {p : Pend κ} {l : κ} (R : SRel cfg s p l) :
    GetSpec cfg cfg.finite (SRel cfg) p l (s.get cfg) := by
  unfold SSched.get
  cases hl : s.live with
  | nil =>
    intro h t hp
    cases hf : cfg.finite t with
    | false => rfl
    | true => have := (R.mem h t).2 ⟨hp, hf⟩; rw [hl] at this; cases this
  | cons x xs =>
    obtain ⟨h1, h2⟩ := minBy_spec o xs x
    have hm := (R.mem (minBy cfg.lt x xs).2 (minBy cfg.lt x xs).1).1 (by rw [hl]; exact h1)
    have hmin : ∀ h' t', p h' = some t' → cfg.finite t' = true → cfg.lt t' (minBy cfg.lt x xs).1 = false := by
      intro h' t' hp hf
      have := (R.mem h' t').2 ⟨hp, hf⟩
      rw [hl] at this
      exact h2 _ this
    simp only
    cases hg : cfg.lt (minBy cfg.lt x xs).1 s.last with
    | true =>
      simp only [if_true]
      exact ⟨hm.1, hm.2, hmin, by rw [← R.last]; exact hg⟩
    | false =>
      simp only [Bool.false_eq_true, if_false]
      refine ⟨hm.1, hm.2, hmin, by rw [← R.last]; exact hg, ⟨fun h t => ?_, ?_, rfl⟩⟩
      · show (t, h) ∈ x :: xs ↔ _
        rw [← hl]; exact R.mem h t
      · show (x :: xs).Pairwise _
        rw [← hl]; exact R.nodup

theorem specLaws {cfg : Cfg κ} (o : StrictWeak cfg) : Laws cfg (specI cfg) cfg.finite (SRel cfg) where
  init := ⟨fun h t => by simp [specI, SSched.init], by simp [specI, SSched.init], rfl⟩
  push := by
    intro (s : SSched κ) p l t h R hp
    show SRel cfg (s.push cfg t h) (upd p h (some t)) l
    unfold SSched.push
    by_cases hf : cfg.finite t = true
    · rw [if_pos hf]
      refine ⟨fun h' t' => ?_, ?_, R.last⟩
      · simp only [List.mem_append, List.mem_singleton, Prod.mk.injEq]
        by_cases hh : h' = h
        · subst hh
          simp only [upd_self, Option.some.injEq, and_true]
          constructor
          · rintro (h1 | h1)
            · rw [((R.mem _ _).1 h1).1] at hp; cases hp
            · exact ⟨h1.symm, h1 ▸ hf⟩
          · rintro ⟨h1, _⟩; exact Or.inr h1.symm
        · simp only [hh, and_false, or_false, upd_ne p _ hh]; exact R.mem h' t'
      · show (s.live ++ [(t, h)]).Pairwise _
        rw [List.pairwise_append]
        refine ⟨R.nodup, by simp, ?_⟩
        rintro ⟨t', h'⟩ ha b hb
        simp only [List.mem_singleton] at hb; subst hb
        intro heq; simp only at heq; subst heq
        rw [((R.mem _ _).1 ha).1] at hp; cases hp
    · rw [if_neg hf]
      refine ⟨fun h' t' => ?_, R.nodup, R.last⟩
      rw [R.mem h' t']
      by_cases hh : h' = h
      · subst hh
        simp only [upd_self, hp, Option.some.injEq]
        constructor
        · rintro ⟨h1, _⟩; cases h1
        · rintro ⟨h1, h2⟩; rw [← h1] at h2; exact absurd h2 hf
      · rw [upd_ne p _ hh]
  trash := by
    intro s s' p l h R e
    cases (Option.some.inj e : SSched.trash s h = s')
    refine ⟨fun h' t' => ?_, R.nodup.sublist List.filter_sublist, R.last⟩
    simp only [SSched.trash, List.mem_filter, bne_iff_ne, ne_eq, R.mem h' t']
    by_cases hh : h' = h
    · subst hh; simp
    · simp [hh, upd_ne p _ hh]
  trash_ok := fun _ _ => ⟨_, rfl⟩
  get := fun R => spec_get o R

def LRelM (ls : LSched κ) (p : Pend κ) (l : κ) : Prop := LRel ls (shift p) ∧ ls.last = l

theorem shift_none : shift (fun _ => none : Pend κ) = (fun _ => none : Live κ) := by
  funext n; cases n <;> rfl

theorem ltrash_last {ls ls' : LSched κ} {h : Nat} (e : ls.trash h = some ls') : ls'.last = ls.last := by
  unfold LSched.trash at e
  split at e
  · simp only [Option.some.injEq] at e; rw [← e]
  · cases e

theorem lget_last (cfg : Cfg κ) (s : LSched κ) :
    match (s.get cfg).2 with
    | .ok _ t => cfg.lt t s.last = false ∧ (s.get cfg).1.last = t
    | .guard _ t => cfg.lt t s.last = true
    | .empty => True := by
  unfold LSched.get
  cases s.times with
  | nil => trivial
  | cons x xs =>
    simp only
    cases hc : cfg.lt (minBy cfg.lt x xs).1 s.last with
    | true => simp [hc]
    | false => simp [hc]

theorem list_get {cfg : Cfg κ} (o : StrictWeak cfg) {s : LSched κ} {p : Pend κ} {l : κ} (R : LRelM s p l) :
    GetSpec cfg (fun _ => true) LRelM p l ((s.get cfg).1, dec (s.get cfg).2) := by
  obtain ⟨ht, hg⟩ := lget_rel o R.1
  have hlast := lget_last cfg s
  unfold GetSpec
  cases hr : (s.get cfg).2 with
  | empty =>
    rw [hr] at hg
    simp only [dec]
    intro h t hp
    have := hg (h + 1); simp [shift, hp] at this
  | ok n t =>
    rw [hr] at hg hlast
    obtain ⟨hn, hpn⟩ := shift_some hg.1
    simp only [dec]
    refine ⟨hpn, by trivial, fun h' t' hp' _ => hg.2 (h' + 1) t' (by simpa [shift] using hp'), by rw [← R.2]; exact hlast.1, ?_, hlast.2⟩
    refine ⟨fun h t' => ?_, ?_⟩
    · rw [ht]; exact R.1.mem h t'
    · rw [ht]; exact R.1.nodup
  | guard n t =>
    rw [hr] at hg hlast
    obtain ⟨hn, hpn⟩ := shift_some hg.1
    simp only [dec]
    exact ⟨hpn, by trivial, fun h' t' hp' _ => hg.2 (h' + 1) t' (by simpa [shift] using hp'), by rw [← R.2]; exact hlast⟩

theorem listLaws {cfg : Cfg κ} (o : StrictWeak cfg) : Laws cfg (listI cfg) (fun _ => true) LRelM where
  init := ⟨by rw [shift_none]; exact lrel_init cfg, rfl⟩
  push := by
    intro s p l t h R hp
    have := lpush_rel R.1 t (h := h + 1) (by simpa [shift] using hp)
    rw [shift_set] at this
    exact ⟨this, R.2⟩
  trash := by
    intro s s' p l h R e
    cases hl : p h with
    | none =>
      have := (ltrash_rel R.1 (h + 1)).1 (by simpa [shift] using hl)
      rw [show (listI cfg).trash s h = s.trash (h + 1) from rfl, this] at e; cases e
    | some t =>
      obtain ⟨ls', e2, L'⟩ := (ltrash_rel R.1 (h + 1)).2 t (by simpa [shift] using hl)
      rw [show (listI cfg).trash s h = s.trash (h + 1) from rfl, e2] at e
      cases e
      rw [shift_set] at L'
      exact ⟨L', by rw [ltrash_last e2]; exact R.2⟩
  trash_ok := by
    intro s p l h t R hp
    obtain ⟨ls', e2, _⟩ := (ltrash_rel R.1 (h + 1)).2 t (by simpa [shift] using hp)
    exact ⟨ls', e2⟩
  get := fun R => list_get o R

def HRelM (cfg : Cfg κ) (W : Nat) (s : HSched κ) (p : Pend κ) (l : κ) : Prop := Rel cfg W s (shift p) ∧ s.last = l

theorem hpush_last (cfg : Cfg κ) (W : Nat) (s : HSched κ) (t : κ) (h : Nat) : (s.push cfg W t h).last = s.last := by
  unfold HSched.push
  by_cases hf : cfg.finite t = true
  · simp only [hf, if_true]
    by_cases hc : (mvGet s.mv h).getD 0 < W <;> simp [hc]
  · simp [hf]

theorem heap_get {cfg : Cfg κ} (o : StrictWeak cfg) {W : Nat} {s : HSched κ} {p : Pend κ} {l : κ} (R : HRelM cfg W s p l) :
    GetSpec cfg cfg.finite (HRelM cfg W) p l ((s.get cfg).1, dec (s.get cfg).2) := by
  obtain ⟨R', hg, _, hlast⟩ := get_rel o R.1
  unfold GetSpec
  cases hr : (s.get cfg).2 with
  | empty =>
    rw [hr] at hg
    simp only [dec]
    intro h t hp
    exact hg (h + 1) t (by simpa [shift] using hp)
  | ok n t =>
    rw [hr] at hg hlast
    obtain ⟨hn, hpn⟩ := shift_some hg.1
    simp only [dec]
    exact ⟨hpn, hg.2.1, fun h' t' hp' hv => hg.2.2 (h' + 1) t' (by simpa [shift] using hp') hv,
      by rw [← R.2]; exact hlast.1, R', hlast.2⟩
  | guard n t =>
    rw [hr] at hg hlast
    obtain ⟨hn, hpn⟩ := shift_some hg.1
    simp only [dec]
    exact ⟨hpn, hg.2.1, fun h' t' hp' hv => hg.2.2 (h' + 1) t' (by simpa [shift] using hp') hv,
      by rw [← R.2]; exact hlast.1⟩

theorem heapLaws {cfg : Cfg κ} (o : StrictWeak cfg) {W : Nat} (hW : 0 < W) :
    Laws cfg (heapI cfg W) cfg.finite (HRelM cfg W) where
  init := ⟨by rw [shift_none]; exact rel_init cfg W, rfl⟩
  push := by
    intro s p l t h R hp
    have := push_rel o hW R.1 t (h := h + 1) (Nat.succ_ne_zero h) (by simpa [shift] using hp)
    rw [shift_set] at this
    exact ⟨this, (hpush_last cfg W s t (h + 1)).trans R.2⟩
  trash := by
    intro s s' p l h R e
    cases (Option.some.inj e : HSched.trash s (h + 1) = s')
    have := trash_rel R.1 (h + 1)
    rw [shift_set] at this
    exact ⟨this, R.2⟩
  trash_ok := fun _ _ => ⟨_, rfl⟩
  get := fun R => heap_get o R

end JF.Med
