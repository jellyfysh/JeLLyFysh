import JF.Lemmas.MPLocal
/-!
# C20 helper lemmas 2: the receive loop — invariant, variant, no error under a legitimate adversary
-/
namespace JF.MP

theorem upd_apply (s : St) (h k : Nat) (x : HS) : upd s h x k = if k = h then x else s k := rfl

theorem upd_upd_same (s : St) (h : Nat) (x y : HS) : upd (upd s h x) h y = upd s h y := by
  funext k; simp only [upd_apply]; split <;> rfl

theorem upd_comm (s : St) {h p : Nat} (x y : HS) (hp : p ≠ h) :
    upd (upd s h x) p y = upd (upd s p y) h x := by
  funext k; simp only [upd_apply]; split <;> split <;> simp_all

def wsum (l : List Nat) (f : Nat → Nat) : Nat := (l.map f).sum

theorem wsum_congr {l : List Nat} {f f' : Nat → Nat} (h : ∀ k ∈ l, f' k = f k) : wsum l f' = wsum l f := by
  induction l with
  | nil => rfl
  | cons a l ih =>
    simp only [wsum, List.map_cons, List.sum_cons] at *
    rw [h a (by simp), ih (fun k hk => h k (by simp [hk]))]

theorem wsum_upd {l : List Nat} {f f' : Nat → Nat} {h : Nat} (hn : l.Nodup) (hm : h ∈ l)
    (hf : ∀ k ∈ l, k ≠ h → f' k = f k) : wsum l f' + f h = wsum l f + f' h := by
  induction l with
  | nil => simp at hm
  | cons a l ih =>
    rw [List.nodup_cons] at hn
    simp only [wsum, List.map_cons, List.sum_cons] at *
    by_cases ha : a = h
    · subst ha
      have : (l.map f').sum = (l.map f).sum := by
        have := wsum_congr (l := l) (f := f) (f' := f') (fun k hk => hf k (by simp [hk]) (by
          intro e; subst e; exact hn.1 hk))
        simpa [wsum] using this
      omega
    · have hm' : h ∈ l := by
        rcases List.mem_cons.1 hm with e | e
        · exact absurd e.symm ha
        · exact e
      have := ih hn.2 hm' (fun k hk hkh => hf k (by simp [hk]) hkh)
      have h2 := hf a (by simp) ha
      omega

theorem wsum_eq_zero {l : List Nat} {f : Nat → Nat} (h : wsum l f = 0) : ∀ k ∈ l, f k = 0 := by
  induction l with
  | nil => simp
  | cons a l ih =>
    simp only [wsum, List.map_cons, List.sum_cons] at *
    intro k hk
    rcases List.mem_cons.1 hk with e | e
    · subst e; omega
    · exact ih (by omega) k e

theorem wsum_pos {l : List Nat} {f : Nat → Nat} (h : 0 < wsum l f) : ∃ k ∈ l, 0 < f k := by
  induction l with
  | nil => simp [wsum] at h
  | cons a l ih =>
    simp only [wsum, List.map_cons, List.sum_cons] at *
    by_cases ha : 0 < f a
    · exact ⟨a, by simp, ha⟩
    · obtain ⟨k, hk, hk'⟩ := ih (by omega)
      exact ⟨k, by simp [hk], hk'⟩

theorem le_wsum {l : List Nat} {f : Nat → Nat} {k : Nat} (hk : k ∈ l) : f k ≤ wsum l f := by
  induction l with
  | nil => cases hk
  | cons a l ih =>
    simp only [wsum, List.map_cons, List.sum_cons] at *
    rcases List.mem_cons.1 hk with e | e
    · subst e; omega
    · have := ih e; omega

theorem wsum_const {l : List Nat} {f : Nat → Nat} {c : Nat} (h : ∀ k ∈ l, f k = c) : wsum l f = c * l.length := by
  induction l with
  | nil => simp [wsum]
  | cons a l ih =>
    simp only [wsum, List.map_cons, List.sum_cons, List.length_cons] at *
    rw [h a (by simp), ih (fun k hk => h k (by simp [hk])), Nat.mul_add]; omega

def tsInd (s : St) (h : Nat) : Nat := if (s h).stage = .timeStarted then 1 else 0

/-- number of handlers of the leg whose candidate time is still to come -/
def tcount (created : List Nat) (s : St) : Nat := wsum created (tsInd s)

/-- weight of a handler in the variant: objects it will still send into its pipe during the receive loop, at most -/
def wt (L : Loop) (h : Nat) : Nat :=
  match (L.st h).stage with
  | .timeStarted => 2
  | .outStarted => 1
  | .suspended => if h ∈ L.deque then 1 else 0
  | .idle => 0

/-- **the variant of the receive loop** -/
def mu (created : List Nat) (L : Loop) : Nat := wsum created (wt L)

/-- invariant of the receive loop of leg `n` over the handlers `created`; `s0` is the state the loop started from -/
structure LInv (n : Nat) (created : List Nat) (s0 : St) (L : Loop) : Prop where
  nodup : created.Nodup
  coh : ∀ h, (L.st h).coh = true
  tag : ∀ h ∈ created, (L.st h).tag = n
  frame : ∀ h, h ∉ created → L.st h = s0 h
  dqNodup : L.deque.Nodup
  dq : ∀ p ∈ L.deque, p ∈ created ∧ (L.st p).stage = .suspended
  cnt : L.received + tcount created L.st = created.length
  pushNodup : L.recvd.Nodup
  push1 : ∀ p ∈ L.recvd, p.2 = n ∧ p.1 ∈ created ∧ (L.st p.1).stage ≠ .timeStarted
  push2 : ∀ h ∈ created, (L.st h).stage ≠ .timeStarted → (h, n) ∈ L.recvd
  stor : ∀ h ∈ created, (L.st h).stage = .idle → (L.st h).stored ≠ none

theorem LInv.seen {n : Nat} {created : List Nat} {s0 : St} {L : Loop} (h : LInv n created s0 L) (x : List (List Stage)) :
    LInv n created s0 { L with seen := x } :=
  ⟨h.nodup, h.coh, h.tag, h.frame, h.dqNodup, h.dq, h.cnt, h.pushNodup, h.push1, h.push2, h.stor⟩

theorem mu_seen (created : List Nat) (L : Loop) (x : List (List Stage)) : mu created { L with seen := x } = mu created L := rfl

/-- the shape the three steps of the loop share: one handler `h` of the leg gets a new coherent local state `y` that is not
`event_time_started`; its time is counted and recorded iff it was `event_time_started` -/
theorem LInv.step {n : Nat} {created : List Nat} {s0 : St} {L L' : Loop} (hI : LInv n created s0 L) {h : Nat} {y : HS}
    (hc : h ∈ created) (hst : L'.st = upd L.st h y) (hyc : y.coh = true) (hyt : y.tag = n)
    (hys : y.stage ≠ .timeStarted) (hyi : y.stage = .idle → y.stored ≠ none) (hD : L'.deque.Nodup)
    (hDm : ∀ p ∈ L'.deque, (p = h → y.stage = .suspended) ∧ (p ≠ h → p ∈ L.deque))
    (hrec : ((L.st h).stage = .timeStarted → L'.received = L.received + 1 ∧ L'.recvd = L.recvd ++ [(h, n)]) ∧
      ((L.st h).stage ≠ .timeStarted → L'.received = L.received ∧ L'.recvd = L.recvd)) :
    LInv n created s0 L' := by
  have hsame : ∀ k, k ≠ h → L'.st k = L.st k := fun k hk => by rw [hst, upd_other _ _ hk]
  have hnew : L'.st h = y := by rw [hst, upd_same]
  have hall : ∀ (Q : HS → Prop), Q y → ∀ k, Q (L.st k) → Q (L'.st k) := by
    intro Q hy k hk
    by_cases e : k = h
    · rw [e, hnew]; exact hy
    · rw [hsame k e]; exact hk
  have hmem : ∀ q, q ∈ L'.recvd ↔ q ∈ L.recvd ∨ (q = (h, n) ∧ (L.st h).stage = .timeStarted) := by
    intro q
    by_cases e : (L.st h).stage = .timeStarted
    · rw [(hrec.1 e).2]; simp [e]
    · rw [(hrec.2 e).2]; simp [e]
  have hcount := wsum_upd (f := tsInd L.st) (f' := tsInd L'.st) hI.nodup hc (fun k _ hk => by simp only [tsInd, hsame k hk])
  have h0 : tsInd L'.st h = 0 := by simp [tsInd, hnew, hys]
  refine ⟨hI.nodup, fun k => hall (·.coh = true) hyc k (hI.coh k), fun k hk => hall (·.tag = n) hyt k (hI.tag k hk), ?_, hD,
    ?_, ?_, ?_, ?_, ?_, fun k hk => hall (fun x => x.stage = .idle → x.stored ≠ none) hyi k (hI.stor k hk)⟩
  · intro k hk
    rw [hsame k (fun e => hk (e ▸ hc))]; exact hI.frame k hk
  · intro p hp
    by_cases e : p = h
    · rw [e, hnew]; exact ⟨hc, (hDm p hp).1 e⟩
    · rw [hsame p e]; exact hI.dq p ((hDm p hp).2 e)
  · have := hI.cnt
    by_cases e : (L.st h).stage = .timeStarted
    · have h1 : tsInd L.st h = 1 := by simp [tsInd, e]
      rw [(hrec.1 e).1]; simp only [tcount] at this ⊢; omega
    · have h1 : tsInd L.st h = 0 := by simp [tsInd, e]
      rw [(hrec.2 e).1]; simp only [tcount] at this ⊢; omega
  · by_cases e : (L.st h).stage = .timeStarted
    · rw [(hrec.1 e).2, List.nodup_append]
      refine ⟨hI.pushNodup, by simp, ?_⟩
      intro a ha b hb
      rw [List.mem_singleton] at hb; subst hb
      intro e'; subst e'
      exact (hI.push1 _ ha).2.2 e
    · rw [(hrec.2 e).2]; exact hI.pushNodup
  · intro q hq
    rcases (hmem q).1 hq with hq | ⟨rfl, -⟩
    · obtain ⟨h1, h2, h3⟩ := hI.push1 q hq
      exact ⟨h1, h2, hall (·.stage ≠ .timeStarted) hys _ h3⟩
    · exact ⟨rfl, hc, by show (L'.st h).stage ≠ _; rw [hnew]; exact hys⟩
  · intro k hk hs
    rw [hmem]
    by_cases e : k = h
    · subst e
      by_cases e' : (L.st k).stage = .timeStarted
      · exact Or.inr ⟨rfl, e'⟩
      · exact Or.inl (hI.push2 k hk e')
    · rw [hsame k e] at hs; exact Or.inl (hI.push2 k hk hs)

theorem mu_step {created : List Nat} {L L' : Loop} {h : Nat} {y : HS} (hn : created.Nodup) (hc : h ∈ created)
    (hst : L'.st = upd L.st h y) (hdq : ∀ k, k ≠ h → (k ∈ L'.deque ↔ k ∈ L.deque)) :
    mu created L' + wt L h = mu created L + wt L' h :=
  wsum_upd hn hc fun k _ hk => by simp only [wt, hst, upd_other _ _ hk, hdq k hk]

theorem startNext_ok {n : Nat} {created : List Nat} {s0 : St} {L : Loop} (hI : LInv n created s0 L) :
    ∃ L', startNext L = .ok L' ∧ LInv n created s0 L' ∧ mu created L' = mu created L ∧
      L'.received = L.received ∧ (∀ k, (L.st k).stage.inFlight = true → (L'.st k).stage.inFlight = true) := by
  rcases hd : L.deque with _ | ⟨p, ps⟩
  · exact ⟨L, by simp [startNext, hd], hI, rfl, rfl, fun _ hf => hf⟩
  · obtain ⟨hpc, hps⟩ := hI.dq p (by simp [hd])
    obtain ⟨y, hy, hys, hyc, hyt, hyst⟩ := startOut_ok (L.st p) (hI.coh p) hps
    have hdn := hI.dqNodup
    rw [hd, List.nodup_cons] at hdn
    have hmem : ∀ k, k ≠ p → (k ∈ ps ↔ k ∈ L.deque) := fun k hk => by simp [hd, hk]
    refine ⟨{ L with st := upd L.st p y, deque := ps, pre := L.pre ++ [p] }, by simp [startNext, hd, hy], ?_, ?_, rfl, ?_⟩
    · refine hI.step hpc rfl hyc (hyt.trans (hI.tag p hpc)) (by simp [hys]) (by simp [hys]) hdn.2 ?_
        ⟨fun e => by simp [hps] at e, fun _ => ⟨rfl, rfl⟩⟩
      intro q hq
      have hne : q ≠ p := fun e => hdn.1 (e ▸ hq)
      exact ⟨fun e => absurd e hne, fun _ => (hmem q hne).1 hq⟩
    · have := mu_step (L' := { L with st := upd L.st p y, deque := ps, pre := L.pre ++ [p] }) hI.nodup hpc rfl hmem
      have h1 : wt L p = 1 := by simp [wt, hps, hd]
      have h2 : wt { L with st := upd L.st p y, deque := ps, pre := L.pre ++ [p] } p = 1 := by simp [wt, hys]
      omega
    · intro k hf
      by_cases e : k = p
      · subst e; simp [hys, Stage.inFlight]
      · simpa [upd_other _ _ e] using hf

/-- loop variables after the receipt of the candidate time of `h` (before the pre-computation trigger) -/
def Loop.afterTime (L : Loop) (c : Cfg) (h n : Nat) (y : HS) : Loop :=
  { L with st := upd L.st h y,
           deque := if c.outArgs h then L.deque else L.deque ++ [h],
           received := L.received + 1,
           recvd := L.recvd ++ [(h, n)] }

/-- in the `out_state_started` branch the source starts the next pre-computation *between* `state = idle` and
`recv()`; the two concern different handlers and commute -/
theorem procPipe_out {n : Nat} {created : List Nat} {s0 : St} {L : Loop} (c : Cfg) (total : Nat)
    (hI : LInv n created s0 L) {h : Nat} (hs : (L.st h).stage = .outStarted) {y : HS}
    (hy : ({ L.st h with stage := .idle } : HS).recvOut = .ok y) :
    procPipe c total L h = startNext { L with st := upd L.st h y } := by
  rcases hd : L.deque with _ | ⟨p, ps⟩
  · simp [procPipe, hs, startNext, hd, hy, upd_upd_same]
  · have hp : p ∈ L.deque := by simp [hd]
    obtain ⟨-, hps⟩ := hI.dq p hp
    have hne : p ≠ h := by intro e; subst e; rw [hs] at hps; cases hps
    obtain ⟨yp, hyp, -⟩ := startOut_ok (L.st p) (hI.coh p) hps
    have hne' : h ≠ p := fun e => hne e.symm
    simp [procPipe, hs, startNext, hd, upd_other _ _ hne, upd_other _ _ hne', hyp, hy]
    rw [upd_comm _ _ _ hne, upd_upd_same, upd_comm _ _ _ hne']

theorem procPipe_ok {n : Nat} {created : List Nat} {s0 : St} {L : Loop} (c : Cfg) (hI : LInv n created s0 L) {h : Nat}
    (hc : h ∈ created) (hf : (L.st h).stage.inFlight = true) :
    ∃ L', procPipe c created.length L h = .ok L' ∧ LInv n created s0 L' ∧ mu created L' + 1 ≤ mu created L ∧
      L.received ≤ L'.received ∧
      (∀ k, k ≠ h → (L.st k).stage.inFlight = true → (L'.st k).stage.inFlight = true) := by
  cases hs : (L.st h).stage with
  | idle => simp [hs, Stage.inFlight] at hf
  | suspended => simp [hs, Stage.inFlight] at hf
  | timeStarted =>
    obtain ⟨y, hy, hys, hyc, hyt, hyst⟩ := recvTime_ok (L.st h) (hI.coh h) hs
    rw [hI.tag h hc] at hy hyt
    have hnd : h ∉ L.deque := by
      intro hm; have := (hI.dq h hm).2; rw [hs] at this; cases this
    have hmem : ∀ k, k ≠ h → (k ∈ (L.afterTime c h n y).deque ↔ k ∈ L.deque) := by
      intro k hk; simp only [Loop.afterTime]; split <;> simp [hk]
    have hI1 : LInv n created s0 (L.afterTime c h n y) := by
      refine hI.step hc rfl hyc hyt (by simp [hys]) (by simp [hys]) ?_
        (fun p hp => ⟨fun _ => hys, fun e => (hmem p e).1 hp⟩) ⟨fun _ => ⟨rfl, rfl⟩, fun e => absurd hs e⟩
      show (if c.outArgs h then L.deque else L.deque ++ [h]).Nodup
      split
      · exact hI.dqNodup
      · exact List.nodup_append.2 ⟨hI.dqNodup, by simp, fun a ha b hb e => hnd (by simp at hb; rw [e, hb] at ha; exact ha)⟩
    have hm1 : mu created (L.afterTime c h n y) + 1 ≤ mu created L := by
      have := mu_step (L' := L.afterTime c h n y) hI.nodup hc rfl hmem
      have h1 : wt L h = 2 := by simp [wt, hs]
      have h2 : wt (L.afterTime c h n y) h ≤ 1 := by
        simp only [wt, Loop.afterTime, upd_same, hys]; split <;> simp
      omega
    have hr1 : (L.afterTime c h n y).received = L.received + 1 := rfl
    have hst1 : ∀ k, k ≠ h → ((L.afterTime c h n y).st k).stage = (L.st k).stage := fun k hk => by
      simp [Loop.afterTime, upd_other _ _ hk]
    have hpp : procPipe c created.length L h =
        if 0 < created.length - (L.afterTime c h n y).received ∧
            created.length - (L.afterTime c h n y).received < c.cores - 1 ∧ (L.afterTime c h n y).deque ≠ []
        then startNext (L.afterTime c h n y) else .ok (L.afterTime c h n y) := by
      simp only [procPipe, hs, hy]; rfl
    rw [hpp]
    by_cases htr : 0 < created.length - (L.afterTime c h n y).received ∧
            created.length - (L.afterTime c h n y).received < c.cores - 1 ∧ (L.afterTime c h n y).deque ≠ []
    · rw [if_pos htr]
      obtain ⟨L', hL', hI', hm', hr', hst'⟩ := startNext_ok hI1
      exact ⟨L', hL', hI', by omega, by omega, fun k hk hf => hst' k (by rw [hst1 k hk]; exact hf)⟩
    · rw [if_neg htr]
      exact ⟨_, rfl, hI1, hm1, by omega, fun k hk hf => by rw [hst1 k hk]; exact hf⟩
  | outStarted =>
    obtain ⟨y, hy, hys, hyc, hyt, hyst⟩ := recvOut_ok (L.st h) (hI.coh h) hs
    have hnd : ∀ p ∈ L.deque, p ≠ h := by
      intro p hm e; have := (hI.dq p hm).2; rw [e, hs] at this; cases this
    have hI2 : LInv n created s0 { L with st := upd L.st h y } :=
      hI.step hc rfl hyc (hyt.trans (hI.tag h hc)) (by simp [hys]) (fun _ => by simp [hyst]) hI.dqNodup
        (fun p hp => ⟨fun e => absurd e (hnd p hp), fun _ => hp⟩) ⟨fun e => by simp [hs] at e, fun _ => ⟨rfl, rfl⟩⟩
    have hm2 := mu_step (L' := { L with st := upd L.st h y }) hI.nodup hc rfl (fun _ _ => Iff.rfl)
    have h1 : wt L h = 1 := by simp [wt, hs]
    have h2 : wt { L with st := upd L.st h y } h = 0 := by simp [wt, hys]
    rw [procPipe_out c created.length hI hs hy]
    obtain ⟨L', hL', hI', hm', hr', hst'⟩ := startNext_ok hI2
    exact ⟨L', hL', hI', by omega, Nat.le_of_eq hr'.symm, fun k hk hf => hst' k (by simpa [upd_other _ _ hk] using hf)⟩

theorem procWait_ok {n : Nat} {created : List Nat} {s0 : St} (c : Cfg) (w : List Nat) :
    ∀ {L : Loop}, LInv n created s0 L → w.Nodup → (∀ h ∈ w, h ∈ created ∧ (L.st h).stage.inFlight = true) →
    ∃ L', procWait c created.length L w = .ok L' ∧ LInv n created s0 L' ∧ mu created L' + w.length ≤ mu created L ∧
      L.received ≤ L'.received := by
  induction w with
  | nil => intro L hI _ _; exact ⟨L, rfl, hI, by simp, Nat.le_refl _⟩
  | cons h hs ih =>
    intro L hI hn hw
    rw [List.nodup_cons] at hn
    obtain ⟨hc, hf⟩ := hw h (by simp)
    obtain ⟨L1, hL1, hI1, hm1, hr1, hst1⟩ := procPipe_ok c hI hc hf
    obtain ⟨L', hL', hI', hm', hr'⟩ := ih hI1 hn.2 (by
      intro k hk
      obtain ⟨hkc, hkf⟩ := hw k (by simp [hk])
      have hne : k ≠ h := by intro e; subst e; exact hn.1 hk
      exact ⟨hkc, hst1 k hne hkf⟩)
    refine ⟨L', by simp [procWait, hL1, hL'], hI', by simp only [List.length_cons]; omega, by omega⟩

theorem waitOK_iff (created : List Nat) (s : St) (w : List Nat) :
    waitOK created s w = true ↔ w ≠ [] ∧ w.Nodup ∧ ∀ h ∈ w, h ∈ created ∧ (s h).stage.inFlight = true := by
  simp [waitOK, and_assoc]

/-- while the loop condition holds some pipe of the leg has something in flight: `connection.wait` cannot block
forever -/
theorem LInv.inflight_of_lt {n : Nat} {created : List Nat} {s0 : St} {L : Loop} (hI : LInv n created s0 L)
    (hlt : L.received < created.length) : (created.any fun h => (L.st h).stage.inFlight) = true := by
  have h0 := hI.cnt
  have : 0 < tcount created L.st := by omega
  obtain ⟨k, hk, hk'⟩ := wsum_pos this
  rw [List.any_eq_true]
  refine ⟨k, hk, ?_⟩
  simp only [tsInd] at hk'
  split at hk'
  · rename_i e; rw [e]; rfl
  · omega

/-- a loop that still runs has at least weight 2 left: some handler is still `event_time_started` -/
theorem LInv.mu_pos {n : Nat} {created : List Nat} {s0 : St} {L : Loop} (hI : LInv n created s0 L)
    (hlt : L.received < created.length) : 2 ≤ mu created L := by
  have h0 := hI.cnt
  obtain ⟨k, hk, hk'⟩ := wsum_pos (l := created) (f := tsInd L.st) (by simp only [tcount] at h0; omega)
  have hks : (L.st k).stage = .timeStarted := by
    simp only [tsInd] at hk'
    split at hk'
    · assumption
    · omega
  have := le_wsum (f := wt L) hk
  simp only [wt, hks] at this
  exact this

/-- **the receive loop under a legitimate adversary**: it never raises and never deadlocks; it either runs out of
`wait` results (`starved`, only possible if fewer than `mu` were supplied) or ends with the invariant, all candidate
times received, having consumed at most `mu` (≤ `2 * len(created)`) `wait` results -/
theorem recvLoop_ok {n : Nat} {created : List Nat} {s0 : St} (c : Cfg) (ws : List (List Nat)) :
    ∀ {L : Loop}, LInv n created s0 L → legit c created L ws = true →
      (recvLoop c created L ws = .error .starved ∧ ws.length < mu created L) ∨
      ∃ L' rest, recvLoop c created L ws = .ok (L', rest) ∧ LInv n created s0 L' ∧ created.length ≤ L'.received ∧
        rest.length ≤ ws.length ∧ ws.length - rest.length ≤ mu created L := by
  induction ws with
  | nil =>
    intro L hI _
    by_cases hlt : L.received < created.length
    · left
      have := hI.mu_pos hlt
      exact ⟨by simp [recvLoop, hlt, hI.inflight_of_lt hlt], by simp; omega⟩
    · right
      exact ⟨L, [], by simp [recvLoop, hlt], hI, by omega, by simp, by simp⟩
  | cons w ws ih =>
    intro L hI hl
    by_cases hlt : L.received < created.length
    · simp only [legit, hlt, if_true, Bool.and_eq_true] at hl
      obtain ⟨hw, hl'⟩ := hl
      rw [waitOK_iff] at hw
      obtain ⟨hne, hnd, hall⟩ := hw
      obtain ⟨L1, hL1, hI1, hm1, hr1⟩ :=
        procWait_ok c w (hI.seen ((w.map fun h => (L.st h).stage) :: L.seen)) hnd hall
      rw [hL1] at hl'
      simp only at hl'
      have hwl : 1 ≤ w.length := by
        cases w with
        | nil => exact absurd rfl hne
        | cons _ _ => simp
      have hm1' : mu created L1 + w.length ≤ mu created L := hm1
      have hr1' : L.received ≤ L1.received := hr1
      have hrec : recvLoop c created L (w :: ws) = recvLoop c created L1 ws := by
        simp [recvLoop, hlt, hI.inflight_of_lt hlt, hL1]
      rcases ih hI1 hl' with ⟨h1, h2⟩ | ⟨L', rest, h1, h2, h3, h4, h5⟩
      · left; exact ⟨by rw [hrec]; exact h1, by simp only [List.length_cons]; omega⟩
      · right
        exact ⟨L', rest, by rw [hrec]; exact h1, h2, h3, by simp only [List.length_cons]; omega,
          by simp only [List.length_cons]; omega⟩
    · right
      exact ⟨L, w :: ws, by simp [recvLoop, hlt], hI, by omega, by simp, by simp⟩

end JF.MP
