import JF.Lemmas.StoreFrame
import JF.Lemmas.StoreRefineRead
/-!
Lemmas behind `JF/Props/C13Refine.lean`: every operation of the reference-level store
(`JF/Model/Store.lean`) commutes with the abstraction map `abs` into the purely functional
specification `Spec` (`JF/Lemmas/StoreRefineSpec.lean`).

* reading: `readGlobal_eq` (the specification's snapshot is `readGlobal`; with `unitAt_absG` of
  `StoreInsert.lean`: everything read from the global state is a function of `absG`, `reads_absG`);
  `extract_refines` (from `extract_spec`: shape + current values);
* `LiftMirror`: the two sets of lifted identifiers are determined by the dictionary — the invariant that
  lets the specification drop them (`independent_absG`); through it the independent-active rule of the
  lifting state (`mem_independent`) is the one proved on values (`Spec.mem_independent`);
* `insertUnits_refines`: a commit is a homomorphism (no invariant needed: the heap does not change);
* `abs_write`, `abs_rebind`: a mutation through a held branch changes only that held value (this is
  where the isolation invariant `Inv` is used);
* `step_refines`, and `Sim` (`Inv` together with `LiftMirror`): the simulation invariant, kept by every step.
-/
namespace JF.Store
variable {α : Type}

theorem branchIds_absG (g : Global α) (h : Heap α) (id : Ident) :
    Spec.branchIds (absG g h) id = branchIds g id := by
  match id with
  | [] => rfl
  | [r] =>
    simp only [Spec.branchIds, branchIds, absG, List.getElem?_map]
    cases g.roots[r]? <;> simp
  | [r, c] => rfl
  | _ :: _ :: _ :: _ => rfl

theorem filterMap_of_map_some {β γ : Type} {l : List β} {m : List γ} {f : γ → Option β}
    (h : m.map f = l.map some) : m.filterMap f = l := by
  have : m.filterMap f = (m.map f).filterMap id := by rw [List.filterMap_map]; rfl
  rw [this, h, List.filterMap_map]
  simp

/-- values that meet C13's `extract_shape` are the specification's branch of `id` -/
theorem branch_of_BranchSpec {g : Global α} {h : Heap α} {id : Ident} {vs : List (UVal α)}
    (sp : BranchSpec g h id vs) : vs = Spec.branch (absG g h) id := by
  have hu : Spec.unitAt (absG g h) = readAt g h := funext (unitAt_absG g h)
  rw [Spec.branch, branchIds_absG, hu, ← sp.1, List.filterMap_map]
  exact (filterMap_of_map_some (List.map_congr_left fun v hv => (sp.2 v hv).symm)).symm

theorem extract_refines {g : Global α} {h : Heap α} (ok : GlobalOK g h) (id : Ident) :
    Spec.extract (absG g h) id = (extract g h id).map fun x => readBranch x.1 x.2 := by
  rcases extract_total g h id with ⟨⟨⟨h', b⟩, hx⟩, hs⟩ | ⟨hx, hs⟩
  · obtain ⟨_, _, sp⟩ := extract_spec ok hx
    simp only [hx, Spec.extract, unitAt_absG, readAt, Option.isSome_map, hs, if_true, Except.map,
      branch_of_BranchSpec sp]
  · simp only [hx, Spec.extract, unitAt_absG, readAt, Option.isSome_map, hs, Except.map]
    rfl

theorem extractMany_refines {g : Global α} : ∀ (ids : List Ident) {h : Heap α}, GlobalOK g h →
    ids.mapM (Spec.extract (absG g h)) = (extractMany g h ids).map fun x => x.2.map (readBranch x.1) := by
  intro ids
  induction ids with
  | nil => intro h _; rfl
  | cons id ids ih =>
    intro h ok
    rw [List.mapM_cons, extract_refines ok id]
    simp only [extractMany]
    cases h1 : extract g h id with
    | error e => rfl
    | ok y =>
      obtain ⟨h1', b⟩ := y
      obtain ⟨e1, f1, _⟩ := extract_spec ok h1
      have i1 := ih (ok.ext e1)
      rw [absG_ext ok e1] at i1
      simp only [Except.map, i1]
      cases h2 : extractMany g h1' ids with
      | error e => rfl
      | ok z =>
        obtain ⟨h2', bs'⟩ := z
        obtain ⟨e2, _⟩ := extractMany_spec ids (ok.ext e1) h2
        have : readBranch h2' b = readBranch h1' b :=
          readBranch_congr (fun r hr => e2.2 r (f1.2 r hr).2)
        simp only [List.map_cons, this]
        rfl

/-- `id` has a velocity (and a time stamp) in the global lifting state -/
def Lifting.isLifted (l : Lifting) (id : Ident) : Prop := (dictGet l.dict id).isSome = true

theorem mem_setAdd (s : List Ident) (id x : Ident) : x ∈ setAdd s id ↔ x ∈ s ∨ x = id := by
  simp only [setAdd]
  split
  · constructor
    · exact Or.inl
    · rintro (h | rfl)
      · exact h
      · assumption
  · simp

theorem mem_setRemove (s : List Ident) (id x : Ident) : x ∈ setRemove s id ↔ x ∈ s ∧ x ≠ id := by
  simp [setRemove]

/-- the lifted identifiers of level `n`, computed from the keys of the dictionary -/
def mirror (levels : Nat) (keys : List Ident) (n : Nat) : List Ident :=
  if n ≤ levels then keys.filter (·.length = n) else []

/-- `_lifted_identifiers[n]` is the list of the keys of `_lifting_dictionary` of length `n`, in the same
order (both are insertion ordered: an existing key keeps its place, a new one goes to the end) -/
structure LiftMirror (l : Lifting) : Prop where
  m1 : l.lifted1 = mirror l.levels (l.dict.map (·.1)) 1
  m2 : l.lifted2 = mirror l.levels (l.dict.map (·.1)) 2

theorem keys_dictSet (d : List (Ident × Ref × Ref)) (id : Ident) (x : Ref × Ref) :
    (dictSet d id x).map (·.1) = setAdd (d.map (·.1)) id := by
  induction d with
  | nil => simp [dictSet, setAdd]
  | cons e d ih =>
    obtain ⟨k, y⟩ := e
    simp only [dictSet]
    by_cases hk : k = id
    · subst hk; simp [setAdd]
    · have hne : ¬ id = k := fun h => hk h.symm
      simp only [hk, if_false, List.map_cons, ih, setAdd, List.mem_cons, hne, false_or]
      split <;> simp

theorem keys_dictDel (d : List (Ident × Ref × Ref)) (id : Ident) :
    (dictDel d id).map (·.1) = setRemove (d.map (·.1)) id := by
  simp only [dictDel, setRemove, List.filter_map]
  rfl

theorem filter_setAdd (s : List Ident) (id : Ident) (p : Ident → Bool) :
    (setAdd s id).filter p = if p id then setAdd (s.filter p) id else s.filter p := by
  simp only [setAdd, List.mem_filter]
  by_cases hm : id ∈ s <;> cases hp : p id <;> simp [hm, hp, List.filter_append]

theorem filter_setRemove (s : List Ident) (id : Ident) (p : Ident → Bool) :
    (setRemove s id).filter p = if p id then setRemove (s.filter p) id else s.filter p := by
  simp only [setRemove, List.filter_filter]
  cases hp : p id
  · simp only [Bool.false_eq_true, if_false]
    apply List.filter_congr
    intro x hx
    by_cases hxi : x = id
    · subst hxi; simp [hp]
    · simp [hxi]
  · simp only [if_true]
    apply List.filter_congr
    intro x hx
    simp [Bool.and_comm]

theorem mirror_setAdd (levels : Nat) (keys : List Ident) (id : Ident) (n : Nat) :
    mirror levels (setAdd keys id) n =
      if id.length = n ∧ n ≤ levels then setAdd (mirror levels keys n) id else mirror levels keys n := by
  simp only [mirror]
  by_cases hl : n ≤ levels
  · simp only [hl, if_true, and_true, filter_setAdd, decide_eq_true_eq]
  · simp [hl]

theorem mirror_setRemove (levels : Nat) (keys : List Ident) (id : Ident) (n : Nat) :
    mirror levels (setRemove keys id) n =
      if id.length = n ∧ n ≤ levels then setRemove (mirror levels keys n) id else mirror levels keys n := by
  simp only [mirror]
  by_cases hl : n ≤ levels
  · simp only [hl, if_true, and_true, filter_setRemove, decide_eq_true_eq]
  · simp [hl]

/-- the shape `TreeLiftingState.set` and `_delete` share: the dictionary becomes `d'`, whose keys of each
length are those of the old one changed by `f`, and the set of level `len(id)` is changed by `f` -/
theorem LiftMirror.modLifted {l : Lifting} (w : LiftMirror l) {id : Ident} (hlen : id.length = 1 ∨ id.length = 2)
    (d' : List (Ident × Ref × Ref)) (f : List Ident → List Ident)
    (hf : ∀ n, mirror l.levels (d'.map (·.1)) n =
      if id.length = n ∧ n ≤ l.levels then f (mirror l.levels (l.dict.map (·.1)) n)
      else mirror l.levels (l.dict.map (·.1)) n) :
    LiftMirror (match ({ l with dict := d' } : Lifting).modLifted id.length f with
      | .ok l2 => (l2, (none : Option Err))
      | .error e => ({ l with dict := d' }, some e)).1 := by
  obtain ⟨w1, w2⟩ := w
  simp only [Lifting.modLifted]
  rcases hlen with h | h
  · by_cases hl : 1 ≤ l.levels <;> exact ⟨by simp [h, hl, hf, w1], by simp [h, hl, hf, w2]⟩
  · by_cases hl : 2 ≤ l.levels <;> exact ⟨by simp [h, hl, hf, w1], by simp [h, hl, hf, w2]⟩

theorem LiftMirror.set (l : Lifting) (id : Ident) (v t : Option Ref) (hlen : id.length = 1 ∨ id.length = 2)
    (w : LiftMirror l) : LiftMirror (l.set id v t).1 := by
  cases v <;> cases t <;> simp only [Lifting.set]
  · split
    · exact w.modLifted hlen _ _ (fun n => by rw [keys_dictDel, mirror_setRemove])
    · exact w
  · exact w
  · exact w
  · exact w.modLifted hlen _ _ (fun n => by rw [keys_dictSet, mirror_setAdd])

theorem step_g_of_not_insert (s : Sess α) (op : Op α) (hi : op.isInsert = false) : (step s op).1.g = s.g := by
  cases ht : op.target with
  | some b => exact (step_mutation_frame s op ht).1
  | none =>
    cases op with
    | extract id => simp only [step]; split <;> rfl
    | active => simp only [step]; split <;> rfl
    | global => rfl
    | insert sel => simp [Op.isInsert] at hi
    | _ => simp [Op.target] at ht

/-! Only `TreeLiftingState.set`, called by a commit for identifiers of the tree, touches the lifting
state: what it preserves holds along every history. -/
section
variable {P : Lifting → Prop}
  (hset : ∀ (l : Lifting) (id : Ident) (v t : Option Ref), id.length = 1 ∨ id.length = 2 → P l → P (l.set id v t).1)
include hset

theorem lift_insertUnits (us : List (CUnit α)) : ∀ {g : Global α}, P g.lift → P (insertUnits g us).1.lift := by
  induction us with
  | nil => intro g w; exact w
  | cons u us ih =>
    intro g w
    have w1 : P (insertUnit g u).1.lift := by
      simp only [insertUnit]
      cases hp : physSet g.roots u.id u.pos with
      | error e => exact w
      | ok roots => exact hset _ _ _ _ (physSet_ok_length hp) w
    simp only [insertUnits]
    cases hu : insertUnit g u with
    | mk g1 e =>
      rw [hu] at w1
      cases e with
      | none => exact ih w1
      | some e => exact w1

theorem lift_run {s : Sess α} (w : P s.g.lift) (ops : List (Op α)) : P (run s ops).g.lift := by
  induction ops generalizing s with
  | nil => exact w
  | cons op ops ih =>
    refine ih ?_
    cases hi : op.isInsert with
    | false => rw [step_g_of_not_insert s op hi]; exact w
    | true =>
      cases op with
      | insert sel =>
        simp only [step]
        cases selBranches s.live sel with
        | none => exact w
        | some bs => exact lift_insertUnits hset _ w
      | _ => simp [Op.isInsert] at hi

end

theorem liftMirror_init [Div α] (o : Ops α) (levels perRoot : Nat)
    (roots : List (Option Nat × List α × List (Option Nat × List α))) :
    LiftMirror (Sess.init o levels perRoot roots).g.lift :=
  ⟨by simp [Sess.init, mirror], by simp [Sess.init, mirror]⟩

theorem independent_absG (g : Global α) (h : Heap α) (M : LiftMirror g.lift) :
    Spec.independent (absG g h) = g.lift.independent := by
  have lifted : ∀ n, Spec.lifted (absG g h) n = mirror g.lift.levels (g.lift.dict.map (·.1)) n := fun n => by
    simp only [Spec.lifted, absG, mirror, List.map_map]
    rfl
  simp only [Spec.independent, Lifting.independent, lifted, ← M.m1, ← M.m2]
  simp only [absG, List.map_map]
  rfl

theorem active_absG (g : Global α) (h : Heap α) (id : Ident) :
    Spec.active (absG g h) id ↔ g.lift.isLifted id := by
  simp only [Spec.active, absG, lookup_absDict, Option.isSome_map, Lifting.isLifted]

theorem mem_independent {g : Global α} (h : Heap α) (M : LiftMirror g.lift) (hlv : g.lift.levels = 2) (id : Ident) :
    id ∈ g.lift.independent ↔ ∃ r, g.lift.isLifted [r] ∧
      ((id = [r] ∧ ∀ i, i < g.lift.perRoot → g.lift.isLifted [r, i]) ∨
       ((¬ ∀ i, i < g.lift.perRoot → g.lift.isLifted [r, i]) ∧
        ∃ i, i < g.lift.perRoot ∧ id = [r, i] ∧ g.lift.isLifted [r, i])) := by
  have := Spec.mem_independent (g := absG g h) hlv id
  rw [independent_absG g h M] at this
  simp only [active_absG] at this
  exact this

theorem mem_independent_one {l : Lifting} (h1 : l.levels = 1) (id : Ident) :
    id ∈ l.independent ↔ l.isLifted id := by
  simp only [Lifting.independent, h1, if_true, Lifting.isLifted, dictGet_eq_lookup, Spec.mem_keys_iff]

theorem key_readBranch (h : Heap α) (b : Branch α) : Spec.key (readBranch h b) = b.key := by
  simp only [Spec.key, readBranch, Branch.key, List.flatMap_def, List.map_map]
  rfl

theorem readGlobal_eq (g : Global α) (h : Heap α) :
    readGlobal g h = (List.range g.roots.length).map (fun r => Spec.branch (absG g h) [r]) := by
  simp only [readGlobal, extractGlobal, aliasBranches_eq, Nat.zero_add]
  apply List.ext_getElem?
  intro i
  simp only [List.getElem?_map, List.getElem?_mapIdx]
  by_cases hi : i < g.roots.length
  · have hR : g.roots[i]? = some g.roots[i] := List.getElem?_eq_getElem hi
    simp only [List.getElem?_range hi, hR, Option.map_some, Option.some.injEq]
    exact branch_of_BranchSpec (aliasBranch_spec g h hR)
  · have h1 : g.roots[i]? = none := List.getElem?_eq_none (by omega)
    have h2 : (List.range g.roots.length)[i]? = none := List.getElem?_eq_none (by simp; omega)
    simp [h1, h2]

theorem physSet_refines (h : Heap α) (roots : List (PRoot α)) (id : Ident) (p : Ref) :
    Spec.physSet (roots.map (fun R => (absNode h R.node, R.children.map (absNode h)))) id (h.get? p) =
      match physSet roots id p with
      | .ok roots' => .ok (roots'.map (fun R => (absNode h R.node, R.children.map (absNode h))))
      | .error e => .error e := by
  match id with
  | [] => rfl
  | [r] =>
    simp only [Spec.physSet, physSet, List.getElem?_map]
    cases roots[r]? with
    | none => rfl
    | some R => simp [List.map_set, absNode]
  | [r, c] =>
    simp only [Spec.physSet, physSet, List.getElem?_map]
    cases roots[r]? with
    | none => rfl
    | some R =>
      simp only [Option.map_some, List.getElem?_map]
      cases R.children[c]? with
      | none => rfl
      | some L => simp [List.map_set, absNode]
  | _ :: _ :: _ :: _ => rfl

theorem absDict_dictSet (h : Heap α) (d : List (Ident × Ref × Ref)) (id : Ident) (v t : Ref) :
    (dictSet d id (v, t)).map (fun e => (e.1, h.get? e.2.1, h.get? e.2.2)) =
      Spec.assocSet (d.map (fun e => (e.1, h.get? e.2.1, h.get? e.2.2))) id (h.get? v, h.get? t) := by
  induction d with
  | nil => rfl
  | cons e d ih =>
    obtain ⟨k, y⟩ := e
    simp only [dictSet, List.map_cons, Spec.assocSet]
    by_cases hk : k = id
    · simp [hk]
    · simp [hk, ih]

theorem absDict_dictDel (h : Heap α) (d : List (Ident × Ref × Ref)) (id : Ident) :
    (dictDel d id).map (fun e => (e.1, h.get? e.2.1, h.get? e.2.2)) =
      (d.map (fun e => (e.1, h.get? e.2.1, h.get? e.2.2))).filter (·.1 ≠ id) := by
  simp only [dictDel, List.filter_map]
  rfl

/-- in the abstraction only the dictionary and the outcome of `modLifted` are seen -/
theorem absG_modLifted (h : Heap α) (roots : List (PRoot α)) (l : Lifting) {id : Ident}
    (hlen : id.length = 1 ∨ id.length = 2) (d' : List (Ident × Ref × Ref)) (f : List Ident → List Ident) :
    (fun r : Lifting × Option Err => (absG ⟨roots, r.1⟩ h, r.2))
      (match ({ l with dict := d' } : Lifting).modLifted id.length f with
        | .ok l2 => (l2, (none : Option Err))
        | .error e => ({ l with dict := d' }, some e)) =
      ({ absG ⟨roots, l⟩ h with lift := d'.map (fun e => (e.1, h.get? e.2.1, h.get? e.2.2)) },
        if id.length ≤ l.levels then none else some .key) := by
  simp only [Lifting.modLifted]
  rcases hlen with hn | hn
  · by_cases hl : 1 ≤ l.levels <;> simp [hn, hl, absG]
  · by_cases hl : 2 ≤ l.levels <;> simp [hn, hl, absG]

theorem liftSet_refines (h : Heap α) (roots : List (PRoot α)) (l : Lifting) (id : Ident)
    (hlen : id.length = 1 ∨ id.length = 2) (v t : Option Ref) :
    Spec.liftSet (absG ⟨roots, l⟩ h) id (v.map h.get?) (t.map h.get?) =
      (absG ⟨roots, (l.set id v t).1⟩ h, (l.set id v t).2) := by
  cases v <;> cases t <;> simp only [Spec.liftSet, Option.map_some, Option.map_none, Lifting.set]
  · have hlook : ((absG ⟨roots, l⟩ h).lift.lookup id).isSome = (dictGet l.dict id).isSome := by
      simp only [absG, lookup_absDict, Option.isSome_map]
    rw [hlook]
    split
    · refine Eq.trans ?_ (absG_modLifted h roots l hlen _ _).symm
      rw [absDict_dictDel]
      rfl
    · rfl
  · refine Eq.trans ?_ (absG_modLifted h roots l hlen _ _).symm
    rw [absDict_dictSet]
    rfl

theorem insertUnit_refines (h : Heap α) (g : Global α) (u : CUnit α) :
    Spec.insertUnit (absG g h) (readUnit h u) = (absG (insertUnit g u).1 h, (insertUnit g u).2) := by
  simp only [Spec.insertUnit, Store.insertUnit, readUnit]
  have hp := physSet_refines h g.roots u.id u.pos
  simp only [absG] at hp ⊢
  rw [hp]
  cases hs : physSet g.roots u.id u.pos with
  | error e => rfl
  | ok roots =>
    simp only
    exact liftSet_refines h roots g.lift u.id (physSet_ok_length hs) u.vel u.ts

theorem insertUnits_refines (h : Heap α) : ∀ (us : List (CUnit α)) (g : Global α),
    Spec.insertUnits (absG g h) (us.map (readUnit h)) = (absG (insertUnits g us).1 h, (insertUnits g us).2) := by
  intro us
  induction us with
  | nil => intro g; rfl
  | cons u us ih =>
    intro g
    simp only [List.map_cons, Spec.insertUnits, Store.insertUnits, insertUnit_refines]
    cases hu : Store.insertUnit g u with
    | mk g1 e =>
      cases e with
      | none => exact ih g1
      | some e => rfl

theorem pick_refines (h : Heap α) (live : List (Live α)) (s : Nat × Nat) :
    Spec.pick (live.map fun L => (readBranch h L.b, L.iso)) s = (selBranch live s).map (readBranch h) := by
  simp only [Spec.pick, selBranch, List.getElem?_map]
  cases live[s.1]? with
  | none => rfl
  | some L =>
    simp only [Option.map_some, Option.bind_some]
    cases hk : s.2 with
    | zero => rfl
    | succ k =>
      simp only [Nat.add_one_ne_zero, if_false, readBranch, Branch.units, List.map_cons, List.getElem?_cons_succ,
        List.getElem?_map]
      cases L.b.children[k]? <;> rfl

theorem selBranches_refines (h : Heap α) (live : List (Live α)) : ∀ (sel : List (Nat × Nat)),
    sel.mapM (Spec.pick (live.map fun L => (readBranch h L.b, L.iso))) =
      (selBranches live sel).map (·.map (readBranch h)) := by
  intro sel
  induction sel with
  | nil => rfl
  | cons s sel ih =>
    rw [List.mapM_cons, ih, pick_refines]
    simp only [selBranches]
    cases selBranch live s <;> cases selBranches live sel <;> rfl

theorem markInserted_refines (h : Heap α) (hs : List Nat) (live : List (Live α)) :
    (markInserted hs live).map (fun L => (readBranch h L.b, L.iso)) =
      (live.map fun L => (readBranch h L.b, L.iso)).mapIdx fun i L => if i ∈ hs then (L.1, false) else L := by
  apply List.ext_getElem?
  intro i
  simp only [List.getElem?_map, List.getElem?_mapIdx, getElem?_markInserted]
  cases live[i]? with
  | none => rfl
  | some L =>
    simp only [Option.map_some, Option.some.injEq]
    split <;> rfl

theorem units_flatten (h : Heap α) (bs : List (Branch α)) :
    (bs.flatMap Branch.units).map (readUnit h) = (bs.map (readBranch h)).flatten := by
  simp only [List.flatMap_def, List.map_flatten, List.map_map]
  rfl

theorem getUnit_eq (b : Branch α) (u : Nat) : b.getUnit u = b.units[u]? := by
  cases u <;> rfl

theorem setUnit_units (b : Branch α) (u : Nat) (x : CUnit α) : (b.setUnit u x).units = b.units.set u x := by
  cases u <;> rfl

theorem getHeld_abs (s : Sess α) (b u : Nat) :
    Spec.getHeld (abs s).held b u = (getLiveUnit s.live b u).map (readUnit s.h) := by
  simp only [Spec.getHeld, abs, getLiveUnit, List.getElem?_map]
  cases s.live[b]? with
  | none => rfl
  | some L => simp [getUnit_eq, readBranch]

theorem disciplined_iso {s : Sess α} {b : Nat} {L : Live α} (hd : (abs s).held[b]?.map (·.2) ≠ some false)
    (hL : s.live[b]? = some L) : L.iso = true := by
  simp only [abs, List.getElem?_map, hL, Option.map_some, ne_eq, Option.some.injEq] at hd
  cases hi : L.iso with
  | true => rfl
  | false => exact absurd hi hd

theorem live_unit {s : Sess α} (I : Inv s) {b u : Nat} {c : CUnit α} (hc : getLiveUnit s.live b u = some c) :
    (∀ r ∈ c.refs, r < s.h.next) ∧ ((abs s).held[b]?.map (·.2) ≠ some false → c.refs.Nodup) := by
  obtain ⟨L, hL, hu, _⟩ := getLiveUnit_some hc
  have memL : L ∈ s.live := List.mem_of_getElem? hL
  refine ⟨fun r hr => I.bok L memL r (getUnit_refs_sub hu r hr), fun hd => ?_⟩
  exact (nodup_flatMap_index CUnit.refs L.b.units (I.iso L memL (disciplined_iso hd hL)).1).1 c
    (List.mem_of_getElem? (by rw [← getUnit_eq]; exact hu))

/-- An object of unit `u` of the isolated live branch `b` is changed in place: in the abstraction
only that held unit changes. -/
theorem abs_write {s : Sess α} (I : Inv s) {b u : Nat} {c : CUnit α} (hc : getLiveUnit s.live b u = some c)
    (hd : (abs s).held[b]?.map (·.2) ≠ some false) {r : Ref} (hr : r ∈ c.refs) (o : Obj α) :
    abs { s with h := s.h.write r o } =
      { abs s with held := Spec.setHeld (abs s).held b u (readUnit (s.h.write r o) c) } := by
  obtain ⟨L, hL, hc, _⟩ := getLiveUnit_some hc
  have hiso := disciplined_iso hd hL
  have memL : L ∈ s.live := List.mem_of_getElem? hL
  have hrb : r ∈ L.b.refs := getUnit_refs_sub hc r hr
  obtain ⟨nd, ng⟩ := I.iso L memL hiso
  obtain ⟨_, dis⟩ := nodup_flatMap_index CUnit.refs L.b.units nd
  simp only [abs, Spec.mk.injEq]
  refine ⟨absG_congr (fun x hx => Heap.get?_write_ne _ _ (fun hxr => ng r hrb (hxr ▸ hx))), ?_⟩
  apply List.ext_getElem?
  intro j
  simp only [Spec.setHeld, List.getElem?_modify, List.getElem?_map, Option.map_eq_map]
  cases hj : s.live[j]? with
  | none => rfl
  | some L' =>
    simp only [Option.map_some, Option.some.injEq]
    by_cases hbj : b = j
    · subst hbj
      rw [hL] at hj; cases hj
      simp only [if_true, Prod.mk.injEq, and_true, readBranch]
      apply List.ext_getElem?
      intro k
      simp only [List.getElem?_map, List.getElem?_set, List.length_map]
      have hcu : L.b.units[u]? = some c := by rw [← getUnit_eq]; exact hc
      by_cases huk : u = k
      · subst huk
        obtain ⟨hlt, hget⟩ := List.getElem?_eq_some_iff.1 hcu
        simp [hlt, hget]
      · simp only [huk, if_false]
        cases hk : L.b.units[k]? with
        | none => rfl
        | some c' =>
          simp only [Option.map_some, Option.some.injEq]
          exact readUnit_congr (fun x hx => Heap.get?_write_ne _ _
            (fun hxr => dis u k c c' huk hcu hk r hr (hxr ▸ hx)))
    · simp only [hbj, if_false, Prod.mk.injEq, and_true]
      exact readBranch_congr (fun x hx => Heap.get?_write_ne _ _
        (fun hxr => I.sep b j L L' hbj hL hj hiso r hrb (by rw [← hxr]; exact hx)))

/-- A field of unit `u` of live branch `b` is re-bound (to an object allocated by the step, or to
`None`): in the abstraction only that held unit changes. -/
theorem abs_rebind {s : Sess α} (I : Inv s) {h' : Heap α} (e : Ext s.h h') {b u : Nat} {c : CUnit α}
    (hc : getLiveUnit s.live b u = some c) (x : CUnit α) :
    abs ⟨s.g, h', setLiveUnit s.live b u x⟩ =
      { abs s with held := Spec.setHeld (abs s).held b u (readUnit h' x) } := by
  obtain ⟨L, hL, _, hset⟩ := getLiveUnit_some hc
  rw [hset]
  have old : ∀ L' ∈ s.live, readBranch h' L'.b = readBranch s.h L'.b :=
    fun L' hL' => readBranch_congr (fun r hr => e.2 r (I.bok L' hL' r hr))
  simp only [abs, Spec.mk.injEq]
  refine ⟨absG_ext I.gok e, ?_⟩
  apply List.ext_getElem?
  intro j
  simp only [Spec.setHeld, List.getElem?_modify, List.getElem?_map, List.getElem?_set, Option.map_eq_map]
  by_cases hbj : b = j
  · subst hbj
    have hlt : b < s.live.length := (List.getElem?_eq_some_iff.1 hL).1
    simp only [if_true, hlt, hL, Option.map_some, Option.some.injEq, Prod.mk.injEq, and_true]
    rw [← old L (List.mem_of_getElem? hL)]
    simp only [readBranch, setUnit_units, List.map_set]
  · simp only [hbj, if_false]
    cases hj : s.live[j]? with
    | none => rfl
    | some L' =>
      simp only [Option.map_some, Option.some.injEq, Prod.mk.injEq, and_true]
      exact old L' (List.mem_of_getElem? hj)

theorem abs_append {s : Sess α} (I : Inv s) {h' : Heap α} (e : Ext s.h h') (nb : List (Live α)) :
    abs ⟨s.g, h', s.live ++ nb⟩ =
      { abs s with held := (abs s).held ++ nb.map (fun L => (readBranch h' L.b, L.iso)) } := by
  simp only [abs, Spec.mk.injEq, List.map_append, List.append_cancel_right_eq]
  refine ⟨absG_ext I.gok e, ?_⟩
  apply List.map_congr_left
  intro L hL
  simp only [Prod.mk.injEq, and_true]
  exact readBranch_congr (fun r hr => e.2 r (I.bok L hL r hr))

/-- **One step.**  Under the isolation invariant (and the mirror invariant of the lifting state) every
client operation that obeys the discipline commutes with the abstraction map, and yields the same
outcome token. -/
theorem step_refines {s : Sess α} (I : Inv s) (M : LiftMirror s.g.lift) (op : Op α)
    (hd : Spec.Disciplined (abs s) op) : Spec.step (abs s) op = (abs (step s op).1, (step s op).2) := by
  cases ht : op.target with
  | some b =>
    obtain ⟨u, f, hf, sh⟩ := step_mutation_shape s op ht
    rw [hf]
    simp only [Spec.mutate, getHeld_abs]
    generalize step s op = r at sh ⊢
    cases sh with
    | key hc => rw [hc]; rfl
    | fail e hc he => simp only [hc, Option.map_some, he]
    | write r o hc hr hip hv =>
      simp only [Spec.Disciplined, hip] at hd
      obtain ⟨hlt, hnd⟩ := live_unit I hc
      simp only [hc, Option.map_some, hv (hnd hd) hlt, abs_write I hc hd hr]
    | rebind x h' hc e _ hv => simp only [hc, Option.map_some, hv (live_unit I hc).1, abs_rebind I e hc]
  | none =>
    have hg : (abs s).g = absG s.g s.h := rfl
    cases op with
    | extract id =>
      simp only [Spec.step, step, hg, extract_refines I.gok id]
      cases he : extract s.g s.h id with
      | error e => rfl
      | ok y =>
        obtain ⟨h', b⟩ := y
        have := abs_append I (extract_spec I.gok he).1 [⟨b, true⟩]
        simp only [this, List.map_cons, List.map_nil]
        rfl
    | active =>
      simp only [Spec.step, step, hg, extractActive, independent_absG _ _ M, extractMany_refines _ I.gok]
      cases he : extractMany s.g s.h s.g.lift.independent with
      | error e => rfl
      | ok y =>
        obtain ⟨h', bs⟩ := y
        have := abs_append I (extractMany_spec _ I.gok he).1
          ((bs.mergeSort (fun a b => lexLe a.key b.key)).map (⟨·, true⟩))
        simp only [this, List.map_map]
        have hs := List.map_mergeSort (r := fun a b : Branch α => lexLe a.key b.key)
          (s := fun a b : List (UVal α) => lexLe (Spec.key a) (Spec.key b)) (f := readBranch h') (l := bs)
          (fun a _ b _ => by simp only [key_readBranch])
        simp only [Except.map]
        rw [← hs, List.map_map]
        rfl
    | global =>
      simp only [Spec.step, step, hg]
      have := abs_append I (Ext.refl s.h) ((extractGlobal s.g s.h).map (⟨·, false⟩))
      rw [this]
      have hr := readGlobal_eq s.g s.h
      simp only [readGlobal] at hr
      have hlen : (absG s.g s.h).phys.length = s.g.roots.length := by simp [absG]
      simp only [List.map_map, hlen]
      have : (List.range s.g.roots.length).map (fun r => (Spec.branch (absG s.g s.h) [r], false)) =
          ((List.range s.g.roots.length).map (fun r => Spec.branch (absG s.g s.h) [r])).map (·, false) := by
        simp only [List.map_map]; rfl
      rw [hg, this, ← hr, List.map_map]
      rfl
    | insert sel =>
      simp only [Spec.step, step]
      have hsel := selBranches_refines s.h s.live sel
      rw [show (abs s).held = s.live.map (fun L => (readBranch s.h L.b, L.iso)) from rfl, hsel]
      cases hs : selBranches s.live sel with
      | none => rfl
      | some bs =>
        simp only [Option.map_some, Store.insert, ← units_flatten, insertUnits_refines, abs,
          markInserted_refines]
    | _ => simp [Op.target] at ht

/-- the simulation invariant of the refinement -/
structure Sim (s : Sess α) : Prop where
  inv : Inv s
  mirror : LiftMirror s.g.lift

theorem Sim.step {s : Sess α} (G : Sim s) (op : Op α) : Sim (step s op).1 :=
  ⟨inv_step G.inv op, lift_run LiftMirror.set G.mirror [op]⟩

/-- everything read from the global state is a function of `absG` -/
theorem reads_absG {g : Global α} {h h' : Heap α} (ha : absG g h' = absG g h) :
    (∀ id, readAt g h' id = readAt g h id) ∧ readGlobal g h' = readGlobal g h :=
  ⟨fun id => by rw [← unitAt_absG, ← unitAt_absG, ha], by rw [readGlobal_eq, readGlobal_eq, ha]⟩

theorem Op.target_of_inPlace {op : Op α} {b : Nat} (h : op.inPlace = some b) : op.target = some b := by
  cases op <;> simp_all [Op.inPlace, Op.target]

/-- mutations through isolated branches only: the discipline holds -/
theorem disciplined_of_iso {s : Sess α} {op : Op α}
    (hm : ∀ b, op.target = some b → ∃ L, s.live[b]? = some L ∧ L.iso = true) : Spec.Disciplined (abs s) op := by
  simp only [Spec.Disciplined]
  split
  · next b hb =>
    obtain ⟨L, hL, hiso⟩ := hm b (Op.target_of_inPlace hb)
    simp [abs, hL, hiso]
  · trivial

end JF.Store
