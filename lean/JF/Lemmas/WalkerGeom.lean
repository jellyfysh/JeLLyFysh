import JF.Model.Walker
import JF.Lemmas.CellsGeom
import Mathlib.Data.Nat.ModEq
/-!
Helper lemmas for C18: the exact reading of `CuboidPeriodicCells.translate` / `position_to_cell` on a cell
system whose cell boundaries are the exact multiples of the cell side length.
-/
namespace JF.Walker

theorem getElem!_map_range (f : ℕ → ℚ) (n i : ℕ) (h : i < n) : ((List.range n).map f)[i]! = f i := by
  simp [h]

theorem pymod_rat_nonneg (x y : ℚ) (hx : 0 ≤ x) (hy : 0 < y) : pymod Ops.rat x y = x - y * ⌊x / y⌋ :=
  pymod_rat_pos x y hy

/-- a direction of an exact cell system: `cell_min[i] = i·side`, `cell_max[i] = (i+1)·side`, `L = n·side` -/
def DimExact (D : Dim ℚ) : Prop :=
  0 < D.n ∧ ∃ side : ℚ, 0 < side ∧ D.len = D.n * side ∧
    D.cmin = (List.range D.n).map (fun i : ℕ => (i : ℚ) * side) ∧
    D.cmax = (List.range D.n).map (fun i : ℕ => ((i : ℚ) + 1) * side)

theorem centre_in_cell (k : ℚ) {side : ℚ} (hs : 0 < side) :
    k * side < (k + 1 / 2) * side ∧ (k + 1 / 2) * side < (k + 1) * side :=
  ⟨by linarith, by linarith⟩

theorem translate_dim (D : Dim ℚ) (hD : DimExact D) (c r : ℕ) :
    ∃ p : ℚ, pywrap Ops.rat ((D.cmax[c % D.n]! + D.cmin[c % D.n]!) / Ops.rat.ofInt 2 + D.cmin[r % D.n]!) D.len = p ∧
      0 ≤ p ∧ p ≤ D.len ∧
      min (Ops.rat.toInt (p / (D.len / Ops.rat.ofInt D.n))) ((D.n : ℤ) - 1) = (((c % D.n + r % D.n) % D.n : ℕ) : ℤ) := by
  obtain ⟨hn, side, hs, hlen, hmin, hmax⟩ := hD
  have ha : c % D.n < D.n := Nat.mod_lt _ hn
  have ho : r % D.n < D.n := Nat.mod_lt _ hn
  have hnq : (D.n : ℚ) ≠ 0 := by exact_mod_cast hn.ne'
  -- the entry is the centre of cell `c % n + r % n` of the unwrapped grid
  have hx : (D.cmax[c % D.n]! + D.cmin[c % D.n]!) / Ops.rat.ofInt 2 + D.cmin[r % D.n]!
      = (((c % D.n + r % D.n : ℕ) : ℚ) + 1 / 2) * side := by
    rw [hmin, hmax, getElem!_map_range _ _ _ ha, getElem!_map_range _ _ _ ha, getElem!_map_range _ _ _ ho]
    simp only [rat_ofInt]; push_cast; ring
  have hside : D.len / Ops.rat.ofInt D.n = side := by
    rw [hlen, rat_ofInt, Int.cast_natCast, mul_div_cancel_left₀ _ hnq]
  have hL : D.len = ((D.n : ℤ) : ℚ) * side := by rw [hlen, Int.cast_natCast]
  obtain ⟨h0, h1, hd⟩ := Cells.digit_pywrap (n := D.n) (m := ((c % D.n + r % D.n : ℕ) : ℤ)) hs (by exact_mod_cast hn)
    (x := (((c % D.n + r % D.n : ℕ) : ℚ) + 1 / 2) * side) (by rw [Int.cast_natCast]; exact (centre_in_cell _ hs).1)
    (by rw [Int.cast_natCast]; exact (centre_in_cell _ hs).2)
  rw [hx, hside, hL, Int.natCast_mod]
  exact ⟨_, rfl, h0, h1, hd⟩

/-- the list index of the cell at offset `r` from cell `c` -/
def addIdx : List Nat → Nat → Nat → Nat
  | [], _, _ => 0
  | n :: ns, c, r => (c % n + r % n) % n + n * addIdx ns (c / n) (r / n)

/-- identifier of the cell at an offset: component-wise sum modulo the number of cells -/
def offsetId : List Nat → List Nat → List Nat → List Nat
  | n :: ns, a :: as, o :: os => (a + o) % n :: offsetId ns as os
  | _, _, _ => []

theorem addIdx_lt (ns : List Nat) (hpos : ∀ n ∈ ns, 0 < n) (c r : Nat) : addIdx ns c r < numCells ns := by
  induction ns generalizing c r with
  | nil => simp [addIdx, numCells]
  | cons n ns ih =>
    obtain ⟨hn, htail⟩ := List.forall_mem_cons.mp hpos
    have h1 : (c % n + r % n) % n < n := Nat.mod_lt _ hn
    simp only [addIdx, numCells]
    calc (c % n + r % n) % n + n * addIdx ns (c / n) (r / n)
        < n * (addIdx ns (c / n) (r / n) + 1) := by rw [Nat.mul_succ]; omega
      _ ≤ n * numCells ns := Nat.mul_le_mul_left _ (ih htail (c / n) (r / n))

/-- **offset mapping**: the identifier of `addIdx ns c r` is the component-wise sum of the identifiers of
`c` and `r` modulo the numbers of cells -/
theorem cellId_addIdx (ns : List Nat) (hpos : ∀ n ∈ ns, 0 < n) (c r : Nat) :
    cellId ns (addIdx ns c r) = offsetId ns (cellId ns c) (cellId ns r) := by
  induction ns generalizing c r with
  | nil => simp [cellId, offsetId]
  | cons n ns ih =>
    obtain ⟨hn, htail⟩ := List.forall_mem_cons.mp hpos
    have h1 : (c % n + r % n) % n < n := Nat.mod_lt _ hn
    simp only [cellId, addIdx, offsetId]
    rw [Nat.add_mul_mod_self_left, Nat.mod_eq_of_lt h1, Nat.add_mul_div_left _ _ hn, Nat.div_eq_of_lt h1, zero_add,
      ih htail]

theorem translate_dims (dims : List (Dim ℚ)) (hex : ∀ D ∈ dims, DimExact D) (c r : ℕ) :
    posInBox Ops.rat dims (translatePos Ops.rat dims c r) = true ∧
    posIndex Ops.rat dims (translatePos Ops.rat dims c r) = ((addIdx (dims.map (·.n)) c r : ℕ) : ℤ) := by
  induction dims generalizing c r with
  | nil => simp [posInBox, posIndex, addIdx]
  | cons D Ds ih =>
    obtain ⟨hD, htail⟩ := List.forall_mem_cons.mp hex
    obtain ⟨p, hp, h0, hL, hi⟩ := translate_dim D hD c r
    obtain ⟨ih1, ih2⟩ := ih htail (c / D.n) (r / D.n)
    simp only [translatePos, posInBox, posIndex, List.map_cons, addIdx]
    rw [hp, hi, ih1, ih2]
    refine ⟨by simp [h0, hL], by push_cast; ring⟩

theorem ns_pos (g : Grid ℚ) (hex : ∀ D ∈ g.dims, DimExact D) : ∀ n ∈ g.ns, 0 < n := by
  intro n hn
  obtain ⟨D, hD, rfl⟩ := List.mem_map.mp hn
  exact (hex D hD).1

/-- **`translate` on an exact periodic cell system returns the cell at the offset** -/
theorem translate_rat (g : Grid ℚ) (hex : ∀ D ∈ g.dims, DimExact D) (c r : ℕ) :
    translate Ops.rat g c r = .ok (addIdx g.ns c r) := by
  obtain ⟨h1, h2⟩ := translate_dims g.dims hex c r
  have hlt := addIdx_lt g.ns (ns_pos g hex) c r
  simp only [translate, posToCell, h1, Bool.not_true, Bool.false_eq_true, if_false, h2, pyIndex]
  simp only [Grid.ns] at hlt ⊢
  simp [hlt]


theorem addIdx_injective (ns : List Nat) (hpos : ∀ n ∈ ns, 0 < n) (c r₁ r₂ : Nat)
    (h₁ : r₁ < numCells ns) (h₂ : r₂ < numCells ns) (h : addIdx ns c r₁ = addIdx ns c r₂) : r₁ = r₂ := by
  induction ns generalizing c r₁ r₂ with
  | nil => simp only [numCells] at h₁ h₂; omega
  | cons n ns ih =>
    obtain ⟨hn, htail⟩ := List.forall_mem_cons.mp hpos
    have hlt : ∀ r, (c % n + r % n) % n < n := fun r => Nat.mod_lt _ hn
    simp only [addIdx] at h
    simp only [numCells] at h₁ h₂
    have hmod := congrArg (· % n) h
    have hdiv := congrArg (· / n) h
    simp only [Nat.add_mul_mod_self_left, Nat.mod_eq_of_lt (hlt _), Nat.add_mul_div_left _ _ hn,
      Nat.div_eq_of_lt (hlt _), zero_add] at hmod hdiv
    have hq : r₁ / n = r₂ / n := ih htail (c / n) _ _
      (Nat.div_lt_of_lt_mul h₁) (Nat.div_lt_of_lt_mul h₂) hdiv
    have hr : r₁ % n = r₂ % n :=
      (Nat.ModEq.add_left_cancel' (c % n) hmod).eq_of_lt_of_lt (Nat.mod_lt _ hn) (Nat.mod_lt _ hn)
    calc r₁ = n * (r₁ / n) + r₁ % n := (Nat.div_add_mod r₁ n).symm
      _ = n * (r₂ / n) + r₂ % n := by rw [hq, hr]
      _ = r₂ := Nat.div_add_mod r₂ n

end JF.Walker
