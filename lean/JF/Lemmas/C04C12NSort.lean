import JF.Model.Thinning
/-!
# The pieces of `_pass_composite_object_velocity` on two composite objects, for any number of leaf units

`sortUnits` (the model of Python's stable `sorted` in `_construct_leaf_units_of_composite_objects`) leaves a sorted list
alone and swaps two sorted blocks of which the second lies strictly below the first; hence `constructComposite` finds
the moving block and the block at rest whichever of the two comes first.  The loop over the leaf cnodes (`passStep`) on
the children of one branch whose root has weight one (`x * rw = x`) marks every child and registers one velocity change
per child for the root.
-/
namespace JF.C04C12N
open JF JF.Thin

theorem insSorted_before {α : Type} (x : LUnit α) (A : List (LUnit α))
    (hA : ∀ y ∈ A.head?, idLt x.id y.id = true) : ∀ P : List (LUnit α),
    (∀ y ∈ P, idLt x.id y.id = false) → insSorted x (P ++ A) = P ++ x :: A
  | [], _ => by
    cases A with
    | nil => rfl
    | cons y ys => simp [insSorted, hA y (by simp)]
  | y :: ys, h => by
    have hy : idLt x.id y.id = false := h y (by simp)
    simp only [List.cons_append, insSorted, hy, Bool.false_eq_true, if_false]
    rw [insSorted_before x A hA ys (fun z hz => h z (by simp [hz]))]

theorem foldl_insSorted_before {α : Type} (A : List (LUnit α)) : ∀ (Q P : List (LUnit α)),
    (P ++ Q).Pairwise (fun y x => idLt x.id y.id = false) →
    (∀ x ∈ Q, ∀ y ∈ A.head?, idLt x.id y.id = true) →
    Q.foldl (fun acc u => insSorted u acc) (P ++ A) = P ++ Q ++ A
  | [], P, _, _ => by simp
  | u :: Q, P, h, hA => by
    have h' : (P ++ [u] ++ Q).Pairwise (fun y x => idLt x.id y.id = false) := by simpa using h
    have hu : ∀ y ∈ P, idLt u.id y.id = false := fun y hy => (List.pairwise_append.mp h).2.2 y hy u (by simp)
    rw [List.foldl_cons, insSorted_before u A (hA u (by simp)) P hu, List.append_cons,
      foldl_insSorted_before A Q (P ++ [u]) h' (fun x hx => hA x (by simp [hx]))]
    simp

theorem sortUnits_sorted {α : Type} (us : List (LUnit α))
    (h : us.Pairwise (fun y x => idLt x.id y.id = false)) : sortUnits us = us := by
  have := foldl_insSorted_before [] us [] (by simpa using h) (by simp)
  simpa [sortUnits] using this

theorem sortUnits_swap {α : Type} (A Q : List (LUnit α))
    (hA : A.Pairwise (fun y x => idLt x.id y.id = false)) (hQ : Q.Pairwise (fun y x => idLt x.id y.id = false))
    (hlt : ∀ x ∈ Q, ∀ y ∈ A, idLt x.id y.id = true) : sortUnits (A ++ Q) = Q ++ A := by
  have h1 := sortUnits_sorted A hA
  unfold sortUnits at h1 ⊢
  rw [List.foldl_append, h1]
  have := foldl_insSorted_before A Q [] (by simpa using hQ) (fun x hx y hy => hlt x hx y (List.mem_of_mem_head? hy))
  simpa using this

/-- `_construct_leaf_units_of_composite_objects` on a block `M` with a moving unit and a block `R` at rest of the same
length: the local units are `M`, whichever block the sort puts first -/
theorem constructComposite_blocks {α : Type} (us M R : List (LUnit α)) (hus : us.length = M.length + M.length)
    (hlen : R.length = M.length) (hM : M.all (fun u => u.vel.isNone) = false)
    (hR : R.all (fun u => u.vel.isNone) = true) (hs : sortUnits us = M ++ R ∨ sortUnits us = R ++ M) :
    constructComposite us = some (M, R) := by
  have hmod : (us.length % 2 != 0) = false := by rw [hus, ← Nat.two_mul, Nat.mul_mod_right]; rfl
  have hh : (M.length + M.length) / 2 = M.length := by omega
  rcases hs with hs | hs
  · simp only [constructComposite, hmod, hs, List.length_append, hlen, hh, List.take_left' rfl, List.drop_left' rfl,
      hR, Bool.false_eq_true, if_false, if_true]
  · simp only [constructComposite, hmod, hs, List.length_append, hlen, hh, List.take_left' hlen, List.drop_left' hlen,
      hM, Bool.false_eq_true, if_false]

theorem range_filterMap_getElem? {β γ : Type} (f : β → γ) : ∀ l : List β,
    (List.range l.length).filterMap (fun j => (l[j]?).map f) = l.map f
  | [] => by simp
  | x :: xs => by
    rw [List.length_cons, List.range_succ_eq_map, List.filterMap_cons]
    simp only [List.getElem?_cons_zero, Option.map_some, List.filterMap_map, List.map_cons]
    congr 1
    have := range_filterMap_getElem? f xs
    simpa [Function.comp_def] using this

/-- `_construct_leaf_cnodes` on two branches that both have children: the children of the first, then of the second -/
theorem leafRefs_pair {α : Type} (X Y : CNode α) (hX : X.children ≠ []) (hY : Y.children ≠ []) :
    leafRefs [X, Y] = (List.range X.children.length).map (fun j => (0, some j))
      ++ (List.range Y.children.length).map (fun j => (1, some j)) := by
  simp only [leafRefs, List.zipIdx, List.flatMap_cons, List.flatMap_nil, List.isEmpty_iff, hX, hY, if_false,
    List.append_nil, Nat.zero_add]

theorem leafUnits_pair {α : Type} (X Y : CNode α) (hX : X.children ≠ []) (hY : Y.children ≠ []) :
    leafUnits [X, Y] = X.children.map (·.1) ++ Y.children.map (·.1) := by
  simp only [leafUnits, leafRefs_pair X Y hX hY, List.filterMap_append, List.filterMap_map, Function.comp_def,
    getLeaf, List.getElem?_cons_zero, List.getElem?_cons_succ]
  rw [range_filterMap_getElem?, range_filterMap_getElem?]

theorem zipIdx_map_ite_of_lt {β : Type} (f : β → β) (k : Nat) : ∀ (l : List β) (m : Nat), k < m →
    (l.zipIdx m).map (fun (x, i) => if i == k then f x else x) = l
  | [], _, _ => rfl
  | x :: l, m, h => by
    have hm : (m == k) = false := by simp; omega
    simp only [List.zipIdx_cons, List.map_cons, hm, Bool.false_eq_true, if_false]
    rw [zipIdx_map_ite_of_lt f k l (m + 1) (by omega)]

/-- the index test of `setLeaf` changes the one entry behind the prefix -/
theorem zipIdx_map_ite {β : Type} (f : β → β) (x : β) (post : List β) (k : Nat) : ∀ (pre : List β) (m : Nat),
    k = m + pre.length →
    ((pre ++ x :: post).zipIdx m).map (fun (y, i) => if i == k then f y else y) = pre ++ f x :: post
  | [], m, hk => by
    have hm : (m == k) = true := by simp [hk]
    simp only [List.nil_append, List.zipIdx_cons, List.map_cons, hm, if_true]
    rw [zipIdx_map_ite_of_lt f k post (m + 1) (by simp [hk])]
  | p :: pre, m, hk => by
    have hm : (m == k) = false := by simp [hk]
    simp only [List.cons_append, List.zipIdx_cons, List.map_cons, hm, Bool.false_eq_true, if_false]
    rw [zipIdx_map_ite f x post k pre (m + 1) (by simp [hk]; omega)]

variable {α : Type}

theorem setLeaf_child (pre post : List (CNode α)) (ru : LUnit α) (rw : α) (done todo : List (LUnit α × α))
    (cw : LUnit α × α) (u : LUnit α) :
    setLeaf (pre ++ ⟨ru, rw, done ++ cw :: todo⟩ :: post) (pre.length, some done.length) u
      = pre ++ ⟨ru, rw, done ++ (u, cw.2) :: todo⟩ :: post := by
  have h1 := zipIdx_map_ite (fun c : CNode α => { c with children := c.children.zipIdx.map fun (cw', jj) =>
    if jj == done.length then (u, cw'.2) else cw' }) ⟨ru, rw, done ++ cw :: todo⟩ post pre.length pre 0 (Nat.zero_add _).symm
  have h2 := zipIdx_map_ite (fun cw' : LUnit α × α => (u, cw'.2)) cw todo done.length done 0 (Nat.zero_add _).symm
  simp only [setLeaf]
  rw [h1, h2]

/-- what the loop does to one leaf unit: a local unit comes to rest, a target unit gets the velocity and the event
time -/
def passMark (et : Time α) (vel : List α) (loc : Bool) (u : LUnit α) : LUnit α :=
  if loc then { u with vel := none, ts := none } else { u with vel := some vel, ts := some et }

variable [Add α] [Mul α]

theorem passStep_child (et : Time α) (ids : List (List Nat)) (pre post : List (CNode α)) (ru : LUnit α) (rw : α)
    (done todo : List (LUnit α × α)) (cw : LUnit α × α) (ch : List (List Nat × List α)) (neg vel : List α) :
    passStep et ids ⟨pre ++ ⟨ru, rw, done ++ cw :: todo⟩ :: post, ch, neg, vel⟩ (pre.length, some done.length)
      = if ids.contains cw.1.id then
          ⟨pre ++ ⟨ru, rw, done ++ (passMark et vel true cw.1, cw.2) :: todo⟩ :: post,
            register ch ru.id (neg.map (· * cw.2)), neg.map (· * rw), vel⟩
        else
          ⟨pre ++ ⟨ru, rw, done ++ (passMark et vel false cw.1, cw.2) :: todo⟩ :: post,
            register ch ru.id (vel.map (· * cw.2)), neg, vel.map (· * rw)⟩ := by
  simp only [passStep, getLeaf, List.getElem?_append_right (Nat.le_refl _), Nat.sub_self, List.getElem?_cons_zero,
    Option.map_some, setLeaf_child, passMark, if_true, Bool.false_eq_true, if_false]

theorem foldl_passStep_children (et : Time α) (ids : List (List Nat)) (pre post : List (CNode α)) (ru : LUnit α)
    (rw : α) (hrw : ∀ x : α, x * rw = x) (loc : Bool) (neg vel : List α) :
    ∀ (todo done : List (LUnit α × α)) (ch : List (List Nat × List α)),
    (∀ cw ∈ todo, ids.contains cw.1.id = loc) →
    ((List.range' done.length todo.length).map fun j => (pre.length, some j)).foldl (passStep et ids)
        ⟨pre ++ ⟨ru, rw, done ++ todo⟩ :: post, ch, neg, vel⟩
      = ⟨pre ++ ⟨ru, rw, done ++ todo.map fun cw => (passMark et vel loc cw.1, cw.2)⟩ :: post,
          todo.foldl (fun ch cw => register ch ru.id ((if loc then neg else vel).map (· * cw.2))) ch, neg, vel⟩
  | [], done, ch, _ => by simp
  | cw :: todo, done, ch, h => by
    have hmap : ∀ l : List α, l.map (· * rw) = l := fun l => by simp [hrw]
    have ih := fun ch' => foldl_passStep_children et ids pre post ru rw hrw loc neg vel todo
      (done ++ [(passMark et vel loc cw.1, cw.2)]) ch' (fun x hx => h x (by simp [hx]))
    simp only [List.length_append, List.length_singleton, List.append_assoc, List.singleton_append] at ih
    rw [List.length_cons, List.range'_succ, List.map_cons, List.foldl_cons, passStep_child,
      h cw (by simp), hmap, hmap]
    cases loc
    · simp only [Bool.false_eq_true, if_false]
      rw [ih]; rfl
    · simp only [if_true]
      rw [ih]; rfl

end JF.C04C12N
