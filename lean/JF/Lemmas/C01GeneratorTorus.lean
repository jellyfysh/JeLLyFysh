import JF.Lemmas.C01GeneratorCircle
import Mathlib.MeasureTheory.Integral.Prod
import Mathlib.Analysis.Calculus.Deriv.Prod
import Mathlib.Analysis.Calculus.Deriv.Shift
import Mathlib.Analysis.Calculus.ContDiff.Basic
/-!
# Calculus on the two-torus for the two-variable instance of C01's generator statement

Plain Mathlib analysis: functions of the two positions `(x₁, x₂) ∈ ℝ × ℝ`, `C¹` and `L`-periodic in each variable; the
partial derivatives `d1`, `d2`; the iterated integral over one period in each variable `I2`; and **integration by parts
against the Boltzmann weight in either variable without boundary term** (`torus_ibp_d1`, `torus_ibp_d2`; the first one
swaps the order of integration — Fubini for a continuous function on a compact rectangle).
-/
namespace JF.C01Generator.Torus
open Real intervalIntegral MeasureTheory JF.C01Generator.Circle

def Smooth2 (L : ℝ) (G : ℝ × ℝ → ℝ) : Prop :=
  ContDiff ℝ 1 G ∧ (∀ a b, G (a + L, b) = G (a, b)) ∧ (∀ a b, G (a, b + L) = G (a, b))

noncomputable def d1 (G : ℝ × ℝ → ℝ) : ℝ × ℝ → ℝ := fun p => deriv (fun a => G (a, p.2)) p.1
noncomputable def d2 (G : ℝ × ℝ → ℝ) : ℝ × ℝ → ℝ := fun p => deriv (fun b => G (p.1, b)) p.2

noncomputable def I2 (L : ℝ) (G : ℝ × ℝ → ℝ) : ℝ := ∫ a in (0:ℝ)..L, ∫ b in (0:ℝ)..L, G (a, b)

theorem Smooth2.add {L : ℝ} {F G : ℝ × ℝ → ℝ} (hF : Smooth2 L F) (hG : Smooth2 L G) : Smooth2 L (F + G) :=
  ⟨hF.1.add hG.1, fun a b => by simp [hF.2.1 a b, hG.2.1 a b], fun a b => by simp [hF.2.2 a b, hG.2.2 a b]⟩

theorem Smooth2.zero (L : ℝ) : Smooth2 L (0 : ℝ × ℝ → ℝ) :=
  ⟨contDiff_const, fun _ _ => rfl, fun _ _ => rfl⟩

theorem Smooth2.smul {L : ℝ} (c : ℝ) {G : ℝ × ℝ → ℝ} (hG : Smooth2 L G) : Smooth2 L (c • G) :=
  ⟨hG.1.const_smul c, fun a b => by simp [hG.2.1 a b], fun a b => by simp [hG.2.2 a b]⟩

theorem Smooth2.continuous {L : ℝ} {G : ℝ × ℝ → ℝ} (hG : Smooth2 L G) : Continuous G := hG.1.continuous

theorem Smooth2.slice1 {L : ℝ} {G : ℝ × ℝ → ℝ} (hG : Smooth2 L G) (b : ℝ) : Smooth L (fun a => G (a, b)) :=
  ⟨hG.1.comp (contDiff_id.prodMk contDiff_const), fun a => hG.2.1 a b⟩

theorem Smooth2.slice2 {L : ℝ} {G : ℝ × ℝ → ℝ} (hG : Smooth2 L G) (a : ℝ) : Smooth L (fun b => G (a, b)) :=
  ⟨hG.1.comp (contDiff_const.prodMk contDiff_id), fun b => hG.2.2 a b⟩

theorem deriv_along {G : ℝ × ℝ → ℝ} (hG : Differentiable ℝ G) {γ : ℝ → ℝ × ℝ} {v : ℝ × ℝ} {t : ℝ}
    (hγ : HasDerivAt γ v t) : deriv (fun a => G (γ a)) t = fderiv ℝ G (γ t) v :=
  ((hG (γ t)).hasFDerivAt.comp_hasDerivAt t hγ).deriv

theorem d1_eq_fderiv {L : ℝ} {G : ℝ × ℝ → ℝ} (hG : Smooth2 L G) (p : ℝ × ℝ) : d1 G p = fderiv ℝ G p (1, 0) :=
  deriv_along (hG.1.differentiable one_ne_zero) ((hasDerivAt_id p.1).prodMk (hasDerivAt_const p.1 p.2))

theorem d2_eq_fderiv {L : ℝ} {G : ℝ × ℝ → ℝ} (hG : Smooth2 L G) (p : ℝ × ℝ) : d2 G p = fderiv ℝ G p (0, 1) :=
  deriv_along (hG.1.differentiable one_ne_zero) ((hasDerivAt_const p.2 p.1).prodMk (hasDerivAt_id p.2))

theorem Smooth2.continuous_d1 {L : ℝ} {G : ℝ × ℝ → ℝ} (hG : Smooth2 L G) : Continuous (d1 G) :=
  funext (d1_eq_fderiv hG) ▸ (hG.1.continuous_fderiv one_ne_zero).clm_apply continuous_const

theorem Smooth2.continuous_d2 {L : ℝ} {G : ℝ × ℝ → ℝ} (hG : Smooth2 L G) : Continuous (d2 G) :=
  funext (d2_eq_fderiv hG) ▸ (hG.1.continuous_fderiv one_ne_zero).clm_apply continuous_const

theorem d1_add {L : ℝ} {F G : ℝ × ℝ → ℝ} (hF : Smooth2 L F) (hG : Smooth2 L G) : d1 (F + G) = d1 F + d1 G := by
  funext p
  exact congrFun (Smooth.deriv_add (hF.slice1 p.2) (hG.slice1 p.2)) p.1

theorem d2_add {L : ℝ} {F G : ℝ × ℝ → ℝ} (hF : Smooth2 L F) (hG : Smooth2 L G) : d2 (F + G) = d2 F + d2 G := by
  funext p
  exact congrFun (Smooth.deriv_add (hF.slice2 p.1) (hG.slice2 p.1)) p.2

theorem d1_smul {L : ℝ} (c : ℝ) {G : ℝ × ℝ → ℝ} (hG : Smooth2 L G) : d1 (c • G) = c • d1 G := by
  funext p
  exact congrFun (Smooth.deriv_smul c (hG.slice1 p.2)) p.1

theorem d2_smul {L : ℝ} (c : ℝ) {G : ℝ × ℝ → ℝ} (hG : Smooth2 L G) : d2 (c • G) = c • d2 G := by
  funext p
  exact congrFun (Smooth.deriv_smul c (hG.slice2 p.1)) p.2

theorem continuous_inner {G : ℝ × ℝ → ℝ} (hG : Continuous G) (L : ℝ) :
    Continuous fun a => ∫ b in (0:ℝ)..L, G (a, b) :=
  continuous_parametric_intervalIntegral_of_continuous' (f := fun a b => G (a, b))
    (by
      have : Function.uncurry (fun a b => G (a, b)) = G := by funext ⟨a, b⟩; rfl
      rw [this]; exact hG) 0 L

theorem continuous_inner' {G : ℝ × ℝ → ℝ} (hG : Continuous G) (L : ℝ) :
    Continuous fun b => ∫ a in (0:ℝ)..L, G (a, b) :=
  continuous_parametric_intervalIntegral_of_continuous' (f := fun b a => G (a, b))
    (by
      have : Function.uncurry (fun b a => G (a, b)) = G ∘ Prod.swap := by funext ⟨b, a⟩; rfl
      rw [this]; exact hG.comp continuous_swap) 0 L

theorem I2_add (L : ℝ) {F G : ℝ × ℝ → ℝ} (hF : Continuous F) (hG : Continuous G) :
    I2 L (F + G) = I2 L F + I2 L G := by
  unfold I2
  rw [← integral_add ((continuous_inner hF L).intervalIntegrable _ _) ((continuous_inner hG L).intervalIntegrable _ _)]
  apply integral_congr
  intro a _
  simp only [Pi.add_apply]
  exact integral_add
    (Continuous.intervalIntegrable (hF.comp (continuous_const.prodMk continuous_id)) _ _)
    (Continuous.intervalIntegrable (hG.comp (continuous_const.prodMk continuous_id)) _ _)

theorem I2_smul (L c : ℝ) (G : ℝ × ℝ → ℝ) : I2 L (c • G) = c * I2 L G := by
  unfold I2
  simp only [Pi.smul_apply, smul_eq_mul, intervalIntegral.integral_const_mul]

/-- Fubini for a continuous function on the periodic box -/
theorem I2_swap (L : ℝ) {G : ℝ × ℝ → ℝ} (hG : Continuous G) :
    I2 L G = ∫ b in (0:ℝ)..L, ∫ a in (0:ℝ)..L, G (a, b) := by
  unfold I2
  apply intervalIntegral_intervalIntegral_swap (F := fun a b => G (a, b))
  have hu : Function.uncurry (fun a b => G (a, b)) = G := by funext ⟨a, b⟩; rfl
  rw [hu]
  have hcomp : IsCompact (Set.uIcc (0:ℝ) L ×ˢ Set.uIcc (0:ℝ) L) := isCompact_uIcc.prod isCompact_uIcc
  exact (hG.continuousOn.integrableOn_compact hcomp).mono_set
    (Set.prod_mono Set.uIoc_subset_uIcc Set.uIoc_subset_uIcc)

/-- in the second variable: inner integral, directly from the circle -/
theorem torus_ibp_d2 (L β : ℝ) {U g : ℝ × ℝ → ℝ} (hU : Smooth2 L U) (hg : Smooth2 L g) :
    I2 L (fun p => exp (-β * U p) * d2 g p) = β * I2 L (fun p => exp (-β * U p) * g p * d2 U p) := by
  unfold I2
  rw [← intervalIntegral.integral_const_mul]
  apply integral_congr
  intro a _
  exact periodic_boltzmann_ibp L β (hU.slice2 a) (hg.slice2 a)

/-- in the first variable: swap the order of integration, integrate by parts on the circle, swap back -/
theorem torus_ibp_d1 (L β : ℝ) {U g : ℝ × ℝ → ℝ} (hU : Smooth2 L U) (hg : Smooth2 L g) :
    I2 L (fun p => exp (-β * U p) * d1 g p) = β * I2 L (fun p => exp (-β * U p) * g p * d1 U p) := by
  have hw : Continuous fun p => exp (-β * U p) := Real.continuous_exp.comp (continuous_const.mul hU.continuous)
  have hc1 : Continuous fun p => exp (-β * U p) * d1 g p := hw.mul hg.continuous_d1
  have hc2 : Continuous fun p => exp (-β * U p) * g p * d1 U p := (hw.mul hg.continuous).mul hU.continuous_d1
  rw [I2_swap L hc1, I2_swap L hc2, ← intervalIntegral.integral_const_mul]
  apply integral_congr
  intro b _
  exact periodic_boltzmann_ibp L β (hU.slice1 b) (hg.slice1 b)

/-- the pair energy `u(x₂ − x₁)` of a `C¹` periodic function `u` of the separation -/
def pairEnergy (u : ℝ → ℝ) : ℝ × ℝ → ℝ := fun p => u (p.2 - p.1)

theorem pairEnergy_smooth {L : ℝ} {u : ℝ → ℝ} (hu : Smooth L u) : Smooth2 L (pairEnergy u) := by
  refine ⟨hu.1.comp (contDiff_snd.sub contDiff_fst), fun a b => ?_, fun a b => ?_⟩
  · show u (b - (a + L)) = u (b - a)
    have := hu.2 (b - (a + L))
    rw [← this]; congr 1; ring
  · show u (b + L - a) = u (b - a)
    have := hu.2 (b - a)
    rw [← this]; congr 1; ring

theorem d1_pairEnergy (u : ℝ → ℝ) (p : ℝ × ℝ) : d1 (pairEnergy u) p = -deriv u (p.2 - p.1) := by
  show deriv (fun a => u (p.2 - a)) p.1 = _
  exact deriv_comp_const_sub ..

theorem d2_pairEnergy (u : ℝ → ℝ) (p : ℝ × ℝ) : d2 (pairEnergy u) p = deriv u (p.2 - p.1) := by
  show deriv (fun b => u (b - p.1)) p.2 = _
  exact deriv_comp_sub_const ..

end JF.C01Generator.Torus
