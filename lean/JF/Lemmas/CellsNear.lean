import JF.Lemmas.CellsInt
import Mathlib.Data.List.Forall2
/-!
Integer lemmas for the neighbour windows: `itertools.product` of ranges, wrapping, clipping, and the
torus laws of index arithmetic modulo the number of cells per side.
-/
namespace JF.Cells

/-- `R n_d a_d b_d` in every direction `d` (the three lists run together) -/
def Dirs (R : Int → Int → Int → Prop) : List Int → List Int → List Int → Prop
  | [], [], [] => True
  | n :: ns, a :: as, b :: bs => R n a b ∧ Dirs R ns as bs
  | _, _, _ => False

/-- `t` is reached from `i` by at most `ℓ` index steps per direction, modulo `n` (periodic grid) -/
def NearMod (ℓ : Int) : List Int → List Int → List Int → Prop :=
  Dirs fun n i t => ∃ k : Int, -ℓ ≤ k ∧ k ≤ ℓ ∧ t = (i + k) % n

/-- `t` is a valid identifier at most `ℓ` index steps from `i` per direction (non-periodic grid) -/
def NearClip (ℓ : Int) : List Int → List Int → List Int → Prop :=
  Dirs fun n i t => i - ℓ ≤ t ∧ t ≤ i + ℓ ∧ 0 ≤ t ∧ t < n

/-- the nearby relation of a cell system: `NearMod` on a periodic grid, `NearClip` otherwise -/
def Near (periodic : Bool) (ℓ : Int) (n a b : List Int) : Prop :=
  if periodic then NearMod ℓ n a b else NearClip ℓ n a b

/-- `(a - b) mod n`, per direction -/
def subMod : List Int → List Int → List Int → List Int
  | n :: ns, a :: as, b :: bs => (a - b) % n :: subMod ns as bs
  | _, _, _ => []

/-- `(a + b) mod n`, per direction -/
def addMod : List Int → List Int → List Int → List Int
  | n :: ns, a :: as, b :: bs => (a + b) % n :: addMod ns as bs
  | _, _, _ => []

theorem mem_intRange (lo : Int) (c : Nat) (x : Int) : x ∈ intRange lo c ↔ lo ≤ x ∧ x < lo + c := by
  simp only [intRange, List.mem_map, List.mem_range]
  constructor
  · rintro ⟨k, hk, rfl⟩
    simp only [Int.ofNat_eq_natCast]; omega
  · rintro ⟨h1, h2⟩
    refine ⟨(x - lo).toNat, by omega, ?_⟩
    simp only [Int.ofNat_eq_natCast]; omega

theorem mem_window {ℓ : Int} (hℓ : 0 ≤ ℓ) (i x : Int) :
    x ∈ intRange (i - ℓ) (2 * ℓ + 1).toNat ↔ i - ℓ ≤ x ∧ x ≤ i + ℓ := by
  rw [mem_intRange]; omega

theorem mem_product : ∀ (rs : List (List Int)) (t : List Int),
    t ∈ product rs ↔ List.Forall₂ (fun x r => x ∈ r) t rs
  | [], t => by
    simp only [product, List.mem_singleton]
    constructor
    · rintro rfl; exact List.Forall₂.nil
    · intro h; cases h; rfl
  | r :: rs, t => by
    simp only [product, List.mem_flatMap, List.mem_map]
    constructor
    · rintro ⟨x, hx, u, hu, rfl⟩
      exact List.Forall₂.cons hx ((mem_product rs u).mp hu)
    · intro h
      cases h with
      | cons hx hu => exact ⟨_, hx, _, (mem_product rs _).mpr hu, rfl⟩

theorem mem_product_windows {ℓ : Int} (hℓ : 0 ≤ ℓ) (ident t : List Int) :
    t ∈ product (windows ident ℓ) ↔ List.Forall₂ (fun x i => i - ℓ ≤ x ∧ x ≤ i + ℓ) t ident := by
  simp only [mem_product, windows, List.forall₂_map_right_iff, mem_window hℓ]

theorem exists_window_wrap {ℓ : Int} {n ident : List Int} (hv : Valid n ident) (t : List Int) :
    (∃ u, List.Forall₂ (fun x i => i - ℓ ≤ x ∧ x ≤ i + ℓ) u ident ∧ wrapIdent u n = t) ↔ NearMod ℓ n ident t :=
  Valid.rec₂ (motive := fun n ident _ => ∀ t,
      (∃ u, List.Forall₂ (fun x i => i - ℓ ≤ x ∧ x ≤ i + ℓ) u ident ∧ wrapIdent u n = t) ↔ NearMod ℓ n ident t)
    (fun t => by
      constructor
      · rintro ⟨_, ⟨⟩, rfl⟩; trivial
      · cases t with
        | nil => exact fun _ => ⟨[], .nil, rfl⟩
        | cons _ _ => exact False.elim)
    (fun {n i _ ns is _} _ _ _ _ ih t => by
      constructor
      · rintro ⟨u, hu, rfl⟩
        cases hu with
        | @cons x _ us _ hx hu =>
          exact ⟨⟨x - i, by omega, by omega, by rw [add_sub_cancel]⟩, (ih _).mp ⟨us, hu, rfl⟩⟩
      · cases t with
        | nil => exact False.elim
        | cons t0 ts =>
          rintro ⟨⟨k, k0, k1, rfl⟩, hr⟩
          obtain ⟨us, hus, rfl⟩ := (ih ts).mpr hr
          exact ⟨(i + k) :: us, .cons ⟨by omega, by omega⟩ hus, rfl⟩) hv hv t

theorem window_validIdent_iff {ℓ : Int} {n ident : List Int} (hv : Valid n ident) (t : List Int) :
    List.Forall₂ (fun x i => i - ℓ ≤ x ∧ x ≤ i + ℓ) t ident ∧ validIdent t n = true ↔ NearClip ℓ n ident t :=
  Valid.rec₂ (motive := fun n ident _ => ∀ t,
      List.Forall₂ (fun x i => i - ℓ ≤ x ∧ x ≤ i + ℓ) t ident ∧ validIdent t n = true ↔ NearClip ℓ n ident t)
    (fun t => by cases t <;> simp [validIdent, NearClip, Dirs])
    (fun {n i _ ns is _} _ _ _ _ ih t => by
      cases t with
      | nil => simp [NearClip, Dirs]
      | cons t0 ts =>
        have ih := ih ts
        simp only [NearClip] at ih ⊢
        simp only [List.forall₂_cons, validIdent, Bool.and_eq_true, decide_eq_true_eq, Dirs, ← ih]
        exact ⟨fun ⟨⟨⟨a, b⟩, w⟩, ⟨c, d⟩, v⟩ => ⟨⟨a, b, c, d⟩, w, v⟩, fun ⟨⟨a, b, c, d⟩, w, v⟩ => ⟨⟨⟨a, b⟩, w⟩, ⟨c, d⟩, v⟩⟩)
    hv hv t

/-- membership in the identifier list of `_yield_nearby_cells` (`CuboidPeriodicCells`: wrapped; `CuboidCells`: invalid
identifiers skipped) -/
theorem mem_nearbyIdents (periodic : Bool) {ℓ : Int} (hℓ : 0 ≤ ℓ) {n ident : List Int} (t : List Int)
    (hv : Valid n ident) : t ∈ nearbyIdents periodic n ℓ ident ↔ Near periodic ℓ n ident t := by
  cases periodic
  · simp only [nearbyIdents, Bool.false_eq_true, if_false, List.mem_filter, mem_product_windows hℓ]
    exact window_validIdent_iff hv t
  · simp only [nearbyIdents, if_true, List.mem_map, mem_product_windows hℓ]
    exact exists_window_wrap hv t


/-- lockstep induction along `Dirs R` -/
theorem Dirs.rec' {R : Int → Int → Int → Prop} {motive : List Int → List Int → List Int → Prop} (nil : motive [] [] [])
    (cons : ∀ {n a b ns as bs}, R n a b → motive ns as bs → motive (n :: ns) (a :: as) (b :: bs)) :
    ∀ {n a b : List Int}, Dirs R n a b → motive n a b
  | [], [], [], _ => nil
  | _ :: _, _ :: _, _ :: _, h => cons h.1 (Dirs.rec' nil cons h.2)
  | [], [], _ :: _, h | [], _ :: _, _, h | _ :: _, [], _, h | _ :: _, _ :: _, [], h => h.elim

/-- `Dirs R` inherits from `R`, direction by direction: the image is an identifier of the grid, symmetry and reflexivity on
identifiers of the grid -/
theorem Dirs.valid {R : Int → Int → Int → Prop} (hR : ∀ {n a b}, 1 ≤ n → R n a b → 0 ≤ b ∧ b < n) {n a b : List Int}
    (hp : ∀ x ∈ n, 1 ≤ x) (h : Dirs R n a b) : Valid n b :=
  Dirs.rec' (motive := fun n _ b => (∀ x ∈ n, 1 ≤ x) → Valid n b) (fun _ => trivial)
    (fun hr ih hp => have ⟨hn, hp'⟩ := List.forall_mem_cons.mp hp; ⟨(hR hn hr).1, (hR hn hr).2, ih hp'⟩) h hp

theorem Dirs.symm {R : Int → Int → Int → Prop} (hR : ∀ {n a b}, 0 ≤ a → a < n → R n a b → R n b a) {n a b : List Int}
    (hv : Valid n a) (h : Dirs R n a b) : Dirs R n b a :=
  Dirs.rec' (motive := fun n a b => Valid n a → Dirs R n b a) (fun _ => trivial)
    (fun hr ih hv => ⟨hR hv.1 hv.2.1 hr, ih hv.2.2⟩) h hv

theorem Dirs.refl {R : Int → Int → Int → Prop} (hR : ∀ {n a}, 0 ≤ a → a < n → R n a a) {n a : List Int}
    (hv : Valid n a) : Dirs R n a a :=
  Valid.rec₂ (motive := fun n a _ => Dirs R n a a) trivial (fun a0 a1 _ _ ih => ⟨hR a0 a1, ih⟩) hv hv

theorem emod_shift_back {n a k : Int} (a0 : 0 ≤ a) (a1 : a < n) : a = ((a + k) % n + -k) % n := by
  rw [Int.emod_def (a + k) n]
  have : a + k - n * ((a + k) / n) + -k = a + n * (-((a + k) / n)) := by ring
  rw [this, Int.add_mul_emod_self_left, Int.emod_eq_of_lt a0 a1]

theorem Near.valid {p : Bool} {ℓ : Int} {n a b : List Int} (hp : ∀ x ∈ n, 1 ≤ x) (h : Near p ℓ n a b) : Valid n b := by
  cases p
  · exact Dirs.valid (fun _ h => h.2.2) hp h
  · exact Dirs.valid (fun hn ⟨_, _, _, e⟩ => e ▸ ⟨Int.emod_nonneg _ (by omega), Int.emod_lt_of_pos _ (by omega)⟩) hp h

theorem Near.symm {p : Bool} {ℓ : Int} {n a b : List Int} (hv : Valid n a) (h : Near p ℓ n a b) : Near p ℓ n b a := by
  cases p
  · exact Dirs.symm (fun a0 a1 ⟨_, _, _, _⟩ => ⟨by omega, by omega, a0, a1⟩) hv h
  · exact Dirs.symm (fun a0 a1 ⟨k, _, _, e⟩ => ⟨-k, by omega, by omega, e ▸ emod_shift_back a0 a1⟩) hv h

theorem Near.refl {p : Bool} {ℓ : Int} (hℓ : 0 ≤ ℓ) {n a : List Int} (hv : Valid n a) : Near p ℓ n a a := by
  cases p
  · exact Dirs.refl (fun a0 a1 => ⟨by omega, by omega, a0, a1⟩) hv
  · exact Dirs.refl (fun a0 a1 => ⟨0, by omega, hℓ, by rw [add_zero, Int.emod_eq_of_lt a0 a1]⟩) hv

theorem subMod_valid {n a b : List Int} (ha : Valid n a) (hb : Valid n b) : Valid n (subMod n a b) :=
  Valid.rec₂ (motive := fun n a b => Valid n (subMod n a b)) trivial
    (fun a0 a1 _ _ ih => ⟨Int.emod_nonneg _ (a0.trans_lt a1).ne', Int.emod_lt_of_pos _ (a0.trans_lt a1), ih⟩) ha hb

theorem addMod_valid {n a b : List Int} (ha : Valid n a) (hb : Valid n b) : Valid n (addMod n a b) :=
  Valid.rec₂ (motive := fun n a b => Valid n (addMod n a b)) trivial
    (fun a0 a1 _ _ ih => ⟨Int.emod_nonneg _ (a0.trans_lt a1).ne', Int.emod_lt_of_pos _ (a0.trans_lt a1), ih⟩) ha hb

/-- `translate` inverts `relative_cell` on identifiers: `(r + (c - r) mod n) mod n = c` -/
theorem addMod_subMod {n c r : List Int} (hc : Valid n c) (hr : Valid n r) : addMod n r (subMod n c r) = c :=
  Valid.rec₂ (motive := fun n c r => addMod n r (subMod n c r) = c) rfl
    (fun {n c r _ _ _} c0 c1 _ _ ih => by
      show (r + (c - r) % n) % n :: addMod _ _ (subMod _ _ _) = _
      rw [ih, Int.add_emod_emod, add_sub_cancel, Int.emod_eq_of_lt c0 c1]) hc hr

/-- `relative_cell` inverts `translate` on identifiers: `((c + o) mod n - c) mod n = o` -/
theorem subMod_addMod {n c o : List Int} (hc : Valid n c) (ho : Valid n o) : subMod n (addMod n c o) c = o :=
  Valid.rec₂ (motive := fun n c o => subMod n (addMod n c o) c = o) rfl
    (fun {n c o _ _ _} _ _ o0 o1 ih => by
      show ((c + o) % n - c) % n :: subMod _ (addMod _ _ _) _ = _
      rw [ih, Int.emod_sub_emod, add_sub_cancel_left, Int.emod_eq_of_lt o0 o1]) hc ho

/-- translation invariance of the periodic nearby relation:
`c'` is near `c` iff the relative identifier `(c' - c) mod n` is near the zero identifier -/
theorem nearMod_iff_relative {ℓ : Int} {n c c' : List Int} (hv : Valid n c') (hc : Valid n c) :
    NearMod ℓ n c c' ↔ NearMod ℓ n (List.replicate n.length 0) (subMod n c' c) :=
  Valid.rec₂ (motive := fun n c' c => NearMod ℓ n c c' ↔ NearMod ℓ n (List.replicate n.length 0) (subMod n c' c))
    Iff.rfl
    (fun {n c' c _ _ _} v0 v1 _ _ ih => by
      refine and_congr ⟨?_, ?_⟩ ih <;> rintro ⟨k, k0, k1, hk⟩ <;> refine ⟨k, k0, k1, ?_⟩
      · rw [hk, Int.emod_sub_emod, zero_add]; congr 1; ring
      · rw [zero_add] at hk
        have : c' = (c + (c' - c)) % n := by rw [add_sub_cancel, Int.emod_eq_of_lt v0 v1]
        rw [this, Int.add_emod, hk, ← Int.add_emod]) hv hc

end JF.Cells
