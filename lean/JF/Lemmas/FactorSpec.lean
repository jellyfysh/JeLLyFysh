import JF.Model.CellTaggers
import JF.Model.FactorMaps
import JF.Lemmas.FactorCells
import JF.Lemmas.FactorMaps
/-!
Definitions used in the statements of `JF/Props/C10.lean` and the helper lemmas of their proofs
(everything that is not itself a statement of property C10).
-/
namespace JF.C10
open JF.CellTaggers

/-- the cells of the grid that are not nearby `c`, in grid order -/
def nonNearby (g : Grid) (c : Cell) : List Cell := (allCells g.n).filter fun x => !(isNearby g c x)

theorem nodup_nonNearby (g : Grid) (c : Cell) : (nonNearby g c).Nodup :=
  (nodup_allCells g.n).filter _

theorem vetoDomain_eq (g : Grid) : vetoDomain g = nonNearby g (zeroCell g.n) := by
  simp [vetoDomain, vetoDomainKeyed, nonNearby, List.map_map, Function.comp_def]

theorem vetoArgs_filterMap (s : Occ) (c : Cell) : (vetoArgs s c).filterMap id = s.occ c := by
  unfold vetoArgs
  split
  · rename_i h
    have : s.occ c = [] := by simpa using h
    simp [this]
  · induction s.occ c with
    | nil => rfl
    | cons x xs ih => simp

theorem targetsVeto_eq (g : Grid) (s : Occ) (ac : Cell) (a : Ident) (h : s.active = some (ac, a)) :
    targetsVeto g s = ((vetoDomain g).map (translate g.n ac)).flatMap s.occ := by
  simp only [targetsVeto, vetoTargets, h, List.flatMap_map, vetoArgs_filterMap]

theorem flatMap_filter_nonempty {α β : Type} (f : α → List β) (p : α → Bool) (l : List α) :
    (l.filter fun c => !(f c).isEmpty && p c).flatMap f = (l.filter p).flatMap f := by
  induction l with
  | nil => rfl
  | cons x xs ih =>
    cases hp : p x <;> cases he : (f x).isEmpty <;> simp_all

theorem targetsBounding_eq (g : Grid) (s : Occ) (ac : Cell) (a : Ident) (h : s.active = some (ac, a)) :
    targetsBounding g s = (nonNearby g ac).flatMap s.occ := by
  simp only [targetsBounding, cellBoundingTagger, h, nonNearby, List.flatMap_map, List.tail_cons]
  exact flatMap_filter_nonempty s.occ (fun x => !(isNearby g ac x)) _

theorem pairTargets_pairs {α : Type} (a : Ident) (f : α → List Ident) (l : List α) :
    pairTargets (l.flatMap fun x => (f x).map fun o => [a, o]) = l.flatMap f := by
  simp [pairTargets, List.flatMap_assoc, List.flatMap_map]

theorem targetsExcluded_eq (g : Grid) (s : Occ) (ac : Cell) (a : Ident) (h : s.active = some (ac, a)) :
    targetsExcluded g s = (nearby g ac).flatMap s.occ := by
  simp only [targetsExcluded, excludedCellsTagger, h]
  exact pairTargets_pairs a s.occ _

theorem targetsSurplus_eq (s : Occ) (ac : Cell) (a : Ident) (h : s.active = some (ac, a)) :
    targetsSurplus s = s.yieldSurplus := by
  simp [targetsSurplus, surplusCellsTagger, h, pairTargets, List.flatMap_map]

open JF.FactorMaps

/-- the other composite objects, in the order of `range(number_of_root_nodes)` -/
def others (s : Setting) (r : Nat) : List Nat := (List.range s.nRoots).filter fun o => o != r

theorem mem_others {s : Setting} {r o : Nat} : o ∈ others s r ↔ o < s.nRoots ∧ o ≠ r := by
  simp [others]

theorem nodup_others (s : Setting) (r : Nat) : (others s r).Nodup := List.nodup_range.filter _

/-- `ty` is an inter-object factor type of the file: one of its lines names a point mass of the
second composite object -/
def InterType (s : Setting) (lines : List Line) (ty : String) : Prop :=
  ∃ S ∈ linesOf lines ty, ∃ t ∈ S, s.nPer ≤ t

/-- `ty` is an intra-object factor type of the file: it occurs, and all its lines stay within the
first composite object -/
def IntraType (s : Setting) (lines : List Line) (ty : String) : Prop :=
  linesOf lines ty ≠ [] ∧ ∀ S ∈ linesOf lines ty, ∀ t ∈ S, t < s.nPer

theorem match_lookup_eq_getL {β : Type} (m : IndexMap) (i : Nat) (f : List Nat → β) :
    (match m.lookup i with | none => [] | some ls => ls.map f) = (getL m i).map f := by
  unfold getL
  cases m.lookup i <;> rfl

theorem lookup_of_lines {s : Setting} {lines : List Line} {fs : Factors} {ty : String}
    (h : instantiate s lines [] = .ok fs) (hne : linesOf lines ty ≠ []) :
    ∃ tm, fs.lookup ty = some tm ∧ GoodTy s (linesOf lines ty) tm := by
  have hg := good_of_instantiate h
  cases hl : fs.lookup ty with
  | none => exact absurd (hg.absent _ hl) hne
  | some tm => exact ⟨tm, rfl, hg.present _ _ hl⟩

theorem lookup_inter {s : Setting} {lines : List Line} {fs : Factors} {ty : String}
    (h : instantiate s lines [] = .ok fs) (hinter : InterType s lines ty) :
    ∃ tm, fs.lookup ty = some tm ∧ tm.isLocal = some false ∧ GoodTy s (linesOf lines ty) tm := by
  obtain ⟨S, hS, t, ht, htn⟩ := hinter
  obtain ⟨tm, hl, g⟩ := lookup_of_lines h (List.ne_nil_of_mem hS)
  refine ⟨tm, hl, ?_, g⟩
  rw [g.loc S hS, Option.some.injEq, isLocalLine, List.all_eq_false]
  exact ⟨t, ht, by simpa using htn⟩

theorem lookup_intra {s : Setting} {lines : List Line} {fs : Factors} {ty : String}
    (h : instantiate s lines [] = .ok fs) (hintra : IntraType s lines ty) :
    ∃ tm, fs.lookup ty = some tm ∧ tm.isLocal = some true ∧ GoodTy s (linesOf lines ty) tm := by
  obtain ⟨tm, hl, g⟩ := lookup_of_lines h hintra.1
  obtain ⟨S, hS⟩ := List.exists_mem_of_ne_nil _ hintra.1
  refine ⟨tm, hl, ?_, g⟩
  rw [g.loc S hS, Option.some.injEq, isLocalLine, List.all_eq_true]
  intro t ht; simpa using hintra.2 S hS t ht

theorem inst_injective (n r o : Nat) (hor : o ≠ r) : Function.Injective (inst n r o) := by
  refine List.map_injective_iff.mpr fun t t' h => ?_
  split at h <;> split at h <;> simp only [List.cons.injEq, and_true] at h
  · exact h.2
  · exact absurd h.1.symm hor
  · exact absurd h.1 hor
  · omega

/-- an instantiated line that reaches into the other composite object tells which one it is -/
theorem inst_other_eq {n r o o' : Nat} {S S' : List Nat} (hor : o ≠ r) (t : Nat) (ht : t ∈ S) (htn : n ≤ t)
    (h : inst n r o S = inst n r o' S') : o = o' := by
  have hm : [o, t - n] ∈ inst n r o S := by
    simp only [inst, List.mem_map]
    exact ⟨t, ht, by simp [Nat.not_lt.mpr htn]⟩
  rw [h] at hm
  simp only [inst, List.mem_map] at hm
  obtain ⟨t', _, ht'⟩ := hm
  split at ht' <;> simp only [List.cons.injEq, and_true] at ht'
  · exact absurd ht'.1.symm hor
  · exact ht'.1.symm

theorem inst_same {n r : Nat} {S : List Nat} (h : ∀ t ∈ S, t < n) : inst n r r S = S.map fun t => [r, t] :=
  List.map_congr_left fun t ht => by simp [h t ht]

theorem nodup_inst_others (n r : Nat) {os : List Nat} {L : List (List Nat)} (hos : os.Nodup) (hor : ∀ o ∈ os, o ≠ r)
    (hL : L.Nodup) (hreach : ∀ S ∈ L, ∃ t ∈ S, n ≤ t) : (os.flatMap fun o => L.map (inst n r o)).Nodup := by
  rw [List.nodup_flatMap]
  refine ⟨fun o ho => hL.map (inst_injective _ _ _ (hor o ho)), hos.pairwise_of_forall_ne fun o ho o' _ hoo' => ?_⟩
  simp only [Function.onFun, List.Disjoint, List.mem_map]
  rintro x ⟨S, hS, rfl⟩ ⟨S', _, h'⟩
  obtain ⟨t, ht, htn⟩ := hreach S hS
  exact hoo' (inst_other_eq (hor o ho) t ht htn h'.symm)

theorem nodup_inst_same (n r : Nat) {L : List (List Nat)} (hL : L.Nodup) (hloc : ∀ S ∈ L, ∀ t ∈ S, t < n) :
    (L.map (inst n r r)).Nodup := by
  rw [List.map_congr_left fun S hS => inst_same (hloc S hS)]
  exact hL.map (List.map_injective_iff.mpr fun a b h => by simpa using h)

theorem yieldAll_ok {s : Setting} {fs : Factors} {ty : String} : ∀ {leaves : List FactorMaps.Ident} {l : List InState},
    yieldAll s fs ty leaves = .ok l →
    ∀ f, f ∈ l ↔ ∃ leaf ∈ leaves, ∃ l', yieldFactor s fs ty leaf = .ok l' ∧ f ∈ l'
  | [], l, h, f => by
    cases h; simp
  | a :: rest, l, h, f => by
    simp only [yieldAll] at h
    split at h
    · cases h
    · rename_i la hla
      split at h
      · cases h
      · rename_i lr hlr
        cases h
        simp [yieldAll_ok hlr f, hla]

theorem yieldAll_error {s : Setting} {fs : Factors} {ty : String} : ∀ {leaves : List FactorMaps.Ident} {e : String},
    yieldAll s fs ty leaves = .error e → ∃ leaf ∈ leaves, yieldFactor s fs ty leaf = .error e
  | [], e, h => by cases h
  | a :: rest, e, h => by
    simp only [yieldAll] at h
    split at h
    · rename_i e' he'
      cases h; exact ⟨a, by simp, he'⟩
    · split at h
      · rename_i e' he'
        cases h
        obtain ⟨leaf, hleaf, hl⟩ := yieldAll_error he'
        exact ⟨leaf, by simp [hleaf], hl⟩
      · cases h

/-- a parsed factor file is well formed for composite objects of `n` point masses: every index
addresses one of two composite objects, and the lines of one factor type are either all
intra-object or all inter-object -/
def WellFormed (n : Nat) (lines : List Line) : Prop :=
  (∀ ln ∈ lines, ∀ i ∈ ln.idx, i < 2 * n) ∧
  (∀ ln ∈ lines, ∀ ln' ∈ lines, ln.ty = ln'.ty → isLocalLine n ln.idx = isLocalLine n ln'.idx)

instance (n : Nat) (lines : List Line) : Decidable (WellFormed n lines) := by
  unfold WellFormed; infer_instance

theorem mem_linesOf {lines : List Line} {ty : String} {S : List Nat} :
    S ∈ linesOf lines ty ↔ ∃ ln ∈ lines, ln.ty = ty ∧ ln.idx = S := by
  simp only [linesOf, List.mem_map, List.mem_filter, beq_iff_eq]
  constructor
  · rintro ⟨ln, ⟨h1, h2⟩, h3⟩; exact ⟨ln, h1, h2, h3⟩
  · rintro ⟨ln, h1, h2, h3⟩; exact ⟨ln, ⟨h1, h2⟩, h3⟩

theorem addLine_ok_of {s : Setting} {seen : List Line} {fs : Factors} {ln : Line}
    (hg : Good s seen fs) (hb : ∀ i ∈ ln.idx, i < 2 * s.nPer)
    (hc : ∀ ln' ∈ seen, ln'.ty = ln.ty → isLocalLine s.nPer ln'.idx = isLocalLine s.nPer ln.idx) :
    ∃ fs', addLine s fs ln = .ok fs' := by
  unfold addLine
  have hany : ¬ (ln.idx.any fun i => decide (i ≥ 2 * s.nPer)) = true := by
    simp only [List.any_eq_true, not_exists, not_and, decide_eq_true_eq]
    intro i hi; have := hb i hi; omega
  rw [if_neg hany]
  cases hfl : fs.lookup ln.ty with
  | none => simp [setLocal]
  | some tm0 =>
    have g0 := hg.present _ _ hfl
    obtain ⟨S, hS⟩ := List.exists_mem_of_ne_nil _ g0.nonempty
    obtain ⟨ln', hln', hty, rfl⟩ := mem_linesOf.mp hS
    have hb0 := g0.loc _ hS
    rw [hc ln' hln' hty] at hb0
    simp [setLocal, hb0, isLocalLine]

theorem instantiate_ok_of {s : Setting} : ∀ {lines seen : List Line} {fs : Factors},
    Good s seen fs → WellFormed s.nPer (seen ++ lines) → ∃ fs', instantiate s lines fs = .ok fs'
  | [], _, fs, _, _ => ⟨fs, rfl⟩
  | ln :: rest, seen, fs, hg, hw => by
    have hmem : ln ∈ seen ++ ln :: rest := by simp
    obtain ⟨fs1, h1⟩ := addLine_ok_of (ln := ln) hg (hw.1 ln hmem)
      (fun ln' hln' hty => hw.2 ln' (by simp [hln']) ln hmem hty)
    have hg1 := good_addLine hg h1
    have hw1 : WellFormed s.nPer ((seen ++ [ln]) ++ rest) := by simpa using hw
    obtain ⟨fs', h'⟩ := instantiate_ok_of hg1 hw1
    exact ⟨fs', by simp only [instantiate, h1, h']⟩

/-- the additional tidiness the "exactly once" reading needs: every line is an index *set*, no
line is repeated within its type, and every intra-object type mentions every point mass of the
composite object (otherwise the real code raises `KeyError` for the unmentioned one) -/
def Tidy (n : Nat) (lines : List Line) : Prop :=
  (∀ ln ∈ lines, ln.idx.Nodup) ∧ (∀ ln ∈ lines, (linesOf lines ln.ty).Nodup) ∧
  (∀ ln ∈ lines, isLocalLine n ln.idx = true → ∀ i < n, ∃ S ∈ linesOf lines ln.ty, i ∈ S)

instance (n : Nat) (lines : List Line) : Decidable (Tidy n lines) := by
  unfold Tidy; infer_instance


/-- a line with the roles of the two composite objects exchanged -/
def mirror (n : Nat) (S : List Nat) : List Nat := S.map fun t => if t < n then t + n else t - n

/-- every line of the type is present (up to the order of its indices) with exchanged roles -/
def Mirrored (n : Nat) (lines : List Line) (ty : String) : Prop :=
  ∀ S ∈ linesOf lines ty, ∃ S' ∈ linesOf lines ty, S'.Perm (mirror n S)

instance (n : Nat) (lines : List Line) (ty : String) : Decidable (Mirrored n lines ty) := by
  unfold Mirrored; infer_instance

theorem inst_mirror (n r o : Nat) (S : List Nat) (hS : ∀ t ∈ S, t < 2 * n) :
    inst n o r (mirror n S) = inst n r o S := by
  simp only [inst, mirror, List.map_map]
  apply List.map_congr_left
  intro t ht
  have := hS t ht
  simp only [Function.comp]
  by_cases h : t < n
  · have h2 : ¬ t + n < n := by omega
    simp [h, h2]
  · have h2 : t - n < n := by omega
    simp [h, h2]

end JF.C10
