import JF.Lemmas.Kinematics
import JF.Lemmas.ConcreteWorld
import Mathlib.Algebra.Order.Floor.Ring
/-!
Kinematic lemmas for the composed system: time slices compose exactly (exact reading); the one-mover invariant `KinI` of the
point-mass chain machine with the mover's position, velocity and time stamp explicit: it is C07's `ChainI` plus that position
(`kinI_iff`), so what an event does to it is what it does to `ChainI`, with the position read off `posAfter` (`KinI.of_chainI`);
the active units of such a state.
-/
namespace JF.Sys
open JF JF.Kin JF.C14 JF.CW

theorem pywrap_pywrap_add (x y L : ℚ) (hL : 0 < L) :
    pywrap Ops.rat (pywrap Ops.rat x L + y) L = pywrap Ops.rat (x + y) L := by
  rw [pywrap_rat_pos _ _ hL, pywrap_rat_pos _ _ hL, pywrap_rat_pos _ _ hL]
  have hne : L ≠ 0 := ne_of_gt hL
  have : (x - L * ⌊x / L⌋ + y) / L = (x + y) / L - (⌊x / L⌋ : ℤ) := by
    field_simp; ring
  rw [this, Int.floor_sub_intCast]
  push_cast; ring

theorem sliceCoord_comp (L p v a b : ℚ) (hL : 0 < L) :
    sliceCoord Ops.rat L (sliceCoord Ops.rat L p v a) v b = sliceCoord Ops.rat L p v (a + b) := by
  unfold sliceCoord
  rw [pywrap_pywrap_add _ _ _ hL]
  congr 1; ring

theorem sliceVec_comp : ∀ (L P V : List ℚ) (a b : ℚ), PosBox L → P.length = L.length → V.length = L.length →
    sliceVec Ops.rat L (sliceVec Ops.rat L P V a) V b = sliceVec Ops.rat L P V (a + b)
  | [], [], [], _, _, _, _, _ => rfl
  | [], [], _ :: _, _, _, _, _, h => by simp at h
  | [], _ :: _, _, _, _, _, h, _ => by simp at h
  | _ :: _, [], _, _, _, _, h, _ => by simp at h
  | _ :: _, _ :: _, [], _, _, _, _, h => by simp at h
  | l :: L, p :: P, v :: V, a, b, hL, h, h' => by
      simp only [sliceVec]
      rw [sliceCoord_comp l p v a b (hL l (by simp)),
        sliceVec_comp L P V a b (fun x hx => hL x (by simp [hx])) (by simpa using h) (by simpa using h')]

theorem sliceCoord_zero (L p v : ℚ) (hL : 0 < L) (h0 : 0 ≤ p) (h1 : p < L) : sliceCoord Ops.rat L p v 0 = p := by
  unfold sliceCoord
  rw [pywrap_rat_pos _ _ hL]
  have : ⌊(p + v * 0) / L⌋ = 0 := by
    rw [Int.floor_eq_iff]
    refine ⟨by simpa using div_nonneg h0 hL.le, ?_⟩
    rw [div_lt_iff₀ hL]; simpa using h1
  rw [this]; simp

theorem sliceVec_zero : ∀ (L P V : List ℚ), PosBox L → InBox L P → V.length = L.length →
    sliceVec Ops.rat L P V 0 = P
  | [], [], [], _, _, _ => rfl
  | [], [], _ :: _, _, _, h => by simp at h
  | [], _ :: _, _, _, h, _ => by simp [InBox] at h
  | _ :: _, [], _, _, h, _ => by simp [InBox] at h
  | _ :: _, _ :: _, [], _, _, h => by simp at h
  | l :: L, p :: P, v :: V, hL, h, h' => by
      simp only [sliceVec]
      rw [sliceCoord_zero l p v (hL l (by simp)) h.1.1 h.1.2,
        sliceVec_zero L P V (fun x hx => hL x (by simp [hx])) h.2 (by simpa using h')]

/-- exactly unit `a` moves, from position `pos` with velocity `v` since time `ts`; every unit is well-formed and in the box -/
def KinI (L : List ℚ) (us : List (PUnit ℚ)) (a : Nat) (pos v : List ℚ) (ts : Time ℚ) : Prop :=
  (∃ ua, us[a]? = some ua ∧ ua.pos = pos ∧ ua.vel = some v ∧ ua.ts = some ts) ∧
  ∀ i u, us[i]? = some u → WFU L.length u ∧ InBox L u.pos ∧ (i ≠ a → u.vel = none)

section
variable {L : List ℚ} {us : List (PUnit ℚ)} {a : Nat} {pos v : List ℚ} {ts : Time ℚ}

theorem KinI.lt (h : KinI L us a pos v ts) :
    a < us.length := by
  obtain ⟨⟨ua, hua, _⟩, _⟩ := h
  exact (List.getElem?_eq_some_iff.mp hua).1

theorem KinI.vlen (h : KinI L us a pos v ts) :
    v.length = L.length ∧ pos.length = L.length ∧ InBox L pos := by
  obtain ⟨⟨ua, hua, hp, hv, _⟩, hall⟩ := h
  obtain ⟨hw, hb, _⟩ := hall a ua hua
  exact ⟨hw.2.2 v hv, hp ▸ hw.1, hp ▸ hb⟩

/-- `KinI` is C07's chain invariant `ChainI` together with the position of the mover -/
theorem kinI_iff :
    KinI L us a pos v ts ↔ ChainI L v ts us a ∧ ∃ ua, us[a]? = some ua ∧ ua.pos = pos := by
  constructor
  · rintro ⟨⟨ua, hua, hp, hv, hts⟩, hall⟩
    refine ⟨⟨(List.getElem?_eq_some_iff.mp hua).1, fun i u hu => ⟨(hall i u hu).1, (hall i u hu).2.1, ?_⟩⟩, ua, hua, hp⟩
    split
    · next hia => subst hia; obtain rfl := Option.some.inj (hua.symm.trans hu); exact ⟨hv, hts⟩
    · next hia => exact (hall i u hu).2.2 hia
  · rintro ⟨h, ua, hua, hp⟩
    obtain ⟨ua', hua', -, -, hv, hts⟩ := h.get
    obtain rfl := Option.some.inj (hua.symm.trans hua')
    exact ⟨⟨ua, hua, hp, hv, hts⟩, fun i u hu => ⟨(h.2 i u hu).1, (h.2 i u hu).2.1, (h.2 i u hu).vel_of_ne⟩⟩

theorem KinI.chainI (h : KinI L us a pos v ts) :
    ChainI L v ts us a := (kinI_iff.mp h).1

/-- after an event that keeps C07's `ChainI`: the mover's position is `posAfter` of the unit that sat at its index -/
theorem KinI.of_chainI {L : List ℚ} {us : List (PUnit ℚ)} {e : Ev ℚ} {b : Nat} {w : List ℚ} {t : Time ℚ} {ub : PUnit ℚ}
    (hub : us[b]? = some ub) (h : ChainI L w t (step Ops.rat L us e) b) :
    KinI L (step Ops.rat L us e) b (posAfter L e ub) w t := by
  obtain ⟨ub', hub', -⟩ := h.get
  exact kinI_iff.mpr ⟨h, ub', hub', step_pos_eq hub hub'⟩

theorem KinI.activeIdx (h : KinI L us a pos v ts) : activeIdx us = some a := h.chainI.activeIdx

/-- the active units of a state with one mover (`movers` filters a `List.range`, which has no duplicates) -/
theorem _root_.JF.Kin.ChainI.movers {L v : List ℚ} {t : Time ℚ} {us : List (PUnit ℚ)} {a : Nat} (h : ChainI L v t us a) :
    movers us = [a] := by
  apply List.perm_singleton.mp
  refine (List.perm_ext_iff_of_nodup (List.nodup_range.filter _) (List.nodup_cons.mpr ⟨List.not_mem_nil, List.nodup_nil⟩)).mpr
    fun i => ?_
  simp only [CW.movers, List.mem_filter, List.mem_range, List.mem_singleton]
  constructor
  · rintro ⟨hi, hm⟩
    by_contra hne
    have := (h.2 i us[i] (List.getElem?_eq_getElem hi)).vel_of_ne hne
    simp [List.getElem?_eq_getElem hi, isMoving_of_none this] at hm
  · rintro rfl
    obtain ⟨ua, hua, -, -, hv, -⟩ := h.get
    exact ⟨h.1, by simp [hua, isMoving_of_some hv]⟩

theorem KinI.movers (h : KinI L us a pos v ts) : movers us = [a] := h.chainI.movers

theorem KinI.slice (h : KinI L us a pos v ts) (hL : PosBox L) (t : Time ℚ) :
    KinI L (us.map (timeSlice Ops.rat L t)) a (sliceVec Ops.rat L pos v (Time.sub t ts)) v t := by
  obtain ⟨⟨ua, hua, rfl, hv, hts⟩, -⟩ := id h
  have := KinI.of_chainI (e := .keep t) hua (h.chainI.slice hL t)
  rwa [posAfter, timeSlice_of_moving L t ua hv hts] at this

theorem KinI.step_snap (h : KinI L us a pos v ts) (hL : PosBox L) (t : Time ℚ) (d : Nat) (x : ℚ)
    (hx : ∀ hd : d < L.length, 0 ≤ x ∧ x < L[d]) :
    KinI L (step Ops.rat L us (.snap t d x)) a (setCoord (sliceVec Ops.rat L pos v (Time.sub t ts)) d x) v t := by
  obtain ⟨⟨ua, hua, rfl, hv, hts⟩, -⟩ := id h
  have := KinI.of_chainI hua (h.chainI.step_snap hL t d x hx)
  rwa [posAfter, isMoving_of_some hv, if_pos rfl, timeSlice_of_moving L t ua hv hts] at this

theorem KinI.step_lift (h : KinI L us a pos v ts) (hL : PosBox L) (t : Time ℚ) (b : Nat) (hb : b < us.length) :
    ∃ pos', KinI L (step Ops.rat L us (.lift t b)) b pos' v t :=
  ⟨_, KinI.of_chainI (List.getElem?_eq_getElem hb) (h.chainI.step_lift hL t b hb)⟩

theorem KinI.step_endOfChain (h : KinI L us a pos v ts) (hL : PosBox L) (t : Time ℚ) (b : Nat) (w : List ℚ) (hb : b < us.length)
    (hw : w.length = L.length) : ∃ pos', KinI L (step Ops.rat L us (.endOfChain t b w)) b pos' w t :=
  ⟨_, KinI.of_chainI (List.getElem?_eq_getElem hb) (h.chainI.step_endOfChain hL t b w hb hw)⟩

theorem KinI.of_start {L : List ℚ} {us : List (PUnit ℚ)} (hwf : WF L us) (hbox : ∀ u ∈ us, InBox L u.pos)
    (hrest : ∀ u ∈ us, u.vel = none) (t : Time ℚ) (a : Nat) (v : List ℚ) (ha : a < us.length) (hv : v.length = L.length) :
    ∃ pos, KinI L (step Ops.rat L us (.start t a v)) a pos v t :=
  ⟨_, KinI.of_chainI (List.getElem?_eq_getElem ha) (ChainI.of_start hwf hbox hrest t a v ha hv)⟩

end

end JF.Sys
