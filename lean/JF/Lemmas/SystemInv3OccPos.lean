import JF.Lemmas.SystemRun3LoopDefs
/-!
C11 for composite objects with cells: what one `Composite.step` does to the position of every unit (root unit or point mass), for
all nine event kinds (`keep snap exchange pass eocLeaf eocRoot toLeaf toRoot start`).

`step_unit`: the position of a unit after the step is the position of the unit time-sliced zero or more times at the event time
(`URel`: every event is `sliceAt` of some in-state followed by `applyUpds` on at most two composite objects, and `applyUpds` changes
velocities and time stamps of point masses, and time-slices the root unit before it changes its velocity — nothing else touches a
position; an admissible cell-boundary event writes the coordinate the unit has reached), and a unit exists after the step iff it
existed before.  Hence a unit at rest before the step is not displaced (`composite_step_rest_fixed`, which `c11_occinv_closed3` of
`JF/Props/SystemInv3Occ.lean` rests on).
-/
namespace JF.Sys3Occ
open JF JF.Composite JF.C12 JF.Kin JF.Sys2

section
variable (L : List ℚ) (t : Time ℚ)

def iter : Nat → PUnit ℚ → PUnit ℚ
  | 0, u => u
  | n + 1, u => iter n (Kin.timeSlice Ops.rat L t u)

theorem iter_iter (m : Nat) : ∀ (n : Nat) (u : PUnit ℚ), iter L t m (iter L t n u) = iter L t (n + m) u
  | 0, u => by simp [iter]
  | n + 1, u => by
    show iter L t m (iter L t n (Kin.timeSlice Ops.rat L t u)) = _
    rw [iter_iter m n, show n + 1 + m = (n + m) + 1 by omega]; rfl

theorem iter_rest : ∀ (n : Nat) {u : PUnit ℚ}, u.vel = none → iter L t n u = u
  | 0, _, _ => rfl
  | n + 1, u, h => by
    show iter L t n (Kin.timeSlice Ops.rat L t u) = u
    rw [timeSlice_of_rest L t u h]; exact iter_rest n h

theorem iter_pres {P : PUnit ℚ → Prop} (hP : ∀ x, P x → P (Kin.timeSlice Ops.rat L t x)) :
    ∀ (n : Nat) {u : PUnit ℚ}, P u → P (iter L t n u)
  | 0, _, h => h
  | n + 1, _, h => iter_pres hP n (hP _ h)

def URel (u u' : PUnit ℚ) : Prop := ∃ n, u'.pos = (iter L t n u).pos

theorem URel.refl (u : PUnit ℚ) : URel L t u u := ⟨0, rfl⟩
theorem URel.of_pos {u u' : PUnit ℚ} (h : u'.pos = u.pos) : URel L t u u' := ⟨0, h⟩
theorem URel.slice (u : PUnit ℚ) : URel L t u (Kin.timeSlice Ops.rat L t u) := ⟨1, rfl⟩
theorem URel.of_slice_pos {u u' : PUnit ℚ} (h : u'.pos = (Kin.timeSlice Ops.rat L t u).pos) : URel L t u u' := ⟨1, h⟩
theorem URel.after_iter {u u1 u2 : PUnit ℚ} {n : Nat} (h1 : u1 = iter L t n u) (h2 : URel L t u1 u2) : URel L t u u2 := by
  obtain ⟨m, hm⟩ := h2
  exact ⟨n + m, by rw [hm, h1, iter_iter]⟩

def UOpt : Option (PUnit ℚ) → Option (PUnit ℚ) → Prop
  | some u, some u' => URel L t u u'
  | none, none => True
  | _, _ => False

theorem UOpt.refl (x : Option (PUnit ℚ)) : UOpt L t x x := by
  cases x with
  | none => trivial
  | some u => exact URel.refl L t u

theorem UOpt.after_iter {x : Option (PUnit ℚ)} {y z : Option (PUnit ℚ)} {n : Nat} (h1 : y = x.map (iter L t n))
    (h2 : UOpt L t y z) : UOpt L t x z := by
  subst h1
  cases x with
  | none => exact h2
  | some u =>
    cases z with
    | none => exact h2
    | some w => exact URel.after_iter L t rfl h2

def CRel (c c' : CObj ℚ) : Prop := URel L t c.root c'.root ∧ ∀ j : Nat, UOpt L t (c.leaves[j]?) (c'.leaves[j]?)

theorem commitRoot_urel (p : Option (List ℚ)) (r : PUnit ℚ) : URel L t r (commitRoot Ops.rat isZ L t p r) := by
  unfold commitRoot
  cases p with
  | none => exact URel.refl L t r
  | some ch =>
    cases hv : r.vel with
    | none => exact URel.of_pos L t rfl
    | some v =>
      simp only
      split
      · exact URel.of_slice_pos L t rfl
      · exact URel.of_slice_pos L t rfl

theorem setLeaves_pos (ups : List (Upd ℚ)) (ls : List (PUnit ℚ)) (j : Nat) :
    ((setLeaves ls ups)[j]?).map (·.pos) = (ls[j]?).map (·.pos) := by
  have := map_setLeaves_of_eq (fun u : PUnit ℚ => u.pos) (fun _ _ => rfl) ups ls
  have h2 := congrArg (fun l => l[j]?) this
  simpa [List.getElem?_map] using h2

theorem setLeaves_uopt (ups : List (Upd ℚ)) (ls : List (PUnit ℚ)) (j : Nat) : UOpt L t (ls[j]?) ((setLeaves ls ups)[j]?) := by
  have := setLeaves_pos ups ls j
  cases h1 : ls[j]? <;> cases h2 : (setLeaves ls ups)[j]? <;> rw [h1, h2] at this <;> simp at this
  · trivial
  · exact URel.of_pos L t this

theorem applyUpds_crel (ups : List (Upd ℚ)) (c : CObj ℚ) : CRel L t c (applyUpds Ops.rat isZ L t ups c) :=
  ⟨commitRoot_urel L t _ _, setLeaves_uopt L t ups c.leaves⟩

/-- the special branch of `eocLeaf` (another point mass of the same composite object): the point masses are time-sliced, the root
unit is the original one, then `applyUpds` -/
theorem eocSame_crel (ups : List (Upd ℚ)) (c0 : CObj ℚ) :
    CRel L t c0 (applyUpds Ops.rat isZ L t ups { sliceComp Ops.rat L t c0 with root := c0.root }) := by
  refine ⟨commitRoot_urel L t _ _, fun j => ?_⟩
  show UOpt L t (c0.leaves[j]?) ((setLeaves (c0.leaves.map (Kin.timeSlice Ops.rat L t)) ups)[j]?)
  have := setLeaves_pos ups (c0.leaves.map (Kin.timeSlice Ops.rat L t)) j
  rw [List.getElem?_map] at this
  cases h1 : c0.leaves[j]? <;> cases h2 : (setLeaves (c0.leaves.map (Kin.timeSlice Ops.rat L t)) ups)[j]? <;>
    rw [h1, h2] at this <;> simp at this
  · trivial
  · exact URel.of_slice_pos L t this

theorem unitAt_modify_ne (cs : List (CObj ℚ)) (i : Nat) (f : CObj ℚ → CObj ℚ) {id : List Nat} (h : id.head? ≠ some i) :
    unitAt (cs.modify i f) id = unitAt cs id := by
  match id with
  | [] => rfl
  | [a] =>
    have : i ≠ a := fun e => h (by rw [e]; rfl)
    simp only [unitAt]; rw [getElem?_modify_ne _ _ this]
  | [a, b] =>
    have : i ≠ a := fun e => h (by rw [e]; rfl)
    simp only [unitAt]; rw [getElem?_modify_ne _ _ this]
  | _ :: _ :: _ :: _ => rfl

theorem unitAt_modify (cs : List (CObj ℚ)) (i : Nat) (f : CObj ℚ → CObj ℚ) (hf : ∀ c, cs[i]? = some c → CRel L t c (f c))
    (id : List Nat) : UOpt L t (unitAt cs id) (unitAt (cs.modify i f) id) := by
  by_cases hh : id.head? = some i
  · match id with
    | [] => trivial
    | [a] =>
      have : a = i := by simpa using hh
      subst this
      simp only [unitAt]; rw [getElem?_modify_self]
      cases hc : cs[a]? with
      | none => trivial
      | some c => exact (hf c hc).1
    | [a, b] =>
      have : a = i := by simpa using hh
      subst this
      simp only [unitAt]; rw [getElem?_modify_self]
      cases hc : cs[a]? with
      | none => trivial
      | some c => exact (hf c hc).2 b
    | _ :: _ :: _ :: _ => trivial
  · rw [unitAt_modify_ne cs i f hh]; exact UOpt.refl L t _

theorem unitAt_modify2 (cs : List (CObj ℚ)) {i i' : Nat} (hne : i ≠ i') (f f' : CObj ℚ → CObj ℚ)
    (hf : ∀ c, CRel L t c (f c)) (hf' : ∀ c, CRel L t c (f' c)) (id : List Nat) :
    UOpt L t (unitAt cs id) (unitAt ((cs.modify i f).modify i' f') id) := by
  by_cases hh : id.head? = some i
  · have : id.head? ≠ some i' := by rw [hh]; intro e; exact hne (Option.some.inj e)
    rw [unitAt_modify_ne _ i' f' this]
    exact unitAt_modify L t cs i f (fun c _ => hf c) id
  · have := unitAt_modify L t (cs.modify i f) i' f' (fun c _ => hf' c) id
    rwa [unitAt_modify_ne cs i f hh] at this

theorem unitAt_sliceAt_iter (id : List Nat) : ∀ (S : List Nat) (cs : List (CObj ℚ)),
    ∃ n, unitAt (sliceAt Ops.rat L t S cs) id = (unitAt cs id).map (iter L t n)
  | [], cs => ⟨0, by show unitAt cs id = _; cases unitAt cs id <;> rfl⟩
  | i :: S, cs => by
    rw [sliceAt_cons]
    obtain ⟨n, hn⟩ := unitAt_sliceAt_iter id S (cs.modify i (sliceComp Ops.rat L t))
    rw [unitAt_modify_slice] at hn
    by_cases hh : id.head? = some i
    · rw [if_pos hh] at hn
      refine ⟨n + 1, ?_⟩
      rw [hn]; cases unitAt cs id <;> rfl
    · rw [if_neg hh] at hn
      exact ⟨n, hn⟩

theorem uopt_sliceAt (id : List Nat) (S : List Nat) (cs : List (CObj ℚ)) :
    UOpt L t (unitAt cs id) (unitAt (sliceAt Ops.rat L t S cs) id) := by
  obtain ⟨n, hn⟩ := unitAt_sliceAt_iter L t id S cs
  exact UOpt.after_iter L t hn (UOpt.refl L t _)

theorem uopt_via (id : List Nat) (S : List Nat) (cs X : List (CObj ℚ))
    (h : UOpt L t (unitAt (sliceAt Ops.rat L t S cs) id) (unitAt X id)) : UOpt L t (unitAt cs id) (unitAt X id) := by
  obtain ⟨n, hn⟩ := unitAt_sliceAt_iter L t id S cs
  exact UOpt.after_iter L t hn h

end

section
variable (L : List ℚ)

theorem exchange_unit (t : Time ℚ) (S : List Nat) (i j i' j' : Nat) (cs : List (CObj ℚ)) (id : List Nat) :
    UOpt L t (unitAt cs id) (unitAt (exchange Ops.rat isZ L t S i j i' j' cs) id) := by
  apply uopt_via L t id S
  unfold exchange
  simp only
  split
  · exact UOpt.refl L t _
  · split
    · exact UOpt.refl L t _
    · unfold apply2
      split
      · exact unitAt_modify L t _ _ _ (fun c _ => applyUpds_crel L t _ c) id
      · next hne =>
        exact unitAt_modify2 L t _ (by simpa using hne) _ _ (applyUpds_crel L t _) (applyUpds_crel L t _) id

theorem pass_unit (t : Time ℚ) (S : List Nat) (iL iT : Nat) (cs : List (CObj ℚ)) (id : List Nat) :
    UOpt L t (unitAt cs id) (unitAt (pass Ops.rat isZ L t S iL iT cs) id) := by
  apply uopt_via L t id S
  unfold pass
  simp only
  split
  · split
    · exact UOpt.refl L t _
    · split
      · exact UOpt.refl L t _
      · next hne =>
        exact unitAt_modify2 L t _ (by simpa using hne) _ _ (applyUpds_crel L t _) (applyUpds_crel L t _) id
  · exact UOpt.refl L t _

theorem eocRoot_unit (t : Time ℚ) (i i' : Nat) (vn : List ℚ) (cs : List (CObj ℚ)) (id : List Nat) :
    UOpt L t (unitAt cs id) (unitAt (eocRoot Ops.rat isZ L t i i' vn cs) id) := by
  apply uopt_via L t id [i]
  unfold eocRoot
  simp only
  split
  · split
    · exact UOpt.refl L t _
    · split
      · exact unitAt_modify L t _ _ _ (fun c _ => applyUpds_crel L t _ c) id
      · next hne =>
        exact unitAt_modify2 L t _ (by simpa using hne) _ _ (applyUpds_crel L t _) (applyUpds_crel L t _) id
  · exact UOpt.refl L t _

theorem toLeaf_unit (t : Time ℚ) (i c : Nat) (cs : List (CObj ℚ)) (id : List Nat) :
    UOpt L t (unitAt cs id) (unitAt (toLeaf Ops.rat isZ L t i c cs) id) := by
  apply uopt_via L t id [i]
  unfold toLeaf
  simp only
  split
  · split
    · exact UOpt.refl L t _
    · exact unitAt_modify L t _ _ _ (fun c _ => applyUpds_crel L t _ c) id
  · exact UOpt.refl L t _

theorem toRoot_unit (t : Time ℚ) (i : Nat) (cs : List (CObj ℚ)) (id : List Nat) :
    UOpt L t (unitAt cs id) (unitAt (toRoot Ops.rat isZ L t i cs) id) := by
  apply uopt_via L t id [i]
  unfold toRoot
  simp only
  split
  · exact UOpt.refl L t _
  · split
    · exact UOpt.refl L t _
    · split
      · exact UOpt.refl L t _
      · split
        · exact UOpt.refl L t _
        · exact unitAt_modify L t _ _ _ (fun c _ => applyUpds_crel L t _ c) id

theorem start_unit (i : Nat) (P : List Nat) (v : List ℚ) (cs : List (CObj ℚ)) (id : List Nat) :
    UOpt L ⟨0, 0⟩ (unitAt cs id) (unitAt (start Ops.rat isZ L i P v cs) id) := by
  unfold start
  exact unitAt_modify L _ _ _ _ (fun c _ => applyUpds_crel L _ _ c) id

theorem eocLeaf_unit (t : Time ℚ) (i j i' j' : Nat) (vn : List ℚ) (cs : List (CObj ℚ)) (id : List Nat) :
    UOpt L t (unitAt cs id) (unitAt (eocLeaf Ops.rat isZ L t i j i' j' vn cs) id) := by
  unfold eocLeaf
  simp only
  split
  · next a c0 ha hc0 =>
    split
    · exact uopt_sliceAt L t id [i] cs
    · split
      · split
        · apply uopt_via L t id [i]
          exact unitAt_modify L t _ _ _ (fun c _ => applyUpds_crel L t _ c) id
        · -- another point mass of the same composite object
          rw [sliceAt_single, List.modify_modify_eq]
          refine unitAt_modify L t cs i _ (fun c hc => ?_) id
          rw [hc0] at hc
          cases hc
          exact eocSame_crel L t _ c0
      · next hne =>
        apply uopt_via L t id [i]
        exact unitAt_modify2 L t _ (by simpa using hne) _ _ (applyUpds_crel L t _) (applyUpds_crel L t _) id
  · exact uopt_sliceAt L t id [i] cs

theorem step_unit {d : Nat} (cs : List (CObj ℚ)) (e : Composite.Ev ℚ) (ha : AdmW d L cs e) (id : List Nat) :
    UOpt L (Sys2.evTime Ops.rat e) (unitAt cs id) (unitAt (step Ops.rat isZ L cs e) id) := by
  cases e with
  | keep t S => exact uopt_sliceAt L t id S cs
  | snap t S i j dd x =>
    rw [JF.Sys3L.snap_eq_sliceAt ha]
    exact uopt_sliceAt L t id S cs
  | exchange t S i j i' j' => exact exchange_unit L t S i j i' j' cs id
  | pass t S iL iT => exact pass_unit L t S iL iT cs id
  | eocLeaf t i j i' j' vn => exact eocLeaf_unit L t i j i' j' vn cs id
  | eocRoot t i i' vn => exact eocRoot_unit L t i i' vn cs id
  | toLeaf t i c => exact toLeaf_unit L t i c cs id
  | toRoot t i => exact toRoot_unit L t i cs id
  | start i P v => exact start_unit L i P v cs id

theorem step_unit_isSome {d : Nat} (cs : List (CObj ℚ)) (e : Composite.Ev ℚ) (ha : AdmW d L cs e) (id : List Nat) :
    (unitAt (step Ops.rat isZ L cs e) id).isSome = (unitAt cs id).isSome := by
  have := step_unit L cs e ha id
  cases h1 : unitAt cs id <;> cases h2 : unitAt (step Ops.rat isZ L cs e) id <;> rw [h1, h2] at this <;>
    first | rfl | exact this.elim

/-- every event kind, root units and point masses; whether or not the step sets the unit in motion -/
theorem composite_step_rest_fixed {d : Nat} (cs : List (CObj ℚ)) (e : Composite.Ev ℚ) (ha : AdmW d L cs e) {id : List Nat}
    {u : PUnit ℚ} (hu : unitAt cs id = some u) (hr : u.vel = none) :
    ∃ u', unitAt (step Ops.rat isZ L cs e) id = some u' ∧ u'.pos = u.pos := by
  have := step_unit L cs e ha id
  rw [hu] at this
  cases h2 : unitAt (step Ops.rat isZ L cs e) id with
  | none => rw [h2] at this; exact this.elim
  | some u' =>
    rw [h2] at this
    obtain ⟨n, hn⟩ := this
    exact ⟨u', rfl, by rw [hn, iter_rest L _ n hr]⟩

theorem step_unit_pres {d : Nat} (cs : List (CObj ℚ)) (e : Composite.Ev ℚ) (ha : AdmW d L cs e) {id : List Nat}
    {u : PUnit ℚ} (hu : unitAt cs id = some u) {P : PUnit ℚ → Prop} (hp : P u)
    (hP : ∀ x, P x → P (Kin.timeSlice Ops.rat L (Sys2.evTime Ops.rat e) x)) :
    ∃ u' w, unitAt (step Ops.rat isZ L cs e) id = some u' ∧ P w ∧ u'.pos = w.pos := by
  have := step_unit L cs e ha id
  rw [hu] at this
  cases h2 : unitAt (step Ops.rat isZ L cs e) id with
  | none => rw [h2] at this; exact this.elim
  | some u' =>
    rw [h2] at this
    obtain ⟨n, hn⟩ := this
    exact ⟨u', _, rfl, iter_pres L _ hP n hp, hn⟩

end

end JF.Sys3Occ
