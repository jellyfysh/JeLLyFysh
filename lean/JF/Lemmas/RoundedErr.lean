import JF.Num.Rounded
/-!
Error propagation through one rounded `+`/`-` of a `FloatModel`, for every float property: the operands are
representable approximations `xt ≈ x` (within `α`), `yt ≈ y` (within `β`); the input errors add, and the rounding
error is `eps` relative to a bound on the COMPUTED argument `xt + yt` — given directly (`add_round`: a bound that comes
from monotone rounding, e.g. `abs_rnd_le`) or derived from a bound `M` on the exact one (`add_approx`: `M + α + β`).
Exact operands are the case `α = β = 0` (`add_err_le`).
-/
namespace JF.FloatModel
variable (fm : FloatModel)

/-- rounding does not cross a representable bound -/
theorem abs_rnd_le {x y : ℚ} (hy : y ∈ fm.F) (h : |x| ≤ y) : |fm.rnd x| ≤ y :=
  abs_le.mpr ⟨fm.le_rnd_of_le (fm.neg_mem hy) (abs_le.mp h).1, fm.rnd_le_of_le hy (abs_le.mp h).2⟩

theorem add_err_le {x y B : ℚ} (hx : x ∈ fm.F) (hy : y ∈ fm.F) (hB : |x + y| ≤ B) (hh : B ≤ fm.huge) :
    |fm.rnd (x + y) - (x + y)| ≤ fm.eps * B :=
  (fm.add_err hx hy (hB.trans hh)).trans (mul_le_mul_of_nonneg_left hB fm.eps_nonneg)

theorem sub_err_le {x y B : ℚ} (hx : x ∈ fm.F) (hy : y ∈ fm.F) (hB : |x - y| ≤ B) (hh : B ≤ fm.huge) :
    |fm.rnd (x - y) - (x - y)| ≤ fm.eps * B :=
  (fm.sub_err hx hy (hB.trans hh)).trans (mul_le_mul_of_nonneg_left hB fm.eps_nonneg)

theorem add_round {xt yt x y α β B : ℚ} (hxt : xt ∈ fm.F) (hyt : yt ∈ fm.F) (hx : |xt - x| ≤ α) (hy : |yt - y| ≤ β)
    (hB : |xt + yt| ≤ B) (hH : B ≤ fm.huge) : |fm.rnd (xt + yt) - (x + y)| ≤ fm.eps * B + (α + β) := by
  rw [show fm.rnd (xt + yt) - (x + y) = fm.rnd (xt + yt) - (xt + yt) + ((xt - x) + (yt - y)) by ring]
  exact (abs_add_le _ _).trans (add_le_add (fm.add_err_le hxt hyt hB hH) ((abs_add_le _ _).trans (add_le_add hx hy)))

theorem sub_round {xt yt x y α β B : ℚ} (hxt : xt ∈ fm.F) (hyt : yt ∈ fm.F) (hx : |xt - x| ≤ α) (hy : |yt - y| ≤ β)
    (hB : |xt - yt| ≤ B) (hH : B ≤ fm.huge) : |fm.rnd (xt - yt) - (x - y)| ≤ fm.eps * B + (α + β) := by
  have := fm.add_round hxt (fm.neg_mem hyt) hx (y := -y) (β := β) (by rwa [neg_sub_neg, abs_sub_comm]) (by rwa [← sub_eq_add_neg]) hH
  rwa [← sub_eq_add_neg, ← sub_eq_add_neg] at this

theorem abs_add_le_of_approx {xt yt x y α β M : ℚ} (hx : |xt - x| ≤ α) (hy : |yt - y| ≤ β) (hM : |x + y| ≤ M) :
    |xt + yt| ≤ M + α + β := by
  rw [show xt + yt = x + y + (xt - x) + (yt - y) by ring]
  exact (abs_add_three _ _ _).trans (add_le_add (add_le_add hM hx) hy)

/-- One rounded addition of two approximations: the two errors add, and the rounding error is relative to the argument
`xt + yt`, which is at most `M + α + β` in magnitude. -/
theorem add_approx {xt yt x y α β M : ℚ} (hxt : xt ∈ fm.F) (hyt : yt ∈ fm.F)
    (hx : |xt - x| ≤ α) (hy : |yt - y| ≤ β) (hM : |x + y| ≤ M) (hH : M + α + β ≤ fm.huge) :
    |fm.rnd (xt + yt) - (x + y)| ≤ fm.eps * (M + α + β) + (α + β) :=
  fm.add_round hxt hyt hx hy (abs_add_le_of_approx hx hy hM) hH

theorem sub_approx {xt yt x y α β M : ℚ} (hxt : xt ∈ fm.F) (hyt : yt ∈ fm.F)
    (hx : |xt - x| ≤ α) (hy : |yt - y| ≤ β) (hM : |x - y| ≤ M) (hH : M + α + β ≤ fm.huge) :
    |fm.rnd (xt - yt) - (x - y)| ≤ fm.eps * (M + α + β) + (α + β) := by
  refine fm.sub_round hxt hyt hx hy ?_ hH
  rw [sub_eq_add_neg] at hM ⊢
  exact abs_add_le_of_approx hx (β := β) (by rwa [neg_sub_neg, abs_sub_comm]) hM

end JF.FloatModel
