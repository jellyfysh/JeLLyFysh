import JF.Model.SystemRun
import JF.Props.MediatorLoop
import JF.Props.C14
/-!
Basic lemmas for the composed system (`JF/Model/SystemRun.lean`, `JF/Props/SystemInv.lean`):
the order on `XTime`, one leg of `JF.Med.leg` taken apart, owners of handlers, runs extended at the end.
-/
namespace JF.Sys
open JF JF.Act JF.Heap JF.Sched JF.Med JF.CW JF.C14 JF.MediatorLoop

-- `rfl` alone makes the unifier unfold `Time.cLt` before `xcfg`
theorem xlt_fin (a b : Time ℚ) : xcfg.lt (.fin a) (.fin b) = Time.cLt a b := by unfold xcfg; rfl

theorem xcfg_strictWeak : StrictWeak xcfg where
  irrefl a := by
    cases a with
    | bot => rfl
    | inf => rfl
    | fin a => show Time.cLt a a = false; rw [C06.cLt_false_iff]; exact Or.inr ⟨rfl, le_refl _⟩
  trans a b c := by
    cases a <;> cases b <;> cases c <;> simp only [xcfg, XTime.lt] <;> try simp
    next a b c => exact C06.cLt_trans a b c
  ntrans a b c := by
    cases a <;> cases b <;> cases c <;> simp only [xcfg, XTime.lt] <;> try simp
    next a b c => exact C06.cLt_ntrans a b c
  bot_min a := by cases a <;> rfl

/-- a candidate time of the exact reading: a normalised `Time ℚ` or `inf` -/
def NormX : XTime → Prop
  | .fin t => Normalised t
  | .inf => True
  | .bot => False

theorem xlt_false_iff {a b : Time ℚ} (ha : Normalised a) (hb : Normalised b) :
    xcfg.lt (.fin a) (.fin b) = false ↔ val b ≤ val a := by
  rw [xlt_fin, ← Bool.not_eq_true, cLt_iff a b ha hb]; exact not_lt

theorem xlt_true_iff {a b : Time ℚ} (ha : Normalised a) (hb : Normalised b) :
    xcfg.lt (.fin a) (.fin b) = true ↔ val a < val b := by
  rw [xlt_fin, cLt_iff a b ha hb]

theorem normalised_ext {a b : Time ℚ} (ha : Normalised a) (hb : Normalised b) (h : val a = val b) : a = b := by
  have h1 : Time.cLt a b = false := by rw [← Bool.not_eq_true, cLt_iff a b ha hb, h]; exact lt_irrefl _
  have h2 : Time.cLt b a = false := by rw [← Bool.not_eq_true, cLt_iff b a hb ha, h]; exact lt_irrefl _
  exact C06.time_total a b h1 h2

theorem finite_iff (t : XTime) : xcfg.finite t = true ↔ ∃ τ, t = .fin τ := by
  cases t with
  | bot => exact ⟨fun h => (nomatch h), fun ⟨_, h⟩ => (nomatch h)⟩
  | fin τ => exact ⟨fun _ => ⟨τ, rfl⟩, fun _ => rfl⟩
  | inf => exact ⟨fun h => (nomatch h), fun ⟨_, h⟩ => (nomatch h)⟩

theorem leg_pushed {κ : Type} {M : MWire} {I : SchedI κ} {st st' : MedState I.σ} {o : Oracle κ} {c : Committed κ}
    (e : leg M I st o = .ok (st', c)) : c.pushed = c.created.map (fun p => (p.1, o.cand p.1)) :=
  let ⟨_, S⟩ := Med.leg_steps.mp e; S.pushed

theorem mem_createdOf {κ σ : Type} {M : MWire} {st : MedState σ} {o : Oracle κ} {x : HandlerId} (hx : x ∈ createdOf M st o) :
    ∃ a1 created, getToRun M.w M.S st.act st.preceding o.yields = (a1, .ok created) ∧ ∃ q ∈ created, q.1 = x := by
  unfold createdOf at hx
  split at hx
  · next created hcr =>
    obtain ⟨q, hq, rfl⟩ := List.mem_map.mp hx
    exact ⟨_, created, Prod.ext rfl hcr, q, hq, rfl⟩
  · cases hx

/-- what `getToRun … = (a1, .ok created)` says: the first call is `first`, every later one `update` for the tagger of the
preceding handler; afterwards `get_event_handlers_to_run` is rebound -/
theorem getToRun_ok_cases {w : Wires} {S : TaggerIdx} {a a1 : ActSt} {pre : Option HandlerId}
    {ys : TaggerIdx → List IdTuple} {created : List (HandlerId × IdTuple)}
    (e : getToRun w S a pre ys = (a1, .ok created)) :
    a1.started = true ∧
    ((a.started = false ∧ first w a.ts S ys = some (a1.ts, created)) ∨
     (a.started = true ∧ ∃ hp E, pre = some hp ∧ owner w hp = some E ∧ update w a.ts E ys = some (a1.ts, created))) := by
  unfold getToRun at e
  cases hst : a.started
  · simp only [hst, Bool.not_false, if_true] at e
    cases pre with
    | some _ => simp at e
    | none =>
      simp only at e
      cases hf : first w a.ts S ys with
      | none => rw [hf] at e; simp at e
      | some r =>
        rw [hf] at e
        simp only [Prod.mk.injEq, RunOut.ok.injEq] at e
        obtain ⟨rfl, rfl⟩ := e
        exact ⟨rfl, Or.inl ⟨rfl, rfl⟩⟩
  · simp only [hst, Bool.not_true, Bool.false_eq_true, if_false] at e
    cases pre with
    | none => simp at e
    | some hp =>
      simp only [Option.bind_some] at e
      cases ho : owner w hp with
      | none => rw [ho] at e; simp at e
      | some E =>
        rw [ho] at e
        simp only at e
        cases hu : update w a.ts E ys with
        | none => rw [hu] at e; simp at e
        | some r =>
          rw [hu] at e
          simp only [Prod.mk.injEq, RunOut.ok.injEq] at e
          obtain ⟨rfl, rfl⟩ := e
          exact ⟨rfl, Or.inr ⟨rfl, hp, E, rfl, ho, by rw [hu]⟩⟩

section
variable {w : Wires} {S : TaggerIdx} {a a1 : ActSt} {pre : Option HandlerId} {ys : TaggerIdx → List IdTuple}
  {created : List (HandlerId × IdTuple)}

theorem getToRun_ok_started (e : getToRun w S a pre ys = (a1, .ok created)) : a1.started = true :=
  (getToRun_ok_cases e).1

theorem getToRun_first (hst : a.started = false) (e : getToRun w S a none ys = (a1, .ok created)) :
    first w a.ts S ys = some (a1.ts, created) ∧ a1.started = true := by
  obtain ⟨h1, ⟨_, h2⟩ | ⟨h3, _⟩⟩ := getToRun_ok_cases e
  · exact ⟨h2, h1⟩
  · rw [hst] at h3; cases h3

theorem getToRun_update (hst : a.started = true) (e : getToRun w S a pre ys = (a1, .ok created)) :
    ∃ hp E, pre = some hp ∧ owner w hp = some E ∧ update w a.ts E ys = some (a1.ts, created) ∧ a1.started = true := by
  obtain ⟨h1, ⟨h3, _⟩ | ⟨_, hp, E, h4, h5, h6⟩⟩ := getToRun_ok_cases e
  · rw [hst] at h3; cases h3
  · exact ⟨hp, E, h4, h5, h6, h1⟩

theorem getToRun_started {h : HandlerId} {E : TaggerIdx} (hst : a.started = true) (ho : owner w h = some E)
    (e : getToRun w S a (some h) ys = (a1, .ok created)) : update w a.ts E ys = some (a1.ts, created) := by
  obtain ⟨hp, E', hpre, ho', hu, _⟩ := getToRun_update hst e
  cases hpre
  rw [ho] at ho'; cases ho'
  exact hu

end

theorem getTrashable_started {w : Wires} {a a2 : ActSt} {h : HandlerId} {r : TrashOut}
    (e : getTrashable w a h = (a2, r)) : a2.started = a.started := by
  unfold getTrashable at e
  split at e
  · simp only [Prod.mk.injEq] at e; rw [← e.1]
  · simp only [Prod.mk.injEq] at e; rw [← e.1]

theorem leg_started {κ : Type} {M : MWire} {I : SchedI κ} {st st' : MedState I.σ} {o : Oracle κ} {c : Committed κ}
    (e : leg M I st o = .ok (st', c)) : st'.act.started = true := by
  obtain ⟨s1, S⟩ := Med.leg_steps.mp e
  exact (getTrashable_started S.trashable).trans (getToRun_ok_started S.act)

theorem midAct_eq {κ : Type} {M : MWire} {σ : Type} {st : MedState σ} {o : Oracle κ} {a1 : ActSt} {r : RunOut}
    (h : getToRun M.w M.S st.act st.preceding o.yields = (a1, r)) : midAct M st o = a1.ts := by
  unfold midAct; rw [h]

theorem owner_lt {w : Wires} {h : HandlerId} {E : TaggerIdx} (e : owner w h = some E) : E < w.length := by
  unfold owner at e
  simp only at e
  split at e
  · next hlt => simp only [Option.some.injEq] at e; subst e; exact hlt
  · cases e

theorem endOfRun_mwire {c : Wiring} {S : TaggerIdx} {needs : HandlerId → Bool} {x : HandlerId} {E : TaggerIdx}
    (ho : owner c.wires x = some E) : (mwire c S needs).endOfRun x = ((c.tagger E).kind == .endOfRun) := by
  show (match owner c.wires x with
    | some E => (c.tagger E).kind == HandlerKind.endOfRun
    | none => false) = _
  rw [ho]

theorem owner_of_mem_pool {w : Wires} (pok : PoolsOK w) {h : HandlerId} {E : TaggerIdx} (hE : E < w.length)
    (hm : h ∈ (getW w E).pool) : owner w h = some E := by
  have hex : ∃ t ∈ w, (t.pool.contains h) = true := by
    refine ⟨w[E], List.getElem_mem hE, ?_⟩
    have : getW w E = w[E] := by unfold getW; rw [List.getElem?_eq_getElem hE]; rfl
    rw [this] at hm
    exact List.contains_iff_mem.mpr hm
  have hlt : w.findIdx (fun t => t.pool.contains h) < w.length := List.findIdx_lt_length_of_exists hex
  have ho : owner w h = some (w.findIdx (fun t => t.pool.contains h)) := by
    unfold owner; simp only [hlt, if_true]
  have hm' := owner_mem ho
  by_cases hEq : w.findIdx (fun t => t.pool.contains h) = E
  · rw [ho, hEq]
  · exact absurd hm (pok.2 _ _ hEq h hm')

theorem owner_of_running {w : Wires} (pok : PoolsOK w) {s : Act} (pinv : PoolInv w s) {h : HandlerId} {T : TaggerIdx}
    (hr : h ∈ (getT s T).running) : owner w h = some T := by
  have hT : T < w.length := by
    rcases Nat.lt_or_ge T w.length with h1 | h1
    · exact h1
    · rw [getT_of_le s T (by rw [pinv.1]; exact h1)] at hr; simp [TState.empty] at hr
  exact owner_of_mem_pool pok hT (pinv.mem_pool_of_running hr)

theorem kindOfH_of_owner {c : Wiring} {h : HandlerId} {E : TaggerIdx} (ho : owner c.wires h = some E) :
    kindOfH c h = (c.tagger E).kind := by
  unfold kindOfH; rw [ho]

end JF.Sys
