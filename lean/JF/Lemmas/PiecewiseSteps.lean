import JF.Model.PiecewiseBounding
import Mathlib.Tactic.SplitIfs
/-!
What one call on a piecewise-constant-bounding handler object does, read off the model `JF.Model.PiecewiseBounding`
**for every scalar type and every `Ops`** (so also for binary64): which value the cache takes in `send_event_time`, that it
depends on nothing but the arguments of that very call, what `send_out_state` decides.
-/
namespace JF.Pcb
open JF JF.Thin

variable {α : Type} [Add α] [Sub α] [Mul α] [Div α] [Neg α] [LT α] [DecidableLT α] [LE α] [DecidableLE α] [BEq α]

theorem displacement_eq_ite {β : Type} [Add β] [Div β] [LT β] [DecidableLT β] [LE β] [DecidableLE β] (o : Ops β)
    (q1 q2 off dmax E : β) :
    displacement o q1 q2 off dmax E =
      if ¬ boundRate q1 q2 off ≤ o.ofInt 0 ∧ E / boundRate q1 q2 off < dmax
      then (E / boundRate q1 q2 off, some (boundRate q1 q2 off)) else (dmax, none) := by
  unfold displacement
  simp only
  by_cases h1 : boundRate q1 q2 off ≤ o.ofInt 0
  · rw [if_pos h1, if_neg fun h => h.1 h1]
  · by_cases h2 : E / boundRate q1 q2 off < dmax
    · rw [if_neg h1, if_pos h2, if_pos ⟨h1, h2⟩]
    · rw [if_neg h1, if_neg h2, if_neg fun h => h2 h.2]

omit [Sub α] [Mul α] [Neg α] [BEq α] in
theorem displacement_proposal (o : Ops α) (q1 q2 off dmax E : α) (h1 : ¬ (boundRate q1 q2 off ≤ o.ofInt 0))
    (h2 : E / boundRate q1 q2 off < dmax) :
    displacement o q1 q2 off dmax E = (E / boundRate q1 q2 off, some (boundRate q1 q2 off)) := by
  rw [displacement_eq_ite, if_pos ⟨h1, h2⟩]

/-- what a successful `send_event_time` leaves behind, in terms of the arguments of that call alone:
the two derivatives `q1`, `q2` picked at the active index, the active leaf unit `au` and its time stamp `ts`;
the cache is `(displacement …).2`, the returned and stored time is `ts + (displacement …).1`, the stored state is the
in-state time-sliced to that time, and the potential was evaluated at the present positions and with the active unit
`max_displacement` ahead. -/
def EvtSpec (o : Ops α) (p : Params α) (s : List (CNode α)) (E : α) (d1 d2 : Deriv α)
    (h' : HState α) (t : Time α) (calls : List (PCall α)) : Prop :=
  ∃ (q1 q2 : α) (au : LUnit α) (ts : Time α) (s1 s2 : List (List α)),
    activeIndex s = some h'.ai ∧ (leafUnits s)[h'.ai]? = some au ∧ au.ts = some ts ∧
    d1.pick h'.ai = .ok q1 ∧ d2.pick h'.ai = .ok q2 ∧
    h'.cache = (displacement o q1 q2 p.offset p.dmax E).2 ∧
    t = Time.add o ts (displacement o q1 q2 p.offset p.dmax E).1 ∧
    h'.et = some t ∧ h'.st = some (sliceState o p t s) ∧
    separations o p h'.ai ((leafUnits s).map (·.pos)) = .ok s1 ∧
    separations o p h'.ai (((leafUnits s).map (·.pos)).set h'.ai (aheadPos o p au.pos (au.vel.getD []))) = .ok s2 ∧
    calls = [⟨au.vel.getD [], s1, charges o p (leafUnits s)⟩, ⟨au.vel.getD [], s2, charges o p (leafUnits s)⟩]

omit [Neg α] in
theorem sendEventTime_spec (o : Ops α) (p : Params α) (s : List (CNode α)) (E : α) (d1 d2 : Deriv α)
    {h' : HState α} {t : Time α} {calls : List (PCall α)}
    (h : sendEventTime o p s E d1 d2 = .ok (h', t, calls)) : EvtSpec o p s E d1 d2 h' t calls := by
  unfold sendEventTime at h
  dsimp only at h
  split at h
  · cases h
  · next ai hai =>
    split at h
    · cases h
    · split at h
      · cases h
      · next au hau =>
        split at h
        · cases h
        · next s1 hs1 =>
          split at h
          · cases h
          · next q1 hq1 =>
            split at h
            · cases h
            · next s2 hs2 =>
              split at h
              · cases h
              · next q2 hq2 =>
                split at h
                · cases h
                · next ts hts =>
                  simp only [Except.ok.injEq, Prod.mk.injEq] at h
                  obtain ⟨rfl, rfl, rfl⟩ := h
                  exact ⟨q1, q2, au, ts, s1, s2, hai, hau, hts, hq1, hq2, rfl, rfl, rfl, rfl, hs1, hs2, rfl⟩

/-- **the cache after `send_event_time` does not depend on the handler's past**: the step from ANY state `h` -/
theorem evt_spec (o : Ops α) (p : Params α) (h : HState α) (s : List (CNode α)) (E : α) (d1 d2 : Deriv α)
    {h' : HState α} {t : Time α} {calls : List (PCall α)}
    (hs : step o p h (.evt s E d1 d2) = (h', .time t calls)) : EvtSpec o p s E d1 d2 h' t calls := by
  simp only [step] at hs
  split at hs
  · cases hs
  · next h1 t1 c1 heq =>
    simp only [Prod.mk.injEq, Reply.time.injEq] at hs
    obtain ⟨rfl, rfl, rfl⟩ := hs
    exact sendEventTime_spec o p s E d1 d2 heq

/-- two handler objects in ANY two states that are asked for the same candidate end in the same state, or both raise the
same error (and then each keeps its own state) -/
theorem step_evt_state_free (o : Ops α) (p : Params α) (h h' : HState α) (s : List (CNode α)) (E : α)
    (d1 d2 : Deriv α) :
    step o p h (.evt s E d1 d2) = step o p h' (.evt s E d1 d2) ∨
    ∃ e, (step o p h (.evt s E d1 d2)).2 = .err e ∧ (step o p h' (.evt s E d1 d2)).2 = .err e := by
  simp only [step]
  cases sendEventTime o p s E d1 d2 with
  | error e => exact Or.inr ⟨e, rfl, rfl⟩
  | ok r => exact Or.inl rfl

/-- the derivative of the active unit that `send_out_state` compares with the draw: the float the potential returns
(two-leaf class) / entry `active index` of the sequence it returns (fixed-separations class) -/
def trueDeriv (p : Params α) (ai : Nat) : Deriv α → Option α
  | .scalar q => if p.kind = .twoLeaf then some q else none
  | .tuple xs => if p.kind = .fixedSep then xs[ai]? else none

/-- what a successful `send_out_state` does, given the cache `c`, the stored state `st` -/
def OutSpec (o : Ops α) (p : Params α) (c : Option α) (ai : Nat) (st : List (CNode α)) (d : Deriv α) (dr : Draw α)
    (r : Out α) : Prop :=
  (c = none → r = Out.idle st []) ∧
  (∀ b, c = some b → ∃ q, trueDeriv p ai d = some q ∧
      r.confirmed = confirmLeaf o q (dr.get o b) ∧
      (r.confirmed = false → r.st = st ∧ r.inserts = []) ∧
      r.warned = warns o b q ∧
      r.uni = (if o.ofInt 0 < q then some b else none) ∧
      r.calls.length = 1)

/-- the decision both classes make once the cached rate `b`, the true derivative `q` of the active unit and the draw `d`
are known; `X` is the branch that exchanges the velocity -/
theorem decide_spec {β : Type} [LT β] [DecidableLT β] (o : Ops β) (b q d : β) (st : List (CNode β))
    (calls : List (PCall β)) (X : Except String (Out β)) (hl : calls.length = 1)
    (hX : ∀ r, X = .ok r → r.confirmed = true ∧ r.warned = warns o b q ∧ r.uni = some b ∧ r.calls = calls)
    {r : Out β}
    (hr : (if o.ofInt 0 < q then if d < q then X else .ok ⟨st, false, warns o b q, calls, [], some b⟩
           else .ok (Out.idle st calls)) = .ok r) :
    r.confirmed = confirmLeaf o q d ∧ (r.confirmed = false → r.st = st ∧ r.inserts = []) ∧ r.warned = warns o b q ∧
      r.uni = (if o.ofInt 0 < q then some b else none) ∧ r.calls.length = 1 := by
  unfold confirmLeaf
  by_cases hq : o.ofInt 0 < q
  · rw [if_pos hq] at hr
    rw [decide_eq_true hq, Bool.true_and, if_pos hq]
    by_cases hd : d < q
    · rw [if_pos hd] at hr
      obtain ⟨h1, h2, h3, h4⟩ := hX r hr
      rw [h1, h4]
      exact ⟨(decide_eq_true hd).symm, nofun, h2, h3, hl⟩
    · rw [if_neg hd] at hr
      cases hr
      exact ⟨(decide_eq_false hd).symm, fun _ => ⟨rfl, rfl⟩, rfl, rfl, hl⟩
  · rw [if_neg hq] at hr
    cases hr
    rw [decide_eq_false hq, Bool.false_and, if_neg hq]
    exact ⟨rfl, fun _ => ⟨rfl, rfl⟩, (Bool.false_and _).symm.trans (by rw [warns, decide_eq_false hq]), rfl, hl⟩

omit [LE α] [DecidableLE α] in
theorem sendOutTwoLeaf_spec (o : Ops α) (p : Params α) (hk : p.kind = .twoLeaf) (h : HState α) (st : List (CNode α))
    (et : Time α) (d : Deriv α) (dr : Draw α) {r : Out α}
    (hr : sendOutTwoLeaf o p h st et d dr = .ok r) : OutSpec o p h.cache h.ai st d dr r := by
  obtain ⟨hst, ai, c, het⟩ := h
  cases hsp : separations o p ai ((leafUnits st).map (·.pos)) with
  | error e => simp only [sendOutTwoLeaf, hsp, reduceCtorEq] at hr
  | ok ss =>
    cases c with
    | none =>
      simp only [sendOutTwoLeaf, hsp, Except.ok.injEq] at hr
      exact ⟨fun _ => hr.symm, nofun⟩
    | some b =>
      refine ⟨nofun, fun b' hb' => ?_⟩
      cases hb'
      cases d with
      | tuple ders => simp only [sendOutTwoLeaf, hsp, reduceCtorEq] at hr
      | scalar q =>
        simp only [sendOutTwoLeaf, hsp] at hr
        refine ⟨q, if_pos hk, decide_spec o b q _ st _ _ rfl ?_ hr⟩
        intro r hX
        split at hX
        · split at hX
          · cases hX; exact ⟨rfl, rfl, rfl, rfl⟩
          · cases hX
        · cases hX

theorem sendOutFixedSep_spec (o : Ops α) (p : Params α) (hk : p.kind = .fixedSep) (h : HState α) (st : List (CNode α))
    (et : Time α) (d : Deriv α) (dr : Draw α) (nid : List Nat) {r : Out α}
    (hr : sendOutFixedSep o p h st et d dr nid = .ok r) : OutSpec o p h.cache h.ai st d dr r := by
  obtain ⟨hst, ai, c, het⟩ := h
  cases hsp : separations o p ai ((leafUnits st).map (·.pos)) with
  | error e => simp only [sendOutFixedSep, hsp, reduceCtorEq] at hr
  | ok ss =>
    cases c with
    | none =>
      simp only [sendOutFixedSep, hsp, Except.ok.injEq] at hr
      exact ⟨fun _ => hr.symm, nofun⟩
    | some b =>
      refine ⟨nofun, fun b' hb' => ?_⟩
      cases hb'
      by_cases hb0 : (!decide (o.ofInt 0 ≤ b)) = true
      · simp only [sendOutFixedSep, hsp, hb0, ↓reduceIte, reduceCtorEq] at hr
      · cases d with
        | scalar x => simp only [sendOutFixedSep, hsp, hb0, ↓reduceIte, reduceCtorEq] at hr
        | tuple ders =>
          cases hq : ders[ai]? with
          | none => simp only [sendOutFixedSep, hsp, hb0, hq, ↓reduceIte, reduceCtorEq] at hr
          | some q =>
            simp only [sendOutFixedSep, hsp, hb0, hq] at hr
            refine ⟨q, (if_pos hk).trans hq, decide_spec o b q _ st _ _ rfl ?_ hr⟩
            intro r hX
            split at hX
            · cases hX
            · split at hX
              · split at hX
                · cases hX; exact ⟨rfl, rfl, rfl, rfl⟩
                · cases hX
              · cases hX

/-- **`send_out_state`, every scalar type**: the handler state keeps its cache, active index and candidate time; with an
empty cache nothing happens (no call of the potential, no draw, the stored state is returned); with a cached rate `b`
the event is confirmed exactly when the kernel comparison `0 < q ∧ draw < q` says so, and an unconfirmed event returns
the stored state unchanged. -/
theorem out_spec (o : Ops α) (p : Params α) (h : HState α) (d : Deriv α) (dr : Draw α) (nid : List Nat)
    {h' : HState α} {r : Out α} (hs : step o p h (.out d dr nid) = (h', .out r)) :
    h' = { h with st := some r.st } ∧
    ∃ st et, h.st = some st ∧ h.et = some et ∧ OutSpec o p h.cache h.ai st d dr r := by
  simp only [step] at hs
  split at hs
  · cases hs
  · next r1 heq =>
    simp only [Prod.mk.injEq, Reply.out.injEq] at hs
    obtain ⟨rfl, rfl⟩ := hs
    refine ⟨rfl, ?_⟩
    unfold sendOutState at heq
    split at heq
    · next st et hst het =>
      refine ⟨st, et, hst, het, ?_⟩
      split at heq
      · next hk => exact sendOutTwoLeaf_spec o p hk h st et d dr heq
      · next hk => exact sendOutFixedSep_spec o p hk h st et d dr nid heq
    · cases heq

theorem after_nil (o : Ops α) (p : Params α) (h : HState α) : after o p h [] = h := rfl

theorem after_cons (o : Ops α) (p : Params α) (h : HState α) (s : Step α) (ss : List (Step α)) :
    after o p h (s :: ss) = after o p (step o p h s).1 ss := rfl

theorem after_append (o : Ops α) (p : Params α) (h : HState α) (ss : List (Step α)) (s : Step α) :
    after o p h (ss ++ [s]) = (step o p (after o p h ss) s).1 := by
  induction ss generalizing h with
  | nil => rfl
  | cons x xs ih => exact ih (step o p h x).1

/-- what every cached rate satisfies: it is not `≤ 0` (every scalar type) -/
def CacheInv (o : Ops α) (h : HState α) : Prop := ∀ b, h.cache = some b → ¬ (b ≤ o.ofInt 0)

theorem cacheInv_init {β : Type} [LE β] (o : Ops β) : CacheInv o (HState.init : HState β) :=
  nofun

/-- a failed call leaves the handler state as it was, a successful `send_out_state` keeps the cache, a successful
`send_event_time` caches a rate only in the branch where it is not `≤ 0` -/
theorem cacheInv_step (o : Ops α) (p : Params α) (h : HState α) (s : Step α) (hi : CacheInv o h) :
    CacheInv o (step o p h s).1 := by
  intro b hb
  cases s with
  | evt sIn E d1 d2 =>
    simp only [step] at hb
    split at hb
    · exact hi b hb
    · next heq =>
      obtain ⟨q1, q2, _, _, _, _, _, _, _, _, _, hcache, _⟩ := sendEventTime_spec o p sIn E d1 d2 heq
      rw [hcache, displacement_eq_ite] at hb
      split at hb
      · next hp => cases hb; exact hp.1
      · cases hb
  | out d dr nid =>
    simp only [step] at hb
    split at hb <;> exact hi b hb

theorem cacheInv_after (o : Ops α) (p : Params α) (h : HState α) (ss : List (Step α)) (hi : CacheInv o h) :
    CacheInv o (after o p h ss) := by
  induction ss generalizing h with
  | nil => exact hi
  | cons s ss ih => rw [after_cons]; exact ih _ (cacheInv_step o p h s hi)

end JF.Pcb
