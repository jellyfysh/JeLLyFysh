import JF.Lemmas.DisplacementReal
import JF.Lemmas.DisplacementPeriodic
/-!
# The two inverse-power routines: a returned distance accumulates exactly the budget
-/
namespace JF.DispR
open Set JF.Uphill

variable {K p s q dE d : ℝ}

theorem dispRepulsive_of_lt (hs : 0 < s) (h : dE < pot K p (0 * 0 + q) - pot K p (s * s + q)) :
    dispRepulsive K p s q dE =
      some (s - Real.sqrt ((K / (pot K p (s * s + q) + dE)) ^ (2 / p) - q)) := by
  simp only [dispRepulsive, if_neg (not_le.2 hs), if_pos h]

theorem dispRepulsive_eq_some (h : dispRepulsive K p s q dE = some d) :
    0 < s ∧ dE < pot K p (0 * 0 + q) - pot K p (s * s + q) ∧
      d = s - Real.sqrt ((K / (pot K p (s * s + q) + dE)) ^ (2 / p) - q) := by
  simp only [dispRepulsive] at h
  split_ifs at h with h1 h2
  exact ⟨not_le.1 h1, h2, (Option.some.inj h).symm⟩

/-- the squared distance `R2` the repulsive routine solves for lies between the closest approach and the
start, and has the wanted potential -/
theorem repulsive_radius (hK : 0 < K) (hp : 0 < p) (hq : 0 < q) (hE : 0 ≤ dE)
    (h2 : dE < pot K p (0 * 0 + q) - pot K p (s * s + q)) :
    let R2 := (K / (pot K p (s * s + q) + dE)) ^ (2 / p)
    q < R2 ∧ R2 ≤ s * s + q ∧ pot K p R2 = pot K p (s * s + q) + dE := by
  intro R2
  have hn : 0 < s * s + q := add_pos_of_nonneg_of_pos (mul_self_nonneg s) hq
  have hKy : 0 < K / (pot K p (s * s + q) + dE) := div_pos hK (add_pos_of_pos_of_nonneg (pot_pos hK hn) hE)
  have hR : pot K p R2 = pot K p (s * s + q) + dE := pot_inv hp hKy
  rw [zero_mul, zero_add] at h2
  -- the potential decreases with the distance, and `U(start) ≤ U(R2) < U(closest approach)`
  refine ⟨lt_of_not_ge fun h => ?_, le_of_not_gt fun h => ?_, hR⟩
  · have := pot_anti hK hp (Real.rpow_pos_of_pos hKy _) h
    rw [hR] at this
    exact this.not_gt (lt_sub_iff_add_lt'.1 h2)
  · have := pot_strictAnti hK hp hn h
    rw [hR] at this
    exact this.not_ge (le_add_of_nonneg_right hE)

/-- **Inverse power, repulsive.**  A returned distance ends before the closest approach, on the climb
toward it, where the potential exceeds the current one by exactly the budget. -/
theorem repulsive_some (hK : 0 < K) (hp : 0 < p) (hq : 0 < q) (hE : 0 ≤ dE)
    (h : dispRepulsive K p s q dE = some d) : d < s ∧ Good (path K p s q) d dE := by
  obtain ⟨hs, h2, rfl⟩ := dispRepulsive_eq_some h
  obtain ⟨hR1, hR2, hR3⟩ := repulsive_radius hK hp hq hE h2
  have hlt := sub_lt_self s (Real.sqrt_pos.2 (sub_pos.2 hR1))
  have g := Good.of_mono (sub_nonneg.2 (sqrt_sub_le hs.le hR2)) (path_monoOn_of_pos hK hp hq hlt.le)
  unfold path at g
  rw [nsq_sub_sqrt hR1.le, nsq_zero, hR3, add_sub_cancel_left] at g
  exact ⟨hlt, g⟩

/-- the last stage of `_displacement_attractive`: the climb away from the target, from a position `s ≤ 0` in front of it -/
noncomputable def attractiveFront (K p s q dE : ℝ) : Option ℝ :=
  if pot K p (s * s + q) + dE ≥ 0 then none
  else some (s + Real.sqrt ((K / (pot K p (s * s + q) + dE)) ^ (2 / p) - q))

theorem dispAttractive_behind (hs : 0 < s) :
    dispAttractive K p s q dE = (attractiveFront K p 0 q dE).map (s + ·) := by
  simp only [dispAttractive, attractiveFront, if_pos hs]
  split_ifs <;> simp

theorem dispAttractive_front (hs : s ≤ 0) : dispAttractive K p s q dE = attractiveFront K p s q dE := by
  simp only [dispAttractive, attractiveFront, if_neg (not_lt.2 hs), zero_add]

theorem path_shift (K p s q d : ℝ) : path K p (s - d) q = fun x => path K p s q (x + d) := by
  funext x; unfold path nsq; rw [sub_sub, add_comm d x]

/-- the squared distance `R2` the attractive routine solves for, from the position `s'` reached after the
downhill stretch, is not below the start and has the wanted potential -/
theorem attractive_radius {s' : ℝ} (hK : K < 0) (hp : 0 < p) (hq : 0 < q) (hE : 0 ≤ dE)
    (h2 : pot K p (s' * s' + q) + dE < 0) :
    let R2 := (K / (pot K p (s' * s' + q) + dE)) ^ (2 / p)
    s' * s' + q ≤ R2 ∧ pot K p R2 = pot K p (s' * s' + q) + dE := by
  intro R2
  have hn : 0 < s' * s' + q := add_pos_of_nonneg_of_pos (mul_self_nonneg s') hq
  have hR : pot K p R2 = pot K p (s' * s' + q) + dE := pot_inv hp (div_pos_of_neg_of_neg hK h2)
  -- the potential increases with the distance, and `U(start) ≤ U(R2)`
  refine ⟨le_of_not_gt fun h => ?_, hR⟩
  have := pot_strictMono_of_neg hK hp (Real.rpow_pos_of_pos (div_pos_of_neg_of_neg hK h2) _) h
  rw [hR] at this
  exact this.not_ge (le_add_of_nonneg_right hE)

/-- **Inverse power, attractive, in front of the target**: the path climbs from the start on; a returned distance ends
where the potential exceeds the current one by exactly the budget, and the answer is `none` when the budget lifts the
energy to the level at infinity (`≥ 0`), which the path never reaches -/
theorem attractiveFront_ok (hK : K < 0) (hp : 0 < p) (hq : 0 < q) (hE : 0 ≤ dE) (hs : s ≤ 0) :
    Outcome (path K p s q) dE (attractiveFront K p s q dE) := by
  have hm : ∀ d, MonotoneOn (path K p s q) (Icc 0 d) := fun d => path_monoOn_of_neg hK hp hq hs
  unfold attractiveFront
  split_ifs with h1
  · intro d hd
    refine ⟨bv_mono (hm d) hd, ?_⟩
    rw [uphill_mono (hm d) hd, path_zero]
    exact sub_lt_iff_lt_add'.2 ((pot_neg_of_neg hK (nsq_pos hq)).trans_le h1)
  · obtain ⟨hR1, hR3⟩ := attractive_radius hK hp hq hE (not_le.1 h1)
    have g := Good.of_mono (neg_le_iff_add_nonneg'.1 (neg_le_sqrt_sub hs hR1)) (hm _)
    unfold path at g
    rwa [nsq_add_sqrt ((le_add_of_nonneg_left (mul_self_nonneg s)).trans hR1), nsq_zero, hR3,
      add_sub_cancel_left] at g

/-- **Inverse power, attractive**: behind the target first the descent to the closest approach, which accumulates
nothing; then the climb away -/
theorem attractive_ok (hK : K < 0) (hp : 0 < p) (hq : 0 < q) (hE : 0 ≤ dE) :
    Outcome (path K p s q) dE (dispAttractive K p s q dE) := by
  rcases lt_or_ge 0 s with hs | hs
  · -- the climb from the closest approach, its separation written `s - s` for `path_shift`
    have h := attractiveFront_ok (s := s - s) hK hp hq hE (sub_self s).le
    rw [path_shift, sub_self] at h
    rw [dispAttractive_behind hs]
    exact Outcome.after (Good.of_anti hs.le (path_antiOn_of_neg hK hp hq le_rfl)) h (zero_add dE)
  · rw [dispAttractive_front hs]
    exact attractiveFront_ok hK hp hq hE hs

end JF.DispR
