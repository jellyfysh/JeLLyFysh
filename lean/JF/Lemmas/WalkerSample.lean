import JF.Lemmas.WalkerBuild
import Mathlib.Order.Interval.Set.Basic
/-!
Helper lemmas for C18: the draws on which a well-formed table row returns a given item (`Walker.sample_cell`
after `random.choice`).  The sets of draws are described over any linear order: the exact reading takes the draws
from `ℚ`, the measure statement from `ℝ`.
-/
namespace JF.Walker

theorem sampleRow_pair_draws {α : Type} [LinearOrder α] (a m : α) (s l : Item α) (i : Nat)
    (h0 : a ≤ s.rate) (hm : s.rate ≤ m) :
    {x : α | a < x ∧ x ≤ m ∧ sampleRow (.pair s l) x = .ok i} =
      (if s.item = i then Set.Ioc a s.rate else ∅) ∪ (if l.item = i then Set.Ioc s.rate m else ∅) := by
  ext x
  simp only [Set.mem_ofPred_eq, Set.mem_union, Set.mem_ite_empty_right, Set.mem_Ioc, sampleRow]
  by_cases hx : x ≤ s.rate
  · rw [if_pos hx, Except.ok.injEq]
    exact ⟨fun ⟨h1, _, h3⟩ => Or.inl ⟨h3, h1, hx⟩,
      fun h => h.elim (fun ⟨h3, h1, _⟩ => ⟨h1, hx.trans hm, h3⟩) fun ⟨_, h, _⟩ => absurd hx (not_le.mpr h)⟩
  · rw [if_neg hx, Except.ok.injEq]
    exact ⟨fun ⟨_, h2, h3⟩ => Or.inr ⟨h3, not_le.mp hx, h2⟩,
      fun h => h.elim (fun ⟨_, _, h⟩ => absurd h hx) fun ⟨h3, h1, h2⟩ => ⟨h0.trans_lt h1, h2, h3⟩⟩

theorem sampleRow_single_draws {α : Type} [LinearOrder α] (a m : α) (y : Item α) (i : Nat) (hy : y.rate = m) :
    {x : α | a < x ∧ x ≤ m ∧ sampleRow (.single y) x = .ok i} = if y.item = i then Set.Ioc a m else ∅ := by
  ext x
  simp only [Set.mem_ofPred_eq, Set.mem_ite_empty_right, Set.mem_Ioc, sampleRow, hy]
  constructor
  · rintro ⟨h1, h2, h3⟩
    rw [if_pos h2, Except.ok.injEq] at h3
    exact ⟨h3, h1, h2⟩
  · rintro ⟨h3, h1, h2⟩
    exact ⟨h1, h2, by rw [if_pos h2, h3]⟩

/-- `sample_cell` raises nothing but `IndexError` -/
theorem sampleCell_error {t : Table ℚ} {k : Nat} {x : ℚ} {er : Err} (h : sampleCell t k x = .error er) :
    er = .index := by
  unfold sampleCell at h
  split at h
  · cases h; rfl
  · rename_i row _
    cases row with
    | pair s l => simp only [sampleRow] at h; split at h <;> cases h
    | single y => simp only [sampleRow] at h; split at h <;> cases h; rfl

theorem contrib_nonneg {m : ℚ} {row : Row ℚ} (hrow : RowOK m row) (hm : 0 ≤ m) (i : Nat) : 0 ≤ contrib i row := by
  cases row with
  | pair s l =>
    obtain ⟨h0, h1, hl, -⟩ := hrow
    simp only [contrib, hl]
    exact add_nonneg (by split; exacts [h0, le_rfl]) (by split; exacts [sub_nonneg.mpr h1, le_rfl])
  | single y =>
    have hy : y.rate = m := hrow
    simp only [contrib, hy]
    split
    exacts [hm, le_rfl]

theorem contrib_pos_of_sampled {m : ℚ} {row : Row ℚ} (hrow : RowOK m row) {i : Nat} {x : ℚ} (hx0 : 0 < x)
    (hxm : x ≤ m) (hs : sampleRow row x = .ok i) : 0 < contrib i row := by
  cases row with
  | pair s l =>
    obtain ⟨h0, h1, hl, -⟩ := hrow
    simp only [sampleRow] at hs
    simp only [contrib, hl]
    by_cases hx : x ≤ s.rate
    · rw [if_pos hx, Except.ok.injEq] at hs
      rw [if_pos hs]
      exact add_pos_of_pos_of_nonneg (hx0.trans_le hx) (by split; exacts [sub_nonneg.mpr h1, le_rfl])
    · rw [if_neg hx, Except.ok.injEq] at hs
      rw [if_pos hs]
      exact add_pos_of_nonneg_of_pos (by split; exacts [h0, le_rfl]) (sub_pos.mpr ((not_le.mp hx).trans_le hxm))
  | single y =>
    have hy : y.rate = m := hrow
    simp only [sampleRow, hy, if_pos hxm, Except.ok.injEq] at hs
    simp only [contrib, hy, if_pos hs]
    exact hx0.trans_le hxm

end JF.Walker
