import JF.Lemmas.MediatorLaws
import JF.Lemmas.ActivatorFresh
/-!
The invariant of the composed mediator loop (`JF.Med.leg`) and its induction step, for every scheduler instance that
satisfies `JF.Med.Laws`: the ghost dictionary of pending candidate times mirrors the running lists of the activator model,
and the scheduler state holds exactly the pending events it keeps.  `leg_facts` says what every successful leg from such a state
satisfies (`LegFacts`).
-/
namespace JF.Med
open JF.Act JF.Heap JF.Sched

variable {κ : Type}

/-- `p` after the `push_event` calls `l` -/
def pushAll (p : Pend κ) (l : List (HandlerId × κ)) : Pend κ := l.foldl (fun p q => upd p q.1 (some q.2)) p
/-- `p` after the `trash_event` calls `hs` -/
def dropAll (p : Pend κ) (hs : List HandlerId) : Pend κ := hs.foldl (fun p h => upd p h none) p

theorem pushAll_not_mem (p : Pend κ) (l : List (HandlerId × κ)) {h : HandlerId} (hn : h ∉ l.map Prod.fst) :
    pushAll p l h = p h := by
  induction l generalizing p with
  | nil => rfl
  | cons q l ih =>
    simp only [List.map_cons, List.mem_cons, not_or] at hn
    show pushAll (upd p q.1 (some q.2)) l h = p h
    rw [ih _ hn.2, upd_ne _ _ hn.1]

theorem pushAll_mem (p : Pend κ) {l : List (HandlerId × κ)} (nd : (l.map Prod.fst).Nodup) {q : HandlerId × κ} (hq : q ∈ l) :
    pushAll p l q.1 = some q.2 := by
  induction l generalizing p with
  | nil => simp at hq
  | cons a l ih =>
    simp only [List.map_cons, List.nodup_cons] at nd
    show pushAll (upd p a.1 (some a.2)) l q.1 = some q.2
    rcases List.mem_cons.mp hq with rfl | hq
    · rw [pushAll_not_mem _ _ nd.1, upd_self]
    · exact ih _ nd.2 hq

theorem pushAll_isSome (p : Pend κ) (l : List (HandlerId × κ)) (h : HandlerId) :
    (pushAll p l h).isSome ↔ (p h).isSome ∨ h ∈ l.map Prod.fst := by
  induction l generalizing p with
  | nil => simp [pushAll]
  | cons a l ih =>
    show (pushAll (upd p a.1 (some a.2)) l h).isSome ↔ _
    rw [ih]
    simp only [List.map_cons, List.mem_cons]
    by_cases ha : h = a.1
    · subst ha; simp
    · rw [upd_ne _ _ ha]; simp [ha]

theorem pushAll_some (p : Pend κ) (l : List (HandlerId × κ)) {h : HandlerId} {t : κ} (e : pushAll p l h = some t) :
    p h = some t ∨ (h, t) ∈ l := by
  induction l generalizing p with
  | nil => exact Or.inl e
  | cons a l ih =>
    rcases ih (upd p a.1 (some a.2)) e with h1 | h1
    · by_cases ha : h = a.1
      · subst ha; rw [upd_self] at h1; cases h1; exact Or.inr (List.mem_cons_self ..)
      · rw [upd_ne _ _ ha] at h1; exact Or.inl h1
    · exact Or.inr (List.mem_cons_of_mem _ h1)

theorem dropAll_eq (p : Pend κ) (hs : List HandlerId) (h : HandlerId) :
    dropAll p hs h = if h ∈ hs then none else p h := by
  induction hs generalizing p with
  | nil => simp [dropAll]
  | cons a hs ih =>
    show dropAll (upd p a none) hs h = _
    rw [ih]
    by_cases h1 : h ∈ hs
    · simp [h1]
    · by_cases ha : h = a
      · subst ha; simp [h1]
      · simp [h1, ha, upd_ne _ _ ha]

theorem pushLoop_rel {cfg : Cfg κ} {I : SchedI κ} {vis : κ → Bool} {R : I.σ → Pend κ → κ → Prop} (L : Laws cfg I vis R)
    (M : MWire) (o : Oracle κ) : ∀ (created : List (HandlerId × IdTuple)) (s s1 : I.σ) (p : Pend κ) (l : κ),
    R s p l → (created.map Prod.fst).Nodup → (∀ h ∈ created.map Prod.fst, p h = none) →
    pushLoop M I o s created = .ok s1 → R s1 (pushAll p (created.map fun q => (q.1, o.cand q.1))) l := by
  intro created
  induction created with
  | nil => intro s s1 p l hR _ _ e; simp only [pushLoop, Except.ok.injEq] at e; subst e; exact hR
  | cons a rest ih =>
    intro s s1 p l hR nd hn e
    obtain ⟨h, ids⟩ := a
    simp only [List.map_cons, List.nodup_cons] at nd
    unfold pushLoop at e
    split at e
    · cases e
    · show R s1 (pushAll (upd p h (some (o.cand h))) (rest.map fun q => (q.1, o.cand q.1))) l
      refine ih _ _ _ _ (L.push (o.cand h) hR (hn h (by simp))) nd.2 ?_ e
      intro x hx
      have hne : x ≠ h := fun hc => nd.1 (hc ▸ hx)
      rw [upd_ne _ _ hne]
      exact hn x (by simp [hx])

/-- the in-state assertions do not depend on the scheduler -/
theorem pushLoop_transfer {I J : SchedI κ} (M : MWire) (o : Oracle κ) : ∀ (created : List (HandlerId × IdTuple))
    (s s1 : I.σ) (sJ : J.σ), pushLoop M I o s created = .ok s1 → ∃ sJ1, pushLoop M J o sJ created = .ok sJ1 := by
  intro created
  induction created with
  | nil => intro s s1 sJ _; exact ⟨sJ, rfl⟩
  | cons a rest ih =>
    intro s s1 sJ e
    obtain ⟨h, ids⟩ := a
    unfold pushLoop at e ⊢
    split at e
    · cases e
    · next hc => rw [if_neg hc]; exact ih _ _ _ e

theorem trashAll_rel {cfg : Cfg κ} {I : SchedI κ} {vis : κ → Bool} {R : I.σ → Pend κ → κ → Prop} (L : Laws cfg I vis R) :
    ∀ (hs : List HandlerId) (s s3 : I.σ) (p : Pend κ) (l : κ), R s p l → trashAll I s hs = .ok s3 → R s3 (dropAll p hs) l := by
  intro hs
  induction hs with
  | nil => intro s s3 p l hR e; simp only [trashAll, Except.ok.injEq] at e; subst e; exact hR
  | cons h hs ih =>
    intro s s3 p l hR e
    unfold trashAll at e
    split at e
    · cases e
    · next s' hs' => exact ih _ _ _ _ (L.trash hR hs') e

theorem trashAll_succeeds {cfg : Cfg κ} {I : SchedI κ} {vis : κ → Bool} {R : I.σ → Pend κ → κ → Prop} (L : Laws cfg I vis R) :
    ∀ (hs : List HandlerId) (s : I.σ) (p : Pend κ) (l : κ), R s p l → hs.Nodup → (∀ h ∈ hs, (p h).isSome) →
    ∃ s3, trashAll I s hs = .ok s3 := by
  intro hs
  induction hs with
  | nil => intro s p l _ _ _; exact ⟨s, rfl⟩
  | cons h hs ih =>
    intro s p l hR nd hsome
    obtain ⟨t, ht⟩ := Option.isSome_iff_exists.mp (hsome h (by simp))
    obtain ⟨s', hs'⟩ := L.trash_ok hR ht
    unfold trashAll
    rw [hs']
    simp only
    refine ih s' _ l (L.trash hR hs') (List.nodup_cons.mp nd).2 ?_
    intro x hx
    have hne : x ≠ h := fun hc => (List.nodup_cons.mp nd).1 (hc ▸ hx)
    rw [upd_ne _ _ hne]
    exact hsome x (by simp [hx])

/-- static well-formedness of the configuration: duplicate-free create lists in range, duplicate-free pairwise disjoint
handler pools (all proved for generated wirings in `JF/Lemmas/ActivatorWiring.lean`), a start-of-run tagger in range -/
structure Static (M : MWire) : Prop where
  wf : WFw M.w
  pok : PoolsOK M.w
  hS : M.S < M.w.length

theorem getToRun_ok {M : MWire} (hs : Static M) {a a1 : ActSt} {pre : Option HandlerId} {ys : TaggerIdx → List IdTuple}
    {created : List (HandlerId × IdTuple)} (pinv : PoolInv M.w a.ts)
    (e : getToRun M.w M.S a pre ys = (a1, .ok created)) :
    PoolInv M.w a1.ts ∧ (created.map Prod.fst).Nodup ∧ (∀ h ∈ created.map Prod.fst, ∀ U, h ∉ (getT a.ts U).running) ∧
    ∀ h, (∃ T, h ∈ (getT a1.ts T).running) ↔ (∃ T, h ∈ (getT a.ts T).running) ∨ h ∈ created.map Prod.fst := by
  have core : ∀ (E : TaggerIdx) (Ts : List TaggerIdx) (s' : Act), Ts.Nodup → (∀ T ∈ Ts, T < M.w.length) →
      createLoop ys (applyActivation M.w a.ts E) Ts = some (s', created) →
      PoolInv M.w s' ∧ (created.map Prod.fst).Nodup ∧ (∀ h ∈ created.map Prod.fst, ∀ U, h ∉ (getT a.ts U).running) ∧
      ∀ h, (∃ T, h ∈ (getT s' T).running) ↔ (∃ T, h ∈ (getT a.ts T).running) ∨ h ∈ created.map Prod.fst := by
    intro E Ts s' nd hr hc
    obtain ⟨knd, k⟩ := create_keys hs.pok pinv nd hr hc
    obtain ⟨new, hnew, hT⟩ := create_spec nd (fun T h => by rw [pinv.1]; exact hr T h) hc
    refine ⟨poolInv_createLoop (poolInv_applyActivation E pinv) hc, knd, fun h hh => (k h hh).2, fun h => ?_⟩
    -- every tagger's running list grows by the handlers handed out for it
    have : h ∈ created.map Prod.fst ↔ ∃ T, h ∈ (new T).map Prod.fst := by
      simp only [List.mem_map, hnew]
      exact ⟨fun ⟨p, ⟨T, hp⟩, e⟩ => ⟨T, p, hp, e⟩, fun ⟨T, p, hp, e⟩ => ⟨p, ⟨T, hp⟩, e⟩⟩
    simp only [this, (hT _).1, List.mem_append, exists_or]
  unfold getToRun at e
  split at e
  · -- first call
    split at e
    · simp only [Prod.mk.injEq, reduceCtorEq, and_false] at e
    · split at e
      · simp only [Prod.mk.injEq, reduceCtorEq, and_false] at e
      · next s' out hf =>
        simp only [Prod.mk.injEq, RunOut.ok.injEq] at e
        obtain ⟨rfl, rfl⟩ := e
        exact core M.S [M.S] s' (by simp) (by intro T hT; simp at hT; subst hT; exact hs.hS) hf
  · split at e
    · simp only [Prod.mk.injEq, reduceCtorEq, and_false] at e
    · next E hE =>
      split at e
      · simp only [Prod.mk.injEq, reduceCtorEq, and_false] at e
      · next s' out hf =>
        simp only [Prod.mk.injEq, RunOut.ok.injEq] at e
        obtain ⟨rfl, rfl⟩ := e
        exact core E (getW M.w E).creates s' (hs.wf E).1 (hs.wf E).2 hf

theorem owner_mem {w : Wires} {h : HandlerId} {E : TaggerIdx} (e : owner w h = some E) : h ∈ (getW w E).pool := by
  unfold owner at e
  simp only at e
  split at e
  · next hlt =>
    simp only [Option.some.injEq] at e
    subst e
    have := List.findIdx_getElem (w := hlt)
    unfold getW
    rw [List.getElem?_eq_getElem hlt]
    simpa using this
  · cases e

/-- the returned list of the trash loop has no duplicates (pools are disjoint, a tagger listed twice contributes once) -/
theorem trashLoop_out_nodup {w : Wires} (pok : PoolsOK w) : ∀ (Ts : List TaggerIdx) (s : Act), PoolInv w s →
    (trashLoop s Ts).2.Nodup := by
  intro Ts
  induction Ts with
  | nil => intro s _; simp [trashLoop]
  | cons T Ts ih =>
    intro s pinv
    simp only [trashLoop]
    have p1 : PoolInv w (s.set T { getT s T with notRunning := (getT s T).notRunning ++ (getT s T).running, running := [] }) := by
      have := poolInv_trashLoop [T] pinv
      simpa [trashLoop] using this
    rw [List.nodup_append]
    refine ⟨(List.nodup_append.mp (pinv.nodup pok T)).1, ih _ p1, ?_⟩
    intro a ha b hb hab
    subst hab
    obtain ⟨U, hU, hbU⟩ := (trashLoop_out_mem _ Ts a).mp hb
    rw [getT_set] at hbU
    split at hbU
    · simp at hbU
    · next hc =>
      have hne : T ≠ U := by
        intro hTU; subst hTU
        by_cases hl : T < s.length
        · exact hc ⟨rfl, hl⟩
        · rw [getT_of_le s T (Nat.le_of_not_lt hl)] at ha; simp [TState.empty] at ha
      exact pok.2 T U hne a (pinv.mem_pool_of_running ha) (pinv.mem_pool_of_running hbU)

theorem getTrashable_ok {M : MWire} (hs : Static M) {a a2 : ActSt} {h : HandlerId} {trashed : List HandlerId}
    (pinv : PoolInv M.w a.ts) (e : getTrashable M.w a h = (a2, .ok trashed)) :
    ∃ E, owner M.w h = some E ∧ a2.ts = (trash M.w a.ts E).1 ∧ trashed = (trash M.w a.ts E).2 ∧
      h ∈ (getT a.ts E).running ∧ h ∈ trashed ∧ trashed.Nodup ∧ PoolInv M.w a2.ts ∧
      (∀ x ∈ trashed, ∃ T, x ∈ (getT a.ts T).running) ∧
      ∀ x, (∃ T, x ∈ (getT a2.ts T).running) ↔ (∃ T, x ∈ (getT a.ts T).running) ∧ x ∉ trashed := by
  unfold getTrashable at e
  split at e
  · simp only [Prod.mk.injEq, reduceCtorEq, and_false] at e
  · next E hE =>
    simp only at e
    split at e
    · next hcont =>
      simp only [Prod.mk.injEq, TrashOut.ok.injEq] at e
      obtain ⟨rfl, rfl⟩ := e
      have hmem : h ∈ (trash M.w a.ts E).2 := by simpa using hcont
      have hchar := fun x => trashLoop_out_mem a.ts (getW M.w E).trashes x
      refine ⟨E, hE, rfl, rfl, ?_, hmem, trashLoop_out_nodup hs.pok _ _ pinv, poolInv_trash E pinv, ?_, ?_⟩
      · obtain ⟨T, _, hT⟩ := (hchar h).mp hmem
        have h1 : h ∈ (getW M.w T).pool := pinv.mem_pool_of_running hT
        have h2 : h ∈ (getW M.w E).pool := owner_mem hE
        by_cases hTE : T = E
        · subst hTE; exact hT
        · exact absurd h2 (hs.pok.2 T E hTE h h1)
      · intro x hx
        obtain ⟨T, _, hT⟩ := (hchar x).mp hx
        exact ⟨T, hT⟩
      · intro x
        show (∃ T, x ∈ (getT (trash M.w a.ts E).1 T).running) ↔ _
        constructor
        · rintro ⟨T, hT⟩
          rw [trash_running] at hT
          obtain ⟨ht, hT⟩ := mem_kept.mp hT
          refine ⟨⟨T, hT⟩, fun hx => ?_⟩
          obtain ⟨U, hU, hxU⟩ := (hchar x).mp hx
          have hne : U ≠ T := fun hc => ht (hc ▸ hU)
          exact hs.pok.2 U T hne x (pinv.mem_pool_of_running hxU) (pinv.mem_pool_of_running hT)
        · rintro ⟨⟨T, hT⟩, hx⟩
          have ht : T ∉ (getW M.w E).trashes := fun hc => hx ((hchar x).mpr ⟨T, hc, hT⟩)
          exact ⟨T, by rw [trash_running]; exact mem_kept.mpr ⟨ht, hT⟩⟩
    · simp only [Prod.mk.injEq, reduceCtorEq, and_false] at e

/-- the ghost dictionary after the pushes of a leg / after its trashes as well -/
def pendPushed (p : Pend κ) (c : Committed κ) : Pend κ := pushAll p c.pushed
def pendAfter (p : Pend κ) (c : Committed κ) : Pend κ := dropAll (pendPushed p c) c.trashed

theorem pendAfter_some {p : Pend κ} {c : Committed κ} {h : HandlerId} {t : κ} (e : pendAfter p c h = some t) :
    h ∉ c.trashed ∧ pendPushed p c h = some t := by
  have e' : dropAll (pendPushed p c) c.trashed h = some t := e
  rw [dropAll_eq] at e'
  split at e'
  · cases e'
  · exact ⟨by assumption, e'⟩

theorem pendAfter_trashed (p : Pend κ) {c : Committed κ} {h : HandlerId} (hh : h ∈ c.trashed) : pendAfter p c h = none := by
  show dropAll (pendPushed p c) c.trashed h = none
  rw [dropAll_eq, if_pos hh]

/-- the composed invariant: bookkeeping of the activator, the scheduler holds exactly the pending events it keeps (`R`), and a
handler has a pending event iff it is a running handler of some tagger -/
structure MInv (M : MWire) {I : SchedI κ} (R : I.σ → Pend κ → κ → Prop) (st : MedState I.σ) (p : Pend κ) (l : κ) : Prop where
  pool : PoolInv M.w st.act.ts
  rel : R st.sched p l
  mirror : ∀ h, (p h).isSome ↔ ∃ T, h ∈ (getT st.act.ts T).running

/-- the activator state in the middle of the leg (after `get_event_handlers_to_run`) -/
def midAct (M : MWire) {σ : Type} (st : MedState σ) (o : Oracle κ) : Act :=
  (getToRun M.w M.S st.act st.preceding o.yields).1.ts

/-- what every successful leg satisfies, in terms of its record `c`, the ghost dictionary `p` and the last commit time `l`
before the leg -/
structure LegOK (cfg : Cfg κ) (vis : κ → Bool) (p : Pend κ) (l : κ) (c : Committed κ) : Prop where
  /-- one `push_event` per handler handed out, in the activator's order -/
  pushed_keys : c.pushed.map Prod.fst = c.created.map Prod.fst
  /-- the handlers handed out are pairwise distinct … -/
  nodup : (c.pushed.map Prod.fst).Nodup
  /-- … and had no pending event -/
  fresh : ∀ h ∈ c.pushed.map Prod.fst, p h = none
  /-- the committed handler has a pending event, with the committed time, which the scheduler keeps -/
  pending : pendPushed p c c.handler = some c.time
  visible : vis c.time = true
  /-- it is a minimal one among the pending events the scheduler keeps -/
  minimal : ∀ h' t', pendPushed p c h' = some t' → vis t' = true → cfg.lt t' c.time = false
  /-- the guard of `get_succeeding_event` -/
  guard : cfg.lt c.time l = false
  /-- the committed handler's event is trashed; every `trash_event` call hits a pending event; no handler twice -/
  self_trashed : c.handler ∈ c.trashed
  trashed_pending : ∀ h ∈ c.trashed, (pendPushed p c h).isSome
  trashed_nodup : c.trashed.Nodup

/-- the calls of a successful leg, one per line of `JF.Med.leg`; `s1` is the scheduler state after the pushes -/
structure LegSteps (M : MWire) (I : SchedI κ) (st : MedState I.σ) (o : Oracle κ) (st' : MedState I.σ) (c : Committed κ)
    (s1 : I.σ) : Prop where
  act : getToRun M.w M.S st.act st.preceding o.yields = ((getToRun M.w M.S st.act st.preceding o.yields).1, .ok c.created)
  push : pushLoop M I o st.sched c.created = .ok s1
  get : (I.get s1).2 = .ok c.handler c.time
  trashable : getTrashable M.w (getToRun M.w M.S st.act st.preceding o.yields).1 c.handler = (st'.act, .ok c.trashed)
  trash : trashAll I (I.get s1).1 c.trashed = .ok st'.sched
  pre : st'.preceding = some c.handler
  pushed : c.pushed = c.created.map fun q => (q.1, o.cand q.1)
  stop : c.stop = M.endOfRun c.handler

theorem leg_steps {M : MWire} {I : SchedI κ} {st st' : MedState I.σ} {o : Oracle κ} {c : Committed κ} :
    leg M I st o = .ok (st', c) ↔ ∃ s1, LegSteps M I st o st' c s1 := by
  constructor
  · intro e
    unfold leg at e
    simp only at e
    split at e
    · cases e
    · cases e
    · cases e
    · next created hcr =>
      split at e
      · cases e
      · next s1 hpush =>
        split at e
        · cases e
        · cases e
        · next h t hget =>
          split at e
          · cases e
          · cases e
          · next trashed htr =>
            split at e
            · cases e
            · next s3 htall =>
              simp only [Except.ok.injEq, Prod.mk.injEq] at e
              obtain ⟨rfl, rfl⟩ := e
              exact ⟨s1, Prod.ext rfl hcr, hpush, hget, Prod.ext rfl htr, htall, rfl, rfl, rfl⟩
  · rintro ⟨s1, hact, hpush, hget, htr, htall, hpre, hpu, hstop⟩
    obtain ⟨a, s, pr⟩ := st'
    obtain ⟨cr, pu, h, t, tr, sp⟩ := c
    simp only at hact hpush hget htr htall hpre hpu hstop
    subst hpre hpu hstop
    have h1 := congrArg Prod.snd hact
    have h2 := congrArg Prod.snd htr
    have h3 := congrArg Prod.fst htr
    simp only at h1 h2 h3
    simp only [leg, h1, hpush, hget, h2, htall, h3]

section steps
variable {cfg : Cfg κ} {I : SchedI κ} {vis : κ → Bool} {R : I.σ → Pend κ → κ → Prop} {M : MWire}

theorem MInv.activated (hs : Static M) {st : MedState I.σ} {p : Pend κ} {l : κ} (inv : MInv M R st p l) {a1 : ActSt}
    {ys : TaggerIdx → List IdTuple} {created : List (HandlerId × IdTuple)}
    (hrun : getToRun M.w M.S st.act st.preceding ys = (a1, .ok created)) :
    PoolInv M.w a1.ts ∧ (created.map Prod.fst).Nodup ∧ (∀ h ∈ created.map Prod.fst, p h = none) ∧
    ∀ h, (∃ T, h ∈ (getT a1.ts T).running) ↔ (p h).isSome ∨ h ∈ created.map Prod.fst := by
  obtain ⟨pinv1, cnd, cfresh, crun⟩ := getToRun_ok hs inv.pool hrun
  refine ⟨pinv1, cnd, fun h hh => ?_, fun h => by rw [crun h, inv.mirror h]⟩
  cases hp : p h with
  | none => rfl
  | some t =>
    obtain ⟨T, hT⟩ := (inv.mirror h).mp (by simp [hp])
    exact absurd hT (cfresh h hh T)

theorem choose_core (L : Laws cfg I vis R) (hs : Static M) {st : MedState I.σ} {a1 : ActSt}
    {created : List (HandlerId × IdTuple)} {p : Pend κ} {l : κ} (inv : MInv M R st p l) {ys : TaggerIdx → List IdTuple}
    (hrun : getToRun M.w M.S st.act st.preceding ys = (a1, .ok created)) {o : Oracle κ} {s1 : I.σ}
    (hpush : pushLoop M I o st.sched created = .ok s1) {h : HandlerId} {t : κ} (hget : (I.get s1).2 = .ok h t) :
    MInv M R ⟨a1, (I.get s1).1, none⟩ (pushAll p (created.map fun q => (q.1, o.cand q.1))) t ∧
    (created.map Prod.fst).Nodup ∧ (∀ x ∈ created.map Prod.fst, p x = none) ∧
    pushAll p (created.map fun q => (q.1, o.cand q.1)) h = some t ∧ vis t = true ∧
    (∀ h' t', pushAll p (created.map fun q => (q.1, o.cand q.1)) h' = some t' → vis t' = true → cfg.lt t' t = false) ∧
    cfg.lt t l = false := by
  obtain ⟨pinv1, cnd, hfresh, crun⟩ := inv.activated hs hrun
  have G := L.get (pushLoop_rel L M o created st.sched s1 p l inv.rel cnd hfresh hpush)
  unfold GetSpec at G
  rw [hget] at G
  obtain ⟨gp, gv, gmin, gguard, R2⟩ := G
  refine ⟨⟨pinv1, R2, fun x => ?_⟩, cnd, hfresh, gp, gv, gmin, gguard⟩
  rw [pushAll_isSome, List.map_map, crun x]
  rfl

theorem trash_core (L : Laws cfg I vis R) (hs : Static M) {a1 a2 : ActSt} {s2 s3 : I.σ} {pre : Option HandlerId}
    {p : Pend κ} {l : κ} (inv : MInv M R ⟨a1, s2, pre⟩ p l) {h : HandlerId} {trashed : List HandlerId}
    (htr : getTrashable M.w a1 h = (a2, .ok trashed)) (htall : trashAll I s2 trashed = .ok s3) :
    MInv M R ⟨a2, s3, some h⟩ (dropAll p trashed) l ∧ h ∈ trashed ∧ trashed.Nodup ∧ (∀ x ∈ trashed, (p x).isSome) ∧
    (∀ x, (∃ T, x ∈ (getT a2.ts T).running) ↔ (∃ T, x ∈ (getT a1.ts T).running) ∧ x ∉ trashed) ∧
    ∃ E, owner M.w h = some E ∧ h ∈ (getT a1.ts E).running ∧ trashed = (trash M.w a1.ts E).2 ∧
      a2.ts = (trash M.w a1.ts E).1 := by
  obtain ⟨E, hE, hts, htl, hrunE, hself, tnd, pinv2, tpend, trun⟩ := getTrashable_ok hs inv.pool htr
  refine ⟨⟨pinv2, trashAll_rel L trashed _ s3 _ _ inv.rel htall, fun x => ?_⟩, hself, tnd,
    fun x hx => (inv.mirror x).mpr (tpend x hx), trun, E, hE, hrunE, htl, hts⟩
  show (dropAll p trashed x).isSome ↔ _
  rw [dropAll_eq, trun x, ← inv.mirror x]
  by_cases hx : x ∈ trashed <;> simp [hx]

/-- what a successful leg from a state with `MInv` (ghost dictionary `p`, last commit time `l`) satisfies; `E` is the tagger of
the committed handler.  `pmid`/`mirr` are the invariant in the middle of the leg (after the pushes, before the trash), the
state in which C08's `born h` is the state the candidate of `h` was computed from -/
structure LegFacts (cfg : Cfg κ) (vis : κ → Bool) (M : MWire) {I : SchedI κ} (R : I.σ → Pend κ → κ → Prop) (p : Pend κ) (l : κ)
    (st : MedState I.σ) (o : Oracle κ) (c : Committed κ) (st' : MedState I.σ) (E : TaggerIdx) : Prop where
  minv : MInv M R st' (pendAfter p c) c.time
  ok : LegOK cfg vis p l c
  pushed : c.pushed = c.created.map fun q => (q.1, o.cand q.1)
  prec : st'.preceding = some c.handler
  stopEq : c.stop = M.endOfRun c.handler
  toRun : getToRun M.w M.S st.act st.preceding o.yields = ((getToRun M.w M.S st.act st.preceding o.yields).1, .ok c.created)
  pmid : PoolInv M.w (midAct M st o)
  mirr : ∀ x, (pendPushed p c x).isSome ↔ ∃ T, x ∈ (getT (midAct M st o) T).running
  owner : owner M.w c.handler = some E
  running : c.handler ∈ (getT (midAct M st o) E).running
  trashed : c.trashed = (trash M.w (midAct M st o) E).2
  trashEq : st'.act.ts = (trash M.w (midAct M st o) E).1

/-- the induction step: `choose_core` for the first half of the leg, `trash_core` for the second -/
theorem leg_facts {cfg : Cfg κ} {I : SchedI κ} {vis : κ → Bool} {R : I.σ → Pend κ → κ → Prop} (L : Laws cfg I vis R)
    {M : MWire} (hs : Static M) {st st' : MedState I.σ} {p : Pend κ} {l : κ} {o : Oracle κ} {c : Committed κ}
    (inv : MInv M R st p l) (e : leg M I st o = .ok (st', c)) : ∃ E, LegFacts cfg vis M R p l st o c st' E := by
  obtain ⟨s1, S⟩ := leg_steps.mp e
  obtain ⟨i1, cnd, hfresh, gp, gv, gmin, gguard⟩ := choose_core L hs inv S.act S.push S.get
  obtain ⟨i2, hself, tnd, tpend, -, E, hE, hrunE, htl, hts⟩ := trash_core L hs i1 S.trashable S.trash
  have hkeys : c.pushed.map Prod.fst = c.created.map Prod.fst := by rw [S.pushed, List.map_map]; rfl
  rw [← S.pushed] at i1 i2 gp gmin tpend
  exact ⟨E, ⟨i2.pool, i2.rel, i2.mirror⟩, ⟨hkeys, hkeys ▸ cnd, hkeys ▸ hfresh, gp, gv, gmin, gguard, hself, tpend, tnd⟩,
    S.pushed, S.pre, S.stop, S.act, i1.pool, i1.mirror, hE, hrunE, htl, hts⟩

theorem MInv.leg {cfg : Cfg κ} {I : SchedI κ} {vis : κ → Bool} {R : I.σ → Pend κ → κ → Prop} (L : Laws cfg I vis R)
    {M : MWire} (hs : Static M) {st st' : MedState I.σ} {p : Pend κ} {l : κ} {o : Oracle κ} {c : Committed κ}
    (inv : MInv M R st p l) (e : leg M I st o = .ok (st', c)) : MInv M R st' (pendAfter p c) c.time :=
  let ⟨_, f⟩ := leg_facts L hs inv e; f.minv

end steps

theorem minv_init {cfg : Cfg κ} {I : SchedI κ} {vis : κ → Bool} {R : I.σ → Pend κ → κ → Prop} (L : Laws cfg I vis R)
    (M : MWire) : MInv M R (MedState.init I M.w) (fun _ => none) cfg.bot := by
  refine ⟨poolInv_init M.w, L.init, fun h => ?_⟩
  simp only [Option.isSome_none, Bool.false_eq_true, false_iff, not_exists]
  intro T
  show h ∉ (getT (initAct M.w) T).running
  rw [getT_initAct]
  split <;> simp [TState.empty]

end JF.Med
