import JF.Lemmas.DerivReal
import Mathlib.Algebra.BigOperators.Intervals
/-!
The Ewald derivative routine (`JF/Model/Potential/DerivativeEwald.lean`) in the exact reading.  The trigonometric
recurrences hold `cos(kθ), sin(kθ)`, hence the three nested loops compute a plain triple sum over the lattice octant
(`fourierSum_spec`); the position-space fold is a plain triple sum over the integer ball (`posSum_eq`).  On these sums:
each term is the derivative of a term of the truncated Ewald energy; the sums are odd under `sx ↦ −sx`; they are
homogeneous of degree `−2` in the box length.
-/
namespace JF.Deriv
open Real Finset

variable (e : ℝ → ℝ)

/-- `delta_cos_x … delta_sin_z` for the angles `θ = 2π s / L` -/
noncomputable def Dθ (θx θy θz : ℝ) : Deltas ℝ := ⟨cos θx, sin θx, cos θy, sin θy, cos θz, sin θz⟩

theorem foldl_range_succ {β : Type} (f : β → ℕ → β) (s : β) (n : ℕ) :
    (List.range (n + 1)).foldl f s = f ((List.range n).foldl f s) n := by
  rw [List.range_succ, List.foldl_append]; rfl

theorem cos_succ (m : ℕ) (θ : ℝ) : cos (m * θ) * cos θ - sin (m * θ) * sin θ = cos ((m + 1 : ℕ) * θ) := by
  rw [← Real.cos_add]; congr 1; push_cast; ring

theorem sin_succ (m : ℕ) (θ : ℝ) : sin (m * θ) * cos θ + cos (m * θ) * sin θ = sin ((m + 1 : ℕ) * θ) := by
  rw [← Real.sin_add]; congr 1; push_cast; ring

/-- innermost loop: while `k` has not reached its cut-off, the `z` registers hold `cos(kθz), sin(kθz)` and the other
registers are untouched -/
theorem fStep_prefix (p : Ewald ℝ) (θx θy θz : ℝ) (i j cutY cutX : ℕ) (s : FS ℝ)
    (hc : s.cz = 1) (hs : s.sz = 0) :
    ∀ m, m ≤ cutX →
      (List.range m).foldl (fStep (DOps.real e) p (Dθ θx θy θz) i j cutY cutX) s
        = { s with d := s.d + ∑ k ∈ range m, p.farr i j k * s.sx * s.cy * cos (k * θz),
                   cz := cos (m * θz), sz := sin (m * θz) } := by
  intro m
  induction m with
  | zero =>
    intro _
    obtain ⟨d, cx, sx, cy, sy, cz, sz⟩ := s
    simp only at hc hs
    simp [hc, hs]
  | succ m ih =>
    intro hm
    rw [foldl_range_succ, ih (by omega)]
    have hne : (m != cutX) = true := by simp; omega
    simp only [fStep, hne, if_true, Dθ]
    rw [cos_succ, sin_succ, sum_range_succ]
    simp only [add_assoc]

/-- the registers hold the cosines / sines of `(iθx, jθy, 0·θz)` -/
def Inv (θx θy : ℝ) (s : FS ℝ) (i j : ℕ) : Prop :=
  s.cx = cos (i * θx) ∧ s.sx = sin (i * θx) ∧ s.cy = cos (j * θy) ∧ s.sy = sin (j * θy) ∧ s.cz = 1 ∧ s.sz = 0

noncomputable def octTerm (p : Ewald ℝ) (θx θy θz : ℝ) (i j k : ℕ) : ℝ :=
  p.farr i j k * sin (i * θx) * cos (j * θy) * cos (k * θz)

theorem fLoopK_spec (p : Ewald ℝ) (θx θy θz : ℝ) (i cutY : ℕ) (s : FS ℝ) (j : ℕ) (h : Inv θx θy s i j) :
    let s' := fLoopK (DOps.real e) p (Dθ θx θy θz) i cutY s j
    s'.d = s.d + ∑ k ∈ range (cutoff p.fc i j + 1), octTerm p θx θy θz i j k ∧
      (j ≠ cutY → Inv θx θy s' i (j + 1)) ∧ (j = cutY → i ≠ p.fc → Inv θx θy s' (i + 1) 0) := by
  obtain ⟨h1, h2, h3, h4, h5, h6⟩ := h
  simp only [fLoopK]
  rw [foldl_range_succ, fStep_prefix e p θx θy θz i j cutY _ s h5 h6 _ le_rfl]
  by_cases hj : j = cutY
  · by_cases hi : i = p.fc
    · simp [fStep, hj, hi, sum_range_succ, octTerm, h2, h3, add_assoc]
    · simp [fStep, hj, hi, sum_range_succ, octTerm, h2, h3, add_assoc, Inv, Dθ, h1, cos_succ, sin_succ]
  · simp [fStep, hj, sum_range_succ, octTerm, h2, h3, add_assoc, Inv, Dθ, h1, h4, cos_succ, sin_succ]

noncomputable def rowSum (p : Ewald ℝ) (θx θy θz : ℝ) (i : ℕ) (n : ℕ) : ℝ :=
  ∑ j ∈ range n, ∑ k ∈ range (cutoff p.fc i j + 1), octTerm p θx θy θz i j k

theorem fLoopK_prefix (p : Ewald ℝ) (θx θy θz : ℝ) (i cutY : ℕ) (s : FS ℝ) (h : Inv θx θy s i 0) :
    ∀ m, m ≤ cutY →
      let sm := (List.range m).foldl (fLoopK (DOps.real e) p (Dθ θx θy θz) i cutY) s
      sm.d = s.d + rowSum p θx θy θz i m ∧ Inv θx θy sm i m := by
  intro m
  induction m with
  | zero => intro _; simpa [rowSum] using h
  | succ m ih =>
    intro hm
    obtain ⟨ihd, ihI⟩ := ih (by omega)
    have := fLoopK_spec e p θx θy θz i cutY _ m ihI
    simp only [foldl_range_succ]
    refine ⟨?_, this.2.1 (by omega)⟩
    rw [this.1, ihd, rowSum, rowSum, sum_range_succ _ m, add_assoc]

theorem fLoopJ_spec (p : Ewald ℝ) (θx θy θz : ℝ) (s : FS ℝ) (i0 : ℕ) (h : Inv θx θy s (i0 + 1) 0) :
    let s' := fLoopJ (DOps.real e) p (Dθ θx θy θz) s i0
    s'.d = s.d + rowSum p θx θy θz (i0 + 1) (cutoff p.fc (i0 + 1 : ℕ) 0 + 1) ∧
      (i0 + 1 ≠ p.fc → Inv θx θy s' (i0 + 2) 0) := by
  simp only [fLoopJ]
  rw [foldl_range_succ]
  obtain ⟨hd, hI⟩ := fLoopK_prefix e p θx θy θz (i0 + 1) (cutoff p.fc (i0 + 1 : ℕ) 0) s h _ le_rfl
  have := fLoopK_spec e p θx θy θz (i0 + 1) (cutoff p.fc (i0 + 1 : ℕ) 0) _ _ hI
  refine ⟨?_, fun hne => this.2.2 rfl hne⟩
  rw [this.1, hd, rowSum, rowSum, sum_range_succ _ (cutoff p.fc (i0 + 1 : ℕ) 0), add_assoc]

/-- the octant triple sum `Σ_{i=1..fc} Σ_{j=0..⌊√(fc²-i²)⌋} Σ_{k=0..⌊√(fc²-i²-j²)⌋}` -/
noncomputable def octSum (fc : ℕ) (g : ℕ → ℕ → ℕ → ℝ) : ℝ :=
  ∑ i0 ∈ range fc, ∑ j ∈ range (cutoff fc (i0 + 1 : ℕ) 0 + 1), ∑ k ∈ range (cutoff fc (i0 + 1 : ℕ) j + 1), g (i0 + 1) j k

theorem fLoopJ_prefix (p : Ewald ℝ) (θx θy θz : ℝ) (s : FS ℝ) (h : Inv θx θy s 1 0) :
    ∀ m, m ≤ p.fc →
      let sm := (List.range m).foldl (fLoopJ (DOps.real e) p (Dθ θx θy θz)) s
      sm.d = s.d + ∑ i0 ∈ range m, rowSum p θx θy θz (i0 + 1) (cutoff p.fc (i0 + 1 : ℕ) 0 + 1) ∧
        (m < p.fc → Inv θx θy sm (m + 1) 0) := by
  intro m
  induction m with
  | zero => intro _; exact ⟨by simp, fun _ => h⟩
  | succ m ih =>
    intro hm
    obtain ⟨ihd, ihI⟩ := ih (by omega)
    have := fLoopJ_spec e p θx θy θz _ m (ihI (by omega))
    simp only [foldl_range_succ]
    refine ⟨?_, fun hlt => this.2 (by omega)⟩
    rw [this.1, ihd, sum_range_succ _ m, add_assoc]

/-- with `delta_cos/sin = cos/sin θ` the three nested Fourier loops with their register updates and resets compute
`acc + Σ_{octant} A_ijk sin(iθx) cos(jθy) cos(kθz)` -/
theorem fourierSum_spec (p : Ewald ℝ) (θx θy θz acc : ℝ) :
    (fourierSum (DOps.real e) p (Dθ θx θy θz) acc).d = acc + octSum p.fc (octTerm p θx θy θz) := by
  simp only [fourierSum]
  rw [(fLoopJ_prefix e p θx θy θz _ (by simp [Inv, Dθ]) p.fc le_rfl).1]
  rfl

theorem foldl_add_eq {ι : Type} (f : ι → ℝ) (l : List ι) (a : ℝ) :
    l.foldl (fun acc i => acc + f i) a = a + (l.map f).sum := by
  induction l generalizing a with
  | nil => simp
  | cons x l ih => simp [ih, add_assoc]

/-- `Σ_{k=-c..c} Σ_{j=-⌊√(c²-k²)⌋..} Σ_{i=-⌊√(c²-j²-k²)⌋..} f i j k`, in the routine's order -/
noncomputable def latSum (c : ℕ) (f : ℤ → ℤ → ℤ → ℝ) : ℝ :=
  ((intRange c).map fun k => ((intRange (cutoff c k 0)).map fun j =>
    ((intRange (cutoff c j k)).map fun i => f i j k).sum).sum).sum

theorem posSum_eq (p : Ewald ℝ) (sx sy sz acc : ℝ) :
    posSum (DOps.real e) p sx sy sz acc = acc + latSum p.pc (posTerm (DOps.real e) p sx sy sz) := by
  simp only [posSum, foldl_add_eq, latSum]

theorem hasDerivAt_list_sum {ι : Type} (l : List ι) (F : ℝ → ι → ℝ) (F' : ι → ℝ) (x0 : ℝ)
    (h : ∀ i, HasDerivAt (fun x => F x i) (F' i) x0) :
    HasDerivAt (fun x => (l.map (F x)).sum) ((l.map F').sum) x0 := by
  induction l with
  | nil => simpa using hasDerivAt_const x0 (0 : ℝ)
  | cons a l ih =>
    simp only [List.map_cons, List.sum_cons]
    exact (h a).add ih

theorem latSum_hasDerivAt (c : ℕ) (F : ℝ → ℤ → ℤ → ℤ → ℝ) (F' : ℤ → ℤ → ℤ → ℝ) (x0 : ℝ)
    (h : ∀ i j k, HasDerivAt (fun x => F x i j k) (F' i j k) x0) :
    HasDerivAt (fun x => latSum c (F x)) (latSum c F') x0 := by
  unfold latSum
  refine hasDerivAt_list_sum _ (fun x k => _) (fun k => _) x0 fun k => ?_
  refine hasDerivAt_list_sum _ (fun x j => _) (fun j => _) x0 fun j => ?_
  exact hasDerivAt_list_sum _ (fun x i => F x i j k) (fun i => F' i j k) x0 fun i => h i j k

theorem octSum_hasDerivAt (fc : ℕ) (G : ℝ → ℕ → ℕ → ℕ → ℝ) (G' : ℕ → ℕ → ℕ → ℝ) (x0 : ℝ)
    (h : ∀ i0 j k, HasDerivAt (fun x => G x (i0 + 1) j k) (G' (i0 + 1) j k) x0) :
    HasDerivAt (fun x => octSum fc (G x)) (octSum fc G') x0 := by
  unfold octSum
  refine HasDerivAt.fun_sum fun i0 _ => ?_
  refine HasDerivAt.fun_sum fun j _ => ?_
  exact HasDerivAt.fun_sum fun k _ => h i0 j k

/-- the shifted vector `s + (i, j, k) L` -/
def latVec (L sx sy sz : ℝ) (i j k : ℤ) : V3 ℝ := ⟨sx + i * L, sy + j * L, sz + k * L⟩

/-- the position-space term of the routine in the exact reading, in terms of the shifted vector -/
theorem posTerm_real (p : Ewald ℝ) (sx sy sz : ℝ) (i j k : ℤ) :
    posTerm (DOps.real e) p sx sy sz i j k
      = (latVec p.L sx sy sz i j k).x * (p.twoAolRootPi * Real.exp ((-p.aolSq) * (latVec p.L sx sy sz i j k).nsq)
          + e (p.aol * √((latVec p.L sx sy sz i j k).nsq)) / √((latVec p.L sx sy sz i j k).nsq))
        / (latVec p.L sx sy sz i j k).nsq := rfl

/-- reflecting `sx` reflects the shifted vector of the lattice point `(−i, j, k)` -/
theorem latVec_neg (L sx sy sz : ℝ) (i j k : ℤ) :
    (latVec L (-sx) sy sz i j k).x = -(latVec L sx sy sz (-i) j k).x ∧
      (latVec L (-sx) sy sz i j k).nsq = (latVec L sx sy sz (-i) j k).nsq := by
  simp only [latVec, V3.nsq, Int.cast_neg]; constructor <;> ring

/-- scaling separation and box by `1/c` scales the shifted vector by `1/c` -/
theorem latVec_scale {L L' c : ℝ} (hc : c ≠ 0) (hL : L = c * L') (sx sy sz : ℝ) (i j k : ℤ) :
    (latVec L sx sy sz i j k).x = c * (latVec L' (sx / c) (sy / c) (sz / c) i j k).x ∧
      (latVec L sx sy sz i j k).nsq = c ^ 2 * (latVec L' (sx / c) (sy / c) (sz / c) i j k).nsq := by
  have hv : ∀ (s : ℝ) (n : ℤ), s + n * L = c * (s / c + n * L') := fun s n => by
    rw [hL, mul_add, mul_div_cancel₀ _ hc]; ring
  simp only [latVec, V3.nsq, hv, true_and]
  ring

/-- one position-space term of the energy: `erfc(a |s + nL|) / |s + nL|` -/
noncomputable def posEnergyTerm (p : Ewald ℝ) (sx sy sz : ℝ) (i j k : ℤ) : ℝ :=
  e (p.aol * √((latVec p.L sx sy sz i j k).nsq)) / √((latVec p.L sx sy sz i j k).nsq)

/-- one Fourier-space term of the energy (octant form): `A_ijk / (i·2π/L) · cos(iθx) cos(jθy) cos(kθz)` -/
noncomputable def fourierEnergyTerm (p : Ewald ℝ) (sx sy sz : ℝ) (i j k : ℕ) : ℝ :=
  p.farr i j k / (i * p.twoPiOverL) * cos (i * (p.twoPiOverL * sx)) * cos (j * (p.twoPiOverL * sy))
    * cos (k * (p.twoPiOverL * sz))

/-- the algebra of `posTerm_hasDerivAt`: `E`, `R` stand for `exp(−(a r)²)`, `erfc(a r)`, `sp` for `√π` -/
theorem posTerm_hasDerivAt_aux (a r x E R sp q : ℝ) (hr : r ≠ 0) (hsp : sp ≠ 0) (hq : r * r = q) :
    (-(2 / sp) * E * (a * 1) * r - R * 1) / r ^ 2 * (-x / r) = x * (2 * a / sp * E + R / r) / q := by
  subst hq
  field_simp
  ring

theorem posTerm_hasDerivAt (p : Ewald ℝ) (hp1 : p.twoAolRootPi = 2 * p.aol / √π)
    (hp2 : p.aolSq = p.aol * p.aol)
    (he : ∀ y, HasDerivAt e (-(2 / √π) * Real.exp (-(y * y))) y)
    (sx sy sz : ℝ) (i j k : ℤ) (hne : (latVec p.L sx sy sz i j k).nsq ≠ 0) :
    HasDerivAt (fun x => posEnergyTerm e p (sx - x) sy sz i j k)
      (posTerm (DOps.real e) p sx sy sz i j k) 0 := by
  set w := latVec p.L sx sy sz i j k with hw
  have hr0 := V3.norm_pos hne
  have hφ : HasDerivAt (fun r : ℝ => e (p.aol * r) / r) _ (√(w.nsq)) :=
    ((he _).comp _ ((hasDerivAt_id _).const_mul p.aol)).div (hasDerivAt_id _) hr0.ne'
  have hfun : (fun x => posEnergyTerm e p (sx - x) sy sz i j k)
      = fun x => e (p.aol * √((w.moved 0 x).nsq)) / √((w.moved 0 x).nsq) := by
    funext x
    have : latVec p.L (sx - x) sy sz i j k = w.moved 0 x := by
      simp only [hw, latVec, V3.moved]; congr 1; ring
    simp only [posEnergyTerm, this]
  rw [hfun, posTerm_real, ← hw, hp1, hp2]
  refine (radial_hasDerivAt w 0 hne hφ).congr_deriv ?_
  have hexp : -(p.aol * p.aol) * w.nsq = -(p.aol * √(w.nsq) * (p.aol * √(w.nsq))) := by
    rw [mul_mul_mul_comm, Real.mul_self_sqrt w.nsq_nonneg, neg_mul]
  rw [hexp]
  exact posTerm_hasDerivAt_aux _ _ _ _ _ _ _ hr0.ne' (Real.sqrt_pos.mpr Real.pi_pos).ne'
    (Real.mul_self_sqrt w.nsq_nonneg)

theorem fourierTerm_hasDerivAt (p : Ewald ℝ) (hw : p.twoPiOverL ≠ 0) (sx sy sz : ℝ) (i j k : ℕ) (hi : i ≠ 0) :
    HasDerivAt (fun x => fourierEnergyTerm p (sx - x) sy sz i j k)
      (octTerm p (p.twoPiOverL * sx) (p.twoPiOverL * sy) (p.twoPiOverL * sz) i j k) 0 := by
  have h1 : HasDerivAt (fun x : ℝ => (i : ℝ) * (p.twoPiOverL * (sx - x))) ((i : ℝ) * (p.twoPiOverL * (-1))) 0 := by
    have : HasDerivAt (fun x : ℝ => sx - x) (-1) 0 := by simpa using (hasDerivAt_id (0 : ℝ)).const_sub sx
    exact (this.const_mul _).const_mul _
  have h3 := ((h1.cos.const_mul (p.farr i j k / (i * p.twoPiOverL))).mul_const
    (cos (j * (p.twoPiOverL * sy)))).mul_const (cos (k * (p.twoPiOverL * sz)))
  have hc : p.farr i j k / (i * p.twoPiOverL) * (i * p.twoPiOverL) = p.farr i j k :=
    div_mul_cancel₀ _ (mul_ne_zero (Nat.cast_ne_zero.mpr hi) hw)
  refine h3.congr_deriv ?_
  rw [octTerm, sub_zero]
  linear_combination
    sin (i * (p.twoPiOverL * sx)) * cos (j * (p.twoPiOverL * sy)) * cos (k * (p.twoPiOverL * sz)) * hc

theorem intRange_map_sum (c : ℕ) (g : ℤ → ℝ) :
    ((intRange c).map g).sum = ∑ n ∈ range (2 * c + 1), g ((n : ℤ) - c) := by
  simp only [intRange, List.map_map]
  rfl -- `Finset.range n` is the list `List.range n`, and the sum over it the sum of the mapped list

theorem intRange_sum_neg (c : ℕ) (f : ℤ → ℝ) :
    ((intRange c).map (fun i => f (-i))).sum = ((intRange c).map f).sum := by
  rw [intRange_map_sum, intRange_map_sum, ← sum_range_reflect (fun n => f ((n : ℤ) - c))]
  refine sum_congr rfl fun n hn => ?_
  have hn' : n ≤ 2 * c := by have := mem_range.mp hn; omega
  congr 1
  have : ((2 * c + 1 - 1 - n : ℕ) : ℤ) = 2 * (c : ℤ) - n := by omega
  rw [this]; ring

theorem list_sum_map_neg {ι : Type} (l : List ι) (f : ι → ℝ) : (l.map fun i => -f i).sum = -(l.map f).sum := by
  simpa only [neg_one_mul] using List.sum_map_mul_left (l := l) (f := f) (r := (-1 : ℝ))

theorem latSum_neg_reflect (c : ℕ) (f : ℤ → ℤ → ℤ → ℝ) :
    latSum c (fun i j k => -f (-i) j k) = -latSum c f := by
  have h : ∀ (n : ℕ) (j k : ℤ), ((intRange n).map fun i => -f (-i) j k).sum = -((intRange n).map fun i => f i j k).sum :=
    fun n j k => by rw [list_sum_map_neg, intRange_sum_neg n fun i => f i j k]
  simp only [latSum, h, list_sum_map_neg]

theorem posTerm_neg (p : Ewald ℝ) (sx sy sz : ℝ) (i j k : ℤ) :
    posTerm (DOps.real e) p (-sx) sy sz i j k = -posTerm (DOps.real e) p sx sy sz (-i) j k := by
  obtain ⟨hx, hn⟩ := latVec_neg p.L sx sy sz i j k
  rw [posTerm_real, posTerm_real, hx, hn]; ring

theorem octTerm_neg (p : Ewald ℝ) (w sx θy θz : ℝ) (i j k : ℕ) :
    octTerm p (w * -sx) θy θz i j k = -octTerm p (w * sx) θy θz i j k := by
  simp only [octTerm, mul_neg, Real.sin_neg]; ring

theorem octSum_neg (fc : ℕ) (g : ℕ → ℕ → ℕ → ℝ) : octSum fc (fun i j k => -g i j k) = -octSum fc g := by
  simp only [octSum, sum_neg_distrib]

theorem latSum_mul (c : ℕ) (a : ℝ) (f : ℤ → ℤ → ℤ → ℝ) :
    latSum c (fun i j k => a * f i j k) = a * latSum c f := by
  simp only [latSum, List.sum_map_mul_left]

theorem octSum_mul (fc : ℕ) (a : ℝ) (g : ℕ → ℕ → ℕ → ℝ) :
    octSum fc (fun i j k => a * g i j k) = a * octSum fc g := by
  simp only [octSum, mul_sum]

/-- the position-space term is homogeneous of degree `−2`: scaling the separation and the box by `1/c` and `aol` by `c` -/
theorem posTerm_scale_of (p p' : Ewald ℝ) (c : ℝ) (hc : 0 < c) (hL : p.L = c * p'.L) (ha : p'.aol = c * p.aol)
    (hA : p'.aolSq = c ^ 2 * p.aolSq) (hT : p'.twoAolRootPi = c * p.twoAolRootPi) (sx sy sz : ℝ) (i j k : ℤ) :
    posTerm (DOps.real e) p sx sy sz i j k
      = 1 / c ^ 2 * posTerm (DOps.real e) p' (sx / c) (sy / c) (sz / c) i j k := by
  obtain ⟨hx, hn⟩ := latVec_scale hc.ne' hL sx sy sz i j k
  rw [posTerm_real, posTerm_real, hx, hn, ha, hA, hT, Real.sqrt_mul (sq_nonneg c), Real.sqrt_sq hc.le]
  generalize (latVec p'.L (sx / c) (sy / c) (sz / c) i j k).x = a
  generalize (latVec p'.L (sx / c) (sy / c) (sz / c) i j k).nsq = q
  have h1 : -p.aolSq * (c ^ 2 * q) = -(c ^ 2 * p.aolSq) * q := by ring
  have h2 : p.aol * (c * √q) = c * p.aol * √q := by ring
  rw [h1, h2, div_mul_eq_div_div_swap _ c, div_mul_eq_div_div_swap _ (c ^ 2)]
  linear_combination (a / q / c ^ 2) * mul_div_cancel₀ (e (c * p.aol * √q) / √q) hc.ne'

/-- the Fourier term is homogeneous of degree `−2` when the angles agree and the coefficient is -/
theorem octTerm_scale_of (p p' : Ewald ℝ) (c : ℝ) (hw : ∀ s, p.twoPiOverL * s = p'.twoPiOverL * (s / c))
    (i j k : ℕ) (hA : p.farr i j k = 1 / c ^ 2 * p'.farr i j k) (sx sy sz : ℝ) :
    octTerm p (p.twoPiOverL * sx) (p.twoPiOverL * sy) (p.twoPiOverL * sz) i j k
      = 1 / c ^ 2 * octTerm p' (p'.twoPiOverL * (sx / c)) (p'.twoPiOverL * (sy / c)) (p'.twoPiOverL * (sz / c)) i j k := by
  simp only [octTerm, hw, hA, mul_assoc]

theorem fourierCoeff_scale (alpha L : ℝ) (i j k : ℕ) :
    fourierCoeff (DOps.real e) alpha L i j k = 1 / L ^ 2 * fourierCoeff (DOps.real e) alpha 1 i j k := by
  simp only [fourierCoeff, real_ofInt, real_exp, real_pi, div_eq_mul_inv, mul_inv, one_mul, mul_one]
  ring

end JF.Deriv
