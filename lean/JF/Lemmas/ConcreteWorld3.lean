import JF.Model.ConcreteWorld3
import JF.Lemmas.ConcreteWorld2Inv
import JF.Lemmas.OccLeg
/-
Lemmas for `JF/Props/Footprints3.lean`: the world of composite objects WITH cell-occupancy systems as a `JF.Act.World`.

* generic in the scalar type: one carried occupancy stays consistent across `occAfter` (`consistent_after`; what `update` does to it and to the
  yields of the cell taggers is in `JF/Lemmas/OccLeg.lean`, for any world);
* exact reading: `St3` = the state of `JF.CW2` (global state + ghost mode) + one `Occ.State` per internal state; `Inv3` = `CW2.Inv`
  ∧ every carried occupancy is consistent with the active unit on its level; `TrRaw3` = `CW2.TrRaw2` + the activator's
  update of EVERY internal state + the history premise `StaysInRecordedCell` for every internal state `l` whose active cell the committing
  tagger does not affect according to the table (`affects · (.cell l) = false`); `trRaw3_inv`: the invariant is preserved.
-/
namespace JF.CW3
open JF JF.Act JF.Composite JF.C12

section
variable {α : Type}

theorem occAfter_some {nPer : Nat} {oe : OccEnv α} {occ occ' : Occ.State} {cs' : List (CObj α)}
    (h : occAfter nPer oe occ cs' = some occ') :
    ∃ a, unitsOn nPer oe.level (CW2.flags cs') = [a] ∧ Occ.update occ (unitIn nPer oe cs' a) = .ok occ' := by
  unfold occAfter at h
  split at h
  · next a hm =>
    refine ⟨a, hm, ?_⟩
    split at h
    · next s hs => injection h with h; subst h; exact hs
    · cases h
  · cases h

/-- **a carried occupancy stays consistent**: after any commit + update, whatever the event was -/
theorem consistent_after {nPer : Nat} {oe : OccEnv α} {occ occ' : Occ.State} {cs cs' : List (CObj α)}
    (hc : ConsistentOcc oe.relevant (unitsOn nPer oe.level (CW2.flags cs)) occ)
    (ho : occAfter nPer oe occ cs' = some occ') :
    ConsistentOcc oe.relevant (unitsOn nPer oe.level (CW2.flags cs')) occ' := by
  obtain ⟨a, hm, hu⟩ := occAfter_some ho
  exact hm ▸ hc.update rfl hu

end

/-- global state + ghost mode (`CW2.St`) + one carried occupancy per internal state of the activator -/
structure St3 where
  cs : List (CObj ℚ)
  mode : Composite.Mode
  occs : List Occ.State

def St3.st (s : St3) : CW2.St := ⟨s.cs, s.mode⟩

/-- every carried occupancy is consistent with the active unit on its cell level -/
def ConsAll (env : Env ℚ) (n : Nat) (s : St3) : Prop :=
  ∀ l, l < n → ConsistentOcc (env.oe l).relevant (unitsOn env.base.nPer (env.oe l).level (CW2.flags s.cs)) (getOcc s.occs l)

/-- **the invariant of the states of the world**: `CW2.Inv` (`AllGood ∧ Uniform ∧ (AllRest ∨ OneChainM)`) and the consistency of every
carried occupancy -/
def Inv3 (env : Env ℚ) (mw : ModeWiring) (s : St3) : Prop :=
  CW2.Inv env.base s.st ∧ ConsAll env mw.w.labels.length s

def G3 (env : Env ℚ) (mw : ModeWiring) : Type := { s : St3 // Inv3 env mw s }

def world3 (env : Env ℚ) (mw : ModeWiring) : World (G3 env mw) :=
  { yieldOf := fun T g => yieldCls3 env T (mw.w.tagger T).cls (mw.w.tagger T).label g.1.cs g.1.occs
    view := fun T => CW2.viewOf (mw.w.tagger T)
    live := fun T => T < mw.w.n ∧ (mw.w.tagger T).kind ≠ .startOfRun }

theorem liveIs3 (env : Env ℚ) (mw : ModeWiring) : LiveIs mw.w (world3 env mw) := fun _ => Iff.rfl

/-- the activator's update of every internal state after the commit (`occs'` from `occs` on the new global state `cs'`) -/
def OccsUpdated (env : Env ℚ) (n : Nat) (occs occs' : List Occ.State) (cs' : List (CObj ℚ)) : Prop :=
  ∀ l, l < n → occAfter env.base.nPer (env.oe l) (getOcc occs l) cs' = some (getOcc occs' l)

/-- one commit by a handler of tagger `E` followed by the activator's update of its internal states:
* `CW2.TrRaw2` (the transition without cells: the `Composite.step` of a weakly admissible event of a kind of `E`'s handler class, possible in the
  ghost mode),
* `internal_state.update(extracted_active_global_state)` for every internal state,
* **the history premise of C11** for every internal state `l` whose active cell the table declares untouched by `E`
  (`affects · (.cell l) = false`: sampling, dumping, end of run — and the cell-boundary handler of ANOTHER internal state). -/
def TrRaw3 (env : Env ℚ) (mw : ModeWiring) (E : TaggerIdx) (s s' : St3) : Prop :=
  CW2.TrRaw2 env.base mw E s.st s'.st
  ∧ OccsUpdated env mw.w.labels.length s.occs s'.occs s'.cs
  ∧ (∀ l, l < mw.w.labels.length → affects (mw.w.tagger E) (.cell l) = false →
      StaysInRecordedCell env.base.nPer (env.oe l) (getOcc s.occs l) s'.cs)

/-- the same without the premise (used to show that the premise is needed) -/
def TrNoPremise3 (env : Env ℚ) (mw : ModeWiring) (E : TaggerIdx) (s s' : St3) : Prop :=
  CW2.TrRaw2 env.base mw E s.st s'.st ∧ OccsUpdated env mw.w.labels.length s.occs s'.occs s'.cs

def Tr3 (env : Env ℚ) (mw : ModeWiring) (E : TaggerIdx) (g g' : G3 env mw) : Prop := TrRaw3 env mw E g.1 g'.1

/-- the start-of-run event from the state at rest followed by the update of the internal states (NOT part of `Tr3`, as in `CW2`) -/
def TrStart3 (env : Env ℚ) (mw : ModeWiring) (E : TaggerIdx) (s s' : St3) : Prop :=
  CW2.TrStart2 env.base mw E s.st s'.st ∧ OccsUpdated env mw.w.labels.length s.occs s'.occs s'.cs

theorem consAll_after {env : Env ℚ} {n : Nat} {s s' : St3} (hc : ConsAll env n s)
    (ho : OccsUpdated env n s.occs s'.occs s'.cs) : ConsAll env n s' :=
  fun l hl => consistent_after (hc l hl) (ho l hl)

theorem trRaw3_inv {env : Env ℚ} (hL : BoxOK env.base.d env.base.L) {mw : ModeWiring} {E : TaggerIdx} {s s' : St3}
    (hi : Inv3 env mw s) (h : TrRaw3 env mw E s s') : Inv3 env mw s' :=
  ⟨CW2.trRaw2_inv hL hi.1 h.1, consAll_after hi.2 h.2.1⟩

/-- the start-of-run event establishes the invariant from the state at rest with consistent (e.g. freshly initialised) occupancies -/
theorem inv3_start {env : Env ℚ} (hL : BoxOK env.base.d env.base.L) {mw : ModeWiring} {s : St3}
    (hg : AllGood env.base.d env.base.L s.cs) (hu : CW2.Uniform env.base.nPer s.cs) (hr : AllRest s.cs)
    (hc : ConsAll env mw.w.labels.length s) {i : Nat} {P : List Nat} {v : List ℚ}
    (ha : AdmW env.base.d env.base.L s.cs (.start i P v)) {m : Composite.Mode} (hm : StartMode s.cs i P m) {occs' : List Occ.State}
    (ho : OccsUpdated env mw.w.labels.length s.occs occs' (step Ops.rat isZ env.base.L s.cs (.start i P v))) :
    Inv3 env mw ⟨step Ops.rat isZ env.base.L s.cs (.start i P v), m, occs'⟩ :=
  ⟨CW2.inv_start hL hg hu hr ha hm, consAll_after (s' := ⟨_, m, occs'⟩) hc ho⟩

theorem supported3_agree {mw : ModeWiring} (hs : Supported3 mw = true) {E : TaggerIdx} (hE : E < mw.w.n) :
    kindAgrees (mw.w.tagger E).kind (mw.hmode E) = true := by
  unfold Supported3 at hs
  simp only [Bool.and_eq_true] at hs
  have := List.all_eq_true.mp hs.2 E (List.mem_range.mpr hE)
  simp only [Bool.and_eq_true] at this
  exact this.2

/-- every tagger index of a supported wiring: a tagger of this world, or (out of range) the default tagger -/
theorem supported3_tagger {mw : ModeWiring} (hs : Supported3 mw = true) (i : TaggerIdx) :
    okT mw.w.labels.length (mw.w.tagger i) = true ∨ ((mw.w.tagger i).cls = .unknown ∧ (mw.w.tagger i).kind = .unknown) := by
  by_cases hi : i < mw.w.n
  · left
    unfold Supported3 at hs
    simp only [Bool.and_eq_true] at hs
    exact List.all_eq_true.mp hs.1.2 _ (tagger_mem mw.w hi)
  · right
    have : mw.w.taggers.length ≤ i := Nat.le_of_not_lt hi
    simp [Wiring.tagger, List.getElem?_eq_none this]

/-- a cell tagger of a supported wiring names one of its internal states -/
theorem supported3_label {mw : ModeWiring} (hs : Supported3 mw = true) {T : TaggerIdx} (hc : isCellCls (mw.w.tagger T).cls = true) :
    ∃ l, (mw.w.tagger T).label = some l ∧ l < mw.w.labels.length := by
  rcases supported3_tagger hs T with h | ⟨h, _⟩
  · simp only [okT, Bool.and_eq_true, Bool.or_eq_true, Bool.not_eq_true'] at h
    rcases h.1.2 with h' | h'
    · rw [hc] at h'; cases h'
    · cases hl : (mw.w.tagger T).label with
      | none => rw [hl] at h'; cases h'
      | some l => rw [hl] at h'; exact ⟨l, rfl, by simpa using h'⟩
  · rw [h] at hc; cases hc

theorem quiet_of_ident_false3 {mw : ModeWiring} (hs : Supported3 mw = true) {E : TaggerIdx}
    (ha : affects (mw.w.tagger E) .ident = false) {k : EvKind} {cm : WMode} (hk : k ∈ kindsOf (mw.hmode E) cm) :
    CW2.quietKind k = true :=
  CW2.quiet_of_agree (supported3_agree hs) ha hk

end JF.CW3
