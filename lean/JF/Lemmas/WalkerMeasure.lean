import JF.Lemmas.WalkerSample
import Mathlib.MeasureTheory.Measure.Lebesgue.Basic
/-!
Helper lemmas for C18: the Lebesgue measure of the set of real draws on which a table row returns a given item.
-/
namespace JF.Walker
open MeasureTheory

/-- a row of the exact table read over the reals (so that the draw can be any real number) -/
def Item.toReal (it : Item ℚ) : Item ℝ := ⟨it.item, (it.rate : ℝ)⟩

def Row.toReal : Row ℚ → Row ℝ
  | .pair s l => .pair s.toReal l.toReal
  | .single x => .single x.toReal

/-- the set of real draws `x ∈ (0, m]` on which `sample_cell`, having chosen `row`, returns item `i` -/
noncomputable def drawSet (m : ℚ) (row : Row ℚ) (i : Nat) : Set ℝ :=
  {x : ℝ | 0 < x ∧ x ≤ (m : ℝ) ∧ sampleRow row.toReal x = .ok i}

/-- **the Lebesgue measure of the set of draws on which a row returns item `i` is `contrib i row`** -/
theorem volume_drawSet (m : ℚ) (row : Row ℚ) (i : Nat) (hrow : RowOK m row) :
    volume (drawSet m row i) = ENNReal.ofReal ((contrib i row : ℚ) : ℝ) := by
  cases row with
  | pair s l =>
    obtain ⟨h0, hm, hl, hne⟩ := hrow
    have hdraws : drawSet m (.pair s l) i = _ :=
      sampleRow_pair_draws (0 : ℝ) m s.toReal l.toReal i (Rat.cast_nonneg.mpr h0) (Rat.cast_le.mpr hm)
    rw [hdraws]
    by_cases h1 : s.item = i
    · have h2 : ¬ l.item = i := fun h => hne (h1.trans h.symm)
      simp only [Item.toReal, h1, h2, if_true, if_false, Set.union_empty, contrib, add_zero, Real.volume_Ioc, sub_zero]
    · by_cases h2 : l.item = i
      · simp only [Item.toReal, h1, h2, if_true, if_false, Set.empty_union, contrib, zero_add, Real.volume_Ioc, hl]
        push_cast; rfl
      · simp [Item.toReal, h1, h2, contrib]
  | single y =>
    have hy : y.rate = m := hrow
    have hdraws : drawSet m (.single y) i = _ :=
      sampleRow_single_draws (0 : ℝ) m y.toReal i (congrArg Rat.cast hy)
    rw [hdraws]
    by_cases h1 : y.item = i
    · simp only [Item.toReal, h1, if_true, contrib, Real.volume_Ioc, sub_zero, hy]
    · simp [Item.toReal, h1, contrib]

theorem volume_drawSet_toReal (m : ℚ) (hm : 0 ≤ m) (row : Row ℚ) (i : Nat) (hrow : RowOK m row) :
    (volume (drawSet m row i)).toReal = ((contrib i row : ℚ) : ℝ) := by
  rw [volume_drawSet m row i hrow, ENNReal.toReal_ofReal]
  exact_mod_cast contrib_nonneg hrow hm i

end JF.Walker
