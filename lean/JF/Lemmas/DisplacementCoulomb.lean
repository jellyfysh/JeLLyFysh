import JF.Lemmas.DisplacementInvPow
/-!
# The C routine of the periodic `1/r` bound on the minimum-image path

`MinImage K L sx q g` says that `g` is the energy of the periodic `1/r` bounding potential along the path:
`L`-periodic in the displacement `x`, and equal to the potential of the directly nearest image while the
component `sx - x` of the separation stays inside the box (`|sx - x| ≤ L/2`).

While one image stays the nearest, `g` is the inverse-power path energy (power 1) toward that image
(`MinImage.stretch`); so each branch of the remainder stage is at most two monotone stretches followed by one
of the two inverse-power routines, and the whole laps are periods of `g`.
-/
namespace JF.DispR
open Set JF.Uphill

noncomputable section

/-- energy of the minimum-image `1/r` potential along the path, characterised by the two properties the proofs
use, not constructed (`minImage_exists` in `JF/Props/C02.lean` shows that such a `g` exists; that there is
only one is neither proved nor needed) -/
structure MinImage (K L sx q : ℝ) (g : ℝ → ℝ) : Prop where
  per : ∀ x, g (x + L) = g x
  win : ∀ x, |sx - x| ≤ L / 2 → g x = cbPot K (sx - x) q

theorem path_one_eq (K s q x : ℝ) : path K 1 s q x = cbPot K (s - x) q :=
  (cbPot_eq_pot K (s - x) q).symm

theorem cbPot_neg (K u q : ℝ) : cbPot K (-u) q = cbPot K u q := by
  unfold cbPot; rw [neg_mul_neg]

variable {K L sx q r : ℝ} {g : ℝ → ℝ}

/-- from the position `a` on, while image `k` (at separation `s'` from `a`) stays the nearest -/
theorem MinImage.stretch (hg : MinImage K L sx q g) (k : ℕ) {a s' d E : ℝ} (hs' : s' = sx + k * L - a)
    (h1 : s' ≤ L / 2) (h2 : d ≤ s' + L / 2) (h : Good (path K 1 s' q) d E) :
    Good (fun x => g (x + a)) d E :=
  h.congr fun x hx => by
    have e : sx - (x + a - k * L) = s' - x := by rw [hs']; ring
    show g (x + a) = _
    rw [← sub_add_cancel (x + a) (k * L), periodic_nat hg.per, hg.win _ (by
      rw [e]
      exact abs_le.2 ⟨neg_le_sub_iff_le_add.2 (hx.2.trans h2), (sub_le_self s' hx.1).trans h1⟩),
      e, path_one_eq]

/-- from the start, while the nearest image of the start stays the nearest -/
theorem MinImage.head (hg : MinImage K L sx q g) {d E : ℝ} (h1 : sx ≤ L / 2) (h2 : d ≤ sx + L / 2)
    (h : Good (path K 1 sx q) d E) : Good g d E := by
  simpa using hg.stretch 0 (a := 0) (s' := sx) (by simp) h1 h2 h

theorem zero_lt_q (hq : 0 < q) : 0 < 0 * 0 + q := by rw [zero_mul, zero_add]; exact hq

theorem zero_lt_half (hL : 0 < L) (q : ℝ) : 0 * 0 + q < L / 2 * (L / 2) + q := by
  rw [zero_mul]; exact add_lt_add_of_lt_of_le (mul_pos (half_pos hL) (half_pos hL)) le_rfl

theorem cbPot_neg_of_neg (hK : K < 0) (hq : 0 < q) (u : ℝ) : cbPot K u q < 0 := by
  rw [cbPot_eq_pot]; exact pot_neg_of_neg hK (add_pos_of_nonneg_of_pos (mul_self_nonneg u) hq)

/-- the climb per lap is the difference between the potential at the closest approach and at the box face -/
theorem cbPerLap_pos_of_pos (hK : 0 < K) (hL : 0 < L) (hq : 0 < q) :
    cbPerLap K L q = cbPot K 0 q - cbPot K (L / 2) q ∧ 0 < cbPerLap K L q := by
  have h : cbPot K (L / 2) q < cbPot K 0 q := by
    rw [cbPot_eq_pot, cbPot_eq_pot]
    exact pot_strictAnti hK one_pos (zero_lt_q hq) (zero_lt_half hL q)
  unfold cbPerLap
  rw [abs_of_pos (sub_pos.2 h)]
  exact ⟨rfl, sub_pos.2 h⟩

theorem cbPerLap_pos_of_neg (hK : K < 0) (hL : 0 < L) (hq : 0 < q) :
    cbPerLap K L q = cbPot K (L / 2) q - cbPot K 0 q ∧ 0 < cbPerLap K L q := by
  have h : cbPot K 0 q < cbPot K (L / 2) q := by
    rw [cbPot_eq_pot, cbPot_eq_pot]
    exact pot_strictMono_of_neg hK one_pos (zero_lt_q hq) (zero_lt_half hL q)
  unfold cbPerLap
  rw [abs_of_neg (sub_neg.2 h), neg_sub]
  exact ⟨rfl, sub_pos.2 h⟩

theorem cbPerLap_pos (hK : K ≠ 0) (hL : 0 < L) (hq : 0 < q) : 0 < cbPerLap K L q :=
  (lt_or_gt_of_ne hK).elim (fun h => (cbPerLap_pos_of_neg h hL hq).2)
    fun h => (cbPerLap_pos_of_pos h hL hq).2

/-- one whole lap accumulates the climb per lap: measured from the box face `sx + L/2` it is the passage by
the next image -/
theorem MinImage.lap (hg : MinImage K L sx q g) (hK : K ≠ 0) (hL : 0 < L) (hq : 0 < q)
    (hs1 : -(L / 2) ≤ sx) (hs2 : sx ≤ L / 2) : Good g L (cbPerLap K L q) := by
  have hL2 := (half_pos hL).le
  have h : Good (path K 1 (L / 2) q) L (cbPerLap K L q) := by
    rcases lt_or_gt_of_ne hK with hK | hK
    · have := Good.of_anti_mono hL2 (half_le_self hL.le) (path_antiOn_of_neg hK one_pos hq le_rfl)
        (path_monoOn_of_neg (b := L) hK one_pos hq le_rfl)
      rwa [path_one_eq, path_one_eq, sub_self, show L / 2 - L = -(L / 2) by ring, cbPot_neg,
        ← (cbPerLap_pos_of_neg hK hL hq).1] at this
    · have := Good.of_mono_anti hL2 (half_le_self hL.le) (path_monoOn_of_pos hK one_pos hq le_rfl)
        (path_antiOn_of_pos (b := L) hK one_pos hq le_rfl)
      rwa [path_one_eq, path_one_eq, sub_self, sub_zero, ← (cbPerLap_pos_of_pos hK hL hq).1] at this
  exact Good.lap_of_shift hg.per (neg_le_iff_add_nonneg.1 hs1)
    ((add_le_add hs2 le_rfl).trans_eq (add_halves L))
    (hg.stretch 1 (a := sx + L / 2) (by push_cast; ring) le_rfl (add_halves L).ge h)


/-- the C formula of a climb toward an image at separation `s > 0` is the repulsive routine with power 1 -/
theorem cb_toward_climb (hK : 0 < K) (hq : 0 < q) {s : ℝ} (hs : 0 < s) (hr0 : 0 ≤ r)
    (hr : r < cbPot K 0 q - cbPot K s q) :
    s - Real.sqrt ((K / (cbPot K s q + r)) * (K / (cbPot K s q + r)) - q) < s ∧
      Good (path K 1 s q) (s - Real.sqrt ((K / (cbPot K s q + r)) * (K / (cbPot K s q + r)) - q)) r := by
  rw [cbPot_eq_pot, cbPot_eq_pot] at hr
  have hd := dispRepulsive_of_lt hs hr
  rw [rpow_two_div_one, ← cbPot_eq_pot] at hd
  exact repulsive_some hK one_pos hq hr0 hd

/-- the climb from the box face `a = sx + L/2` toward the next image -/
theorem MinImage.face_climb (hg : MinImage K L sx q g) (hK : 0 < K) (hL : 0 < L) (hq : 0 < q) {a : ℝ}
    (ha : a = sx + L / 2) (hr0 : 0 ≤ r) (hr : r < cbPerLap K L q) :
    Good (fun x => g (x + a))
      (L / 2 - Real.sqrt ((K / (cbPot K (L / 2) q + r)) * (K / (cbPot K (L / 2) q + r)) - q)) r := by
  rw [(cbPerLap_pos_of_pos hK hL hq).1] at hr
  obtain ⟨hlt, h⟩ := cb_toward_climb hK hq (half_pos hL) hr0 hr
  exact hg.stretch 1 (by rw [ha]; push_cast; ring) le_rfl
    (hlt.le.trans (le_add_of_nonneg_right (half_pos hL).le)) h

theorem MinImage.remainder_pos (hg : MinImage K L sx q g) (hK : 0 < K) (hL : 0 < L) (hq : 0 < q)
    (hs1 : -(L / 2) ≤ sx) (hs2 : sx ≤ L / 2) (hr0 : 0 ≤ r) (hr : r < cbPerLap K L q) :
    Good g (cbRemainder K L sx q r) r := by
  simp only [cbRemainder, if_pos hK]
  split_ifs with hsx hbig
  · -- in front of the nearest image: downhill to the box face, then the climb
    exact (hg.head hs2 (add_comm _ _).le
      (Good.of_anti (neg_le_iff_add_nonneg'.1 hs1) (path_antiOn_of_pos hK one_pos hq hsx))).append
      (hg.face_climb hK hL hq (add_comm _ _) hr0 hr) rfl (zero_add r)
  · -- over the closest approach, downhill to the box face, then the climb with what is left
    have h1 := hg.head hs2 le_rfl
      (Good.of_mono_anti (not_le.1 hsx).le (le_add_of_nonneg_right (half_pos hL).le) (path_monoOn_of_pos hK one_pos hq le_rfl)
        (path_antiOn_of_pos (b := sx + L / 2) hK one_pos hq le_rfl))
    rw [path_one_eq, path_one_eq, sub_self, sub_zero] at h1
    exact h1.append
      (hg.face_climb hK hL hq rfl (sub_nonneg.2 hbig) ((sub_le_self r h1.gain_nonneg).trans_lt hr))
      rfl (add_sub_cancel _ _)
  · -- the budget ends on the first climb toward the nearest image
    obtain ⟨hlt, h⟩ := cb_toward_climb hK hq (not_le.1 hsx) hr0 (not_le.1 hbig)
    exact hg.head hs2 (hlt.le.trans (le_add_of_nonneg_right (half_pos hL).le)) h


/-- the C formula of a climb away from an image at separation `s ≤ 0` is the attractive routine with power 1;
the climb ends before every point `x` of the path where the energy is higher than the budget reaches -/
theorem cb_away_climb (hK : K < 0) (hq : 0 < q) {s x : ℝ} (hs : s ≤ 0) (hsx : s ≤ x) (hr0 : 0 ≤ r)
    (hr : cbPot K s q + r < cbPot K (s - x) q) :
    s + Real.sqrt ((K / (cbPot K s q + r)) * (K / (cbPot K s q + r)) - q) < x ∧
      Good (path K 1 s q) (s + Real.sqrt ((K / (cbPot K s q + r)) * (K / (cbPot K s q + r)) - q)) r := by
  have g := attractiveFront_ok (p := 1) hK one_pos hq hr0 hs
  rw [attractiveFront, if_neg (not_le.2 (by rw [← cbPot_eq_pot]; exact hr.trans (cbPot_neg_of_neg hK hq _))),
    rpow_two_div_one, ← cbPot_eq_pot] at g
  replace g := g.of_some rfl
  refine ⟨lt_of_not_ge fun hge => hr.not_ge ?_, g⟩
  -- the energy increases beyond the closest approach, and the climb by `r` ends where it is `cbPot K s q + r`
  have hx : path K 1 s q x ≤ path K 1 s q _ :=
    pot_mono_of_neg hK one_pos (nsq_pos hq) (nsq_mono (q := q) hsx hge)
  have hv := (uphill_mono (path_monoOn_of_neg hK one_pos hq hs) g.nonneg).symm.trans g.val
  rw [path_one_eq, path_one_eq, sub_zero] at hv
  rw [path_one_eq, path_one_eq] at hx
  exact hx.trans_eq (eq_add_of_sub_eq' hv)

/-- the climb from a closest approach `a = sx + k L`; it ends before the box face because the budget is below
the climb per lap -/
theorem MinImage.closest_climb (hg : MinImage K L sx q g) (hK : K < 0) (hL : 0 < L) (hq : 0 < q) (k : ℕ)
    {a : ℝ} (ha : a = sx + k * L) (hr0 : 0 ≤ r) (hr : r < cbPerLap K L q) :
    Good (fun x => g (x + a))
      (0 + Real.sqrt ((K / (cbPot K 0 q + r)) * (K / (cbPot K 0 q + r)) - q)) r := by
  rw [(cbPerLap_pos_of_neg hK hL hq).1] at hr
  obtain ⟨hlt, h⟩ := cb_away_climb (x := L / 2) hK hq le_rfl (half_pos hL).le hr0 (by
    rw [zero_sub, cbPot_neg]; exact lt_sub_iff_add_lt'.1 hr)
  exact hg.stretch k (by rw [ha, sub_self]) (half_pos hL).le (hlt.le.trans_eq (zero_add _).symm) h

theorem MinImage.remainder_neg (hg : MinImage K L sx q g) (hK : K < 0) (hL : 0 < L) (hq : 0 < q)
    (hs1 : -(L / 2) ≤ sx) (hs2 : sx ≤ L / 2) (hr0 : 0 ≤ r) (hr : r < cbPerLap K L q) :
    Good g (cbRemainder K L sx q r) r := by
  simp only [cbRemainder, if_neg (not_lt.2 hK.le)]
  split_ifs with hsx hbig
  · -- behind the nearest image: downhill to the closest approach, then the climb
    exact (hg.head hs2 (le_add_of_nonneg_right (half_pos hL).le)
      (Good.of_anti hsx.le (path_antiOn_of_neg hK one_pos hq le_rfl))).append
      (hg.closest_climb hK hL hq 0 (by simp) hr0 hr) rfl (zero_add r)
  · -- uphill to the box face, downhill to the next closest approach, then the climb with what is left
    have hsx' := not_lt.1 hsx
    have h1 := (hg.head hs2 le_rfl (Good.of_mono (d := sx + L / 2) (neg_le_iff_add_nonneg.1 hs1)
      (path_monoOn_of_neg hK one_pos hq hsx'))).append
      (hg.stretch 1 (s' := L / 2) (by push_cast; ring) le_rfl (le_add_of_nonneg_right (half_pos hL).le)
        (Good.of_anti (half_pos hL).le (path_antiOn_of_neg hK one_pos hq le_rfl)))
      (add_assoc sx (L / 2) (L / 2)) (add_zero _)
    rw [path_one_eq, path_one_eq, sub_zero, sub_add_cancel_left, cbPot_neg, add_halves] at h1
    exact h1.append (hg.closest_climb hK hL hq 1 (by push_cast; ring) (sub_nonneg.2 hbig)
      ((sub_le_self r h1.gain_nonneg).trans_lt hr)) rfl (add_sub_cancel _ _)
  · -- the budget ends on the first climb away from the nearest image, before the box face
    obtain ⟨hlt, h⟩ := cb_away_climb (x := sx + L / 2) hK hq (not_lt.1 hsx)
      (le_add_of_nonneg_right (half_pos hL).le) hr0 (by
      rw [sub_add_cancel_left, cbPot_neg]; exact lt_sub_iff_add_lt'.1 (not_le.1 hbig))
    exact hg.head hs2 hlt.le h


/-- the split into whole laps and a remainder budget is exact: with `m = floor(dE / c)` laps the remainder
budget `dE - m c` (the C code's `fmod`) lies in `[0, c)` -/
theorem cb_laps_split {c dE : ℝ} (hc : 0 < c) (hE : 0 ≤ dE) :
    ∃ m : ℕ, ⌊dE / c⌋ = m ∧ 0 ≤ dE - m * c ∧ dE - m * c < c := by
  obtain ⟨m, hm⟩ := Int.eq_ofNat_of_zero_le (Int.floor_nonneg.2 (div_nonneg hE hc.le))
  have h1 := Int.floor_le (dE / c)
  have h2 := Int.lt_floor_add_one (dE / c)
  rw [hm, Int.cast_natCast] at h1 h2
  rw [le_div_iff₀ hc] at h1
  rw [div_lt_iff₀ hc, add_one_mul] at h2
  exact ⟨m, hm, sub_nonneg.2 h1, sub_lt_iff_lt_add'.2 h2⟩

/-- the distance `cbDisplacement`, whole-box laps plus remainder stage, accumulates exactly the budget along the
minimum-image path -/
theorem MinImage.cbDisplacement_good {dE : ℝ} (hg : MinImage K L sx q g) (hK : K ≠ 0) (hL : 0 < L)
    (hq : 0 < q) (hs1 : -(L / 2) ≤ sx) (hs2 : sx ≤ L / 2) (hE : 0 ≤ dE) :
    Good g (cbDisplacement K L sx q dE) dE := by
  have hrem : ∀ r, 0 ≤ r → r < cbPerLap K L q → Good g (cbRemainder K L sx q r) r := fun r h0 h1 => by
    rcases lt_or_gt_of_ne hK with h | h
    · exact hg.remainder_neg h hL hq hs1 hs2 h0 h1
    · exact hg.remainder_pos h hL hq hs1 hs2 h0 h1
  have hlap := hg.lap hK hL hq hs1 hs2
  obtain ⟨m, hm, h0, h1⟩ := cb_laps_split (cbPerLap_pos hK hL hq) hE
  unfold cbDisplacement
  rw [hm, Int.cast_natCast]
  exact (hlap.laps hg.per m).append (by rw [funext (periodic_nat hg.per m)]; exact hrem _ h0 h1) rfl
    (add_sub_cancel _ _)

end
end JF.DispR
