import JF.Lemmas.OutputGeom
import JF.Lemmas.RoundedErr
import Mathlib.Analysis.SpecialFunctions.Sqrt
import Mathlib.Tactic.Linarith
import Mathlib.Tactic.Ring
/-!
Rounding-abstract reading (every `FloatModel`) of `vectors.norm(separation_vector(a, b))`: helper lemmas for
`JF/Props/OutputFloat.lean` §2.

* `dist1`: the exact per-component nearest-image distance `|wrapSep s|` is 1-Lipschitz in `s`;
* `pymod_rounded`: Python's `%` over `R fm` is the exact result rounded once (C `fmod` being exact);
* `compSep_bound`, `compSep_err`: one component of the computed separation vector;
* `normSq_bounds`: the computed squared norm; `mink2`, `norm_perturb`: Euclidean perturbation.
-/
namespace JF.OutputFloat
open JF JF.Periodic JF.C15 JF.Output JF.R JF.Lifting


/-- exact nearest-image distance in one dimension: the distance from `s` to the lattice `L·ℤ` -/
def dist1 (L s : ℚ) : ℚ := |wrapSep Ops.rat s L (L / 2)|

/-- … no number congruent to `s` is nearer to zero -/
theorem dist1_le_of_congr {s r L : ℚ} (hL : 0 < L) (h : Congr L s r) : dist1 L s ≤ |r| := wrapSep_abs_le_of_congr hL h

theorem dist1_lipschitz {L : ℚ} (hL : 0 < L) (s s' : ℚ) : dist1 L s ≤ dist1 L s' + |s - s'| :=
  let ⟨k, hk⟩ := wrapSep_congr (s := s') hL
  (dist1_le_of_congr hL (r := wrapSep Ops.rat s' L (L / 2) + (s - s')) ⟨k, by rw [← hk]; ring⟩).trans (abs_add_le _ _)

theorem dist1_abs_sub {L : ℚ} (hL : 0 < L) (s s' : ℚ) : |dist1 L s - dist1 L s'| ≤ |s - s'| := by
  have h1 := dist1_lipschitz hL s s'
  have h2 := dist1_lipschitz hL s' s
  rw [abs_sub_comm s' s] at h2
  rw [abs_le]; constructor <;> linarith

theorem dist1_le {L : ℚ} (hL : 0 < L) (s : ℚ) : dist1 L s ≤ L / 2 := wrapSep_abs_le hL

theorem dist1_nonneg (L s : ℚ) : 0 ≤ dist1 L s := abs_nonneg _


variable {fm : FloatModel}

theorem pymod_rat_cases (x L : ℚ) :
    pymod Ops.rat x L = Ops.rat.fmod x L ∨ pymod Ops.rat x L = Ops.rat.fmod x L + L := by
  unfold pymod
  simp only [rat_ofInt, rat_zeroLike, Int.cast_zero]
  by_cases hz : Ops.rat.fmod x L = 0
  · left; simp [hz]
  · by_cases hneg : (decide (L < 0) != decide (Ops.rat.fmod x L < 0)) = true
    · right; simp [hz, hneg]
    · left; simp [hz, hneg]

/-- Python's `x % L` in rounded arithmetic is the exact result rounded ONCE, given that `fmod`'s exact result is
representable (C `fmod` never rounds) -/
theorem pymod_rounded (x L : R fm) (hm : Ops.rat.fmod (toQ x) (toQ L) ∈ fm.F) :
    toQ (pymod (Ops.rounded fm) x L) = fm.rnd (pymod Ops.rat (toQ x) (toQ L)) :=
  pymod_val (Ops.rounded fm) toQ fm.rnd toQ_add R.lt_iff R.bne_iff rounded_ofInt rounded_zeroLike rounded_fmod x L
    fm.rnd_zero (fm.rnd_id _ hm)

theorem pymod_rounded_err (x L : R fm) (hL : 0 < toQ L) (hLF : toQ L ∈ fm.F) (hLh : toQ L ≤ fm.huge)
    (hm : Ops.rat.fmod (toQ x) (toQ L) ∈ fm.F) :
    |toQ (pymod (Ops.rounded fm) x L) - pymod Ops.rat (toQ x) (toQ L)| ≤ fm.eps * toQ L := by
  rw [pymod_rounded x L hm]
  rcases pymod_rat_cases (toQ x) (toQ L) with h | h
  · rw [h, fm.rnd_id _ hm, sub_self, abs_zero]
    exact mul_nonneg fm.eps_nonneg hL.le
  · rw [h]
    refine fm.add_err_le hm hLF ?_ hLh
    rw [← h, abs_of_nonneg (pymod_rat_nonneg _ _ hL)]
    exact (pymod_rat_lt _ _ hL).le


/-- one entry of `separation_vector(a, b)`: `correct_separation_entry(b - a)` with the precomputed half length `h` -/
def compSep (fm : FloatModel) (a b L h : R fm) : R fm := wrapSep (Ops.rounded fm) (b - a) L h

/-- hypotheses on one dimension: a representable box length whose half is the stored half length, representable
coordinates inside the closed box, no overflow, and the (exact) result of C `fmod` representable -/
structure CompOK (fm : FloatModel) (a b L h : R fm) : Prop where
  hL : 0 < toQ L
  hh : toQ h = toQ L / 2
  aF : toQ a ∈ fm.F
  bF : toQ b ∈ fm.F
  LF : toQ L ∈ fm.F
  hF : toQ h ∈ fm.F
  a0 : 0 ≤ toQ a
  a1 : toQ a ≤ toQ L
  b0 : 0 ≤ toQ b
  b1 : toQ b ≤ toQ L
  big : 2 * toQ L ≤ fm.huge
  hm : Ops.rat.fmod (toQ ((b - a) + h)) (toQ L) ∈ fm.F

theorem compSep_toQ (a b L h : R fm) :
    toQ (compSep fm a b L h) = fm.rnd (toQ (pymod (Ops.rounded fm) ((b - a) + h) L) - toQ h) := rfl

theorem CompOK.L_le_huge {a b L h : R fm} (ok : CompOK fm a b L h) : toQ L ≤ fm.huge :=
  (le_mul_of_one_le_left ok.hL.le one_le_two).trans ok.big

/-- the rounded `%` lies in `[0, L]` (`L` itself is possible), so taking `L/2` off leaves at most `L/2` -/
theorem pymod_sub_half {a b L h : R fm} (ok : CompOK fm a b L h) :
    |toQ (pymod (Ops.rounded fm) ((b - a) + h) L) - toQ h| ≤ toQ h := by
  rw [pymod_rounded _ _ ok.hm, abs_le, neg_le_sub_iff_le_add, sub_le_iff_le_add, ok.hh, add_halves]
  exact ⟨le_add_of_nonneg_left (fm.rnd_nonneg (pymod_rat_nonneg _ _ ok.hL)),
    fm.rnd_le_of_le ok.LF (pymod_rat_lt _ _ ok.hL).le⟩

/-- **the closed bound survives rounding**: every component of the computed separation vector has magnitude `≤ L/2` -/
theorem compSep_bound {a b L h : R fm} (ok : CompOK fm a b L h) : |toQ (compSep fm a b L h)| ≤ toQ h :=
  fm.abs_rnd_le ok.hF (pymod_sub_half ok)

/-- the argument of `%` after its two roundings (`b − a`, then `+ L/2`), the half length taken off again, against `b − a` -/
theorem compSep_arg_err {a b L h : R fm} (ok : CompOK fm a b L h) :
    |toQ ((b - a) + h) - toQ h - (toQ b - toQ a)| ≤ 3 * (fm.eps * toQ L) := by
  have hba : |toQ b - toQ a| ≤ toQ L := abs_sub_le_of_nonneg_of_le ok.b0 ok.b1 ok.a0 ok.a1
  have e1 : |toQ (b - a) - (toQ b - toQ a)| ≤ fm.eps * toQ L := fm.sub_err_le ok.bF ok.aF hba ok.L_le_huge
  have hs : |toQ (b - a) + toQ h| ≤ 2 * toQ L :=
    (abs_add_le _ _).trans (by
      rw [ok.hh, abs_of_pos (half_pos ok.hL), two_mul]
      exact add_le_add (fm.abs_rnd_le ok.LF hba) (half_le_self ok.hL.le))
  have e2 := fm.add_round (fm.rnd_mem _) ok.hF e1 (sub_self (toQ h) ▸ abs_zero.le) hs ok.big
  rw [sub_sub, add_comm (toQ h)]
  exact e2.trans_eq (by ring)

/-- the computed component after its two roundings (the `+ L` inside `%`, then `− L/2`) against the exact `x % L − L/2` of the
computed argument `x` -/
theorem compSep_out_err {a b L h : R fm} (ok : CompOK fm a b L h) :
    |toQ (compSep fm a b L h) - (pymod Ops.rat (toQ ((b - a) + h)) (toQ L) - toQ h)| ≤ 3 / 2 * (fm.eps * toQ L) := by
  refine (fm.sub_round (by rw [pymod_rounded _ _ ok.hm]; exact fm.rnd_mem _) ok.hF
    (pymod_rounded_err ((b - a) + h) L ok.hL ok.LF ok.L_le_huge ok.hm) (sub_self (toQ h) ▸ abs_zero.le) (pymod_sub_half ok)
    (by rw [ok.hh]; exact (half_le_self ok.hL.le).trans ok.L_le_huge)).trans_eq ?_
  rw [ok.hh]; ring

/-- **one component against the exact nearest-image distance**: the magnitude of the computed component differs from the
exact distance of `b − a` to the lattice by at most `9/2 · eps · L` (four roundings: `b − a`, `+ L/2`, the `+ L` inside `%`,
`− L/2`; an ABSOLUTE error proportional to the box, not to the separation) -/
theorem compSep_err {a b L h : R fm} (ok : CompOK fm a b L h) :
    |(|toQ (compSep fm a b L h)|) - dist1 (toQ L) (toQ b - toQ a)| ≤ 9 / 2 * (fm.eps * toQ L) := by
  -- for the computed argument `x` the exact wrapped separation of `x − L/2` is `x % L − L/2`
  have ex : dist1 (toQ L) (toQ ((b - a) + h) - toQ h) = |pymod Ops.rat (toQ ((b - a) + h)) (toQ L) - toQ h| := by
    unfold dist1 wrapSep
    rw [ok.hh, sub_add_cancel]
  have t1 := (abs_abs_sub_abs_le_abs_sub _ _).trans (compSep_out_err ok)
  have t2 := (dist1_abs_sub ok.hL _ _).trans (compSep_arg_err ok)
  rw [ex] at t2
  refine (abs_sub_le _ _ _).trans ((add_le_add t1 t2).trans_eq ?_)
  ring


def sq (v : List ℚ) : ℚ := (v.map fun c => c * c).sum

theorem sq_nonneg (v : List ℚ) : 0 ≤ sq v := sum_mul_self_nonneg v

theorem sq_cons (c : ℚ) (v : List ℚ) : sq (c :: v) = c * c + sq v := rfl

/-- no square of a component underflows or overflows (a zero component is fine) -/
def SqOK (fm : FloatModel) (v : List (R fm)) : Prop :=
  ∀ c ∈ v, toQ c = 0 ∨ (fm.tiny ≤ toQ c * toQ c ∧ toQ c * toQ c ≤ fm.huge)

/-- the error of CPython's compensated `sum` on the list of squares, as a parameter (as in `C05Float`): relative `δs` -/
def SumOK (fm : FloatModel) (xs : List (R fm)) (δs : ℚ) : Prop :=
  |toQ (pySum (Ops.rounded fm) xs) - (xs.map toQ).sum| ≤ δs * (xs.map toQ).sum

theorem squares_bounds (v : List (R fm)) (hv : SqOK fm v) :
    (1 - fm.eps) * sq (v.map toQ) ≤ ((v.map fun c => c * c).map toQ).sum ∧
      ((v.map fun c => c * c).map toQ).sum ≤ (1 + fm.eps) * sq (v.map toQ) := by
  induction v with
  | nil => simp [sq]
  | cons c v ih =>
    obtain ⟨i1, i2⟩ := ih fun x hx => hv x (List.mem_cons_of_mem _ hx)
    have hc : |fm.rnd (toQ c * toQ c) - toQ c * toQ c| ≤ fm.eps * (toQ c * toQ c) := by
      rcases hv c List.mem_cons_self with h | ⟨h1, h2⟩
      · simp [h]
      · have := fm.rel_err (toQ c * toQ c)
        rwa [abs_of_nonneg (mul_self_nonneg (toQ c)), imp_iff_right h1, imp_iff_right h2] at this
    have hc' := abs_le.mp hc
    simp only [List.map_cons, List.sum_cons, toQ_mul, sq_cons]
    exact ⟨by linarith only [i1, hc'.1], by linarith only [i2, hc'.2]⟩

/-- **the computed squared norm** `sum(c * c for c in v)` is within the factors `(1 ∓ δs)(1 ∓ eps)` of the exact one -/
theorem normSq_bounds (v : List (R fm)) (hv : SqOK fm v) (δs : ℚ) (h0 : 0 ≤ δs) (h1 : δs ≤ 1)
    (hs : SumOK fm (v.map fun c => c * c) δs) :
    (1 - δs) * (1 - fm.eps) * sq (v.map toQ) ≤ toQ (normSq (Ops.rounded fm) v) ∧
      toQ (normSq (Ops.rounded fm) v) ≤ (1 + δs) * (1 + fm.eps) * sq (v.map toQ) := by
  obtain ⟨b1, b2⟩ := squares_bounds v hv
  have hs' := abs_le.mp hs
  unfold normSq
  rw [mul_assoc, mul_assoc]
  exact ⟨(mul_le_mul_of_nonneg_left b1 (sub_nonneg.mpr h1)).trans (by linarith only [hs'.1]),
    le_trans (by linarith only [hs'.2]) (mul_le_mul_of_nonneg_left b2 (add_nonneg zero_le_one h0))⟩


theorem mink2 (u v p q : ℝ) :
    Real.sqrt ((u + p) * (u + p) + (v + q) * (v + q)) ≤ Real.sqrt (u * u + v * v) + Real.sqrt (p * p + q * q) := by
  have n1 : 0 ≤ u * u + v * v := add_nonneg (mul_self_nonneg u) (mul_self_nonneg v)
  have n2 : 0 ≤ p * p + q * q := add_nonneg (mul_self_nonneg p) (mul_self_nonneg q)
  -- Cauchy–Schwarz, from Lagrange's identity `(u² + v²)(p² + q²) − (up + vq)² = (uq − vp)²`
  have cs : u * p + v * q ≤ Real.sqrt (u * u + v * v) * Real.sqrt (p * p + q * q) := by
    rw [← Real.sqrt_mul n1]
    apply Real.le_sqrt_of_sq_le
    rw [pow_two]
    linarith only [mul_self_nonneg (u * q - v * p)]
  rw [Real.sqrt_le_left (add_nonneg (Real.sqrt_nonneg _) (Real.sqrt_nonneg _)), add_sq, Real.sq_sqrt n1, Real.sq_sqrt n2]
  linarith only [cs]

/-- components whose magnitudes exceed those of another vector by at most `η` each: the norm exceeds by at most `√n · η` -/
theorem norm_perturb {η : ℚ} (hη : 0 ≤ η) {cs es : List ℚ} (h : List.Forall₂ (fun c e => |c| ≤ |e| + η) cs es) :
    Real.sqrt ((sq cs : ℚ) : ℝ) ≤ Real.sqrt ((sq es : ℚ) : ℝ) + Real.sqrt (es.length : ℝ) * (η : ℝ) := by
  have hηR : (0 : ℝ) ≤ (η : ℝ) := Rat.cast_nonneg.mpr hη
  induction h with
  | nil => simp [sq]
  | @cons c e cs es hce _ ih =>
    have hQe : (0 : ℝ) ≤ ((sq es : ℚ) : ℝ) := Rat.cast_nonneg.mpr (sq_nonneg es)
    have hceR : |(c : ℝ)| ≤ |(e : ℝ)| + (η : ℝ) := by exact_mod_cast hce
    -- `‖(c, cs)‖ ≤ ‖(|e| + η, ‖es‖ + √n η)‖ ≤ ‖(|e|, ‖es‖)‖ + ‖(η, √n η)‖`
    have m := mink2 |(e : ℝ)| (Real.sqrt ((sq es : ℚ) : ℝ)) η (Real.sqrt (es.length : ℝ) * η)
    rw [abs_mul_abs_self, Real.mul_self_sqrt hQe, mul_mul_mul_comm, Real.mul_self_sqrt (Nat.cast_nonneg _),
      ← one_add_mul, Real.sqrt_mul (add_nonneg zero_le_one (Nat.cast_nonneg _)), Real.sqrt_mul_self hηR,
      add_comm (1 : ℝ)] at m
    rw [sq_cons, sq_cons, List.length_cons]
    push_cast
    refine (Real.sqrt_le_sqrt (add_le_add ?_ ?_)).trans m
    · rw [← abs_mul_abs_self (c : ℝ)]
      exact mul_self_le_mul_self (abs_nonneg _) hceR
    · rw [← Real.mul_self_sqrt (Rat.cast_nonneg.mpr (sq_nonneg cs))]
      exact mul_self_le_mul_self (Real.sqrt_nonneg _) ih

end JF.OutputFloat
