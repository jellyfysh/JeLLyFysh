import JF.Lemmas.C09PoolsWorlds
import JF.Lemmas.C09PoolsRun
/-!
C09, last clause (no `TagActivatorError`) — the per-configuration data (`PoolCfg`, generated into `JF/Gen/Pools.lean` by `harness/translate_pools.py`)
and the decidable obligation "pool ≥ demand bound for every tagger" (`shortfalls pc = []`).
-/
namespace JF.C09Pools
open JF JF.Act JF.CellTaggers

/-- one internal state (`SingleActiveCellOccupancy`) of a configuration -/
structure OccData where
  /-- `cell_level` -/
  level : Nat
  /-- `cells_per_side` (completed to the dimension as `CuboidCells.__init__` does) and `neighbor_layers` -/
  grid : Grid
  /-- `maximum_number_occupants` (`≤ 0`: not bounded) -/
  cap : Int
  /-- number of units on the cell level that pass the charge filter (`_is_relevant_unit`): from `number_of_root_nodes`, the node
  creator's nodes per root node and the `charge_values` of the charge the occupancy filters by -/
  nRel : Nat
deriving Repr

/-- what the demand bounds of a shipped configuration depend on -/
structure PoolCfg where
  /-- the wiring (`JF/Gen/Wirings.lean`), with the shipped pool sizes -/
  w : Wiring
  /-- `number_of_root_nodes` (`[RandomInputHandler]`) or the number of residues of the PDB file -/
  nRoots : Nat
  /-- `setting.number_of_nodes_per_root_node` (atom 1, dipole 2, water 3; atoms per residue of the PDB file) -/
  nPer : Nat
  /-- base name of `[FactorTypeMaps] filename`, a key of `FactorMaps.shipped` (`""`: none) -/
  factorFile : String
  /-- per tagger: `to_camel_case(factor_type_maps_label or tag)` for `FactorTypeMapInStateTagger`s, `""` otherwise -/
  ftype : List String
  /-- per tagger: the states it is asked on (`Sel`: 0 leaf mode, 1 root mode, 2 both) — from the handler class
  (`JF/Gen/ModeWirings.lean`: `leafUnit` ↦ 0, `rootUnit` ↦ 1, anything else ↦ 2) -/
  sel : List Nat
  /-- one entry per internal state, in the order of `Wiring.labels` -/
  occs : List OccData
deriving Repr

def PoolCfg.lines (pc : PoolCfg) : List FactorMaps.Line :=
  match FactorMaps.shipped.lookup pc.factorFile with
  | some p => p.2
  | none => []

/-- `FactorTypeMaps._factors` of the configuration (`[]` if the file is rejected: then every factor tagger falls back on the
all-pairs map, as `FactorMaps.yieldFactor` models) -/
def PoolCfg.fs (pc : PoolCfg) : FactorMaps.Factors :=
  match FactorMaps.instantiate ⟨pc.nRoots, pc.nPer⟩ pc.lines [] with
  | .ok fs => fs
  | .error _ => []

def PoolCfg.occOf (pc : PoolCfg) (T : TaggerIdx) : Option OccData := (pc.w.tagger T).label.bind (pc.occs[·]?)

def PoolCfg.ftypeOf (pc : PoolCfg) (T : TaggerIdx) : String := (pc.ftype[T]?).getD ""
def PoolCfg.selOf (pc : PoolCfg) (T : TaggerIdx) : Sel := (pc.sel[T]?).getD 2

/-- **the demand bound of tagger `T`** (number of in-states it can yield at once, under the one-chain invariant and the occupancy
invariant) -/
def demandBound (pc : PoolCfg) (T : TaggerIdx) : Nat :=
  match (pc.w.tagger T).cls with
  | .noInState | .activeGlobalState | .activeRootUnit | .cellBoundary | .cellVeto => 1
  | .factorTypeMap =>
    if pc.nPer == 1 then pc.nRoots - 1
    else demandMax (pc.selOf T) pc.nRoots pc.nPer pc.fs (pc.ftypeOf T) .factorTypeMap
  | .excludedCells => match pc.occOf T with | some o => excludedBound o.grid o.cap o.nRel | none => 0
  | .cellBounding => match pc.occOf T with | some o => boundingBound o.grid o.nRel | none => 0
  | .surplusCells => match pc.occOf T with | some o => surplusBound o.nRel | none => 0
  | .unknown => 0

/-- the taggers whose shipped pool is smaller than the bound: (tagger index, pool, bound) -/
def shortfalls (pc : PoolCfg) : List (TaggerIdx × Nat × Nat) :=
  (List.range pc.w.n).filterMap fun T =>
    if (pc.w.tagger T).pool < demandBound pc T then some (T, (pc.w.tagger T).pool, demandBound pc T) else none

theorem pool_ge_of_no_shortfall {pc : PoolCfg} (h : shortfalls pc = []) {T : TaggerIdx} (hT : T < pc.w.n) :
    demandBound pc T ≤ (pc.w.tagger T).pool := by
  unfold shortfalls at h
  have := List.filterMap_eq_nil_iff.mp h T (List.mem_range.mpr hT)
  split at this
  · cases this
  · omega

/-- **from the per-configuration obligation to "no pool is ever exhausted"**: if every tagger's yield respects `demandBound` on
the states `I` a run visits and no tagger's pool falls short of its bound, the configuration's demand is bounded by its pools —
`no_pool_exhausted` then excludes `TagActivatorError` on every attempt of every run -/
theorem demandBounded_of_no_shortfall {G : Type} (pc : PoolCfg) (W : World G) (I : G → Prop)
    (hy : ∀ g, I g → ∀ T, T < pc.w.n → (W.yieldOf T g).length ≤ demandBound pc T) (ok : shortfalls pc = []) :
    DemandBounded pc.w W I :=
  fun g hg T hT => Nat.le_trans (hy g hg T hT) (pool_ge_of_no_shortfall ok hT)

end JF.C09Pools
