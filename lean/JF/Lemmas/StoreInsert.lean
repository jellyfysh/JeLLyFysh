import JF.Lemmas.Store
import JF.Lemmas.StoreRefineLift
/-!
`insert_into_global_state` on the identifier-indexed view `unitAt`: what is stored under an identifier
after a commit, and which objects the global state refers to afterwards.  Then the value of the global
state, `absG g h` (every reference read through the heap): it depends only on the objects in `g.refs`
(`absG_congr`), and the specification's identifier-indexed view of it is `readAt` (`unitAt_absG`).
-/
namespace JF.Store
variable {α : Type}

theorem dictGet_eq_lookup (d : List (Ident × Ref × Ref)) (id : Ident) : dictGet d id = d.lookup id := by
  induction d with
  | nil => rfl
  | cons e d ih =>
    obtain ⟨k, x⟩ := e
    by_cases hk : k = id
    · simp [dictGet, hk]
    · simp [dictGet, hk, ih, List.lookup_cons, beq_false_of_ne (Ne.symm hk)]

theorem dictSet_eq_assocSet (d : List (Ident × Ref × Ref)) (id : Ident) (x : Ref × Ref) :
    dictSet d id x = Spec.assocSet d id x := by
  induction d with
  | nil => rfl
  | cons e d ih => simp only [dictSet, Spec.assocSet, ih]

theorem dictGet_dictSet (d : List (Ident × Ref × Ref)) (id id' : Ident) (x : Ref × Ref) :
    dictGet (dictSet d id x) id' = if id' = id then some x else dictGet d id' := by
  rw [dictGet_eq_lookup, dictSet_eq_assocSet, Spec.lookup_assocSet, dictGet_eq_lookup]

theorem dictGet_dictDel (d : List (Ident × Ref × Ref)) (id id' : Ident) :
    dictGet (dictDel d id) id' = if id' = id then none else dictGet d id' := by
  rw [dictGet_eq_lookup, dictGet_eq_lookup]
  exact Spec.lookup_filter_ne d id id'

theorem mem_dictSet {d : List (Ident × Ref × Ref)} {id : Ident} {x : Ref × Ref} {e : Ident × Ref × Ref}
    (he : e ∈ dictSet d id x) : e ∈ d ∨ e = (id, x) := by
  induction d with
  | nil => simp_all [dictSet]
  | cons a d ih =>
    obtain ⟨k, y⟩ := a
    simp only [dictSet] at he
    split at he <;> simp only [List.mem_cons] at he ⊢ <;> grind

theorem Lifting.modLifted_ok {l l' : Lifting} {n : Nat} {f : List Ident → List Ident} (h : l.modLifted n f = .ok l') :
    l'.dict = l.dict ∧ l'.levels = l.levels ∧ l'.perRoot = l.perRoot := by
  simp only [Lifting.modLifted] at h
  split at h
  · cases h; exact ⟨rfl, rfl, rfl⟩
  · split at h
    · cases h; exact ⟨rfl, rfl, rfl⟩
    · cases h

/-- `TreeLiftingState.set` on the dictionary and the settings (whatever happens to the sets of lifted
identifiers, and also when it raises) -/
theorem Lifting.set_fields (l : Lifting) (id : Ident) (v t : Option Ref) :
    (l.set id v t).1.levels = l.levels ∧
    (l.set id v t).1.dict = match v, t with
      | some v, some t => dictSet l.dict id (v, t)
      | none, none => if (dictGet l.dict id).isSome then dictDel l.dict id else l.dict
      | _, _ => l.dict := by
  have key : ∀ (l1 : Lifting) (f : List Ident → List Ident),
      (match l1.modLifted id.length f with
        | .ok l2 => (l2, (none : Option Err))
        | .error e => (l1, some e)).1.levels = l1.levels ∧
      (match l1.modLifted id.length f with
        | .ok l2 => (l2, (none : Option Err))
        | .error e => (l1, some e)).1.dict = l1.dict := by
    intro l1 f
    split
    · next hm => exact ⟨(Lifting.modLifted_ok hm).2.1, (Lifting.modLifted_ok hm).1⟩
    · exact ⟨rfl, rfl⟩
  cases v <;> cases t
  · simp only [Lifting.set]
    split
    · exact key _ _
    · exact ⟨rfl, rfl⟩
  · exact ⟨rfl, rfl⟩
  · exact ⟨rfl, rfl⟩
  · exact key _ _

theorem Lifting.set_dict_sub (l : Lifting) (id : Ident) (v t : Option Ref) :
    ∀ e ∈ (l.set id v t).1.dict, e ∈ l.dict ∨ (∃ a b, v = some a ∧ t = some b ∧ e = (id, a, b)) := by
  intro e he
  rw [(l.set_fields id v t).2] at he
  cases v <;> cases t <;> simp only at he
  · split at he
    · exact .inl (List.mem_filter.1 he).1
    · exact .inl he
  · exact .inl he
  · exact .inl he
  · exact (mem_dictSet he).imp_right fun h => ⟨_, _, rfl, rfl, h⟩

theorem Lifting.get_set {l l' : Lifting} {id : Ident} {v t : Option Ref} (hs : l.set id v t = (l', none)) (id' : Ident) :
    l'.get id' = if id' = id then (v, t) else l.get id' := by
  have hd := (l.set_fields id v t).2
  rw [hs] at hd
  cases v <;> cases t
  · simp only at hd
    by_cases hk : (dictGet l.dict id).isSome
    · simp only [Lifting.get, hd, hk, if_true, dictGet_dictDel]
      by_cases he : id' = id <;> simp [he]
    · simp only [Lifting.get, hd, hk]
      by_cases he : id' = id
      · subst he
        have : dictGet l.dict id' = none := by simpa using hk
        simp [this]
      · simp [he]
  · simp [Lifting.set] at hs
  · simp [Lifting.set] at hs
  · simp only at hd
    simp only [Lifting.get, hd, dictGet_dictSet]
    by_cases he : id' = id <;> simp [he]

theorem physSet_ok {roots roots' : List (PRoot α)} {id : Ident} {p : Ref} (hs : physSet roots id p = .ok roots') :
    ∃ r R, roots[r]? = some R ∧
      ((id = [r] ∧ roots' = roots.set r { R with node := { R.node with pos := p } }) ∨
       ∃ c L, id = [r, c] ∧ R.children[c]? = some L ∧
        roots' = roots.set r { R with children := R.children.set c { L with pos := p } }) := by
  match id, hs with
  | [], hs => simp [physSet] at hs
  | [r], hs =>
    simp only [physSet] at hs
    cases hR : roots[r]? with
    | none => simp [hR] at hs
    | some R => exact ⟨r, R, hR, .inl ⟨rfl, by simpa [hR] using hs.symm⟩⟩
  | [r, c], hs =>
    simp only [physSet] at hs
    cases hR : roots[r]? with
    | none => simp [hR] at hs
    | some R =>
      cases hL : R.children[c]? with
      | none => simp [hR, hL] at hs
      | some L => exact ⟨r, R, hR, .inr ⟨c, L, rfl, hL, by simpa [hR, hL] using hs.symm⟩⟩
  | _ :: _ :: _ :: _, hs => simp [physSet] at hs

theorem physSet_ok_length {roots roots' : List (PRoot α)} {id : Ident} {p : Ref}
    (h : physSet roots id p = .ok roots') : id.length = 1 ∨ id.length = 2 := by
  obtain ⟨_, _, _, ⟨rfl, _⟩ | ⟨_, _, rfl, _⟩⟩ := physSet_ok h
  · exact .inl rfl
  · exact .inr rfl

theorem physGet_physSet {roots roots' : List (PRoot α)} {id : Ident} {p : Ref}
    (hs : physSet roots id p = .ok roots') (id' : Ident) :
    physGet roots' id' = if id' = id then (physGet roots id).map (fun n => { n with pos := p }) else physGet roots id' := by
  obtain ⟨r, R, hR, ⟨rfl, rfl⟩ | ⟨c, L, rfl, hL, rfl⟩⟩ := physSet_ok hs
  · obtain ⟨hlt, hRe⟩ := List.getElem?_eq_some_iff.1 hR
    match id' with
    | [] => simp [physGet]
    | [r'] =>
      by_cases hr : r' = r
      · subst hr; simp [physGet, hlt, Except.map, hRe]
      · simp [physGet, List.getElem?_set_ne (Ne.symm hr), hr]
    | [r', c'] =>
      by_cases hr : r' = r
      · subst hr; simp [physGet, hlt, hRe]
      · simp [physGet, List.getElem?_set_ne (Ne.symm hr)]
    | _ :: _ :: _ :: _ => simp [physGet]
  · obtain ⟨hlt, hRe⟩ := List.getElem?_eq_some_iff.1 hR
    obtain ⟨hlc, hLe⟩ := List.getElem?_eq_some_iff.1 hL
    match id' with
    | [] => simp [physGet]
    | [r'] =>
      by_cases hr : r' = r
      · subst hr; simp [physGet, hlt, hRe]
      · simp [physGet, List.getElem?_set_ne (Ne.symm hr)]
    | [r', c'] =>
      by_cases hr : r' = r
      · subst hr
        by_cases hc : c' = c
        · subst hc; simp [physGet, hlt, hlc, Except.map, hRe, hLe]
        · simp [physGet, hlt, List.getElem?_set_ne (Ne.symm hc), hc, hRe]
      · simp [physGet, List.getElem?_set_ne (Ne.symm hr), hr]
    | _ :: _ :: _ :: _ => simp [physGet]

/-- what is stored under the identifier of a committed unit: its references; charge and weight
are those of the node -/
def CUnit.over (u o : CUnit α) : CUnit α := ⟨u.id, u.pos, o.charge, u.vel, u.ts, o.weight⟩

theorem unitAt_insertUnit {g g' : Global α} {u : CUnit α} (hs : insertUnit g u = (g', none)) (id' : Ident) :
    unitAt g' id' = if id' = u.id then (unitAt g u.id).map u.over else unitAt g id' := by
  simp only [insertUnit] at hs
  cases hp : physSet g.roots u.id u.pos with
  | error e => simp [hp] at hs
  | ok roots =>
    simp only [hp, Prod.mk.injEq] at hs
    obtain ⟨rfl, h2⟩ := hs
    have hl : g.lift.set u.id u.vel u.ts = ((g.lift.set u.id u.vel u.ts).1, none) := by rw [← h2]
    simp only [unitAt, physGet_physSet hp id']
    by_cases he : id' = u.id
    · simp only [he, if_true]
      cases hg : physGet g.roots u.id with
      | error e => simp [Except.map]
      | ok n => simp [Except.map, aliasUnit, CUnit.over, Lifting.get_set hl]
    · simp only [he, if_false]
      cases hg : physGet g.roots id' with
      | error e => rfl
      | ok n => simp [aliasUnit, Lifting.get_set hl, he]

theorem unitAt_id {g : Global α} {id : Ident} {o : CUnit α} (h : unitAt g id = some o) : o.id = id := by
  simp only [unitAt] at h
  cases hg : physGet g.roots id <;> simp [hg] at h
  rw [← h]; rfl

def posRefs (R : PRoot α) : List Ref := R.node.pos :: R.children.map (·.pos)

theorem mem_flatMap_set {β γ : Type} {l : List β} {f : β → List γ} {i : Nat} {a : β} {x : γ}
    (hx : x ∈ (l.set i a).flatMap f) : x ∈ l.flatMap f ∨ x ∈ f a := by
  simp only [List.mem_flatMap] at hx ⊢
  obtain ⟨b, hb, hxb⟩ := hx
  rcases List.mem_or_eq_of_mem_set hb with h | h
  · left; exact ⟨b, h, hxb⟩
  · right; rw [← h]; exact hxb

theorem physSet_refs_sub {roots roots' : List (PRoot α)} {id : Ident} {p : Ref}
    (hs : physSet roots id p = .ok roots') :
    ∀ x ∈ roots'.flatMap posRefs, x ∈ roots.flatMap posRefs ∨ x = p := by
  intro x hx
  obtain ⟨r, R, hR, ⟨_, rfl⟩ | ⟨c, L, _, hL, rfl⟩⟩ := physSet_ok hs
  all_goals
    have old : ∀ y ∈ posRefs R, y ∈ roots.flatMap posRefs := fun y hy =>
      List.mem_flatMap.2 ⟨R, List.mem_of_getElem? hR, hy⟩
    rcases mem_flatMap_set hx with h | h
    · exact .inl h
  · simp only [posRefs, List.mem_cons] at h
    rcases h with h | h
    · exact .inr h
    · exact .inl (old x (by simp only [posRefs, List.mem_cons]; exact .inr h))
  · simp only [posRefs, List.mem_cons, List.mem_map] at h
    rcases h with h | ⟨n, hn, hnx⟩
    · exact .inl (old x (by simp [posRefs, h]))
    · rcases List.mem_or_eq_of_mem_set hn with h2 | h2
      · exact .inl (old x (by simp only [posRefs, List.mem_cons, List.mem_map]; exact .inr ⟨n, h2, hnx⟩))
      · exact .inr (by rw [← hnx, h2])

theorem insertUnit_refs_sub (g : Global α) (u : CUnit α) :
    ∀ r ∈ (insertUnit g u).1.refs, r ∈ g.refs ∨ r ∈ u.refs := by
  intro r hr
  simp only [insertUnit] at hr
  cases hp : physSet g.roots u.id u.pos with
  | error e => simp only [hp] at hr; left; exact hr
  | ok roots =>
    simp only [hp, Global.refs, List.mem_append] at hr
    simp only [Global.refs, List.mem_append]
    rcases hr with hr | hr
    · rcases physSet_refs_sub hp r hr with h | h
      · left; left; exact h
      · right; simp [CUnit.refs, h]
    · simp only [List.mem_flatMap] at hr
      obtain ⟨e, he, hre⟩ := hr
      rcases Lifting.set_dict_sub g.lift u.id u.vel u.ts e he with h | ⟨a, b, hv, ht, h⟩
      · left; right; simp only [List.mem_flatMap]; exact ⟨e, h, hre⟩
      · right
        subst h
        simp only [List.mem_cons, List.not_mem_nil, or_false] at hre
        simp only [CUnit.refs, hv, ht, List.mem_cons, List.mem_append, Option.toList_some, List.not_mem_nil, or_false]
        rcases hre with h | h
        · right; left; exact h
        · right; right; exact h

theorem insertUnits_refs_sub (us : List (CUnit α)) : ∀ (g : Global α),
    ∀ r ∈ (insertUnits g us).1.refs, r ∈ g.refs ∨ r ∈ us.flatMap CUnit.refs := by
  induction us with
  | nil => intro g r hr; left; simpa [insertUnits] using hr
  | cons u us ih =>
    intro g r hr
    simp only [insertUnits] at hr
    cases hu : insertUnit g u with
    | mk g1 e =>
      have h1 := insertUnit_refs_sub g u
      rw [hu] at h1
      cases e with
      | some e =>
        simp only [hu] at hr
        rcases h1 r hr with h | h
        · left; exact h
        · right; simp [h]
      | none =>
        simp only [hu] at hr
        rcases ih g1 r hr with h | h
        · rcases h1 r h with h | h
          · left; exact h
          · right; simp [h]
        · right; simp only [List.flatMap_cons, List.mem_append]; right; exact h

theorem absG_congr {g : Global α} {h h' : Heap α} (hf : ∀ r ∈ g.refs, h'.get? r = h.get? r) :
    absG g h' = absG g h := by
  simp only [Global.refs, List.mem_append, List.mem_flatMap] at hf
  simp only [absG, Spec.Global.mk.injEq, true_and]
  constructor
  · apply List.map_congr_left
    intro R hR
    have hp : ∀ x ∈ R.node.pos :: R.children.map (·.pos), h'.get? x = h.get? x :=
      fun x hx => hf x (Or.inl ⟨R, hR, hx⟩)
    simp only [absNode, Prod.mk.injEq, Spec.Node.mk.injEq, and_true]
    refine ⟨hp _ (by simp), ?_⟩
    apply List.map_congr_left
    intro n hn
    simp only [absNode, Spec.Node.mk.injEq, and_true]
    exact hp _ (by simp only [List.mem_cons, List.mem_map]; right; exact ⟨n, hn, rfl⟩)
  · apply List.map_congr_left
    intro e he
    have := fun x hx => hf x (Or.inr ⟨e, he, hx⟩)
    simp only [Prod.mk.injEq, true_and]
    exact ⟨this _ (by simp), this _ (by simp)⟩

theorem absG_ext {g : Global α} {h h' : Heap α} (ok : GlobalOK g h) (e : Ext h h') : absG g h' = absG g h :=
  absG_congr (fun r hr => e.2 r (ok r hr))

theorem lookup_absDict (h : Heap α) (d : List (Ident × Ref × Ref)) (id : Ident) :
    (d.map (fun e => (e.1, h.get? e.2.1, h.get? e.2.2))).lookup id =
      (dictGet d id).map (fun x => (h.get? x.1, h.get? x.2)) := by
  induction d with
  | nil => rfl
  | cons e d ih =>
    obtain ⟨k, x⟩ := e
    simp only [List.map_cons, List.lookup_cons, dictGet]
    by_cases hk : k = id
    · subst hk; simp
    · have : (id == k) = false := by simpa using Ne.symm hk
      simp only [this, hk, if_false, ih]

theorem node_absG (g : Global α) (h : Heap α) (id : Ident) :
    Spec.node (absG g h) id = (physGet g.roots id).toOption.map (absNode h) := by
  match id with
  | [] => rfl
  | [r] =>
    simp only [Spec.node, absG, physGet, List.getElem?_map]
    cases g.roots[r]? <;> rfl
  | [r, c] =>
    simp only [Spec.node, absG, physGet, List.getElem?_map]
    cases g.roots[r]? with
    | none => rfl
    | some R =>
      simp only [Option.map_some, Option.bind_some, List.getElem?_map]
      cases R.children[c]? <;> rfl
  | _ :: _ :: _ :: _ => rfl

theorem unitAt_absG (g : Global α) (h : Heap α) (id : Ident) :
    Spec.unitAt (absG g h) id = readAt g h id := by
  simp only [Spec.unitAt, node_absG, readAt, unitAt]
  cases physGet g.roots id with
  | error e => rfl
  | ok n =>
    simp only [Except.toOption, Option.map_some, Option.some.injEq, readUnit, aliasUnit, absNode, absG,
      lookup_absDict, Lifting.get, UVal.mk.injEq, true_and, and_true]
    cases dictGet g.lift.dict id <;> simp

end JF.Store
