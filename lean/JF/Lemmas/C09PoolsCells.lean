import JF.Props.C10C11
/-!
C09, last clause (no `TagActivatorError`) — demand bounds of the five CELL taggers
(`activator/tagger/{cell_boundary, cell_veto, cell_bounding_potential, excluded_cells, surplus_cells}_tagger.py`,
models in `JF/Model/CellTaggers.lean`), for EVERY occupancy state given as data (`CellTaggers.Occ`), and — where a bound in terms
of the number of relevant units is wanted — under C10's `OccInv` (which `JF.C10C11.reach_occInv` derives from C11 for every
reachable occupancy).

Each in-state yielded costs one event handler of the tagger's pool (`TagActivator._get_event_handlers_to_run_update`:
`self._not_running_event_handlers[tagger].pop()`, `IndexError` -> `TagActivatorError`), so "length of the yield" = "demand".
-/
namespace JF.C09Pools
open JF JF.CellTaggers JF.C10

theorem length_flatMap_le_mul {α β : Type} (f : α → List β) (cap : Nat) :
    ∀ (l : List α), (∀ x ∈ l, (f x).length ≤ cap) → (l.flatMap f).length ≤ l.length * cap
  | [], _ => by simp
  | x :: xs, h => by
    have h1 := h x List.mem_cons_self
    have h2 := length_flatMap_le_mul f cap xs (fun y hy => h y (List.mem_cons_of_mem _ hy))
    simp only [List.flatMap_cons, List.length_append, List.length_cons, Nat.succ_mul]
    omega

theorem length_filter_nonempty_le_flatMap {α β : Type} (f : α → List β) :
    ∀ (l : List α), (l.filter fun x => !(f x).isEmpty).length ≤ (l.flatMap f).length
  | [] => by simp
  | x :: xs => by
    have ih := length_filter_nonempty_le_flatMap f xs
    rw [List.flatMap_cons, List.length_append, List.filter_cons]
    cases hx : f x with
    | nil => simp only [List.isEmpty_nil, Bool.not_true, Bool.false_eq_true, if_false, List.length_nil]; omega
    | cons y ys => simp only [List.isEmpty_cons, Bool.not_false, if_true, List.length_cons]; omega

/-- `CellVetoTagger` / `CellBoundaryTagger`: `for _, active_identifier in yield_active_cells(): yield (active_identifier,)` —
at most ONE in-state, whatever the state -/
theorem cellVeto_demand_le_one (s : Occ) : (cellVetoTagger s).length ≤ 1 := by
  unfold cellVetoTagger; split <;> simp

theorem cellVeto_demand_eq (s : Occ) : (cellVetoTagger s).length = if s.active.isSome then 1 else 0 := by
  unfold cellVetoTagger; split <;> simp_all

theorem excluded_demand_eq (g : Grid) (s : Occ) (ac : Cell) (a : Ident) (h : s.active = some (ac, a)) :
    (excludedCellsTagger g s).length = ((nearby g ac).flatMap s.occ).length := by
  simp only [excludedCellsTagger, h, List.length_flatMap, List.length_map]

/-- **`ExcludedCellsTagger`, every state**: at most (number of nearby cells) × (occupant limit) in-states -/
theorem excluded_demand_le_nearby_cap (g : Grid) (s : Occ) (cap : Nat) (hcap : ∀ c, (s.occ c).length ≤ cap) :
    (excludedCellsTagger g s).length ≤
      (match s.active with | none => 0 | some (ac, _) => (nearby g ac).length * cap) := by
  cases h : s.active with
  | none => simp [excludedCellsTagger, h]
  | some p =>
    obtain ⟨ac, a⟩ := p
    rw [excluded_demand_eq g s ac a h]
    exact length_flatMap_le_mul s.occ cap _ (fun c _ => hcap c)

theorem excluded_demand_eq_targets (g : Grid) (s : Occ) (ac : Cell) (a : Ident) (h : s.active = some (ac, a)) :
    (excludedCellsTagger g s).length = (targetsExcluded g s).length := by
  rw [excluded_demand_eq g s ac a h, targetsExcluded_eq g s ac a h]

/-- exact demand of `SurplusCellsTagger`: one in-state per surplus unit (if there is an active unit) -/
theorem surplus_demand_eq (s : Occ) (ac : Cell) (a : Ident) (h : s.active = some (ac, a)) :
    (surplusCellsTagger s).length = s.yieldSurplus.length := by
  simp [surplusCellsTagger, h]

theorem surplus_demand_eq_targets (s : Occ) (ac : Cell) (a : Ident) (h : s.active = some (ac, a)) :
    (surplusCellsTagger s).length = (targetsSurplus s).length := by
  rw [surplus_demand_eq s ac a h, targetsSurplus_eq s ac a h]

theorem bounding_demand_eq (g : Grid) (s : Occ) (ac : Cell) (a : Ident) (h : s.active = some (ac, a)) :
    (cellBoundingTagger g s).length = ((nonNearby g ac).filter fun c => !(s.occ c).isEmpty).length := by
  simp only [cellBoundingTagger, h, List.length_map, nonNearby, List.filter_filter]

/-- **`CellBoundingPotentialTagger`, every state**: at most one in-state per non-nearby cell -/
theorem bounding_demand_le_nonNearby (g : Grid) (s : Occ) (ac : Cell) (a : Ident) (h : s.active = some (ac, a)) :
    (cellBoundingTagger g s).length ≤ (nonNearby g ac).length := by
  rw [bounding_demand_eq g s ac a h]; exact List.length_filter_le _ _

theorem bounding_demand_le_targets (g : Grid) (s : Occ) (ac : Cell) (a : Ident) (h : s.active = some (ac, a)) :
    (cellBoundingTagger g s).length ≤ (targetsBounding g s).length := by
  rw [bounding_demand_eq g s ac a h, targetsBounding_eq g s ac a h]
  exact length_filter_nonempty_le_flatMap s.occ _

/-- the number of non-nearby cells does not depend on the (valid) active cell: it is the size of the cell-veto walker domain -/
theorem nonNearby_length (g : Grid) (ac : Cell) (hac : Valid g.n ac) : (nonNearby g ac).length = (vetoDomain g).length := by
  rw [← (veto_domain_translate g ac hac).length_eq, List.length_map]

theorem nearby_length (g : Grid) (ac : Cell) (hac : Valid g.n ac) :
    (nearby g ac).length = (allCells g.n).length - (vetoDomain g).length := by
  have := (cells_split g ac hac).length_eq
  rw [List.length_append, nonNearby_length g ac hac] at this
  omega

/-! ### under the occupancy invariant: the three families share the `relevant − 1` other units -/

/-- **cell-bounding variant**: (cell-bounding in-states) + (excluded in-states) + (surplus in-states) ≤ number of relevant units − 1 -/
theorem cell_demands_le_relevant_bounding (g : Grid) (s : Occ) (relevant : List Ident) (ac : Cell) (a : Ident)
    (inv : OccInv g s relevant ac a) :
    (cellBoundingTagger g s).length + (excludedCellsTagger g s).length + (surplusCellsTagger s).length ≤ relevant.length - 1 := by
  have hp := (cell_partition_bounding g s relevant ac a inv).length_eq
  rw [List.length_append, List.length_append, List.length_erase_of_mem inv.active_relevant] at hp
  have h1 := bounding_demand_le_targets g s ac a inv.active
  rw [excluded_demand_eq_targets g s ac a inv.active, surplus_demand_eq_targets s ac a inv.active]
  omega

/-- **cell-veto variant**: (excluded in-states) + (surplus in-states) + (units a cell-veto event can target) = relevant units − 1 -/
theorem cell_demands_eq_relevant_veto (g : Grid) (s : Occ) (relevant : List Ident) (ac : Cell) (a : Ident)
    (inv : OccInv g s relevant ac a) :
    (targetsVeto g s).length + (excludedCellsTagger g s).length + (surplusCellsTagger s).length = relevant.length - 1 := by
  have hp := (cell_partition_veto g s relevant ac a inv).length_eq
  rw [List.length_append, List.length_append, List.length_erase_of_mem inv.active_relevant] at hp
  rw [excluded_demand_eq_targets g s ac a inv.active, surplus_demand_eq_targets s ac a inv.active]
  exact hp

theorem excluded_demand_le_relevant (g : Grid) (s : Occ) (relevant : List Ident) (ac : Cell) (a : Ident)
    (inv : OccInv g s relevant ac a) : (excludedCellsTagger g s).length ≤ relevant.length - 1 := by
  have := cell_demands_eq_relevant_veto g s relevant ac a inv; omega

theorem surplus_demand_le_relevant (g : Grid) (s : Occ) (relevant : List Ident) (ac : Cell) (a : Ident)
    (inv : OccInv g s relevant ac a) : (surplusCellsTagger s).length ≤ relevant.length - 1 := by
  have := cell_demands_eq_relevant_veto g s relevant ac a inv; omega

theorem bounding_demand_le_relevant (g : Grid) (s : Occ) (relevant : List Ident) (ac : Cell) (a : Ident)
    (inv : OccInv g s relevant ac a) : (cellBoundingTagger g s).length ≤ relevant.length - 1 := by
  have := cell_demands_le_relevant_bounding g s relevant ac a inv; omega

/-- `_maximum_number_occupants` as a natural number: `none` = not bounded (`≤ 0` in the `.ini`) -/
def capNat (cap : Int) : Option Nat := if cap ≤ 0 then none else some cap.toNat

/-- bound on the demand of an `ExcludedCellsTagger`: min (nearby cells × occupant limit, relevant units − 1) -/
def excludedBound (g : Grid) (cap : Int) (nRel : Nat) : Nat :=
  match capNat cap with
  | none => nRel - 1
  | some k => min (((allCells g.n).length - (vetoDomain g).length) * k) (nRel - 1)

theorem excludedBound_le (g : Grid) (cap : Int) (nRel : Nat) : excludedBound g cap nRel ≤ nRel - 1 := by
  unfold excludedBound
  split
  · exact Nat.le_refl _
  · exact Nat.min_le_right _ _

/-- bound on the demand of a `CellBoundingPotentialTagger`: min (non-nearby cells, relevant units − 1) -/
def boundingBound (g : Grid) (nRel : Nat) : Nat := min (vetoDomain g).length (nRel - 1)

def surplusBound (nRel : Nat) : Nat := nRel - 1

theorem excluded_demand_le_bound (g : Grid) (s : Occ) (relevant : List Ident) (ac : Cell) (a : Ident)
    (inv : OccInv g s relevant ac a) (cap : Int) (hcap : 0 < cap → ∀ c, ((s.occ c).length : Int) ≤ cap) :
    (excludedCellsTagger g s).length ≤ excludedBound g cap relevant.length := by
  have h1 := excluded_demand_le_relevant g s relevant ac a inv
  unfold excludedBound capNat
  by_cases hc : cap ≤ 0
  · simp only [hc, if_true]
    exact h1
  · simp only [hc, if_false]
    have h2 := excluded_demand_le_nearby_cap g s cap.toNat (fun c => by have := hcap (by omega) c; omega)
    rw [inv.active] at h2
    rw [← nearby_length g ac inv.cell_valid]
    exact Nat.le_min.mpr ⟨h2, h1⟩

theorem bounding_demand_le_bound (g : Grid) (s : Occ) (relevant : List Ident) (ac : Cell) (a : Ident)
    (inv : OccInv g s relevant ac a) : (cellBoundingTagger g s).length ≤ boundingBound g relevant.length := by
  refine Nat.le_min.mpr ⟨?_, bounding_demand_le_relevant g s relevant ac a inv⟩
  rw [← nonNearby_length g ac inv.cell_valid]
  exact bounding_demand_le_nonNearby g s ac a inv.active

/-- no active unit recorded: no cell tagger demands anything -/
theorem no_active_no_demand (g : Grid) (s : Occ) (h : s.active = none) :
    (cellVetoTagger s).length = 0 ∧ (cellBoundingTagger g s).length = 0 ∧ (excludedCellsTagger g s).length = 0 ∧
    (surplusCellsTagger s).length = 0 := by
  simp [cellVetoTagger, cellBoundingTagger, excludedCellsTagger, surplusCellsTagger, h]

end JF.C09Pools
