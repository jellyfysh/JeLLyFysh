import JF.Lemmas.SystemRunKin
import JF.Props.C11
/-!
The geometry that the cell-boundary handler and the occupancy share, as far as the system invariant needs it.

`Geo env` is the interface: the time to the boundary that the handler computes from position and velocity of the active unit
(`ttb`), the velocities that occur (`velOK`), and the two facts the joint induction uses: that time is positive
(`JF.C11.boundary_pos`, first clause), and strictly before it the time-sliced position is still in the cell of the start position
(`JF.C11.stays_in_cell_pos`). `axisGeoPos` is the instance for a cuboid box with one `JF.C11.Grid` per direction (at least two
cells per direction) and motion along one axis in the POSITIVE direction (coulomb_atoms: `InitialChainStartOfRunEventHandler` and
the periodic-direction end-of-chain handler give velocities `speed · e_d`, `speed > 0`): its `ttb` is `JF.Occ.timeToBoundary` in
the direction of motion with the lower edge of the upper neighbour cell, as `CellBoundaryEventHandler.send_event_time` computes it.
-/
namespace JF.Sys
open JF JF.Kin JF.C14 JF.CW JF.C11 JF.Occ

structure Geo (env : Env ℚ) where
  /-- `current_smallest_time_to_boundary` of `CellBoundaryEventHandler.send_event_time` -/
  ttb : List ℚ → List ℚ → ℚ
  /-- the velocities of active units -/
  velOK : List ℚ → Prop
  posBox : PosBox env.L
  vlen : ∀ v, velOK v → v.length = env.L.length
  pos : ∀ p v, InBox env.L p → velOK v → 0 < ttb p v
  stays : ∀ p v τ, InBox env.L p → velOK v → 0 ≤ τ → τ < ttb p v →
    env.cellOf (sliceVec Ops.rat env.L p v τ) = env.cellOf p

theorem idx_spec (g : Grid) {x : ℚ} (h0 : 0 ≤ x) (h1 : x < g.L) :
    ∃ i : ℕ, i < g.n ∧ g.idx x = (i : ℤ) ∧ g.cmin i ≤ x ∧ x < g.cmin (i + 1) := by
  obtain ⟨hk0, hkn⟩ := Cells.cellDigit_rat_bounds (p := x) g.hside (by exact_mod_cast g.hn : (1 : ℤ) ≤ g.n) h0
  obtain ⟨hlo, hhi⟩ := (Cells.cellDigit_rat_iff g.hside h0 (by exact_mod_cast h1)).mpr (Grid.idx_eq_cellDigit g x)
  rw [← Grid.idx_eq_cellDigit] at hk0 hkn
  obtain ⟨i, hi⟩ := Int.eq_ofNat_of_zero_le hk0
  rw [hi] at hkn hlo hhi
  exact ⟨i, by exact_mod_cast hkn, hi, by simpa [Grid.cmin] using hlo, by simpa [Grid.cmin] using hhi⟩

theorem cmin_pos (g : Grid) {i : ℕ} (h : 0 < i) : 0 < g.cmin i :=
  mul_pos (by exact_mod_cast h) g.hside

/-- `send_event_time` in the direction of motion, positive velocity component: cell of the coordinate, lower edge of the upper
neighbour, `JF.Occ.timeToBoundary` -/
def ttb1 (g : Grid) (x v : ℚ) : ℚ :=
  (timeToBoundary Ops.rat g.L x v (g.cmin (((g.idx x).toNat + 1) % g.n)) 0).1

theorem ttb1_pos (g : Grid) (hn2 : 2 ≤ g.n) {x v : ℚ} (h0 : 0 ≤ x) (h1 : x < g.L) (hv : 0 < v) : 0 < ttb1 g x v := by
  obtain ⟨i, hi, hidx, hx0, hx1⟩ := idx_spec g h0 h1
  have := (boundary_pos g i hi x v 0 hx0 hx1 hv fun _ => (cmin_pos g (by omega)).trans_le hx0).1
  unfold ttb1; rw [hidx]; simpa using this

theorem ttb1_stays (g : Grid) (hn2 : 2 ≤ g.n) {x v τ : ℚ} (h0 : 0 ≤ x) (h1 : x < g.L) (hv : 0 < v) (hτ0 : 0 ≤ τ)
    (hτ : τ < ttb1 g x v) : g.idx (sliceCoord Ops.rat g.L x v τ) = g.idx x := by
  obtain ⟨i, hi, hidx, hx0, hx1⟩ := idx_spec g h0 h1
  unfold ttb1 at hτ; rw [hidx] at hτ
  simp only [Int.toNat_natCast] at hτ
  rw [hidx]
  exact stays_in_cell_pos g i hi x v 0 hx0 hx1 hv (fun _ => (cmin_pos g (by omega)).trans_le hx0) τ hτ0 hτ

theorem sliceCoord_rest (L p τ : ℚ) (hL : 0 < L) (h0 : 0 ≤ p) (h1 : p < L) : sliceCoord Ops.rat L p 0 τ = p := by
  have := sliceCoord_zero L p 0 hL h0 h1
  unfold sliceCoord at this ⊢
  simpa using this

/-- a cuboid box with one grid per direction; `position_to_cell` depends on a position only through its cell index in every
direction -/
structure AxisBox (env : Env ℚ) where
  grids : List Grid
  hn2 : ∀ g ∈ grids, 2 ≤ g.n
  hL : env.L = grids.map (·.L)
  hcell : ∀ p q, InBox env.L p → InBox env.L q →
    (∀ d (hg : d < grids.length) (hp : d < p.length) (hq : d < q.length), grids[d].idx p[d] = grids[d].idx q[d]) →
    env.cellOf p = env.cellOf q

def AxisVelPos (D : Nat) (v : List ℚ) : Prop :=
  v.length = D ∧ ∃ d, ∃ hd : d < v.length, 0 < v[d] ∧ ∀ d' (hd' : d' < v.length), d' ≠ d → v[d'] = 0

/-- the direction of motion: the first non-zero velocity component -/
def dirOf (v : List ℚ) : Nat := v.findIdx (fun x => decide (x ≠ 0))

theorem dirOf_eq {D : Nat} {v : List ℚ} {d : Nat} (hd : d < v.length) (hpos : 0 < v[d])
    (hz : ∀ d' (hd' : d' < v.length), d' ≠ d → v[d'] = 0) (_ : v.length = D) : dirOf v = d := by
  unfold dirOf
  rw [List.findIdx_eq hd]
  refine ⟨by simpa using ne_of_gt hpos, ?_⟩
  intro j hj
  have := hz j (by omega) (by omega)
  simp [this]

/-- `send_event_time` for motion along one axis -/
def axisTtb (grids : List Grid) (p v : List ℚ) : ℚ :=
  match grids[dirOf v]?, p[dirOf v]?, v[dirOf v]? with
  | some g, some x, some w => ttb1 g x w
  | _, _, _ => 0

/-- **the geometry of an axis-aligned box, positive direction of motion** -/
def axisGeoPos {env : Env ℚ} (B : AxisBox env) : Geo env where
  ttb := axisTtb B.grids
  velOK := AxisVelPos env.L.length
  posBox := by
    intro l hl
    rw [B.hL] at hl
    obtain ⟨g, _, rfl⟩ := List.mem_map.mp hl
    have : (0 : ℚ) < g.n := by exact_mod_cast g.hn
    simp only [Grid.L]; exact mul_pos this g.hside
  vlen := fun v h => h.1
  pos := by
    intro p v hp hv
    obtain ⟨hvl, d, hd, hpos, hz⟩ := hv
    have hdir := dirOf_eq hd hpos hz hvl
    have hLl : env.L.length = B.grids.length := by rw [B.hL]; simp
    obtain ⟨hpl, hpb⟩ := (inBox_iff _ _).mp hp
    have hdg : d < B.grids.length := by omega
    have hdp : d < p.length := by omega
    have hdL : d < env.L.length := by omega
    unfold axisTtb
    rw [hdir, List.getElem?_eq_getElem hdg, List.getElem?_eq_getElem hdp, List.getElem?_eq_getElem hd]
    simp only
    have hLd : env.L[d] = (B.grids[d]).L := by simp [B.hL]
    obtain ⟨b0, b1⟩ := hpb d hdL hdp
    exact ttb1_pos _ (B.hn2 _ (List.getElem_mem hdg)) b0 (hLd ▸ b1) hpos
  stays := by
    intro p v τ hp hv hτ0 hτ
    have hpB : PosBox env.L := by
      intro l hl
      rw [B.hL] at hl
      obtain ⟨g, _, rfl⟩ := List.mem_map.mp hl
      have : (0 : ℚ) < g.n := by exact_mod_cast g.hn
      simp only [Grid.L]; exact mul_pos this g.hside
    obtain ⟨hvl, d, hd, hpos, hz⟩ := hv
    have hdir := dirOf_eq hd hpos hz hvl
    have hLl : env.L.length = B.grids.length := by rw [B.hL]; simp
    obtain ⟨hpl, hpb⟩ := (inBox_iff _ _).mp hp
    have hsb := sliceVec_inBox env.L p v τ hpB hpl hvl
    refine B.hcell _ _ hsb hp ?_
    intro j hjg hjs hjp
    have hjL : j < env.L.length := by omega
    have hjv : j < v.length := by omega
    rw [getElem_sliceVec τ hjs hjL hjp hjv]
    have hLj : env.L[j] = (B.grids[j]).L := by simp [B.hL]
    obtain ⟨b0, b1⟩ := hpb j hjL hjp
    by_cases hjd : j = d
    · subst hjd
      unfold axisTtb at hτ
      rw [hdir, List.getElem?_eq_getElem hjg, List.getElem?_eq_getElem hjp, List.getElem?_eq_getElem hjv] at hτ
      simp only at hτ
      rw [hLj]
      exact ttb1_stays _ (B.hn2 _ (List.getElem_mem hjg)) b0 (hLj ▸ b1) hpos hτ0 hτ
    · rw [hz j hjv hjd, sliceCoord_rest _ _ _ (hpB _ (List.getElem_mem hjL)) b0 b1]

end JF.Sys
