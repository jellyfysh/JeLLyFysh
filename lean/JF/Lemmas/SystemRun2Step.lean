import JF.Model.SystemRun2
import JF.Lemmas.SystemRun2Motion
import JF.Lemmas.SystemRunMed
import JF.Props.Footprints2
/-!
The composed system for the concrete world of composite objects without cells: its runs, the joint invariant `Big2`, and the
pieces of the induction step.  The theorems about it are in `JF/Props/SystemInv2.lean`.

One leg (`SysStep2`) = one pass through the body of `SingleProcessMediator.run`, i.e. `JF.Med.leg` (spec-level scheduler over
`XTime`) on the concrete global state of `JF.CW2` (`List (CObj ℚ)`, no ghost mode):
* the taggers yield on the current global state: `o.yields T = yieldCls env T (class of T) s.cs` — computed, not oracle values;
* the candidate times are normalised finite times or `inf`, not before the last commit (`CandsOK2`); nothing else is assumed
  about them;
* the committed handler's event moves the global state by `Composite.step` of an event of a kind that the handler class of the
  committing tagger commits (`kindsOf`, `JF/Model/ModeWiring.lean`) in the mode read off the activation flags when its candidate
  time was requested (`Sys2.cmode`, a function of the activator states of the run: `cmodeNext`), at the committed time, under
  C12's weak admissibility `AdmW`; the start-of-run event gives the velocity to the point masses `initial_active_identifier` names
  (`StartMode … mw.startMode`).  So the premise `hkind` of `RunK.step` (`JF/Props/ModeDiscipline.lean`) holds by the definition
  of the step relation.
-/
namespace JF.Sys2
open JF JF.Act JF.Sched JF.Med JF.CW2 JF.C14 JF.Sys JF.C12
open JF.Composite hiding pendOf
open JF.Heap hiding Inv
open JF.MediatorLoop hiding Run

theorem flagsOf_eq (s : Act) : flagsOf s = absOf s := rfl
theorem modeAt_eq (mw : ModeWiring) (s : Act) : modeAt mw s = mw.mode (absOf s) := rfl

section defs
variable (env : Env ℚ) (mw : ModeWiring) (S : TaggerIdx) (needs : HandlerId → Bool)

/-- side conditions of a committed event: C12's weak admissibility (`JF.C12.AdmW`: only what the caller chooses and the code checks
by indexing), and for the start-of-run event the start mode: the leaves that start are one point mass / all point masses of the
object, as the handler class `start _` of the start-of-run tagger (read from `initial_active_identifier` by the translator) says -/
def EvAdm2 (cs : List (CObj ℚ)) (e : Composite.Ev ℚ) : Prop :=
  AdmW env.d env.L cs e ∧ ∀ i P v, e = .start i P v → StartMode cs i P (ofW mw.startMode)

/-- the commit of an event of a handler of tagger `E` whose candidate time was requested in mode `cmE`, at time `t` -/
def Commits2 (E : TaggerIdx) (cmE : WMode) (t : Time ℚ) (cs cs' : List (CObj ℚ)) : Prop :=
  ∃ e : Composite.Ev ℚ, evKind e ∈ kindsOf (mw.hmode E) cmE ∧ evTime Ops.rat e = t ∧ EvAdm2 env mw cs e ∧
    cs' = step Ops.rat isZ env.L cs e

/-- what `send_event_time` of the handlers handed out in this leg returns: a normalised finite time or `inf`, not before the
last commit -/
def CandsOK2 (last : XTime) (o : Oracle XTime) (created : List (HandlerId × IdTuple)) : Prop :=
  ∀ q ∈ created, NormX (o.cand q.1) ∧ xcfg.lt (o.cand q.1) last = false

structure SysStep2 (s : Sys2) (o : Oracle XTime) (cm : Committed XTime) (s' : Sys2) : Prop where
  yields : o.yields = fun T => yieldCls env T (mw.w.tagger T).cls s.cs
  leg : leg (mwire mw.w S needs) (specI xcfg) s.med o = .ok (s'.med, cm)
  cands : CandsOK2 s.med.sched.last o cm.created
  ev : ∃ t E', cm.time = .fin t ∧ owner mw.w.wires cm.handler = some E' ∧ Commits2 env mw E' (s'.cmode E') t s.cs s'.cs
  ids' : s'.ids = assign s.ids cm.created
  prev : s'.csPrev = s.cs
  mid' : s'.mid = midAct (mwire mw.w S needs) s.med o
  cmode' : s'.cmode = cmodeNext mw s.med.preceding s.cmode s'.mid

/-- the state before the first leg: every composite object is consistent with its point masses (C12's `AllGood`, e.g. the random
node creators: `JF.C12.dipole_initial_good`), has `number_of_nodes_per_root_node` point masses, and nothing moves -/
structure Init2 (s : Sys2) : Prop where
  med : s.med = MedState.init (specI xcfg) mw.w.wires
  good : AllGood env.d env.L s.cs
  unif : Uniform env.nPer s.cs
  rest : AllRest s.cs
  prev : s.csPrev = s.cs
  cmode : s.cmode = fun _ => mw.startMode

inductive Reach2 : List (Oracle XTime) → List (Committed XTime) → Sys2 → Prop
  | init (s : Sys2) (h : Init2 env mw s) : Reach2 [] [] s
  | step {os : List (Oracle XTime)} {cs : List (Committed XTime)} {s s' : Sys2} {o : Oracle XTime} {cm : Committed XTime}
      (prev : Reach2 os cs s) (hgo : ∀ cl, cs.getLast? = some cl → cl.stop = false)
      (hstep : SysStep2 env mw S needs s o cm s') : Reach2 (os ++ [o]) (cs ++ [cm]) s'

structure Hyp2 : Prop where
  hL : BoxOK env.d env.L
  sound : WiringSound mw.w = true
  hS : mw.w.start? = some S
  sup : Supported2 mw = true
  ms : ModeSound mw = true

/-- the joint invariant at the boundary after the leg that committed `cl` (the last element of `cs`): `E` = tagger of the
committed handler, `tl` = committed time, `sq` = squared speed of the chain. -/
structure Big2 (cs : List (Committed XTime)) (cl : Committed XTime) (s : Sys2) (E : TaggerIdx) (tl : Time ℚ) (sq : ℚ) : Prop where
  /-- the scheduler holds exactly the pending events, a handler has one iff it is running -/
  med : MInv (I := specI xcfg) (mwire mw.w S needs) (SRel xcfg) s.med (pendOf (fun _ => none) cs) cl.time
  started : s.med.act.started = true
  prec : s.med.preceding = some cl.handler
  owner : owner mw.w.wires cl.handler = some E
  stopEq : cl.stop = (mwire mw.w S needs).endOfRun cl.handler
  /-- the activator after the trash of the last leg, in terms of its lists in the middle of that leg -/
  trashEq : s.med.act.ts = (trash mw.w.wires s.mid E).1
  running : cl.handler ∈ (getT s.mid E).running
  time : cl.time = .fin tl
  tnorm : Normalised tl
  norm : ∀ h t, pendOf (fun _ => none) cs h = some t → NormX t
  /-- C09 and the mode discipline, via the run `RunK` of the activator-level machine up to the middle of the last leg (it carries
  `Fresh` for every live tagger — `JF.Act.run_inv` — and `modeStep_of_modeSound`), on the concrete state of that moment with the
  mode of the activation flags as its mode component -/
  phase : ∃ hi : Inv env ⟨s.csPrev, ofW (mw.mode (absOf s.mid))⟩,
    (cs.length = 1 ∧ E = S ∧ AllRest s.csPrev ∧ s.cmode = (fun _ => mw.startMode) ∧ ∃ ids0 out,
        first mw.w.wires (initAct mw.w.wires) S (fun T => (world2 env mw).yieldOf T ⟨_, hi⟩) = some (s.mid, out) ∧
        s.ids = assign ids0 out)
    ∨ ∃ h, RunK mw (world2 env mw) (Tr2 env mw) S h s.cmode ⟨s.mid, s.ids, ⟨_, hi⟩⟩
  /-- C08 (via the run of C08's machine `Reach8` up to the middle of the last leg, with the concrete motion relation `motion2`) -/
  cur : ∃ (hi : Inv env ⟨s.csPrev, ofW (mw.mode (absOf s.mid))⟩) (born : HandlerId → G env),
    C08.Reach8 mw.w.wires (world2 env mw) (motion2 env mw) S ⟨⟨s.mid, s.ids, ⟨_, hi⟩⟩, born⟩
  /-- how the global state came from the one the last leg's candidates were computed on -/
  commit : Commits2 env mw E (s.cmode E) tl s.csPrev s.cs
  /-- C12 for the state after the commit -/
  good : AllGood env.d env.L s.cs
  unif : Uniform env.nPer s.cs
  /-- C07's one-chain clause for the state after the commit, in the mode the activation flags will show in the middle of the next leg -/
  chain : ∃ m, OneChainM s.cs sq m ∧ (cl.stop = false → m = ofW (mw.mode (aStep mw.w (absOf s.mid) E)))

end defs

open JF.SysLeg

theorem supported2_hmOK {mw : ModeWiring} (hs : Supported2 mw = true) {E : TaggerIdx} (hE : E < mw.w.n) :
    hmOK (mw.hmode E) = true := by
  unfold Supported2 at hs
  simp only [Bool.and_eq_true] at hs
  have := List.all_eq_true.mp hs.2 E (List.mem_range.mpr hE)
  simp only [Bool.and_eq_true] at this
  exact this.1

/-- a tagger whose commits do not change any unit's motion according to the table has, in this world, a handler class that commits
only `keep` -/
theorem keep_of_not_moves {mw : ModeWiring} (hs : Supported2 mw = true) {E : TaggerIdx}
    (ha : affects (mw.w.tagger E) .motion = false) {k : EvKind} {cm : WMode} (hk : k ∈ kindsOf (mw.hmode E) cm) : k = .keep := by
  -- `keep` or `snap` by the table (`.motion` and `.ident` have the same column) …
  have hq := quiet_of_ident_false hs (show affects (mw.w.tagger E) .ident = false from ha) hk
  have hks : k = .keep ∨ k = .snap := by revert hq; cases k <;> simp [quietKind]
  rcases hks with rfl | rfl
  · rfl
  -- … and `snap` is committed by the class `cellBoundary` only, which is not a class of this world
  · exfalso
    by_cases hE : E < mw.w.n
    · have hok := supported2_hmOK hs hE
      cases hm : mw.hmode E with
      | cellBoundary => rw [hm] at hok; cases hok
      | unknown => rw [hm] at hok; cases hok
      | switcher b => rw [hm] at hk; cases b <;> simp [kindsOf] at hk
      | endOfChain => rw [hm] at hk; cases cm <;> simp [kindsOf] at hk
      | _ => rw [hm] at hk; simp [kindsOf] at hk
    · have : mw.w.taggers.length ≤ E := Nat.le_of_not_lt hE
      simp [affects, Wiring.tagger, List.getElem?_eq_none this] at ha

theorem mode_startState {mw : ModeWiring} {S : TaggerIdx} (hms : ModeSound mw = true) (hS : mw.w.start? = some S) :
    mw.mode (startState mw.w S) = mw.startMode := by
  obtain ⟨m₀, hsm, _, hstart, _⟩ := modeFacts_of_modeSound hms hS
  unfold ModeWiring.mode
  rw [hsm, hstart]

theorem start_hmode {mw : ModeWiring} {S : TaggerIdx} (hms : ModeSound mw = true) (hS : mw.w.start? = some S) :
    ∃ b, mw.hmode S = .start b := by
  unfold ModeSound at hms
  rw [hS] at hms
  simp only [] at hms
  cases hm : mw.hmode S <;> rw [hm] at hms <;> simp [startModeOf] at hms
  exact ⟨_, rfl⟩

theorem evKind_keep {e : Composite.Ev ℚ} (h : evKind e = .keep) : ∃ t S, e = .keep t S := by
  cases e <;> simp [evKind] at h
  exact ⟨_, _, rfl⟩

section step
variable {env : Env ℚ} {mw : ModeWiring} {S : TaggerIdx} {needs : HandlerId → Bool}

theorem hyp2_static (H : Hyp2 env mw S) : Med.Static (mwire mw.w S needs) :=
  static_of_wiringSound mw.w S needs H.sound H.hS

theorem hyp2_fps (H : Hyp2 env mw S) : FootprintsSound mw.w (world2 env mw) (Tr2 env mw) :=
  Footprints2.footprintsSound_concrete2 env H.hL mw H.sup

/-- The mode premise of `Tr2`, derived: in a state of a run `RunK`, an event of a kind that the handler class of a tagger `E`
with a pending handler commits — in the mode at the request of its candidate time — is possible in the mode read off the
activation flags of the state, and leads to the mode read off the flags after the commit (`aStep`). -/
theorem mode_step_of_run (H : Hyp2 env mw S) {h : List (TaggerIdx × EvKind)} {cm : TaggerIdx → WMode} {rs : RS (G env)}
    (r : RunK mw (world2 env mw) (Tr2 env mw) S h cm rs) {E : TaggerIdx} (hpend : (getT rs.act E).running ≠ [])
    (hend : (mw.w.tagger E).kind ≠ .endOfRun) {e : Composite.Ev ℚ} (hk : evKind e ∈ kindsOf (mw.hmode E) (cm E)) :
    modeStep (ofW (mw.mode (absOf rs.act))) e = some (ofW (mw.mode (aStep mw.w (absOf rs.act) E))) := by
  have minv := modeStep_of_modeSound mw (world2 env mw) (Tr2 env mw) S H.ms H.sound H.hS (hyp2_fps H) (liveIs2 env mw) r
  have ri := run_inv mw.w (world2 env mw) (Tr2 env mw) S H.sound H.hS (hyp2_fps H) (liveIs2 env mw) r.toRun
  rw [modeStep_eq_kStep, toW_ofW, ← Footprints2.evKind_eq_kindOf, minv.kStep_next ri H.ms H.hS (liveIs2 env mw) hpend hend hk]
  rfl

theorem cmodeNext_some {mw : ModeWiring} {h : HandlerId} {E : TaggerIdx} (ho : owner mw.w.wires h = some E)
    (cm : TaggerIdx → WMode) (mid' : Act) :
    cmodeNext mw (some h) cm mid' = fun T => if T ∈ (mw.w.tagger E).creates then mw.mode (absOf mid') else cm T := by
  unfold cmodeNext
  simp only [Option.bind_some, ho]
  rfl

variable {cs : List (Committed XTime)} {cl : Committed XTime} {s : Sys2} {E : TaggerIdx} {tl : Time ℚ} {sq : ℚ}

theorem Big2.medBig (big : Big2 env mw S needs cs cl s E tl sq) : MedBig mw.w S needs cs cl s.med s.mid E tl :=
  { big with }

/-- the activator-level machine `RunK` makes the step that this leg's `get_event_handlers_to_run` is -/
theorem mid_run2 (H : Hyp2 env mw S) (big : Big2 env mw S needs cs cl s E tl sq) (hgo : cl.stop = false)
    {o : Oracle XTime} {cm : Committed XTime} {s' : Sys2} (st : SysStep2 env mw S needs s o cm s')
    (hupd : update mw.w.wires s.med.act.ts E o.yields = some (s'.mid, cm.created)) :
    OneChainM s.cs sq (ofW (mw.mode (absOf s'.mid))) ∧
    ∃ (hi' : Inv env ⟨s.cs, ofW (mw.mode (absOf s'.mid))⟩) (h : List (TaggerIdx × EvKind)),
      RunK mw (world2 env mw) (Tr2 env mw) S h s'.cmode ⟨s'.mid, s'.ids, ⟨_, hi'⟩⟩ := by
  have hupd' := hupd
  rw [big.trashEq] at hupd'
  have habs : absOf s'.mid = aStep mw.w (absOf s.mid) E := absOf_update mw.w hupd'
  obtain ⟨m, hch, hm⟩ := big.chain
  have hme := hm hgo
  subst hme
  rw [← habs] at hch
  have hi' : Inv env ⟨s.cs, ofW (mw.mode (absOf s'.mid))⟩ := ⟨big.good, big.unif, Or.inr ⟨sq, hch⟩⟩
  refine ⟨hch, hi', ?_⟩
  have hy : (fun T => (world2 env mw).yieldOf T ⟨_, hi'⟩) = o.yields := by rw [st.yields]; rfl
  have hcommit : ∀ (ids : HandlerId → IdTuple) (g : G env),
      commit mw.w.wires (world2 env mw) ⟨s.mid, ids, g⟩ E ⟨_, hi'⟩ = some ⟨s'.mid, assign ids cm.created, ⟨_, hi'⟩⟩ := by
    intro ids g
    unfold commit
    simp only [hy]
    rw [← big.trashEq, hupd]
  have hcm : s'.cmode = fun T => if T ∈ (mw.w.tagger E).creates then mw.mode (absOf s'.mid) else s.cmode T := by
    rw [st.cmode', big.prec, cmodeNext_some big.owner]
  obtain ⟨hi, hph⟩ := big.phase
  rcases hph with ⟨_, hES, _, hcm0, ids0, out, hfirst, hids⟩ | ⟨h, hrunp⟩
  · subst hES
    have hc := hcommit (assign ids0 out) ⟨_, hi⟩
    rw [← hids, ← st.ids'] at hc
    rw [hids] at hc
    have r := RunK.start (mw := mw) (Tr := Tr2 env mw) ids0 ⟨_, hi⟩ ⟨_, hi'⟩ s.mid out _ hfirst hc
    have hst : mw.mode (absOf s'.mid) = mw.startMode := by
      rw [habs, absOf_of_first hfirst]; exact mode_startState H.ms H.hS
    have hcme : s'.cmode = fun _ => mw.mode (absOf s'.mid) := by
      rw [hcm, hcm0]
      funext T
      split
      · rfl
      · exact hst.symm
    rw [hcme]
    exact ⟨[], r⟩
  · have hpend : (getT s.mid E).running ≠ [] := List.ne_nil_of_mem big.running
    have hend := not_endOfRun_of_go big.owner big.stopEq hgo
    obtain ⟨e, hk, _, ⟨ha, _⟩, hcs⟩ := big.commit
    have hms := mode_step_of_run H hrunp hpend hend hk
    have htr : Tr2 env mw E ⟨_, hi⟩ ⟨_, hi'⟩ := by
      refine ⟨e, s.cmode E, hk, ?_, ha, hcs⟩
      show modeStep (ofW (mw.mode (absOf s.mid))) e = some (ofW (mw.mode (absOf s'.mid)))
      rw [habs]; exact hms
    have hc := hcommit s.ids ⟨_, hi⟩
    rw [← st.ids'] at hc
    have r := RunK.step (mw := mw) (W := world2 env mw) (Tr := Tr2 env mw) (S := S) h s.cmode ⟨s.mid, s.ids, ⟨_, hi⟩⟩
      ⟨s'.mid, s'.ids, ⟨_, hi'⟩⟩ E ⟨_, hi'⟩ (evKind e) hrunp hpend hend htr hc hk
    rw [hcm]
    exact ⟨_, r⟩

/-- C08's machine `Reach8` makes the same step; its hypothesis `quiet` holds by the composite machine: a `keep` leaves every unit on
its trajectory (`same_sliceAt`) -/
theorem mid_cur2 (H : Hyp2 env mw S) (big : Big2 env mw S needs cs cl s E tl sq) (hgo : cl.stop = false)
    {o : Oracle XTime} {cm : Committed XTime} {s' : Sys2} (st : SysStep2 env mw S needs s o cm s')
    (hupd : update mw.w.wires s.med.act.ts E o.yields = some (s'.mid, cm.created))
    (hi' : Inv env ⟨s.cs, ofW (mw.mode (absOf s'.mid))⟩) :
    ∃ born' : HandlerId → G env,
      C08.Reach8 mw.w.wires (world2 env mw) (motion2 env mw) S ⟨⟨s'.mid, s'.ids, ⟨_, hi'⟩⟩, born'⟩ := by
  obtain ⟨hi, born, hr8⟩ := big.cur
  obtain ⟨_, hph⟩ := big.phase
  rw [st.ids']
  refine big.medBig.cur_next H.sound H.hS (hyp2_fps H) (liveIs2 env mw) (Mo := motion2 env mw) (fun _ h => h) (fun _ h => h) hgo
    (hph.imp (fun h => ⟨h.2.1, h.2.2.2.2⟩) fun ⟨_, r⟩ => r.toRun) hr8 (by rw [st.yields]; rfl) hupd fun hnm u => ?_
  obtain ⟨e, hk, _, _, hcs⟩ := big.commit
  obtain ⟨t, S0, rfl⟩ := evKind_keep (keep_of_not_moves H.sup (Bool.eq_false_iff.mpr hnm) hk)
  show SameMotion2 env.d env.L s.csPrev s.cs u
  rw [hcs]
  exact same_sliceAt H.hL t S0 hi.1 u

end step

end JF.Sys2
