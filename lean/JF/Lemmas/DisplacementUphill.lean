import Mathlib.Topology.EMetricSpace.BoundedVariation
/-!
# Accumulated energy increase ("uphill energy") along a path

`uphill f a b` is the *positive variation* of `f` on `[a, b]`, defined without integrals through the
Jordan decomposition: half of (total variation + net change).  For a piecewise monotone `f` it is the
sum of the increments over the increasing pieces — lemmas `uphill_mono`, `uphill_anti`, `uphill_add`.
-/
namespace JF.Uphill
open Set

/-- accumulated increase of `f` over `[a, b]` (positive variation) -/
noncomputable def uphill (f : ℝ → ℝ) (a b : ℝ) : ℝ :=
  ((eVariationOn f (Icc a b)).toReal + (f b - f a)) / 2

variable {f : ℝ → ℝ} {a b c : ℝ}

theorem tv_mono (hf : MonotoneOn f (Icc a b)) (hab : a ≤ b) :
    eVariationOn f (Icc a b) = ENNReal.ofReal (f b - f a) := by
  have h := hf.eVariationOn_eq (a := a) (b := b) (left_mem_Icc.2 hab) (right_mem_Icc.2 hab)
  rwa [inter_self] at h

theorem tv_neg (f : ℝ → ℝ) (s : Set ℝ) : eVariationOn (fun x => -f x) s = eVariationOn f s := by
  have h : ∀ x y : ℝ, edist (-x) (-y) = edist x y := by
    intro x y; rw [edist_dist, edist_dist, Real.dist_eq, Real.dist_eq, neg_sub_neg, abs_sub_comm]
  simp only [eVariationOn, h]

theorem tv_anti (hf : AntitoneOn f (Icc a b)) (hab : a ≤ b) :
    eVariationOn f (Icc a b) = ENNReal.ofReal (f a - f b) := by
  rw [← tv_neg f, tv_mono (f := fun x => -f x) (fun x hx y hy hxy => neg_le_neg (hf hx hy hxy)) hab]
  congr 1; ring

theorem bv_mono (hf : MonotoneOn f (Icc a b)) (hab : a ≤ b) : BoundedVariationOn f (Icc a b) := by
  unfold BoundedVariationOn; rw [tv_mono hf hab]; exact ENNReal.ofReal_ne_top

theorem bv_anti (hf : AntitoneOn f (Icc a b)) (hab : a ≤ b) : BoundedVariationOn f (Icc a b) := by
  unfold BoundedVariationOn; rw [tv_anti hf hab]; exact ENNReal.ofReal_ne_top

theorem uphill_mono (hf : MonotoneOn f (Icc a b)) (hab : a ≤ b) : uphill f a b = f b - f a := by
  have h : 0 ≤ f b - f a := sub_nonneg.2 (hf (left_mem_Icc.2 hab) (right_mem_Icc.2 hab) hab)
  rw [uphill, tv_mono hf hab, ENNReal.toReal_ofReal h]; ring

theorem uphill_anti (hf : AntitoneOn f (Icc a b)) (hab : a ≤ b) : uphill f a b = 0 := by
  have h : 0 ≤ f a - f b := sub_nonneg.2 (hf (left_mem_Icc.2 hab) (right_mem_Icc.2 hab) hab)
  rw [uphill, tv_anti hf hab, ENNReal.toReal_ofReal h]; ring

theorem uphill_add (hab : a ≤ b) (hbc : b ≤ c) (h1 : BoundedVariationOn f (Icc a b))
    (h2 : BoundedVariationOn f (Icc b c)) : uphill f a c = uphill f a b + uphill f b c := by
  have h := eVariationOn.Icc_add_Icc f (s := univ) hab hbc (mem_univ b)
  simp only [univ_inter] at h
  rw [uphill, uphill, uphill, ← h, ENNReal.toReal_add h1 h2]; ring

theorem bv_add (hab : a ≤ b) (hbc : b ≤ c) (h1 : BoundedVariationOn f (Icc a b))
    (h2 : BoundedVariationOn f (Icc b c)) : BoundedVariationOn f (Icc a c) := by
  have h := eVariationOn.Icc_add_Icc f (s := univ) hab hbc (mem_univ b)
  simp only [univ_inter] at h
  unfold BoundedVariationOn at *
  rw [← h]; exact ENNReal.add_ne_top.2 ⟨h1, h2⟩

/-- down, then up: only the climb counts -/
theorem uphill_anti_mono (hab : a ≤ b) (hbc : b ≤ c) (h1 : AntitoneOn f (Icc a b))
    (h2 : MonotoneOn f (Icc b c)) : uphill f a c = f c - f b := by
  rw [uphill_add hab hbc (bv_anti h1 hab) (bv_mono h2 hbc), uphill_anti h1 hab, uphill_mono h2 hbc]
  ring

/-- up, then down: only the climb counts -/
theorem uphill_mono_anti (hab : a ≤ b) (hbc : b ≤ c) (h1 : MonotoneOn f (Icc a b))
    (h2 : AntitoneOn f (Icc b c)) : uphill f a c = f b - f a := by
  rw [uphill_add hab hbc (bv_mono h1 hab) (bv_anti h2 hbc), uphill_mono h1 hab, uphill_anti h2 hbc]
  ring

theorem uphill_nonneg (hab : a ≤ b) (h : BoundedVariationOn f (Icc a b)) : 0 ≤ uphill f a b := by
  have h1 : |f b - f a| ≤ (eVariationOn f (Icc a b)).toReal := by
    have := h.dist_le (left_mem_Icc.2 hab) (right_mem_Icc.2 hab)
    rwa [Real.dist_eq, abs_sub_comm] at this
  have := neg_abs_le (f b - f a)
  unfold uphill; linarith

end JF.Uphill
