import JF.Lemmas.SystemInv3OccPos
import JF.Lemmas.SystemRunOcc
/-!
C11 for composite objects with cells: the run-level pieces of `c11_occinv_closed3` (`JF/Props/SystemInv3Occ.lean`) — the runs
`Reach3From s0` it is stated for (`Reach3` of `JF/Lemmas/SystemRun3LoopDefs.lean` with its initial state named), the strong no-tie
hypothesis `TieFreeAll3` (`TieFreeAll` of `JF/Props/SystemInv.lean`, per cell system), and the step of C11's full `OccInv` from one
leg to the next (`occ_step3`).
-/
namespace JF.Sys3Occ
open JF JF.Act JF.Heap JF.Sched JF.Med JF.CW3 JF.C14 JF.Sys JF.Sys3 JF.Sys3L JF.C12 JF.Kin JF.Footprints3
  JF.Sys2 JF.SysLeg
open JF.MediatorLoop hiding Run
open JF.Composite hiding pendOf

section
variable (mw : ModeWiring)

/-- no event other than the cell-boundary event of cell system `l` itself is committed at exactly the time of a pending
cell-boundary candidate of `l` -/
def TieFreeLegAll3 (p : Pend XTime) (cm : Committed XTime) : Prop :=
  ∀ E l, owner mw.w.wires cm.handler = some E → l < mw.w.labels.length → isCBT mw.w l E = false → NoTie3 mw l p cm

/-- counted on runs like `TieFree3`: at a tie a lifting would re-insert the previous active unit, which then
stands on the cell boundary, under its old cell -/
def TieFreeAll3 (cs : List (Committed XTime)) : Prop :=
  ∀ k cm, cs[k]? = some cm → TieFreeLegAll3 mw (pendOf (fun _ => none) (cs.take k)) cm

end

section
variable {mw : ModeWiring}

theorem not_isCBT_of_cell_false {l : Nat} {E : TaggerIdx} (h : affects (mw.w.tagger E) (.cell l) = false) :
    isCBT mw.w l E = false := by
  unfold affects at h
  unfold isCBT
  cases hk : (mw.w.tagger E).kind <;> simp_all

theorem tieFree3_of_all {cs : List (Committed XTime)} (h : TieFreeAll3 mw cs) : TieFree3 mw cs :=
  fun k cm hk E l hE hl haff => h k cm hk E l hE hl (not_isCBT_of_cell_false haff)

theorem tieFreeAll3_snoc {cs : List (Committed XTime)} {cm : Committed XTime} (h : TieFreeAll3 mw (cs ++ [cm])) :
    TieFreeAll3 mw cs ∧ TieFreeLegAll3 mw (pendOf (fun _ => none) cs) cm :=
  everyLeg_snoc (P := fun pre cm => TieFreeLegAll3 mw (pendOf (fun _ => none) pre) cm) h

theorem tieFreeAll3_take {cs : List (Committed XTime)} (h : TieFreeAll3 mw cs) (k : Nat) : TieFreeAll3 mw (cs.take k) :=
  everyLeg_take (P := fun pre cm => TieFreeLegAll3 mw (pendOf (fun _ => none) pre) cm) h k

end

section
variable {env : Env ℚ}

theorem unitAt_rest {d : Nat} {L : List ℚ} {cs : List (CObj ℚ)} (hg : AllGood d L cs) (hr : AllRest cs) {id : List Nat}
    {y : PUnit ℚ} (hy : unitAt cs id = some y) : y.vel = none := by
  obtain ⟨a, c, hc, rfl | hm⟩ := unitAt_some hy
  · have g := hg.get hc
    exact (absent_iff g.wf.2.2 g.vel g.sh g.rnz).mpr (hr c (List.mem_of_getElem? hc))
  · exact hr c (List.mem_of_getElem? hc) y hm

/-- in a one-chain state (leaf mode) exactly one unit on the cell level moves — the moving point mass resp. its composite
object — and it is the active one -/
theorem activeOn_char {cs : List (CObj ℚ)} (hi : CW2.Inv env.base ⟨cs, .leaf⟩) (l : Nat) :
    (activeOn env l cs = [] ∧ ∀ id y, unitAt cs id = some y → y.vel = none) ∨
    ∃ a x, activeOn env l cs = [a] ∧ unitAt cs (identL env l a) = some x ∧ x.vel ≠ none ∧
      ∀ u y, unitAt cs (identL env l u) = some y → y.vel ≠ none → u = a := by
  obtain ⟨hg, hu, hr⟩ := hi
  have hg' : AllGood env.base.d env.base.L cs := hg
  have hu' : CW2.Uniform env.base.nPer cs := hu
  have rootRest : ∀ (k : Nat) (ck : CObj ℚ), cs[k]? = some ck → RestL ck.leaves → ck.root.vel = none := by
    intro k ck hk hrest
    have g := hg'.get hk
    exact (absent_iff g.wf.2.2 g.vel g.sh g.rnz).mpr hrest
  rcases hr with hr | ⟨sq, hc⟩
  · left
    have hr' : AllRest cs := hr
    refine ⟨?_, ?_⟩
    · unfold activeOn unitsOn CW2.branches
      rw [CW2.independent_rest env.base.nPer hg' hr']
      simp
    · exact fun id y hy => unitAt_rest hg' hr' hy
  · right
    obtain ⟨i, j, v, _, hM⟩ := hc
    have hM' : MovingAt cs i (fun c => OneL j v c.leaves) := hM
    obtain ⟨⟨c, hci, hone⟩, hothers⟩ := id hM'
    obtain ⟨⟨al, hal, halv⟩, hrestj⟩ := id hone
    have hnP : c.leaves.length = env.base.nPer := hu' c (List.mem_of_getElem? hci)
    have hj : j < env.base.nPer := hnP ▸ lt_of_getElem? hal
    have hroot : c.root.vel ≠ none := root_moving (hg'.get hci) (List.mem_of_getElem? hal) (by rw [halv]; simp)
    have hind := CW2.independent_leaf (nPer := env.base.nPer) hg' hu' hM'
    have hbr : CW2.branches env.base.nPer (CW2.flags cs) = [⟨i, [j]⟩] := by
      unfold CW2.branches
      rw [hind]
      by_cases hn : env.base.nPer = 1
      · have hj0 : j = 0 := by omega
        simp only [hn, if_true, List.map_cons, List.map_nil, CW2.branchOf]
        rw [CW2.flags_getElem?, hci]
        simp only [Option.map_some, Option.getD_some, CW2.flagOf, List.length_map, hnP, hn, hj0]
        rfl
      · simp only [hn, if_false, List.map_cons, List.map_nil, CW2.branchOf]
    by_cases h1 : ((env.oe l).level == 1) = true
    · refine ⟨i, c.root, ?_, ?_, hroot, ?_⟩
      · unfold activeOn unitsOn; rw [hbr]; simp [h1]
      · unfold identL identOf; simp only [h1, if_true, unitAt, hci, Option.map_some]
      · intro u y hy hym
        unfold identL identOf at hy
        simp only [h1, if_true, unitAt] at hy
        cases hcu : cs[u]? with
        | none => rw [hcu] at hy; simp at hy
        | some cu =>
          rw [hcu] at hy; simp only [Option.map_some, Option.some.injEq] at hy
          subst hy
          by_contra hne
          exact hym (rootRest u cu hcu (hothers u cu hcu hne))
    · have h1' : ((env.oe l).level == 1) = false := by simpa using h1
      have hpos : 0 < env.base.nPer := by omega
      have hdiv : (i * env.base.nPer + j) / env.base.nPer = i := by
        rw [Nat.mul_comm, Nat.mul_add_div hpos, Nat.div_eq_of_lt hj]; rfl
      have hmod : (i * env.base.nPer + j) % env.base.nPer = j := by
        rw [Nat.mul_comm, Nat.mul_add_mod, Nat.mod_eq_of_lt hj]
      refine ⟨i * env.base.nPer + j, al, ?_, ?_, by rw [halv]; simp, ?_⟩
      · unfold activeOn unitsOn; rw [hbr]; simp [h1']
      · unfold identL identOf
        simp only [h1', Bool.false_eq_true, if_false, unitAt, hdiv, hmod, hci, Option.bind_some, hal]
      · intro u y hy hym
        unfold identL identOf at hy
        simp only [h1', Bool.false_eq_true, if_false, unitAt] at hy
        cases hcu : cs[u / env.base.nPer]? with
        | none => rw [hcu] at hy; simp at hy
        | some cu =>
          rw [hcu] at hy; simp only [Option.bind_some] at hy
          cases hyv : y.vel with
          | none => exact absurd hyv hym
          | some w =>
            obtain ⟨e1, e2, _, _⟩ := hM'.src_leaf hcu hy hyv
            have := Nat.div_add_mod u env.base.nPer
            rw [e1, e2] at this
            rw [← this, Nat.mul_comm]

end

section
variable (env : Env ℚ) (l : Nat)

/-- the unit with encoded identifier `u` on the cell level of internal state `l` exists (in the state `cs0`; the set of units does
not change along a run) and passes the charge filter of the occupancy -/
def relG (cs0 : List (CObj ℚ)) (u : Nat) : Bool := (unitAt cs0 (identL env l u)).isSome && (env.oe l).relevant u

/-- the cell that contains the position of unit `u` in the state `cs` (for the units the occupancy keeps track of) -/
def cellG (cs0 cs : List (CObj ℚ)) (u : Nat) : Nat :=
  if relG env l cs0 u then (env.oe l).cellOf (posOn env.base.nPer (env.oe l).level cs u) else 0

end

def SameUnits (cs0 cs : List (CObj ℚ)) : Prop := ∀ id, (unitAt cs id).isSome = (unitAt cs0 id).isSome

theorem SameUnits.refl (cs : List (CObj ℚ)) : SameUnits cs cs := fun _ => rfl

section
variable {env : Env ℚ} {l : Nat}

/-- `csPrev`: the state one leg worked on, `csN`: the state the next leg works on.  The premise `hmove` of `JF.C11.update_inv` holds because units at rest are not displaced (`hrest`), and the unit that
stops being active has not left its cell (`hstays`) -/
theorem occ_step3 {cs0 csPrev csN : List (CObj ℚ)} {occ occ' : Occ.State}
    (ih : C11.OccInv (relG env l cs0) (cellG env l cs0 csPrev) occ)
    (hinv : CW2.Inv env.base ⟨csPrev, .leaf⟩)
    (hcons : ConsistentOcc (env.oe l).relevant (activeOn env l csPrev) occ)
    (hinvN : CW2.Inv env.base ⟨csN, .leaf⟩) (su : SameUnits cs0 csPrev) (suN : SameUnits cs0 csN)
    (hrest : ∀ id u, unitAt csPrev id = some u → u.vel = none → ∃ u', unitAt csN id = some u' ∧ u'.pos = u.pos)
    (hstays : ∀ a, activeOn env l csPrev = [a] → (env.oe l).relevant a = true → activeOn env l csN ≠ [a] →
      (env.oe l).cellOf (posOn env.base.nPer (env.oe l).level csN a) =
        (env.oe l).cellOf (posOn env.base.nPer (env.oe l).level csPrev a))
    (hocc : occAfter env.base.nPer (env.oe l) occ csN = some occ') :
    C11.OccInv (relG env l cs0) (cellG env l cs0 csN) occ' := by
  obtain ⟨a', hm, hu⟩ := occAfter_some hocc
  have hm' : activeOn env l csN = [a'] := hm
  have hex : (unitAt cs0 (identL env l a')).isSome = true := by
    rcases activeOn_char hinvN l with ⟨h0, _⟩ | ⟨a, x, ha, hx, _, _⟩
    · rw [hm'] at h0; cases h0
    · rw [hm'] at ha
      have : a' = a := by simpa using ha
      subst this
      rw [← suN, hx]; rfl
  have hmove : ∀ u, ¬(u = a' ∧ occ.activeId = some u) → cellG env l cs0 csN u = cellG env l cs0 csPrev u := by
    intro u hnu
    unfold cellG
    by_cases hr : relG env l cs0 u = true
    · simp only [hr, if_true]
      have hr2 := hr
      unfold relG at hr2
      simp only [Bool.and_eq_true] at hr2
      obtain ⟨hue, hurel⟩ := hr2
      have hup : (unitAt csPrev (identL env l u)).isSome = true := by rw [su]; exact hue
      obtain ⟨x, hx⟩ := Option.isSome_iff_exists.mp hup
      have hx' : unitAt csPrev (identOf env.base.nPer (env.oe l).level u) = some x := hx
      cases hv : x.vel with
      | none =>
        obtain ⟨x', hx1, hp⟩ := hrest _ x hx hv
        have hx1' : unitAt csN (identOf env.base.nPer (env.oe l).level u) = some x' := hx1
        rw [posOn_unitAt, posOn_unitAt, hx', hx1']
        simp [hp]
      | some w =>
        rcases activeOn_char hinv l with ⟨_, h0⟩ | ⟨a, x0, ha, _, _, huniq⟩
        · rw [h0 _ x hx] at hv; cases hv
        · have hua : u = a := huniq u x hx (by rw [hv]; simp)
          subst hua
          have hact : occ.activeId = some u := by
            have := hcons.1
            rw [ha] at this
            simpa [expectedActive, hurel] using this
          have hne : u ≠ a' := fun e => hnu ⟨e, hact⟩
          refine hstays u ha hurel ?_
          rw [hm']
          intro e
          exact hne (by simpa using e.symm)
    · simp [hr]
  refine JF.Sys.occInv_update (new := unitIn env.base.nPer (env.oe l) csN a') ih ?_ (fun hr => ?_) hmove hu
  · show (env.oe l).relevant a' = relG env l cs0 a'
    unfold relG; rw [hex]; simp
  · have hr' : (env.oe l).relevant a' = true := hr
    unfold cellG relG
    simp [hex, hr', unitIn]

end

section
variable (env : Env ℚ) (geo : ∀ l, Geo (cwEnv env l)) (mw : ModeWiring) (S : TaggerIdx) (needs : HandlerId → Bool)

inductive Reach3From (s0 : Sys3) : List (Oracle XTime) → List (Committed XTime) → Sys3 → Prop
  | init (h : Init3 env mw s0) : Reach3From s0 [] [] s0
  | step {os : List (Oracle XTime)} {cs : List (Committed XTime)} {s s' : Sys3} {o : Oracle XTime} {cm : Committed XTime}
      (prev : Reach3From s0 os cs s) (hgo : ∀ cl, cs.getLast? = some cl → cl.stop = false)
      (hstep : SysStep3 env geo mw S needs s o cm s') : Reach3From s0 (os ++ [o]) (cs ++ [cm]) s'

end

section
variable {env : Env ℚ} {geo : ∀ l, Geo (cwEnv env l)} {mw : ModeWiring} {S : TaggerIdx} {needs : HandlerId → Bool}

theorem Reach3From.reach {s0 : Sys3} {os : List (Oracle XTime)} {cs : List (Committed XTime)} {s : Sys3}
    (h : Reach3From env geo mw S needs s0 os cs s) : Reach3 env geo mw S needs os cs s := by
  induction h with
  | init h => exact .init _ h
  | step _ hgo hstep ih => exact .step ih hgo hstep

theorem Reach3From.init0 {s0 : Sys3} {os : List (Oracle XTime)} {cs : List (Committed XTime)} {s : Sys3}
    (h : Reach3From env geo mw S needs s0 os cs s) : Init3 env mw s0 := by
  induction h with
  | init h => exact h
  | step _ _ _ ih => exact ih

theorem reach3_from {os : List (Oracle XTime)} {cs : List (Committed XTime)} {s : Sys3}
    (h : Reach3 env geo mw S needs os cs s) : ∃ s0, Reach3From env geo mw S needs s0 os cs s := by
  induction h with
  | init s h => exact ⟨s, .init h⟩
  | step _ hgo hstep ih =>
    obtain ⟨s0, h0⟩ := ih
    exact ⟨s0, .step h0 hgo hstep⟩

end

end JF.Sys3Occ
