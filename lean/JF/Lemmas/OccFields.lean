import JF.Model.Occupancy
/-
`SingleActiveCellOccupancy` (C11's model, `JF.Occ`) apart from its cell lists: the capacity, the recorded active unit and the recorded active
cell.  `insert` and `dropEmpty` work on the cell lists only (simp lemmas); `init_fields` and `update_fields` say what `initialize` and `update`
leave in the three fields, whatever branch is taken — `update_cap`, `update_activeCell`, `update_active`, `init_active` are read off them.
The cell lists themselves are the subject of `JF/Lemmas/OccupancyInv.lean` (`JF.C11.update_inv`).  Core Lean only.
-/
namespace JF.C11
open JF JF.Occ

@[simp] theorem insert_cap (s : State) (c : Cell) (u : UId) : (Occ.insert s c u).cap = s.cap := by
  unfold Occ.insert; split <;> rfl
@[simp] theorem insert_activeId (s : State) (c : Cell) (u : UId) : (Occ.insert s c u).activeId = s.activeId := by
  unfold Occ.insert; split <;> rfl
@[simp] theorem insert_activeCell (s : State) (c : Cell) (u : UId) :
    (Occ.insert s c u).activeCell = s.activeCell := by
  unfold Occ.insert; split <;> rfl

@[simp] theorem dropEmpty_occupants (s : State) (c : Cell) : (dropEmpty s c).occupants = s.occupants := by
  unfold dropEmpty; split <;> rfl
@[simp] theorem dropEmpty_cap (s : State) (c : Cell) : (dropEmpty s c).cap = s.cap := by
  unfold dropEmpty; split <;> rfl
@[simp] theorem dropEmpty_activeId (s : State) (c : Cell) : (dropEmpty s c).activeId = s.activeId := by
  unfold dropEmpty; split <;> rfl
@[simp] theorem dropEmpty_activeCell (s : State) (c : Cell) : (dropEmpty s c).activeCell = s.activeCell := by
  unfold dropEmpty; split <;> rfl

end JF.C11

namespace JF.CW

theorem update_same {s : Occ.State} {new : Occ.UnitIn} (h : s.activeId = some new.id) :
    Occ.update s new = .ok { s with activeCell := some new.cell } := by
  simp [Occ.update, h]

theorem update_irrelevant {s : Occ.State} {new : Occ.UnitIn} (h : s.activeId = none) (hr : new.relevant = false) :
    Occ.update s new = .ok { s with activeId := none, activeCell := none } := by
  simp [Occ.update, h, Occ.reinsertOld, Occ.activate, hr]

theorem reinsertOld_cap {s s1 : Occ.State} (h : Occ.reinsertOld s = .ok s1) : s1.cap = s.cap := by
  unfold Occ.reinsertOld at h
  split at h
  · cases h; rfl
  · split at h
    · cases h
    · cases h; exact C11.insert_cap ..

/-- the fields of the occupancy other than its cell lists, after the second block of `update` -/
theorem activate_fields {s1 s' : Occ.State} {new : Occ.UnitIn} (h : Occ.activate s1 new = .ok s') :
    s'.cap = s1.cap ∧ s'.activeId = (if new.relevant then some new.id else none) ∧
    s'.activeCell = (if new.relevant then some new.cell else none) := by
  unfold Occ.activate at h
  by_cases hr : new.relevant = true
  · simp only [hr, if_true] at h ⊢
    -- every successful branch ends in `dropEmpty` of a state with the two fields set
    split at h
    · split at h
      · cases h
      · cases h; simp
    · split at h
      · cases h
      · split at h
        · cases h; simp
        · cases h
  · simp only [hr] at h ⊢
    cases h
    simp

/-- **the fields of the occupancy other than its cell lists, after `update`**: the capacity is never touched; the recorded unit is `new` if it
was recorded already or is relevant, nobody otherwise; the recorded cell is `new`'s in the same cases -/
theorem update_fields {s s' : Occ.State} {new : Occ.UnitIn} (h : Occ.update s new = .ok s') :
    s'.cap = s.cap ∧
    s'.activeId = (if s.activeId = some new.id then some new.id else if new.relevant then some new.id else none) ∧
    s'.activeCell = (if s.activeId = some new.id then some new.cell else if new.relevant then some new.cell else none) := by
  by_cases hid : s.activeId = some new.id
  · rw [update_same hid] at h
    cases h
    simp [hid]
  · unfold Occ.update at h
    have hne : (some new.id != s.activeId) = true := by
      simp only [bne_iff_ne, ne_eq]; exact fun e => hid e.symm
    simp only [hne, if_true] at h
    cases hre : Occ.reinsertOld s with
    | error e => rw [hre] at h; cases h
    | ok s1 =>
      rw [hre] at h
      simp only [hid, if_false]
      rw [← reinsertOld_cap hre]
      exact activate_fields h

/-- `SingleActiveCellOccupancy.update` does not touch `_maximum_number_occupants` -/
theorem update_cap {s s' : Occ.State} {new : Occ.UnitIn} (h : Occ.update s new = .ok s') : s'.cap = s.cap :=
  (update_fields h).1

theorem update_activeCell {s s' : Occ.State} {new : Occ.UnitIn} (h : Occ.update s new = .ok s')
    (hr : new.relevant = true) : s'.activeCell = some new.cell := by
  rw [(update_fields h).2.2, hr]; simp

/-- whatever branch `update` takes: the identifier it records afterwards, and `_active_cell` is set iff the identifier is -/
theorem update_active {s s' : Occ.State} {new : Occ.UnitIn} (h : Occ.update s new = .ok s') :
    s'.activeId = (if s.activeId = some new.id then some new.id else if new.relevant then some new.id else none) ∧
    s'.activeCell.isSome = s'.activeId.isSome := by
  obtain ⟨_, h1, h2⟩ := update_fields h
  refine ⟨h1, ?_⟩
  rw [h1, h2]
  split
  · rfl
  · split <;> rfl

/-- `SingleActiveCellOccupancy.initialize` sets `_maximum_number_occupants` and records no active unit -/
theorem init_fields (cap : Int) (units : List Occ.UnitIn) : (Occ.init cap units).cap = cap ∧
    (Occ.init cap units).activeId = none ∧ (Occ.init cap units).activeCell = none := by
  have key : ∀ (units : List Occ.UnitIn) (s s' : Occ.State),
      units.foldl (fun s u => if u.relevant then Occ.insert s u.cell u.id else s) s = s' →
      s'.cap = s.cap ∧ s'.activeId = s.activeId ∧ s'.activeCell = s.activeCell := by
    intro units
    induction units with
    | nil => rintro s _ rfl; exact ⟨rfl, rfl, rfl⟩
    | cons u t ih =>
      intro s s' h
      obtain ⟨h1, h2, h3⟩ := ih _ _ h
      rw [h1, h2, h3]
      dsimp only
      split <;> simp
  exact key units (Occ.State.empty cap) _ rfl

theorem init_active (cap : Int) (units : List Occ.UnitIn) :
    (Occ.init cap units).activeId = none ∧ (Occ.init cap units).activeCell = none :=
  (init_fields cap units).2

end JF.CW
