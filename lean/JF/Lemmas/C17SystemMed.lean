import JF.Lemmas.SystemRun
import JF.Props.C17
/-!
C17 at the system level, the part that needs only the mediator component of a run: the clock of the sampling handler and of the
end-of-run handler inside the composed mediator loop.  The mediator component of a run of `JF.Sys.Reach` and of `JF.Sys2.Reach2`
is an `MRun` (`reach_mrun`, `reach2_mrun` in `JF/Props/C17System.lean`), so every theorem here holds for both systems with one proof.

Both handlers are instances of one notion: a handler `h` that alone belongs to its tagger, is trashed by its own commit only
(`OwnTrash`) and returns `f j` at its request number `j` (`Cands h f`: `SamplingCands` is `f = tickF delta zf`, `EndCands` is
`f = endF tEnd`).  `Cands` speaks about the oracle values `o.cand` of the legs in which the handler is handed out (its
`send_event_time` is called exactly then: `JF.Med.pushLoop`), counts the requests along the run (`reqs`), and reads nothing of the
global state.  `tick_inv` is the induction over the legs: requests and commits of `h` alternate, and the pending value is
`f (commits so far)`; `tick_commit_time` reads it at a commit of `h`.  `JF/Lemmas/C17SystemLive.lean` adds that the value IS pending
(`tick_due`); the clauses of C17 (header of `JF/Props/C17System.lean`) follow from these two, `mrun_stopLast` and `mrun_le_stop`.
-/
namespace JF.C17System
open JF JF.Act JF.Heap JF.Sched JF.Med JF.C14 JF.MediatorLoop JF.Sys JF.Sampling JF.C17

/-- runs of `JF.Med.leg` with the spec-level scheduler over `XTime` from the initial state; no leg after a commit that raised
`EndOfRun` (`SingleProcessMediator.run` leaves its `while True` there) -/
inductive MRun (M : MWire) : List (Oracle XTime) → List (Committed XTime) → MedState (SSched XTime) → Prop
  | init : MRun M [] [] (MedState.init (specI xcfg) M.w)
  | step {os : List (Oracle XTime)} {cs : List (Committed XTime)} {st st' : MedState (SSched XTime)} {o : Oracle XTime}
      {cm : Committed XTime} (prev : MRun M os cs st) (hgo : ∀ cl, cs.getLast? = some cl → cl.stop = false)
      (hleg : leg M (specI xcfg) st o = .ok (st', cm)) : MRun M (os ++ [o]) (cs ++ [cm]) st'

section
variable {M : MWire}

theorem mrun_run {os : List (Oracle XTime)} {cs : List (Committed XTime)} {st : MedState (SSched XTime)}
    (hr : MRun M os cs st) : MediatorLoop.Run M (specI xcfg) (MedState.init (specI xcfg) M.w) os cs st := by
  induction hr with
  | init => exact .nil _
  | step _ _ hleg ih => exact run_snoc ih hleg

theorem mrun_len {os : List (Oracle XTime)} {cs : List (Committed XTime)} {st : MedState (SSched XTime)}
    (hr : MRun M os cs st) : os.length = cs.length := by
  induction hr with
  | init => rfl
  | step _ _ _ ih => simp [ih]

theorem mrun_minv (hs : Static M) {os : List (Oracle XTime)} {cs : List (Committed XTime)} {st : MedState (SSched XTime)}
    (hr : MRun M os cs st) :
    MInv (I := specI xcfg) M (SRel xcfg) st (pendOf (fun _ => none) cs) (lastOf xcfg.bot cs) :=
  (MediatorLoop.run_inv (specLaws xcfg_strictWeak) hs (mrun_run hr) (minv_init (specLaws xcfg_strictWeak) M)).1

theorem idx_snoc {α : Type} {P : List α → α → Prop} {cs : List α} {c : α}
    (ih : ∀ k x, cs[k]? = some x → P (cs.take k) x) (hc : P cs c) :
    ∀ k x, (cs ++ [c])[k]? = some x → P ((cs ++ [c]).take k) x := by
  intro k x hk
  by_cases hlt : k < cs.length
  · rw [List.getElem?_append_left hlt] at hk
    rw [List.take_append_of_le_length (Nat.le_of_lt hlt)]
    exact ih k x hk
  · have hke : k = cs.length := by
      have := (List.getElem?_eq_some_iff.mp hk).1
      simp at this; omega
    subst hke
    simp only [List.getElem?_concat_length, Option.some.injEq] at hk
    subst hk
    rw [List.take_left' rfl]; exact hc

theorem mrun_legOK (hs : Static M) {os : List (Oracle XTime)} {cs : List (Committed XTime)} {st : MedState (SSched XTime)}
    (hr : MRun M os cs st) : ∀ k cm, cs[k]? = some cm →
      LegOK xcfg xcfg.finite (pendOf (fun _ => none) (cs.take k)) (lastOf xcfg.bot (cs.take k)) cm ∧
      cm.stop = M.endOfRun cm.handler := by
  induction hr with
  | init => intro k cm hk; simp at hk
  | @step os cs st st' o cm prev hgo hleg ih =>
    refine idx_snoc (P := fun pre cm => LegOK xcfg xcfg.finite (pendOf (fun _ => none) pre) (lastOf xcfg.bot pre) cm ∧
      cm.stop = M.endOfRun cm.handler) ih ?_
    obtain ⟨_, f⟩ := Med.leg_facts (specLaws xcfg_strictWeak) hs (mrun_minv hs prev) hleg
    exact ⟨f.ok, f.stopEq⟩

theorem mrun_stopLast {os : List (Oracle XTime)} {cs : List (Committed XTime)} {st : MedState (SSched XTime)}
    (hr : MRun M os cs st) : ∀ k cm, cs[k]? = some cm → cm.stop = true → k + 1 = cs.length := by
  induction hr with
  | init => intro k cm hk; simp at hk
  | @step os cs st st' o cm prev hgo hleg ih =>
    intro k x hk hx
    by_cases hlt : k < cs.length
    · rw [List.getElem?_append_left hlt] at hk
      have h1 := ih k x hk hx
      have hl : cs.getLast? = some x := by
        rw [List.getLast?_eq_getElem?, ← h1]; simpa using hk
      have := hgo x hl
      rw [hx] at this; cases this
    · have := (List.getElem?_eq_some_iff.mp hk).1
      simp at this ⊢; omega

/-- from the scheduler's own guard (`LegOK.guard`: a leg whose `get_succeeding_event` would return a time before the last
returned one raises and is not a leg of a run) -/
theorem mrun_sorted (hs : Static M) {os : List (Oracle XTime)} {cs : List (Committed XTime)} {st : MedState (SSched XTime)}
    (hr : MRun M os cs st) : cs.Pairwise (fun a b => xcfg.lt b.time a.time = false) :=
  (sorted_pairwise xcfg_strictWeak cs _ _ (Legs.mono (fun _ _ _ ok => ok.guard) cs _ _
    (MediatorLoop.run_inv (specLaws xcfg_strictWeak) hs (mrun_run hr) (minv_init (specLaws xcfg_strictWeak) M)).2)).2

end

/-- number of legs in which handler `h` was handed out (= number of calls of its `send_event_time`) -/
def reqs (h : HandlerId) (cs : List (Committed XTime)) : Nat := cs.countP (fun c => (c.created.map Prod.fst).contains h)

def commits (h : HandlerId) (cs : List (Committed XTime)) : Nat := cs.countP (fun c => c.handler == h)

theorem reqs_snoc (h : HandlerId) (cs : List (Committed XTime)) (c : Committed XTime) :
    reqs h (cs ++ [c]) = reqs h cs + if h ∈ c.created.map Prod.fst then 1 else 0 := by
  unfold reqs
  rw [List.countP_append, List.countP_singleton]
  simp only [List.contains_iff_mem]

theorem commits_snoc (h : HandlerId) (cs : List (Committed XTime)) (c : Committed XTime) :
    commits h (cs ++ [c]) = commits h cs + if c.handler = h then 1 else 0 := by
  unfold commits
  rw [List.countP_append, List.countP_singleton]
  simp only [beq_iff_eq]

theorem commits_take_le (h : HandlerId) (cs : List (Committed XTime)) (k : Nat) : commits h (cs.take k) ≤ commits h cs := by
  conv_rhs => rw [← List.take_append_drop k cs]
  unfold commits
  rw [List.countP_append]; omega

theorem commits_take_lt {h : HandlerId} {cs : List (Committed XTime)} {i j : Nat} {ci : Committed XTime}
    (hi : cs[i]? = some ci) (hh : ci.handler = h) (hij : i < j) : commits h (cs.take i) < commits h (cs.take j) := by
  have hlt : i < cs.length := (List.getElem?_eq_some_iff.mp hi).1
  have h1 : (cs.take j).take (i + 1) = cs.take i ++ [ci] := by
    rw [List.take_take, Nat.min_eq_left (by omega), List.take_add_one, hi]; rfl
  have h2 := commits_take_le h (cs.take j) (i + 1)
  rw [h1, commits_snoc, if_pos hh] at h2
  omega

/-- handler `h` returns `f j` when it is handed out after `j` earlier requests: the oracle value `o.cand h` of that leg
(`send_event_time` is called exactly then: `JF.Med.pushLoop`) -/
def Cands (h : HandlerId) (f : Nat → XTime) (os : List (Oracle XTime)) (cs : List (Committed XTime)) : Prop :=
  ∀ (k : Nat) (o : Oracle XTime) (cm : Committed XTime), os[k]? = some o → cs[k]? = some cm →
    h ∈ cm.created.map Prod.fst → o.cand h = f (reqs h (cs.take k))

def tickF (delta : ℚ) (zf : Bool) (j : Nat) : XTime := .fin (clock Ops.rat delta zf (j + 1))

def endF (tEnd : ℚ) (_ : Nat) : XTime := .fin (endTime Ops.rat tEnd)

/-- in every leg `k` that hands the sampling handler `hs` out, the candidate time it returns is
the tick of C17's clock model with index `1 + number of earlier requests` (`FixedIntervalSamplingEventHandler.send_event_time`:
`self._event_time += self._sampling_interval; return self._event_time`, `_event_time` initialised by the constructor):
`Cands hs (tickF delta zf)` -/
def SamplingCands (delta : ℚ) (zf : Bool) (hs : HandlerId) (os : List (Oracle XTime)) (cs : List (Committed XTime)) : Prop :=
  ∀ (k : Nat) (o : Oracle XTime) (cm : Committed XTime), os[k]? = some o → cs[k]? = some cm →
    hs ∈ cm.created.map Prod.fst → o.cand hs = XTime.fin (clock Ops.rat delta zf (reqs hs (cs.take k) + 1))

/-- whenever the end-of-run handler `he` is handed out it returns `Time.from_float(end_of_run_time)`
(`FinalTimeEndOfRunEventHandler.send_event_time`: `return self._event_time`): `Cands he (endF tEnd)` -/
def EndCands (tEnd : ℚ) (he : HandlerId) (os : List (Oracle XTime)) (cs : List (Committed XTime)) : Prop :=
  ∀ (k : Nat) (o : Oracle XTime) (cm : Committed XTime), os[k]? = some o → cs[k]? = some cm →
    he ∈ cm.created.map Prod.fst → o.cand he = XTime.fin (endTime Ops.rat tEnd)

structure ClockCands (delta tEnd : ℚ) (zf : Bool) (hs he : HandlerId) (os : List (Oracle XTime))
    (cs : List (Committed XTime)) : Prop where
  sampling : SamplingCands delta zf hs os cs
  endOfRun : EndCands tEnd he os cs

theorem SamplingCands.cands {delta : ℚ} {zf : Bool} {hs : HandlerId} {os : List (Oracle XTime)} {cs : List (Committed XTime)}
    (H : SamplingCands delta zf hs os cs) : Cands hs (tickF delta zf) os cs := H

theorem EndCands.cands {tEnd : ℚ} {he : HandlerId} {os : List (Oracle XTime)} {cs : List (Committed XTime)}
    (H : EndCands tEnd he os cs) : Cands he (endF tEnd) os cs := H

theorem Cands.snoc {h : HandlerId} {f : Nat → XTime} {os : List (Oracle XTime)} {cs : List (Committed XTime)}
    {o : Oracle XTime} {cm : Committed XTime} (hl : os.length = cs.length) (H : Cands h f (os ++ [o]) (cs ++ [cm])) :
    Cands h f os cs ∧ (h ∈ cm.created.map Prod.fst → o.cand h = f (reqs h cs)) := by
  constructor
  · intro k o' c' ho hc hin
    have hlt : k < cs.length := (List.getElem?_eq_some_iff.mp hc).1
    have := H k o' c' (by rw [List.getElem?_append_left (by omega)]; exact ho)
      (by rw [List.getElem?_append_left hlt]; exact hc) hin
    rwa [List.take_append_of_le_length (Nat.le_of_lt hlt)] at this
  · intro hin
    have := H cs.length o cm (by rw [← hl]; simp) (by simp) hin
    rwa [List.take_left' rfl] at this

/-- tagger `T` owns exactly the handler `h`, and its events are trashed only by its own commit or by the commit of an end-of-run
handler (the docstring of both handlers: "its events should not be trashed by other events") -/
structure OwnTrash (M : MWire) (T : TaggerIdx) (h : HandlerId) : Prop where
  lt : T < M.w.length
  pool : (getW M.w T).pool = [h]
  trashedBy : ∀ E, T ∈ (getW M.w E).trashes → E = T ∨ ∀ x, owner M.w x = some E → M.endOfRun x = true

section
variable {M : MWire}

theorem OwnTrash.owner {T : TaggerIdx} {h : HandlerId} (W : OwnTrash M T h) (hs : Static M) : owner M.w h = some T :=
  owner_of_mem_pool hs.pok W.lt (by rw [W.pool]; simp)

theorem trashed_iff (hs : Static M) {T : TaggerIdx} {h : HandlerId} (W : OwnTrash M T h) {st st' : MedState (SSched XTime)}
    {p : Pend XTime} {l : XTime} {o : Oracle XTime} {cm : Committed XTime}
    (inv : MInv (I := specI xcfg) M (SRel xcfg) st p l) (hleg : leg M (specI xcfg) st o = .ok (st', cm))
    (hgo : cm.stop = false) : h ∈ cm.trashed ↔ cm.handler = h := by
  obtain ⟨E, f⟩ := Med.leg_facts (specLaws xcfg_strictWeak) hs inv hleg
  constructor
  · intro hin
    rw [f.trashed] at hin
    obtain ⟨U, hU, hrun⟩ := (trashLoop_out_mem _ _ h).mp hin
    have hUo := owner_of_running hs.pok f.pmid hrun
    rw [W.owner hs] at hUo
    have hUT : T = U := Option.some.inj hUo
    subst hUT
    rcases W.trashedBy E hU with rfl | hend
    · have := owner_mem f.owner
      rw [W.pool] at this
      simpa using this
    · rw [f.stopEq, hend cm.handler f.owner] at hgo; cases hgo
  · intro he
    rw [← he]; exact f.ok.self_trashed

/-- the life of a handler `h` with `OwnTrash`, between two legs: no event pending and as many requests as commits, or the value of
its last request pending and one request more.  `f` is indexed by the requests before, so the pending value is `f (commits h cs)` -/
def TickEnd (h : HandlerId) (f : Nat → XTime) (cs : List (Committed XTime)) : Prop :=
  (pendOf (fun _ => none) cs h = none ∧ reqs h cs = commits h cs) ∨
  (pendOf (fun _ => none) cs h = some (f (commits h cs)) ∧ reqs h cs = commits h cs + 1)

/-- … and in the middle of the leg `cm` after the legs `pre` -/
def TickMid (h : HandlerId) (f : Nat → XTime) (pre : List (Committed XTime)) (cm : Committed XTime) : Prop :=
  ∀ t, pendPushed (pendOf (fun _ => none) pre) cm h = some t → t = f (commits h pre)

theorem tick_inv (hs : Static M) {T : TaggerIdx} {h : HandlerId} (W : OwnTrash M T h) {f : Nat → XTime}
    {os : List (Oracle XTime)} {cs : List (Committed XTime)} {st : MedState (SSched XTime)} (hr : MRun M os cs st)
    (hc : Cands h f os cs) :
    (∀ k cm, cs[k]? = some cm → TickMid h f (cs.take k) cm) ∧
    ((∀ cl, cs.getLast? = some cl → cl.stop = false) → TickEnd h f cs) := by
  induction hr with
  | init => exact ⟨fun k cm hk => by simp at hk, fun _ => Or.inl ⟨rfl, rfl⟩⟩
  | @step os cs st st' o cm prev hgo hleg ih =>
    obtain ⟨hc0, hcn⟩ := hc.snoc (mrun_len prev)
    obtain ⟨ihm, ihe⟩ := ih hc0
    have ie := ihe hgo
    have inv := mrun_minv hs prev
    obtain ⟨_, ⟨-, ok, hpushed, -⟩⟩ := Med.leg_facts (specLaws xcfg_strictWeak) hs inv hleg
    have hkeys : h ∈ cm.pushed.map Prod.fst ↔ h ∈ cm.created.map Prod.fst := by rw [ok.pushed_keys]
    -- in the middle of the leg: handed out now (then nothing was pending, `LegOK.fresh`), or as before the leg
    have hmidv : (h ∈ cm.created.map Prod.fst ∧ reqs h cs = commits h cs ∧
          pendPushed (pendOf (fun _ => none) cs) cm h = some (f (commits h cs))) ∨
        (h ∉ cm.created.map Prod.fst ∧
          pendPushed (pendOf (fun _ => none) cs) cm h = pendOf (fun _ => none) cs h) := by
      by_cases hin : h ∈ cm.created.map Prod.fst
      · left
        have hp : pendOf (fun _ => none) cs h = none := ok.fresh h (hkeys.mpr hin)
        have hrc : reqs h cs = commits h cs := by
          rcases ie with ⟨_, e⟩ | ⟨e, _⟩
          · exact e
          · rw [hp] at e; cases e
        refine ⟨hin, hrc, ?_⟩
        obtain ⟨q, hq, hq1⟩ := List.mem_map.mp hin
        have hmem : (q.1, o.cand q.1) ∈ cm.pushed := by
          rw [hpushed]; exact List.mem_map.mpr ⟨q, hq, rfl⟩
        have := pushAll_mem (pendOf (fun _ => none) cs) ok.nodup hmem
        simp only [hq1] at this
        unfold pendPushed
        rw [this, hcn hin, hrc]
      · right
        exact ⟨hin, pushAll_not_mem _ _ (fun e => hin (hkeys.mp e))⟩
    constructor
    · refine idx_snoc (P := TickMid h f) ihm ?_
      intro t ht
      rcases hmidv with ⟨_, _, hv⟩ | ⟨_, hv⟩
      · rw [hv] at ht; exact (Option.some.inj ht).symm
      · rw [hv] at ht
        rcases ie with ⟨e, _⟩ | ⟨e, _⟩
        · rw [e] at ht; cases ht
        · rw [e] at ht; exact (Option.some.inj ht).symm
    · intro hlast
      have htr := trashed_iff hs W inv hleg (hlast cm (by simp))
      unfold TickEnd
      rw [pendOf_snoc, reqs_snoc, commits_snoc]
      -- only the commit of `h` itself takes its event away
      have hafter : pendAfter (pendOf (fun _ => none) cs) cm h =
          if cm.handler = h then none else pendPushed (pendOf (fun _ => none) cs) cm h := by
        show dropAll _ cm.trashed h = _
        rw [dropAll_eq]
        by_cases hh : cm.handler = h
        · rw [if_pos (htr.mpr hh), if_pos hh]
        · rw [if_neg (fun e => hh (htr.mp e)), if_neg hh]
      rw [hafter]
      rcases hmidv with ⟨hin, hrc, hv⟩ | ⟨hin, hv⟩
      · rw [if_pos hin, hv]
        by_cases hh : cm.handler = h
        · left; rw [if_pos hh, if_pos hh]; exact ⟨rfl, by omega⟩
        · right; rw [if_neg hh, if_neg hh]; exact ⟨rfl, by omega⟩
      · rw [if_neg hin, hv]
        rcases ie with ⟨e, hrc⟩ | ⟨e, hrc⟩
        · have hh : cm.handler ≠ h := by
            intro hh
            have := ok.pending
            rw [hh, hv, e] at this; cases this
          left; rw [if_neg hh, if_neg hh]; exact ⟨e, by omega⟩
        · by_cases hh : cm.handler = h
          · left; rw [if_pos hh, if_pos hh]; exact ⟨rfl, by omega⟩
          · right; rw [if_neg hh, if_neg hh]; exact ⟨e, by omega⟩

/-- a commit of `h` is at the value `h` returned when it was handed out last: its `commits + 1`-th value -/
theorem tick_commit_time (hs : Static M) {T : TaggerIdx} {h : HandlerId} (W : OwnTrash M T h) {f : Nat → XTime}
    {os : List (Oracle XTime)} {cs : List (Committed XTime)} {st : MedState (SSched XTime)} (hr : MRun M os cs st)
    (hc : Cands h f os cs) {k : Nat} {cm : Committed XTime} (hk : cs[k]? = some cm) (hh : cm.handler = h) :
    cm.time = f (commits h (cs.take k)) := by
  have hp := ((mrun_legOK hs hr) k cm hk).1.pending
  rw [hh] at hp
  exact (tick_inv hs W hr hc).1 k cm hk _ hp

/-- no commit of a run is later than a commit that stops it (`mrun_stopLast`: there is none after it; `mrun_sorted`) -/
theorem mrun_le_stop (hs : Static M) {os : List (Oracle XTime)} {cs : List (Committed XTime)} {st : MedState (SSched XTime)}
    (hr : MRun M os cs st) {K : Nat} {cE : Committed XTime} (hK : cs[K]? = some cE) (hstop : cE.stop = true) {k : Nat}
    {cm : Committed XTime} (hk : cs[k]? = some cm) : k ≤ K ∧ xcfg.lt cE.time cm.time = false := by
  have hlast := mrun_stopLast hr K cE hK hstop
  have hkl : k < cs.length := (List.getElem?_eq_some_iff.mp hk).1
  refine ⟨by omega, ?_⟩
  by_cases hkK : k = K
  · subst hkK
    rw [hK] at hk; cases hk
    exact xcfg_strictWeak.irrefl _
  · have hKl : K < cs.length := (List.getElem?_eq_some_iff.mp hK).1
    have := List.pairwise_iff_getElem.mp (mrun_sorted hs hr) k K hkl hKl (by omega)
    rw [List.getElem?_eq_getElem hkl] at hk
    rw [List.getElem?_eq_getElem hKl] at hK
    cases hk; cases hK
    exact this

end

theorem filter_map_of_indexed {α β : Type} (P : α → Bool) (g : α → β) :
    ∀ (cs : List α) (F : Nat → β), (∀ k x, cs[k]? = some x → P x = true → g x = F ((cs.take k).countP P)) →
      (cs.filter P).map g = (List.range (cs.countP P)).map F := by
  intro cs
  induction cs with
  | nil => intro F _; simp
  | cons a cs ih =>
    intro F h
    by_cases ha : P a = true
    · have h0 : g a = F 0 := by simpa using h 0 a (by simp) ha
      have h' : ∀ k x, cs[k]? = some x → P x = true → g x = (fun j => F (j + 1)) ((cs.take k).countP P) := by
        intro k x hk hx
        have := h (k + 1) x (by simpa using hk) hx
        simpa [List.take_succ_cons, List.countP_cons, ha] using this
      rw [List.filter_cons_of_pos ha, List.map_cons, ih (fun j => F (j + 1)) h', List.countP_cons_of_pos ha, List.range_succ_eq_map,
        List.map_cons, List.map_map, h0]
      rfl
    · have h' : ∀ k x, cs[k]? = some x → P x = true → g x = F ((cs.take k).countP P) := by
        intro k x hk hx
        have := h (k + 1) x (by simpa using hk) hx
        simpa [List.take_succ_cons, List.countP_cons, ha] using this
      rw [List.filter_cons_of_neg ha, ih _ h', List.countP_cons_of_neg ha]

theorem le_end_of_not_lt {tEnd : ℚ} {t : Time ℚ} (htn : Normalised t)
    (h : xcfg.lt (.fin (endTime Ops.rat tEnd)) (.fin t) = false) : val t ≤ tEnd := by
  have := (xlt_false_iff (endTime_val tEnd).2 htn).mp h
  rwa [(endTime_val tEnd).1] at this

end JF.C17System
