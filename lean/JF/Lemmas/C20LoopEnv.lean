import JF.Lemmas.MediatorInv
import JF.Lemmas.MPRun
/-!
# C20 over the concrete loop, part 1: the rest of the application of `JF.MP` built from the components of `JF.Med`

`JF.MP.Env` (`JF/Model/MPMediator.lean`) is the *rest of the application* both mediators are closed over: activator, scheduler,
handler computations, global state.  Here it is instantiated with the concrete components of the composed single-process loop
`JF.Med.leg` (`JF/Model/Mediator.lean`):

* `activate` = `JF.Act.getToRun` (for a configuration `M : MWire`, with the preceding handler the state remembers),
* `choose`   = the push loop `JF.Med.pushLoop` (with the in-state assertions) followed by `I.get` of a scheduler instance `I`,
* `trash`    = `JF.Act.getTrashable` followed by `JF.Med.trashAll`,
* the handlers' computations and the global state = a `World` (any type of global states, any functions).

Two things of `Env`/`Protocol` have no counterpart in `JF.Med.leg` and are made explicit here:

1. **`Env` is total, `JF.Med.leg` raises.**  An exception of the activator / the in-state assertion / the scheduler ends the real
   run.  `Env` cannot express that, so the state type has a mode `halted`: after the first exception the environment behaves like a
   trivial application that keeps the protocol (hands out handler `0` if nothing runs, commits a running handler, trashes it).  The
   refinement statements only speak about the legs before the first exception (where `JF.Med.leg` returns `.ok`).  Calls in the
   wrong phase (e.g. `choose` on a state `activate` did not produce) also go to `halted`.
2. **`Protocol` quantifies over ALL states `e`**, the invariants of the loop (`JF.Med.MInv`) hold for reachable ones.  The state type
   of the environment is therefore the subtype of the states satisfying `Good` (= `MInv` for the phase the state is in), which the
   three operations preserve (from `JF.Med.choose_core` and `JF.Med.trash_core`, the two halves of `JF.Med.leg_facts`).
-/
namespace JF.C20Loop
open JF JF.Act JF.Heap JF.Sched JF.Med

variable {κ : Type}

/-- what depends on physics or on the random streams: the yields of all taggers on a global state, the candidate event time /
the out-state handler `h` computes in leg `n` from (the in-state extracted from) global state `g`, and the effect of a commit -/
structure World (G O κ : Type) where
  yields : G → TaggerIdx → List IdTuple
  cand : HandlerId → Nat → G → κ
  out : HandlerId → Nat → G → O
  commit : G → O → G

/-- state of activator + scheduler + `_event_handler_with_shortest_event_time` between the calls the mediator makes -/
inductive EState (σ : Type) where
  /-- between two legs -/
  | boundary (st : MedState σ)
  /-- after `get_event_handlers_to_run`: activator state `a1`, returned dictionary `created`; nothing pushed yet -/
  | activated (st : MedState σ) (a1 : ActSt) (created : List (HandlerId × IdTuple))
  /-- after `get_succeeding_event` returned `h` -/
  | chosen (a1 : ActSt) (s2 : σ) (h : HandlerId)
  /-- after an exception (not a state of the real program, see the module docstring): a set of "running" handlers -/
  | halted (running : List Nat)

/-- all handlers in some `_running_event_handlers[tagger]` -/
def runningList (ts : Act) : List Nat := ts.flatMap (·.running)

theorem mem_runningList (ts : Act) (h : Nat) : h ∈ runningList ts ↔ ∃ T, h ∈ (getT ts T).running := by
  unfold runningList
  rw [List.mem_flatMap]
  constructor
  · rintro ⟨t, ht, hh⟩
    obtain ⟨i, hi⟩ := List.mem_iff_getElem?.mp ht
    exact ⟨i, by unfold getT; rw [hi]; exact hh⟩
  · rintro ⟨T, hT⟩
    unfold getT at hT
    cases hc : ts[T]? with
    | none => rw [hc] at hT; simp [TState.empty] at hT
    | some t => rw [hc] at hT; exact ⟨t, List.mem_of_getElem? hc, hT⟩

def EState.running {σ : Type} : EState σ → List Nat
  | .boundary st => runningList st.act.ts
  | .activated _ a1 _ => runningList a1.ts
  | .chosen a1 _ _ => runningList a1.ts
  | .halted r => r

def haltAct {σ : Type} (r : List Nat) : List Nat × EState σ :=
  if r.isEmpty then ([0], .halted [0]) else ([], .halted r)
def haltChoose {σ : Type} (r : List Nat) : Nat × EState σ := (r.headD 0, .halted r)
def haltTrash {σ : Type} (r : List Nat) (c : Nat) : List Nat × EState σ := ([c], .halted (r.filter (· != c)))

/-- the candidate time the mediator hands to `push_event` for `h` -/
def timeIn (dflt : κ) (l : List (Nat × κ)) (h : Nat) : κ := (l.lookup h).getD dflt

section raw
variable (M : MWire) (I : SchedI κ) (dflt : κ)

/-- `activator.get_event_handlers_to_run(state, self._event_handler_with_shortest_event_time)` on the yields `ys` -/
def actRaw (ys : TaggerIdx → List IdTuple) : EState I.σ → List Nat × EState I.σ
  | .boundary st =>
    match (getToRun M.w M.S st.act st.preceding ys).2 with
    | .ok created =>
      if (runningList (getToRun M.w M.S st.act st.preceding ys).1.ts).isEmpty then haltAct (runningList st.act.ts)
      else (created.map Prod.fst, .activated st (getToRun M.w M.S st.act st.preceding ys).1 created)
    | _ => haltAct (runningList st.act.ts)
  | x => haltAct x.running

/-- the `push_event` calls `l` (handler, candidate time) the mediator makes — one per handler of the dictionary, in the dictionary's
order, else `halted`; the in-state assertions of the single-process loop are evaluated on the way (`JF.Med.pushLoop`) — followed
by `get_succeeding_event` -/
def chooseRaw : EState I.σ → List (Nat × κ) → Nat × EState I.σ
  | .activated st a1 created, l =>
    if l.map Prod.fst = created.map Prod.fst then
      match pushLoop M I ⟨fun _ => [], timeIn dflt l⟩ st.sched created with
      | .ok s1 =>
        match (I.get s1).2 with
        | .ok h _ => (h, .chosen a1 (I.get s1).1 h)
        | _ => haltChoose (runningList a1.ts)
      | .error _ => haltChoose (runningList a1.ts)
    else haltChoose (runningList a1.ts)
  | x, _ => haltChoose x.running

/-- `get_trashable_events(c)` and one `trash_event` per listed handler -/
def trashRaw : EState I.σ → Nat → List Nat × EState I.σ
  | .chosen a1 s2 h, c =>
    if c = h then
      match (getTrashable M.w a1 h).2 with
      | .ok trashed =>
        match Med.trashAll I s2 trashed with
        | .ok s3 => (trashed, .boundary ⟨(getTrashable M.w a1 h).1, s3, some h⟩)
        | .error _ => haltTrash (runningList a1.ts) c
      | _ => haltTrash (runningList a1.ts) c
    else haltTrash (runningList a1.ts) c
  | x, c => haltTrash x.running c

end raw

section good
variable {cfg : Cfg κ} {I : SchedI κ} {vis : κ → Bool} (M : MWire) (R : I.σ → Pend κ → κ → Prop)

/-- `JF.Med.MInv` for the phase the state is in -/
def Good : EState I.σ → Prop
  | .boundary st => ∃ p l, MInv M R st p l
  | .activated st a1 created => (∃ p l, MInv M R st p l) ∧
      (∃ ys, getToRun M.w M.S st.act st.preceding ys = (a1, .ok created)) ∧ runningList a1.ts ≠ []
  | .chosen a1 s2 h => ∃ p l, MInv M R ⟨a1, s2, none⟩ p l ∧ (p h).isSome
  | .halted _ => True

/-- what `activate` returns: never a state in which nothing runs -/
def PostAct : EState I.σ → Prop
  | .activated _ _ _ => True
  | .halted r => r ≠ []
  | _ => False

end good

theorem haltAct_spec {I : SchedI κ} (r : List Nat) :
    PostAct (haltAct (σ := I.σ) r).2 ∧ (haltAct (σ := I.σ) r).1.Nodup ∧ (∀ h ∈ (haltAct (σ := I.σ) r).1, h ∉ r) ∧
    ∀ h, h ∈ (haltAct (σ := I.σ) r).2.running ↔ h ∈ r ∨ h ∈ (haltAct (σ := I.σ) r).1 := by
  unfold haltAct
  cases r with
  | nil => simp [EState.running, PostAct]
  | cons a r => simp [EState.running, PostAct]

section proofs
variable {cfg : Cfg κ} {I : SchedI κ} {vis : κ → Bool} {R : I.σ → Pend κ → κ → Prop} {M : MWire} {dflt : κ}

theorem haltAct_good (r : List Nat) : Good M R (haltAct (σ := I.σ) r).2 := by
  unfold haltAct; split <;> trivial

theorem actRaw_good (ys : TaggerIdx → List IdTuple) {x : EState I.σ} (gx : Good M R x) :
    Good M R (actRaw M I ys x).2 := by
  cases x with
  | boundary st =>
    simp only [actRaw]
    split
    · next created hcr =>
      split
      · exact haltAct_good _
      · next hne =>
        refine ⟨gx, ⟨ys, by rw [← hcr]⟩, ?_⟩
        intro hc; rw [hc] at hne; simp at hne
    · exact haltAct_good _
  | activated st a1 cr => exact haltAct_good _
  | chosen a1 s2 h => exact haltAct_good _
  | halted r => exact haltAct_good _

theorem actRaw_spec (hs : Static M) (ys : TaggerIdx → List IdTuple) {x : EState I.σ} (gx : Good M R x) :
    PostAct (actRaw M I ys x).2 ∧ (actRaw M I ys x).1.Nodup ∧ (∀ h ∈ (actRaw M I ys x).1, h ∉ x.running) ∧
    ∀ h, h ∈ (actRaw M I ys x).2.running ↔ h ∈ x.running ∨ h ∈ (actRaw M I ys x).1 := by
  cases x with
  | boundary st =>
    simp only [actRaw]
    split
    · next created hcr =>
      split
      · exact haltAct_spec _
      · obtain ⟨p, l, inv⟩ := gx
        have hrun : getToRun M.w M.S st.act st.preceding ys =
            ((getToRun M.w M.S st.act st.preceding ys).1, .ok created) := by rw [← hcr]
        obtain ⟨_, cnd, cfresh, crun⟩ := getToRun_ok hs inv.pool hrun
        refine ⟨trivial, cnd, ?_, ?_⟩
        · intro h hh hr
          obtain ⟨T, hT⟩ := (mem_runningList _ _).mp hr
          exact cfresh h hh T hT
        · intro h
          simp only [EState.running, mem_runningList]
          exact crun h
    · exact haltAct_spec _
  | activated st a1 cr => exact haltAct_spec _
  | chosen a1 s2 h => exact haltAct_spec _
  | halted r => exact haltAct_spec _

theorem chooseRaw_running (x : EState I.σ) (l : List (Nat × κ)) :
    (chooseRaw M I dflt x l).2.running = x.running := by
  cases x with
  | activated st a1 cr =>
    simp only [chooseRaw]
    split
    · split
      · split <;> rfl
      · rfl
    · rfl
  | boundary st => rfl
  | chosen a1 s2 h => rfl
  | halted r => rfl

theorem chooseRaw_ok (L : Laws cfg I vis R) (hs : Static M) {x : EState I.σ} (gx : Good M R x) (l : List (Nat × κ)) :
    Good M R (chooseRaw M I dflt x l).2 ∧ (PostAct x → (chooseRaw M I dflt x l).1 ∈ x.running) := by
  have hd : ∀ r : List Nat, r ≠ [] → r.headD 0 ∈ r := by
    intro r hr
    cases r with
    | nil => exact absurd rfl hr
    | cons a r => simp
  cases x with
  | activated st a1 cr =>
    obtain ⟨⟨p, l0, inv⟩, ⟨ys, hrun⟩, hne⟩ := gx
    simp only [chooseRaw]
    split
    · split
      · next s1 hpush =>
        split
        · next h t hget =>
          obtain ⟨i1, -, -, i2, -⟩ := choose_core L hs inv hrun hpush hget
          refine ⟨⟨_, _, i1, by rw [i2]; rfl⟩, fun _ => ?_⟩
          simp only [EState.running, mem_runningList]
          exact (i1.mirror h).mp (by rw [i2]; rfl)
        · exact ⟨trivial, fun _ => hd _ hne⟩
      · exact ⟨trivial, fun _ => hd _ hne⟩
    · exact ⟨trivial, fun _ => hd _ hne⟩
  | boundary st => exact ⟨trivial, fun px => absurd px (by simp [PostAct])⟩
  | chosen a1 s2 h => exact ⟨trivial, fun px => absurd px (by simp [PostAct])⟩
  | halted r => exact ⟨trivial, fun px => hd _ px⟩

theorem chooseRaw_good (L : Laws cfg I vis R) (hs : Static M) {x : EState I.σ} (gx : Good M R x) (l : List (Nat × κ)) :
    Good M R (chooseRaw M I dflt x l).2 :=
  (chooseRaw_ok L hs gx l).1

theorem haltTrash_spec {σ : Type} (r : List Nat) (c : Nat) :
    c ∈ (haltTrash (σ := σ) r c).1 ∧
    ∀ h, h ∈ (haltTrash (σ := σ) r c).2.running ↔ h ∈ r ∧ h ∉ (haltTrash (σ := σ) r c).1 := by
  simp [haltTrash, EState.running]

theorem trashRaw_ok (L : Laws cfg I vis R) (hs : Static M) {x : EState I.σ} (gx : Good M R x) (c : Nat) :
    Good M R (trashRaw M I x c).2 ∧ c ∈ (trashRaw M I x c).1 ∧
    ∀ h, h ∈ (trashRaw M I x c).2.running ↔ h ∈ x.running ∧ h ∉ (trashRaw M I x c).1 := by
  cases x with
  | chosen a1 s2 h =>
    simp only [trashRaw]
    split
    · next hc =>
      split
      · next trashed htr =>
        split
        · next s3 htall =>
          obtain ⟨p, l, inv, _⟩ := gx
          obtain ⟨i2, hself, -, -, trun, -⟩ := trash_core L hs inv (Prod.ext rfl htr) htall
          refine ⟨⟨_, _, i2⟩, hc ▸ hself, fun x => ?_⟩
          simp only [EState.running, mem_runningList]
          exact trun x
        · exact ⟨trivial, haltTrash_spec _ _⟩
      · exact ⟨trivial, haltTrash_spec _ _⟩
    · exact ⟨trivial, haltTrash_spec _ _⟩
  | boundary st => exact ⟨trivial, haltTrash_spec _ _⟩
  | activated st a1 cr => exact ⟨trivial, haltTrash_spec _ _⟩
  | halted r => exact ⟨trivial, haltTrash_spec _ _⟩

theorem trashRaw_good (L : Laws cfg I vis R) (hs : Static M) {x : EState I.σ} (gx : Good M R x) (c : Nat) :
    Good M R (trashRaw M I x c).2 :=
  (trashRaw_ok L hs gx c).1

end proofs

section env
variable {G O : Type} {cfg : Cfg κ} {I : SchedI κ} {vis : κ → Bool} {R : I.σ → Pend κ → κ → Prop} {M : MWire}

abbrev EGood (M : MWire) {I : SchedI κ} (R : I.σ → Pend κ → κ → Prop) := { x : EState I.σ // Good M R x }

def medEnv (L : Laws cfg I vis R) (hs : Static M) (W : World G O κ) : MP.Env G (EGood M R) κ O where
  activate g e := ((actRaw M I (W.yields g) e.1).1, ⟨(actRaw M I (W.yields g) e.1).2, actRaw_good _ e.2⟩)
  timeOf := W.cand
  outOf := W.out
  choose e l := ((chooseRaw M I cfg.bot e.1 l).1, ⟨(chooseRaw M I cfg.bot e.1 l).2, chooseRaw_good L hs e.2 l⟩)
  commit := W.commit
  trash e c := ((trashRaw M I e.1 c).1, ⟨(trashRaw M I e.1 c).2, trashRaw_good L hs e.2 c⟩)

/-- `h` is in `_running_event_handlers` (of some tagger) -/
def Running (e : EGood M R) (h : Nat) : Bool := decide (h ∈ e.1.running)

/-- the initial state: `TagActivator.initialize`, an empty scheduler, no preceding handler -/
def medInit (L : Laws cfg I vis R) (M : MWire) : EGood M R :=
  ⟨.boundary (MedState.init I M.w), _, _, minv_init L M⟩

theorem running_iff (e : EGood M R) (h : Nat) : Running e h = true ↔ h ∈ e.1.running := by
  unfold Running; exact decide_eq_true_iff

theorem running_false_iff (e : EGood M R) (h : Nat) : Running e h = false ↔ h ∉ e.1.running := by
  unfold Running; exact decide_eq_false_iff_not

theorem medInit_running (L : Laws cfg I vis R) (M : MWire) (h : Nat) : Running (medInit L M) h = false := by
  rw [running_false_iff]
  show h ∉ runningList (initAct M.w)
  rw [mem_runningList]
  rintro ⟨T, hT⟩
  rw [getT_initAct] at hT
  split at hT <;> simp [TState.empty] at hT

/-- **The activator/scheduler protocol `mp_refines_sp` assumes is a theorem for the concrete single-process loop**: every field
comes from the lemmas of `JF/Lemmas/MediatorInv.lean` about `getToRun` (`getToRun_ok`), the scheduler laws (`Laws.get`: the returned handler has a pending event;
`MInv.mirror`: pending ⇔ running) and `getTrashable` (`getTrashable_ok`). -/
theorem medProtocol (L : Laws cfg I vis R) (hs : Static M) (W : World G O κ) :
    MP.Protocol (medEnv L hs W) Running where
  act_nodup := fun g e => (actRaw_spec hs (W.yields g) e.2).2.1
  act_fresh := fun g e h hh => (running_false_iff e h).mpr ((actRaw_spec hs (W.yields g) e.2).2.2.1 h hh)
  act_run := fun g e h => by
    have := (actRaw_spec hs (W.yields g) e.2).2.2.2 h
    rw [Bool.eq_iff_iff, Bool.or_eq_true, running_iff, running_iff, decide_eq_true_iff]
    exact this
  choose_run := fun g e l =>
    (running_iff _ _).mpr
      ((chooseRaw_ok (dflt := cfg.bot) L hs (actRaw_good (W.yields g) e.2) l).2 (actRaw_spec hs (W.yields g) e.2).1)
  choose_keep := fun e l h => by
    rw [Bool.eq_iff_iff, running_iff, running_iff]
    show h ∈ (chooseRaw M I cfg.bot e.1 l).2.running ↔ _
    rw [chooseRaw_running]
  trash_self := fun e c => (trashRaw_ok L hs e.2 c).2.1
  trash_run := fun e c h => by
    have := (trashRaw_ok L hs e.2 c).2.2 h
    rw [Bool.eq_iff_iff, Bool.and_eq_true, running_iff, running_iff, Bool.not_eq_true', decide_eq_false_iff_not]
    exact this

end env

end JF.C20Loop
