import JF.Lemmas.C20LoopEnv
import JF.Props.MediatorLoop
/-!
# C20 over the concrete loop, part 2: `runSP medEnv` unfolds to the legs of `JF.Med.leg`

One successful `JF.Med.leg` is exactly one `activate`/`choose`/`trash` round of `medEnv` (`leg_raw`), hence one step of
`JF.MP.runSP (medEnv …)` (`runSP_succ_of_leg`); along a run the ghost dictionary of pending candidate times is what the handlers
computed at their last start (`Link`), so the committed time of the scheduler is `timeOf c (last c) (hist (last c))`.
-/
namespace JF.C20Loop
open JF JF.Act JF.Heap JF.Sched JF.Med JF.MediatorLoop

variable {κ : Type}

theorem pushLoop_congr (M : MWire) (I : SchedI κ) (o o' : Oracle κ) : ∀ (created : List (HandlerId × IdTuple)) (s : I.σ),
    (∀ h ∈ created.map Prod.fst, o.cand h = o'.cand h) → pushLoop M I o s created = pushLoop M I o' s created := by
  intro created
  induction created with
  | nil => intro s _; rfl
  | cons a rest ih =>
    intro s hc
    obtain ⟨h, ids⟩ := a
    unfold pushLoop
    rw [hc h (by simp)]
    split
    · rfl
    · exact ih _ (fun x hx => hc x (by simp [hx]))

theorem timeIn_map (dflt : κ) (f : Nat → κ) : ∀ (created : List (HandlerId × IdTuple)) (h : Nat), h ∈ created.map Prod.fst →
    timeIn dflt (created.map fun q => (q.1, f q.1)) h = f h := by
  intro created
  induction created with
  | nil => intro h hh; simp at hh
  | cons a rest ih =>
    intro h hh
    unfold timeIn
    rw [List.map_cons, List.lookup_cons]
    by_cases ha : h = a.1
    · subst ha; simp
    · have : (h == a.1) = false := by simpa using ha
      rw [this]
      simp only [List.map_cons, List.mem_cons, ha, false_or] at hh
      exact ih h hh

section leg
variable {cfg : Cfg κ} {I : SchedI κ} {vis : κ → Bool} {R : I.σ → Pend κ → κ → Prop} {M : MWire}

theorem leg_raw (L : Laws cfg I vis R) (hs : Static M) (dflt : κ) {st st1 : MedState I.σ} {p : Pend κ} {l : κ}
    {o : Oracle κ} {c : Committed κ} (inv : MInv M R st p l) (e : leg M I st o = .ok (st1, c)) :
    ∃ (a1 : ActSt) (s2 : I.σ),
      actRaw M I o.yields (.boundary st) = (c.created.map Prod.fst, .activated st a1 c.created) ∧
      chooseRaw M I dflt (.activated st a1 c.created) (c.created.map fun q => (q.1, o.cand q.1)) =
        (c.handler, .chosen a1 s2 c.handler) ∧
      trashRaw M I (.chosen a1 s2 c.handler) c.handler = (c.trashed, .boundary st1) := by
  obtain ⟨s1, S⟩ := leg_steps.mp e
  obtain ⟨E, f⟩ := leg_facts L hs inv e
  obtain ⟨a, s, pr⟩ := st1
  obtain ⟨rfl⟩ : pr = some c.handler := S.pre
  refine ⟨(getToRun M.w M.S st.act st.preceding o.yields).1, (I.get s1).1, ?_, ?_, ?_⟩
  · -- the committed handler runs after the activation, so the environment does not halt
    have hne : (runningList (getToRun M.w M.S st.act st.preceding o.yields).1.ts).isEmpty = false := by
      have : c.handler ∈ runningList (getToRun M.w M.S st.act st.preceding o.yields).1.ts :=
        (mem_runningList _ _).mpr ⟨E, f.running⟩
      cases hl : runningList (getToRun M.w M.S st.act st.preceding o.yields).1.ts with
      | nil => rw [hl] at this; cases this
      | cons _ _ => rfl
    simp only [actRaw, congrArg Prod.snd S.act, hne]
    rfl
  · have hp : pushLoop M I ⟨fun _ => [], timeIn dflt (c.created.map fun q => (q.1, o.cand q.1))⟩ st.sched c.created =
        .ok s1 := by
      rw [← S.push]
      exact pushLoop_congr M I _ _ c.created _ (fun x hx => timeIn_map dflt o.cand c.created x hx)
    simp only [chooseRaw, List.map_map, Function.comp_def, hp, S.get]
    rfl
  · have h1 := congrArg Prod.fst S.trashable
    simp only at h1
    simp only [trashRaw, congrArg Prod.snd S.trashable, S.trash, h1]
    rfl

end leg

section run
variable {G O : Type}

/-- the inputs of the legs `n, n+1, …` of `JF.Med.runLegs` along a sequence of commits starting in global state `g`: the yields of
the taggers on the global state at the start of the leg, and the candidate time every handler would compute in that leg -/
def oracles (W : World G O κ) : Nat → G → List (MP.Commit G κ O) → List (Oracle κ)
  | _, _, [] => []
  | n, g, c :: cs => ⟨W.yields g, fun h => W.cand h n g⟩ :: oracles W (n + 1) c.post cs

theorem oracles_length (W : World G O κ) : ∀ (cs : List (MP.Commit G κ O)) (n : Nat) (g : G),
    (oracles W n g cs).length = cs.length := by
  intro cs
  induction cs with
  | nil => intro _ _; rfl
  | cons c cs ih => intro n g; simp [oracles, ih]

/-- the ghost dictionary of pending candidate times holds what the handlers computed at their last start, which was in an earlier
leg -/
def Link (W : World G O κ) (p : Pend κ) (last : Nat → Nat) (hist : Nat → G) (n : Nat) : Prop :=
  ∀ h t, p h = some t → last h < n ∧ t = W.cand h (last h) (hist (last h))

theorem link_pushed {cfg : Cfg κ} {vis : κ → Bool} {W : World G O κ} {p : Pend κ} {last : Nat → Nat} {hist : Nat → G} {n : Nat}
    {g : G} {l : κ} {c : Committed κ} (lk : Link W p last hist n) (ok : LegOK cfg vis p l c)
    (hp : c.pushed = c.created.map fun q => (q.1, W.cand q.1 n g)) :
    Link W (pendPushed p c) (fun h => if h ∈ c.created.map Prod.fst then n else last h)
      (fun m => if m = n then g else hist m) (n + 1) := by
  intro h t e
  rcases pushAll_some _ _ e with h1 | h1
  · have hn : h ∉ c.created.map Prod.fst := by
      intro hc
      have := ok.fresh h (by rw [ok.pushed_keys]; exact hc)
      rw [this] at h1; cases h1
    obtain ⟨l1, l2⟩ := lk h t h1
    have hne : last h ≠ n := by omega
    simp only [hn, if_false, hne]
    exact ⟨by omega, l2⟩
  · rw [hp] at h1
    obtain ⟨q, hq, hqe⟩ := List.mem_map.mp h1
    simp only [Prod.mk.injEq] at hqe
    have hin : h ∈ c.created.map Prod.fst := List.mem_map.mpr ⟨q, hq, hqe.1⟩
    simp only [hin, if_true]
    exact ⟨by omega, by rw [← hqe.2, hqe.1]⟩

variable {cfg : Cfg κ} {I : SchedI κ} {vis : κ → Bool} {R : I.σ → Pend κ → κ → Prop} {M : MWire}

theorem pair_subtype {α β : Type} {P : β → Prop} {r : α × β} {a : α} {b : β} (h : r = (a, b)) (hp : P r.2) :
    ∃ hb : P b, (r.1, (⟨r.2, hp⟩ : { x // P x })) = (a, ⟨b, hb⟩) := by
  subst h; exact ⟨hp, rfl⟩

theorem runSP_succ_of_leg (L : Laws cfg I vis R) (hs : Static M) (W : World G O κ) {st st1 : MedState I.σ} {p : Pend κ}
    {l : κ} {c : Committed κ} {n : Nat} {g : G} {last : Nat → Nat} {hist : Nat → G}
    (inv : MInv M R st p l) (lk : Link W p last hist n)
    (e : leg M I st ⟨W.yields g, fun h => W.cand h n g⟩ = .ok (st1, c)) (gd : Good M R (.boundary st)) (k : Nat) :
    ∃ gd1 : Good M R (.boundary st1),
      MP.runSP (medEnv L hs W) (k + 1) n g ⟨.boundary st, gd⟩ last hist =
        let last1 := MP.last' last (c.created.map Prod.fst) n
        let hist1 : Nat → G := fun m => if m = n then g else hist m
        let out := W.out c.handler (last1 c.handler) (hist1 (last1 c.handler))
        ⟨c.handler, c.time, out, W.commit g out⟩ ::
          MP.runSP (medEnv L hs W) k (n + 1) (W.commit g out) ⟨.boundary st1, gd1⟩ last1 hist1 := by
  obtain ⟨_, f⟩ := leg_facts L hs inv e
  obtain ⟨a1, s2, hA, hC, hT⟩ := leg_raw L hs cfg.bot inv e
  simp only at hA hC hT
  -- the three operations of `medEnv` are the raw ones paired with a proof of `Good`
  obtain ⟨gA, hact⟩ := pair_subtype hA (actRaw_good (M := M) (R := R) (W.yields g) gd)
  have hact : (medEnv L hs W).activate g ⟨.boundary st, gd⟩ = (c.created.map Prod.fst, ⟨.activated st a1 c.created, gA⟩) :=
    hact
  obtain ⟨gC, hch⟩ := pair_subtype hC (chooseRaw_good (dflt := cfg.bot) L hs gA _)
  have hch : (medEnv L hs W).choose ⟨.activated st a1 c.created, gA⟩
      ((c.created.map Prod.fst).map fun h => (h, (medEnv L hs W).timeOf h n g)) =
      (c.handler, ⟨.chosen a1 s2 c.handler, gC⟩) := by
    rw [List.map_map]; exact hch
  obtain ⟨gT, htr⟩ := pair_subtype hT (trashRaw_good L hs gC c.handler)
  have htr : (medEnv L hs W).trash ⟨.chosen a1 s2 c.handler, gC⟩ c.handler = (c.trashed, ⟨.boundary st1, gT⟩) := htr
  -- the committed time is the candidate of the last start
  have htime := (link_pushed lk f.ok f.pushed c.handler c.time f.ok.pending).2
  refine ⟨gT, ?_⟩
  rw [MP.runSP_succ (medEnv L hs W) hact hch htr, htime]
  rfl

def keyMed (c : Committed κ) : Nat × κ := (c.handler, c.time)
def keyMP (c : MP.Commit G κ O) : Nat × κ := (c.handler, c.time)

theorem run_length {st st' : MedState I.σ} {os : List (Oracle κ)} {cs : List (Committed κ)} (hrun : Run M I st os cs st') :
    os.length = cs.length := by
  induction hrun with
  | nil st => rfl
  | cons _ _ ih => simp [ih]

theorem runSP_run (L : Laws cfg I vis R) (hs : Static M) (W : World G O κ) {st st' : MedState I.σ} {os : List (Oracle κ)}
    {cs : List (Committed κ)} (hrun : Run M I st os cs st') :
    ∀ (k n : Nat) (g : G) (last : Nat → Nat) (hist : Nat → G) (p : Pend κ) (l : κ) (gd : Good M R (.boundary st)) (m : Nat),
      MInv M R st p l → Link W p last hist n →
      os = (oracles W n g (MP.runSP (medEnv L hs W) k n g ⟨.boundary st, gd⟩ last hist)).take m →
      cs.map keyMed = ((MP.runSP (medEnv L hs W) k n g ⟨.boundary st, gd⟩ last hist).take cs.length).map keyMP := by
  induction hrun with
  | nil st => intro k n g last hist p l gd m _ _ _; rfl
  | @cons st st1 st' o os c cs hleg _ ih =>
    intro k n g last hist p l gd m inv lk hos
    cases k with
    | zero => cases m <;> simp [MP.runSP, oracles] at hos
    | succ k =>
      cases m with
      | zero => simp at hos
      | succ m =>
        -- the first oracle value does not depend on what is committed
        have ho : o = ⟨W.yields g, fun h => W.cand h n g⟩ := by
          cases hsp : MP.runSP (medEnv L hs W) (k + 1) n g ⟨.boundary st, gd⟩ last hist with
          | nil => rw [hsp] at hos; simp [oracles] at hos
          | cons a b =>
            rw [hsp] at hos
            simp only [oracles, List.take_succ_cons, List.cons.injEq] at hos
            exact hos.1
        subst ho
        obtain ⟨_, f⟩ := leg_facts L hs inv hleg
        obtain ⟨gd1, hstep⟩ := runSP_succ_of_leg L hs W inv lk hleg gd k
        rw [hstep] at hos ⊢
        simp only [oracles, List.take_succ_cons, List.cons.injEq, true_and] at hos
        simp only [List.map_cons, List.length_cons, List.take_succ_cons, List.cons.injEq]
        exact ⟨rfl, ih k (n + 1) _ _ _ _ _ gd1 m f.minv
          (fun h t e => link_pushed lk f.ok f.pushed h t (pendAfter_some e).2) hos⟩

end run

section runlegs
variable {I : SchedI κ} {M : MWire}

theorem runLegs_run_take : ∀ (os : List (Oracle κ)) (st st' : MedState I.σ) (cs : List (Committed κ)),
    runLegs M I st os = (cs, some st') → Run M I st (os.take cs.length) cs st' :=
  runLegs_run M I

theorem runLegs_length : ∀ (os : List (Oracle κ)) (st : MedState I.σ) (cs : List (Committed κ)) (fin : Option (MedState I.σ)),
    runLegs M I st os = (cs, fin) →
    cs.length = os.length ∨ fin = none ∨ ∃ c, cs.getLast? = some c ∧ c.stop = true := by
  intro os
  induction os with
  | nil =>
    intro st cs fin e
    simp only [runLegs, Prod.mk.injEq] at e
    obtain ⟨rfl, _⟩ := e
    exact Or.inl rfl
  | cons o os ih =>
    intro st cs fin e
    unfold runLegs at e
    split at e
    · simp only [Prod.mk.injEq] at e
      exact Or.inr (Or.inl e.2.symm)
    · next st1 c hleg =>
      split at e
      · next hstop =>
        simp only [Prod.mk.injEq] at e
        obtain ⟨rfl, _⟩ := e
        exact Or.inr (Or.inr ⟨c, rfl, hstop⟩)
      · simp only [Prod.mk.injEq] at e
        obtain ⟨rfl, rfl⟩ := e
        rcases ih st1 _ _ rfl with h | h | ⟨c', h1, h2⟩
        · exact Or.inl (by simp [h])
        · exact Or.inr (Or.inl h)
        · refine Or.inr (Or.inr ⟨c', ?_, h2⟩)
          rw [List.getLast?_cons, h1]; rfl

end runlegs

end JF.C20Loop
