import JF.Model.Output
import JF.Props.C15
import JF.Lemmas.Lifting
import Mathlib.Tactic.Linarith
import Mathlib.Tactic.Ring
import Mathlib.Tactic.Positivity
/-!
Exact reading (`ℚ`) of the geometry the output handlers use: the nearest-image separation vector of a well-formed box as ONE
specification function for both box classes (`sepSpec`, from C15's theorems), its squared norm, and the scalar facts the
theorems of `JF/Props/Output.lean` need (sign symmetry of the squared wrapped separation, Cauchy–Schwarz for lists).
-/
namespace JF.Output
open JF JF.Periodic JF.C15


/-- the SQUARES of the wrapped separations of `s` and `-s` agree (`wrapSep_abs_neg`) -/
theorem wrapSep_neg_sq {s L : ℚ} (hL : 0 < L) :
    wrapSep Ops.rat (-s) L (L / 2) * wrapSep Ops.rat (-s) L (L / 2) = wrapSep Ops.rat s L (L / 2) * wrapSep Ops.rat s L (L / 2) := by
  rw [← abs_mul_abs_self, wrapSep_abs_neg hL, abs_mul_abs_self]

theorem wrapSep_sq_le {s L : ℚ} (hL : 0 < L) :
    wrapSep Ops.rat s L (L / 2) * wrapSep Ops.rat s L (L / 2) ≤ (L / 2) * (L / 2) := by
  rw [← abs_mul_abs_self]
  exact mul_self_le_mul_self (abs_nonneg _) (wrapSep_abs_le hL)


/-- exact nearest-image separation vector for box lengths `Ls`: component `j` is the representative of
`tgt[j] - ref[j]` modulo `Ls[j]` in `[-Ls[j]/2, Ls[j]/2)` -/
def sepSpec (Ls ref tgt : List ℚ) : List ℚ :=
  List.zipWith (fun L d => wrapSep Ops.rat d L (L / 2)) Ls (List.zipWith (fun a b => b - a) ref tgt)

theorem sepSpec_length {Ls ref tgt : List ℚ} (hr : ref.length = Ls.length) (ht : tgt.length = Ls.length) :
    (sepSpec Ls ref tgt).length = Ls.length := by
  simp [sepSpec, hr, ht]

theorem sepSpec_getElem {Ls ref tgt : List ℚ} (hr : ref.length = Ls.length) (ht : tgt.length = Ls.length)
    (j : Nat) (hj : j < Ls.length) :
    (sepSpec Ls ref tgt)[j]'(by rw [sepSpec_length hr ht]; exact hj) =
      wrapSep Ops.rat (tgt[j]'(ht ▸ hj) - ref[j]'(hr ▸ hj)) Ls[j] (Ls[j] / 2) := by
  simp [sepSpec]

/-- a box as constructed by the setting classes, with its list of box lengths -/
inductive BoxOK : Box ℚ → List ℚ → Prop
  | cubic (d : ℤ) (L : ℚ) (c : Cubic ℚ) (h : Cubic.init Ops.rat d L = .ok c) : BoxOK (.cubic c) (List.replicate d.toNat L)
  | cuboid (d : ℤ) (Ls : List ℚ) (c : Cuboid ℚ) (h : Cuboid.init Ops.rat d Ls = .ok c) : BoxOK (.cuboid c) Ls

theorem BoxOK.pos {box : Box ℚ} {Ls : List ℚ} (h : BoxOK box Ls) : ∀ L ∈ Ls, 0 < L := by
  cases h with
  | cubic d L c h =>
    intro l hl
    rw [List.eq_of_mem_replicate hl]
    exact (cubic_init_iff.mp h).2.1
  | cuboid d Ls c h => exact (cuboid_init_iff.mp h).2.2.1

theorem BoxOK.dim {box : Box ℚ} {Ls : List ℚ} (h : BoxOK box Ls) : box.dim = Ls.length := by
  cases h with
  | cubic d L c h =>
    obtain ⟨-, -, rfl⟩ := cubic_init_iff.mp h
    simp [Box.dim]
  | cuboid d Ls c h =>
    obtain ⟨hd, hl, -, rfl⟩ := cuboid_init_iff.mp h
    simp only [Box.dim]; omega

theorem BoxOK.ne_nil {box : Box ℚ} {Ls : List ℚ} (h : BoxOK box Ls) : 0 < Ls.length := by
  cases h with
  | cubic d L c h =>
    have := (cubic_init_iff.mp h).1
    simp only [List.length_replicate]; omega
  | cuboid d Ls c h =>
    obtain ⟨hd, hl, -, -⟩ := cuboid_init_iff.mp h
    omega

theorem cuboid_sepVec_eq {d : ℤ} {c : Cuboid ℚ} {Ls ref tgt : List ℚ} (h : Cuboid.init Ops.rat d Ls = .ok c)
    (hr : ref.length = Ls.length) (ht : tgt.length = Ls.length) :
    c.separationVector Ops.rat ref tgt = some (sepSpec Ls ref tgt) := by
  obtain ⟨hd, hlen, -, rfl⟩ := cuboid_init_iff.mp h
  have hdim : d.toNat = Ls.length := by omega
  rw [cuboid_separationVector_eq _ _ (hdim.le.trans hr.ge) (hdim.le.trans ht.ge) hdim.le (by simp [hdim]), sepSpec]
  congr 1
  exact List.ext_getElem (by simp [hdim, hr, ht]) fun j _ _ => by simp

/-- **`separation_vector` of a well-formed box on positions with `dimension` entries is the nearest-image vector** (both
box classes; never the `IndexError` outcome): the cubic class computes what the cuboid class computes for equal lengths -/
theorem sepVec_eq {box : Box ℚ} {Ls ref tgt : List ℚ} (h : BoxOK box Ls)
    (hr : ref.length = Ls.length) (ht : tgt.length = Ls.length) :
    box.sepVec Ops.rat ref tgt = some (sepSpec Ls ref tgt) := by
  cases h with
  | cubic d L c h =>
    rw [Box.sepVec, ← agree_separationVector Ops.rat c (cubic_init_half h).1]
    exact cuboid_sepVec_eq (cuboid_init_replicate h) hr ht
  | cuboid d Ls c h => exact cuboid_sepVec_eq h hr ht


theorem normSq_rat (v : List ℚ) : normSq Ops.rat v = (v.map fun c => c * c).sum := by
  unfold normSq
  exact JF.Lifting.pySum_exact Ops.rat rfl _

theorem dot_rat (v w : List ℚ) (h : v.length = w.length) : dot Ops.rat v w = .ok (List.zipWith (· * ·) v w).sum := by
  unfold dot
  rw [if_neg (by simpa using h)]
  congr 1
  exact JF.Lifting.pySum_exact Ops.rat rfl _

theorem sum_mul_self_nonneg (v : List ℚ) : 0 ≤ (v.map fun c => c * c).sum :=
  List.sum_nonneg (List.forall_mem_map.2 fun c _ => mul_self_nonneg c)

/-- the exact squared nearest-image separation -/
def sepSq (Ls a b : List ℚ) : ℚ := ((sepSpec Ls a b).map fun c => c * c).sum

def dotQ (v w : List ℚ) : ℚ := (List.zipWith (· * ·) v w).sum

theorem dotQ_comm (v w : List ℚ) : dotQ v w = dotQ w v := by
  unfold dotQ
  rw [List.zipWith_comm_of_comm mul_comm]

theorem cauchy_step {x y d A B : ℚ} (hA : 0 ≤ A) (hB : 0 ≤ B) (h : d * d ≤ A * B) :
    (x * y + d) * (x * y + d) ≤ (x * x + A) * (y * y + B) := by
  -- `2xyd ≤ x²B + y²A`: the right side is `≥ 0` and `(2xyd)² ≤ 4x²y²·AB = (x²B + y²A)² − (x²B − y²A)²`
  have hs : 0 ≤ x * x * B + y * y * A :=
    add_nonneg (mul_nonneg (mul_self_nonneg x) hB) (mul_nonneg (mul_self_nonneg y) hA)
  have h4 := mul_le_mul_of_nonneg_left h (mul_self_nonneg (x * y))
  have hq : (2 * (x * y) * d) * (2 * (x * y) * d) ≤ (x * x * B + y * y * A) * (x * x * B + y * y * A) := by
    linarith only [h4, mul_self_nonneg (x * x * B - y * y * A)]
  have h2 := (le_abs_self _).trans ((abs_le_iff_mul_self_le.mpr hq).trans_eq (abs_of_nonneg hs))
  linarith only [h, h2]

/-- Cauchy–Schwarz for lists (any lengths: `zipWith` truncates, the squared norms only grow) -/
theorem dotQ_sq_le (v w : List ℚ) :
    dotQ v w * dotQ v w ≤ (v.map fun c => c * c).sum * (w.map fun c => c * c).sum := by
  unfold dotQ
  induction v generalizing w with
  | nil => simp
  | cons x v ih =>
    cases w with
    | nil => simp
    | cons y w =>
      simp only [List.zipWith_cons_cons, List.sum_cons, List.map_cons]
      exact cauchy_step (sum_mul_self_nonneg v) (sum_mul_self_nonneg w) (ih w)


section
variable {Ls a b a' b' : List ℚ}

theorem sepSpec_congr_diff (hpos : ∀ L ∈ Ls, 0 < L)
    (ha : a.length = Ls.length) (hb : b.length = Ls.length) (ha' : a'.length = Ls.length) (hb' : b'.length = Ls.length)
    (hc : ∀ j (h : j < Ls.length), Congr Ls[j] ((b[j]'(hb ▸ h)) - (a[j]'(ha ▸ h))) ((b'[j]'(hb' ▸ h)) - (a'[j]'(ha' ▸ h)))) :
    sepSpec Ls a b = sepSpec Ls a' b' := by
  apply List.ext_getElem (by rw [sepSpec_length ha hb, sepSpec_length ha' hb'])
  intro j h1 _
  have hj : j < Ls.length := sepSpec_length ha hb ▸ h1
  rw [sepSpec_getElem ha hb j hj, sepSpec_getElem ha' hb' j hj]
  exact wrapSep_congr_eq (hpos _ (List.getElem_mem hj)) (hc j hj)

theorem sepSpec_congr (hpos : ∀ L ∈ Ls, 0 < L)
    (ha : a.length = Ls.length) (hb : b.length = Ls.length) (ha' : a'.length = Ls.length) (hb' : b'.length = Ls.length)
    (hca : ∀ j (h : j < Ls.length), Congr Ls[j] (a[j]'(by omega)) (a'[j]'(by omega)))
    (hcb : ∀ j (h : j < Ls.length), Congr Ls[j] (b[j]'(by omega)) (b'[j]'(by omega))) :
    sepSpec Ls a b = sepSpec Ls a' b' :=
  sepSpec_congr_diff hpos ha hb ha' hb' fun j h => (hcb j h).sub (hca j h)

/-- the squared separation is symmetric in the two positions, whatever their lengths (`zipWith` truncates both orders alike) -/
theorem sepSq_symm (hpos : ∀ L ∈ Ls, 0 < L) (a b : List ℚ) : sepSq Ls a b = sepSq Ls b a := by
  unfold sepSq sepSpec
  induction Ls generalizing a b with
  | nil => simp
  | cons L Ls ih =>
    cases a with
    | nil => simp
    | cons x a =>
      cases b with
      | nil => simp
      | cons y b =>
        simp only [List.zipWith_cons_cons, List.map_cons, List.sum_cons]
        rw [ih (fun l hl => hpos l (List.mem_cons_of_mem _ hl)) a b, ← neg_sub y x,
          wrapSep_neg_sq (hpos L List.mem_cons_self)]

theorem sepSq_le (hpos : ∀ L ∈ Ls, 0 < L) : sepSq Ls a b ≤ (Ls.map fun L => (L / 2) * (L / 2)).sum := by
  unfold sepSq sepSpec
  generalize List.zipWith (fun a b => b - a) a b = ds
  induction Ls generalizing ds with
  | nil => simp
  | cons L Ls ih =>
    have ih' := ih fun l hl => hpos l (List.mem_cons_of_mem _ hl)
    cases ds with
    | nil =>
      simp only [List.zipWith_nil_right, List.map_nil, List.sum_nil, List.map_cons, List.sum_cons]
      exact add_nonneg (mul_self_nonneg _) (by simpa using ih' [])
    | cons d ds =>
      simp only [List.zipWith_cons_cons, List.map_cons, List.sum_cons]
      exact add_le_add (wrapSep_sq_le (hpos L List.mem_cons_self)) (ih' ds)

theorem sepSq_nonneg : 0 ≤ sepSq Ls a b := sum_mul_self_nonneg _

end
end JF.Output
