import JF.Lemmas.CompositeEvents
/-!
For C12: every event kind of `JF.Composite.step` preserves the invariant `AllGood` (exact reading, threshold test
replaced by `= 0`), each under the clause of its kind of the admissibility predicate `JF.C12.Adm`.  `step_pass_pair`
evaluates `pass` on a state of two objects (the link to the handler model in `JF/Props/C04C12.lean`).
-/
namespace JF.C12
open JF JF.Kin JF.Composite

/-- Admissibility of an event in a state = the assertions of the code (evaluated, as in the code, after the in-state has
been time-sliced; time-slicing does not change velocities, `timeSlice_vel`), plus *(one chain, C07)* "the object that
receives the velocity from another object is at rest as a whole" for `exchange` / `eocLeaf`, plus for `snap` "the
boundary is the coordinate reached at the event time", plus for the end of chain "the new velocity is non-zero". -/
def Adm (d : Nat) (L : List ℚ) (cs : List (CObj ℚ)) : Composite.Ev ℚ → Prop
  | .keep _ _ => True
  | .snap t S i j dd x =>
    ∀ c, (sliceAt Ops.rat L t S cs)[i]? = some c →
      match j with
      | none => x = c.root.pos.getD dd 0
      | some j => ∀ l, c.leaves[j]? = some l → x = l.pos.getD dd 0
  | .exchange t S i j i' j' =>
    i ∈ S ∧ ∃ a b v, leafOf (sliceAt Ops.rat L t S cs) i j = some a ∧ a.vel = some v ∧
      leafOf (sliceAt Ops.rat L t S cs) i' j' = some b ∧ b.vel = none ∧
      (i ≠ i' → ∀ c', (sliceAt Ops.rat L t S cs)[i']? = some c' → ∀ l ∈ c'.leaves, l.vel = none)
  | .pass t S iL iT =>
    iL ∈ S ∧ iL ≠ iT ∧ ∃ cL cT v, (sliceAt Ops.rat L t S cs)[iL]? = some cL ∧ (sliceAt Ops.rat L t S cs)[iT]? = some cT ∧
      (∀ l ∈ cL.leaves, l.vel = some v) ∧ (∀ l ∈ cT.leaves, l.vel = none)
  | .eocLeaf t i j i' j' vn =>
    ∃ c0 c' a b old, cs[i]? = some c0 ∧ (sliceComp Ops.rat L t c0).leaves[j]? = some a ∧ a.vel = some old ∧
      (∀ k l, (sliceComp Ops.rat L t c0).leaves[k]? = some l → k ≠ j → l.vel = none) ∧
      (sliceAt Ops.rat L t [i] cs)[i']? = some c' ∧ c'.leaves[j']? = some b ∧
      (i ≠ i' → ∀ l ∈ c'.leaves, l.vel = none) ∧ NZ vn ∧ vn.length = d
  | .eocRoot t i i' vn =>
    ∃ c c' old, (sliceAt Ops.rat L t [i] cs)[i]? = some c ∧ (sliceAt Ops.rat L t [i] cs)[i']? = some c' ∧
      (∀ l ∈ c.leaves, l.vel = some old) ∧ (i ≠ i' → ∀ l ∈ c'.leaves, l.vel = none) ∧ NZ vn ∧ vn.length = d
  | .toLeaf t i _ =>
    ∃ co v, (sliceAt Ops.rat L t [i] cs)[i]? = some co ∧ ∀ l ∈ co.leaves, l.vel = some v
  | .toRoot t i =>
    ∃ co a ua v, (sliceAt Ops.rat L t [i] cs)[i]? = some co ∧ activeLeaf co = some a ∧ co.leaves[a]? = some ua ∧
      ua.vel = some v ∧ ∀ k l, co.leaves[k]? = some l → k ≠ a → l.vel = none
  | .start i P v =>
    ∃ c, cs[i]? = some c ∧ (∀ l ∈ c.leaves, l.vel = none) ∧ P.Nodup ∧ (∀ k ∈ P, k < c.leaves.length) ∧ P ≠ [] ∧
      NZ v ∧ v.length = d

end JF.C12

namespace JF.Composite
open JF JF.Kin
variable {d : Nat} {L : List ℚ} {cs : List (CObj ℚ)} {c : CObj ℚ}

theorem allGood_modify_at (h : AllGood d L cs) {i : Nat} 
    (hc : cs[i]? = some c) {f : CObj ℚ → CObj ℚ} (hf : Good d L (f c)) : AllGood d L (cs.modify i f) :=
  allGood_modify h i f fun c0 hc0 => by rw [hc] at hc0; cases hc0; exact hf

theorem allGood_modify₂ (h : AllGood d L cs) {i i' : Nat} (hii : i ≠ i')
    {c c' : CObj ℚ} (hc : cs[i]? = some c) (hc' : cs[i']? = some c') {f g : CObj ℚ → CObj ℚ} (hf : Good d L (f c))
    (hg : Good d L (g c')) : AllGood d L ((cs.modify i f).modify i' g) :=
  allGood_modify_at (allGood_modify_at h hc hf) ((getElem?_modify_ne f cs hii).trans hc') hg

theorem updsOK_one {t : Time ℚ} {ls : List (PUnit ℚ)} {u : Upd ℚ} {l : PUnit ℚ} (hl : ls[u.leaf]? = some l)
    (h : UOK d t l u) : UpdsOK d t ls [u] :=
  ⟨List.nodup_cons.mpr ⟨List.not_mem_nil, List.nodup_nil⟩, fun w hw => by obtain rfl := List.mem_singleton.mp hw; exact ⟨l, hl, h⟩⟩

theorem updsOK_snoc {t : Time ℚ} {ls : List (PUnit ℚ)} {ups : List (Upd ℚ)} {u : Upd ℚ} {l : PUnit ℚ}
    (h : UpdsOK d t ls ups) (hnot : u.leaf ∉ ups.map (·.leaf)) (hl : ls[u.leaf]? = some l) (hu : UOK d t l u) :
    UpdsOK d t ls (ups ++ [u]) := by
  refine ⟨?_, fun w hw => ?_⟩
  · rw [List.map_append]
    exact List.nodup_append.mpr ⟨h.nodup, List.nodup_cons.mpr ⟨List.not_mem_nil, List.nodup_nil⟩,
      fun x hx y hy e => hnot (by subst e; obtain rfl : x = u.leaf := List.mem_singleton.mp hy; exact hx)⟩
  · rcases List.mem_append.mp hw with hw | hw
    · exact h.ok w hw
    · obtain rfl := List.mem_singleton.mp hw; exact ⟨l, hl, hu⟩

theorem lt_of_getElem? {β : Type} {ls : List β} {k : Nat} {l : β} (h : ls[k]? = some l) : k < ls.length :=
  (List.getElem?_eq_some_iff.mp h).1

theorem setLeaves_ne_nil (ups : List (Upd ℚ)) {ls : List (PUnit ℚ)} (h : ls ≠ []) : setLeaves ls ups ≠ [] := by
  intro e
  have := setLeaves_length ups ls
  rw [e] at this
  exact h (List.length_eq_zero_iff.mp this.symm)

theorem cover_filter_map (n a : Nat) (mk : Nat → Upd ℚ) (hleaf : ∀ k, (mk k).leaf = k) :
    ∀ k, k < n → k ≠ a → k ∈ (((List.range n).filter (· != a)).map mk).map (·.leaf) := by
  intro k hk hne
  rw [List.map_map]
  exact List.mem_map.mpr ⟨k, List.mem_filter.mpr ⟨List.mem_range.mpr hk, by simpa using hne⟩, hleaf k⟩

theorem not_mem_filter_map (n a : Nat) (mk : Nat → Upd ℚ) (hleaf : ∀ k, (mk k).leaf = k) :
    a ∉ (((List.range n).filter (· != a)).map mk).map (·.leaf) := by
  rw [List.map_map]
  intro h
  obtain ⟨k, hk, e⟩ := List.mem_map.mp h
  simp only [Function.comp, hleaf] at e
  subst e
  simpa using (List.mem_filter.mp hk).2

theorem setLeaves_exists (ups : List (Upd ℚ)) {k : Nat} {l : PUnit ℚ} (h : ls[k]? = some l) :
    ∃ l', (setLeaves ls ups)[k]? = some l' := by
  have : k < (setLeaves ls ups).length := by rw [setLeaves_length]; exact lt_of_getElem? h
  exact ⟨_, List.getElem?_eq_getElem this⟩

theorem vel_of_mem_setLeaves {ups : List (Upd ℚ)} {ls : List (PUnit ℚ)} {w : Option (List ℚ)} (hv : ∀ u ∈ ups, u.vel = w)
    (hcov : ∀ k, k < ls.length → k ∈ ups.map (·.leaf)) : ∀ l ∈ setLeaves ls ups, l.vel = w := by
  intro l hl
  obtain ⟨k, hk⟩ := List.getElem?_of_mem hl
  rcases setLeaves_get ups ls k l hk with ⟨hn, h0⟩ | ⟨u, hu, _, e⟩
  · exact absurd (hcov k (lt_of_getElem? h0)) hn
  · rw [e]; exact hv u hu

theorem vel_of_mem_set_range {ls : List (PUnit ℚ)} {w : Option (List ℚ)} (mk : Nat → Upd ℚ) (hleaf : ∀ k, (mk k).leaf = k)
    (hv : ∀ k, (mk k).vel = w) : ∀ l ∈ setLeaves ls ((List.range ls.length).map mk), l.vel = w :=
  vel_of_mem_setLeaves (List.forall_mem_map.mpr fun k _ => hv k) fun k hk => by
    rw [List.map_map]
    exact List.mem_map.mpr ⟨k, List.mem_range.mpr hk, hleaf k⟩

theorem exists_moving_setLeaves {ups : List (Upd ℚ)} {ls : List (PUnit ℚ)} {u : Upd ℚ} {l : PUnit ℚ} (hu : u ∈ ups)
    (hl : ls[u.leaf]? = some l) (hv : ∀ u ∈ ups, u.vel ≠ none) : ∃ l ∈ setLeaves ls ups, l.vel ≠ none := by
  obtain ⟨l', hl'⟩ := setLeaves_exists ups hl
  refine ⟨l', List.mem_of_getElem? hl', ?_⟩
  rcases setLeaves_get ups ls _ l' hl' with ⟨hn, _⟩ | ⟨u', hu', _, e⟩
  · exact absurd (List.mem_map_of_mem hu) hn
  · rw [e]; exact hv u' hu'

theorem uok_stop {t : Time ℚ} {l : PUnit ℚ} {v : List ℚ} (j : Nat) (hl : l.vel = some v) (hv : v.length = d) :
    UOK d t l ⟨j, none, none, some (vneg v)⟩ :=
  ⟨fun _ h => (nomatch h), fun _ h => by cases h; simpa using hv,
    fun k => by simp only [dvAt, velOpt, velAt, hl, getD_vneg]; ring⟩

theorem uok_go {t : Time ℚ} {l : PUnit ℚ} {v : List ℚ} (j : Nat) (hl : l.vel = none) (hv : v.length = d) :
    UOK d t l ⟨j, some v, some t, some v⟩ :=
  ⟨fun _ h => by cases h; exact ⟨hv, rfl⟩, fun _ h => by cases h; exact hv,
    fun k => by simp only [dvAt, velOpt, velAt, hl]; ring⟩

theorem uok_change {t : Time ℚ} {l : PUnit ℚ} {old vn : List ℚ} (j : Nat) (hl : l.vel = some old)
    (ho : old.length = d) (hv : vn.length = d) : UOK d t l ⟨j, some vn, some t, some (vadd (vneg old) vn)⟩ := by
  have hlen : (vneg old).length = vn.length := by simp [ho, hv]
  exact ⟨fun _ h => by cases h; exact ⟨hv, rfl⟩, fun _ h => by cases h; rw [length_vadd _ _ hlen]; simpa using ho,
    fun k => by simp only [dvAt, velOpt, velAt, hl, getD_vadd _ _ hlen, getD_vneg]; ring⟩

theorem uok_same {t : Time ℚ} {l : PUnit ℚ} {v : List ℚ} (j : Nat) (hl : l.vel = some v) (hv : v.length = d) :
    UOK d t l ⟨j, some v, some t, none⟩ :=
  ⟨fun _ h => by cases h; exact ⟨hv, rfl⟩, fun _ h => (nomatch h), fun k => by simp only [dvAt, velOpt, velAt, hl]; ring⟩

theorem finalize_NZ {v : List ℚ} (h : NZ v) (j : Nat) (ts : Option (Time ℚ)) (dv : List ℚ) :
    finalize isZ j v ts dv = ⟨j, some v, ts, some dv⟩ := by
  have : v.all isZ = false := by
    cases hh : v.all isZ
    · rfl
    · exact absurd (all_zero_getD v hh h.choose) h.choose_spec
  simp [finalize, this]

theorem finalize_zeros (old : List ℚ) (j : Nat) (ts : Option (Time ℚ)) (dv : List ℚ) :
    finalize isZ j (zeros Ops.rat old) ts dv = ⟨j, none, none, some dv⟩ := by
  simp [finalize, zeros, isZ, Ops.rat]

theorem applyUpds_of_good (hL : BoxOK d L) (t : Time ℚ) {ups : List (Upd ℚ)}
    (hg : Good d L c) (hsl : LS t c) (hups : UpdsOK d t c.leaves ups) (hsh' : Sh (setLeaves c.leaves ups))
    (hmove : c.root.vel = none → (∃ u ∈ ups, u.dv ≠ none) → ∃ l ∈ setLeaves c.leaves ups, l.vel ≠ none) :
    Good d L (applyUpds Ops.rat isZ L t ups c) :=
  applyUpds_good hL t hg.wf hg.vel hg.rnz (hg.pos _) hsl hups hsh' hmove

theorem Good.vel_length (hg : Good d L c) {a : PUnit ℚ} {v : List ℚ} (ha : a ∈ c.leaves) (hav : a.vel = some v) :
    v.length = d := ((hg.wf.2.1 a ha).2 v hav).1

theorem root_moving (hg : Good d L c) {l : PUnit ℚ} (hl : l ∈ c.leaves) (hm : l.vel ≠ none) :
    c.root.vel ≠ none := fun h => hm ((absent_iff hg.wf.2.2 hg.vel hg.sh hg.rnz).mp h l hl)

/-- an object with a moving member: the root moves, so nothing is asked of the case "root at rest" -/
theorem applyUpds_of_moving (hL : BoxOK d L) (t : Time ℚ) {ups : List (Upd ℚ)}
    (hg : Good d L c) (hsl : LS t c) {a : PUnit ℚ} {v : List ℚ} (ha : a ∈ c.leaves) (hav : a.vel = some v)
    (hups : UpdsOK d t c.leaves ups) (hsh' : Sh (setLeaves c.leaves ups)) : Good d L (applyUpds Ops.rat isZ L t ups c) :=
  applyUpds_of_good hL t hg hsl hups hsh' fun hroot => absurd hroot (root_moving hg ha (by rw [hav]; simp))

theorem shared_of_moving (hg : Good d L c) {a : PUnit ℚ} {v : List ℚ} (ha : a ∈ c.leaves)
    (hav : a.vel = some v) : NZ v ∧ ∀ l ∈ c.leaves, l.vel = none ∨ l.vel = some v := by
  obtain ⟨w, hw, hsh⟩ := hg.sh
  rcases hsh a ha with h | h
  · rw [hav] at h; exact absurd h (by simp)
  · rw [hav] at h; simp only [Option.some.injEq] at h; subst h; exact ⟨hw, hsh⟩

theorem at_rest_LS (t : Time ℚ) (h : ∀ l ∈ c.leaves, l.vel = none) : LS t c :=
  fun l hl hne => absurd (h l hl) hne

/-- cell-boundary event; hypothesis: the boundary `x` is the coordinate the unit has reached at the event time (exact
arithmetic: the event time was computed as the time at which the unit reaches that boundary) -/
theorem snap_good (hL : BoxOK d L) (h : AllGood d L cs) (t : Time ℚ) (S : List Nat) (i : Nat) (j : Option Nat) (dd : Nat)
    (x : ℚ) (hx : C12.Adm d L cs (.snap t S i j dd x)) : AllGood d L (step Ops.rat isZ L cs (.snap t S i j dd x)) := by
  have hG := (sliceAt_spec hL t S h).1
  show AllGood d L (snap Ops.rat L t S i j dd x cs)
  unfold snap
  apply allGood_modify hG
  intro c hc
  have hxc := hx c hc
  cases j with
  | none =>
    simp only at hxc ⊢
    rw [hxc, setCoord_getD]
    exact hG.get hc
  | some j =>
    simp only at hxc ⊢
    rw [modify_eq_self _ c.leaves j (fun l hl => by rw [hxc l hl, setCoord_getD])]
    exact hG.get hc

theorem exists_getElem?_of_lt {β : Type} {ls : List β} {k : Nat} (h : k < ls.length) : ∃ l, ls[k]? = some l ∧ l ∈ ls :=
  ⟨ls[k], List.getElem?_eq_getElem h, List.getElem_mem h⟩

theorem stop_leaf_good (hL : BoxOK d L) (t : Time ℚ) (gc : Good d L c) (hsl : LS t c)
    {j : Nat} {a : PUnit ℚ} {v : List ℚ} (ha : c.leaves[j]? = some a) (hav : a.vel = some v) :
    Good d L (applyUpds Ops.rat isZ L t [⟨j, none, none, some (vneg v)⟩] c) := by
  have ham := List.mem_of_getElem? ha
  obtain ⟨hNZ, hshc⟩ := shared_of_moving gc ham hav
  exact applyUpds_of_moving hL t gc hsl ham hav (updsOK_one ha (uok_stop j hav (gc.vel_length ham hav)))
    (sh_setLeaves hNZ (fun k l hk _ => hshc l (List.mem_of_getElem? hk)) (by simp))

theorem go_leaf_good (hL : BoxOK d L) (t : Time ℚ) (gc : Good d L c)
    (hrest : ∀ l ∈ c.leaves, l.vel = none) {j : Nat} {b : PUnit ℚ} (hb : c.leaves[j]? = some b) {v : List ℚ} (hNZ : NZ v)
    (hvl : v.length = d) : Good d L (applyUpds Ops.rat isZ L t [⟨j, some v, some t, some v⟩] c) :=
  applyUpds_of_good hL t gc (at_rest_LS t hrest) (updsOK_one hb (uok_go j (hrest b (List.mem_of_getElem? hb)) hvl))
    (sh_setLeaves hNZ (fun k l hk _ => Or.inl (hrest l (List.mem_of_getElem? hk))) (by simp))
    fun _ _ => exists_moving_setLeaves List.mem_cons_self hb (by simp)

theorem move_leaf_good (hL : BoxOK d L) (t : Time ℚ) (gc : Good d L c) (hsl : LS t c)
    {j j' : Nat} {a b : PUnit ℚ} {old vn : List ℚ} (ha : c.leaves[j]? = some a) (hav : a.vel = some old)
    (hb : c.leaves[j']? = some b) (hbv : b.vel = none) (hNZ : NZ vn) (hvl : vn.length = d)
    (hothers : ∀ k l, c.leaves[k]? = some l → k ≠ j → k ≠ j' → l.vel = none ∨ l.vel = some vn) :
    Good d L (applyUpds Ops.rat isZ L t [⟨j, none, none, some (vneg old)⟩, ⟨j', some vn, some t, some vn⟩] c) := by
  have ham := List.mem_of_getElem? ha
  have hjj : j ≠ j' := by
    rintro rfl
    rw [ha] at hb; cases hb
    rw [hav] at hbv; cases hbv
  refine applyUpds_of_moving hL t gc hsl ham hav
    (updsOK_snoc (updsOK_one ha (uok_stop j hav (gc.vel_length ham hav))) (by simpa using hjj.symm) hb
      (uok_go j' hbv hvl))
    (sh_setLeaves hNZ (fun k l hk hnot => ?_) (by simp))
  simp only [List.map_cons, List.map_nil, List.mem_cons, List.not_mem_nil, or_false, not_or] at hnot
  exact hothers k l hk hnot.1 hnot.2

/-- all leaves of a moving object stop (`_pass_composite_object_velocity`, end of chain in root mode) -/
theorem stop_all_good (hL : BoxOK d L) (t : Time ℚ) (gc : Good d L c) (hsl : LS t c)
    {v : List ℚ} (hall : ∀ l ∈ c.leaves, l.vel = some v) :
    Good d L (applyUpds Ops.rat isZ L t ((List.range c.leaves.length).map (fun k => ⟨k, none, none, some (vneg v)⟩)) c) := by
  obtain ⟨a, ham⟩ := List.exists_mem_of_ne_nil _ gc.wf.2.2
  have hav := hall a ham
  refine applyUpds_of_moving hL t gc hsl ham hav (updsOK_map _ _ (fun _ => rfl) List.nodup_range fun k hk => ?_)
    ⟨v, (shared_of_moving gc ham hav).1, fun l hl => Or.inl (vel_of_mem_set_range (w := none) _ (fun _ => rfl) (by intro _; rfl) l hl)⟩
  obtain ⟨l, hl, hlm⟩ := exists_getElem?_of_lt (List.mem_range.mp hk)
  exact ⟨l, hl, uok_stop k (hall l hlm) (gc.vel_length ham hav)⟩

theorem go_all_good (hL : BoxOK d L) (t : Time ℚ) (gc : Good d L c)
    (hrest : ∀ l ∈ c.leaves, l.vel = none) {v : List ℚ} (hNZ : NZ v) (hvl : v.length = d) :
    Good d L (applyUpds Ops.rat isZ L t ((List.range c.leaves.length).map (fun k => ⟨k, some v, some t, some v⟩)) c) := by
  have hall := vel_of_mem_set_range (ls := c.leaves) (fun k => ⟨k, some v, some t, some v⟩) (fun _ => rfl) fun _ => rfl
  refine applyUpds_of_good hL t gc (at_rest_LS t hrest) (updsOK_map _ _ (fun _ => rfl) List.nodup_range fun k hk => ?_)
    ⟨v, hNZ, fun l hl => Or.inr (hall l hl)⟩ fun _ _ => ?_
  · obtain ⟨l, hl, hlm⟩ := exists_getElem?_of_lt (List.mem_range.mp hk)
    exact ⟨l, hl, uok_go k (hrest l hlm) hvl⟩
  · obtain ⟨l, hl⟩ := List.exists_mem_of_ne_nil _ (setLeaves_ne_nil _ gc.wf.2.2)
    exact ⟨l, hl, by rw [hall l hl]; simp⟩

/-- all leaves of a moving object change their velocity from `old` to `vn` (end of chain in root mode, same object) -/
theorem change_all_good (hL : BoxOK d L) (t : Time ℚ) (gc : Good d L c) (hsl : LS t c)
    {old vn : List ℚ} (hall : ∀ l ∈ c.leaves, l.vel = some old) (hNZ : NZ vn) (hvl : vn.length = d) :
    Good d L (applyUpds Ops.rat isZ L t
      ((List.range c.leaves.length).map (fun k => ⟨k, some vn, (c.leaves[k]?).bind (·.ts), some (vadd (vneg old) vn)⟩)) c) := by
  obtain ⟨a, ham⟩ := List.exists_mem_of_ne_nil _ gc.wf.2.2
  have hav := hall a ham
  refine applyUpds_of_moving hL t gc hsl ham hav (updsOK_map _ _ (fun _ => rfl) List.nodup_range fun k hk => ?_)
    ⟨vn, hNZ, fun l hl => Or.inr (vel_of_mem_set_range (w := some vn) _ (fun _ => rfl) (by intro _; rfl) l hl)⟩
  obtain ⟨l, hl, hlm⟩ := exists_getElem?_of_lt (List.mem_range.mp hk)
  refine ⟨l, hl, ?_⟩
  show UOK d t l ⟨k, some vn, (c.leaves[k]?).bind (·.ts), some (vadd (vneg old) vn)⟩
  rw [hl, Option.bind_some, hsl l hlm (by rw [hall l hlm]; simp)]
  exact uok_change k (hall l hlm) (gc.vel_length ham hav) hvl

/-- the leaves time-sliced, the root not (the root copy of the second branch in an end-of-chain out-state) -/
theorem sliceLeaves_good (hL : BoxOK d L) (t : Time ℚ) (h : Good d L c) :
    Good d L { sliceComp Ops.rat L t c with root := c.root } ∧ LS t { sliceComp Ops.rat L t c with root := c.root } := by
  obtain ⟨hs, hls⟩ := sliceComp_good hL t h
  refine ⟨⟨⟨h.wf.1, hs.wf.2.1, hs.wf.2.2⟩, ?_, hs.sh, h.rnz, ?_⟩, hls⟩
  · intro k
    have := hs.vel k
    simp only [sliceComp] at this ⊢
    rw [← this]; simp [velAt]
  · intro τ k hk
    have hk' : k < d := by rw [← hL.1]; exact hk
    have h1 := hs.pos τ k hk
    simp only [sliceComp] at h1 ⊢
    exact (Cong.nat_mul _ ((timeSlice_spec hL t h.wf.1).2.2 τ k hk')).symm.trans h1

/-- `_exchange_velocity`. Hypotheses: the code's assertions (active leaf moves, target leaf at rest) and, for an exchange
between two objects, *(one chain)*: the receiving object is at rest. -/
theorem exchange_good (hL : BoxOK d L) (h : AllGood d L cs) (t : Time ℚ) (S : List Nat) (i j i' j' : Nat)
    (hadm : C12.Adm d L cs (.exchange t S i j i' j')) : AllGood d L (step Ops.rat isZ L cs (.exchange t S i j i' j')) := by
  obtain ⟨hiS, a, b, v, ha, hav, hb, hbv, hrest⟩ := hadm
  obtain ⟨hG, hS⟩ := sliceAt_spec hL t S h
  show AllGood d L (exchange Ops.rat isZ L t S i j i' j' cs)
  unfold exchange
  simp only [ha, hav]
  generalize sliceAt Ops.rat L t S cs = sl at *
  obtain ⟨c, hc, ha⟩ := leafOf_eq_some.mp ha
  obtain ⟨c', hc', hb⟩ := leafOf_eq_some.mp hb
  have gc := hG.get hc
  have hls := hS i hiS c hc
  have ham := List.mem_of_getElem? ha
  obtain ⟨hvl, _⟩ := (gc.wf.2.1 a ham).2 v hav
  obtain ⟨hNZ, hshc⟩ := shared_of_moving gc ham hav
  rw [scale1_rat, hls a ham (by rw [hav]; simp)]
  unfold apply2
  by_cases hii : i = i'
  · subst hii
    rw [hc] at hc'; cases hc'
    simp only [beq_self_eq_true, if_true]
    exact allGood_modify_at hG hc (move_leaf_good hL t gc hls ha hav hb hbv hNZ hvl
      fun k l hk _ _ => hshc l (List.mem_of_getElem? hk))
  · simp only [show (i == i') = false by simpa using hii, Bool.false_eq_true, if_false]
    exact allGood_modify₂ hG hii hc hc' (stop_leaf_good hL t gc hls ha hav)
      (go_leaf_good hL t (hG.get hc') (hrest hii c' hc') hb hNZ hvl)

theorem sliceAt_single (L : List ℚ) (t : Time ℚ) (i : Nat) (cs : List (CObj ℚ)) :
    sliceAt Ops.rat L t [i] cs = cs.modify i (sliceComp Ops.rat L t) := rfl

theorem passLocalUpds_rat (v : List ℚ) (n : Nat) :
    passLocalUpds Ops.rat v n = (List.range n).map (fun k => (⟨k, none, none, some (vneg v)⟩ : Upd ℚ)) := by
  simp [passLocalUpds]

theorem passTargetUpds_rat (t : Time ℚ) (v : List ℚ) (n : Nat) :
    passTargetUpds Ops.rat t v n = (List.range n).map (fun k => (⟨k, some v, some t, some v⟩ : Upd ℚ)) := by
  simp [passTargetUpds]

theorem setLeaves_range (w : Option (List ℚ)) (s : Option (Time ℚ)) (dv : Nat → Option (List ℚ)) :
    ∀ (ls pre : List (PUnit ℚ)),
    setLeaves (pre ++ ls) ((List.range' pre.length ls.length).map fun k => ⟨k, w, s, dv k⟩)
      = pre ++ ls.map fun l => ⟨l.pos, w, s⟩
  | [], pre => by simp
  | l :: ls, pre => by
    have ih := setLeaves_range w s dv ls (pre ++ [⟨l.pos, w, s⟩])
    simp only [List.length_append, List.length_singleton, List.append_assoc, List.singleton_append] at ih
    rw [List.length_cons, List.range'_succ, List.map_cons, setLeaves_cons, List.map_cons, ← ih,
      List.modify_eq_take_drop, List.take_left' rfl, List.drop_left' rfl]
    rfl

theorem pendOf_range (w : ℚ) (x : List ℚ) (mk : Nat → Upd ℚ) (hmk : ∀ k, (mk k).dv = some x) (n : Nat) :
    pendOf w ((List.range (n + 1)).map mk) = some (x.map (· * ((n + 1 : ℕ) * w))) := by
  induction n with
  | zero => simp [pendOf, pendFrom, hmk, register, vscale]
  | succ n ih =>
    have happ : ∀ A B : List (Upd ℚ), pendOf w (A ++ B) = pendFrom w (pendOf w A) B := fun A B => List.foldl_append ..
    rw [List.range_succ, List.map_append, happ, ih, List.map_singleton, pendFrom_cons_some (hmk _)]
    simp only [pendFrom, List.foldl_nil, register, vscale, vadd, List.zipWith_map_left, List.zipWith_map_right,
      List.zipWith_self, ← mul_add, Nat.cast_succ, add_mul, one_mul]

/-- the object that loses its velocity in `pass`: the root is time-sliced and stops (`v + n · (-v/n) = 0`), every leaf
stops -/
theorem applyUpds_passLocal (L : List ℚ) (t : Time ℚ) {v : List ℚ} {c : CObj ℚ} (hv : c.root.vel = some v)
    (hne : c.leaves ≠ []) :
    applyUpds Ops.rat isZ L t (passLocalUpds Ops.rat v c.leaves.length) c
      = ⟨⟨(timeSlice Ops.rat L t c.root).pos, none, none⟩, c.leaves.map fun l => ⟨l.pos, none, none⟩⟩ := by
  obtain ⟨n, hn⟩ := Nat.exists_eq_succ_of_ne_zero (mt List.length_eq_zero_iff.mp hne)
  have hs := setLeaves_range none none (fun _ => some (vneg v)) c.leaves []
  rw [List.nil_append, List.length_nil, ← List.range_eq_range'] at hs
  rw [passLocalUpds_rat, applyUpds, hs, weight_rat, hn, pendOf_range _ (vneg v) _ (fun _ => rfl)]
  have h1 : ((n + 1 : ℕ) : ℚ) * (1 / (n.succ : ℕ)) = 1 := by field_simp
  rw [h1]
  simp [commitRoot, hv, vadd, vneg, isZ, List.zipWith_map_right, List.zipWith_self]

/-- the object at rest that receives the velocity in `pass`: root and leaves start with `v`, stamped with the event
time (`n · v/n = v`) -/
theorem applyUpds_passTarget (L : List ℚ) (t : Time ℚ) (v : List ℚ) {c : CObj ℚ} (hv : c.root.vel = none)
    (hne : c.leaves ≠ []) :
    applyUpds Ops.rat isZ L t (passTargetUpds Ops.rat t v c.leaves.length) c
      = ⟨⟨c.root.pos, some v, some t⟩, c.leaves.map fun l => ⟨l.pos, some v, some t⟩⟩ := by
  obtain ⟨n, hn⟩ := Nat.exists_eq_succ_of_ne_zero (mt List.length_eq_zero_iff.mp hne)
  have hs := setLeaves_range (some v) (some t) (fun _ => some v) c.leaves []
  rw [List.nil_append, List.length_nil, ← List.range_eq_range'] at hs
  rw [passTargetUpds_rat, applyUpds, hs, weight_rat, hn, pendOf_range _ v _ (fun _ => rfl)]
  have h1 : ((n + 1 : ℕ) : ℚ) * (1 / (n.succ : ℕ)) = 1 := by field_simp
  rw [h1]
  simp [commitRoot, hv]

/-- `pass` on a state of two objects, the moving one first (`pass … 0 1`) or second (`pass … 1 0`): both are time-sliced
(`sA`, `sB`), then root and leaves of the moving one stop and root and leaves of the other one start with `v` -/
theorem step_pass_pair (L : List ℚ) (t : Time ℚ) {cA cB sA sB : CObj ℚ} {v : List ℚ} {l : PUnit ℚ}
    (hA : sliceComp Ops.rat L t cA = sA) (hB : sliceComp Ops.rat L t cB = sB) (hl : sA.leaves[0]? = some l)
    (hlv : l.vel = some v) (hrA : sA.root.vel = some v) (hrB : sB.root.vel = none) (hneB : sB.leaves ≠ []) :
    step Ops.rat isZ L [cA, cB] (.pass t [0, 1] 0 1)
        = [⟨⟨(timeSlice Ops.rat L t sA.root).pos, none, none⟩, sA.leaves.map fun l => ⟨l.pos, none, none⟩⟩,
           ⟨⟨sB.root.pos, some v, some t⟩, sB.leaves.map fun l => ⟨l.pos, some v, some t⟩⟩]
      ∧ step Ops.rat isZ L [cB, cA] (.pass t [0, 1] 1 0)
        = [⟨⟨sB.root.pos, some v, some t⟩, sB.leaves.map fun l => ⟨l.pos, some v, some t⟩⟩,
           ⟨⟨(timeSlice Ops.rat L t sA.root).pos, none, none⟩, sA.leaves.map fun l => ⟨l.pos, none, none⟩⟩] := by
  have hneA : sA.leaves ≠ [] := fun h => by rw [h] at hl; cases hl
  rw [← applyUpds_passLocal L t hrA hneA, ← applyUpds_passTarget L t v hrB hneB]
  subst hA hB
  constructor <;> simp [step, pass, sliceAt, leafOf, hl, hlv]

/-- `_pass_composite_object_velocity`. Hypotheses = the two assertions of the method (all leaves of the local object share
the velocity of its first leaf, all leaves of the target object are at rest) and `iL ≠ iT`. -/
theorem pass_good (hL : BoxOK d L) (h : AllGood d L cs) (t : Time ℚ)
    (S : List Nat) (iL iT : Nat) (hiS : iL ∈ S) (hne : iL ≠ iT) {cL cT : CObj ℚ} {v : List ℚ}
    (hcL : (sliceAt Ops.rat L t S cs)[iL]? = some cL) (hcT : (sliceAt Ops.rat L t S cs)[iT]? = some cT)
    (hall : ∀ l ∈ cL.leaves, l.vel = some v) (hrest : ∀ l ∈ cT.leaves, l.vel = none) :
    AllGood d L (step Ops.rat isZ L cs (.pass t S iL iT)) := by
  obtain ⟨hG, hS⟩ := sliceAt_spec hL t S h
  show AllGood d L (pass Ops.rat isZ L t S iL iT cs)
  unfold pass
  generalize sliceAt Ops.rat L t S cs = sl at *
  have gL := hG.get hcL
  obtain ⟨a, ha, ham⟩ := exists_getElem?_of_lt (List.length_pos_iff.mpr gL.wf.2.2)
  have hav := hall a ham
  have hleaf : leafOf sl iL 0 = some a := leafOf_eq_some.mpr ⟨_, hcL, ha⟩
  simp only [hleaf, hcL, hcT, hav, show (iL == iT) = false by simpa using hne, Bool.false_eq_true, if_false,
    passLocalUpds_rat, passTargetUpds_rat]
  exact allGood_modify₂ hG hne hcL hcT (stop_all_good hL t gL (hS iL hiS _ hcL) hall)
    (go_all_good hL t (hG.get hcT) hrest (shared_of_moving gL ham hav).1 (gL.vel_length ham hav))

/-- start of run. Hypotheses: the object is at rest (initial state), `P` lists distinct existing leaves, at least one; the
initial velocity is non-zero (`speed > 0` is enforced by the constructor). -/
theorem start_good (hL : BoxOK d L) (h : AllGood d L cs) (i : Nat) (P : List Nat) (v : List ℚ)
    (hadm : C12.Adm d L cs (.start i P v)) : AllGood d L (step Ops.rat isZ L cs (.start i P v)) := by
  obtain ⟨c, hc, hrest, hP, hPn, hPne, hNZ, hvl⟩ := hadm
  show AllGood d L (start Ops.rat isZ L i P v cs)
  unfold start
  simp only [scaleN_rat]
  rw [zipIdx_map_fst (fun k => (⟨k, some v, some ⟨Ops.rat.ofInt 0, Ops.rat.ofInt 0⟩, some v⟩ : Upd ℚ))]
  refine allGood_modify_at h hc (applyUpds_of_good hL _ (h.get hc) (at_rest_LS _ hrest)
    (updsOK_map _ _ (fun _ => rfl) hP fun k hk => ?_)
    (sh_setLeaves hNZ (fun k l hk _ => Or.inl (hrest l (List.mem_of_getElem? hk)))
      (List.forall_mem_map.mpr fun _ _ => Or.inr rfl)) fun _ _ => ?_)
  · obtain ⟨l, hl, hlm⟩ := exists_getElem?_of_lt (hPn k hk)
    exact ⟨l, hl, uok_go k (hrest l hlm) hvl⟩
  · obtain ⟨k0, hk0⟩ := List.exists_mem_of_ne_nil _ hPne
    obtain ⟨l, hl, _⟩ := exists_getElem?_of_lt (hPn k0 hk0)
    exact exists_moving_setLeaves (List.mem_map_of_mem hk0) hl (List.forall_mem_map.mpr fun _ _ => by simp)

/-- switcher to leaf mode. Hypothesis = the assertion of the method: all leaves of the object share the velocity of the
first leaf. -/
theorem toLeaf_good (hL : BoxOK d L) (h : AllGood d L cs) (t : Time ℚ) (i ch : Nat)
    (hadm : C12.Adm d L cs (.toLeaf t i ch)) : AllGood d L (step Ops.rat isZ L cs (.toLeaf t i ch)) := by
  obtain ⟨co, v, hco, hall⟩ := hadm
  obtain ⟨hG, hS⟩ := sliceAt_spec hL t [i] h
  show AllGood d L (toLeaf Ops.rat isZ L t i ch cs)
  unfold toLeaf
  generalize sliceAt Ops.rat L t [i] cs = sl at *
  have gc := hG.get hco
  obtain ⟨a, ha, ham⟩ := exists_getElem?_of_lt (List.length_pos_iff.mpr gc.wf.2.2)
  have hav := hall a ham
  have hleaf : leafOf sl i 0 = some a := leafOf_eq_some.mpr ⟨_, hco, ha⟩
  simp only [hleaf, hco, hav, scaleN_rat]
  rw [zipIdx_map_fst (fun k => (⟨k, none, none, some (vneg v)⟩ : Upd ℚ))]
  refine allGood_modify_at hG hco (applyUpds_of_moving hL t gc (hS i (by simp) _ hco) ham hav
    (updsOK_map _ _ (fun _ => rfl) (List.Nodup.sublist List.filter_sublist List.nodup_range) fun k hk => ?_)
    (sh_setLeaves (shared_of_moving gc ham hav).1 (fun k l hk _ => Or.inr (hall l (List.mem_of_getElem? hk)))
      (List.forall_mem_map.mpr fun _ _ => Or.inl rfl)))
  obtain ⟨l, hl, hlm⟩ := exists_getElem?_of_lt (List.mem_range.mp (List.mem_filter.mp hk).1)
  exact ⟨l, hl, uok_stop k (hall l hlm) (gc.vel_length ham hav)⟩

/-- switcher to root mode. Hypotheses = the assertion of the method: exactly one leaf (index `a`, the first moving one)
moves. -/
theorem toRoot_good (hL : BoxOK d L) (h : AllGood d L cs) (t : Time ℚ) (i : Nat)
    (hadm : C12.Adm d L cs (.toRoot t i)) : AllGood d L (step Ops.rat isZ L cs (.toRoot t i)) := by
  obtain ⟨co, a, ua, v, hco, hact, hua, hv, hothers⟩ := hadm
  obtain ⟨hG, hS⟩ := sliceAt_spec hL t [i] h
  show AllGood d L (toRoot Ops.rat isZ L t i cs)
  unfold toRoot
  generalize sliceAt Ops.rat L t [i] cs = sl at *
  have gc := hG.get hco
  have hls := hS i (by simp) _ hco
  have ham := List.mem_of_getElem? hua
  have hvl := gc.vel_length ham hv
  simp only [hco, hact, hua, hv, hls ua ham (by rw [hv]; simp), scaleN_rat]
  rw [zipIdx_map_fst (fun k => (⟨k, some v, some t, some v⟩ : Upd ℚ))]
  refine allGood_modify_at hG hco (applyUpds_of_moving hL t gc hls ham hv ?_
    (sh_setLeaves (shared_of_moving gc ham hv).1 (fun k l hk hnot => absurd ?_ hnot) fun u hu => ?_))
  · refine updsOK_snoc (updsOK_map _ _ (fun _ => rfl) (List.Nodup.sublist List.filter_sublist List.nodup_range)
      fun k hk => ?_) (not_mem_filter_map _ _ _ fun _ => rfl) hua (uok_same a hv hvl)
    obtain ⟨hk1, hk2⟩ := List.mem_filter.mp hk
    obtain ⟨l, hl, _⟩ := exists_getElem?_of_lt (List.mem_range.mp hk1)
    exact ⟨l, hl, uok_go k (hothers k l hl (by simpa using hk2)) hvl⟩
  · rw [List.map_append]
    by_cases hka : k = a
    · subst hka; simp
    · exact List.mem_append_left _ (cover_filter_map _ _ _ (fun _ => rfl) k (lt_of_getElem? hk) hka)
  · rcases List.mem_append.mp hu with hu | hu
    · obtain ⟨k, _, rfl⟩ := List.mem_map.mp hu; exact Or.inr rfl
    · obtain rfl := List.mem_singleton.mp hu; exact Or.inr rfl

/-- end of chain in root mode. Hypotheses = the assertions of `send_out_state` (all leaves of the active object share one
velocity; the leaves of a *different* new object are at rest) and a non-zero new velocity of the right length. -/
theorem eocRoot_good (hL : BoxOK d L) (h : AllGood d L cs) (t : Time ℚ) (i i' : Nat) (vn : List ℚ)
    (hadm : C12.Adm d L cs (.eocRoot t i i' vn)) : AllGood d L (step Ops.rat isZ L cs (.eocRoot t i i' vn)) := by
  obtain ⟨c, c', old, hc, hc', hall, hrest, hNZ, hvl⟩ := hadm
  obtain ⟨hG, hS⟩ := sliceAt_spec hL t [i] h
  show AllGood d L (eocRoot Ops.rat isZ L t i i' vn cs)
  unfold eocRoot
  generalize sliceAt Ops.rat L t [i] cs = sl at *
  have gc := hG.get hc
  have hls := hS i (by simp) _ hc
  obtain ⟨a, ha, ham⟩ := exists_getElem?_of_lt (List.length_pos_iff.mpr gc.wf.2.2)
  have hleaf : leafOf sl i 0 = some a := leafOf_eq_some.mpr ⟨_, hc, ha⟩
  simp only [hleaf, hc, hc', hall a ham, finalize_NZ hNZ, finalize_zeros]
  by_cases hii : i = i'
  · subst hii
    simp only [beq_self_eq_true, if_true]
    exact allGood_modify_at hG hc (change_all_good hL t gc hls hall hNZ hvl)
  · simp only [show (i == i') = false by simpa using hii, Bool.false_eq_true, if_false]
    exact allGood_modify₂ hG hii hc hc' (stop_all_good hL t gc hls hall) (go_all_good hL t (hG.get hc') (hrest hii) hNZ hvl)

/-- end of chain in leaf mode. Hypotheses: leaf `(i, j)` is the only moving leaf of its object (leaf mode); the new leaf
exists; if it lies in another object, that object is at rest *(one chain; the code asserts it for the new leaf)*; the new
velocity is non-zero and has the right length. -/
theorem eocLeaf_good (hL : BoxOK d L) (h : AllGood d L cs) (t : Time ℚ) (i j i' j' : Nat) (vn : List ℚ)
    (hadm : C12.Adm d L cs (.eocLeaf t i j i' j' vn)) : AllGood d L (step Ops.rat isZ L cs (.eocLeaf t i j i' j' vn)) := by
  obtain ⟨c0, c', a, b, old, hc0, ha, hav, hmode, hc', hb, hrest, hNZ, hvl⟩ := hadm
  obtain ⟨hG, hS⟩ := sliceAt_spec hL t [i] h
  show AllGood d L (eocLeaf Ops.rat isZ L t i j i' j' vn cs)
  unfold eocLeaf
  have hc : (sliceAt Ops.rat L t [i] cs)[i]? = some (sliceComp Ops.rat L t c0) := by
    rw [sliceAt_single, getElem?_modify_self, hc0]; rfl
  generalize sliceAt Ops.rat L t [i] cs = sl at *
  have gc := hG.get hc
  have hls := hS i (by simp) _ hc
  have ham := List.mem_of_getElem? ha
  have hleaf : leafOf sl i j = some a := leafOf_eq_some.mpr ⟨_, hc, ha⟩
  simp only [hleaf, hc0, hav, finalize_NZ hNZ, finalize_zeros, hls a ham (by rw [hav]; simp)]
  by_cases hii : i = i'
  · subst hii
    simp only [beq_self_eq_true, if_true]
    rw [hc] at hc'; cases hc'
    by_cases hjj : j = j'
    · subst hjj
      simp only [beq_self_eq_true, if_true]
      refine allGood_modify_at hG hc (applyUpds_of_moving hL t gc hls ham hav
        (updsOK_one ha (uok_change j hav (gc.vel_length ham hav) hvl))
        (sh_setLeaves hNZ (fun k l hk hnot => Or.inl (hmode k l hk ?_)) (by simp)))
      simpa using hnot
    · simp only [show (j == j') = false by simpa using hjj, Bool.false_eq_true, if_false]
      obtain ⟨g2, l2⟩ := sliceLeaves_good hL t (h.get hc0)
      exact allGood_modify_at hG hc (move_leaf_good hL t g2 l2 (j := j) (j' := j') ha hav hb
        (hmode j' b hb (fun e => hjj e.symm)) hNZ hvl (fun k l hk hkj _ => Or.inl (hmode k l hk hkj)))
  · simp only [show (i == i') = false by simpa using hii, Bool.false_eq_true, if_false]
    exact allGood_modify₂ hG hii hc hc' (stop_leaf_good hL t gc hls ha hav) (go_leaf_good hL t (hG.get hc') (hrest hii) hb hNZ hvl)

end JF.Composite
