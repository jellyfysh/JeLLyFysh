import JF.Lemmas.Periodic
import JF.Lemmas.ModL
/-!
Rounding-abstract reading of the scalar layer for C15.

`RQ R` are rational numbers whose `+` and `-` round their exact result with an arbitrary *monotone, idempotent*
rounding function `R.rnd : ℚ → ℚ` (every IEEE-754 rounding mode restricted to the range without overflow is one;
this is NOT proved here about Lean's `Float`, it is the standard abstraction).  `fmod` is exact, as in C.
The model functions `wrap` / `wrapSep` of `JF.Model.Periodic` are instantiated at this scalar type unchanged.
-/
namespace JF.Periodic
open JF

/-- an abstract rounding: monotone and idempotent -/
structure Rnd where
  rnd : ℚ → ℚ
  mono : ∀ {a b : ℚ}, a ≤ b → rnd a ≤ rnd b
  idem : ∀ a : ℚ, rnd (rnd a) = rnd a

def Rnd.Rep (R : Rnd) (a : ℚ) : Prop := R.rnd a = a

theorem Rnd.rep_rnd (R : Rnd) (a : ℚ) : R.Rep (R.rnd a) := R.idem a

/-- rationals with rounded addition and subtraction -/
structure RQ (R : Rnd) where
  val : ℚ

namespace RQ
variable {R : Rnd}
instance : Add (RQ R) := ⟨fun a b => ⟨R.rnd (a.val + b.val)⟩⟩
instance : Sub (RQ R) := ⟨fun a b => ⟨R.rnd (a.val - b.val)⟩⟩
instance : LT (RQ R) := ⟨fun a b => a.val < b.val⟩
instance : DecidableLT (RQ R) := fun a b => inferInstanceAs (Decidable (a.val < b.val))
instance : BEq (RQ R) := ⟨fun a b => a.val == b.val⟩
@[simp] theorem add_val (a b : RQ R) : (a + b).val = R.rnd (a.val + b.val) := rfl
@[simp] theorem sub_val (a b : RQ R) : (a - b).val = R.rnd (a.val - b.val) := rfl
@[simp] theorem lt_iff (a b : RQ R) : a < b ↔ a.val < b.val := Iff.rfl
@[simp] theorem bne_iff (a b : RQ R) : (a != b) = (a.val != b.val) := rfl
end RQ

/-- the scalar operations over `RQ R`: exact `fmod` (C semantics), signed zeros not distinguished -/
def opsRq (R : Rnd) : Ops (RQ R) where
  ofInt n := ⟨(n : ℚ)⟩
  floor x := ⟨(⌊x.val⌋ : ℚ)⟩
  fmod x y := ⟨Ops.rat.fmod x.val y.val⟩
  toInt x := Rat.trunc x.val
  isInf _ := false
  zeroLike _ := ⟨0⟩
  sqrt x := x

/-- Python's `x % L` in rounded arithmetic is the exact result, rounded ONCE
(given that `fmod`'s exact result is representable, which holds for binary floating point) -/
theorem rq_pymod (R : Rnd) (x L : RQ R) (h0 : R.Rep 0) (hm : R.Rep (Ops.rat.fmod x.val L.val)) :
    (pymod (opsRq R) x L).val = R.rnd (pymod Ops.rat x.val L.val) :=
  pymod_val (opsRq R) RQ.val R.rnd RQ.add_val RQ.lt_iff RQ.bne_iff (fun _ => rfl) (fun _ => rfl) (fun _ _ => rfl) x L h0 hm

theorem fmod_rat_fixed {y L : ℚ} (h0 : 0 ≤ y) (h1 : y < L) : Ops.rat.fmod y L = y := by
  have hL : 0 < L := h0.trans_lt h1
  rw [fmod_rat_nonneg (div_nonneg h0 hL.le), ← C15.wrap_eq hL, C15.wrap_fixed hL h0 h1]

end JF.Periodic
