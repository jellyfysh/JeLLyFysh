import JF.Props.C09
/-!
C09, last clause — from "the yield of every created tagger is no longer than its pool" to "`TagActivatorError` is never raised"
(`TagActivator._get_event_handlers_to_run_update`: `self._not_running_event_handlers[tagger].pop()` on an empty list).

`TagActivator._get_event_handlers_to_run_update` asks `tagger.yield_identifiers_send_event_time(state)` of every tagger of the create
list, but a DEACTIVATED tagger is bound to `_deactivated_yield_identifiers_send_event_time` (`iter(())`): it takes nothing out of its
pool.  So the demand that matters is the demand of the taggers that are activated AFTER the activate / deactivate lists of the
committing tagger were applied (`actAfter`, = `aGet (aStep c (absOf s) E) T`); the lemmas ask for the bound only there.

`commit_isSome_act`: one leg (`get_trashable_events` then `get_event_handlers_to_run`) does not raise if every created tagger is
trashed in the same leg or has nothing pending, and yields at most `pool` in-states on the new state.
`run_next_commit_isSome_act`: in every run (`JF.Act.Run`) of a configuration with `WiringSound`, the first premise holds by itself —
what remains is the bound on the yields.  `Attempt` / `attempt_run`: the run relation WITHOUT the "this commit did not raise"
premise; under a demand bound every such run is a run, i.e. no pool is ever exhausted.
-/
namespace JF.C09Pools
open JF JF.Act

theorem pool_length_poolsFrom (off : Nat) (ts : List TaggerW) (i : Nat) :
    (getW (poolsFrom off ts) i).pool.length =
      ((ts[i]?).getD ⟨"", .unknown, "", .unknown, [], [], [], [], 0, none⟩).pool := by
  induction ts generalizing off i with
  | nil => simp [poolsFrom, getW, TWire.empty]
  | cons t ts ih =>
    cases i with
    | zero => simp [poolsFrom, getW]
    | succ i => simpa [poolsFrom, getW] using ih (off + t.pool) i

/-- the model's pool of tagger `i` has `pool` handlers (`len(tagger.get_event_handlers())`) -/
theorem pool_length_wires (c : Wiring) (i : Nat) : (getW c.wires i).pool.length = (c.tagger i).pool :=
  pool_length_poolsFrom 0 c.taggers i

theorem wiringSound_parts {c : Wiring} {S : TaggerIdx} (sound : WiringSound c = true) (hS : c.start? = some S) :
    Static c S ∧ closed c (reach c S) = true ∧ (violations c (reach c S)).isEmpty = true :=
  have h := wiringSound_spec sound hS
  ⟨static_of_wfStatic h.1, h.2.2⟩

/-- **one leg does not raise `TagActivatorError`** if every tagger of the create list (i) is trashed in the same leg or has no
pending handler and (ii) — IF IT IS ACTIVATED after the activate / deactivate lists of `E` — yields at most as many in-states on the
new state as its pool holds -/
theorem commit_isSome_act {G : Type} {c : Wiring} {S : TaggerIdx} {W : World G} {rs : RS G} {E : TaggerIdx} {g' : G} (st : Static c S)
    (pinv : PoolInv c.wires rs.act)
    (hidle : ∀ T ∈ (c.tagger E).creates, T ∈ (c.tagger E).trashes ∨ (getT rs.act T).running = [])
    (hb : ∀ T ∈ (c.tagger E).creates, aGet (aStep c (absOf rs.act) E) T = true → (W.yieldOf T g').length ≤ (c.tagger T).pool) :
    (commit c.wires W rs E g').isSome = true := by
  have pinv' : PoolInv c.wires (trash c.wires rs.act E).1 := poolInv_trash E pinv
  cases hu : update c.wires (trash c.wires rs.act E).1 E (fun T => W.yieldOf T g') with
  | some r => unfold commit; rw [hu]; rfl
  | none =>
    exfalso
    obtain ⟨T, hT, hlt⟩ := (C09.update_error_iff (wfw_of_static st) pinv'.1 E _).mp hu
    rw [(getW_wires c E).1] at hT
    have hrun : (getT (trash c.wires rs.act E).1 T).running = [] := by
      rw [trash_running, kept_eq_nil, (getW_wires c E).2.1]; exact hidle T hT
    have hperm := (pinv'.2 T).length_eq
    rw [hrun, List.nil_append, pool_length_wires] at hperm
    rw [trash_activated] at hlt
    cases ha : actAfter c.wires E T (getT rs.act T).activated with
    | false => rw [ha] at hlt; simp at hlt
    | true =>
      rw [ha] at hlt
      simp only [if_true] at hlt
      have := hb T hT (by rw [aGet_aStep c rs.act E T (by rw [pinv.1, c.wires_length]; exact st.creates_lt E T hT)]; exact ha)
      omega

/-- **in every run of a sound configuration the next leg does not raise**, provided the taggers of the create list of the
committing tagger THAT ARE ACTIVATED in the activation state after the commit (`aStep`) yield at most `pool` in-states on the new
state -/
theorem run_next_commit_isSome_act {G : Type} (c : Wiring) (W : World G) (Tr : TaggerIdx → G → G → Prop) (S : TaggerIdx)
    (sound : WiringSound c = true) (hS : c.start? = some S) (fps : FootprintsSound c W Tr) (hlive : LiveIs c W)
    {rs : RS G} (hrun : Run c W Tr S rs) {E : TaggerIdx} (hpending : (getT rs.act E).running ≠ [])
    (hend : (c.tagger E).kind ≠ .endOfRun) {g' : G}
    (hb : ∀ T ∈ (c.tagger E).creates, aGet (aStep c (absOf rs.act) E) T = true →
      (W.yieldOf T g').length ≤ (c.tagger T).pool) :
    (commit c.wires W rs E g').isSome = true := by
  have ih := run_inv c W Tr S sound hS fps hlive hrun
  obtain ⟨st, _, hviol⟩ := wiringSound_parts sound hS
  obtain ⟨_, _, hSu⟩ := start_spec hS
  obtain ⟨hEn, _, hcan⟩ := ih.canCommit_pending hS hlive.live hpending hend
  refine commit_isSome_act st ih.pool (fun T hT => ?_) hb
  by_cases ht : T ∈ (c.tagger E).trashes
  · exact Or.inl ht
  · right
    have hTn : T < c.n := st.creates_lt E T hT
    have hTk : (c.tagger T).kind ≠ .startOfRun := by
      intro hk
      have := hSu T hTn hk
      subst this
      exact st.start_not_created E hT
    have := (clauses_of_no_violation (no_violation hviol ih.reach hEn hcan hTn) hTk).1 hT ht
    rw [aGet_absOf] at this
    exact fresh_nil_of_deactivated (ih.fresh T ((hlive T).mpr ⟨hTn, hTk⟩)) this

/-- the commit of the start-of-run event (second call of `get_event_handlers_to_run`), activation-aware -/
theorem start_commit_isSome_act {G : Type} (c : Wiring) (W : World G) (S : TaggerIdx) (sound : WiringSound c = true)
    (hS : c.start? = some S) {s0 : Act} {out : List (HandlerId × IdTuple)} {ys : TaggerIdx → List IdTuple}
    (hfirst : first c.wires (initAct c.wires) S ys = some (s0, out)) (ids : HandlerId → IdTuple) (g0 g1 : G)
    (hb : ∀ T ∈ (c.tagger S).creates, aGet (aStep c (absOf s0) S) T = true → (W.yieldOf T g1).length ≤ (c.tagger T).pool) :
    (commit c.wires W ⟨s0, ids, g0⟩ S g1).isSome = true := by
  obtain ⟨st, _, _⟩ := wiringSound_parts sound hS
  exact commit_isSome_act st (poolInv_first (poolInv_init c.wires) hfirst)
    (fun T hT => Or.inr (first_running_nil hfirst fun e => st.start_not_created T (e ▸ hT))) hb

/-- the very first call `get_event_handlers_to_run(state, None)` does not raise: the start-of-run tagger owns one handler
(`Wiring.start?`) and is asked for at most one in-state -/
theorem first_isSome {G : Type} (c : Wiring) (W : World G) (S : TaggerIdx) (hS : c.start? = some S) (g0 : G)
    (hb : (W.yieldOf S g0).length ≤ (c.tagger S).pool) :
    (first c.wires (initAct c.wires) S (fun T => W.yieldOf T g0)).isSome = true := by
  obtain ⟨hSn, _, _⟩ := start_spec hS
  cases hf : first c.wires (initAct c.wires) S (fun T => W.yieldOf T g0) with
  | some r => rfl
  | none =>
    exfalso
    unfold first at hf
    have hr : ∀ U ∈ [S], U < (applyActivation c.wires (initAct c.wires) S).length := by
      intro U hU
      rw [applyActivation_length]
      simp only [List.mem_singleton] at hU
      subst hU
      simp [initAct, c.wires_length, hSn]
    obtain ⟨T, hT, hlt⟩ := (createLoop_none (by simp) hr).mp hf
    simp only [List.mem_singleton] at hT
    subst hT
    rw [applyActivation_notRunning, getT_initAct] at hlt
    have hlen : T < c.wires.length := by rw [c.wires_length]; exact hSn
    simp only [hlen, if_true] at hlt
    rw [pool_length_wires] at hlt
    have : (yieldEff (getT (applyActivation c.wires (initAct c.wires) T) T) (W.yieldOf T g0)).length
        ≤ (W.yieldOf T g0).length := by
      unfold yieldEff; split <;> simp
    omega

/-- **a demand bound for a world**: on every state satisfying `I`, every tagger yields at most as many in-states as its pool holds -/
def DemandBounded {G : Type} (c : Wiring) (W : World G) (I : G → Prop) : Prop :=
  ∀ g, I g → ∀ T, T < c.n → (W.yieldOf T g).length ≤ (c.tagger T).pool

/-- the attempts of a run: like `JF.Act.Run`, but a leg is allowed to raise `TagActivatorError` (`none`); `I` is any predicate of
the global states the run visits (an invariant of the transition relation, e.g. the one-chain invariant + the occupancy invariant) -/
inductive Attempt {G : Type} (c : Wiring) (W : World G) (Tr : TaggerIdx → G → G → Prop) (I : G → Prop) (S : TaggerIdx) :
    Option (RS G) → Prop where
  | first_raises (g0 : G) (h0 : I g0)
      (hfirst : first c.wires (initAct c.wires) S (fun T => W.yieldOf T g0) = none) : Attempt c W Tr I S none
  | start (ids0 : HandlerId → IdTuple) (g0 g1 : G) (s0 : Act) (out : List (HandlerId × IdTuple)) (h0 : I g0) (h1 : I g1)
      (hfirst : first c.wires (initAct c.wires) S (fun T => W.yieldOf T g0) = some (s0, out)) :
      Attempt c W Tr I S (commit c.wires W ⟨s0, assign ids0 out, g0⟩ S g1)
  | step (rs : RS G) (E : TaggerIdx) (g' : G) (prev : Attempt c W Tr I S (some rs))
      (hpending : (getT rs.act E).running ≠ []) (hend : (c.tagger E).kind ≠ .endOfRun)
      (htr : Tr E rs.g g') (h' : I g') : Attempt c W Tr I S (commit c.wires W rs E g')

theorem attempt_run {G : Type} {c : Wiring} {W : World G} {Tr : TaggerIdx → G → G → Prop} {I : G → Prop} {S : TaggerIdx}
    {o : Option (RS G)} (h : Attempt c W Tr I S o) : ∀ rs, o = some rs → Run c W Tr S rs := by
  induction h with
  | first_raises g0 h0 hfirst => intro rs e; cases e
  | start ids0 g0 g1 s0 out h0 h1 hfirst => intro rs e; exact .start ids0 g0 g1 s0 out rs hfirst e
  | step rs E g' prev hpending hend htr h' ih => intro rs' e; exact .step rs rs' E g' (ih rs rfl) hpending hend htr e

/-- **no pool is ever exhausted**: in a configuration with `WiringSound` whose demand is bounded by the pools on the states a run
visits, NO attempt of a run ends in `TagActivatorError` — neither the first call, nor the commit of the start-of-run event, nor
any later leg -/
theorem no_pool_exhausted {G : Type} (c : Wiring) (W : World G) (Tr : TaggerIdx → G → G → Prop) (I : G → Prop) (S : TaggerIdx)
    (sound : WiringSound c = true) (hS : c.start? = some S) (fps : FootprintsSound c W Tr) (hlive : LiveIs c W)
    (hdb : DemandBounded c W I) {o : Option (RS G)} (h : Attempt c W Tr I S o) : o.isSome = true := by
  obtain ⟨st, _, _⟩ := wiringSound_parts sound hS
  obtain ⟨hSn, _, _⟩ := start_spec hS
  cases h with
  | first_raises g0 h0 hfirst =>
    have := first_isSome c W S hS g0 (hdb g0 h0 S hSn)
    rw [hfirst] at this; exact this
  | start ids0 g0 g1 s0 out h0 h1 hfirst =>
    exact start_commit_isSome_act c W S sound hS hfirst _ g0 g1 (fun T hT _ => hdb g1 h1 T (st.creates_lt S T hT))
  | step rs E g' prev hpending hend htr h' =>
    exact run_next_commit_isSome_act c W Tr S sound hS fps hlive (attempt_run prev rs rfl) hpending hend
      (fun T hT _ => hdb g' h' T (st.creates_lt E T hT))

end JF.C09Pools
