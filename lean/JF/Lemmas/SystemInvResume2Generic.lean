import JF.Lemmas.SystemInvMP2Generic
import JF.Props.C19Loop
import Mathlib.Data.List.Induction
/-!
The transport of the joint invariants to dumped-and-resumed runs, for an arbitrary composed system `T : JF.SysGen.CSys`
(`JF/Lemmas/SystemInvMP2Generic.lean`; instantiated for coulomb_atoms in `JF/Props/SystemInvResume.lean`, for composite objects in
`JF/Props/SystemInvResume2.lean`): the runs `T.ReachD W` with the heap scheduler, dumped and resumed any number of times at any leg
boundaries (a dump replaces the mediator state `m` by `dumpH xcfg m`: scheduler pickled and rebuilt, everything else — the world and
ghost fields `x : T.X` included — as it was).  Only the passage to the spec-level twin (`reachD_reach`, leg by leg
`MediatorLoop.refines_leg`) needs the no-tie hypothesis `MediatorLoop.NoTies`.
-/
namespace JF.SystemInvResume
open JF JF.Heap JF.Sched JF.Med JF.MediatorLoop
open JF.C19Loop (Step oraclesOf dumpWith runD)

theorem oraclesOf_append {κ : Type} : ∀ (ss ts : List (Step κ)), oraclesOf (ss ++ ts) = oraclesOf ss ++ oraclesOf ts := by
  intro ss ts
  induction ss with
  | nil => rfl
  | cons x ss ih =>
    cases x with
    | leg o => show o :: oraclesOf (ss ++ ts) = o :: oraclesOf ss ++ oraclesOf ts; rw [ih]; rfl
    | dump => exact ih

theorem oraclesOf_snoc_leg {κ : Type} (ss : List (Step κ)) (o : Oracle κ) :
    oraclesOf (ss ++ [.leg o]) = oraclesOf ss ++ [o] := by rw [oraclesOf_append]; rfl

theorem oraclesOf_snoc_dump {κ : Type} (ss : List (Step κ)) : oraclesOf (ss ++ [.dump]) = oraclesOf ss := by
  rw [oraclesOf_append]; exact List.append_nil _

def notDump {κ : Type} : Step κ → Bool
  | .leg _ => true
  | .dump => false

theorem filter_snoc_leg {κ : Type} (ss : List (Step κ)) (o : Oracle κ) :
    (ss ++ [Step.leg o]).filter notDump = ss.filter notDump ++ [Step.leg o] := by rw [List.filter_append]; rfl

theorem filter_snoc_dump {κ : Type} (ss : List (Step κ)) : (ss ++ [Step.dump]).filter notDump = ss.filter notDump := by
  rw [List.filter_append]; exact List.append_nil _

theorem oraclesOf_filter {κ : Type} : ∀ ss : List (Step κ), oraclesOf (ss.filter notDump) = oraclesOf ss := by
  intro ss
  induction ss with
  | nil => rfl
  | cons x ss ih =>
    cases x with
    | leg o => show o :: oraclesOf (ss.filter notDump) = o :: oraclesOf ss; rw [ih]
    | dump => exact ih

section runD
variable {κ : Type} (M : MWire) (I : SchedI κ) (pk : I.σ → I.σ)

theorem runD_append : ∀ (ss1 ss2 : List (Step κ)) (st st1 : MedState I.σ) (cs1 : List (Committed κ)),
    runD M I pk st ss1 = (cs1, .ok st1) → (∀ c ∈ cs1, c.stop = false) →
    runD M I pk st (ss1 ++ ss2) = (cs1 ++ (runD M I pk st1 ss2).1, (runD M I pk st1 ss2).2) :=
  fun ss1 ss2 st st1 cs1 e hn =>
    (C19Loop.runD_append (M := M) I pk (fun _ => True) (fun _ _ => trivial) (fun _ => trivial) ss1 ss2 st st1 cs1 trivial e hn).2

theorem runD_single {st st' : MedState I.σ} {o : Oracle κ} {c : Committed κ} (h : leg M I st o = .ok (st', c)) :
    runD M I pk st [Step.leg o] = ([c], .ok st') := by
  rw [C19Loop.runD_leg, h]
  simp only
  split <;> rfl

theorem runD_snoc_dump_fst : ∀ (ss : List (Step κ)) (st : MedState I.σ),
    (runD M I pk st (ss ++ [Step.dump])).1 = (runD M I pk st ss).1 := by
  intro ss
  induction ss with
  | nil => intro st; rfl
  | cons x ss ih =>
    intro st
    cases x with
    | dump => exact ih (dumpWith pk st)
    | leg o =>
      rw [List.cons_append, C19Loop.runD_leg, C19Loop.runD_leg]
      cases leg M I st o with
      | error e => rfl
      | ok y =>
        obtain ⟨s', c⟩ := y
        simp only
        by_cases hc : c.stop = true
        · rw [if_pos hc, if_pos hc]
        · rw [if_neg hc, if_neg hc, ih s']

end runD

end JF.SystemInvResume

namespace JF.SysGen
open JF JF.Heap JF.Sched JF.Med JF.MediatorLoop JF.Sys
open JF.Act hiding World Static
open JF.C19Loop (Step oraclesOf dumpH dumpWith StRel ExRel RunRel runD runLegsE heapBisim leg_congr)
open JF.SystemInvResume (oraclesOf_snoc_leg oraclesOf_snoc_dump notDump filter_snoc_leg filter_snoc_dump runD_append
  runD_single runD_snoc_dump_fst)

inductive CSys.ReachD (T : CSys) (W : Nat) :
    List (Step XTime) → List (Committed XTime) → MedState (HSched XTime) → T.X → Prop
  | init (m : MedState (HSched XTime)) (x : T.X) (hm : m = MedState.init (heapI xcfg W) T.M.w) (h : T.Init x) :
      ReachD T W [] [] m x
  | step {ss : List (Step XTime)} {cs : List (Committed XTime)} {m m' : MedState (HSched XTime)} {x x' : T.X}
      {o : Oracle XTime} {cm : Committed XTime} (prev : ReachD T W ss cs m x)
      (hgo : ∀ cl, cs.getLast? = some cl → cl.stop = false)
      (hleg : leg T.M (heapI xcfg W) m o = .ok (m', cm)) (hw : T.RStep (eraseS m) m.sched.last x o cm x') :
      ReachD T W (ss ++ [.leg o]) (cs ++ [cm]) m' x'
  | dump {ss : List (Step XTime)} {cs : List (Committed XTime)} {m : MedState (HSched XTime)} {x : T.X}
      (prev : ReachD T W ss cs m x) : ReachD T W (ss ++ [.dump]) cs (dumpH (W := W) xcfg m) x

section main
variable {T : CSys} {W : Nat}

/-- a dump changes neither the ghost dictionary nor the last commit time (`pickle_spec`) -/
theorem reachD_minv (hs : Static T.M) (hW : 0 < W) {ss : List (Step XTime)} {cs : List (Committed XTime)}
    {m : MedState (HSched XTime)} {x : T.X} (hr : T.ReachD W ss cs m x) :
    MInv (I := heapI xcfg W) T.M (HRelM xcfg W) m (pendOf (fun _ => none) cs) (lastOf xcfg.bot cs) := by
  induction hr with
  | init m x hm _ => rw [hm]; exact minv_init (heapLaws xcfg_strictWeak hW) T.M
  | step _ _ hleg _ ih =>
    rw [pendOf_snoc, lastOf_snoc]
    exact ih.leg (heapLaws xcfg_strictWeak hW) hs hleg
  | dump _ ih =>
    obtain ⟨P1, _, P3, _⟩ := pickle_spec xcfg_strictWeak ih.rel.1
    exact ⟨ih.pool, ⟨P1, by show (HSched.pickle xcfg _).last = _; rw [P3]; exact ih.rel.2⟩, ih.mirror⟩

theorem reachD_reach (hs : Static T.M) (hW : 0 < W) {ss : List (Step XTime)} {cs : List (Committed XTime)}
    {mH : MedState (HSched XTime)} {x : T.X} (hr : T.ReachD W ss cs mH x) (nt : NoTies xcfg xcfg.finite (fun _ => none) cs) :
    ∃ m : SM, T.ReachS (oraclesOf ss) cs m x ∧ m.act = mH.act ∧ m.preceding = mH.preceding := by
  induction hr with
  | init m x hm h =>
    refine ⟨MedState.init (specI xcfg) T.M.w, .init _ _ rfl h, ?_, ?_⟩ <;> rw [hm] <;> rfl
  | @step ss cs mH0 mH' x x' o cm prev hgo hleg hw ih =>
    obtain ⟨nt0, ntl⟩ := (noTies_snoc cs _ cm).mp nt
    obtain ⟨m, hreach, hact, hpre⟩ := ih nt0
    have invH := reachD_minv hs hW prev
    have invS := reach_minv hs hreach
    obtain ⟨m', hleg', hact', hpre', _⟩ :=
      refines_leg (heapLaws xcfg_strictWeak hW) (specLaws xcfg_strictWeak) hs (fun _ h => h)
        (fun a b _ hb hb' => by rw [hb] at hb'; cases hb') invH invS.rel hact hpre hleg ntl
    refine ⟨m', ?_, hact', hpre'⟩
    rw [oraclesOf_snoc_leg]
    refine .step hreach hgo hleg' ?_
    show T.RStep (eraseS m) (SSched.last (κ := XTime) m.sched) x o cm x'
    rw [eraseS_congr hact hpre,
      show SSched.last (κ := XTime) m.sched = mH0.sched.last from invS.rel.last.trans invH.rel.2.symm]
    exact hw
  | dump prev ih =>
    obtain ⟨m, hreach, hact, hpre⟩ := ih nt
    exact ⟨m, by rw [oraclesOf_snoc_dump]; exact hreach, hact, hpre⟩

theorem resumed_is_uninterrupted (hs : Static T.M) (hW : 0 < W) {ss : List (Step XTime)} {cs : List (Committed XTime)}
    {mH : MedState (HSched XTime)} {x : T.X} (hr : T.ReachD W ss cs mH x) :
    ∃ m' : MedState (HSched XTime), T.ReachD W (ss.filter notDump) cs m' x ∧ StRel (LiveEq xcfg) m' mH := by
  induction hr with
  | init m x hm h =>
    have h0 : T.ReachD W [] [] m x := .init m x hm h
    exact ⟨m, h0, rfl, rfl, LiveEq.refl (reachD_minv hs hW h0).rel.1.inv⟩
  | @step ss cs mH0 mH' x x' o cm prev hgo hleg hw ih =>
    obtain ⟨m0, hr0, rel⟩ := ih
    have h := leg_congr (heapBisim xcfg_strictWeak W) T.M o rel
    rw [hleg] at h
    cases h1 : leg T.M (heapI xcfg W) m0 o with
    | error e => rw [h1] at h; exact h.elim
    | ok y =>
      rw [h1] at h
      obtain ⟨y1, cm'⟩ := y
      obtain ⟨hcm, rel'⟩ := h
      simp only at hcm
      subst hcm
      refine ⟨y1, ?_, rel'⟩
      rw [filter_snoc_leg]
      refine .step hr0 hgo h1 ?_
      rw [eraseS_congr rel.act rel.preceding, rel.sched.last]; exact hw
  | dump prev ih =>
    obtain ⟨m0, hr0, rel⟩ := ih
    have inv := reachD_minv hs hW prev
    refine ⟨m0, ?_, rel.act, rel.preceding, rel.sched.trans (pickle_liveEq xcfg_strictWeak inv.rel.1)⟩
    rw [filter_snoc_dump]; exact hr0

theorem reachD_allgo {ss : List (Step XTime)} {cs : List (Committed XTime)} {mH : MedState (HSched XTime)} {x : T.X}
    (hr : T.ReachD W ss cs mH x) :
    (∀ cl, cs.getLast? = some cl → cl.stop = false) → ∀ cl ∈ cs, cl.stop = false := by
  induction hr with
  | init => intro _ cl h; cases h
  | @step ss cs m m' x x' o cm prev hgo hleg hw ih =>
    intro hl cl hcl
    rcases List.mem_append.mp hcl with h | h
    · exact ih hgo cl h
    · have : cl = cm := by simpa using h
      subst this
      exact hl _ (by simp)
  | dump prev ih => exact ih

theorem resumed_mediator_runD {ss : List (Step XTime)} {cs : List (Committed XTime)} {mH : MedState (HSched XTime)} {x : T.X}
    (hr : T.ReachD W ss cs mH x) :
    (runD T.M (heapI xcfg W) (HSched.pickle xcfg) (MedState.init (heapI xcfg W) T.M.w) ss).1 = cs ∧
    ((∀ cl ∈ cs, cl.stop = false) →
      runD T.M (heapI xcfg W) (HSched.pickle xcfg) (MedState.init (heapI xcfg W) T.M.w) ss = (cs, .ok mH)) := by
  induction hr with
  | init m x hm _ => rw [hm]; exact ⟨rfl, fun _ => rfl⟩
  | @step ss cs m m' x x' o cm prev hgo hleg hw ih =>
    have hall := reachD_allgo prev hgo
    have happ := runD_append T.M (heapI xcfg W) (HSched.pickle xcfg) ss [Step.leg o] _ _ _ (ih.2 hall) hall
    have e1 := runD_single T.M (heapI xcfg W) (HSched.pickle xcfg) hleg
    have e2 : runD T.M (heapI xcfg W) (HSched.pickle xcfg)
        (MedState.init (heapI xcfg W) T.M.w) (ss ++ [Step.leg o]) = (cs ++ [cm], .ok m') :=
      happ.trans (congrArg (fun y => (cs ++ y.1, y.2)) e1)
    exact ⟨congrArg Prod.fst e2, fun _ => e2⟩
  | @dump ss cs m x prev ih =>
    refine ⟨(runD_snoc_dump_fst _ _ _ ss _).trans ih.1, fun hne => ?_⟩
    have happ := runD_append T.M (heapI xcfg W) (HSched.pickle xcfg) ss [Step.dump] _ _ _ (ih.2 hne) hne
    exact happ.trans (Prod.ext (List.append_nil cs) rfl)

theorem resumed_commits_uninterrupted (hs : Static T.M) (hW : 0 < W) {ss : List (Step XTime)} {cs : List (Committed XTime)}
    {mH : MedState (HSched XTime)} {x : T.X} (hr : T.ReachD W ss cs mH x) :
    (runLegsE T.M (heapI xcfg W) (MedState.init (heapI xcfg W) T.M.w) (oraclesOf ss)).1 = cs :=
  (C19Loop.resume_repeated xcfg_strictWeak hW hs C19Loop.Reach.init ss).1.trans (resumed_mediator_runD hr).1

/-! ## the converse construction (spec → heap), for non-vacuity -/

theorem reach_nil_inv {I : SchedI XTime} {lastI : I.σ → XTime} {os : List (Oracle XTime)} {cs : List (Committed XTime)}
    {m : MedState I.σ} {x : T.X} (hr : T.Reach I lastI os cs m x) (he : os = []) :
    cs = [] ∧ m = MedState.init I T.M.w ∧ T.Init x := by
  cases hr with
  | init _ _ hm h => exact ⟨rfl, hm, h⟩
  | step _ _ _ _ => simp at he

theorem reach_snoc_inv {I : SchedI XTime} {lastI : I.σ → XTime} {os' : List (Oracle XTime)} {cs' : List (Committed XTime)}
    {m' : MedState I.σ} {x' : T.X} (hr : T.Reach I lastI os' cs' m' x') {os : List (Oracle XTime)} {o : Oracle XTime}
    (he : os' = os ++ [o]) :
    ∃ cs m x cm, cs' = cs ++ [cm] ∧ T.Reach I lastI os cs m x ∧ (∀ cl, cs.getLast? = some cl → cl.stop = false) ∧
      leg T.M I m o = .ok (m', cm) ∧ T.RStep (eraseS m) (lastI m.sched) x o cm x' := by
  cases hr with
  | init _ _ _ h => simp at he
  | @step os0 cs0 m0 _ x0 _ o0 cm0 prev hgo hleg hw =>
    obtain ⟨h1, h2⟩ := List.append_inj' he rfl
    simp only [List.cons.injEq, and_true] at h2
    subst h1 h2
    exact ⟨cs0, m0, x0, cm0, rfl, prev, hgo, hleg, hw⟩

theorem reach_reachD (hs : Static T.M) (hW : 0 < W) : ∀ (ss : List (Step XTime)) {cs : List (Committed XTime)} {m : SM}
    {x : T.X}, T.ReachS (oraclesOf ss) cs m x → NoTies xcfg xcfg.finite (fun _ => none) cs →
    ∃ mH : MedState (HSched XTime), T.ReachD W ss cs mH x ∧ mH.act = m.act ∧ mH.preceding = m.preceding := by
  intro ss
  induction ss using List.reverseRecOn with
  | nil =>
    intro cs m x hr _
    obtain ⟨rfl, hm, hi⟩ := reach_nil_inv hr rfl
    refine ⟨MedState.init (heapI xcfg W) T.M.w, .init _ _ rfl hi, ?_, ?_⟩ <;> rw [hm] <;> rfl
  | append_singleton ss y ih =>
    intro cs m x hr nt
    cases y with
    | dump =>
      rw [oraclesOf_snoc_dump] at hr
      obtain ⟨mH, hD, hact, hpre⟩ := ih hr nt
      exact ⟨dumpH (W := W) xcfg mH, CSys.ReachD.dump hD, hact, hpre⟩
    | leg o =>
      obtain ⟨cs0, m0, x0, cm, rfl, hr0, hgo, hleg, hw⟩ := reach_snoc_inv hr (oraclesOf_snoc_leg ss o)
      obtain ⟨nt0, ntl⟩ := (noTies_snoc cs0 _ cm).mp nt
      obtain ⟨mH0, hD, hact, hpre⟩ := ih hr0 nt0
      have invH := reachD_minv hs hW hD
      have invS := reach_minv hs hr0
      obtain ⟨mH', hleg', hact', hpre', _⟩ :=
        refines_leg (specLaws xcfg_strictWeak) (heapLaws xcfg_strictWeak hW) hs (fun _ h => h)
          (fun a b _ hb hb' => by rw [hb] at hb'; cases hb') invS invH.rel hact hpre hleg ntl
      refine ⟨mH', .step hD hgo hleg' ?_, hact', hpre'⟩
      rw [eraseS_congr hact hpre,
        show mH0.sched.last = SSched.last (κ := XTime) m0.sched from invH.rel.2.trans invS.rel.last.symm]
      exact hw

end main

end JF.SysGen
