import JF.Props.C20Loop
import JF.Lemmas.SystemRun
/-!
The transport of the joint invariants to multi-process runs, for an arbitrary composed system `T : CSys`.  The three composed worlds
are instances: coulomb_atoms `T1` (`JF/Lemmas/SystemInvMP2Sys1.lean`, used by `JF/Props/SystemInvMP.lean`), composite objects
without cells `T2` (`JF/Lemmas/SystemInvMP2Sys2.lean`) and with cells `T3` (`JF/Lemmas/SystemInvMP2Sys3.lean`, both used by
`JF/Props/SystemInvMP2.lean`).

A composed system `CSys` is: a type `X` of "everything but the mediator state" (world and ghost fields), the mediator configuration
`M`, the initial condition `Init` on `X`, and the rest of the step relation `RStep e last x o cm x'` — all fields of `SysStep…` except
`leg` —, which reads the mediator state before the leg only through `e : MedState Unit` (activator bookkeeping and preceding handler,
scheduler erased: `eraseS`) and through `last` (the scheduler's `_last_returned_event`).  `CSys.Reach T I lastI` are the runs of the
system over the scheduler instance `I`, field for field `Sys….Reach…`.

`Adapter T G`: how a successor state of `X` is built from the global state `g'` of C20's world after the commit (`nx`: the world part
is read off `g'`, the ghost fields are the ones the step relation prescribes).
-/
namespace JF.SystemInvMP
open JF JF.Heap JF.Sched JF.Med JF.MediatorLoop JF.Sys JF.C20Loop
open JF.Act hiding World Static

theorem mpRun_of_isSome {G O : Type} {cfg' : Cfg XTime} {I : SchedI XTime} {vis : XTime → Bool}
    {R' : I.σ → Pend XTime → XTime → Prop} {M : MWire} (L : Laws cfg' I vis R') (hs : Static M) (W : World G O XTime)
    (mcfg : MP.Cfg) (advs : List (List (List Nat))) (g : G) (hist : Nat → G)
    (h : (mpRun L hs W mcfg advs g hist).toOption.isSome = true) :
    mpRun L hs W mcfg advs g hist = .ok (spRun L hs W advs.length g hist) := by
  rcases mp_refines_spRun L hs W mcfg advs g hist with h' | ⟨m, h' | h'⟩
  · exact h'
  · rw [h'] at h; cases h
  · rw [h'] at h; cases h

section
variable {G O : Type}

/-- the global state at the start of leg `k` of a multi-process run that starts in `g` and makes the commits `l` -/
def gAt (g : G) : List (MP.Commit G XTime O) → Nat → G
  | _, 0 => g
  | [], _ + 1 => g
  | a :: l, k + 1 => gAt a.post l k

@[simp] theorem gAt_zero (g : G) (l : List (MP.Commit G XTime O)) : gAt g l 0 = g := by cases l <;> rfl
@[simp] theorem gAt_cons_succ (g : G) (a : MP.Commit G XTime O) (l : List (MP.Commit G XTime O)) (k : Nat) :
    gAt g (a :: l) (k + 1) = gAt a.post l k := rfl

def PostChain (W : World G O XTime) : G → List (MP.Commit G XTime O) → Prop
  | _, [] => True
  | g, a :: l => a.post = W.commit g a.out ∧ PostChain W a.post l

theorem runSP_postChain {cfg' : Cfg XTime} {I : SchedI XTime} {vis : XTime → Bool} {R' : I.σ → Pend XTime → XTime → Prop}
    {M : MWire} (L : Laws cfg' I vis R') (hs : Static M) (W : World G O XTime) :
    ∀ (k n : Nat) (g : G) (e : EGood M R') (last : Nat → Nat) (hist : Nat → G),
      PostChain W g (MP.runSP (medEnv L hs W) k n g e last hist) := by
  intro k
  induction k with
  | zero => intro n g e last hist; trivial
  | succ k ih =>
    intro n g e last hist
    simp only [MP.runSP]
    exact ⟨rfl, ih _ _ _ _ _⟩

end

/-- a world that replays recorded oracle values; the global state is the number of commits made -/
def replayWorld (os : List (Oracle XTime)) : World Nat Unit XTime where
  yields k := ((os[k]?).map (·.yields)).getD (fun _ => [])
  cand h n _ := ((os[n]?).map (·.cand h)).getD .inf
  out _ _ _ := ()
  commit k _ := k + 1

theorem replayWorld_oracle {os : List (Oracle XTime)} {k : Nat} {o : Oracle XTime} (ho : os[k]? = some o) :
    (⟨(replayWorld os).yields k, fun h => (replayWorld os).cand h k k⟩ : Oracle XTime) = o := by
  show (⟨((os[k]?).map (·.yields)).getD (fun _ => []), fun h => ((os[k]?).map (·.cand h)).getD .inf⟩ : Oracle XTime) = _
  rw [ho]
  rfl

theorem replayWorld_head {os os' : List (Oracle XTime)} {k : Nat} {o : Oracle XTime} (hos : o :: os' = os.drop k) :
    (⟨(replayWorld os).yields k, fun h => (replayWorld os).cand h k k⟩ : Oracle XTime) = o ∧ os' = os.drop (k + 1) := by
  have hk : k < os.length := by
    by_contra hge
    rw [List.drop_eq_nil_of_le (by omega)] at hos
    cases hos
  rw [List.drop_eq_getElem_cons hk] at hos
  simp only [List.cons.injEq] at hos
  exact ⟨hos.1 ▸ replayWorld_oracle (List.getElem?_eq_getElem hk), hos.2⟩

theorem oracles_replay (os : List (Oracle XTime)) : ∀ (l : List (MP.Commit Nat XTime Unit)) (k : Nat),
    PostChain (replayWorld os) k l → k + l.length ≤ os.length →
    oracles (replayWorld os) k k l = (os.drop k).take l.length := by
  intro l
  induction l with
  | nil => intro k _ _; simp [oracles]
  | cons a l ih =>
    intro k hp hlen
    obtain ⟨hpost, hp'⟩ := hp
    have hpost' : a.post = k + 1 := hpost
    have hk : k < os.length := by simp at hlen; omega
    rw [hpost'] at hp'
    simp only [oracles, List.length_cons]
    rw [hpost', ih (k + 1) hp' (by simp at hlen; omega), List.drop_eq_getElem_cons hk, List.take_succ_cons]
    congr 1
    exact replayWorld_oracle (List.getElem?_eq_getElem hk)

end JF.SystemInvMP

namespace JF.SysGen
open JF JF.Heap JF.Sched JF.Med JF.MediatorLoop JF.Sys JF.C20Loop
open JF.Act hiding World Static
open JF.SystemInvMP (gAt PostChain replayWorld replayWorld_head)

abbrev SM : Type := MedState (specI xcfg).σ

/-- the mediator state with the scheduler erased: activator bookkeeping and `_event_handler_with_shortest_event_time` -/
def eraseS {σ : Type} (m : MedState σ) : MedState Unit := ⟨m.act, (), m.preceding⟩

theorem eraseS_congr {σ τ : Type} {a : MedState σ} {b : MedState τ} (hact : a.act = b.act) (hpre : a.preceding = b.preceding) :
    eraseS a = eraseS b := by unfold eraseS; rw [hact, hpre]

structure CSys where
  X : Type
  M : MWire
  Init : X → Prop
  RStep : MedState Unit → XTime → X → Oracle XTime → Committed XTime → X → Prop

inductive CSys.Reach (T : CSys) (I : SchedI XTime) (lastI : I.σ → XTime) :
    List (Oracle XTime) → List (Committed XTime) → MedState I.σ → T.X → Prop
  | init (m : MedState I.σ) (x : T.X) (hm : m = MedState.init I T.M.w) (h : T.Init x) : Reach T I lastI [] [] m x
  | step {os : List (Oracle XTime)} {cs : List (Committed XTime)} {m m' : MedState I.σ} {x x' : T.X} {o : Oracle XTime}
      {cm : Committed XTime} (prev : Reach T I lastI os cs m x) (hgo : ∀ cl, cs.getLast? = some cl → cl.stop = false)
      (hleg : leg T.M I m o = .ok (m', cm)) (hw : T.RStep (eraseS m) (lastI m.sched) x o cm x') :
      Reach T I lastI (os ++ [o]) (cs ++ [cm]) m' x'

abbrev CSys.ReachS (T : CSys) := T.Reach (specI xcfg) (fun s : SSched XTime => s.last)

abbrev lastS (m : SM) : XTime := SSched.last (κ := XTime) m.sched

theorem reach_medRun {T : CSys} {I : SchedI XTime} {lastI : I.σ → XTime} {os : List (Oracle XTime)}
    {cs : List (Committed XTime)} {m : MedState I.σ} {x : T.X} (hr : T.Reach I lastI os cs m x) :
    MediatorLoop.Run T.M I (MedState.init I T.M.w) os cs m := by
  induction hr with
  | init m x hm _ => rw [hm]; exact .nil _
  | step _ _ hleg _ ih => exact run_snoc ih hleg

theorem reach_minv {T : CSys} (hs : Static T.M) {os : List (Oracle XTime)} {cs : List (Committed XTime)}
    {m : SM} {x : T.X} (hr : T.ReachS os cs m x) :
    MInv (I := specI xcfg) T.M (SRel xcfg) m (pendOf (fun _ => none) cs) (lastOf xcfg.bot cs) :=
  (MediatorLoop.run_inv (specLaws xcfg_strictWeak) hs (reach_medRun hr) (minv_init (specLaws xcfg_strictWeak) T.M)).1

theorem reach_last {T : CSys} (hs : Static T.M) {os : List (Oracle XTime)} {cs : List (Committed XTime)}
    {m : SM} {x : T.X} (hr : T.ReachS os cs m x) : m.sched.last = lastOf xcfg.bot cs :=
  (reach_minv hs hr).rel.last

section bridge
variable {G O : Type}

structure Adapter (T : CSys) (G : Type) where
  nx : MedState Unit → T.X → Oracle XTime → Committed XTime → G → T.X
  /-- the world part of `x` is what is read off `g` -/
  sees : T.X → G → Prop
  /-- the ghost "world before the last commit" of `x` is what is read off `g` -/
  sawPrev : T.X → G → Prop
  sees_nx : ∀ e x o cm g', sees (nx e x o cm g') g'
  prev_nx : ∀ e x o cm g g', sees x g → sawPrev (nx e x o cm g') g

def legSt (M : MWire) (m : SM) (o : Oracle XTime) : SM :=
  match leg M (specI xcfg) m o with
  | .ok (m', _) => m'
  | .error _ => m

theorem legSt_ok {M : MWire} {m m' : SM} {o : Oracle XTime} {cm : Committed XTime}
    (h : leg M (specI xcfg) m o = .ok (m', cm)) : legSt M m o = m' := by
  unfold legSt; rw [h]

/-- the world moves by the step relation of `T` along the commits `l` of the multi-process run, for the legs `cs` the
single-process loop makes on its oracle values -/
def Moves (T : CSys) (A : Adapter T G) (W : World G O XTime) :
    SM → T.X → Nat → G → List (MP.Commit G XTime O) → List (Committed XTime) → Prop
  | _, _, _, _, _, [] => True
  | _, _, _, _, [], _ :: _ => False
  | m, x, n, g, a :: l, cm :: cs =>
    T.RStep (eraseS m) (lastS m) x ⟨W.yields g, fun h => W.cand h n g⟩ cm
        (A.nx (eraseS m) x ⟨W.yields g, fun h => W.cand h n g⟩ cm a.post) ∧
      Moves T A W (legSt T.M m ⟨W.yields g, fun h => W.cand h n g⟩)
        (A.nx (eraseS m) x ⟨W.yields g, fun h => W.cand h n g⟩ cm a.post) (n + 1) a.post l cs

/-- `P m x n g l cs` is a hypothesis on the rest of a multi-process run (commits `l` from global state `g`, legs `cs` from mediator
state `m` and tracked state `x`) from which, at a successful leg of a run reached so far, the step relation for the tracked successor
follows, and `P` again for the rest.  `Moves` is one (`moves_legLaw`); the `Moves` of `JF/Props/SystemInvMP.lean`, which reads the
mediator state only through `started` and the last commit time, another. -/
def LegLaw (T : CSys) (A : Adapter T G) (W : World G O XTime)
    (P : SM → T.X → Nat → G → List (MP.Commit G XTime O) → List (Committed XTime) → Prop) : Prop :=
  ∀ {os0 : List (Oracle XTime)} {cs0 cs : List (Committed XTime)} {m m' : SM} {x : T.X} {n : Nat} {g : G}
    {a : MP.Commit G XTime O} {l : List (MP.Commit G XTime O)} {cm : Committed XTime},
    T.ReachS os0 cs0 m x → (∀ cl, cs0.getLast? = some cl → cl.stop = false) → A.sees x g →
    leg T.M (specI xcfg) m ⟨W.yields g, fun h => W.cand h n g⟩ = .ok (m', cm) → P m x n g (a :: l) (cm :: cs) →
    T.RStep (eraseS m) (lastS m) x ⟨W.yields g, fun h => W.cand h n g⟩ cm
        (A.nx (eraseS m) x ⟨W.yields g, fun h => W.cand h n g⟩ cm a.post) ∧
      P m' (A.nx (eraseS m) x ⟨W.yields g, fun h => W.cand h n g⟩ cm a.post) (n + 1) a.post l cs

theorem moves_legLaw (T : CSys) (A : Adapter T G) (W : World G O XTime) : LegLaw T A W (Moves T A W) := by
  intro _ _ _ _ _ _ _ _ _ _ _ _ _ _ hleg hm
  rw [← legSt_ok hleg]
  exact hm

/-- the induction: a run of `T` is extended by the legs `runLegs` makes on the oracle values of the multi-process run -/
theorem extend (T : CSys) (A : Adapter T G) (W : World G O XTime)
    {P : SM → T.X → Nat → G → List (MP.Commit G XTime O) → List (Committed XTime) → Prop} (hP : LegLaw T A W P) :
    ∀ (l : List (MP.Commit G XTime O)) (n : Nat) (g : G) (os0 : List (Oracle XTime)) (cs0 : List (Committed XTime))
      (m : SM) (x : T.X) (cs : List (Committed XTime)) (fin : Option (SM)),
      T.ReachS os0 cs0 m x → A.sees x g → (∀ cl, cs0.getLast? = some cl → cl.stop = false) →
      runLegs T.M (specI xcfg) m (oracles W n g l) = (cs, fin) → P m x n g l cs →
      ∃ m' x', T.ReachS (os0 ++ (oracles W n g l).take cs.length) (cs0 ++ cs) m' x' ∧
        A.sees x' (gAt g l cs.length) ∧ (cs = [] → x' = x) ∧ (cs ≠ [] → A.sawPrev x' (gAt g l (cs.length - 1))) := by
  intro l
  induction l with
  | nil =>
    intro n g os0 cs0 m x cs fin hr hsee _ e _
    simp only [oracles] at e
    have e := (runLegs_nil' T.M (specI xcfg) m).symm.trans e
    simp only [Prod.mk.injEq] at e
    obtain ⟨rfl, rfl⟩ := e
    exact ⟨m, x, by simpa using hr, hsee, fun _ => rfl, fun h => absurd rfl h⟩
  | cons a l ih =>
    intro n g os0 cs0 m x cs fin hr hsee hgo e hm
    simp only [oracles] at e ⊢
    have e := (runLegs_cons' T.M (specI xcfg) m _ _).symm.trans e
    split at e
    · simp only [Prod.mk.injEq] at e
      obtain ⟨rfl, rfl⟩ := e
      exact ⟨m, x, by simpa using hr, hsee, fun _ => rfl, fun h => absurd rfl h⟩
    · next st1 cm hleg =>
      split at e
      · next hstop =>
        simp only [Prod.mk.injEq] at e
        obtain ⟨rfl, rfl⟩ := e
        obtain ⟨hw, _⟩ := hP hr hgo hsee hleg hm
        refine ⟨st1, _, by simpa using CSys.Reach.step hr hgo hleg hw, by simpa using A.sees_nx _ _ _ _ _,
          (fun h => by cases h), fun _ => by simpa using A.prev_nx _ _ _ _ _ _ hsee⟩
      · next hstop =>
        generalize hrr : runLegs T.M (specI xcfg) st1 (oracles W (n + 1) a.post l) = rr at e
        obtain ⟨r1, r2⟩ := rr
        simp only [Prod.mk.injEq] at e
        obtain ⟨rfl, rfl⟩ := e
        obtain ⟨hw, hm'⟩ := hP hr hgo hsee hleg hm
        have hr1 := CSys.Reach.step hr hgo hleg hw
        obtain ⟨m', x', hr', h1, h2, h3⟩ := ih (n + 1) a.post (os0 ++ [⟨W.yields g, fun h => W.cand h n g⟩])
          (cs0 ++ [cm]) st1 _ r1 r2 hr1 (A.sees_nx _ _ _ _ _)
          (by intro cl hcl; simp at hcl; subst hcl; simpa using hstop) hrr hm'
        refine ⟨m', x', ?_, h1, (fun h => by cases h), fun _ => ?_⟩
        · simpa [List.append_assoc] using hr'
        · cases r1 with
          | nil =>
            rw [h2 rfl]
            simpa using A.prev_nx _ _ _ _ _ _ hsee
          | cons y ys =>
            have := h3 (by simp)
            simpa using this

/-- a multi-process run of the composed system `T` (any core count, any `send_out_state` arities, any adversary) over the
environment built from the components of `JF.Med.leg` (spec-level scheduler) and the world `W`; `cs` are the legs the single-process
loop `JF.Med.runLegs` makes on the oracle values of that run -/
structure MPRun (T : CSys) (A : Adapter T G) (hs : Static T.M) (W : World G O XTime) (g : G)
    (l : List (MP.Commit G XTime O)) (cs : List (Committed XTime)) : Prop where
  mp : ∃ mcfg advs hist, mpRun (specLaws xcfg_strictWeak) hs W mcfg advs g hist = .ok l
  init : ∃ x0, T.Init x0 ∧ A.sees x0 g ∧ Moves T A W (MedState.init (specI xcfg) T.M.w) x0 0 g l cs
  legs : ∃ fin, runLegs T.M (specI xcfg) (MedState.init (specI xcfg) T.M.w) (oracles W 0 g l) = (cs, fin)

theorem mp_run_is_reach_of {T : CSys} {A : Adapter T G} {hs : Static T.M} {W : World G O XTime} {g : G}
    {l : List (MP.Commit G XTime O)} {cs : List (Committed XTime)}
    {P : SM → T.X → Nat → G → List (MP.Commit G XTime O) → List (Committed XTime) → Prop} (hP : LegLaw T A W P)
    {mcfg : MP.Cfg} {advs : List (List (List Nat))} {hist : Nat → G}
    (hmp : mpRun (specLaws xcfg_strictWeak) hs W mcfg advs g hist = .ok l) {x0 : T.X} (h0 : T.Init x0) (hsee : A.sees x0 g)
    (hm : P (MedState.init (specI xcfg) T.M.w) x0 0 g l cs) {fin : Option SM}
    (e : runLegs T.M (specI xcfg) (MedState.init (specI xcfg) T.M.w) (oracles W 0 g l) = (cs, fin)) :
    ∃ m x, T.ReachS ((oracles W 0 g l).take cs.length) cs m x ∧ A.sees x (gAt g l cs.length) ∧
      (cs ≠ [] → A.sawPrev x (gAt g l (cs.length - 1))) ∧
      cs.map keyMed = (l.take cs.length).map keyMP ∧
      (cs.length = l.length ∨ (∃ fin, runLegs T.M (specI xcfg) (MedState.init (specI xcfg) T.M.w)
          (oracles W 0 g l) = (cs, fin) ∧ fin = none) ∨ ∃ cl, cs.getLast? = some cl ∧ cl.stop = true) := by
  obtain ⟨m, x, hr, h1, _, h3⟩ := extend T A W hP l 0 g [] [] _ x0 cs fin (.init _ x0 rfl h0) hsee
    (by intro cl hcl; simp at hcl) e hm
  have hr' : T.ReachS ((oracles W 0 g l).take cs.length) cs m x := by simpa using hr
  refine ⟨m, x, hr', h1, h3, ?_, ?_⟩
  · exact mp_eq_run _ _ W mcfg advs g hist hmp (reach_medRun hr') rfl
  · have := runLegs_length _ _ _ _ e
    rw [oracles_length] at this
    rcases this with h | h | h
    · exact Or.inl h
    · exact Or.inr (Or.inl ⟨fin, e, h⟩)
    · exact Or.inr (Or.inr h)

/-- the multi-process run is a run of `T.Reach` over the spec-level scheduler, ending in a state that mirrors the global state of
the multi-process run; and `cs` is, handler by handler and time by time, the commit list `l` of the multi-process mediator, for all
legs unless the loop ended earlier with an exception or the end-of-run commit (`mp_refines_medloop`) -/
theorem mp_run_is_reach {T : CSys} {A : Adapter T G} {hs : Static T.M} {W : World G O XTime} {g : G}
    {l : List (MP.Commit G XTime O)} {cs : List (Committed XTime)} (R : MPRun T A hs W g l cs) :
    ∃ m x, T.ReachS ((oracles W 0 g l).take cs.length) cs m x ∧ A.sees x (gAt g l cs.length) ∧
      (cs ≠ [] → A.sawPrev x (gAt g l (cs.length - 1))) ∧
      cs.map keyMed = (l.take cs.length).map keyMP ∧
      (cs.length = l.length ∨ (∃ fin, runLegs T.M (specI xcfg) (MedState.init (specI xcfg) T.M.w)
          (oracles W 0 g l) = (cs, fin) ∧ fin = none) ∨ ∃ cl, cs.getLast? = some cl ∧ cl.stop = true) := by
  obtain ⟨mcfg, advs, hist, hmp⟩ := R.mp
  obtain ⟨x0, h0, hsee, hmv⟩ := R.init
  obtain ⟨fin, e⟩ := R.legs
  exact mp_run_is_reach_of (moves_legLaw T A W) hmp h0 hsee hmv e

/-! ## reading facts about the legs `cs` as facts about the commits `l` of the multi-process mediator -/

section keys
variable {cs : List (Committed XTime)} {l : List (MP.Commit G XTime O)}

theorem sorted_of_key (hkey : cs.map keyMed = (l.take cs.length).map keyMP)
    (hp : cs.Pairwise (fun a b => xcfg.lt b.time a.time = false)) {i j : Nat} (hij : i < j) (hj : j < cs.length)
    {a b : MP.Commit G XTime O} (ha : l[i]? = some a) (hb : l[j]? = some b) : xcfg.lt b.time a.time = false := by
  obtain ⟨ci, hci, _, hti⟩ := key_at hkey (Nat.lt_trans hij hj) ha
  obtain ⟨cj, hcj, _, htj⟩ := key_at hkey hj hb
  obtain ⟨hi', rfl⟩ := List.getElem?_eq_some_iff.mp hci
  obtain ⟨_, rfl⟩ := List.getElem?_eq_some_iff.mp hcj
  rw [← hti, ← htj]
  exact List.pairwise_iff_getElem.mp hp i j hi' hj hij

theorem sample_of_key (hkey : cs.map keyMed = (l.take cs.length).map keyMP) {k : Nat} {cm : Committed XTime}
    (hk : cs[k]? = some cm) {a : MP.Commit G XTime O} (ha : l[k]? = some a) {hs : HandlerId} {ts : XTime}
    (h : xcfg.lt ts cm.time = false ∧ (cm.handler = hs → cm.time = ts)) :
    xcfg.lt ts a.time = false ∧ (a.handler = hs → a.time = ts) := by
  obtain ⟨c', hc', hh, ht⟩ := key_at hkey (List.getElem?_eq_some_iff.mp hk).1 ha
  rw [hk] at hc'
  obtain rfl : cm = c' := Option.some.inj hc'
  rw [hh, ht] at h
  exact h

end keys

/-! ## non-vacuity: a forward chain of legs, replayed -/

/-- a forward chain of legs of `T` from `(m, x)`, the `i`-th state being seen at global state `k + i` (`G = Nat`: the number of
commits made, as in `JF.SystemInvMP.replayWorld`) -/
inductive RChain (T : CSys) (A : Adapter T Nat) :
    Nat → SM → T.X → List (Oracle XTime) → List (Committed XTime) → Prop
  | nil (k : Nat) (m : SM) (x : T.X) : RChain T A k m x [] []
  | cons {k : Nat} {m m1 : SM} {x x1 : T.X} {o : Oracle XTime} {os : List (Oracle XTime)}
      {cm : Committed XTime} {cs : List (Committed XTime)} (hleg : leg T.M (specI xcfg) m o = .ok (m1, cm))
      (hw : T.RStep (eraseS m) (lastS m) x o cm x1) (hsee : A.sees x1 (k + 1)) (rest : RChain T A (k + 1) m1 x1 os cs) :
      RChain T A k m x (o :: os) (cm :: cs)

/-- a chain replayed by `replayWorld os` satisfies `Moves`, provided a successor state of `T` is determined by its world part
(`hnx`: the ghost fields are functions of the leg) -/
theorem moves_replay {T : CSys} {A : Adapter T Nat}
    (hnx : ∀ e last x o cm x' g', T.RStep e last x o cm x' → A.sees x' g' → x' = A.nx e x o cm g')
    (os : List (Oracle XTime)) {k : Nat} {m : SM} {x : T.X} {os' : List (Oracle XTime)}
    {cs : List (Committed XTime)} (ch : RChain T A k m x os' cs) :
    ∀ (l : List (MP.Commit Nat XTime Unit)), os' = os.drop k → PostChain (replayWorld os) k l → cs.length ≤ l.length →
      Moves T A (replayWorld os) m x k k l cs := by
  induction ch with
  | nil k m x => intro l _ _ _; cases l <;> trivial
  | @cons k m m1 x x1 o os'' cm cs hleg hw hsee rest ih =>
    intro l hos hp hlen
    cases l with
    | nil => simp at hlen
    | cons a l =>
      obtain ⟨hpost, hp'⟩ := hp
      have hpost' : a.post = k + 1 := hpost
      obtain ⟨horc, hos'⟩ := replayWorld_head hos
      have hx1 : x1 = A.nx (eraseS m) x o cm (k + 1) := hnx _ _ _ _ _ _ _ hw hsee
      show T.RStep _ _ _ _ _ _ ∧ Moves T A (replayWorld os) _ _ _ _ _ _
      rw [horc, hpost', ← hx1, legSt_ok hleg]
      rw [hpost'] at hp'
      exact ⟨hw, ih l hos' hp' (by simpa using hlen)⟩

end bridge

end JF.SysGen
