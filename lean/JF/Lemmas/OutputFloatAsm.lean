import JF.Lemmas.OutputFloatRnd
import Mathlib.Data.List.Forall2
/-!
Assembly lemmas for `JF/Props/OutputFloat.lean` §2: the cubic `separation_vector` over `R fm` component by component, the
component-wise comparison with the exact nearest-image vector, and the Euclidean norm of the computed vector.
-/
namespace JF.OutputFloat
open JF JF.Periodic JF.C15 JF.Output JF.R JF.Lifting

variable {fm : FloatModel}

theorem cubic_sepVec_R (c : Cubic (R fm)) (a b : List (R fm)) (ha : a.length = c.dim) (hb : b.length = c.dim) :
    c.separationVector (Ops.rounded fm) a b = some (List.zipWith (fun x y => compSep fm x y c.L c.half) a b) := by
  rw [cubic_separationVector_eq _ _ ha.ge hb.ge, List.take_of_length_le ha.le, List.take_of_length_le hb.le]
  rfl

def BoxCompOK (fm : FloatModel) (c : Cubic (R fm)) (a b : List (R fm)) : Prop :=
  a.length = c.dim ∧ b.length = c.dim ∧
    ∀ j (ha : j < a.length) (hb : j < b.length), CompOK fm a[j] b[j] c.L c.half

/-- the computed vector, as exact rationals -/
def compVec (fm : FloatModel) (c : Cubic (R fm)) (a b : List (R fm)) : List ℚ :=
  (List.zipWith (fun x y => compSep fm x y c.L c.half) a b).map toQ

/-- the exact nearest-image vector of the same (representable) positions -/
def exactVec (c : Cubic (R fm)) (a b : List (R fm)) : List ℚ :=
  sepSpec (List.replicate c.dim (toQ c.L)) (a.map toQ) (b.map toQ)

theorem exactVec_length (c : Cubic (R fm)) (a b : List (R fm)) (ha : a.length = c.dim) (hb : b.length = c.dim) :
    (exactVec c a b).length = c.dim := by
  unfold exactVec
  rw [sepSpec_length (by simp [ha]) (by simp [hb])]; simp

theorem exactVec_abs (c : Cubic (R fm)) (a b : List (R fm)) (ha : a.length = c.dim) (hb : b.length = c.dim)
    (j : Nat) (h : j < (exactVec c a b).length) (hja : j < a.length) (hjb : j < b.length) :
    |(exactVec c a b)[j]| = dist1 (toQ c.L) (toQ b[j] - toQ a[j]) := by
  unfold exactVec at h ⊢
  rw [sepSpec_getElem (by simp [ha]) (by simp [hb]) j (by simpa using ha ▸ hja)]
  simp [dist1]

theorem compVec_forall₂ {c : Cubic (R fm)} {a b : List (R fm)} (ok : BoxCompOK fm c a b) {P : ℚ → ℚ → Prop} {es : List ℚ}
    (hl : es.length = c.dim)
    (h : ∀ j (hj : j < es.length) (ha : j < a.length) (hb : j < b.length),
      CompOK fm a[j] b[j] c.L c.half → P (toQ (compSep fm a[j] b[j] c.L c.half)) es[j]) :
    List.Forall₂ P (compVec fm c a b) es := by
  obtain ⟨ha, hb, hc⟩ := ok
  apply List.forall₂_of_length_eq_of_get (by simp [compVec, ha, hb, hl])
  intro j h1 h2
  have hj : j < c.dim := hl ▸ h2
  simpa [compVec] using h j h2 (ha ▸ hj) (hb ▸ hj) (hc j _ _)

/-- **the Euclidean norm of the computed vector**: within `√d · 9/2 · eps · L` of the exact nearest-image distance, and at
most `√d · L/2` (the closed bound of every component survives rounding) -/
theorem compVec_norm {c : Cubic (R fm)} {a b : List (R fm)} (ok : BoxCompOK fm c a b) (hL : 0 < toQ c.L)
    (h0 : 0 ≤ toQ c.half) :
    Real.sqrt ((sq (exactVec c a b) : ℚ) : ℝ) - Real.sqrt (c.dim : ℝ) * ((9 / 2 * (fm.eps * toQ c.L) : ℚ) : ℝ) ≤
        Real.sqrt ((sq (compVec fm c a b) : ℚ) : ℝ) ∧
      Real.sqrt ((sq (compVec fm c a b) : ℚ) : ℝ) ≤
        Real.sqrt ((sq (exactVec c a b) : ℚ) : ℝ) + Real.sqrt (c.dim : ℝ) * ((9 / 2 * (fm.eps * toQ c.L) : ℚ) : ℝ) ∧
      Real.sqrt ((sq (compVec fm c a b) : ℚ) : ℝ) ≤ Real.sqrt (c.dim : ℝ) * ((toQ c.half : ℚ) : ℝ) := by
  have hη : (0 : ℚ) ≤ 9 / 2 * (fm.eps * toQ c.L) := mul_nonneg (by norm_num) (mul_nonneg fm.eps_nonneg hL.le)
  have hl := exactVec_length c a b ok.1 ok.2.1
  have key : ∀ j (hj : j < (exactVec c a b).length) (ha : j < a.length) (hb : j < b.length),
      CompOK fm a[j] b[j] c.L c.half →
        |(|toQ (compSep fm a[j] b[j] c.L c.half)|) - (|(exactVec c a b)[j]|)| ≤ 9 / 2 * (fm.eps * toQ c.L) := by
    intro j hj ha hb okj
    rw [exactVec_abs c a b ok.1 ok.2.1 j hj ha hb]
    exact compSep_err okj
  have p1 := norm_perturb hη (compVec_forall₂ ok hl fun j hj ha hb okj =>
    sub_le_iff_le_add'.mp (abs_le.mp (key j hj ha hb okj)).2)
  have p2 := norm_perturb hη (compVec_forall₂ (P := fun x e => |e| ≤ |x| + 9 / 2 * (fm.eps * toQ c.L)) ok hl
    fun j hj ha hb okj => neg_le_sub_iff_le_add.mp (abs_le.mp (key j hj ha hb okj)).1).flip
  have p3 := norm_perturb h0 (compVec_forall₂ (es := List.replicate c.dim 0) ok List.length_replicate
    fun j hj ha hb okj => by rw [List.getElem_replicate, abs_zero, zero_add]; exact compSep_bound okj)
  rw [hl] at p1
  rw [show (compVec fm c a b).length = c.dim by simp [compVec, ok.1, ok.2.1]] at p2
  rw [show sq (List.replicate c.dim 0) = 0 by simp [sq], Rat.cast_zero, Real.sqrt_zero, zero_add,
    List.length_replicate] at p3
  exact ⟨sub_le_iff_le_add.mpr p2, p1, p3⟩

end JF.OutputFloat
