import JF.Lemmas.ModL
/-!
`correct_position_entry` (`JF.pywrap`) in the exact reading, on an entry whose periodic image is known.
-/
namespace JF

/-- an entry in the `k`-th periodic image `[k·L, (k+1)·L)` of the box is shifted back by `k·L` -/
theorem pywrap_rat_image {y L : ℚ} (k : ℤ) (hL : 0 < L) (h0 : 0 ≤ y - L * k) (h1 : y - L * k < L) :
    pywrap Ops.rat y L = y - L * k :=
  (C15.wrap_unique hL h0 h1 ⟨k, by ring⟩).symm

theorem pywrap_rat_of_mem {y L : ℚ} (h0 : 0 ≤ y) (h1 : y < L) : pywrap Ops.rat y L = y :=
  C15.wrap_fixed (h0.trans_lt h1) h0 h1

theorem pywrap_rat_of_neg {y L : ℚ} (h0 : -L ≤ y) (h1 : y < 0) : pywrap Ops.rat y L = y + L := by
  rw [pywrap_rat_image (-1) (neg_lt_zero.mp (h0.trans_lt h1)) (by push_cast; linarith) (by push_cast; linarith)]
  push_cast; ring

end JF
