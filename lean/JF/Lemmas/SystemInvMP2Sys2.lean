import JF.Lemmas.SystemInvMP2Generic
import JF.Props.SystemInv2
/-!
The composed system of COMPOSITE OBJECTS WITHOUT CELLS (`JF.Sys2`, `JF/Lemmas/SystemRun2Step.lean`) as an instance `T2` of
`JF.SysGen.CSys`: `X2` = `Sys2` without its mediator state, `RStep2` = `SysStep2` without `leg` (field for field), `Init2X` = `Init2`.
`reach2_of` / `reach2_to`: the runs `Reach2` ARE the runs `T2.ReachS` (both directions, no hypothesis).
`A2 v`: the adapter for a view `v : G → List (CObj ℚ)` of the global state of C20's world; the ghost fields of the successor are the
ones `SysStep2` prescribes (`ids'`, `prev`, `mid'`, `cmode'`), so a successor is determined by its world part (`nx2_unique`).
-/
namespace JF.SystemInvMP2
open JF JF.Act JF.Sched JF.Med JF.CW2 JF.C14 JF.Sys JF.Sys2 JF.C12 JF.SysGen
open JF.MediatorLoop hiding Run
open JF.Heap hiding Inv
open JF.Composite hiding pendOf

structure X2 where
  cs : List (CObj ℚ)
  ids : HandlerId → IdTuple
  csPrev : List (CObj ℚ)
  mid : Act
  cmode : TaggerIdx → WMode

def X2.toSys (x : X2) (m : SM) : Sys2 := ⟨m, x.cs, x.ids, x.csPrev, x.mid, x.cmode⟩
def xOf (s : Sys2) : X2 := ⟨s.cs, s.ids, s.csPrev, s.mid, s.cmode⟩

section defs
variable (env : Env ℚ) (mw : ModeWiring) (S : TaggerIdx) (needs : HandlerId → Bool)

structure RStep2 (e : MedState Unit) (last : XTime) (x : X2) (o : Oracle XTime) (cm : Committed XTime) (x' : X2) : Prop where
  yields : o.yields = fun T => yieldCls env T (mw.w.tagger T).cls x.cs
  cands : CandsOK2 last o cm.created
  ev : ∃ t E', cm.time = .fin t ∧ owner mw.w.wires cm.handler = some E' ∧ Commits2 env mw E' (x'.cmode E') t x.cs x'.cs
  ids' : x'.ids = assign x.ids cm.created
  prev : x'.csPrev = x.cs
  mid' : x'.mid = midAct (mwire mw.w S needs) e o
  cmode' : x'.cmode = cmodeNext mw e.preceding x.cmode x'.mid

def Init2X (x : X2) : Prop := Init2 env mw (x.toSys (MedState.init (specI xcfg) mw.w.wires))

def T2 : CSys := ⟨X2, mwire mw.w S needs, Init2X env mw, RStep2 env mw S needs⟩

end defs

section
variable {env : Env ℚ} {mw : ModeWiring} {S : TaggerIdx} {needs : HandlerId → Bool}

theorem rstep2_of {s s' : Sys2} {o : Oracle XTime} {cm : Committed XTime} (hstep : SysStep2 env mw S needs s o cm s') :
    RStep2 env mw S needs (eraseS s.med) s.med.sched.last (xOf s) o cm (xOf s') :=
  ⟨hstep.yields, hstep.cands, hstep.ev, hstep.ids', hstep.prev, hstep.mid', hstep.cmode'⟩

theorem reach2_of {os : List (Oracle XTime)} {cs : List (Committed XTime)} {s : Sys2}
    (hr : Reach2 env mw S needs os cs s) : (T2 env mw S needs).ReachS os cs s.med (xOf s) := by
  induction hr with
  | init s h =>
    exact CSys.Reach.init (T := T2 env mw S needs) (I := specI xcfg) s.med (xOf s) h.med
      (show Init2 env mw _ from ⟨rfl, h.good, h.unif, h.rest, h.prev, h.cmode⟩)
  | step _ hgo hstep ih =>
    exact CSys.Reach.step (T := T2 env mw S needs) ih hgo hstep.leg (rstep2_of hstep)

theorem reach2_to {os : List (Oracle XTime)} {cs : List (Committed XTime)} {m : MedState (specI xcfg).σ}
    {x : (T2 env mw S needs).X} (hr : (T2 env mw S needs).ReachS os cs m x) :
    Reach2 env mw S needs os cs (X2.toSys x m) := by
  induction hr with
  | init m x hm h => subst hm; exact .init _ h
  | step _ hgo hleg hw ih =>
    have hw' : RStep2 env mw S needs _ _ _ _ _ _ := hw
    exact .step ih hgo ⟨hw'.yields, hleg, hw'.cands, hw'.ev, hw'.ids', hw'.prev, hw'.mid', hw'.cmode'⟩

variable {G : Type}

def A2 (env : Env ℚ) (mw : ModeWiring) (S : TaggerIdx) (needs : HandlerId → Bool) (v : G → List (CObj ℚ)) :
    Adapter (T2 env mw S needs) G where
  nx e x o cm g' :=
    (⟨v g', assign x.ids cm.created, x.cs, midAct (mwire mw.w S needs) e o,
      cmodeNext mw e.preceding x.cmode (midAct (mwire mw.w S needs) e o)⟩ : X2)
  sees x g := X2.cs x = v g
  sawPrev x g := X2.csPrev x = v g
  sees_nx _ _ _ _ _ := rfl
  prev_nx _ _ _ _ _ _ h := h

theorem nx2_unique (v : G → List (CObj ℚ)) (e : MedState Unit) (last : XTime) (x : X2) (o : Oracle XTime)
    (cm : Committed XTime) (x' : X2) (g' : G) (hw : RStep2 env mw S needs e last x o cm x') (hs : x'.cs = v g') :
    x' = (A2 env mw S needs v).nx e x o cm g' := by
  obtain ⟨a, b, c, d, f⟩ := x'
  have h1 := hw.ids'
  have h2 := hw.prev
  have h3 := hw.mid'
  have h4 := hw.cmode'
  simp only at h1 h2 h3 h4 hs
  subst h1 h2 h3 hs
  subst h4
  rfl

/-- the world part of `SysStep2` for a leg of the multi-process run from global state `g` to `g'`, read through `v`: the yields
are the computed `CW2.yieldCls` of the composite objects of `g`; the candidates of the handlers handed out obey `CandsOK2`; the
composite objects move by `Commits2` of the committed handler's tagger — in the mode read off the activation flags when its candidate
was requested (`cmodeNext`, a function of the mediator states of the single-process loop) — at the committed time -/
structure WStep2 (env : Env ℚ) (mw : ModeWiring) (S : TaggerIdx) (needs : HandlerId → Bool) (v : G → List (CObj ℚ))
    (e : MedState Unit) (last : XTime) (x : X2) (o : Oracle XTime) (cm : Committed XTime) (g' : G) : Prop where
  yields : o.yields = fun T => yieldCls env T (mw.w.tagger T).cls x.cs
  cands : CandsOK2 last o cm.created
  ev : ∃ t E', cm.time = .fin t ∧ owner mw.w.wires cm.handler = some E' ∧
    Commits2 env mw E' (cmodeNext mw e.preceding x.cmode (midAct (mwire mw.w S needs) e o) E') t x.cs (v g')

/-- `Moves` for `T2` asks exactly for `WStep2` at every leg (the ghost equations hold by construction of `nx`) -/
theorem rstep2_nx_iff (v : G → List (CObj ℚ)) (e : MedState Unit) (last : XTime) (x : X2) (o : Oracle XTime)
    (cm : Committed XTime) (g' : G) :
    RStep2 env mw S needs e last x o cm ((A2 env mw S needs v).nx e x o cm g') ↔ WStep2 env mw S needs v e last x o cm g' :=
  ⟨fun h => ⟨h.yields, h.cands, h.ev⟩, fun h => ⟨h.yields, h.cands, h.ev, rfl, rfl, rfl, rfl⟩⟩

end

end JF.SystemInvMP2
