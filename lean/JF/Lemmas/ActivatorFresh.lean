/-
The bookkeeping invariant (no handler lost or duplicated) and the freshness invariant of C09 for the TagActivator model.
Between them, one leg of a commit (`update` after `trash`) seen from one tagger: `leg_spec` (its pending handlers afterwards are
those that survive the trash, then the new ones, with what it yields) and `leg_keys` / `create_keys` (the new ones are distinct and
were not running: here the pools must be disjoint).  Core Lean only.
-/
import JF.Lemmas.ActivatorBasic
namespace JF.Act

theorem nodup_flatMap_of {α β : Type} {f : α → List β} {l : List α} (nd : l.Nodup)
    (h1 : ∀ x ∈ l, (f x).Nodup) (h2 : ∀ x ∈ l, ∀ y ∈ l, x ≠ y → ∀ a ∈ f x, a ∉ f y) : (l.flatMap f).Nodup := by
  induction l with
  | nil => simp
  | cons x l ih =>
    rw [List.flatMap_cons, List.nodup_append]
    obtain ⟨hx, ndl⟩ := List.nodup_cons.mp nd
    refine ⟨h1 x List.mem_cons_self, ih ndl (fun y hy => h1 y (List.mem_cons_of_mem _ hy))
      (fun y hy z hz => h2 y (List.mem_cons_of_mem _ hy) z (List.mem_cons_of_mem _ hz)), ?_⟩
    intro a ha b hb hab
    obtain ⟨y, hy, hby⟩ := List.mem_flatMap.mp hb
    have hne : x ≠ y := fun hc => hx (hc ▸ hy)
    exact h2 x List.mem_cons_self y (List.mem_cons_of_mem _ hy) hne a ha (hab ▸ hby)

/-- the handler pools of a wiring: each without duplicates, pairwise disjoint
(`TagActivator._event_handlers` is the concatenation of the taggers' handler lists, all distinct objects) -/
def PoolsOK (w : Wires) : Prop :=
  (∀ i, (getW w i).pool.Nodup) ∧ ∀ i j, i ≠ j → ∀ h, h ∈ (getW w i).pool → h ∉ (getW w j).pool

/-- bookkeeping invariant: for every tagger `running ++ notRunning` is a permutation of its pool -/
def PoolInv (w : Wires) (s : Act) : Prop :=
  s.length = w.length ∧ ∀ j, ((getT s j).running ++ (getT s j).notRunning).Perm (getW w j).pool

theorem getT_initAct (w : Wires) (j : TaggerIdx) :
    getT (initAct w) j = if j < w.length then ⟨true, [], (getW w j).pool⟩ else TState.empty := by
  unfold getT getW initAct
  by_cases h : j < w.length
  · simp [h]
  · simp [h]

theorem poolInv_init (w : Wires) : PoolInv w (initAct w) := by
  refine ⟨by simp [initAct], fun j => ?_⟩
  rw [getT_initAct]
  by_cases h : j < w.length
  · simp [h]
  · have : getW w j = TWire.empty := by unfold getW; simp [List.getElem?_eq_none (Nat.le_of_not_lt h)]
    simp [h, TState.empty, this, TWire.empty]

theorem perm_popMany {t t' : TState} {ys : List IdTuple} {out : List (HandlerId × IdTuple)}
    (e : popMany t ys = some (t', out)) : (t'.running ++ t'.notRunning).Perm (t.running ++ t.notRunning) := by
  obtain ⟨h1, h2, _, _⟩ := popMany_some e
  rw [h1, h2, List.append_assoc]
  apply List.Perm.append_left
  exact (List.perm_append_comm.trans (List.Perm.append_left _ (List.reverse_perm _).symm))

theorem perm_trashed (t : TState) : ((trashed t).running ++ (trashed t).notRunning).Perm (t.running ++ t.notRunning) := by
  simp only [trashed, List.nil_append]
  exact List.perm_append_comm

theorem poolInv_applyActivation {w : Wires} {s : Act} (E : TaggerIdx) (h : PoolInv w s) :
    PoolInv w (applyActivation w s E) := by
  refine ⟨by rw [applyActivation_length]; exact h.1, fun j => ?_⟩
  rw [applyActivation_running, applyActivation_notRunning]; exact h.2 j

theorem poolInv_createLoop {w : Wires} {yields : TaggerIdx → List IdTuple} {Ts : List TaggerIdx} {s s' : Act}
    {out : List (HandlerId × IdTuple)} (h : PoolInv w s) (e : createLoop yields s Ts = some (s', out)) : PoolInv w s' := by
  refine ⟨by rw [createLoop_length e]; exact h.1, ?_⟩
  exact createLoop_inv (P := fun j t => (t.running ++ t.notRunning).Perm (getW w j).pool)
    (fun j t ys t' out hp e => (perm_popMany e).trans hp) h.2 e

theorem poolInv_trashLoop {w : Wires} {s : Act} (Ts : List TaggerIdx) (h : PoolInv w s) : PoolInv w (trashLoop s Ts).1 := by
  refine ⟨by rw [trashLoop_length]; exact h.1, ?_⟩
  exact trashLoop_inv (P := fun j t => (t.running ++ t.notRunning).Perm (getW w j).pool)
    (fun j t hp => (perm_trashed t).trans hp) Ts h.2

theorem poolInv_update {w : Wires} {s s' : Act} {E : TaggerIdx} {yields : TaggerIdx → List IdTuple}
    {out : List (HandlerId × IdTuple)} (h : PoolInv w s) (e : update w s E yields = some (s', out)) : PoolInv w s' :=
  poolInv_createLoop (poolInv_applyActivation E h) e

theorem poolInv_first {w : Wires} {s s' : Act} {S : TaggerIdx} {yields : TaggerIdx → List IdTuple}
    {out : List (HandlerId × IdTuple)} (h : PoolInv w s) (e : first w s S yields = some (s', out)) : PoolInv w s' :=
  poolInv_createLoop (poolInv_applyActivation S h) e

theorem poolInv_trash {w : Wires} {s : Act} (E : TaggerIdx) (h : PoolInv w s) : PoolInv w (trash w s E).1 :=
  poolInv_trashLoop _ h

theorem PoolInv.nodup {w : Wires} {s : Act} (h : PoolInv w s) (pok : PoolsOK w) (j : TaggerIdx) :
    ((getT s j).running ++ (getT s j).notRunning).Nodup := (h.2 j).nodup_iff.mpr (pok.1 j)

theorem PoolInv.mem_pool_of_running {w : Wires} {s : Act} (h : PoolInv w s) {j : TaggerIdx} {x : HandlerId}
    (hx : x ∈ (getT s j).running) : x ∈ (getW w j).pool :=
  (h.2 j).mem_iff.mp (List.mem_append_left _ hx)

theorem PoolInv.mem_pool_of_notRunning {w : Wires} {s : Act} (h : PoolInv w s) {j : TaggerIdx} {x : HandlerId}
    (hx : x ∈ (getT s j).notRunning) : x ∈ (getW w j).pool :=
  (h.2 j).mem_iff.mp (List.mem_append_right _ hx)

theorem createLoop_keys {w : Wires} {yields : TaggerIdx → List IdTuple} {Ts : List TaggerIdx} {s s' : Act}
    {out : List (HandlerId × IdTuple)} (pok : PoolsOK w) (pinv : PoolInv w s) (nd : Ts.Nodup)
    (hr : ∀ T ∈ Ts, T < s.length) (e : createLoop yields s Ts = some (s', out)) :
    (out.map Prod.fst).Nodup ∧ ∀ x ∈ out.map Prod.fst, ∃ T ∈ Ts, x ∈ (getT s T).notRunning := by
  obtain ⟨new, rfl, h⟩ := createLoop_spec nd hr e
  -- what is handed out for `T` comes off the end of `T`'s not-running list
  have sub : ∀ T, (getT s T).notRunning = (getT s' T).notRunning ++ ((new T).map Prod.fst).reverse :=
    fun T => (popMany_some (h T)).1
  have hsub : ∀ T x, x ∈ (new T).map Prod.fst → x ∈ (getT s T).notRunning := fun T x hx => by
    rw [sub T]; exact List.mem_append_right _ (List.mem_reverse.mpr hx)
  rw [List.map_flatMap]
  constructor
  · apply nodup_flatMap_of nd
    · intro T _
      have := (List.nodup_append.mp (pinv.nodup pok T)).2.1
      rw [sub T] at this
      exact (List.reverse_perm _).nodup_iff.mp (List.nodup_append.mp this).2.1
    · intro T _ U _ hne a ha hb
      exact pok.2 T U hne a (pinv.mem_pool_of_notRunning (hsub T a ha)) (pinv.mem_pool_of_notRunning (hsub U a hb))
  · intro x hx
    obtain ⟨T, hT, hxT⟩ := List.mem_flatMap.mp hx
    exact ⟨T, hT, hsub T x hxT⟩

/-- `dictionary[handler] = identifiers` for every returned pair, in order (a later pair overrides an earlier one) -/
def assign (ids : HandlerId → IdTuple) : List (HandlerId × IdTuple) → HandlerId → IdTuple
  | [] => ids
  | p :: ps => assign (fun h => if h = p.1 then p.2 else ids h) ps

theorem assign_not_mem {ids : HandlerId → IdTuple} {ps : List (HandlerId × IdTuple)} {h : HandlerId}
    (hn : h ∉ ps.map Prod.fst) : assign ids ps h = ids h := by
  induction ps generalizing ids with
  | nil => rfl
  | cons p ps ih =>
    simp only [List.map_cons, List.mem_cons, not_or] at hn
    rw [assign, ih hn.2]; simp [hn.1]

theorem assign_mem {ids : HandlerId → IdTuple} {ps : List (HandlerId × IdTuple)} (nd : (ps.map Prod.fst).Nodup)
    {p : HandlerId × IdTuple} (hp : p ∈ ps) : assign ids ps p.1 = p.2 := by
  induction ps generalizing ids with
  | nil => simp at hp
  | cons q ps ih =>
    simp only [List.map_cons, List.nodup_cons] at nd
    rcases List.mem_cons.mp hp with rfl | hp
    · rw [assign, assign_not_mem nd.1]; simp
    · rw [assign]; exact ih nd.2 hp

/-- the abstract world of a run: global states `G`, what each tagger generates from scratch on a state, and the
comparison the property makes per tagger (`view T` = identity for interaction-type taggers, constant for the count-only ones) -/
structure World (G : Type) where
  yieldOf : TaggerIdx → G → List IdTuple
  view : TaggerIdx → IdTuple → IdTuple
  /-- the taggers the property speaks about (all but the start-of-run tagger) -/
  live : TaggerIdx → Prop

/-- activator + the identifier tuples the pending handlers were created with + the current global state -/
structure RS (G : Type) where
  act : Act
  ids : HandlerId → IdTuple
  g : G

/-- C09 for tagger `T`: the multiset of (views of) in-state identifier tuples of the pending events equals what the
tagger generates from scratch for the current state (nothing if deactivated) -/
def Fresh {G : Type} (W : World G) (rs : RS G) (T : TaggerIdx) : Prop :=
  ((getT rs.act T).running.map fun h => W.view T (rs.ids h)).Perm
    ((yieldEff (getT rs.act T) (W.yieldOf T rs.g)).map (W.view T))

theorem Fresh.length_running {G : Type} {W : World G} {rs : RS G} {T : TaggerIdx} (h : Fresh W rs T) :
    (getT rs.act T).running.length = (yieldEff (getT rs.act T) (W.yieldOf T rs.g)).length := by
  simpa using List.Perm.length_eq h

theorem first_running_nil {w : Wires} {S T : TaggerIdx} {yields : TaggerIdx → List IdTuple} {s0 : Act}
    {out : List (HandlerId × IdTuple)} (e : first w (initAct w) S yields = some (s0, out)) (hne : T ≠ S) :
    (getT s0 T).running = [] := by
  unfold first at e
  rw [createLoop_frame e (by simpa using hne), applyActivation_running, getT_initAct]
  split <;> rfl

/-- one leg of the mediator loop seen from the activator: the event of tagger `E` is committed (global state becomes
`g'`), `get_trashable_events`, then `get_event_handlers_to_run` on the new state -/
def commit {G : Type} (w : Wires) (W : World G) (rs : RS G) (E : TaggerIdx) (g' : G) : Option (RS G) :=
  match update w (trash w rs.act E).1 E (fun T => W.yieldOf T g') with
  | none => none
  | some r => some ⟨r.1, assign rs.ids r.2, g'⟩

def yieldAfter {G : Type} (w : Wires) (W : World G) (rs : RS G) (E : TaggerIdx) (g' : G) (T : TaggerIdx) : List IdTuple :=
  if actAfter w E T (getT rs.act T).activated then W.yieldOf T g' else []

/-- hypotheses about ONE commit (DESIGN §5 C09, clauses (a)–(c)) -/
structure StepOK {G : Type} (w : Wires) (W : World G) (rs : RS G) (E : TaggerIdx) (g' : G) : Prop where
  a : ∀ T, W.live T → T ∈ (getW w E).creates → T ∉ (getW w E).trashes → (getT rs.act T).running = []
  b : ∀ T, W.live T → T ∈ (getW w E).trashes → T ∉ (getW w E).creates → yieldAfter w W rs E g' T = []
  c : ∀ T, W.live T → T ∉ (getW w E).trashes → T ∉ (getW w E).creates →
        ((yieldAfter w W rs E g' T).map (W.view T)).Perm
          ((yieldEff (getT rs.act T) (W.yieldOf T rs.g)).map (W.view T))

def WFw (w : Wires) : Prop := ∀ E, (getW w E).creates.Nodup ∧ ∀ T ∈ (getW w E).creates, T < w.length

theorem commit_some {G : Type} {w : Wires} {W : World G} {rs rs' : RS G} {E : TaggerIdx} {g' : G}
    (e : commit w W rs E g' = some rs') :
    ∃ s2 created, update w (trash w rs.act E).1 E (fun T => W.yieldOf T g') = some (s2, created) ∧
      rs' = ⟨s2, assign rs.ids created, g'⟩ := by
  unfold commit at e
  split at e
  · cases e
  · next r hu => injection e with e; exact ⟨r.1, r.2, hu, e.symm⟩

theorem commit_poolInv {G : Type} {w : Wires} {W : World G} {rs rs' : RS G} {E : TaggerIdx} {g' : G}
    (pinv : PoolInv w rs.act) (e : commit w W rs E g' = some rs') : PoolInv w rs'.act := by
  obtain ⟨_, _, hu, rfl⟩ := commit_some e
  exact poolInv_update (poolInv_trash E pinv) hu

/-- **one leg of a commit by `E` (`get_trashable_events`, then `get_event_handlers_to_run`), seen from ONE tagger `T`** -/
theorem leg_spec {w : Wires} {s s' : Act} {E : TaggerIdx} {ys : TaggerIdx → List IdTuple}
    {created : List (HandlerId × IdTuple)} (wf : WFw w) (hl : s.length = w.length)
    (e : update w (trash w s E).1 E ys = some (s', created)) :
    ∃ new : TaggerIdx → List (HandlerId × IdTuple), (∀ p, p ∈ created ↔ ∃ T, p ∈ new T) ∧ ∀ T,
      (getT s' T).running = kept w s E T ++ (new T).map Prod.fst ∧
      (new T).map Prod.snd =
        (if T ∈ (getW w E).creates then if actAfter w E T (getT s T).activated then ys T else [] else []) ∧
      (T < w.length → (getT s' T).activated = actAfter w E T (getT s T).activated) := by
  have hl1 : (trash w s E).1.length = w.length := by rw [trash, trashLoop_length]; exact hl
  obtain ⟨new, hc, h⟩ := create_spec (wf E).1 (fun T hT => by rw [hl1]; exact (wf E).2 T hT) e
  refine ⟨new, hc, fun T => ?_⟩
  obtain ⟨h1, _, h3, h4⟩ := h T
  rw [trash_running] at h1
  rw [trash_activated] at h3 h4
  exact ⟨h1, h3, fun hT => h4 (by rw [hl1]; exact hT)⟩

/-- **the create loop hands out a handler only if it was not running**: the handlers are pairwise distinct, each sat in the
not-running list of a tagger of `Ts`, and none of them was in any running list -/
theorem create_keys {w : Wires} {s s' : Act} {E : TaggerIdx} {Ts : List TaggerIdx} {ys : TaggerIdx → List IdTuple}
    {created : List (HandlerId × IdTuple)} (pok : PoolsOK w) (pinv : PoolInv w s) (nd : Ts.Nodup) (hr : ∀ T ∈ Ts, T < w.length)
    (e : createLoop ys (applyActivation w s E) Ts = some (s', created)) :
    (created.map Prod.fst).Nodup ∧
    ∀ h ∈ created.map Prod.fst, (∃ T ∈ Ts, h ∈ (getT s T).notRunning) ∧ ∀ U, h ∉ (getT s U).running := by
  have pa := poolInv_applyActivation E pinv
  obtain ⟨knd, ksub⟩ := createLoop_keys pok pa nd (fun T hT => by rw [pa.1]; exact hr T hT) e
  refine ⟨knd, fun h hh => ?_⟩
  obtain ⟨T, hT, hx⟩ := ksub h hh
  rw [applyActivation_notRunning] at hx
  refine ⟨⟨T, hT, hx⟩, fun U hU => ?_⟩
  by_cases hUT : U = T
  · subst hUT
    exact (List.nodup_append.mp (pinv.nodup pok U)).2.2 h hU h hx rfl
  · exact pok.2 U T hUT h (pinv.mem_pool_of_running hU) (pinv.mem_pool_of_notRunning hx)

/-- the handlers a leg hands out are pairwise distinct and none of them is a surviving pending handler -/
theorem leg_keys {w : Wires} {s s' : Act} {E : TaggerIdx} {ys : TaggerIdx → List IdTuple}
    {created : List (HandlerId × IdTuple)} (wf : WFw w) (pok : PoolsOK w) (pinv : PoolInv w s)
    (e : update w (trash w s E).1 E ys = some (s', created)) :
    (created.map Prod.fst).Nodup ∧ ∀ T, ∀ h ∈ kept w s E T, h ∉ created.map Prod.fst := by
  obtain ⟨knd, k⟩ := create_keys pok (poolInv_trash E pinv) (wf E).1 (wf E).2 e
  exact ⟨knd, fun T h hk hc => (k h hc).2 T (by rw [trash_running]; exact hk)⟩

theorem running_after_commit {G : Type} {w : Wires} {W : World G} {rs rs' : RS G} {E T : TaggerIdx} {g' : G}
    (hnc : T ∉ (getW w E).creates) (e : commit w W rs E g' = some rs') : (getT rs'.act T).running = kept w rs.act E T := by
  obtain ⟨_, _, hu, rfl⟩ := commit_some e
  show (getT _ T).running = _
  rw [createLoop_frame hu hnc, applyActivation_running, trash_running]

/-- core of the induction step: after a commit every live tagger is fresh, provided (a) created-but-not-trashed taggers had
nothing pending, (b) trashed-but-not-created taggers yield nothing afterwards, (c') untouched taggers' pending tuples already
match what they yield afterwards -/
theorem fresh_commit {G : Type} {w : Wires} {W : World G} {rs rs' : RS G} {E : TaggerIdx} {g' : G}
    (wf : WFw w) (pok : PoolsOK w) (pinv : PoolInv w rs.act)
    (oka : ∀ T, W.live T → T ∈ (getW w E).creates → T ∉ (getW w E).trashes → (getT rs.act T).running = [])
    (okb : ∀ T, W.live T → T ∈ (getW w E).trashes → T ∉ (getW w E).creates → yieldAfter w W rs E g' T = [])
    (okc : ∀ T, W.live T → T ∉ (getW w E).trashes → T ∉ (getW w E).creates →
        ((getT rs.act T).running.map fun h => W.view T (rs.ids h)).Perm ((yieldAfter w W rs E g' T).map (W.view T)))
    (e : commit w W rs E g' = some rs') : ∀ T, W.live T → Fresh W rs' T := by
  intro T hlive
  obtain ⟨s2, created, hu, rfl⟩ := commit_some e
  obtain ⟨new, hnew, h⟩ := leg_spec wf pinv.1 hu
  obtain ⟨knd, kdis⟩ := leg_keys wf pok pinv hu
  obtain ⟨h1, h2, h3⟩ := h T
  unfold Fresh
  simp only []
  rcases Nat.lt_or_ge T w.length with hT | hT
  case inr =>
    -- out of range: nothing runs, nothing is yielded
    rw [getT_of_le s2 T (by rw [createLoop_length hu, applyActivation_length, trash, trashLoop_length, pinv.1]; exact hT)]
    simp [TState.empty, yieldEff]
  -- the surviving handlers keep their in-states, the new ones carry what `T` yields on `g'`
  have hkeep : (kept w rs.act E T).map (fun h => W.view T (assign rs.ids created h)) =
      (kept w rs.act E T).map (fun h => W.view T (rs.ids h)) :=
    List.map_congr_left fun h hh => by rw [assign_not_mem (kdis T h hh)]
  have hnewv : ((new T).map Prod.fst).map (fun h => W.view T (assign rs.ids created h)) = ((new T).map Prod.snd).map (W.view T) := by
    rw [List.map_map, List.map_map]
    exact List.map_congr_left fun p hp => by
      simp only [Function.comp]; rw [assign_mem knd ((hnew p).mpr ⟨T, hp⟩)]
  rw [h1, List.map_append, hkeep, hnewv, h2, yieldEff, h3 hT]
  unfold kept
  by_cases hc : T ∈ (getW w E).creates <;> by_cases ht : T ∈ (getW w E).trashes <;>
    simp only [hc, ht, if_true, if_false, List.map_nil, List.append_nil, List.nil_append]
  · exact List.Perm.refl _
  · rw [oka T hlive hc ht]; exact List.Perm.refl _
  · have := okb T hlive ht hc
    unfold yieldAfter at this
    rw [this]; exact List.Perm.refl _
  · exact okc T hlive ht hc

theorem fresh_step {G : Type} {w : Wires} {W : World G} {rs rs' : RS G} {E : TaggerIdx} {g' : G}
    (wf : WFw w) (pok : PoolsOK w) (pinv : PoolInv w rs.act) (fr : ∀ T, W.live T → Fresh W rs T)
    (ok : StepOK w W rs E g') (e : commit w W rs E g' = some rs') : ∀ T, W.live T → Fresh W rs' T :=
  fresh_commit wf pok pinv ok.a ok.b
    (fun T hl ht hc => (fr T hl).trans (ok.c T hl ht hc).symm) e

/-- hypotheses about the commit of the start-of-run event (clause (g)): every live tagger is created by the start-of-run
tagger or generates nothing on the state after the start -/
def StartOK {G : Type} (w : Wires) (W : World G) (rs : RS G) (S : TaggerIdx) (g' : G) : Prop :=
  ∀ T, W.live T → T ∈ (getW w S).creates ∨ yieldAfter w W rs S g' T = []

theorem fresh_start {G : Type} {w : Wires} {W : World G} {rs rs' : RS G} {S : TaggerIdx} {g' : G}
    (wf : WFw w) (pok : PoolsOK w) (pinv : PoolInv w rs.act)
    (empty : ∀ T, W.live T → (getT rs.act T).running = [])
    (ok : StartOK w W rs S g') (e : commit w W rs S g' = some rs') : ∀ T, W.live T → Fresh W rs' T := by
  refine fresh_commit wf pok pinv (fun T hl _ _ => empty T hl) ?_ ?_ e
  · intro T hl _ hc
    rcases ok T hl with h | h
    · exact absurd h hc
    · exact h
  · intro T hl _ hc
    rcases ok T hl with h | h
    · exact absurd h hc
    · rw [empty T hl, h]; exact List.Perm.refl _

end JF.Act
