import JF.Lemmas.CompositeChainSteps
/-
An executable sufficient check for weak admissibility (`C12.AdmW`) of one event.  The definition asks for witnesses (the time-sliced
objects and point masses the event touches); on a concrete state they are what the state holds, so the check reads them off instead
of having them written out.  The version along a history (`AdmWFree`, `admWFreeB`) is in `JF/Props/ModeDiscipline.lean`.
-/
namespace JF.C12
open JF JF.Composite

/-- `AdmW`, clause by clause, with every `∃ x, o = some x ∧ …` turned into `o.any …` and every `∃ x ∈ l, …` into `l.any …` -/
def admWB (d : Nat) (L : List ℚ) (cs : List (CObj ℚ)) : Composite.Ev ℚ → Bool
  | .keep _ _ => true
  | .snap t S i j dd x =>
    ((sliceAt Ops.rat L t S cs)[i]?).all fun c =>
      match j with
      | none => x == c.root.pos.getD dd 0
      | some j => (c.leaves[j]?).all fun l => x == l.pos.getD dd 0
  | .exchange t S i j i' j' =>
    S.contains i && decide (i = i' → j ≠ j') &&
      ((leafOf (sliceAt Ops.rat L t S cs) i j).any fun a => a.vel.isSome) &&
      (leafOf (sliceAt Ops.rat L t S cs) i' j').isSome
  | .pass t S iL iT =>
    S.contains iL && iL != iT &&
      (((sliceAt Ops.rat L t S cs)[iL]?).any fun cL => cL.leaves.any fun a => a.vel.isSome) &&
      ((sliceAt Ops.rat L t S cs)[iT]?).isSome
  | .eocLeaf t i j i' j' vn =>
    (cs[i]?).any fun c0 => ((sliceComp Ops.rat L t c0).leaves[j]?).any fun a => a.vel.any fun old =>
      (((sliceAt Ops.rat L t [i] cs)[i']?).any fun c' => (c'.leaves[j']?).isSome) &&
        vn.any (· != 0) && vn.length == d && nsq vn == nsq old
  | .eocRoot t i i' vn =>
    ((sliceAt Ops.rat L t [i] cs)[i]?).any fun c => ((sliceAt Ops.rat L t [i] cs)[i']?).isSome &&
      c.leaves.any fun a => a.vel.any fun old => vn.any (· != 0) && vn.length == d && nsq vn == nsq old
  | .toLeaf t i ch =>
    ((sliceAt Ops.rat L t [i] cs)[i]?).any fun co => (co.leaves.any fun a => a.vel.isSome) && decide (ch < co.leaves.length)
  | .toRoot t i => ((sliceAt Ops.rat L t [i] cs)[i]?).any fun co => co.leaves.any fun a => a.vel.isSome
  | .start i P v =>
    (cs[i]?).any fun c => decide P.Nodup && P.all (· < c.leaves.length) && !P.isEmpty && v.any (· != 0) && v.length == d

theorem nz_of_any {v : List ℚ} (h : v.any (· != 0) = true) : NZ v := by
  obtain ⟨x, hx, hne⟩ := List.any_eq_true.mp h
  obtain ⟨k, hk, rfl⟩ := List.getElem_of_mem hx
  exact ⟨k, by simpa [List.getD_eq_getElem?_getD, List.getElem?_eq_getElem hk] using hne⟩

theorem vel_ne_none {a : PUnit ℚ} (h : a.vel.isSome = true) : a.vel ≠ none := fun hn => by rw [hn] at h; cases h

theorem admW_of_check {d : Nat} {L : List ℚ} {cs : List (CObj ℚ)} {e : Composite.Ev ℚ} (h : admWB d L cs e = true) :
    AdmW d L cs e := by
  cases e with
  | keep t S => trivial
  | snap t S i j dd x =>
    intro c hc
    simp only [admWB, hc, Option.all_some] at h
    cases j with
    | none => simpa using h
    | some j =>
      intro l hl
      simpa [hl] using h
  | exchange t S i j i' j' =>
    simp only [admWB, Bool.and_eq_true, Option.any_eq_true, Option.isSome_iff_exists, List.contains_iff_mem,
      decide_eq_true_eq] at h
    obtain ⟨⟨⟨h1, h2⟩, a, ha, v, hv⟩, b, hb⟩ := h
    exact ⟨h1, h2, a, b, v, ha, hv, hb⟩
  | pass t S iL iT =>
    simp only [admWB, Bool.and_eq_true, Option.any_eq_true, List.any_eq_true, Option.isSome_iff_exists,
      List.contains_iff_mem, bne_iff_ne] at h
    obtain ⟨⟨⟨h1, h2⟩, cL, hL, a, ha, v, hv⟩, cT, hT⟩ := h
    exact ⟨h1, h2, cL, cT, a, hL, hT, ha, by rw [hv]; exact Option.some_ne_none v⟩
  | eocLeaf t i j i' j' vn =>
    simp only [admWB, Bool.and_eq_true, Option.any_eq_true, Option.isSome_iff_exists, beq_iff_eq] at h
    obtain ⟨c0, h0, a, ha, old, hold, ⟨⟨⟨c', hc', b, hb⟩, hnz⟩, hlen⟩, hsq⟩ := h
    exact ⟨c0, c', a, b, old, h0, ha, hold, hc', hb, nz_of_any hnz, hlen, hsq⟩
  | eocRoot t i i' vn =>
    simp only [admWB, Bool.and_eq_true, Option.any_eq_true, List.any_eq_true, Option.isSome_iff_exists, beq_iff_eq] at h
    obtain ⟨c, hc, ⟨c', hc'⟩, a, ha, old, hold, ⟨hnz, hlen⟩, hsq⟩ := h
    exact ⟨c, c', a, old, hc, hc', ha, hold, nz_of_any (List.any_eq_true.mpr hnz), hlen, hsq⟩
  | toLeaf t i ch =>
    simp only [admWB, Bool.and_eq_true, Option.any_eq_true, List.any_eq_true, decide_eq_true_eq] at h
    obtain ⟨co, hco, ⟨a, ha, hv⟩, hch⟩ := h
    exact ⟨co, a, hco, ha, vel_ne_none hv, hch⟩
  | toRoot t i =>
    simp only [admWB, Option.any_eq_true, List.any_eq_true] at h
    obtain ⟨co, hco, a, ha, hv⟩ := h
    exact ⟨co, a, hco, ha, vel_ne_none hv⟩
  | start i P v =>
    simp only [admWB, Bool.and_eq_true, Option.any_eq_true, List.all_eq_true, decide_eq_true_eq, Bool.not_eq_true',
      List.isEmpty_eq_false_iff, beq_iff_eq] at h
    obtain ⟨c, hc, ⟨⟨⟨hnd, hlt⟩, hne⟩, hnz⟩, hlen⟩ := h
    exact ⟨c, hc, hnd, hlt, hne, nz_of_any hnz, hlen⟩

end JF.C12
