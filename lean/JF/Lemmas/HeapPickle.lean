import JF.Lemmas.HeapSched
/-! Pickle round trip of the model of `HeapScheduler` (`__getstate__` / `__setstate__`). -/
namespace JF.Sched
open JF.Heap
variable {κ : Type} {cfg : Cfg κ}

theorem getstateLoop_spec (hp : CHeap κ) (hls : hp.length ≤ hp.mem.size)
    (hh : ∀ i, 1 ≤ i → i < hp.length → (get cfg hp i).h ≠ 0) :
    ∀ fuel idx, 1 ≤ fuel → hp.length ≤ idx + fuel →
      getstateLoop cfg hp fuel idx = ((List.range' (idx + 1) (hp.length - (idx + 1))).map (get cfg hp), false) := by
  intro fuel
  induction fuel with
  | zero => intro idx h; exact absurd h (by decide)
  | succ fuel ih =>
    intro idx _ hf
    by_cases hi : idx + 1 < hp.length
    · have hne : ((get cfg hp (idx + 1)).h == 0) = false := by simpa using hh (idx + 1) (Nat.le_add_left 1 idx) hi
      have hs : idx + 1 < hp.mem.size := Nat.lt_of_lt_of_le hi hls
      have hr : hp.length - (idx + 1) = (hp.length - (idx + 1 + 1)) + 1 := by omega
      simp only [getstateLoop, entry, hi, if_true, hne, Bool.false_eq_true, if_false, hs, decide_true, Bool.not_true,
        ih (idx + 1) (by omega) (by rw [Nat.add_right_comm]; exact hf), Bool.or_false]
      rw [hr, List.range'_succ]; rfl
    · have hr : hp.length - (idx + 1) = 0 := Nat.sub_eq_zero_of_le (Nat.le_of_not_lt hi)
      simp [getstateLoop, entry, hi, nullEntry, hr]

/-- re-inserting an entry that is not smaller than its parent-to-be appends it -/
theorem insert_append (o : StrictWeak cfg) {hp hk : CHeap κ} {k : Nat} (hIk : Inv cfg hk)
    (hlen : hk.length = if k = 0 then 0 else k + 1)
    (hsame : ∀ i, 1 ≤ i → i ≤ k → get cfg hk i = get cfg hp i)
    (ho : HOrd cfg hp) (hk1 : k + 1 < hp.length) :
    let e := get cfg hp (k + 1)
    let hk' := insert cfg hk e.key e.h e.c
    Inv cfg hk' ∧ hk'.length = k + 2 ∧ (∀ i, 1 ≤ i → i ≤ k + 1 → get cfg hk' i = get cfg hp i) := by
  intro e hk'
  have IS := insert_spec o e.key e.h e.c hIk
  have hmax : max hk.length 1 = k + 1 := by
    rw [hlen]
    by_cases h : k = 0
    · subst h; rfl
    · rw [if_neg h]; exact Nat.max_eq_left (Nat.le_add_left 1 k)
  refine ⟨IS.1, by rw [IS.2.2, hmax], ?_⟩
  have P := prep_spec hIk.1
  have hp_eq : (prep cfg hk).2 = k + 1 := P.pdef.trans hmax
  show ∀ i, 1 ≤ i → i ≤ k + 1 → get cfg (insert cfg hk e.key e.h e.c) i = get cfg hp i
  rw [insert_eq]
  generalize (prep cfg hk).1 = hp1 at P
  rw [hp_eq] at P ⊢
  have hks : k + 1 < hp1.mem.size := Nat.lt_of_lt_of_le (Nat.lt_add_of_pos_right (by decide)) P.sz
  have hkl : (k + 1) / 2 ≤ k := Nat.le_of_lt_succ (Nat.div_lt_self (Nat.succ_pos k) (by decide))
  -- the new entry is not smaller than its parent-to-be: the loop stops at once
  have hcond : cfg.lt e.key (get cfg hp1 ((k + 1) / 2)).key = false := by
    by_cases h0 : (k + 1) / 2 = 0
    · rw [h0, P.bot]; exact o.bot_min _
    · have h1 := Nat.pos_of_ne_zero h0
      rw [P.same _ h1 (Nat.lt_succ_of_le hkl), hsame _ h1 hkl]
      exact ho (k + 1) (Nat.le_add_left 1 k) hk1
  have hloop : insertLoop cfg e.key (k + 1 + 1) hp1 (k + 1) = (hp1, k + 1) := by
    simp only [insertLoop, chk_of_lt hp1 (Nat.lt_of_le_of_lt hkl (Nat.lt_of_succ_lt hks)), hcond, Bool.false_eq_true,
      if_false]
  rw [hloop]
  dsimp only
  intro i h1 hik
  rw [get_set_lt _ _ _ hks]
  by_cases hi : i = k + 1
  · simp only [hi, if_true]; rfl
  · simp only [hi, if_false]
    have hik' : i ≤ k := Nat.le_of_lt_succ (Nat.lt_of_le_of_ne hik hi)
    rw [P.same i h1 (Nat.lt_succ_of_le hik'), hsame i h1 hik']

theorem setstate_fold (o : StrictWeak cfg) {hp : CHeap κ} (ho : HOrd cfg hp) :
    ∀ m k (hk : CHeap κ), k + m ≤ hp.length - 1 → Inv cfg hk →
      hk.length = (if k = 0 then 0 else k + 1) →
      (∀ i, 1 ≤ i → i ≤ k → get cfg hk i = get cfg hp i) →
      let r := ((List.range' (k + 1) m).map (get cfg hp)).foldl (fun hp e => insert cfg hp e.key e.h e.c) hk
      Inv cfg r ∧ r.length = (if k + m = 0 then 0 else k + m + 1) ∧
        (∀ i, 1 ≤ i → i ≤ k + m → get cfg r i = get cfg hp i) := by
  intro m
  induction m with
  | zero => intro k hk _ hI hl hs; exact ⟨hI, hl, hs⟩
  | succ m ih =>
    intro k hk hb hI hl hs
    obtain ⟨a1, a2, a3⟩ := insert_append o hI hl hs ho (by omega)
    have e1 : k + 1 + m = k + (m + 1) := by rw [Nat.add_assoc, Nat.add_comm 1 m]
    have := ih (k + 1) _ (by rw [e1]; exact hb) a1 (by rw [a2, if_neg (Nat.succ_ne_zero k)]) a3
    simp only [List.range'_succ, List.map_cons, List.foldl_cons]
    rw [e1] at this
    exact this

theorem pickle_spec (o : StrictWeak cfg) {W : Nat} {s : HSched κ} {live : Live κ} (R : Rel cfg W s live) :
    Rel cfg W (s.pickle cfg) live ∧ (s.pickle cfg).mv = s.mv ∧ (s.pickle cfg).last = s.last ∧
    (∀ i, 1 ≤ i → i < s.heap.length → get cfg (s.pickle cfg).heap i = get cfg s.heap i) ∧
    (s.pickle cfg).heap.length = (if s.heap.length ≤ 1 then 0 else s.heap.length) := by
  obtain ⟨⟨hnf, hw⟩, ho⟩ := R.inv
  have hls : s.heap.length ≤ s.heap.mem.size := by rcases hw with h | h <;> omega
  have hh : ∀ i, 1 ≤ i → i < s.heap.length → (get cfg s.heap i).h ≠ 0 :=
    fun i h1 hL => (R.cnt _ ⟨i, h1, hL, rfl⟩).1
  have hgs := getstateLoop_spec (cfg := cfg) s.heap hls hh (s.heap.length + 1) 0 (Nat.le_add_left 1 _)
    (by rw [Nat.zero_add]; exact Nat.le_succ _)
  obtain ⟨r1, r2, r3⟩ := setstate_fold o ho (s.heap.length - 1) 0 CHeap.empty
    (Nat.le_of_eq (Nat.zero_add _)) (inv_empty cfg) rfl (fun i h1 h2 => absurd (Nat.le_trans h1 h2) (by decide))
  simp only [Nat.zero_add] at hgs r1 r2 r3
  unfold HSched.pickle HSched.getstate setstateHeap
  rw [hgs]
  simp only [hnf, Bool.or_false]
  generalize hr : List.foldl (fun hp e => insert cfg hp e.key e.h e.c) CHeap.empty
    (List.map (get cfg s.heap) (List.range' 1 (s.heap.length - 1))) = r at r1 r2 r3
  have hrr : ({ r with fault := r.fault } : CHeap κ) = r := rfl
  rw [hrr]
  have hr2 : r.length = if s.heap.length ≤ 1 then 0 else s.heap.length := by
    rw [r2]
    by_cases h0 : s.heap.length ≤ 1
    · rw [if_pos (Nat.sub_eq_zero_of_le h0), if_pos h0]
    · have : s.heap.length - 1 ≠ 0 ∧ s.heap.length - 1 + 1 = s.heap.length := by omega
      rw [if_neg this.1, if_neg h0, this.2]
  have hmem : ∀ e, Mem cfg r e ↔ Mem cfg s.heap e := by
    intro e
    constructor
    · rintro ⟨i, h1, hL, he⟩
      rw [hr2] at hL
      split at hL
      · exact absurd hL (Nat.not_lt_zero i)
      · exact ⟨i, h1, hL, by rw [← r3 i h1 (Nat.le_sub_one_of_lt hL)]; exact he⟩
    · rintro ⟨i, h1, hL, he⟩
      exact ⟨i, h1, by rw [hr2, if_neg (Nat.not_le.2 (Nat.lt_of_le_of_lt h1 hL))]; exact hL,
        by rw [r3 i h1 (Nat.le_sub_one_of_lt hL)]; exact he⟩
  refine ⟨⟨r1, fun e he => R.cnt e ((hmem e).1 he), fun h t => ?_⟩, trivial, trivial,
    fun i h1 hL => r3 i h1 (Nat.le_sub_one_of_lt hL), hr2⟩
  rw [R.cur h t]
  constructor
  · rintro ⟨m, hm, hmm⟩; exact ⟨m, hm, (hmem _).2 hmm⟩
  · rintro ⟨m, hm, hmm⟩; exact ⟨m, hm, (hmem _).1 hmm⟩
end JF.Sched
