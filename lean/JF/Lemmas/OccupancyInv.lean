import JF.Model.Occupancy
import JF.Lemmas.Occupancy
import JF.Lemmas.OccFields
import JF.Lemmas.CellsGeom
import Mathlib.Tactic.Positivity
/-!
Definitions (`OccInv` — the statement of property C11 on the model — and its ingredients) and the
helper lemmas behind the theorems of `JF/Props/C11.lean`: the loop invariant of `initialize`, the two
blocks of `update`, and the exact-arithmetic one-direction cell grid used by the boundary theorems.
-/
namespace JF.C11
open JF JF.Occ

/-- the surplus list stored under cell `c` (`[]` if the dictionary has no such key) -/
def surAt (s : State) (c : Cell) : List UId := (s.surplus.get? c).getD []

/-- how often unit `u` is on record under cell `c` (occupant list + surplus list) -/
def recCount (s : State) (u : UId) (c : Cell) : Nat := (s.occupants c).count u + (surAt s c).count u

/-- structural part: unique dictionary keys, no empty surplus list, occupant limit respected -/
structure WF (s : State) : Prop where
  keys_nodup : s.surplus.keys.Nodup
  no_empty : ∀ c, s.surplus.get? c ≠ some []
  cap : 0 < s.cap → ∀ c, ((s.occupants c).length : Int) ≤ s.cap

/-- `f u = some c`: unit `u` is on record exactly once, under cell `c`; `f u = none`: nowhere -/
def Rec (s : State) (f : UId → Option Cell) : Prop :=
  ∀ u c, recCount s u c = if f u = some c then 1 else 0

/-- **The property.**  Every relevant non-active unit is recorded exactly once, in the occupant or
surplus list of the cell containing its position, and nothing else is recorded; the active unit is in
no list but recorded as the active unit of the cell containing its position; no cell lists more
occupants than the limit (and the dictionary is well formed). -/
structure OccInv (rel : UId → Bool) (cellOf : UId → Cell) (s : State) : Prop where
  wf : WF s
  active : (s.activeId = none ∧ s.activeCell = none) ∨
           (∃ a, s.activeId = some a ∧ s.activeCell = some (cellOf a) ∧ rel a = true)
  count : Rec s (fun u => if rel u = true ∧ s.activeId ≠ some u then some (cellOf u) else none)

theorem Rec.congr {s : State} {f g : UId → Option Cell} (h : Rec s f) (hfg : ∀ u, f u = g u) : Rec s g :=
  funext hfg ▸ h

theorem Rec.add {s s' : State} {f : UId → Option Cell} {u0 : UId} {c0 : Cell} (hr : Rec s f) (hf : f u0 = none)
    (h : ∀ u c, recCount s' u c = recCount s u c + if u = u0 ∧ c = c0 then 1 else 0) :
    Rec s' (fun u => if u = u0 then some c0 else f u) := by
  intro u c
  rw [h, hr]
  by_cases hu : u = u0
  · subst hu; simp only [hf, true_and, if_true]; grind
  · simp [hu]

theorem Rec.remove {s s' : State} {f : UId → Option Cell} {u0 : UId} {c0 : Cell} (hr : Rec s f) (hf : f u0 = some c0)
    (h : ∀ u c, recCount s' u c + (if u = u0 ∧ c = c0 then 1 else 0) = recCount s u c) :
    Rec s' (fun u => if u = u0 then none else f u) := by
  intro u c
  have := h u c
  rw [hr] at this
  by_cases hu : u = u0
  · subst hu; simp only [hf, true_and, if_true] at this ⊢; grind
  · simpa [hu] using this

/-! ### `insert` (the block shared by `initialize` and `update`) -/

theorem insert_count (s : State) (c : Cell) (u : UId) (u' : UId) (c' : Cell) :
    recCount (Occ.insert s c u) u' c' = recCount s u' c' + if u' = u ∧ c' = c then 1 else 0 := by
  unfold Occ.insert
  split
  · simp only [recCount, surAt, setAt_apply]
    by_cases hc : c' = c
    · subst hc; simp only [if_true, List.count_append, List.count_singleton]; grind
    · simp [hc]
  · simp only [recCount, surAt, Dict.get?_appendAt]
    by_cases hc : c' = c
    · subst hc; simp only [if_true, Option.getD_some, List.count_append, List.count_singleton]; grind
    · simp [hc]

theorem insert_wf {s : State} (h : WF s) (c : Cell) (u : UId) : WF (Occ.insert s c u) := by
  unfold Occ.insert
  split
  · rename_i hr
    refine ⟨h.keys_nodup, h.no_empty, ?_⟩
    intro hcap c'
    simp only [setAt_apply]
    split
    · rename_i hc; subst hc
      simp only [hasRoom, Bool.or_eq_true, decide_eq_true_eq] at hr
      simp only [List.length_append, List.length_singleton]
      have := h.cap hcap c'
      simp only at hcap
      omega
    · exact h.cap hcap c'
  · refine ⟨Dict.nodup_keys_appendAt _ _ _ h.keys_nodup, ?_, h.cap⟩
    intro c'
    simp only [Dict.get?_appendAt]
    split
    · simp
    · exact h.no_empty c'

/-! ### `dropEmpty` (`if not self._surplus.get(cell, True): del self._surplus[cell]`) -/

theorem dropEmpty_count (s : State) (c : Cell) (u : UId) (c' : Cell) :
    recCount (dropEmpty s c) u c' = recCount s u c' := by
  unfold dropEmpty
  split
  · rename_i h
    simp only [recCount, surAt, Dict.get?_del]
    split
    · rename_i hc; subst hc; simp [h]
    · rfl
  · rfl

/-- `dropEmpty` restores "no empty surplus list" if `c` was the only possible offender -/
theorem dropEmpty_wf {s : State} (hk : s.surplus.keys.Nodup)
    (hne : ∀ c', c' ≠ c → s.surplus.get? c' ≠ some [])
    (hcap : 0 < s.cap → ∀ c, ((s.occupants c).length : Int) ≤ s.cap) : WF (dropEmpty s c) := by
  unfold dropEmpty
  split
  · refine ⟨Dict.nodup_keys_del _ _ hk, ?_, hcap⟩
    intro c'
    simp only [Dict.get?_del]
    split
    · simp
    · rename_i hc; exact hne c' hc
  · rename_i hno
    refine ⟨hk, ?_, hcap⟩
    intro c'
    by_cases hc : c' = c
    · subst hc; exact fun h => hno h
    · exact hne c' hc


/-- the relevance predicate and the cell function read off the list handed to `initialize` -/
def relOf (units : List UnitIn) (u : UId) : Bool := units.any (fun x => x.id == u && x.relevant)
def cellOfUnits (units : List UnitIn) (u : UId) : Cell :=
  match units.find? (fun x => x.id == u) with
  | some x => x.cell
  | none => 0

theorem empty_inv (cap : Int) : WF (State.empty cap) ∧ Rec (State.empty cap) (fun _ => none) := by
  refine ⟨⟨by simp [State.empty, Dict.keys], by simp [State.empty],
    by intro h c; simp only [State.empty] at h ⊢; simp only [List.length_nil]; omega⟩, ?_⟩
  intro u c; simp [recCount, surAt, State.empty]

theorem relOf_cons (x : UnitIn) (t : List UnitIn) (u : UId) :
    relOf (x :: t) u = ((x.id == u && x.relevant) || relOf t u) := by
  simp [relOf, List.any_cons]

theorem cellOfUnits_cons (x : UnitIn) (t : List UnitIn) (u : UId) :
    cellOfUnits (x :: t) u = if x.id = u then x.cell else cellOfUnits t u := by
  simp only [cellOfUnits, List.find?_cons]
  by_cases h : x.id = u
  · simp [h]
  · have : (x.id == u) = false := by simpa using h
    simp [this, h]

/-- generalised loop invariant of `initialize`: after processing a duplicate-free list, exactly the
relevant units of the list are on record, each under its cell -/
theorem foldl_inv (units : List UnitIn) :
    ∀ (s : State) (f : UId → Option Cell), WF s → Rec s f → s.activeId = none → s.activeCell = none →
      (units.map (·.id)).Nodup → (∀ x ∈ units, f x.id = none) →
      let s' := units.foldl (fun s u => if u.relevant then Occ.insert s u.cell u.id else s) s
      WF s' ∧ s'.activeId = none ∧ s'.activeCell = none ∧ s'.cap = s.cap ∧
      Rec s' (fun u => if relOf units u = true then some (cellOfUnits units u) else f u) := by
  induction units with
  | nil => intro s f hw hr ha hc _ _; exact ⟨hw, ha, hc, rfl, by simpa [relOf] using hr⟩
  | cons x t ih =>
    intro s f hw hr ha hc hnd hfresh
    simp only [List.map_cons, List.nodup_cons] at hnd
    simp only [List.foldl_cons]
    have hxt : ∀ y ∈ t, y.id ≠ x.id := fun y hy h => hnd.1 (h ▸ List.mem_map_of_mem hy)
    have hnt : relOf t x.id = false := by
      simp only [relOf, List.any_eq_false, Bool.and_eq_true, beq_iff_eq, not_and]
      exact fun y hy h' => absurd h' (hxt y hy)
    have hfx := hfresh x (List.mem_cons_self ..)
    obtain ⟨hw₁, ha₁, hc₁, hcap₁, hr₁⟩ : let s₁ := if x.relevant then Occ.insert s x.cell x.id else s
        WF s₁ ∧ s₁.activeId = none ∧ s₁.activeCell = none ∧ s₁.cap = s.cap ∧
        Rec s₁ (fun u => if u = x.id ∧ x.relevant = true then some x.cell else f u) := by
      cases hx : x.relevant
      · exact ⟨hw, ha, hc, rfl, hr.congr fun u => by simp⟩
      · exact ⟨insert_wf hw _ _, by simpa using ha, by simpa using hc, by simp,
          (hr.add hfx (insert_count s x.cell x.id)).congr fun u => by simp⟩
    obtain ⟨h1, h2, h3, h4, h5⟩ := ih _ _ hw₁ hr₁ ha₁ hc₁ hnd.2
      (by intro y hy; simp only [hxt y hy, false_and, if_false]; exact hfresh y (List.mem_cons_of_mem _ hy))
    refine ⟨h1, h2, h3, h4.trans hcap₁, h5.congr fun u => ?_⟩
    simp only [relOf_cons, cellOfUnits_cons, Bool.or_eq_true, Bool.and_eq_true, beq_iff_eq]
    by_cases hu : u = x.id
    · subst hu; simp [hnt]
    · have hu' : ¬ x.id = u := fun h => hu h.symm
      simp [hu, hu']


/-- after the first block of `update` everything relevant is on record (the previous active unit
under its *recorded* cell) and no error was raised -/
theorem reinsertOld_spec {rel : UId → Bool} {cellOf : UId → Cell} {s : State} (h : OccInv rel cellOf s) :
    ∃ s1, reinsertOld s = .ok s1 ∧ WF s1 ∧
      Rec s1 (fun u => if rel u = true then some (cellOf u) else none) := by
  rcases h.active with ⟨ha, hc⟩ | ⟨a, ha, hc, hra⟩
  · exact ⟨s, by simp [reinsertOld, ha], h.wf, h.count.congr fun u => by simp [ha]⟩
  · refine ⟨Occ.insert s (cellOf a) a, by simp [reinsertOld, ha, hc], insert_wf h.wf _ _,
      (h.count.add (by simp [ha]) (insert_count s _ a)).congr fun u => ?_⟩
    by_cases hu : u = a
    · simp [hu, hra]
    · have hu' : ¬ a = u := fun e => hu e.symm
      simp [hu, ha, hu']

theorem wf_of_fields {s t : State} (h : WF s) (h1 : t.surplus = s.surplus) (h2 : t.occupants = s.occupants)
    (h3 : t.cap = s.cap) : WF t :=
  ⟨h1 ▸ h.keys_nodup, h1 ▸ h.no_empty, by rw [h2, h3]; exact h.cap⟩

theorem count_erase_add {l : List UId} {a : UId} (h : a ∈ l) (u : UId) :
    (l.erase a).count u + (if u = a then 1 else 0) = l.count u := by
  have := List.count_pos_iff.mpr h
  rw [List.count_erase]
  by_cases hu : u = a
  · subst hu; simp; omega
  · have hu' : ¬ a = u := fun e => hu e.symm
    simp [hu, hu']

/-- the second block of `update`: from "everything relevant on record" to the property with the new
active unit; none of the error branches (`IndexError`, `KeyError`, `ValueError`) is taken -/
theorem activate_inv {rel : UId → Bool} {cellOf : UId → Cell} {s1 : State} (new : UnitIn) (hw : WF s1)
    (hr : Rec s1 (fun u => if rel u = true then some (cellOf u) else none))
    (hrel : new.relevant = rel new.id) (hcell : new.cell = cellOf new.id) :
    ∃ s', activate s1 new = .ok s' ∧ OccInv rel cellOf s' := by
  unfold activate
  by_cases hn : new.relevant = true
  · simp only [hn, if_true]
    have hreln : rel new.id = true := hrel ▸ hn
    -- what is left to show in both branches: the new active unit has left the record of its cell
    have fin : ∀ s', WF s' → s'.activeId = some new.id → s'.activeCell = some new.cell →
        (∀ u c, recCount s' u c + (if u = new.id ∧ c = new.cell then 1 else 0) = recCount s1 u c) →
        OccInv rel cellOf s' := by
      intro s' hw' ha hc hcount
      refine ⟨hw', Or.inr ⟨new.id, ha, hcell ▸ hc, hreln⟩,
        (hr.remove (by simp [hreln, hcell]) hcount).congr fun u => ?_⟩
      by_cases hu : u = new.id
      · simp [hu, ha]
      · have hu' : ¬ new.id = u := fun e => hu e.symm
        simp [hu, ha, hu']
    by_cases hm : new.id ∈ s1.occupants new.cell
    · simp only [hm, if_true]
      split
      · rename_i hg; exact absurd hg (hw.no_empty new.cell)
      · refine ⟨_, rfl, fin _ (dropEmpty_wf hw.keys_nodup (fun c' _ => hw.no_empty c') ?_) (by simp) (by simp)
          fun u c => ?_⟩
        · intro hcap c
          simp only [setAt_apply]
          split
          · have := hw.cap hcap new.cell
            have hl := List.length_erase_of_mem hm
            show (((s1.occupants new.cell).erase new.id).length : Int) ≤ s1.cap
            omega
          · exact hw.cap hcap c
        · rw [dropEmpty_count]
          have := count_erase_add hm u
          simp only [recCount, surAt, setAt_apply]
          by_cases hc : c = new.cell
          · subst hc; simp only [if_true, and_true]; omega
          · simp [hc]
    · simp only [hm, if_false]
      -- `new.id` is on record under its cell, and not as an occupant: it is in the surplus list
      have h1 : recCount s1 new.id new.cell = 1 := by rw [hr]; simp [hreln, hcell]
      simp only [recCount, surAt, List.count_eq_zero.mpr hm, Nat.zero_add] at h1
      cases hg : s1.surplus.get? new.cell with
      | none => simp [hg] at h1
      | some l =>
        simp only [hg, Option.getD_some] at h1
        have hml : new.id ∈ l := List.count_pos_iff.mp (by omega)
        simp only [hml, if_true]
        refine ⟨_, rfl, fin _ (dropEmpty_wf ?_ ?_ hw.cap) (by simp) (by simp) fun u c => ?_⟩
        · simp only [Dict.keys_set]; exact hw.keys_nodup
        · intro c' hc'
          simp only [Dict.get?_set, hc', false_and, if_false]
          exact hw.no_empty c'
        · rw [dropEmpty_count]
          have := count_erase_add hml u
          have hkey : new.cell ∈ s1.surplus.keys := by
            by_contra hk; rw [(Dict.get?_eq_none_iff _ _).mpr hk] at hg; cases hg
          simp only [recCount, surAt, Dict.get?_set, hkey, and_true]
          by_cases hc : c = new.cell
          · subst hc; simp only [if_true, and_true, hg, Option.getD_some]; omega
          · simp [hc]
  · have hn' : new.relevant = false := by simpa using hn
    simp only [hn', Bool.false_eq_true, if_false]
    exact ⟨_, rfl, wf_of_fields hw rfl rfl rfl, Or.inl ⟨rfl, rfl⟩, hr.congr fun u => by simp⟩

/-! ### exact-arithmetic cell grid in one direction -/

/-- exact-arithmetic geometry of one direction: `n` cells of side `side`, box length `n * side` -/
structure Grid where
  n : ℕ
  side : ℚ
  hn : 0 < n
  hside : 0 < side

namespace Grid
def L (g : Grid) : ℚ := g.n * g.side
/-- `_cell_identifier(x) = min(int(x / side), n - 1)`, the index `position_to_cell` computes in this direction -/
def idx (g : Grid) (x : ℚ) : ℤ := min (Ops.rat.toInt (x / g.side)) ((g.n : ℤ) - 1)
/-- lower edge of cell `i` (exact reading of `cell_min`) -/
def cmin (g : Grid) (i : ℕ) : ℚ := i * g.side

theorem cmin_zero (g : Grid) : g.cmin 0 = 0 := by simp [cmin]

theorem cmin_succ (g : Grid) (i : ℕ) : g.cmin (i + 1) = g.cmin i + g.side := by
  simp only [cmin]; push_cast; ring

theorem cmin_nonneg (g : Grid) (i : ℕ) : 0 ≤ g.cmin i := mul_nonneg (Nat.cast_nonneg i) g.hside.le

theorem cmin_le_L (g : Grid) {i : ℕ} (h : i ≤ g.n) : g.cmin i ≤ g.L :=
  mul_le_mul_of_nonneg_right (Nat.cast_le.mpr h) g.hside.le

/-- the one-direction grid is one direction of the cell system of `JF.Cells` -/
theorem idx_eq_cellDigit (g : Grid) (x : ℚ) : g.idx x = Cells.cellDigit Ops.rat g.side g.n x := rfl

theorem idx_eq (g : Grid) {x : ℚ} {i : ℕ} (hi : i < g.n) (h0 : g.cmin i ≤ x) (h1 : x < g.cmin (i + 1)) :
    g.idx x = i :=
  (idx_eq_cellDigit g x).trans <| Cells.cellDigit_rat g.hside (Int.natCast_nonneg i) (Int.ofNat_lt.mpr hi)
    (by simpa [cmin] using h0) (by simpa [cmin] using h1)
end Grid

end JF.C11
