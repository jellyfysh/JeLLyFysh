import JF.Lemmas.SystemInvMP2Generic
import JF.Props.SystemInv3Loop
/-!
The composed system of COMPOSITE OBJECTS WITH CELL SYSTEMS (`JF.Sys3L`, `JF/Lemmas/SystemRun3LoopDefs.lean`) as an instance `T3`
of `JF.SysGen.CSys`: `X3` = `Sys3` without its mediator state, `RStep3` = `SysStep3` without `leg` (field for field), `Init3X` = `Init3`.
`reach3_of` / `reach3_to`: the runs `Reach3` ARE the runs `T3.ReachS` (both directions, no hypothesis).
`A3 v vo`: the adapter for views `v : G → List (CObj ℚ)` (composite objects) and `vo : G → List Occ.State` (the activator's internal
states as of their last `update`: as in `JF/Props/SystemInvMP.lean`, C20's world has no activator-internal mutable state, so the occupancies are counted to
the global state and the update of a leg is visible in the state after that leg's commit).
-/
namespace JF.SystemInvMP2
open JF JF.Act JF.Heap JF.Sched JF.Med JF.CW3 JF.C14 JF.Sys JF.Sys3 JF.Sys3L JF.C12 JF.Footprints3
  JF.SysGen
open JF.MediatorLoop hiding Run
open JF.Composite hiding pendOf

structure X3 where
  cs : List (CObj ℚ)
  occs : List Occ.State
  ids : HandlerId → IdTuple
  csPrev : List (CObj ℚ)
  mid : Act

def X3.toSys (x : X3) (m : SM) : Sys3 := ⟨m, x.cs, x.occs, x.ids, x.csPrev, x.mid⟩
def xOf3 (s : Sys3) : X3 := ⟨s.cs, s.occs, s.ids, s.csPrev, s.mid⟩

section defs
variable (env : Env ℚ) (geo : ∀ l, Geo (cwEnv env l)) (mw : ModeWiring) (S : TaggerIdx) (needs : HandlerId → Bool)

structure RStep3 (e : MedState Unit) (last : XTime) (x : X3) (o : Oracle XTime) (cm : Committed XTime) (x' : X3) : Prop where
  occ1 : if e.act.started = true then OccsUpdated env mw.w.labels.length x.occs x'.occs x.cs else x'.occs = x.occs
  yields : o.yields = fun T => yieldCls3 env T (mw.w.tagger T).cls (mw.w.tagger T).label x.cs x'.occs
  cands : CandsOK3 env geo mw x.cs last o cm.created
  ev : ∃ t E', cm.time = .fin t ∧ owner mw.w.wires cm.handler = some E' ∧ Commits3 env mw E' t x.cs x'.cs
  ids' : x'.ids = assign x.ids cm.created
  prev : x'.csPrev = x.cs
  mid' : x'.mid = midAct (mwire mw.w S needs) e o

def Init3X (x : X3) : Prop := Init3 env mw (x.toSys (MedState.init (specI xcfg) mw.w.wires))

def T3 : CSys := ⟨X3, mwire mw.w S needs, Init3X env mw, RStep3 env geo mw S needs⟩

end defs

section
variable {env : Env ℚ} {geo : ∀ l, Geo (cwEnv env l)} {mw : ModeWiring} {S : TaggerIdx} {needs : HandlerId → Bool}

theorem rstep3_of {s s' : Sys3} {o : Oracle XTime} {cm : Committed XTime} (hstep : SysStep3 env geo mw S needs s o cm s') :
    RStep3 env geo mw S needs (eraseS s.med) s.med.sched.last (xOf3 s) o cm (xOf3 s') :=
  ⟨hstep.occ1, hstep.yields, hstep.cands, hstep.ev, hstep.ids', hstep.prev, hstep.mid'⟩

theorem reach3_of {os : List (Oracle XTime)} {cs : List (Committed XTime)} {s : Sys3}
    (hr : Reach3 env geo mw S needs os cs s) : (T3 env geo mw S needs).ReachS os cs s.med (xOf3 s) := by
  induction hr with
  | init s h =>
    exact CSys.Reach.init (T := T3 env geo mw S needs) (I := specI xcfg) s.med (xOf3 s) h.med
      (show Init3 env mw _ from ⟨rfl, h.good, h.unif, h.rest, h.cons, h.prev⟩)
  | step _ hgo hstep ih =>
    exact CSys.Reach.step (T := T3 env geo mw S needs) ih hgo hstep.leg (rstep3_of hstep)

theorem reach3_to {os : List (Oracle XTime)} {cs : List (Committed XTime)} {m : MedState (specI xcfg).σ}
    {x : (T3 env geo mw S needs).X} (hr : (T3 env geo mw S needs).ReachS os cs m x) :
    Reach3 env geo mw S needs os cs (X3.toSys x m) := by
  induction hr with
  | init m x hm h => subst hm; exact .init _ h
  | step _ hgo hleg hw ih =>
    have hw' : RStep3 env geo mw S needs _ _ _ _ _ _ := hw
    exact .step ih hgo ⟨hw'.occ1, hw'.yields, hleg, hw'.cands, hw'.ev, hw'.ids', hw'.prev, hw'.mid'⟩

variable {G : Type}

def A3 (env : Env ℚ) (geo : ∀ l, Geo (cwEnv env l)) (mw : ModeWiring) (S : TaggerIdx) (needs : HandlerId → Bool)
    (v : G → List (CObj ℚ)) (vo : G → List Occ.State) : Adapter (T3 env geo mw S needs) G where
  nx e x o cm g' := (⟨v g', vo g', assign x.ids cm.created, x.cs, midAct (mwire mw.w S needs) e o⟩ : X3)
  sees x g := X3.cs x = v g ∧ X3.occs x = vo g
  sawPrev x g := X3.csPrev x = v g
  sees_nx _ _ _ _ _ := ⟨rfl, rfl⟩
  prev_nx _ _ _ _ _ _ h := h.1

theorem nx3_unique (v : G → List (CObj ℚ)) (vo : G → List Occ.State) (e : MedState Unit) (last : XTime) (x : X3)
    (o : Oracle XTime) (cm : Committed XTime) (x' : X3) (g' : G) (hw : RStep3 env geo mw S needs e last x o cm x')
    (hs : x'.cs = v g' ∧ x'.occs = vo g') : x' = (A3 env geo mw S needs v vo).nx e x o cm g' := by
  obtain ⟨a, b, c, d, f⟩ := x'
  have h1 := hw.ids'
  have h2 := hw.prev
  have h3 := hw.mid'
  obtain ⟨hs1, hs2⟩ := hs
  simp only at h1 h2 h3 hs1 hs2
  subst h1 h2 h3 hs1 hs2
  rfl

/-- the world part of `SysStep3` for a leg of the multi-process run to the global state `g'`, read through `v` / `vo` -/
structure WStep3 (env : Env ℚ) (geo : ∀ l, Geo (cwEnv env l)) (mw : ModeWiring) (v : G → List (CObj ℚ))
    (vo : G → List Occ.State) (e : MedState Unit) (last : XTime) (x : X3) (o : Oracle XTime) (cm : Committed XTime) (g' : G) :
    Prop where
  occ1 : if e.act.started = true then OccsUpdated env mw.w.labels.length x.occs (vo g') x.cs else vo g' = x.occs
  yields : o.yields = fun T => yieldCls3 env T (mw.w.tagger T).cls (mw.w.tagger T).label x.cs (vo g')
  cands : CandsOK3 env geo mw x.cs last o cm.created
  ev : ∃ t E', cm.time = .fin t ∧ owner mw.w.wires cm.handler = some E' ∧ Commits3 env mw E' t x.cs (v g')

theorem rstep3_nx_iff (v : G → List (CObj ℚ)) (vo : G → List Occ.State) (e : MedState Unit) (last : XTime) (x : X3)
    (o : Oracle XTime) (cm : Committed XTime) (g' : G) :
    RStep3 env geo mw S needs e last x o cm ((A3 env geo mw S needs v vo).nx e x o cm g') ↔
      WStep3 env geo mw v vo e last x o cm g' :=
  ⟨fun h => ⟨h.occ1, h.yields, h.cands, h.ev⟩, fun h => ⟨h.occ1, h.yields, h.cands, h.ev, rfl, rfl, rfl⟩⟩

end

end JF.SystemInvMP2
