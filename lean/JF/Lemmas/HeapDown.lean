import JF.Lemmas.HeapBasic
/-!
`bubble_down`, `root` (lazy deletion) and `delete_events` of the model of `heap.c`: memory safety,
preservation of the heap order, exact description of the stored entries.  The two loops that shrink the heap
(`root`, the scan of `delete_events`) share the step `dropAt` and are used through the equations of one iteration
inside the block (`rootLoop_succ`, `delScan_succ`); the lengths after each loop are at the end.
-/
namespace JF.Heap
variable {κ : Type} {cfg : Cfg κ}

/-- one comparison of a running minimum (`bubble_down`, Python's `min`): the candidate `c` replaces the choice `m` if it is
there (`b`) and strictly smaller -/
theorem pick_step (o : StrictWeak cfg) {ι : Type} (f : ι → κ) (m c : ι) (b : Bool) {m' : ι}
    (h : m' = if b && cfg.lt (f c) (f m) then c else m) :
    (m' = m ∨ (m' = c ∧ b = true)) ∧ cfg.lt (f m) (f m') = false ∧ (b = true → cfg.lt (f c) (f m') = false) := by
  subst h
  cases b with
  | false => simp [o.irrefl]
  | true =>
    cases hlt : cfg.lt (f c) (f m) with
    | true => simp [o.irrefl, o.asymm hlt]
    | false => simp [o.irrefl, hlt]

theorem pick_spec (o : StrictWeak cfg) (hp : CHeap κ) (pos : Nat) {cmp : Nat} (h : pick cfg hp pos = cmp) :
    (cmp = hp.length ∨ (cmp / 2 = pos ∧ cmp < hp.length)) ∧
    cfg.lt (get cfg hp hp.length).key (get cfg hp cmp).key = false ∧
    ∀ c, c / 2 = pos → c < hp.length → cfg.lt (get cfg hp c).key (get cfg hp cmp).key = false := by
  obtain ⟨a1, a2, a3⟩ := pick_step o (fun i => (get cfg hp i).key) hp.length (pos * 2) (decide (pos * 2 < hp.length)) rfl
  obtain ⟨b1, b2, b3⟩ := pick_step o (fun i => (get cfg hp i).key) _ (pos * 2 + 1) (decide (pos * 2 + 1 < hp.length))
    (m' := cmp) h.symm
  generalize (if (decide (pos * 2 < hp.length) && cfg.lt ((fun i => (get cfg hp i).key) (pos * 2))
    ((fun i => (get cfg hp i).key) hp.length)) = true then pos * 2 else hp.length) = m1 at a1 a2 a3 b1 b2 b3
  simp only [decide_eq_true_eq] at a1 a3 b1 b3
  refine ⟨?_, o.ntrans _ _ _ a2 b2, fun c hc hcl => ?_⟩
  · rcases b1 with rfl | ⟨rfl, hl⟩
    · rcases a1 with rfl | ⟨rfl, hl⟩
      · exact Or.inl rfl
      · exact Or.inr ⟨(child_iff _ _).2 (Or.inl rfl), hl⟩
    · exact Or.inr ⟨(child_iff _ _).2 (Or.inr rfl), hl⟩
  · rcases (child_iff c pos).1 hc with rfl | rfl
    · exact o.ntrans _ _ _ (a3 hcl) b2
    · exact b3 hcl

theorem bubbleDownLoop_done (fuel : Nat) {hp : CHeap κ} {pos : Nat} (h : ¬ pos < hp.length) :
    bubbleDownLoop cfg fuel hp pos = hp := by
  cases fuel <;> simp only [bubbleDownLoop, h, if_false]

/-- loop invariant of `bubble_down`: hole at `pos` for the cached entry at index `L = length`;
heap order is only claimed for entries whose parent index is `≥ lo` (Floyd's heapify) -/
structure DownInv (cfg : Cfg κ) (L S lo : Nat) (x : Entry κ) (z : Entry κ) (C : Entry κ → Prop)
    (hp : CHeap κ) (pos : Nat) : Prop where
  nf : hp.fault = false
  len : hp.length = L
  sz : hp.mem.size = S
  szL : L < S
  pos1 : 1 ≤ pos
  lop : lo ≤ pos
  hx : get cfg hp L = x
  hz : get cfg hp 0 = z
  a : ∀ i, 1 ≤ i → i < L → i ≠ pos → i / 2 ≠ pos → lo ≤ i / 2 →
    cfg.lt (get cfg hp i).key (get cfg hp (i / 2)).key = false
  b : ∀ c, c < L → c / 2 = pos → lo ≤ pos / 2 →
    cfg.lt (get cfg hp c).key (get cfg hp (pos / 2)).key = false
  c : pos < L → lo ≤ pos / 2 → cfg.lt x.key (get cfg hp (pos / 2)).key = false
  cont : pos < L → ∀ e, ((∃ i, 1 ≤ i ∧ i < L ∧ i ≠ pos ∧ get cfg hp i = e) ∨ e = x) ↔ C e
  done : L ≤ pos → ∀ e, (∃ i, 1 ≤ i ∧ i < L ∧ get cfg hp i = e) ↔ C e

theorem bubbleDownLoop_spec (o : StrictWeak cfg) (L S lo : Nat) (x z : Entry κ) (C : Entry κ → Prop) :
    ∀ fuel hp pos, L ≤ pos + fuel → DownInv cfg L S lo x z C hp pos →
      ∃ pos', L ≤ pos' ∧ DownInv cfg L S lo x z C (bubbleDownLoop cfg fuel hp pos) pos' := by
  intro fuel
  induction fuel with
  | zero =>
    intro hp pos hf I
    rw [bubbleDownLoop_done 0 (by rw [I.len]; exact Nat.not_lt.2 hf)]
    exact ⟨pos, hf, I⟩
  | succ fuel ih =>
    intro hp pos hf I
    by_cases hpL : pos < L
    · have hpl : pos < hp.length := by rw [I.len]; exact hpL
      have hL : hp.length < hp.mem.size := by rw [I.len, I.sz]; exact I.szL
      have hps : pos < hp.mem.size := Nat.lt_trans hpl hL
      simp only [bubbleDownLoop, hpl, if_true, chk_of_lt hp hL]
      obtain ⟨hcase, hx, hch⟩ := pick_spec o hp pos rfl
      generalize pick cfg hp pos = cmp at hcase hx hch
      rw [I.len] at hcase hch
      rw [I.len, I.hx] at hx
      have hp1 := I.pos1
      have hcgt : pos < cmp := by omega
      have hc1 : 1 ≤ cmp := Nat.le_trans hp1 (Nat.le_of_lt hcgt)
      generalize hq : set hp pos (get cfg hp cmp) = hp'
      obtain ⟨q_nf, q_len, q_sz, hgpos, hgne⟩ := set_spec (cfg := cfg) hp _ hps hq.symm
      apply ih _ _ (fuel_step hf hcgt)
      refine ⟨by rw [q_nf]; exact I.nf, by rw [q_len, I.len], by rw [q_sz, I.sz], I.szL,
        hc1, Nat.le_trans I.lop (Nat.le_of_lt hcgt), ?_, ?_, ?_, ?_, ?_, ?_, ?_⟩
      · rw [hgne L (Nat.ne_of_gt hpL)]; exact I.hx
      · rw [hgne 0 (Nat.ne_of_lt hp1)]; exact I.hz
      · intro i h1 hiL hne hne2 hlo
        by_cases hip : i = pos
        · -- the entry moved up to `pos` against the parent of `pos`
          rw [hip, hgpos, hgne _ (half_ne hp1)]
          rw [hip] at hlo
          rcases hcase with h | ⟨h, hcL⟩
          · rw [h, I.hx]; exact I.c hpL hlo
          · exact I.b cmp hcL h hlo
        · rw [hgne i hip]
          by_cases h2 : i / 2 = pos
          · rw [h2, hgpos]; exact hch i h2 hiL
          · rw [hgne _ h2]; exact I.a i h1 hiL hip h2 hlo
      · intro c hcL hc hlo
        obtain ⟨hcp, hc1, hcne⟩ : cmp / 2 = pos ∧ 1 ≤ c ∧ c ≠ pos := by omega
        rw [hcp, hgpos, hgne c hcne, ← hc]
        exact I.a c hc1 hcL hcne (hc ▸ Nat.ne_of_gt hcgt) (hc ▸ Nat.le_trans I.lop (Nat.le_of_lt hcgt))
      · intro hcmpL _
        rw [(hcase.resolve_left (Nat.ne_of_lt hcmpL)).1, hgpos]; exact hx
      · intro hcmpL e
        rw [← I.cont hpL e, ← hq, mem_hole_move hp hps hp1 hpL hc1 hcmpL (Nat.ne_of_lt hcgt) e]
      · intro hLc e
        have hcL : cmp = L := hcase.elim id (fun h => absurd h.2 (Nat.not_lt.2 hLc))
        rw [← I.cont hpL e]
        constructor
        · rintro ⟨i, h1, hiL, he⟩
          by_cases hip : i = pos
          · rw [hip, hgpos, hcL, I.hx] at he; exact Or.inr he.symm
          · rw [hgne i hip] at he; exact Or.inl ⟨i, h1, hiL, hip, he⟩
        · rintro (⟨i, h1, hiL, hne, he⟩ | he)
          · exact ⟨i, h1, hiL, by rw [hgne i hne]; exact he⟩
          · exact ⟨pos, hp1, hpL, by rw [hgpos, hcL, I.hx]; exact he.symm⟩
    · rw [bubbleDownLoop_done _ (by rw [I.len]; exact hpL)]
      exact ⟨pos, Nat.le_of_not_lt hpL, I⟩

/-- `bubble_down` from `pos`, the displaced entry cached in the spare slot `length`; heap order is assumed (except around
`pos`) and concluded only for parents `≥ lo` (Floyd's heapify) -/
theorem bubbleDown_heap (o : StrictWeak cfg) {hp r : CHeap κ} {pos lo : Nat} (hr : r = bubbleDown cfg hp pos)
    (hnf : hp.fault = false) (hLs : hp.length < hp.mem.size) (hp1 : 1 ≤ pos) (hlo : lo ≤ pos)
    (ha : ∀ i, 1 ≤ i → i < hp.length → i ≠ pos → i / 2 ≠ pos → lo ≤ i / 2 →
      cfg.lt (get cfg hp i).key (get cfg hp (i / 2)).key = false)
    (hb : lo ≤ pos / 2 → ∀ c, c ≤ hp.length → (c / 2 = pos ∨ c = hp.length) →
      cfg.lt (get cfg hp c).key (get cfg hp (pos / 2)).key = false) :
    r.fault = false ∧ r.length = hp.length ∧ r.mem.size = hp.mem.size ∧ get cfg r 0 = get cfg hp 0 ∧
    (∀ i, 1 ≤ i → i < hp.length → lo ≤ i / 2 → cfg.lt (get cfg r i).key (get cfg r (i / 2)).key = false) ∧
    ∀ e, Mem cfg r e ↔ (∃ i, 1 ≤ i ∧ i < hp.length ∧ i ≠ pos ∧ get cfg hp i = e) ∨
      (pos < hp.length ∧ e = get cfg hp hp.length) := by
  subst hr
  have D : DownInv cfg hp.length hp.mem.size lo (get cfg hp hp.length) (get cfg hp 0)
      (fun e => (∃ i, 1 ≤ i ∧ i < hp.length ∧ i ≠ pos ∧ get cfg hp i = e) ∨
        (pos < hp.length ∧ e = get cfg hp hp.length)) hp pos :=
    ⟨hnf, rfl, rfl, hLs, hp1, hlo, rfl, rfl, ha, fun c hc h hl => hb hl c (Nat.le_of_lt hc) (Or.inl h),
      fun _ hl => hb hl _ (Nat.le_refl _) (Or.inr rfl),
      fun h e => or_congr Iff.rfl ⟨fun h' => ⟨h, h'⟩, fun h' => h'.2⟩,
      fun h e => ⟨fun ⟨i, h1, hL, he⟩ => Or.inl ⟨i, h1, hL, Nat.ne_of_lt (Nat.lt_of_lt_of_le hL h), he⟩,
        fun h' => h'.elim (fun ⟨i, h1, hL, _, he⟩ => ⟨i, h1, hL, he⟩) (fun h'' => absurd h''.1 (Nat.not_lt.2 h))⟩⟩
  obtain ⟨pos', hp', D'⟩ : ∃ pos', hp.length ≤ pos' ∧ DownInv cfg _ _ _ _ _ _ (bubbleDown cfg hp pos) pos' :=
    bubbleDownLoop_spec o _ _ _ _ _ _ hp.length hp pos (Nat.le_add_left _ _) D
  refine ⟨D'.nf, D'.len, D'.sz, D'.hz, fun i h1 hL hl => D'.a i h1 hL (by omega) (by omega) hl, fun e => ?_⟩
  rw [← D'.done hp' e]; unfold Mem; rw [D'.len]

/-- `heap_entries[i] = heap_entries[--(heap->length)]`: the removal step that `root` (`i = 1`) and `delete_events`
(`i = cur`) share -/
def dropAt (cfg : Cfg κ) (hp : CHeap κ) (i : Nat) : CHeap κ :=
  set { hp with length := hp.length - 1 } i (get cfg hp (hp.length - 1))

@[simp] theorem dropAt_length (hp : CHeap κ) (i : Nat) : (dropAt cfg hp i).length = hp.length - 1 := length_set _ _ _

theorem dropAt_spec {hp : CHeap κ} {i L : Nat} (hL : hp.length = L + 1) (hi : i ≤ L) (hs : L < hp.mem.size) {r : CHeap κ}
    (hr : r = dropAt cfg hp i) :
    r.fault = hp.fault ∧ r.length = L ∧ r.mem.size = hp.mem.size ∧ get cfg r i = get cfg hp L ∧
    ∀ j, j ≠ i → get cfg r j = get cfg hp j := by
  unfold dropAt at hr
  rw [hL, Nat.add_sub_cancel] at hr
  exact set_spec (cfg := cfg) ({ hp with length := L } : CHeap κ) _ (Nat.lt_of_le_of_lt hi hs) hr

/-- inside the block the bounds check of the read `heap_entries[--(heap->length)]` passes -/
theorem chk_pred {hp : CHeap κ} {i : Nat} (hi : i < hp.length) (hs : hp.length ≤ hp.mem.size) :
    chk ({ hp with length := hp.length - 1 } : CHeap κ) (hp.length - 1) = { hp with length := hp.length - 1 } :=
  chk_of_lt _ (Nat.lt_of_lt_of_le (pred_lt hi) hs)

/-- one iteration of the `while` loop of `root` inside the block -/
theorem rootLoop_succ (dead : Nat → Nat → Bool) (fuel : Nat) {hp : CHeap κ} (hl : 1 < hp.length) (hs : hp.length ≤ hp.mem.size) :
    rootLoop cfg dead (fuel + 1) hp =
      if dead (get cfg hp 1).h (get cfg hp 1).c then rootLoop cfg dead fuel (bubbleDown cfg (dropAt cfg hp 1) 1) else hp := by
  simp only [rootLoop, gt_iff_lt, hl, if_true, chk_of_lt hp (Nat.lt_of_lt_of_le hl hs), chk_pred hl hs]
  rfl

theorem rootLoop_done (dead : Nat → Nat → Bool) (fuel : Nat) {hp : CHeap κ} (hl : ¬ 1 < hp.length) :
    rootLoop cfg dead fuel hp = hp := by
  cases fuel <;> simp [rootLoop, hl]

/-- one iteration of the scan of `delete_events` inside the block -/
theorem delScan_succ (h fuel : Nat) {hp : CHeap κ} {cur : Nat} (hc : cur < hp.length) (hs : hp.length ≤ hp.mem.size) :
    delScan cfg h (fuel + 1) hp cur =
      if (get cfg hp cur).h = h then delScan cfg h fuel (dropAt cfg hp cur) cur else delScan cfg h fuel hp (cur + 1) := by
  simp only [delScan, hc, if_true, chk_of_lt hp (Nat.lt_of_lt_of_le hc hs), chk_pred hc hs, beq_iff_eq]
  rfl

theorem delScan_done (h fuel : Nat) {hp : CHeap κ} {cur : Nat} (hc : ¬ cur < hp.length) : delScan cfg h fuel hp cur = hp := by
  cases fuel <;> simp only [delScan, hc, if_false]

/-- result of the `while` loop of `root` -/
structure RootSpec (cfg : Cfg κ) (dead : Nat → Nat → Bool) (hp r : CHeap κ) : Prop where
  inv : Inv cfg r
  len : r.length ≤ hp.length
  sub : ∀ e, Mem cfg r e → Mem cfg hp e
  sup : ∀ e, Mem cfg hp e → Mem cfg r e ∨ dead e.h e.c = true
  live : 1 < r.length → dead (get cfg r 1).h (get cfg r 1).c = false

theorem RootSpec.refl {dead : Nat → Nat → Bool} {hp : CHeap κ} (hI : Inv cfg hp)
    (h : 1 < hp.length → dead (get cfg hp 1).h (get cfg hp 1).c = false) : RootSpec cfg dead hp hp :=
  ⟨hI, Nat.le_refl _, fun _ h => h, fun _ h => Or.inl h, h⟩

/-- one lazy deletion at the root: the last entry (index `L`) is moved to the root and sifted down -/
theorem root_pop (o : StrictWeak cfg) {hp r : CHeap κ} (hI : Inv cfg hp) {L : Nat} (hL : hp.length = L + 1) (hL1 : 1 ≤ L)
    (hr : r = bubbleDown cfg (dropAt cfg hp 1) 1) :
    Inv cfg r ∧ r.length = L ∧
    ∀ e, Mem cfg r e ↔ ∃ i, 1 < i ∧ i < hp.length ∧ get cfg hp i = e := by
  subst hr
  obtain ⟨⟨hnf, hw⟩, ho⟩ := hI
  obtain ⟨hsz, hbot⟩ : L + 2 ≤ hp.mem.size ∧ (get cfg hp 0).key = cfg.bot := by
    rcases hw with h | h
    · omega
    · rw [hL] at h; exact ⟨h.2.1, h.2.2⟩
  have hLs : L < hp.mem.size := Nat.lt_of_succ_lt hsz
  have hlt : ∀ {i}, i < L → i < hp.length := fun h => hL ▸ Nat.lt_succ_of_lt h
  generalize hq : dropAt cfg hp 1 = hp1
  obtain ⟨q_nf, q_len, q_sz, _, qne⟩ := dropAt_spec (cfg := cfg) hL hL1 hLs hq.symm
  rw [hnf] at q_nf
  have hb0 : (get cfg hp1 0).key = cfg.bot := by rw [qne 0 (by decide)]; exact hbot
  obtain ⟨r1, r2, r3, r4, r5, r6⟩ := bubbleDown_heap o (pos := 1) (lo := 0) rfl q_nf (by rw [q_len, q_sz]; exact hLs)
    (Nat.le_refl 1) (Nat.zero_le 1)
    (fun i h1 hiL hne hne2 _ => by rw [qne i hne, qne _ hne2]; exact ho i h1 (hlt (q_len ▸ hiL)))
    (fun _ c _ _ => by rw [show (1 : Nat) / 2 = 0 from rfl, hb0]; exact o.bot_min _)
  rw [q_len] at r2 r5 r6
  refine ⟨⟨⟨r1, Or.inr (by rw [r2, r3, r4, q_sz]; exact ⟨hL1, hLs, hb0⟩)⟩,
    fun i h1 hiL => r5 i h1 (r2 ▸ hiL) (Nat.zero_le _)⟩, r2, fun e => ?_⟩
  rw [r6 e, hL]
  constructor
  · rintro (⟨i, h1, hiL, hne, he⟩ | ⟨h1L, he⟩)
    · rw [qne i hne] at he; exact ⟨i, Nat.lt_of_le_of_ne h1 (Ne.symm hne), Nat.lt_succ_of_lt hiL, he⟩
    · rw [qne L (Nat.ne_of_gt h1L)] at he; exact ⟨L, h1L, Nat.lt_succ_self L, he.symm⟩
  · rintro ⟨i, h2, hiL, he⟩
    by_cases hiL' : i = L
    · subst hiL'; right; exact ⟨h2, by rw [qne i (Nat.ne_of_gt h2)]; exact he.symm⟩
    · left
      exact ⟨i, Nat.le_of_lt h2, Nat.lt_of_le_of_ne (Nat.le_of_lt_succ hiL) hiL', Nat.ne_of_gt h2,
        by rw [qne i (Nat.ne_of_gt h2)]; exact he⟩

theorem rootLoop_spec (o : StrictWeak cfg) (dead : Nat → Nat → Bool) :
    ∀ fuel (hp : CHeap κ), hp.length ≤ fuel + 1 → Inv cfg hp →
      RootSpec cfg dead hp (rootLoop cfg dead fuel hp) := by
  intro fuel
  induction fuel with
  | zero =>
    intro hp hf hI
    rw [rootLoop_done dead 0 (Nat.not_lt.2 hf)]
    exact .refl hI fun h => absurd h (Nat.not_lt.2 hf)
  | succ fuel ih =>
    intro hp hf hI
    by_cases hl : 1 < hp.length
    · have hsz : hp.length + 1 ≤ hp.mem.size := by rcases hI.1.2 with h | h <;> omega
      rw [rootLoop_succ dead fuel hl (Nat.le_of_succ_le hsz)]
      cases hd : dead (get cfg hp 1).h (get cfg hp 1).c with
      | false =>
        simp only [Bool.false_eq_true, if_false]
        exact .refl hI fun _ => hd
      | true =>
        simp only [if_true]
        obtain ⟨L, hL⟩ : ∃ L, hp.length = L + 1 := ⟨hp.length - 1, (Nat.sub_add_cancel (Nat.le_of_lt hl)).symm⟩
        generalize hr : bubbleDown cfg (dropAt cfg hp 1) 1 = hp3
        rw [hL] at hl hf
        obtain ⟨I3, l3, m3⟩ := root_pop o hI hL (Nat.le_of_lt_succ hl) hr.symm
        have R := ih hp3 (by rw [l3]; exact Nat.le_of_succ_le_succ hf) I3
        refine ⟨R.inv, Nat.le_trans R.len (by rw [l3, hL]; exact Nat.le_succ L), ?_, ?_, R.live⟩
        · intro e he
          obtain ⟨i, h2, hiL, hie⟩ := (m3 e).1 (R.sub e he)
          exact ⟨i, Nat.le_of_lt h2, hiL, hie⟩
        · rintro e ⟨i, h1, hiL, hie⟩
          by_cases hi1 : i = 1
          · right; rw [← hie, hi1]; exact hd
          · exact R.sup e ((m3 e).2 ⟨i, Nat.lt_of_le_of_ne h1 (Ne.symm hi1), hiL, hie⟩)
    · rw [rootLoop_done dead _ hl]
      exact .refl hI fun h => absurd h hl

/-- `root` (lazy deletion): only dead entries are dropped; the result is a stored, live minimum, or `NULL` if nothing is left -/
theorem root_spec (o : StrictWeak cfg) (dead : Nat → Nat → Bool) {hp : CHeap κ} (hI : Inv cfg hp) :
    RootSpec cfg dead hp (root cfg dead hp).1 ∧
    ((1 < (root cfg dead hp).1.length ∧ Mem cfg (root cfg dead hp).1 (root cfg dead hp).2 ∧
        dead (root cfg dead hp).2.h (root cfg dead hp).2.c = false ∧
        ∀ e, Mem cfg (root cfg dead hp).1 e → cfg.lt e.key (root cfg dead hp).2.key = false) ∨
     ((root cfg dead hp).1.length ≤ 1 ∧ (root cfg dead hp).2 = nullEntry cfg)) := by
  have R := rootLoop_spec o dead hp.length hp (by omega) hI
  unfold root
  generalize rootLoop cfg dead hp.length hp = r at R
  by_cases hl : r.length > 1
  · have h1s : 1 < r.mem.size := by
      rcases R.inv.1.2 with h | h <;> omega
    rw [if_pos hl, chk_of_lt r h1s]
    refine ⟨R, Or.inl ⟨hl, ⟨1, Nat.le_refl _, hl, rfl⟩, R.live hl, ?_⟩⟩
    rintro e ⟨i, h1, hiL, rfl⟩
    exact R.inv.2.root_min o i h1 hiL
  · rw [if_neg hl]
    exact ⟨R, Or.inr ⟨by show r.length ≤ 1; omega, rfl⟩⟩

/-- invariant of the swap-with-last scan of `delete_events` (which destroys the heap order): the entries below `cur`
belong to other handlers -/
structure ScanInv (cfg : Cfg κ) (h : Nat) (hp0 hp : CHeap κ) (cur : Nat) : Prop where
  nf : hp.fault = false
  sz : hp.mem.size = hp0.mem.size
  len : hp.length ≤ hp0.length
  ls : hp.length ≤ hp.mem.size
  len1 : 1 ≤ hp0.length → 1 ≤ hp.length
  z : get cfg hp 0 = get cfg hp0 0
  done : ∀ i, 1 ≤ i → i < cur → i < hp.length → (get cfg hp i).h ≠ h
  sub : ∀ e, Mem cfg hp e → Mem cfg hp0 e
  sup : ∀ e, Mem cfg hp0 e → e.h ≠ h → Mem cfg hp e

theorem ScanInv.mem {h : Nat} {hp0 hp : CHeap κ} {cur : Nat} (I : ScanInv cfg h hp0 hp cur) (hc : hp.length ≤ cur)
    (e : Entry κ) : Mem cfg hp e ↔ Mem cfg hp0 e ∧ e.h ≠ h := by
  refine ⟨fun he => ⟨I.sub e he, ?_⟩, fun he => I.sup e he.1 he.2⟩
  obtain ⟨i, h1, hiL, rfl⟩ := he
  exact I.done i h1 (Nat.lt_of_lt_of_le hiL hc) hiL

theorem delScan_spec (h : Nat) (hp0 : CHeap κ) :
    ∀ fuel (hp : CHeap κ) cur, hp.length ≤ cur + fuel → 1 ≤ cur → ScanInv cfg h hp0 hp cur →
      ∃ cur', (delScan cfg h fuel hp cur).length ≤ cur' ∧ ScanInv cfg h hp0 (delScan cfg h fuel hp cur) cur' := by
  intro fuel
  induction fuel with
  | zero =>
    intro hp cur hf _ I
    rw [delScan_done h 0 (cur := cur) (Nat.not_lt.2 hf)]
    exact ⟨cur, hf, I⟩
  | succ fuel ih =>
    intro hp cur hf hc1 I
    by_cases hcl : cur < hp.length
    · rw [delScan_succ h fuel hcl I.ls]
      by_cases hh : (get cfg hp cur).h = h
      · -- the last entry (index `L`) is copied to `cur` and the length becomes `L`
        rw [if_pos hh]
        obtain ⟨L, hL⟩ : ∃ L, hp.length = L + 1 :=
          ⟨hp.length - 1, (Nat.sub_add_cancel (Nat.le_of_lt (Nat.lt_of_le_of_lt hc1 hcl))).symm⟩
        have hcL : cur ≤ L := by rw [hL] at hcl; exact Nat.le_of_lt_succ hcl
        have hLs : L < hp.mem.size := by have := I.ls; rw [hL] at this; exact this
        have hlt : ∀ {i}, i < L → i < hp.length := fun hi => by rw [hL]; exact Nat.lt_succ_of_lt hi
        generalize hq : dropAt cfg hp cur = hp1
        obtain ⟨q_nf, q_len, q_sz, qcur, qne⟩ := dropAt_spec (cfg := cfg) hL hcL hLs hq.symm
        rw [I.nf] at q_nf
        refine ih hp1 cur (by rw [q_len]; rw [hL] at hf; exact Nat.le_of_succ_le_succ hf) hc1
          ⟨q_nf, by rw [q_sz]; exact I.sz, by rw [q_len]; exact Nat.le_of_lt (Nat.lt_of_lt_of_le (hL ▸ Nat.lt_succ_self L) I.len),
            by rw [q_len, q_sz]; exact Nat.le_of_lt hLs, fun _ => by rw [q_len]; exact Nat.le_trans hc1 hcL,
            by rw [qne 0 (Nat.ne_of_lt hc1)]; exact I.z, ?_, ?_, ?_⟩
        · intro i h1 hic hiL
          rw [q_len] at hiL
          rw [qne i (Nat.ne_of_lt hic)]; exact I.done i h1 hic (hlt hiL)
        · rintro e ⟨i, h1, hiL, he⟩
          rw [q_len] at hiL
          by_cases hic : i = cur
          · rw [hic, qcur] at he
            exact I.sub e ⟨L, Nat.le_trans hc1 hcL, by rw [hL]; exact Nat.lt_succ_self L, he⟩
          · rw [qne i hic] at he; exact I.sub e ⟨i, h1, hlt hiL, he⟩
        · intro e he hne
          obtain ⟨i, h1, hiL, hie⟩ := I.sup e he hne
          have hic : i ≠ cur := fun hic => hne (by rw [← hie, hic]; exact hh)
          by_cases hiL' : i = L
          · -- the last entry now sits at `cur`
            have hcL' : cur ≠ L := fun hc => hic (hiL'.trans hc.symm)
            exact ⟨cur, hc1, by rw [q_len]; exact Nat.lt_of_le_of_ne hcL hcL', by rw [qcur, ← hiL']; exact hie⟩
          · rw [hL] at hiL
            exact ⟨i, h1, by rw [q_len]; exact Nat.lt_of_le_of_ne (Nat.le_of_lt_succ hiL) hiL',
              by rw [qne i hic]; exact hie⟩
      · rw [if_neg hh]
        refine ih hp (cur + 1) (fuel_step hf (Nat.lt_succ_self cur)) (Nat.le_succ_of_le hc1)
          ⟨I.nf, I.sz, I.len, I.ls, I.len1, I.z, fun i h1 hic hiL => ?_, I.sub, I.sup⟩
        by_cases hi : i = cur
        · rw [hi]; exact hh
        · exact I.done i h1 (Nat.lt_of_le_of_ne (Nat.le_of_lt_succ hic) hi) hiL
    · rw [delScan_done h _ hcl]
      exact ⟨cur, Nat.le_of_not_lt hcl, I⟩

/-- Floyd's heapify loop of `delete_events` (the argument counts down the loop index) -/
theorem heapify_spec (o : StrictWeak cfg) :
    ∀ idx (hp : CHeap κ), hp.fault = false →
      (idx ≠ 0 → idx < hp.length ∧ hp.length < hp.mem.size) →
      (∀ i, 1 ≤ i → i < hp.length → idx + 1 ≤ i / 2 →
        cfg.lt (get cfg hp i).key (get cfg hp (i / 2)).key = false) →
      (heapify cfg idx hp).fault = false ∧ (heapify cfg idx hp).length = hp.length ∧
      (heapify cfg idx hp).mem.size = hp.mem.size ∧ get cfg (heapify cfg idx hp) 0 = get cfg hp 0 ∧
      (∀ i, 1 ≤ i → i < hp.length → 1 ≤ i / 2 →
        cfg.lt (get cfg (heapify cfg idx hp) i).key (get cfg (heapify cfg idx hp) (i / 2)).key = false) ∧
      (∀ e, Mem cfg (heapify cfg idx hp) e ↔ Mem cfg hp e) := by
  intro idx
  induction idx with
  | zero =>
    intro hp hnf _ ho
    exact ⟨hnf, rfl, rfl, rfl, fun i h1 hL h2 => ho i h1 hL (by omega), fun _ => Iff.rfl⟩
  | succ idx ih =>
    intro hp hnf hb ho
    obtain ⟨hiL, hLs⟩ := hb (Nat.succ_ne_zero idx)
    simp only [heapify, chk_of_lt hp (Nat.lt_trans hiL hLs)]
    -- one iteration: the entry at `idx + 1` is cached in the spare slot and sifted down
    have h1 : 1 ≤ idx + 1 := Nat.le_add_left 1 idx
    generalize hq : set hp hp.length (get cfg hp (idx + 1)) = hp1
    obtain ⟨q_nf, q_len, q_sz, qL, qne⟩ := set_spec (cfg := cfg) hp _ hLs hq.symm
    rw [hnf] at q_nf
    obtain ⟨fnf, flen, fsz, fz, ford, fmem⟩ := bubbleDown_heap o (pos := idx + 1) (lo := idx + 1) rfl q_nf
      (by rw [q_len, q_sz]; exact hLs) h1 (Nat.le_refl _)
      (fun i hi1 hil hne hne2 hlo => by
        rw [q_len] at hil; rw [qne i (by omega), qne _ (by omega)]; exact ho i hi1 hil (by omega))
      (fun hl => absurd hl (by omega))
    rw [q_len] at flen ford fmem
    rw [q_sz] at fsz
    rw [qne 0 (by omega)] at fz
    replace fmem : ∀ e, Mem cfg (bubbleDown cfg hp1 (idx + 1)) e ↔ Mem cfg hp e := fun e => by
      rw [fmem e, qL]
      constructor
      · rintro (⟨i, h1', hL, hne, he⟩ | ⟨_, he⟩)
        · rw [qne i (by omega)] at he; exact ⟨i, h1', hL, he⟩
        · exact ⟨idx + 1, h1, hiL, he.symm⟩
      · rintro ⟨i, h1', hL, he⟩
        by_cases hi : i = idx + 1
        · right; exact ⟨hiL, by rw [← he, hi]⟩
        · left; exact ⟨i, h1', hL, hi, by rw [qne i (by omega)]; exact he⟩
    generalize bubbleDown cfg hp1 (idx + 1) = hp3 at fnf flen fsz fz ford fmem ⊢
    obtain ⟨r1, r2, r3, r4, r5, r6⟩ := ih hp3 fnf (fun h => by rw [flen, fsz]; exact ⟨by omega, hLs⟩)
      (fun i h1 hL h2 => by rw [flen] at hL; exact ford i h1 hL h2)
    refine ⟨r1, by rw [r2, flen], by rw [r3, fsz], by rw [r4, fz], ?_, fun e => by rw [r6, fmem]⟩
    intro i h1 hL h2
    exact r5 i h1 (by rw [flen]; exact hL) h2

theorem deleteEvents_spec (o : StrictWeak cfg) {hp : CHeap κ} (h : Nat) (hI : Inv cfg hp) :
    Inv cfg (deleteEvents cfg hp h) ∧ ∀ e, Mem cfg (deleteEvents cfg hp h) e ↔ Mem cfg hp e ∧ e.h ≠ h := by
  obtain ⟨⟨hnf, hw⟩, ho⟩ := hI
  have hls : hp.length ≤ hp.mem.size := by rcases hw with h | h <;> omega
  obtain ⟨cur, hcur, S⟩ := delScan_spec (cfg := cfg) h hp hp.length hp 1 (Nat.le_add_left _ _) (Nat.le_refl _)
    ⟨hnf, rfl, Nat.le_refl _, hls, fun h => h, rfl, fun i h1 h2 => absurd h1 (Nat.not_le.2 h2), fun _ h => h,
      fun _ h _ => h⟩
  unfold deleteEvents
  generalize delScan cfg h hp.length hp 1 = r at hcur S
  rcases hw with ⟨hl0, hs0⟩ | ⟨h1, h2, h3⟩
  · -- nothing was ever allocated: both loops do nothing
    have hr0 : r.length = 0 := Nat.le_zero.1 (hl0 ▸ S.len)
    simp only [hr0, Nat.zero_div, heapify]
    exact ⟨⟨⟨S.nf, Or.inl ⟨hr0, by rw [S.sz]; exact hs0⟩⟩, fun i _ hi => absurd hi (by rw [hr0]; exact Nat.not_lt_zero i)⟩,
      S.mem hcur⟩
  · have hb : r.length / 2 ≠ 0 → r.length / 2 < r.length ∧ r.length < r.mem.size := fun h0 =>
      ⟨Nat.div_lt_self (Nat.pos_of_ne_zero fun hr => h0 (by rw [hr])) (by decide),
        by rw [S.sz]; exact Nat.lt_of_le_of_lt S.len h2⟩
    obtain ⟨r1, r2, r3, r4, r5, r6⟩ := heapify_spec o (r.length / 2) r S.nf hb (fun i _ hL h2 => by omega)
    refine ⟨⟨⟨r1, Or.inr ⟨by rw [r2]; exact S.len1 h1,
      by rw [r2, r3, S.sz]; exact Nat.le_trans (Nat.succ_le_succ S.len) h2, by rw [r4, S.z]; exact h3⟩⟩, ?_⟩,
      fun e => by rw [r6, S.mem hcur]⟩
    intro i hi1 hL
    rw [r2] at hL
    by_cases hi2 : 1 ≤ i / 2
    · exact r5 i hi1 hL hi2
    · rw [Nat.eq_zero_of_not_pos hi2, r4, S.z, h3]; exact o.bot_min _

theorem bubbleDownLoop_length : ∀ fuel (hp : CHeap κ) pos,
    (bubbleDownLoop cfg fuel hp pos).length = hp.length := by
  intro fuel
  induction fuel with
  | zero => intro hp pos; simp only [bubbleDownLoop]; split <;> rfl
  | succ fuel ih =>
    intro hp pos
    simp only [bubbleDownLoop]
    split
    · rw [ih]; simp
    · rfl

theorem bubbleDown_length (hp : CHeap κ) (pos : Nat) : (bubbleDown cfg hp pos).length = hp.length :=
  bubbleDownLoop_length _ _ _

theorem heapify_length : ∀ idx (hp : CHeap κ), (heapify cfg idx hp).length = hp.length := by
  intro idx
  induction idx with
  | zero => intro hp; rfl
  | succ idx ih =>
    intro hp
    simp only [heapify]
    rw [ih, bubbleDown_length]; simp

theorem delScan_length_le (h : Nat) : ∀ fuel (hp : CHeap κ) cur,
    (delScan cfg h fuel hp cur).length ≤ hp.length := by
  intro fuel
  induction fuel with
  | zero => intro hp cur; simp only [delScan]; split <;> exact Nat.le_refl _
  | succ fuel ih =>
    intro hp cur
    simp only [delScan]
    split
    · split
      · refine Nat.le_trans (ih _ _) ?_
        simp
      · refine Nat.le_trans (ih _ _) ?_
        simp
    · exact Nat.le_refl _

end JF.Heap
