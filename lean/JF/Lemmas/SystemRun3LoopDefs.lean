import JF.Model.SystemRun3Loop
import JF.Lemmas.SystemRun3
import JF.Lemmas.SystemRun2Motion
import JF.Lemmas.SystemRunInv
import JF.Props.Footprints3
/-!
The runs (`Reach3`) and the joint invariant (`Big3`) of the composed system for composite objects with cell systems at the level of
the mediator loop, and the kinematic lemmas about the units on the cell levels.

One leg (`SysStep3`) = one pass through the body of `SingleProcessMediator.run`, i.e. `JF.Med.leg` (spec-level scheduler over `XTime`)
on the concrete state `JF.CW3` (`List (CObj ℚ)` + one `Occ.State` per internal state):
* the activator first updates every internal state with the active unit on its cell level of the current global state (`occAfter`;
  not in the first leg), then the taggers yield on that state: `o.yields T = yieldCls3 …` — computed, not oracle values;
* the candidate times (`CandsOK3`): the cell-boundary handler of internal state `l` returns exactly
  `time stamp + (geo l).ttb position velocity` of the active unit on the cell level of `l` (level 1: the root unit of the active
  composite object, which moves with `v / nPer`; level 2: the active point mass); every other handler returns a normalised finite
  time or `inf`, not before the last commit;
* the committed handler's event moves the global state by `Composite.step` of an event of a kind that the handler class of the
  committing tagger commits in leaf mode (the wirings are `LeafOnly`), at the committed time, under C12's weak admissibility `AdmW`
  (`Commits3`).
-/
namespace JF.Sys3L
open JF JF.Act JF.Heap JF.Sched JF.Med JF.CW3 JF.C14 JF.Sys JF.Sys3 JF.C12
-- hidden: names that two of these namespaces have (an ambiguous name is elaborated once per candidate, wherever it is used)
open JF.Composite hiding pendOf
open JF.MediatorLoop hiding Run
open JF.Kin hiding step

/-- the one-cell-system environment (`JF.CW.Env`) of internal state `l` -/
def cwEnv (env : Env ℚ) (l : Nat) : CW.Env ℚ :=
  ⟨Ops.rat, env.base.L, (env.oe l).grid, (env.oe l).cellOf, (env.oe l).relevant⟩

/-- the identifier (in the global state) of the unit with encoded identifier `a` on the cell level of internal state `l` -/
def identL (env : Env ℚ) (l : Nat) (a : Nat) : List Nat := identOf env.base.nPer (env.oe l).level a

def activeOn (env : Env ℚ) (l : Nat) (cs : List (CObj ℚ)) : List Nat :=
  unitsOn env.base.nPer (env.oe l).level (CW2.flags cs)

section defs
variable (env : Env ℚ) (geo : ∀ l, Geo (cwEnv env l)) (mw : ModeWiring) (S : TaggerIdx) (needs : HandlerId → Bool)

/-- C12's weak admissibility; the start-of-run event starts one point mass (leaf mode) -/
def EvAdm3 (cs : List (CObj ℚ)) (e : Composite.Ev ℚ) : Prop :=
  AdmW env.base.d env.base.L cs e ∧ ∀ i P v, e = .start i P v → StartMode cs i P .leaf

def Commits3 (E : TaggerIdx) (t : Time ℚ) (cs cs' : List (CObj ℚ)) : Prop :=
  ∃ e : Composite.Ev ℚ, CW2.evKind e ∈ kindsOf (mw.hmode E) .leaf ∧ Sys2.evTime Ops.rat e = t ∧ EvAdm3 env cs e ∧
    cs' = step Ops.rat isZ env.base.L cs e

/-- what `send_event_time` of the handlers handed out in this leg returns -/
def CandsOK3 (cs : List (CObj ℚ)) (last : XTime) (o : Oracle XTime) (created : List (HandlerId × IdTuple)) : Prop :=
  ∀ q ∈ created,
    (∀ B l, owner mw.w.wires q.1 = some B → isCBT mw.w l B = true →
      ∃ a u v ts, activeOn env l cs = [a] ∧ Sys2.unitAt cs (identL env l a) = some u ∧ u.vel = some v ∧ u.ts = some ts ∧
        InBox env.base.L u.pos ∧ (geo l).velOK v ∧ last = .fin ts ∧
        o.cand q.1 = .fin (Time.add Ops.rat ts ((geo l).ttb u.pos v))) ∧
    (kindOfH mw.w q.1 ≠ .cellBoundary → NormX (o.cand q.1) ∧ xcfg.lt (o.cand q.1) last = false)

structure SysStep3 (s : Sys3) (o : Oracle XTime) (cm : Committed XTime) (s' : Sys3) : Prop where
  occ1 : if s.med.act.started = true then OccsUpdated env mw.w.labels.length s.occs s'.occs s.cs else s'.occs = s.occs
  yields : o.yields = fun T => yieldCls3 env T (mw.w.tagger T).cls (mw.w.tagger T).label s.cs s'.occs
  leg : leg (mwire mw.w S needs) (specI xcfg) s.med o = .ok (s'.med, cm)
  cands : CandsOK3 env geo mw s.cs s.med.sched.last o cm.created
  ev : ∃ t E', cm.time = .fin t ∧ owner mw.w.wires cm.handler = some E' ∧ Commits3 env mw E' t s.cs s'.cs
  ids' : s'.ids = assign s.ids cm.created
  prev : s'.csPrev = s.cs
  mid' : s'.mid = midAct (mwire mw.w S needs) s.med o

/-- the state before the first leg: C12's `AllGood`, `nPer` point masses per object, nothing moves, every carried occupancy records
no active unit (e.g. freshly initialised: `consistent_init`) -/
structure Init3 (s : Sys3) : Prop where
  med : s.med = MedState.init (specI xcfg) mw.w.wires
  good : AllGood env.base.d env.base.L s.cs
  unif : CW2.Uniform env.base.nPer s.cs
  rest : AllRest s.cs
  cons : ConsAll env mw.w.labels.length ⟨s.cs, .leaf, s.occs⟩
  prev : s.csPrev = s.cs

/-- any number of legs; no leg after the end-of-run commit -/
inductive Reach3 : List (Oracle XTime) → List (Committed XTime) → Sys3 → Prop
  | init (s : Sys3) (h : Init3 env mw s) : Reach3 [] [] s
  | step {os : List (Oracle XTime)} {cs : List (Committed XTime)} {s s' : Sys3} {o : Oracle XTime} {cm : Committed XTime}
      (prev : Reach3 os cs s) (hgo : ∀ cl, cs.getLast? = some cl → cl.stop = false)
      (hstep : SysStep3 env geo mw S needs s o cm s') : Reach3 (os ++ [o]) (cs ++ [cm]) s'

def isCBH (l : Nat) (hb : HandlerId) : Prop := ∃ B, owner mw.w.wires hb = some B ∧ isCBT mw.w l B = true

def NoTie3 (l : Nat) (p : Pend XTime) (cm : Committed XTime) : Prop :=
  ∀ hb, isCBH mw l hb → pendPushed p cm hb ≠ some cm.time

/-- the no-tie hypothesis of one leg (`JF.Sys.TieFreeLeg`, per cell system); the taggers concerned are sampling, dumping, end of
run and the cell-boundary taggers of the other cell systems -/
def TieFreeLeg3 (p : Pend XTime) (cm : Committed XTime) : Prop :=
  ∀ E l, owner mw.w.wires cm.handler = some E → l < mw.w.labels.length → affects (mw.w.tagger E) (.cell l) = false →
    NoTie3 mw l p cm

def TieFree3 (cs : List (Committed XTime)) : Prop :=
  ∀ k cm, cs[k]? = some cm → TieFreeLeg3 mw (pendOf (fun _ => none) (cs.take k)) cm

structure Hyp3L : Prop where
  box : BoxOK env.base.d env.base.L
  sound : WiringSound mw.w = true
  start : mw.w.start? = some S
  supp : Supported3 mw = true
  leaf : LeafOnly mw = true
  cb : cbWired3 mw.w S = true

/-- the active unit on the cell level of internal state `l` in the state `cs` — time stamp not after `tl` — stays in the cell of its
position strictly before `τ` -/
def Track (l : Nat) (cs : List (CObj ℚ)) (tl τ : Time ℚ) : Prop :=
  ∃ a u v ts, activeOn env l cs = [a] ∧ Sys2.unitAt cs (identL env l a) = some u ∧ u.vel = some v ∧ u.ts = some ts ∧
    val ts ≤ val tl ∧ u.pos.length = env.base.L.length ∧ v.length = env.base.L.length ∧
    StayUntil (cwEnv env l) u.pos v ts τ

/-- the joint invariant at the boundary after the leg that committed `cl` (the last element of `cs`): `E` = tagger of the
committed handler, `tl` = committed time -/
structure Big3 (cs : List (Committed XTime)) (cl : Committed XTime) (s : Sys3) (E : TaggerIdx) (tl : Time ℚ) : Prop where
  /-- the scheduler holds exactly the pending events, a handler has one iff it is running -/
  med : MInv (I := specI xcfg) (mwire mw.w S needs) (SRel xcfg) s.med (pendOf (fun _ => none) cs) cl.time
  started : s.med.act.started = true
  prec : s.med.preceding = some cl.handler
  owner : owner mw.w.wires cl.handler = some E
  stopEq : cl.stop = (mwire mw.w S needs).endOfRun cl.handler
  /-- the activator after the trash of the last leg, in terms of its lists in the middle of that leg -/
  trashEq : s.med.act.ts = (trash mw.w.wires s.mid E).1
  running : cl.handler ∈ (getT s.mid E).running
  time : cl.time = .fin tl
  tnorm : Normalised tl
  norm : ∀ h t, pendOf (fun _ => none) cs h = some t → NormX t
  /-- C09 (via the run of the activator-level machine up to the middle of the last leg, which carries `Fresh` for every live tagger:
  `JF.Act.run_inv`), on the concrete state of that moment, which satisfies `Inv3`; every step of that run is a transition of `Tr3L`,
  premise `StaysInRecordedCell` included -/
  phase : ∃ hi : Inv3 env mw ⟨s.csPrev, .leaf, s.occs⟩,
    (cs.length = 1 ∧ E = S ∧ AllRest s.csPrev ∧ ∃ ids0 out,
        first mw.w.wires (initAct mw.w.wires) S (fun T => (world3 env mw).yieldOf T ⟨_, hi⟩) = some (s.mid, out) ∧
        s.ids = assign ids0 out)
    ∨ Run mw.w (world3 env mw) (Tr3L env mw) S ⟨s.mid, s.ids, ⟨_, hi⟩⟩
  /-- how the global state came from the one the last leg's candidates were computed on -/
  commit : Commits3 env mw E tl s.csPrev s.cs
  /-- C12 + C07's one-chain clause for the state after the commit -/
  invNext : CW2.Inv env.base ⟨s.cs, .leaf⟩
  /-- C11's mirror for the active units: in the middle of the last leg (after the first) every occupancy recorded, as active cell, the
  cell of the position of the active unit on its cell level -/
  mirror : 2 ≤ cs.length → ∀ l, l < mw.w.labels.length → ∀ a, activeOn env l s.csPrev = [a] → (env.oe l).relevant a = true →
    (getOcc s.occs l).activeCell = some ((env.oe l).cellOf (posOn env.base.nPer (env.oe l).level s.csPrev a))
  /-- C11: the premise `StaysInRecordedCell` of `Tr3L` for the transition to the middle of the next leg -/
  stays : ∀ l, l < mw.w.labels.length → affects (mw.w.tagger E) (.cell l) = false →
    NoTie3 mw l (pendOf (fun _ => none) cs.dropLast) cl →
    StaysInRecordedCell env.base.nPer (env.oe l) (getOcc s.occs l) s.cs
  cb : ∀ l, l < mw.w.labels.length → cl.stop = false → TieFreeLeg3 mw (pendOf (fun _ => none) cs.dropLast) cl →
    ∀ hb tb, isCBH mw l hb → pendOf (fun _ => none) cs hb = some tb →
      ∃ τ, tb = .fin τ ∧ Normalised τ ∧ Track env l s.cs tl τ

end defs

theorem cbWired3_spec {c : Wiring} {S : TaggerIdx} (h : cbWired3 c S = true) {l : Nat} (hl : l < c.labels.length) :
    ∃ B, B < c.n ∧ (c.tagger B).cls = .cellBoundary ∧ isCBT c l B = true ∧
      (∀ T, T < c.n → isCBT c l T = true → T = B) ∧ ∀ σ ∈ reach c S, aGet σ B = true := by
  unfold cbWired3 at h
  have := List.all_eq_true.mp h l (List.mem_range.mpr hl)
  simp only [List.any_eq_true, List.mem_range, Bool.and_eq_true, beq_iff_eq, List.all_eq_true, Bool.or_eq_true,
    Bool.not_eq_true'] at this
  obtain ⟨B, hB, ⟨⟨h1, h2⟩, h3⟩, h4⟩ := this
  refine ⟨B, hB, h1, h2, ?_, h4⟩
  intro T hT hk
  rcases h3 T hT with h5 | h5
  · exact h5
  · rw [hk] at h5; cases h5

theorem isCBT_kind {c : Wiring} {l : Nat} {B : TaggerIdx} (h : isCBT c l B = true) :
    (c.tagger B).kind = .cellBoundary ∧ (c.tagger B).label = some l := by
  unfold isCBT at h
  simpa using h

theorem ident_false_of_cell_false {t : TaggerW} {l : Nat} (h : affects t (.cell l) = false) : affects t .ident = false := by
  unfold affects at h ⊢
  cases hk : t.kind <;> simp_all

theorem isCBT_of_affects {c : Wiring} {l : Nat} {E : TaggerIdx} (h1 : affects (c.tagger E) .ident = false)
    (h2 : affects (c.tagger E) (.cell l) = true) : isCBT c l E = true := by
  unfold affects at h1 h2
  unfold isCBT
  cases hk : (c.tagger E).kind <;> simp_all

theorem not_start_kind {mw : ModeWiring} (hs : Supported3 mw = true) {E : TaggerIdx} (hE : E < mw.w.n)
    (hk : (mw.w.tagger E).kind ≠ .startOfRun) {k : EvKind} (hmem : k ∈ kindsOf (mw.hmode E) .leaf) : k ≠ .start := by
  have hag := supported3_agree hs hE
  have hok : hmOK (mw.hmode E) = true := by
    unfold Supported3 at hs
    simp only [Bool.and_eq_true] at hs
    have := List.all_eq_true.mp hs.2 E (List.mem_range.mpr hE)
    simp only [Bool.and_eq_true] at this
    exact this.1
  rintro rfl
  -- only the classes `start _` (the class of the start-of-run handler) and `unknown` (excluded) commit a `start`
  cases hm : mw.hmode E with
  | start b =>
    rw [hm] at hag
    exact hk (by revert hag; cases (mw.w.tagger E).kind <;> simp [kindAgrees])
  | unknown => rw [hm] at hok; cases hok
  | switcher b => rw [hm] at hmem; cases b <;> simp [kindsOf] at hmem
  | _ => rw [hm] at hmem; simp [kindsOf] at hmem

theorem modify_id' {β : Type} (f : β → β) (hf : ∀ x, f x = x) : ∀ (xs : List β) (i : Nat), xs.modify i f = xs :=
  fun xs i => modify_eq_self f xs i (fun x _ => hf x)

/-- in the exact reading an admissible cell-boundary event writes the coordinate the unit has reached: it is a time slice -/
theorem snap_eq_sliceAt {d : Nat} {L : List ℚ} {cs : List (CObj ℚ)} {t : Time ℚ} {S0 : List Nat} {i : Nat} {j : Option Nat}
    {dd : Nat} {x : ℚ} (ha : AdmW d L cs (.snap t S0 i j dd x)) :
    step Ops.rat isZ L cs (.snap t S0 i j dd x) = sliceAt Ops.rat L t S0 cs := by
  show snap Ops.rat L t S0 i j dd x cs = _
  unfold snap
  apply modify_eq_self
  intro c hc
  have h := ha c hc
  cases j with
  | none =>
    simp only at h ⊢
    rw [h, setCoord_getD]
  | some j =>
    simp only at h ⊢
    have : c.leaves.modify j (fun l => { l with pos := Kin.setCoord l.pos dd x }) = c.leaves := by
      apply modify_eq_self
      intro l hl
      rw [h l hl, setCoord_getD]
    rw [this]

theorem quiet_commit {env : Env ℚ} {mw : ModeWiring} (hs : Supported3 mw = true) {E : TaggerIdx} {t : Time ℚ}
    {cs cs' : List (CObj ℚ)} (ha : affects (mw.w.tagger E) .ident = false) (hc : Commits3 env mw E t cs cs') :
    ∃ S0, cs' = sliceAt Ops.rat env.base.L t S0 cs := by
  obtain ⟨e, hk, ht, ⟨hadm, _⟩, hcs⟩ := hc
  have hq := quiet_of_ident_false3 hs ha hk
  cases e with
  | keep t0 S0 =>
    have : t0 = t := ht
    subst this
    exact ⟨S0, hcs⟩
  | snap t0 S0 i j dd x =>
    have : t0 = t := ht
    subst this
    exact ⟨S0, by rw [hcs, snap_eq_sliceAt hadm]⟩
  | _ => simp [CW2.evKind, CW2.quietKind] at hq

theorem unitAt_sliceAt (L : List ℚ) (t : Time ℚ) (P : PUnit ℚ → Prop) (hP : ∀ u, P u → P (Kin.timeSlice Ops.rat L t u))
    (id : List Nat) : ∀ (S0 : List Nat) (cs : List (CObj ℚ)) (u : PUnit ℚ), Sys2.unitAt cs id = some u → P u →
      ∃ u', Sys2.unitAt (sliceAt Ops.rat L t S0 cs) id = some u' ∧ P u'
  | [], cs, u, hu, hp => ⟨u, hu, hp⟩
  | i :: S0, cs, u, hu, hp => by
    rw [sliceAt_cons]
    by_cases hh : id.head? = some i
    · refine unitAt_sliceAt L t P hP id S0 _ (Kin.timeSlice Ops.rat L t u) ?_ (hP u hp)
      rw [Sys2.unitAt_modify_slice, if_pos hh, hu]; rfl
    · refine unitAt_sliceAt L t P hP id S0 _ u ?_ hp
      rw [Sys2.unitAt_modify_slice, if_neg hh, hu]

theorem posOn_unitAt (nPer lvl : Nat) (cs : List (CObj ℚ)) (a : Nat) :
    posOn nPer lvl cs a = ((Sys2.unitAt cs (identOf nPer lvl a)).map (·.pos)).getD [] := by
  unfold posOn identOf
  by_cases h : (lvl == 1) = true
  · simp only [h, if_true, Sys2.unitAt]
    cases cs[a]? <;> rfl
  · simp only [h, Bool.false_eq_true, if_false, Sys2.unitAt]

theorem flags_sliceAt (L : List ℚ) (t : Time ℚ) (S0 : List Nat) (cs : List (CObj ℚ)) :
    CW2.flags (sliceAt Ops.rat L t S0 cs) = CW2.flags cs :=
  CW2.flags_eq_of_vels (CW2.vels_sliceAt Ops.rat L t S0 cs)

section track
variable {env : Env ℚ} {l : Nat}

theorem track_timeSlice (hL : PosBox env.base.L) {v : List ℚ} {t τ : Time ℚ} {c0 : Nat} (hlt : val t < val τ) (u : PUnit ℚ)
    (h : u.vel = some v ∧ ∃ ts, u.ts = some ts ∧ val ts ≤ val t ∧ u.pos.length = env.base.L.length ∧
      v.length = env.base.L.length ∧ (env.oe l).cellOf u.pos = c0 ∧ StayUntil (cwEnv env l) u.pos v ts τ) :
    (Kin.timeSlice Ops.rat env.base.L t u).vel = some v ∧ ∃ ts, (Kin.timeSlice Ops.rat env.base.L t u).ts = some ts ∧
      val ts ≤ val t ∧ (Kin.timeSlice Ops.rat env.base.L t u).pos.length = env.base.L.length ∧
      v.length = env.base.L.length ∧ (env.oe l).cellOf (Kin.timeSlice Ops.rat env.base.L t u).pos = c0 ∧
      StayUntil (cwEnv env l) (Kin.timeSlice Ops.rat env.base.L t u).pos v ts τ := by
  obtain ⟨hv, ts, hts, hle, hpl, hvl, hc, hst⟩ := h
  rw [timeSlice_of_moving env.base.L t u hv hts]
  have key := stayUntil_slice (env := cwEnv env l) (pos := u.pos) (v := v) (ts := ts) (τ := τ) (t := t) hL hpl hvl hst hle hlt
  refine ⟨rfl, t, rfl, le_refl _, ?_, hvl, ?_, key.2⟩
  · exact length_sliceVec env.base.L u.pos v _ hpl hvl
  · exact key.1.trans hc

theorem track_quiet (hL : PosBox env.base.L) {cs0 : List (CObj ℚ)} {tl t' τ : Time ℚ} (htr : Track env l cs0 tl τ)
    (hle : val tl ≤ val t') (hlt : val t' < val τ) (S0 : List Nat) :
    Track env l (sliceAt Ops.rat env.base.L t' S0 cs0) t' τ := by
  obtain ⟨a, u, v, ts, hact, hu, hv, hts, hle0, hpl, hvl, hst⟩ := htr
  obtain ⟨u', hu', hv', ts', hts', hle', hpl', _, _, hst'⟩ :=
    unitAt_sliceAt env.base.L t' _ (track_timeSlice (env := env) (l := l) (v := v) (τ := τ) (c0 := (env.oe l).cellOf u.pos) hL hlt)
      (identL env l a) S0 cs0 u hu ⟨hv, ts, hts, le_trans hle0 hle, hpl, hvl, rfl, hst⟩
  have hact' : activeOn env l (sliceAt Ops.rat env.base.L t' S0 cs0) = [a] := by
    unfold activeOn at hact ⊢
    rw [flags_sliceAt]; exact hact
  exact ⟨a, u', v, ts', hact', hu', hv', hts', hle', hpl', hvl, hst'⟩

end track

end JF.Sys3L
