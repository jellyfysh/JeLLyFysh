import JF.Lemmas.DisplacementUphill
/-!
# Uphill energy along a path put together from stretches; periodic path energies

`Good f d E`: along `[0, d]` the path energy `f` accumulates exactly `E` uphill.  The displacement routines
walk through a few stretches one after the other (`Good.append`: the next stretch is measured from where
the last one ended), on a periodic path after a number of whole periods (`Good.laps`).
`Never f E` is the infinite outcome: no distance accumulates `E`; `Outcome f E o` is the one or the other.
-/
namespace JF.Uphill
open Set

variable {f g : ℝ → ℝ} {a b t L : ℝ}

theorem tv_translate (g : ℝ → ℝ) (a b t : ℝ) :
    eVariationOn (fun x => g (x + t)) (Icc a b) = eVariationOn g (Icc (a + t) (b + t)) := by
  have h := eVariationOn.comp_eq_of_monotoneOn g (t := Icc a b) (fun x => x + t)
    (fun x _ y _ hxy => by simpa using hxy)
  rw [Set.image_add_const_Icc] at h
  exact h

/-- the accumulated increase does not depend on where the origin of the path parameter is put -/
theorem uphill_translate (g : ℝ → ℝ) (a b t : ℝ) :
    uphill (fun x => g (x + t)) a b = uphill g (a + t) (b + t) := by
  unfold uphill; rw [tv_translate]

theorem bv_translate_iff :
    BoundedVariationOn (fun x => g (x + t)) (Icc a b) ↔ BoundedVariationOn g (Icc (a + t) (b + t)) := by
  unfold BoundedVariationOn; rw [tv_translate]

theorem bv_translate (h : BoundedVariationOn g (Icc (a + t) (b + t))) :
    BoundedVariationOn (fun x => g (x + t)) (Icc a b) :=
  bv_translate_iff.2 h

theorem uphill_congr (h : EqOn f g (Icc a b)) (hab : a ≤ b) : uphill f a b = uphill g a b := by
  unfold uphill
  rw [eVariationOn.eq_of_eqOn h, h (left_mem_Icc.2 hab), h (right_mem_Icc.2 hab)]

theorem bv_congr (h : EqOn f g (Icc a b)) (hg : BoundedVariationOn g (Icc a b)) :
    BoundedVariationOn f (Icc a b) := by
  unfold BoundedVariationOn at *; rwa [eVariationOn.eq_of_eqOn h]

theorem periodic_nat (hper : ∀ x, g (x + L) = g x) (n : ℕ) (x : ℝ) : g (x + n * L) = g x := by
  induction n with
  | zero => simp
  | succ k ih =>
    have : x + ((k + 1 : ℕ) : ℝ) * L = (x + k * L) + L := by push_cast; ring
    rw [this, hper, ih]

/-- along `[0, d]` exactly `E` is accumulated uphill -/
structure Good (f : ℝ → ℝ) (d E : ℝ) : Prop where
  nonneg : 0 ≤ d
  val : uphill f 0 d = E
  bv : BoundedVariationOn f (Icc 0 d)

/-- however far the unit moves, less than `E` is accumulated -/
def Never (f : ℝ → ℝ) (E : ℝ) : Prop :=
  ∀ d, 0 ≤ d → BoundedVariationOn f (Icc 0 d) ∧ uphill f 0 d < E

variable {d d1 d2 E G1 E2 c : ℝ}

theorem Good.of_mono (hd : 0 ≤ d) (hm : MonotoneOn f (Icc 0 d)) : Good f d (f d - f 0) :=
  ⟨hd, uphill_mono hm hd, bv_mono hm hd⟩

theorem Good.of_anti (hd : 0 ≤ d) (hm : AntitoneOn f (Icc 0 d)) : Good f d 0 :=
  ⟨hd, uphill_anti hm hd, bv_anti hm hd⟩

theorem Good.of_mono_anti (hb : 0 ≤ b) (hbd : b ≤ d) (h1 : MonotoneOn f (Icc 0 b))
    (h2 : AntitoneOn f (Icc b d)) : Good f d (f b - f 0) :=
  ⟨hb.trans hbd, uphill_mono_anti hb hbd h1 h2, bv_add hb hbd (bv_mono h1 hb) (bv_anti h2 hbd)⟩

theorem Good.of_anti_mono (hb : 0 ≤ b) (hbd : b ≤ d) (h1 : AntitoneOn f (Icc 0 b))
    (h2 : MonotoneOn f (Icc b d)) : Good f d (f d - f b) :=
  ⟨hb.trans hbd, uphill_anti_mono hb hbd h1 h2, bv_add hb hbd (bv_anti h1 hb) (bv_mono h2 hbd)⟩

theorem Good.gain_nonneg (h : Good f d E) : 0 ≤ E := h.val ▸ uphill_nonneg h.nonneg h.bv

theorem Good.zero (f : ℝ → ℝ) : Good f 0 0 :=
  Good.of_anti le_rfl fun x hx y hy _ => by rw [le_antisymm hx.2 hx.1, le_antisymm hy.2 hy.1]

theorem Good.congr (h : EqOn f g (Icc 0 d)) (hg : Good g d E) : Good f d E :=
  ⟨hg.nonneg, by rw [uphill_congr h hg.nonneg, hg.val], bv_congr h hg.bv⟩

/-- a stretch with gain `G1`, then a stretch with gain `E2` measured from the end of the first -/
theorem Good.append (h1 : Good f d1 G1) (h2 : Good (fun x => f (x + d1)) d2 E2)
    (hd : d1 + d2 = d) (hE : G1 + E2 = E) : Good f d E := by
  subst hd hE
  have hv := h2.val
  have hb := bv_translate_iff.1 h2.bv
  rw [uphill_translate] at hv
  rw [zero_add, add_comm d2 d1] at hv hb
  have h12 : d1 ≤ d1 + d2 := le_add_of_nonneg_right h2.nonneg
  exact ⟨h1.nonneg.trans h12, by rw [uphill_add h1.nonneg h12 h1.bv hb, h1.val, hv],
    bv_add h1.nonneg h12 h1.bv hb⟩

theorem Good.laps (hper : ∀ x, g (x + L) = g x) (lap : Good g L c) (n : ℕ) :
    Good g (n * L) (n * c) := by
  induction n with
  | zero => simpa using Good.zero g
  | succ k ih =>
    exact ih.append (by rw [funext (periodic_nat hper k)]; exact lap) (by push_cast; ring) (by push_cast; ring)

/-- a period may be measured from any point `a` of the path -/
theorem Good.lap_of_shift (hper : ∀ x, g (x + L) = g x) (ha0 : 0 ≤ a) (haL : a ≤ L)
    (h : Good (fun x => g (x + a)) L c) : Good g L c := by
  have hv := h.val
  have hb := bv_translate_iff.1 h.bv
  rw [uphill_translate] at hv
  rw [zero_add] at hv hb
  have hLa : L ≤ L + a := le_add_of_nonneg_right ha0
  have b1 : BoundedVariationOn g (Icc a L) := hb.mono (Icc_subset_Icc le_rfl hLa)
  have b2 : BoundedVariationOn g (Icc (0 + L) (a + L)) :=
    hb.mono (Icc_subset_Icc (haL.trans_eq (zero_add L).symm) (add_comm a L).le)
  have b0 : BoundedVariationOn g (Icc 0 a) := by
    have := bv_translate b2
    rwa [funext hper] at this
  have e : uphill g (0 + L) (a + L) = uphill g 0 a := by
    rw [← uphill_translate, funext hper]
  rw [zero_add, add_comm a L] at b2 e
  rw [uphill_add haL hLa b1 b2, e] at hv
  exact ⟨ha0.trans haL, by rw [uphill_add ha0 haL b0 b1, add_comm, hv], bv_add ha0 haL b0 b1⟩

theorem uphill_le_of_le (h0 : 0 ≤ d) (hd : d ≤ d1) (hb : BoundedVariationOn f (Icc 0 d1)) :
    uphill f 0 d ≤ uphill f 0 d1 := by
  have b1 : BoundedVariationOn f (Icc 0 d) := hb.mono (Icc_subset_Icc le_rfl hd)
  have b2 : BoundedVariationOn f (Icc d d1) := hb.mono (Icc_subset_Icc h0 le_rfl)
  rw [uphill_add h0 hd b1 b2]
  exact le_add_of_nonneg_right (uphill_nonneg hd b2)

/-- a first stretch with gain `G1`, then a stage that never accumulates `E2` -/
theorem Never.after (h1 : Good f d1 G1) (h2 : Never (fun x => f (x + d1)) E2) (hE : G1 + E2 = E) :
    Never f E := by
  subst hE
  intro d hd
  rcases le_total d d1 with hle | hle
  · have hE2 : 0 < E2 := by
      have := (h2 0 le_rfl).2
      rwa [(Good.zero _).val] at this
    have := uphill_le_of_le hd hle h1.bv
    rw [h1.val] at this
    exact ⟨h1.bv.mono (Icc_subset_Icc le_rfl hle), this.trans_lt (lt_add_of_pos_right _ hE2)⟩
  · obtain ⟨hb, hv⟩ := h2 (d - d1) (sub_nonneg.2 hle)
    have hb' := bv_translate_iff.1 hb
    rw [uphill_translate] at hv
    rw [zero_add, sub_add_cancel] at hv hb'
    exact ⟨bv_add h1.nonneg hle h1.bv hb', by
      rw [uphill_add h1.nonneg hle h1.bv hb', h1.val]; exact add_lt_add_of_le_of_lt le_rfl hv⟩

/-- what a routine called with the budget `E` has to return: a distance along which exactly `E` is
accumulated, or `none` if there is no such distance -/
def Outcome (f : ℝ → ℝ) (E : ℝ) : Option ℝ → Prop
  | some d => Good f d E
  | none => Never f E

theorem Outcome.of_some {o : Option ℝ} (h : Outcome f E o) (e : o = some d) : Good f d E := by
  subst e; exact h

theorem Outcome.none_iff {o : Option ℝ} (h : Outcome f E o) :
    o = none ↔ ∀ d, 0 ≤ d → uphill f 0 d < E := by
  cases o with
  | none => exact ⟨fun _ d hd => (h d hd).2, fun _ => rfl⟩
  | some d =>
    have g : Good f d E := h
    exact ⟨fun e => (by cases e), fun hall => absurd g.val (hall d g.nonneg).ne⟩

/-- an outcome in the terms of the C02 statements: a returned distance is non-negative and accumulates the budget,
`none` exactly when no distance does -/
theorem Outcome.spec {o : Option ℝ} (h : Outcome f E o) :
    (∀ d, o = some d → 0 ≤ d ∧ uphill f 0 d = E) ∧ (o = none ↔ ∀ d, 0 ≤ d → uphill f 0 d < E) :=
  ⟨fun _ e => ⟨(h.of_some e).nonneg, (h.of_some e).val⟩, h.none_iff⟩

/-- a first stretch with gain `G1`, then a routine run from its end with what is left of the budget -/
theorem Outcome.after {o : Option ℝ} (h1 : Good f d1 G1) (h2 : Outcome (fun x => f (x + d1)) E2 o)
    (hE : G1 + E2 = E) : Outcome f E (o.map (d1 + ·)) := by
  cases o with
  | none => exact Never.after h1 h2 hE
  | some d2 => exact h1.append h2 rfl hE

end JF.Uphill
