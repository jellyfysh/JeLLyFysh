import JF.Lemmas.DerivReal
/-!
Calculus for the bending potential `U = k/2 (φ − φ₀)²`, `φ` the angle between `s₁ = r_i − r_j` and `s₂ = r_k − r_j`:
the derivative of `U` when `s₁`, `s₂` change by `−a x e_d`, `−b x e_d` (unit `i` moving: `a = −1, b = 0`;
unit `k`: `a = 0, b = −1`; the middle unit `j`: `a = b = 1`).
-/
namespace JF.Deriv
open Real

def V3.dot (a b : V3 ℝ) : ℝ := a.x * b.x + a.y * b.y + a.z * b.z

/-- `cos φ` as the routine computes it: `dot / |s₁| / |s₂|` -/
noncomputable def cosAngle (s1 s2 : V3 ℝ) : ℝ := s1.dot s2 / √(s1.nsq) / √(s2.nsq)

/-- `U = k/2 (φ − φ₀)²` -/
noncomputable def bendEnergy (k phi0 : ℝ) (s1 s2 : V3 ℝ) : ℝ := k / 2 * (arccos (cosAngle s1 s2) - phi0) ^ 2

/-- `d_cosine_by_d_separation_one` of the routine (with the roles of the separations as arguments) -/
noncomputable def dCos (s1 s2 : V3 ℝ) (d : ℕ) : ℝ :=
  s2.get d / √(s1.nsq) / √(s2.nsq) - cosAngle s1 s2 * s1.get d / √(s1.nsq) ^ 2

theorem dot_moved (s1 s2 : V3 ℝ) (d : ℕ) (u w : ℝ) :
    (s1.moved d u).dot (s2.moved d w) = s1.dot s2 + (-(u * s2.get d + w * s1.get d)) + u * w := by
  match d with
  | 0 | 1 | _ + 2 => simp only [V3.moved, V3.dot, V3.get]; ring

theorem dot_moved_hasDerivAt (s1 s2 : V3 ℝ) (d : ℕ) (a b : ℝ) :
    HasDerivAt (fun x => (s1.moved d (a * x)).dot (s2.moved d (b * x))) (-(a * s2.get d + b * s1.get d)) 0 := by
  have h := poly2_hasDerivAt (s1.dot s2) (-(a * s2.get d + b * s1.get d)) (a * b)
  refine h.congr_of_eventuallyEq (Filter.Eventually.of_forall fun x => ?_)
  simp only [dot_moved]; ring

theorem norm_moved_scaled_hasDerivAt (s : V3 ℝ) (d : ℕ) (a : ℝ) (hs : s.nsq ≠ 0) :
    HasDerivAt (fun x => √((s.moved d (a * x)).nsq)) (-(s.get d) / √(s.nsq) * a) 0 :=
  HasDerivAt.comp_of_eq (h₂ := fun y => √((s.moved d y).nsq)) 0
    ((radial_hasDerivAt s d hs (hasDerivAt_id _)).congr_deriv (one_mul _))
    (((hasDerivAt_id (0 : ℝ)).const_mul a).congr_deriv (mul_one a)) (mul_zero a).symm

theorem cosAngle_hasDerivAt (s1 s2 : V3 ℝ) (d : ℕ) (a b : ℝ) (h1 : s1.nsq ≠ 0) (h2 : s2.nsq ≠ 0) :
    HasDerivAt (fun x => cosAngle (s1.moved d (a * x)) (s2.moved d (b * x)))
      (-a * dCos s1 s2 d - b * dCos s2 s1 d) 0 := by
  have hn1 := V3.norm_pos h1
  have hn2 := V3.norm_pos h2
  have hd := dot_moved_hasDerivAt s1 s2 d a b
  have hN1 := (norm_moved_scaled_hasDerivAt s1 d a h1).inv (by simpa using hn1.ne')
  have hN2 := (norm_moved_scaled_hasDerivAt s2 d b h2).inv (by simpa using hn2.ne')
  -- written with inverses the product rule gives the value up to `ring`: no cancellation is needed
  refine ((hd.mul hN1).mul hN2).congr_deriv ?_ |>.congr_of_eventuallyEq
    (Filter.Eventually.of_forall fun x => by simp only [cosAngle, div_eq_mul_inv]; rfl)
  have hsym : s2.dot s1 = s1.dot s2 := by simp only [V3.dot]; ring
  simp only [Pi.mul_apply, Pi.inv_apply, mul_zero, moved_zero, dCos, cosAngle, hsym]
  ring

theorem bendEnergy_hasDerivAt (k phi0 : ℝ) (s1 s2 : V3 ℝ) (d : ℕ) (a b : ℝ) (h1 : s1.nsq ≠ 0) (h2 : s2.nsq ≠ 0)
    (hlo : -1 < cosAngle s1 s2) (hhi : cosAngle s1 s2 < 1) :
    HasDerivAt (fun x => bendEnergy k phi0 (s1.moved d (a * x)) (s2.moved d (b * x)))
      (k * (arccos (cosAngle s1 s2) - phi0) * (-1 / sin (arccos (cosAngle s1 s2)))
        * (-a * dCos s1 s2 d - b * dCos s2 s1 d)) 0 := by
  have hC := cosAngle_hasDerivAt s1 s2 d a b h1 h2
  have hacos : HasDerivAt arccos (-(1 / √(1 - cosAngle s1 s2 ^ 2)))
      (cosAngle (s1.moved d (a * 0)) (s2.moved d (b * 0))) := by
    simpa using Real.hasDerivAt_arccos hlo.ne' hhi.ne
  have hU := (((hacos.comp (0 : ℝ) hC).sub_const phi0).pow 2).const_mul (k / 2)
  unfold bendEnergy
  refine hU.congr_deriv ?_
  simp only [Real.sin_arccos, Function.comp_apply, mul_zero, moved_zero, Nat.add_one_sub_one, pow_one]
  ring

end JF.Deriv
