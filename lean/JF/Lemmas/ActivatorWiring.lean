/-
Link between a configuration (`Wiring`, the decidable `WiringSound`) and the step hypotheses of the freshness induction:
`WiringSound cfg = true` + sound footprint tables ⇒ every commit of every run satisfies `StepOK`, clause (h) included.
Core Lean only.
-/
import JF.Model.Wiring
import JF.Lemmas.ActivatorFresh
namespace JF.Act

theorem poolsFrom_length (off : Nat) (ts : List TaggerW) : (poolsFrom off ts).length = ts.length := by
  induction ts generalizing off with
  | nil => rfl
  | cons t ts ih => simp [poolsFrom, ih]

theorem Wiring.wires_length (c : Wiring) : c.wires.length = c.n := poolsFrom_length 0 c.taggers

private def dfl : TaggerW := ⟨"", .unknown, "", .unknown, [], [], [], [], 0, none⟩

theorem getW_poolsFrom (off : Nat) (ts : List TaggerW) (i : Nat) :
    (getW (poolsFrom off ts) i).creates = ((ts[i]?).getD dfl).creates ∧
    (getW (poolsFrom off ts) i).trashes = ((ts[i]?).getD dfl).trashes ∧
    (getW (poolsFrom off ts) i).activates = ((ts[i]?).getD dfl).activates ∧
    (getW (poolsFrom off ts) i).deactivates = ((ts[i]?).getD dfl).deactivates := by
  induction ts generalizing off i with
  | nil => simp [poolsFrom, getW, TWire.empty, dfl]
  | cons t ts ih =>
    cases i with
    | zero => simp [poolsFrom, getW]
    | succ i => simpa [poolsFrom, getW] using ih (off + t.pool) i

theorem getW_wires (c : Wiring) (i : Nat) :
    (getW c.wires i).creates = (c.tagger i).creates ∧ (getW c.wires i).trashes = (c.tagger i).trashes ∧
    (getW c.wires i).activates = (c.tagger i).activates ∧ (getW c.wires i).deactivates = (c.tagger i).deactivates :=
  getW_poolsFrom 0 c.taggers i

theorem pool_poolsFrom_bounds (off : Nat) (ts : List TaggerW) (i : Nat) (h : HandlerId)
    (hh : h ∈ (getW (poolsFrom off ts) i).pool) : off ≤ h := by
  induction ts generalizing off i with
  | nil => simp [poolsFrom, getW, TWire.empty] at hh
  | cons t ts ih =>
    cases i with
    | zero =>
      simp only [poolsFrom, getW, List.getElem?_cons_zero, Option.getD_some, List.mem_range'_1] at hh
      exact hh.1
    | succ i =>
      have : h ∈ (getW (poolsFrom (off + t.pool) ts) i).pool := by simpa [poolsFrom, getW] using hh
      exact Nat.le_trans (Nat.le_add_right _ _) (ih _ i this)

theorem poolsOK_poolsFrom (off : Nat) (ts : List TaggerW) : PoolsOK (poolsFrom off ts) := by
  induction ts generalizing off with
  | nil =>
    exact ⟨fun i => by simp [poolsFrom, getW, TWire.empty], fun i j _ h hh => by simp [poolsFrom, getW, TWire.empty] at hh⟩
  | cons t ts ih =>
    obtain ⟨ih1, ih2⟩ := ih (off + t.pool)
    have tl : ∀ i, getW (poolsFrom off (t :: ts)) (i + 1) = getW (poolsFrom (off + t.pool) ts) i := by
      intro i; simp [poolsFrom, getW]
    have hd : (getW (poolsFrom off (t :: ts)) 0).pool = List.range' off t.pool := by simp [poolsFrom, getW]
    constructor
    · intro i
      cases i with
      | zero => rw [hd]; exact List.nodup_range'
      | succ i => rw [tl]; exact ih1 i
    · intro i j hij h hh
      cases i with
      | zero =>
        cases j with
        | zero => exact absurd rfl hij
        | succ j =>
          rw [tl]; intro hc
          have := pool_poolsFrom_bounds _ _ _ _ hc
          rw [hd, List.mem_range'_1] at hh
          omega
      | succ i =>
        rw [tl] at hh
        cases j with
        | zero =>
          rw [hd, List.mem_range'_1]; intro hc
          have := pool_poolsFrom_bounds _ _ _ _ hh
          omega
        | succ j => rw [tl]; exact ih2 i j (fun hc => hij (by rw [hc])) h hh

theorem poolsOK_wires (c : Wiring) : PoolsOK c.wires := poolsOK_poolsFrom 0 c.taggers

theorem tagger_mem (c : Wiring) {i : Nat} (hi : i < c.n) : c.tagger i ∈ c.taggers := by
  unfold Wiring.tagger
  have : i < c.taggers.length := hi
  rw [List.getElem?_eq_getElem this]
  exact List.getElem_mem this

theorem tagger_ge (c : Wiring) {i : Nat} (hi : c.n ≤ i) : c.tagger i = dfl := by
  unfold Wiring.tagger
  have : c.taggers.length ≤ i := hi
  rw [List.getElem?_eq_none this]; rfl

theorem all_lt_of_idxOK {c : Wiring} {l : List Nat} (h : idxOK c l = true) : ∀ x ∈ l, x < c.n := by
  intro x hx
  have := List.all_eq_true.mp h x hx
  simpa using this

structure Static (c : Wiring) (S : TaggerIdx) : Prop where
  creates_lt : ∀ E, ∀ T ∈ (c.tagger E).creates, T < c.n
  creates_nodup : ∀ E, (c.tagger E).creates.Nodup
  start_not_created : ∀ E, S ∉ (c.tagger E).creates
  self_trash : ∀ E, E < c.n → E ∈ (c.tagger E).trashes

theorem static_of_wfStatic {c : Wiring} {S : TaggerIdx} (h : wfStatic c S = true) : Static c S := by
  unfold wfStatic at h
  rw [Bool.and_eq_true] at h
  obtain ⟨h1, h2⟩ := h
  -- a tagger out of range is the default tagger, whose lists are empty
  have per : ∀ E, (∀ T ∈ (c.tagger E).creates, T < c.n) ∧ (c.tagger E).creates.Nodup ∧ S ∉ (c.tagger E).creates := by
    intro E
    by_cases hE : E < c.n
    · have := List.all_eq_true.mp h1 _ (tagger_mem c hE)
      simp only [Bool.and_eq_true, decide_eq_true_eq, Bool.not_eq_true'] at this
      exact ⟨all_lt_of_idxOK this.1.1.1.1.1.1, this.1.1.2,
        fun hc => Bool.false_ne_true (this.2.symm.trans (List.contains_iff_mem.mpr hc))⟩
    · rw [tagger_ge c (Nat.le_of_not_lt hE)]; simp [dfl]
  exact ⟨fun E => (per E).1, fun E => (per E).2.1, fun E => (per E).2.2,
    fun E hE => List.contains_iff_mem.mp (List.all_eq_true.mp h2 E (List.mem_range.mpr hE))⟩

theorem wfw_of_static {c : Wiring} {S : TaggerIdx} (st : Static c S) : WFw c.wires := by
  intro E
  rw [(getW_wires c E).1, c.wires_length]
  exact ⟨st.creates_nodup E, st.creates_lt E⟩

def absOf (s : Act) : AState := s.map (·.activated)

theorem aGet_absOf (s : Act) (j : Nat) : aGet (absOf s) j = (getT s j).activated := by
  unfold aGet absOf getT
  rw [List.getElem?_map]
  cases s[j]? <;> rfl

theorem absOf_setActivated (s : Act) (i : Nat) (b : Bool) : absOf (setActivated s i b) = (absOf s).set i b := by
  unfold absOf setActivated
  rw [List.map_set]

theorem absOf_foldl (l : List Nat) (b : Bool) (s : Act) :
    absOf (l.foldl (fun s i => setActivated s i b) s) = l.foldl (fun σ i => σ.set i b) (absOf s) := by
  induction l generalizing s with
  | nil => rfl
  | cons a l ih => simp only [List.foldl_cons]; rw [ih, absOf_setActivated]

theorem absOf_applyActivation (c : Wiring) (s : Act) (E : TaggerIdx) :
    absOf (applyActivation c.wires s E) = aStep c (absOf s) E := by
  unfold applyActivation aStep
  simp only []
  rw [absOf_foldl, absOf_foldl, (getW_wires c E).2.2.1, (getW_wires c E).2.2.2]

theorem absOf_eq_of {s s' : Act} (hl : s.length = s'.length)
    (h : ∀ j, (getT s j).activated = (getT s' j).activated) : absOf s = absOf s' := by
  apply List.ext_getElem (by simp [absOf, hl])
  intro j h1 h2
  have := h j
  rw [← aGet_absOf, ← aGet_absOf] at this
  simpa [aGet, h1, h2] using this

theorem createLoop_activated {yields : TaggerIdx → List IdTuple} {Ts : List TaggerIdx} {s s' : Act}
    {out : List (HandlerId × IdTuple)} (e : createLoop yields s Ts = some (s', out)) (j : TaggerIdx) :
    (getT s' j).activated = (getT s j).activated :=
  createLoop_inv (P := fun j t => t.activated = (getT s j).activated)
    (fun j t ys t' out hp e => by rw [(popMany_some e).2.2.2, hp]) (fun _ => rfl) e j

theorem absOf_initAct (w : Wires) : absOf (initAct w) = List.replicate w.length true := by
  unfold absOf initAct
  rw [List.map_map]
  exact List.map_const' ..

theorem absOf_update (c : Wiring) {s s' : Act} {E : TaggerIdx} {ys : TaggerIdx → List IdTuple}
    {out : List (HandlerId × IdTuple)} (h : update c.wires (trash c.wires s E).1 E ys = some (s', out)) :
    absOf s' = aStep c (absOf s) E := by
  unfold update at h
  rw [absOf_eq_of (createLoop_length h) (createLoop_activated h), absOf_applyActivation]
  congr 1
  exact absOf_eq_of (by rw [trash, trashLoop_length]) (fun j => trashLoop_activated _ _ j)

theorem absOf_commit {G : Type} (c : Wiring) {W : World G} {rs rs' : RS G} {E : TaggerIdx} {g' : G}
    (e : commit c.wires W rs E g' = some rs') : absOf rs'.act = aStep c (absOf rs.act) E := by
  obtain ⟨_, _, hu, rfl⟩ := commit_some e
  exact absOf_update c hu

theorem absOf_of_first {c : Wiring} {S : TaggerIdx} {yields : TaggerIdx → List IdTuple} {s0 : Act}
    {out : List (HandlerId × IdTuple)} (hfirst : first c.wires (initAct c.wires) S yields = some (s0, out)) :
    absOf s0 = aStep c (List.replicate c.n true) S := by
  unfold first at hfirst
  rw [absOf_eq_of (createLoop_length hfirst) (createLoop_activated hfirst), absOf_applyActivation, absOf_initAct,
    c.wires_length]

theorem absOf_of_start {G : Type} {c : Wiring} {W : World G} {S : TaggerIdx} {s0 : Act} {out : List (HandlerId × IdTuple)}
    {ids : HandlerId → IdTuple} {g0 g1 : G} {rs1 : RS G}
    (hfirst : first c.wires (initAct c.wires) S (fun T => W.yieldOf T g0) = some (s0, out))
    (hcommit : commit c.wires W ⟨s0, ids, g0⟩ S g1 = some rs1) : absOf rs1.act = startState c S := by
  rw [absOf_commit c hcommit]
  show aStep c (absOf s0) S = _
  rw [absOf_of_first hfirst]; rfl

theorem aGet_aStep (c : Wiring) (s : Act) (E T : TaggerIdx) (hT : T < s.length) :
    aGet (aStep c (absOf s) E) T = actAfter c.wires E T (getT s T).activated := by
  rw [← absOf_applyActivation, aGet_absOf, getT_applyActivation _ _ _ _ hT]

theorem mem_addNew_of_mem {seen xs : List AState} {x : AState} (h : x ∈ seen) : x ∈ addNew seen xs := by
  induction xs generalizing seen with
  | nil => exact h
  | cons y ys ih =>
    unfold addNew
    split
    · exact ih h
    · exact ih (List.mem_append_left _ h)

theorem mem_reachFrom_of_mem (c : Wiring) (k : Nat) {seen : List AState} {x : AState} (h : x ∈ seen) :
    x ∈ reachFrom c k seen := by
  induction k generalizing seen with
  | zero => exact h
  | succ k ih =>
    unfold reachFrom
    simp only []
    split
    · exact h
    · exact ih (mem_addNew_of_mem h)

theorem closed_step {c : Wiring} {R : List AState} (hc : closed c R = true) {σ : AState} (hσ : σ ∈ R) {E : TaggerIdx}
    (hE : E < c.n) (hcan : canCommit c σ E = true) : aStep c σ E ∈ R := by
  have h1 := List.all_eq_true.mp hc σ hσ
  have hmem : aStep c σ E ∈ succs c σ := by
    unfold succs
    exact List.mem_map.mpr ⟨E, List.mem_filter.mpr ⟨List.mem_range.mpr hE, hcan⟩, rfl⟩
  have := List.all_eq_true.mp h1 _ hmem
  exact List.contains_iff_mem.mp this

theorem no_violation {c : Wiring} {R : List AState} (hv : (violations c R).isEmpty = true) {σ : AState} (hσ : σ ∈ R)
    {E T : TaggerIdx} (hE : E < c.n) (hcan : canCommit c σ E = true) (hT : T < c.n) : pairViolations c σ E T = [] := by
  refine List.eq_nil_iff_forall_not_mem.mpr fun cl hcl => ?_
  have : (σ, E, T, cl) ∈ violations c R :=
    List.mem_flatMap.mpr ⟨σ, hσ, List.mem_flatMap.mpr ⟨E, List.mem_filter.mpr ⟨List.mem_range.mpr hE, hcan⟩,
      List.mem_flatMap.mpr ⟨T, List.mem_range.mpr hT, List.mem_map.mpr ⟨cl, hcl, rfl⟩⟩⟩⟩
  rw [List.isEmpty_iff.mp hv] at this
  cases this

theorem ite_singleton_eq_nil {α : Type} {b : Bool} {x : α} : (if b = true then [x] else []) = [] ↔ b = false := by
  cases b <;> simp

/-- the clauses one reads off `pairViolations … = []` for a tagger that is not the start-of-run tagger -/
theorem clauses_of_no_violation {c : Wiring} {σ : AState} {E T : TaggerIdx} (h : pairViolations c σ E T = [])
    (hk : (c.tagger T).kind ≠ .startOfRun) :
    (T ∈ (c.tagger E).creates → T ∉ (c.tagger E).trashes → aGet σ T = false) ∧
    (T ∈ (c.tagger E).trashes → T ∉ (c.tagger E).creates → aGet (aStep c σ E) T = false) ∧
    (T ∉ (c.tagger E).trashes → T ∉ (c.tagger E).creates →
        aGet (aStep c σ E) T = aGet σ T ∧ (aGet σ T = false ∨ disjointFP c (c.tagger E) (c.tagger T) = true)) ∧
    (affects (c.tagger E) .motion = true → motionBound (c.tagger T) = true → aGet σ T = true → T ∈ (c.tagger E).trashes) := by
  unfold pairViolations at h
  simp only [beq_false_of_ne hk, Bool.false_eq_true, if_false, List.append_eq_nil_iff, ite_singleton_eq_nil] at h
  obtain ⟨⟨⟨⟨h1, h2⟩, h3⟩, h4⟩, h5⟩ := h
  have mem : ∀ l : List Nat, T ∈ l ↔ l.contains T = true := fun _ => List.contains_iff_mem.symm
  simp only [mem, Bool.not_eq_true]
  refine ⟨fun hc ht => ?_, fun ht hc => ?_, fun ht hc => ?_, fun hm hb ha => ?_⟩
  · rw [hc, ht] at h1; simpa using h1
  · rw [hc, ht] at h2; simpa using h2
  · rw [hc, ht] at h3 h4
    simp only [Bool.not_false, Bool.true_and, bne_eq_false_iff_eq, Bool.and_eq_false_imp, Bool.not_eq_eq_eq_not,
      Bool.not_false] at h3 h4
    refine ⟨h3, ?_⟩
    cases ha : aGet σ T
    · exact Or.inl rfl
    · exact Or.inr (h4 ha)
  · rw [hm, hb, ha] at h5; simpa using h5

theorem start_spec {c : Wiring} {S : TaggerIdx} (h : c.start? = some S) :
    S < c.n ∧ (c.tagger S).kind = .startOfRun ∧ ∀ i, i < c.n → (c.tagger i).kind = .startOfRun → i = S := by
  unfold Wiring.start? at h
  split at h
  · next i hf =>
    split at h
    · simp only [Option.some.injEq] at h; subst h
      have hi : i ∈ (List.range c.n).filter (fun i => (c.tagger i).kind == .startOfRun) := by rw [hf]; simp
      obtain ⟨h1, h2⟩ := List.mem_filter.mp hi
      refine ⟨List.mem_range.mp h1, by simpa using h2, ?_⟩
      intro j hj hk
      have : j ∈ (List.range c.n).filter (fun i => (c.tagger i).kind == .startOfRun) :=
        List.mem_filter.mpr ⟨List.mem_range.mpr hj, by simp [hk]⟩
      rw [hf] at this; simpa using this
    · simp at h
  · simp at h

/-- the property's tagger list: every tagger of the configuration except the start-of-run tagger -/
def LiveIs {G : Type} (c : Wiring) (W : World G) : Prop :=
  ∀ T, W.live T ↔ (T < c.n ∧ (c.tagger T).kind ≠ .startOfRun)

/-- soundness of the dependency/effect footprint tables w.r.t. an abstract world: if the effect footprint of the committing
tagger and the dependency footprint of `T` are disjoint, a transition by `E` does not change what `T` generates (as far as
the property's comparison for `T` sees it) -/
structure FootprintsSound {G : Type} (c : Wiring) (W : World G) (Tr : TaggerIdx → G → G → Prop) : Prop where
  untouched : ∀ E T g g', Tr E g g' → disjointFP c (c.tagger E) (c.tagger T) = true →
    ((W.yieldOf T g').map (W.view T)).Perm ((W.yieldOf T g).map (W.view T))

/-- ALL runs of configuration `c` in the world `W` with transition relation `Tr`: no hypothesis on the steps except that the
committing tagger has a pending handler, is not the end-of-run tagger (whose commit ends the run) and the global state moves
along `Tr` -/
inductive Run {G : Type} (c : Wiring) (W : World G) (Tr : TaggerIdx → G → G → Prop) (S : TaggerIdx) : RS G → Prop where
  | start (ids0 : HandlerId → IdTuple) (g0 g1 : G) (s0 : Act) (out : List (HandlerId × IdTuple)) (rs1 : RS G)
      (hfirst : first c.wires (initAct c.wires) S (fun T => W.yieldOf T g0) = some (s0, out))
      (hcommit : commit c.wires W ⟨s0, assign ids0 out, g0⟩ S g1 = some rs1) : Run c W Tr S rs1
  | step (rs rs' : RS G) (E : TaggerIdx) (g' : G) (prev : Run c W Tr S rs)
      (hpending : (getT rs.act E).running ≠ []) (hend : (c.tagger E).kind ≠ .endOfRun)
      (htr : Tr E rs.g g') (hcommit : commit c.wires W rs E g' = some rs') : Run c W Tr S rs'

theorem fresh_nil_of_deactivated {G : Type} {W : World G} {rs : RS G} {T : TaggerIdx} (h : Fresh W rs T)
    (hd : (getT rs.act T).activated = false) : (getT rs.act T).running = [] := by
  have := h.length_running
  simpa [yieldEff, hd] using this

theorem running_nil_after_commit {G : Type} {w : Wires} {W : World G} {rs rs' : RS G} {E S : TaggerIdx} {g' : G}
    (hnc : S ∉ (getW w E).creates) (h0 : S ∈ (getW w E).trashes ∨ (getT rs.act S).running = [])
    (e : commit w W rs E g' = some rs') : (getT rs'.act S).running = [] := by
  rw [running_after_commit hnc e]; exact kept_eq_nil.mpr h0

structure RunInv {G : Type} (c : Wiring) (W : World G) (S : TaggerIdx) (rs : RS G) : Prop where
  fresh : ∀ T, W.live T → Fresh W rs T
  pool : PoolInv c.wires rs.act
  reach : absOf rs.act ∈ reach c S
  startIdle : (getT rs.act S).running = []

theorem LiveIs.live {G : Type} {c : Wiring} {W : World G} (h : LiveIs c W) (E : TaggerIdx) (hE : E < c.n)
    (hk : (c.tagger E).kind ≠ .startOfRun) : W.live E := (h E).mpr ⟨hE, hk⟩

theorem RunInv.pending {G : Type} {c : Wiring} {W : World G} {S : TaggerIdx} {rs : RS G} (ri : RunInv c W S rs)
    (hS : c.start? = some S) (hlive : ∀ E, E < c.n → (c.tagger E).kind ≠ .startOfRun → W.live E) {E : TaggerIdx}
    (hE : (getT rs.act E).running ≠ []) :
    E < c.n ∧ (c.tagger E).kind ≠ .startOfRun ∧ aGet (absOf rs.act) E = true := by
  have hEn : E < c.n := by
    refine Nat.lt_of_not_le fun h => hE ?_
    rw [getT_of_le _ _ (by rw [ri.pool.1, c.wires_length]; exact h)]; rfl
  have hEk : (c.tagger E).kind ≠ .startOfRun := fun hk =>
    hE (by rw [(start_spec hS).2.2 E hEn hk]; exact ri.startIdle)
  refine ⟨hEn, hEk, ?_⟩
  rw [aGet_absOf]
  cases ha : (getT rs.act E).activated
  · exact absurd (fresh_nil_of_deactivated (ri.fresh E (hlive E hEn hEk)) ha) hE
  · rfl

theorem RunInv.canCommit_pending {G : Type} {c : Wiring} {W : World G} {S : TaggerIdx} {rs : RS G} (ri : RunInv c W S rs)
    (hS : c.start? = some S) (hlive : ∀ E, E < c.n → (c.tagger E).kind ≠ .startOfRun → W.live E) {E : TaggerIdx}
    (hE : (getT rs.act E).running ≠ []) (hend : (c.tagger E).kind ≠ .endOfRun) :
    E < c.n ∧ (c.tagger E).kind ≠ .startOfRun ∧ canCommit c (absOf rs.act) E = true := by
  obtain ⟨hEn, hEk, hEa⟩ := ri.pending hS hlive hE
  refine ⟨hEn, hEk, ?_⟩
  unfold canCommit
  simp only [hEa, Bool.true_and, Bool.and_eq_true, bne_iff_ne, ne_eq]
  exact ⟨hEk, hend⟩

/-- C09 read backwards: in a state of a run, a live tagger that is activated and yields something on the current global state has a
pending handler -/
theorem RunInv.pending_of_yield {G : Type} {c : Wiring} {W : World G} {S : TaggerIdx} {rs : RS G} (ri : RunInv c W S rs)
    {E : TaggerIdx} (hl : W.live E) (ha : aGet (absOf rs.act) E = true) {g : G} (hg : rs.g = g) (hy : W.yieldOf E g ≠ []) :
    (getT rs.act E).running ≠ [] := by
  subst hg
  intro hr
  have := (ri.fresh E hl).length_running
  rw [aGet_absOf] at ha
  rw [hr, yieldEff, if_pos ha] at this
  exact hy (List.length_eq_zero_iff.mp this.symm)

theorem wiringSound_spec {c : Wiring} {S : TaggerIdx} (sound : WiringSound c = true) (hS : c.start? = some S) :
    wfStatic c S = true ∧ startOK c S (startState c S) = true ∧ closed c (reach c S) = true ∧
      (violations c (reach c S)).isEmpty = true := by
  unfold WiringSound at sound
  rw [hS] at sound
  simpa only [Bool.and_eq_true, and_assoc] using sound

theorem run_inv {G : Type} (c : Wiring) (W : World G) (Tr : TaggerIdx → G → G → Prop) (S : TaggerIdx)
    (sound : WiringSound c = true) (hS : c.start? = some S) (fps : FootprintsSound c W Tr) (hlive : LiveIs c W)
    {rs : RS G} (h : Run c W Tr S rs) : RunInv c W S rs := by
  obtain ⟨hwf, hstart, hclosed, hviol⟩ := wiringSound_spec sound hS
  have st := static_of_wfStatic hwf
  have wf := wfw_of_static st
  have pok := poolsOK_wires c
  obtain ⟨hSn, hSk, hSu⟩ := start_spec hS
  have liveNe : ∀ T, W.live T → T ≠ S := fun T hl hc => ((hlive T).mp hl).2 (hc ▸ hSk)
  have notCreated : ∀ E, S ∉ (getW c.wires E).creates := fun E => by rw [(getW_wires c E).1]; exact st.start_not_created E
  induction h with
  | start ids0 g0 g1 s0 out rs1 hfirst hcommit =>
    have p0 : PoolInv c.wires s0 := poolInv_first (poolInv_init c.wires) hfirst
    have sok : StartOK c.wires W ⟨s0, assign ids0 out, g0⟩ S g1 := by
      intro T hl
      obtain ⟨hTn, hTk⟩ := (hlive T).mp hl
      have := List.all_eq_true.mp hstart T (List.mem_range.mpr hTn)
      simp only [Bool.or_eq_true, beq_iff_eq, Bool.not_eq_true'] at this
      rcases this with (h1 | h2) | h3
      · exact absurd h1 hTk
      · left; rw [(getW_wires c S).1]; exact List.contains_iff_mem.mp h2
      · right
        unfold yieldAfter
        have hTl : T < s0.length := by rw [p0.1, c.wires_length]; exact hTn
        have : actAfter c.wires S T (getT s0 T).activated = false := by
          rw [← aGet_aStep c s0 S T hTl, absOf_of_first hfirst]; exact h3
        simp [this]
    refine ⟨fresh_start wf pok p0 (fun T hl => first_running_nil hfirst (liveNe T hl)) sok hcommit,
      commit_poolInv p0 hcommit, ?_, ?_⟩
    · rw [absOf_of_start hfirst hcommit]; exact mem_reachFrom_of_mem c _ List.mem_cons_self
    · refine running_nil_after_commit (notCreated S) (Or.inl ?_) hcommit
      rw [(getW_wires c S).2.1]; exact st.self_trash S hSn
  | step rs rs' E g' _ hpending hend htr hcommit ih =>
    obtain ⟨hEn, _, hcan⟩ := ih.canCommit_pending hS hlive.live hpending hend
    have hnext : aStep c (absOf rs.act) E ∈ reach c S := closed_step hclosed ih.reach hEn hcan
    have ok : StepOK c.wires W rs E g' := by
      have hTl : ∀ T, W.live T → T < rs.act.length := fun T hl => by
        rw [ih.pool.1, c.wires_length]; exact ((hlive T).mp hl).1
      have cl : ∀ T, W.live T → _ := fun T hl =>
        clauses_of_no_violation (no_violation hviol ih.reach hEn hcan ((hlive T).mp hl).1) ((hlive T).mp hl).2
      -- the clauses speak about `c.tagger E` and the abstract state; the goals about the wires and the activator state
      refine ⟨?_, ?_, ?_⟩ <;> rw [(getW_wires c E).1, (getW_wires c E).2.1]
      · intro T hl hc ht
        have := (cl T hl).1 hc ht
        rw [aGet_absOf] at this
        exact fresh_nil_of_deactivated (ih.fresh T hl) this
      · intro T hl ht hc
        have := (cl T hl).2.1 ht hc
        rw [aGet_aStep c rs.act E T (hTl T hl)] at this
        unfold yieldAfter; simp [this]
      · intro T hl ht hc
        obtain ⟨e1, e2⟩ := (cl T hl).2.2.1 ht hc
        rw [aGet_aStep c rs.act E T (hTl T hl), aGet_absOf] at e1
        rw [aGet_absOf] at e2
        unfold yieldAfter yieldEff
        rw [e1]
        rcases e2 with e2 | e2
        · simp [e2]
        · cases ha : (getT rs.act T).activated
          · simp
          · simp only [if_true]; exact fps.untouched E T rs.g g' htr e2
    refine ⟨fresh_step wf pok ih.pool ih.fresh ok hcommit, commit_poolInv ih.pool hcommit, ?_, ?_⟩
    · rw [absOf_commit c hcommit]; exact hnext
    · exact running_nil_after_commit (notCreated E) (Or.inr ih.startIdle) hcommit

theorem run_pending {G : Type} (c : Wiring) (W : World G) (Tr : TaggerIdx → G → G → Prop) (S : TaggerIdx)
    (sound : WiringSound c = true) (hS : c.start? = some S) (fps : FootprintsSound c W Tr) (hlive : LiveIs c W)
    {rs : RS G} (h : Run c W Tr S rs) {E : TaggerIdx} (hE : E < c.n) (hk : (c.tagger E).kind ≠ .startOfRun)
    (ha : ∀ σ ∈ reach c S, aGet σ E = true) {g : G} (hg : rs.g = g) (hy : W.yieldOf E g ≠ []) :
    (getT rs.act E).running ≠ [] :=
  have ri := run_inv c W Tr S sound hS fps hlive h
  ri.pending_of_yield (hlive.live E hE hk) (ha _ ri.reach) hg hy

/-- a wiring none of whose taggers is ever deactivated -/
theorem aGet_of_reach_all {c : Wiring} {S : TaggerIdx} (hr : reach c S = [List.replicate c.n true]) {E : TaggerIdx}
    (hE : E < c.n) : ∀ σ ∈ reach c S, aGet σ E = true := by
  intro σ hσ
  rw [hr, List.mem_singleton] at hσ
  simp [hσ, aGet, hE]

/-- clause (h) at every step of every run of a sound configuration (used by C08) -/
theorem run_clause_h {G : Type} (c : Wiring) (W : World G) (Tr : TaggerIdx → G → G → Prop) (S : TaggerIdx)
    (sound : WiringSound c = true) (hS : c.start? = some S) (fps : FootprintsSound c W Tr) (hlive : LiveIs c W)
    {rs : RS G} (hrun : Run c W Tr S rs) {E : TaggerIdx} (hE : (getT rs.act E).running ≠ [])
    (hend : (c.tagger E).kind ≠ .endOfRun) (hm : affects (c.tagger E) .motion = true)
    {T : TaggerIdx} (hT : T < c.n) (hb : motionBound (c.tagger T) = true) :
    T ∈ (getW c.wires E).trashes ∨ (getT rs.act T).running = [] := by
  have ih := run_inv c W Tr S sound hS fps hlive hrun
  obtain ⟨hEn, _, hcan⟩ := ih.canCommit_pending hS hlive.live hE hend
  have hTk : (c.tagger T).kind ≠ .startOfRun := by
    intro hk; rw [motionBound, hk] at hb; simp at hb
  cases ha : (getT rs.act T).activated
  · exact Or.inr (fresh_nil_of_deactivated (ih.fresh T (hlive.live T hT hTk)) ha)
  · rw [(getW_wires c E).2.1]
    exact Or.inl ((clauses_of_no_violation (no_violation (wiringSound_spec sound hS).2.2.2 ih.reach hEn hcan hT) hTk).2.2.2
      hm hb (by rw [aGet_absOf]; exact ha))

end JF.Act
