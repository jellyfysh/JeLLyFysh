import JF.Lemmas.CompositeChain
/-!
One-chain invariant of the two-level machine `JF.Composite.step`: every event kind.

Each `…_chain` lemma takes the invariant (`MovingAt` in the mode the event kind belongs to) and the *weak* facts about the
event (indices in range, the designated source moves) and returns
* the *strong* facts the per-event theorems of `JF/Lemmas/CompositeSteps.lean` assume (the receiver is at rest as a
  whole, only the designated leaf / all leaves of the source move, …), and
* the invariant after the event.
-/
namespace JF.C12
open JF JF.Composite

/-- Weak admissibility of an event in a state: what the caller chooses and the code checks by indexing (evaluated, like
`Adm`, after the in-state has been time-sliced).
* indices in range: the objects / leaves named by the event exist (`… = some _`), the leaf chosen by the switcher exists;
* the source designated by the event is the moving one: leaf `(i, j)` moves (leaf-mode kinds), object `i` has a moving
  leaf (root-mode kinds);
* the target differs from the source (`exchange`: `i = i' → j ≠ j'`; `pass`: `iL ≠ iT`);
* the in-state `S` contains the source (`exchange`, `pass`);
* a new velocity has the box dimension, is non-zero, and for an end of chain has the squared norm of the old one;
* `snap`: the boundary is the coordinate reached at the event time;
* `start`: `P` lists distinct existing leaves, at least one. -/
def AdmW (d : Nat) (L : List ℚ) (cs : List (CObj ℚ)) : Composite.Ev ℚ → Prop
  | .keep _ _ => True
  | .snap t S i j dd x =>
    ∀ c, (sliceAt Ops.rat L t S cs)[i]? = some c →
      match j with
      | none => x = c.root.pos.getD dd 0
      | some j => ∀ l, c.leaves[j]? = some l → x = l.pos.getD dd 0
  | .exchange t S i j i' j' =>
    i ∈ S ∧ (i = i' → j ≠ j') ∧ ∃ a b v, leafOf (sliceAt Ops.rat L t S cs) i j = some a ∧ a.vel = some v ∧
      leafOf (sliceAt Ops.rat L t S cs) i' j' = some b
  | .pass t S iL iT =>
    iL ∈ S ∧ iL ≠ iT ∧ ∃ cL cT a, (sliceAt Ops.rat L t S cs)[iL]? = some cL ∧ (sliceAt Ops.rat L t S cs)[iT]? = some cT ∧
      a ∈ cL.leaves ∧ a.vel ≠ none
  | .eocLeaf t i j i' j' vn =>
    ∃ c0 c' a b old, cs[i]? = some c0 ∧ (sliceComp Ops.rat L t c0).leaves[j]? = some a ∧ a.vel = some old ∧
      (sliceAt Ops.rat L t [i] cs)[i']? = some c' ∧ c'.leaves[j']? = some b ∧ NZ vn ∧ vn.length = d ∧ nsq vn = nsq old
  | .eocRoot t i i' vn =>
    ∃ c c' a old, (sliceAt Ops.rat L t [i] cs)[i]? = some c ∧ (sliceAt Ops.rat L t [i] cs)[i']? = some c' ∧
      a ∈ c.leaves ∧ a.vel = some old ∧ NZ vn ∧ vn.length = d ∧ nsq vn = nsq old
  | .toLeaf t i ch =>
    ∃ co a, (sliceAt Ops.rat L t [i] cs)[i]? = some co ∧ a ∈ co.leaves ∧ a.vel ≠ none ∧ ch < co.leaves.length
  | .toRoot t i =>
    ∃ co a, (sliceAt Ops.rat L t [i] cs)[i]? = some co ∧ a ∈ co.leaves ∧ a.vel ≠ none
  | .start i P v =>
    ∃ c, cs[i]? = some c ∧ P.Nodup ∧ (∀ k ∈ P, k < c.leaves.length) ∧ P ≠ [] ∧ NZ v ∧ v.length = d

end JF.C12

namespace JF.Composite
open JF JF.Kin
variable {d : Nat} {L : List ℚ} {cs : List (CObj ℚ)} {sq : ℚ}

theorem keep_chain {i : Nat} {P : CObj ℚ → Prop} (hP : VelInv P) (hM : MovingAt cs i P) (L : List ℚ)
    (t : Time ℚ) (S : List Nat) : MovingAt (step Ops.rat isZ L cs (.keep t S)) i P :=
  hM.sliceAt hP L t S

theorem snap_chain {i : Nat} {P : CObj ℚ → Prop} (hP : VelInv P) (hM : MovingAt cs i P) (L : List ℚ)
    (t : Time ℚ) (S : List Nat) (i' : Nat) (j : Option Nat) (dd : Nat) (x : ℚ) :
    MovingAt (step Ops.rat isZ L cs (.snap t S i' j dd x)) i P :=
  hM.congr (CW2.vels_snap Ops.rat L t S i' j dd x cs) hP

/-- `_exchange_velocity` in leaf mode -/
theorem exchange_chain (hc : OneChainM cs sq .leaf) (t : Time ℚ) (S : List Nat) (i j i' j' : Nat)
    (hadm : C12.AdmW d L cs (.exchange t S i j i' j')) :
    C12.Adm d L cs (.exchange t S i j i' j') ∧ OneChainM (step Ops.rat isZ L cs (.exchange t S i j i' j')) sq .leaf := by
  obtain ⟨i0, j0, v0, hv, hM⟩ := hc
  obtain ⟨hiS, hne, a, b, v, ha, hav, hb⟩ := hadm
  suffices key : b.vel = none ∧
      (i ≠ i' → ∀ c', (sliceAt Ops.rat L t S cs)[i']? = some c' → ∀ l ∈ c'.leaves, l.vel = none) ∧
      MovingAt (step Ops.rat isZ L cs (.exchange t S i j i' j')) i' (fun c => OneL j' v0 c.leaves) from
    ⟨⟨hiS, a, b, v, ha, hav, hb, key.1, key.2.1⟩, i', j', v0, hv, key.2.2⟩
  have hMs := hM.sliceAt (velInv_one j0 v0) L t S
  show _ ∧ _ ∧ MovingAt (exchange Ops.rat isZ L t S i j i' j' cs) i' _
  unfold exchange
  simp only [ha, hav]
  generalize sliceAt Ops.rat L t S cs = sl at *
  obtain ⟨c, hc, ha⟩ := leafOf_eq_some.mp ha
  obtain ⟨c', hc', hb⟩ := leafOf_eq_some.mp hb
  obtain ⟨rfl, rfl, rfl, hone⟩ := hMs.src_leaf hc ha hav
  rw [scale1_rat]
  unfold apply2
  by_cases hii : i = i'
  · subst hii
    rw [hc] at hc'; cases hc'
    have hjj := hne rfl
    simp only [beq_self_eq_true, if_true]
    exact ⟨hone.2 j' b hb (Ne.symm hjj), fun h => absurd rfl h,
      hMs.modify_at hc _ fun h0 => oneL_move h0 hb _ _ _ _ _⟩
  · have hrest : RestL c'.leaves := hMs.rest_of_ne hc' (Ne.symm hii)
    simp only [show (i == i') = false by simpa using hii, Bool.false_eq_true, if_false]
    exact ⟨hrest b (List.mem_of_getElem? hb), fun _ c'' hc'' => by rw [hc'] at hc''; cases hc''; exact hrest,
      hMs.move hii hc hc' _ _ (fun h0 => restL_stop h0 _ _) fun hr => oneL_go hr hb _ _ _⟩

theorem eocLeaf_chain (hc : OneChainM cs sq .leaf) (t : Time ℚ) (i j i' j' : Nat) (vn : List ℚ)
    (hadm : C12.AdmW d L cs (.eocLeaf t i j i' j' vn)) :
    C12.Adm d L cs (.eocLeaf t i j i' j' vn) ∧ OneChainM (step Ops.rat isZ L cs (.eocLeaf t i j i' j' vn)) sq .leaf := by
  obtain ⟨i0, j0, v0, hv, hM⟩ := hc
  obtain ⟨c0, c', a, b, old, hc0, ha, hav, hc', hb, hNZ, hvl, hsq⟩ := hadm
  suffices key : old = v0 ∧
      (∀ k l, (sliceComp Ops.rat L t c0).leaves[k]? = some l → k ≠ j → l.vel = none) ∧
      (i ≠ i' → ∀ l ∈ c'.leaves, l.vel = none) ∧
      MovingAt (step Ops.rat isZ L cs (.eocLeaf t i j i' j' vn)) i' (fun c => OneL j' vn c.leaves) from
    ⟨⟨c0, c', a, b, old, hc0, ha, hav, key.2.1, hc', hb, key.2.2.1, hNZ, hvl⟩, i', j', vn, by rw [hsq, key.1, hv],
      key.2.2.2⟩
  have hMs := hM.sliceAt (velInv_one j0 v0) L t [i]
  show _ ∧ _ ∧ _ ∧ MovingAt (eocLeaf Ops.rat isZ L t i j i' j' vn cs) i' _
  unfold eocLeaf
  have hc : (sliceAt Ops.rat L t [i] cs)[i]? = some (sliceComp Ops.rat L t c0) := by
    rw [sliceAt_single, getElem?_modify_self, hc0]; rfl
  generalize sliceAt Ops.rat L t [i] cs = sl at *
  obtain ⟨rfl, rfl, rfl, hone⟩ := hMs.src_leaf hc ha hav
  have hleaf : leafOf sl i j = some a := leafOf_eq_some.mpr ⟨_, hc, ha⟩
  simp only [hleaf, hc0, hav, finalize_NZ hNZ, finalize_zeros]
  refine ⟨trivial, hone.2, ?_⟩
  by_cases hii : i = i'
  · subst hii
    refine ⟨fun h => absurd rfl h, ?_⟩
    simp only [beq_self_eq_true, if_true]
    rw [hc] at hc'; cases hc'
    by_cases hjj : j = j'
    · subst hjj
      simp only [beq_self_eq_true, if_true]
      exact hMs.modify_at hc _ fun h1 => oneL_change h1 _ _ _
    · simp only [show (j == j') = false by simpa using hjj, Bool.false_eq_true, if_false]
      exact hMs.modify_at hc _ fun h1 => oneL_move h1 hb _ _ _ _ _
  · have hrest : RestL c'.leaves := hMs.rest_of_ne hc' (Ne.symm hii)
    simp only [show (i == i') = false by simpa using hii, Bool.false_eq_true, if_false]
    exact ⟨fun _ => hrest, hMs.move hii hc hc' _ _ (fun h1 => restL_stop h1 _ _) fun hr => oneL_go hr hb _ _ _⟩

theorem toRoot_chain (hc : OneChainM cs sq .leaf) (t : Time ℚ) (i : Nat) (hadm : C12.AdmW d L cs (.toRoot t i)) :
    C12.Adm d L cs (.toRoot t i) ∧ OneChainM (step Ops.rat isZ L cs (.toRoot t i)) sq .root := by
  obtain ⟨i0, j0, v0, hv, hM⟩ := hc
  obtain ⟨co, a, hco, ha, hav⟩ := hadm
  suffices key : (∃ ua, activeLeaf co = some j0 ∧ co.leaves[j0]? = some ua ∧ ua.vel = some v0 ∧
        ∀ k l, co.leaves[k]? = some l → k ≠ j0 → l.vel = none) ∧
      MovingAt (step Ops.rat isZ L cs (.toRoot t i)) i (fun c => AllL v0 c.leaves) by
    obtain ⟨⟨ua, g1, g2, g3, g4⟩, hM'⟩ := key
    exact ⟨⟨co, j0, ua, v0, hco, g1, g2, g3, g4⟩, i, v0, hv, hM'⟩
  have hMs := hM.sliceAt (velInv_one j0 v0) L t [i]
  show _ ∧ MovingAt (toRoot Ops.rat isZ L t i cs) i _
  unfold toRoot
  generalize sliceAt Ops.rat L t [i] cs = sl at *
  obtain rfl : i = i0 := hMs.eq_of_moving hco ha hav
  have hone : OneL j0 v0 co.leaves := hMs.get hco
  have hact := activeLeaf_of_oneL hone
  obtain ⟨⟨ua, hua, hv⟩, ho⟩ := id hone
  refine ⟨⟨ua, hact, hua, hv, ho⟩, ?_⟩
  simp only [hco, hact, hua, hv, scaleN_rat]
  rw [zipIdx_map_fst (fun k => (⟨k, some v0, ua.ts, some v0⟩ : Upd ℚ))]
  refine hMs.modify_at hco _ fun _ => allL_setAll (List.ne_nil_of_mem ha) (fun u hu => ?_) fun k hk => ?_
  · rcases List.mem_append.mp hu with hu | hu
    · obtain ⟨k, _, rfl⟩ := List.mem_map.mp hu; rfl
    · obtain rfl := List.mem_singleton.mp hu; rfl
  · rw [List.map_append]
    by_cases hka : k = j0
    · subst hka; simp
    · exact List.mem_append_left _ (cover_filter_map _ _ _ (fun _ => rfl) k hk hka)

/-- `_pass_composite_object_velocity` -/
theorem pass_chain (hL : BoxOK d L) (h : AllGood d L cs) (hc : OneChainM cs sq .root) (t : Time ℚ) (S : List Nat)
    (iL iT : Nat) (hadm : C12.AdmW d L cs (.pass t S iL iT)) :
    C12.Adm d L cs (.pass t S iL iT) ∧ OneChainM (step Ops.rat isZ L cs (.pass t S iL iT)) sq .root := by
  obtain ⟨i0, v0, hv, hM⟩ := hc
  obtain ⟨hiS, hne, cL, cT, a, hcL, hcT, ha, hav⟩ := hadm
  have hTne : cT.leaves ≠ [] := ((sliceAt_spec hL t S h).1.get hcT).wf.2.2
  suffices key : (∀ l ∈ cL.leaves, l.vel = some v0) ∧ (∀ l ∈ cT.leaves, l.vel = none) ∧
      MovingAt (step Ops.rat isZ L cs (.pass t S iL iT)) iT (fun c => AllL v0 c.leaves) from
    ⟨⟨hiS, hne, cL, cT, v0, hcL, hcT, key.1, key.2.1⟩, iT, v0, hv, key.2.2⟩
  have hMs := hM.sliceAt (velInv_all v0) L t S
  show _ ∧ _ ∧ MovingAt (pass Ops.rat isZ L t S iL iT cs) iT _
  unfold pass
  generalize sliceAt Ops.rat L t S cs = sl at *
  obtain ⟨rfl, hall⟩ := hMs.src_root hcL ha hav
  have hrest : RestL cT.leaves := hMs.rest_of_ne hcT (Ne.symm hne)
  obtain ⟨a0, ha0, ham0⟩ := exists_getElem?_of_lt (List.length_pos_iff.mpr hall.1)
  have hleaf : leafOf sl iL 0 = some a0 := leafOf_eq_some.mpr ⟨_, hcL, ha0⟩
  simp only [hleaf, hcL, hcT, hall.2 a0 ham0, show (iL == iT) = false by simpa using hne, Bool.false_eq_true, if_false,
    passLocalUpds_rat, passTargetUpds_rat]
  exact ⟨hall.2, hrest, hMs.move hne hcL hcT _ _ (fun _ => vel_of_mem_set_range _ (fun _ => rfl) fun _ => rfl)
    fun _ => allL_set_range hTne _ (fun _ => rfl) fun _ => rfl⟩

theorem eocRoot_chain (hL : BoxOK d L) (h : AllGood d L cs) (hc : OneChainM cs sq .root) (t : Time ℚ) (i i' : Nat)
    (vn : List ℚ) (hadm : C12.AdmW d L cs (.eocRoot t i i' vn)) :
    C12.Adm d L cs (.eocRoot t i i' vn) ∧ OneChainM (step Ops.rat isZ L cs (.eocRoot t i i' vn)) sq .root := by
  obtain ⟨i0, v0, hv, hM⟩ := hc
  obtain ⟨c, c', a, old, hc, hc', ha, hold, hNZ, hvl, hsq⟩ := hadm
  have hav : a.vel ≠ none := by rw [hold]; simp
  have hne' : c'.leaves ≠ [] := ((sliceAt_spec hL t [i] h).1.get hc').wf.2.2
  suffices key : (∀ l ∈ c.leaves, l.vel = some v0) ∧ (i ≠ i' → ∀ l ∈ c'.leaves, l.vel = none) ∧
      MovingAt (step Ops.rat isZ L cs (.eocRoot t i i' vn)) i' (fun c => AllL vn c.leaves) by
    obtain rfl : old = v0 := Option.some.inj (hold.symm.trans (key.1 a ha))
    exact ⟨⟨c, c', old, hc, hc', key.1, key.2.1, hNZ, hvl⟩, i', vn, hsq.trans hv, key.2.2⟩
  have hMs := hM.sliceAt (velInv_all v0) L t [i]
  show _ ∧ _ ∧ MovingAt (eocRoot Ops.rat isZ L t i i' vn cs) i' _
  unfold eocRoot
  generalize sliceAt Ops.rat L t [i] cs = sl at *
  obtain ⟨rfl, hall⟩ := hMs.src_root hc ha hav
  refine ⟨hall.2, ?_⟩
  obtain ⟨a0, ha0, ham0⟩ := exists_getElem?_of_lt (List.length_pos_iff.mpr hall.1)
  have hleaf : leafOf sl i 0 = some a0 := leafOf_eq_some.mpr ⟨_, hc, ha0⟩
  simp only [hleaf, hc, hc', hall.2 a0 ham0, finalize_NZ hNZ, finalize_zeros]
  by_cases hii : i = i'
  · subst hii
    simp only [beq_self_eq_true, if_true]
    exact ⟨fun h => absurd rfl h, hMs.modify_at hc _ fun _ => allL_set_range hall.1 _ (fun _ => rfl) fun _ => rfl⟩
  · simp only [show (i == i') = false by simpa using hii, Bool.false_eq_true, if_false]
    exact ⟨fun _ => hMs.rest_of_ne hc' (Ne.symm hii), hMs.move hii hc hc' _ _
      (fun _ => vel_of_mem_set_range _ (fun _ => rfl) fun _ => rfl) fun _ => allL_set_range hne' _ (fun _ => rfl) fun _ => rfl⟩

theorem toLeaf_chain (hc : OneChainM cs sq .root) (t : Time ℚ) (i ch : Nat) (hadm : C12.AdmW d L cs (.toLeaf t i ch)) :
    C12.Adm d L cs (.toLeaf t i ch) ∧ OneChainM (step Ops.rat isZ L cs (.toLeaf t i ch)) sq .leaf := by
  obtain ⟨i0, v0, hv, hM⟩ := hc
  obtain ⟨co, a, hco, ha, hav, hch⟩ := hadm
  suffices key : (∀ l ∈ co.leaves, l.vel = some v0) ∧
      MovingAt (step Ops.rat isZ L cs (.toLeaf t i ch)) i (fun c => OneL ch v0 c.leaves) from
    ⟨⟨co, v0, hco, key.1⟩, i, ch, v0, hv, key.2⟩
  have hMs := hM.sliceAt (velInv_all v0) L t [i]
  show _ ∧ MovingAt (toLeaf Ops.rat isZ L t i ch cs) i _
  unfold toLeaf
  generalize sliceAt Ops.rat L t [i] cs = sl at *
  obtain ⟨rfl, hall⟩ := hMs.src_root hco ha hav
  obtain ⟨a0, ha0, ham0⟩ := exists_getElem?_of_lt (List.length_pos_iff.mpr hall.1)
  have hleaf : leafOf sl i 0 = some a0 := leafOf_eq_some.mpr ⟨_, hco, ha0⟩
  simp only [hleaf, hco, hall.2 a0 ham0, scaleN_rat]
  rw [zipIdx_map_fst (fun k => (⟨k, none, none, some (vneg v0)⟩ : Upd ℚ))]
  exact ⟨hall.2, hMs.modify_at hco _ fun _ => oneL_keep_only hall hch
    (List.forall_mem_map.mpr fun _ _ => rfl) (not_mem_filter_map _ _ _ fun _ => rfl)
    (cover_filter_map _ _ _ fun _ => rfl)⟩

/-- start of run from the state at rest: one listed leaf -> leaf mode, all leaves listed -> root mode -/
theorem start_chain (hR : AllRest cs) (L : List ℚ) (i : Nat) (P : List Nat) (v : List ℚ) {c : CObj ℚ}
    (hc : cs[i]? = some c) (hPn : ∀ k ∈ P, k < c.leaves.length) :
    (∀ k0, P = [k0] → MovingAt (step Ops.rat isZ L cs (.start i P v)) i (fun c => OneL k0 v c.leaves)) ∧
    ((∀ k, k < c.leaves.length → k ∈ P) → c.leaves ≠ [] →
      MovingAt (step Ops.rat isZ L cs (.start i P v)) i (fun c => AllL v c.leaves)) := by
  show (∀ k0, P = [k0] → MovingAt (start Ops.rat isZ L i P v cs) i _) ∧
    (_ → _ → MovingAt (start Ops.rat isZ L i P v cs) i _)
  unfold start
  simp only [scaleN_rat]
  rw [zipIdx_map_fst (fun k => (⟨k, some v, some ⟨Ops.rat.ofInt 0, Ops.rat.ofInt 0⟩, some v⟩ : Upd ℚ))]
  refine ⟨?_, fun hcov hne => ?_⟩
  · rintro k0 rfl
    obtain ⟨b, hb, _⟩ := exists_getElem?_of_lt (hPn k0 (by simp))
    exact MovingAt.of_rest hR hc _ fun hr => oneL_go hr hb _ _ _
  · refine MovingAt.of_rest hR hc _ fun _ => allL_setAll hne (List.forall_mem_map.mpr fun _ _ => rfl) fun k hk => ?_
    rw [List.map_map]
    exact List.mem_map.mpr ⟨k, hcov k hk, rfl⟩

end JF.Composite
