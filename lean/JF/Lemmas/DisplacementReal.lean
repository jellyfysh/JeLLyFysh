import JF.Lemmas.DisplacementUphill
import Mathlib.Analysis.SpecialFunctions.Pow.Real
/-!
# Real-number reading of the displacement routines (`JF/Model/Potential/Displacement.lean`)

The executable model runs on `Float` with libm `pow`/`sqrt`.  Here the same routines are written over `ℝ`
(`Real.rpow`, `Real.sqrt`), textually parallel to the `Float` model (and hence to the Python/C source);
the tie between the two readings is by inspection plus the correspondence run of `harness/props/c02.py`.

Reduction used throughout: the routines touch the separation vector only through
`s` = its component along the direction of motion and `q` = the sum of the squares of the other
components (`vectors.norm_sq(sep) = s*s + q`, `copy_vector_with_replaced_component(sep, d, 0.0)` has squared norm
`0*0 + q`, `displacement_until_new_norm_sq_component_*` uses `s` and `q`).  A displacement `x` of the active
unit along its direction of motion changes `s` to `s - x` and leaves `q` alone.
-/
namespace JF.DispR
open Set JF.Uphill

noncomputable section


/-- `InversePowerPotential.potential` as a function of the squared norm `n2`:
`charge_product * prefactor / norm_sq ** (power / 2)`, `K = charge_product * prefactor` -/
def pot (K p n2 : ℝ) : ℝ := K / n2 ^ (p / 2)

/-- squared norm of the separation after the active unit has moved by `x` -/
def nsq (s q x : ℝ) : ℝ := (s - x) * (s - x) + q

/-- potential energy along the straight path -/
def path (K p s q : ℝ) (x : ℝ) : ℝ := pot K p (nsq s q x)

/-- `InversePowerPotential._displacement_repulsive` (`none` = `float('inf')`) -/
def dispRepulsive (K p s q dE : ℝ) : Option ℝ :=
  if s ≤ 0 then none
  else
    let maxPot := pot K p (0 * 0 + q)
    let cur := pot K p (s * s + q)
    if dE < maxPot - cur then
      some (s - Real.sqrt ((K / (cur + dE)) ^ (2 / p) - q))
    else none

/-- `InversePowerPotential._displacement_attractive` -/
def dispAttractive (K p s q dE : ℝ) : Option ℝ :=
  let cd := if 0 < s then 0 + s else 0
  let s' := if 0 < s then 0 else s
  let cur := pot K p (s' * s' + q)
  if cur + dE ≥ 0 then none
  else some (cd + (s' + Real.sqrt ((K / (cur + dE)) ^ (2 / p) - q)))

/-- `InversePowerPotential.standard_velocity_displacement`: `K = prefactor * charge_product` -/
def dispInvPow (K p s q dE : ℝ) : Option ℝ :=
  if K > 0 then dispRepulsive K p s q dE else dispAttractive K p s q dE

/-- the reduction to `(s, q)`: moving the active unit by `x` along the coordinate `d` changes the component
`d` of the separation to `v d - x`; the squared norm (`vectors.norm_sq`) of the new separation is
`nsq s q x` with `s = v d` and `q` the sum of the squares of the other components
(`sum([value ** 2 for index, value in enumerate(old_vector) if index != translation_direction])`). -/
theorem nsq_vector {ι : Type} [Fintype ι] [DecidableEq ι] (v : ι → ℝ) (d : ι) (x : ℝ) :
    ∑ i, Function.update v d (v d - x) i * Function.update v d (v d - x) i =
      nsq (v d) (∑ i ∈ Finset.univ.erase d, v i * v i) x := by
  unfold nsq
  rw [← Finset.add_sum_erase Finset.univ _ (Finset.mem_univ d), Function.update_self]
  congr 1
  apply Finset.sum_congr rfl
  intro i hi
  rw [Function.update_of_ne (Finset.ne_of_mem_erase hi)]


theorem nsq_pos {s q x : ℝ} (hq : 0 < q) : 0 < nsq s q x :=
  add_pos_of_nonneg_of_pos (mul_self_nonneg (s - x)) hq

theorem nsq_zero (s q : ℝ) : nsq s q 0 = s * s + q := by simp [nsq]

theorem nsq_self (s q : ℝ) : nsq s q s = 0 * 0 + q := by simp [nsq]

theorem nsq_anti {s q x y : ℝ} (hxy : x ≤ y) (hy : y ≤ s) : nsq s q y ≤ nsq s q x :=
  add_le_add (mul_self_le_mul_self (sub_nonneg.2 hy) (sub_le_sub_left hxy s)) le_rfl

theorem nsq_mono {s q x y : ℝ} (hx : s ≤ x) (hxy : x ≤ y) : nsq s q x ≤ nsq s q y := by
  unfold nsq
  rw [← neg_mul_neg (s - x), ← neg_mul_neg (s - y), neg_sub, neg_sub]
  exact add_le_add (mul_self_le_mul_self (sub_nonneg.2 hx) (sub_le_sub_right hxy s)) le_rfl

theorem path_zero (K p s q : ℝ) : path K p s q 0 = pot K p (s * s + q) := by unfold path; rw [nsq_zero]

theorem path_self (K p s q : ℝ) : path K p s q s = pot K p (0 * 0 + q) := by unfold path; rw [nsq_self]

theorem nsq_sub_sqrt {s q R : ℝ} (h : q ≤ R) : nsq s q (s - Real.sqrt (R - q)) = R := by
  unfold nsq; rw [sub_sub_cancel, Real.mul_self_sqrt (sub_nonneg.2 h), sub_add_cancel]

theorem nsq_add_sqrt {s q R : ℝ} (h : q ≤ R) : nsq s q (s + Real.sqrt (R - q)) = R := by
  unfold nsq; rw [sub_add_cancel_left, neg_mul_neg, Real.mul_self_sqrt (sub_nonneg.2 h), sub_add_cancel]

theorem le_sqrt_of_mul_self_le {r x : ℝ} (h0 : 0 ≤ r) (h : r * r ≤ x) : r ≤ Real.sqrt x :=
  (Real.sqrt_mul_self h0).symm.trans_le (Real.sqrt_le_sqrt h)

theorem sqrt_le_of_le_mul_self {r x : ℝ} (h0 : 0 ≤ r) (h : x ≤ r * r) : Real.sqrt x ≤ r :=
  (Real.sqrt_le_sqrt h).trans_eq (Real.sqrt_mul_self h0)

theorem sqrt_sub_le {s q R : ℝ} (hs : 0 ≤ s) (h : R ≤ s * s + q) : Real.sqrt (R - q) ≤ s :=
  sqrt_le_of_le_mul_self hs (sub_le_iff_le_add.2 h)

theorem neg_le_sqrt_sub {s q R : ℝ} (hs : s ≤ 0) (h : s * s + q ≤ R) : -s ≤ Real.sqrt (R - q) :=
  le_sqrt_of_mul_self_le (neg_nonneg.2 hs) ((neg_mul_neg s s).trans_le (le_sub_iff_add_le.2 h))

theorem le_mul_self_of_sqrt_le {r x : ℝ} (hx : 0 ≤ x) (h : Real.sqrt x ≤ r) : x ≤ r * r :=
  (Real.mul_self_sqrt hx).symm.trans_le (mul_self_le_mul_self (Real.sqrt_nonneg x) h)

theorem mul_self_le_of_le_sqrt {r x : ℝ} (h0 : 0 ≤ r) (hx : 0 ≤ x) (h : r ≤ Real.sqrt x) : r * r ≤ x :=
  (mul_self_le_mul_self h0 h).trans_eq (Real.mul_self_sqrt hx)

theorem pot_anti {K p u v : ℝ} (hK : 0 < K) (hp : 0 < p) (hu : 0 < u) (huv : u ≤ v) :
    pot K p v ≤ pot K p u := by
  unfold pot
  have h1 : u ^ (p / 2) ≤ v ^ (p / 2) := Real.rpow_le_rpow hu.le huv (by positivity)
  have h2 : 0 < u ^ (p / 2) := Real.rpow_pos_of_pos hu _
  exact div_le_div_of_nonneg_left hK.le h2 h1

theorem pot_strictAnti {K p u v : ℝ} (hK : 0 < K) (hp : 0 < p) (hu : 0 < u) (huv : u < v) :
    pot K p v < pot K p u := by
  unfold pot
  have h1 : u ^ (p / 2) < v ^ (p / 2) := Real.rpow_lt_rpow hu.le huv (by positivity)
  have h2 : 0 < u ^ (p / 2) := Real.rpow_pos_of_pos hu _
  exact div_lt_div_of_pos_left hK h2 h1

theorem pot_neg (K p u : ℝ) : pot (-K) p u = -pot K p u := by unfold pot; ring

theorem pot_mono_of_neg {K p u v : ℝ} (hK : K < 0) (hp : 0 < p) (hu : 0 < u) (huv : u ≤ v) :
    pot K p u ≤ pot K p v := by
  have h := pot_anti (K := -K) (by linarith) hp hu huv
  rw [pot_neg, pot_neg] at h; linarith

theorem pot_strictMono_of_neg {K p u v : ℝ} (hK : K < 0) (hp : 0 < p) (hu : 0 < u) (huv : u < v) :
    pot K p u < pot K p v := by
  have h := pot_strictAnti (neg_pos.2 hK) hp hu huv
  rw [pot_neg, pot_neg] at h
  exact neg_lt_neg_iff.1 h

theorem pot_pos {K p u : ℝ} (hK : 0 < K) (hu : 0 < u) : 0 < pot K p u :=
  div_pos hK (Real.rpow_pos_of_pos hu _)

theorem pot_neg_of_neg {K p u : ℝ} (hK : K < 0) (hu : 0 < u) : pot K p u < 0 :=
  div_neg_of_neg_of_pos hK (Real.rpow_pos_of_pos hu _)

/-- the code's inversion `norm_sq_new = (K / (U)) ** (2 / p)` hits the wanted potential -/
theorem pot_inv {K p y : ℝ} (hp : 0 < p) (h : 0 < K / y) : pot K p ((K / y) ^ (2 / p)) = y := by
  unfold pot
  rw [← Real.rpow_mul h.le]
  have : 2 / p * (p / 2) = 1 := by field_simp
  rw [this, Real.rpow_one]
  have hy : y ≠ 0 := by rintro rfl; simp at h
  have hK : K ≠ 0 := by rintro rfl; simp at h
  field_simp


theorem path_monoOn_of_pos {K p s q a b : ℝ} (hK : 0 < K) (hp : 0 < p) (hq : 0 < q) (hb : b ≤ s) :
    MonotoneOn (path K p s q) (Icc a b) := fun _ _ _ hy hxy =>
  pot_anti hK hp (nsq_pos hq) (nsq_anti hxy (hy.2.trans hb))

theorem path_antiOn_of_pos {K p s q a b : ℝ} (hK : 0 < K) (hp : 0 < p) (hq : 0 < q) (ha : s ≤ a) :
    AntitoneOn (path K p s q) (Icc a b) := fun _ hx _ _ hxy =>
  pot_anti hK hp (nsq_pos hq) (nsq_mono (ha.trans hx.1) hxy)

theorem path_antiOn_of_neg {K p s q a b : ℝ} (hK : K < 0) (hp : 0 < p) (hq : 0 < q) (hb : b ≤ s) :
    AntitoneOn (path K p s q) (Icc a b) := fun _ _ _ hy hxy =>
  pot_mono_of_neg hK hp (nsq_pos hq) (nsq_anti hxy (hy.2.trans hb))

theorem path_monoOn_of_neg {K p s q a b : ℝ} (hK : K < 0) (hp : 0 < p) (hq : 0 < q) (ha : s ≤ a) :
    MonotoneOn (path K p s q) (Icc a b) := fun _ hx _ _ hxy =>
  pot_mono_of_neg hK hp (nsq_pos hq) (nsq_mono (ha.trans hx.1) hxy)

/-! ## hard cores

Reduction: with `a = |v|²`, `b = v·s`, `c = |s|² - R²` the squared distance of the two centres at time
`t`, minus `R²`, is `|s - v t|² - R² = a t² - 2 b t + c` (`gap_expand` below proves this expansion for
vectors given as functions on a finite index type). -/

/-- `|s - v t|² - R²` in the reduced quantities -/
def gap (a b c t : ℝ) : ℝ := a * t * t - 2 * b * t + c

theorem gap_expand {ι : Type} [Fintype ι] (v s : ι → ℝ) (R2 t : ℝ) :
    (∑ i, (s i - v i * t) * (s i - v i * t)) - R2 =
      gap (∑ i, v i * v i) (∑ i, v i * s i) ((∑ i, s i * s i) - R2) t := by
  unfold gap
  have : ∀ i, (s i - v i * t) * (s i - v i * t) = v i * v i * t * t - 2 * (v i * s i) * t + s i * s i :=
    fun i => by ring
  simp only [this, Finset.sum_add_distrib, Finset.sum_sub_distrib, ← Finset.sum_mul, ← Finset.mul_sum]
  ring

/-- `HardSpherePotential.displacement`: `a = velocity_squared`, `b = velocity_dot_separation`,
`c = separation_squared - self._diameter_squared`; `none` = `inf` -/
def hardSphere (a b c : ℝ) : Option ℝ :=
  let root := b * b - a * c
  if root ≥ 0 ∧ b ≥ 0 then some ((b - Real.sqrt root) / a) else none

/-- `HardDipolePotential.displacement`: `cmin = separation_squared - minimum_separation_squared`,
`cmax = separation_squared - maximum_separation_squared` -/
def hardDipole (a b cmin cmax : ℝ) : ℝ :=
  if b ≥ 0 ∧ b * b - a * cmin ≥ 0 then (b - Real.sqrt (b * b - a * cmin)) / a
  else (b + Real.sqrt (b * b - a * cmax)) / a

theorem gap_factor {a b c : ℝ} (ha : 0 < a) (hD : 0 ≤ b * b - a * c) (t : ℝ) :
    gap a b c t = a * (t - (b - Real.sqrt (b * b - a * c)) / a) * (t - (b + Real.sqrt (b * b - a * c)) / a) := by
  unfold gap
  have h := Real.mul_self_sqrt hD
  generalize Real.sqrt (b * b - a * c) = r at h ⊢
  field_simp
  linear_combination h

theorem gap_root_minus {a b c : ℝ} (ha : 0 < a) (hD : 0 ≤ b * b - a * c) :
    gap a b c ((b - Real.sqrt (b * b - a * c)) / a) = 0 := by
  rw [gap_factor ha hD, sub_self, mul_zero, zero_mul]

theorem gap_root_plus {a b c : ℝ} (ha : 0 < a) (hD : 0 ≤ b * b - a * c) :
    gap a b c ((b + Real.sqrt (b * b - a * c)) / a) = 0 := by
  rw [gap_factor ha hD, sub_self, mul_zero]

/-- while the units move apart (`b ≤ 0`) the gap does not fall below its present value -/
theorem le_gap_of_receding {a b c t : ℝ} (ha : 0 < a) (hb : b ≤ 0) (ht : 0 ≤ t) : c ≤ gap a b c t := by
  unfold gap
  linarith [mul_nonneg (mul_nonneg ha.le ht) ht, mul_nonneg (neg_nonneg.2 hb) ht]

theorem abs_le_sqrt_disc {a b c : ℝ} (ha : 0 < a) (hc : c ≤ 0) :
    0 ≤ b * b - a * c ∧ |b| ≤ Real.sqrt (b * b - a * c) := by
  have hac := mul_nonpos_of_nonneg_of_nonpos ha.le hc
  exact ⟨sub_nonneg.2 (hac.trans (mul_self_nonneg b)),
    le_sqrt_of_mul_self_le (abs_nonneg b) (by rw [abs_mul_abs_self]; exact (le_sub_self_iff _).2 hac)⟩

/-- for `c ≤ 0` the present time lies between the two roots: up to the larger root the gap stays `≤ 0` -/
theorem gap_nonpos_of_le_root {a b c t : ℝ} (ha : 0 < a) (hc : c ≤ 0) (h0 : 0 ≤ t)
    (ht : t ≤ (b + Real.sqrt (b * b - a * c)) / a) : gap a b c t ≤ 0 := by
  obtain ⟨hD, hr⟩ := abs_le_sqrt_disc (b := b) ha hc
  have h1 : (b - Real.sqrt (b * b - a * c)) / a ≤ 0 :=
    div_nonpos_of_nonpos_of_nonneg (sub_nonpos.2 ((le_abs_self b).trans hr)) ha.le
  rw [gap_factor ha hD t]
  exact mul_nonpos_of_nonneg_of_nonpos (mul_nonneg ha.le (sub_nonneg.2 (h1.trans h0)))
    (sub_nonpos.2 ht)

/-- without a real root the gap is positive: `a · gap = (a t - b)² + (a c - b²)` -/
theorem gap_pos_of_disc_neg {a b c : ℝ} (ha : 0 < a) (hD : b * b - a * c < 0) (t : ℝ) :
    0 < gap a b c t := by
  have e : a * gap a b c t = (a * t - b) * (a * t - b) + (a * c - b * b) := by unfold gap; ring
  exact (mul_pos_iff_of_pos_left ha).1
    (e ▸ add_pos_of_nonneg_of_pos (mul_self_nonneg _) (sub_pos.2 (sub_neg.1 hD)))

/-! ## C routine of the Coulomb bounding potential (`inverse_power_coulomb_bounding_potential.c`)

`q = sy*sy + sz*sz`; `K = prefactor_product`. -/

/-- C `potential` -/
def cbPot (K sx q : ℝ) : ℝ := K / Real.sqrt (sx * sx + q)

/-- the part of C `displacement()` after the whole-box laps have been taken out (`dE` is the remainder
budget `fmod(potential_change, potential_change_per_system_length)`) -/
def cbRemainder (K L sx q dE : ℝ) : ℝ :=
  let half := L / 2
  let cur := cbPot K sx q
  let pot0 := cbPot K 0 q
  let potHalf := cbPot K half q
  if K > 0 then
    if sx ≤ 0 then
      (half + sx) + (half - Real.sqrt ((K / (potHalf + dE)) * (K / (potHalf + dE)) - q))
    else if dE ≥ pot0 - cur then
      (sx + half) + (half - Real.sqrt ((K / (potHalf + (dE - (pot0 - cur)))) * (K / (potHalf + (dE - (pot0 - cur)))) - q))
    else
      sx - Real.sqrt ((K / (cur + dE)) * (K / (cur + dE)) - q)
  else
    if sx > 0 then
      sx + (0 + Real.sqrt ((K / (pot0 + dE)) * (K / (pot0 + dE)) - q))
    else if dE ≥ potHalf - cur then
      (sx + L) + (0 + Real.sqrt ((K / (pot0 + (dE - (potHalf - cur)))) * (K / (pot0 + (dE - (potHalf - cur)))) - q))
    else
      sx + Real.sqrt ((K / (cur + dE)) * (K / (cur + dE)) - q)

/-- `potential_change_per_system_length` -/
def cbPerLap (K L q : ℝ) : ℝ := |cbPot K 0 q - cbPot K (L / 2) q|

/-- the whole-laps form of C `displacement()`: `floor(dE / perLap) * L`, then the remainder stage with
`fmod(dE, perLap) = dE - floor(dE / perLap) * perLap` (for `dE ≥ 0`, `perLap > 0`); the routine as it is in /repo is
`cbDisplacementCode` below, equal to this form by `cbDisplacementCode_eq` -/
def cbDisplacement (K L sx q dE : ℝ) : ℝ :=
  (⌊dE / cbPerLap K L q⌋ : ℝ) * L +
    cbRemainder K L sx q (dE - (⌊dE / cbPerLap K L q⌋ : ℝ) * cbPerLap K L q)

/-- C `non_negative` (repair `22b464f`): a rounding-negative argument of `sqrt` is replaced by zero -/
def cbNonNeg (x : ℝ) : ℝ := if x < 0 then 0 else x

/-- in the exact reading the clamp is invisible: `Real.sqrt` already is zero on negative numbers -/
theorem sqrt_cbNonNeg (x : ℝ) : Real.sqrt (cbNonNeg x) = Real.sqrt x := by
  unfold cbNonNeg
  split
  · rename_i h; rw [Real.sqrt_zero, Real.sqrt_eq_zero_of_nonpos h.le]
  · rfl

/-- the remainder stage as the code has it since the repair `22b464f` (`sqrt(non_negative(…))`) -/
def cbRemainderCode (K L sx q dE : ℝ) : ℝ :=
  let half := L / 2
  let cur := cbPot K sx q
  let pot0 := cbPot K 0 q
  let potHalf := cbPot K half q
  if K > 0 then
    if sx ≤ 0 then
      (half + sx) + (half - Real.sqrt (cbNonNeg ((K / (potHalf + dE)) * (K / (potHalf + dE)) - q)))
    else if dE ≥ pot0 - cur then
      (sx + half) + (half - Real.sqrt (cbNonNeg ((K / (potHalf + (dE - (pot0 - cur)))) * (K / (potHalf + (dE - (pot0 - cur)))) - q)))
    else
      sx - Real.sqrt (cbNonNeg ((K / (cur + dE)) * (K / (cur + dE)) - q))
  else
    if sx > 0 then
      sx + (0 + Real.sqrt (cbNonNeg ((K / (pot0 + dE)) * (K / (pot0 + dE)) - q)))
    else if dE ≥ potHalf - cur then
      (sx + L) + (0 + Real.sqrt (cbNonNeg ((K / (pot0 + (dE - (potHalf - cur)))) * (K / (pot0 + (dE - (potHalf - cur)))) - q)))
    else
      sx + Real.sqrt (cbNonNeg ((K / (cur + dE)) * (K / (cur + dE)) - q))

theorem cbRemainderCode_eq (K L sx q dE : ℝ) : cbRemainderCode K L sx q dE = cbRemainder K L sx q dE := by
  simp only [cbRemainderCode, cbRemainder, sqrt_cbNonNeg]

/-- C `displacement()` as it is in /repo (repair `1b03a38`): the remainder budget `fmod(dE, perLap)` first, the number of
complete trips as `round((dE - remainder) / perLap)` -/
def cbDisplacementCode (K L sx q dE : ℝ) : ℝ :=
  let c := cbPerLap K L q
  let r := dE - (⌊dE / c⌋ : ℝ) * c          -- `fmod(dE, c)` for `dE ≥ 0`, `c > 0`
  (round ((dE - r) / c) : ℝ) * L + cbRemainderCode K L sx q r

/-- the repaired routine and the formulation `floor(dE / c) · L + remainder stage` agree in exact arithmetic (they differ only in
binary64, where `floor(dE / c)` and `fmod(dE, c)` could disagree) -/
theorem cbDisplacementCode_eq (K L sx q dE : ℝ) (hc : 0 < cbPerLap K L q) :
    cbDisplacementCode K L sx q dE = cbDisplacement K L sx q dE := by
  unfold cbDisplacementCode cbDisplacement
  have : (dE - (dE - (⌊dE / cbPerLap K L q⌋ : ℝ) * cbPerLap K L q)) / cbPerLap K L q = (⌊dE / cbPerLap K L q⌋ : ℝ) := by
    field_simp; ring
  simp only [this, round_intCast, cbRemainderCode_eq]

theorem cbPot_eq_pot (K sx q : ℝ) : cbPot K sx q = pot K 1 (sx * sx + q) := by
  unfold cbPot pot; rw [Real.sqrt_eq_rpow]

theorem pot_one_mul_self (K : ℝ) {a : ℝ} (ha : 0 ≤ a) : pot K 1 (a * a) = K / a := by
  unfold pot; rw [← Real.sqrt_eq_rpow, Real.sqrt_mul_self ha]

theorem rpow_two_div_one (x : ℝ) : x ^ ((2:ℝ) / 1) = x * x := by
  rw [div_one, Real.rpow_two, sq]

/-- `CellBoundingPotential.standard_velocity_displacement`: `dE / rate` if `rate > 0`, else `inf` -/
def cellBounding (rate dE : ℝ) : Option ℝ := if rate > 0 then some (dE / rate) else none

end
end JF.DispR
