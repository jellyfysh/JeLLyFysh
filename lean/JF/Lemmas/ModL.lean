import JF.Model.Periodic
import JF.Lemmas.PyArith
import Mathlib.Algebra.Order.AbsoluteValue.Basic
/-!
Arithmetic modulo a box length `L > 0` on `ℚ`, in one place: the congruence `Congr`, "one representative per half-open window of
length `L`" (`window_unique`), and the two mechanisms of `JF.Model.Periodic` in the exact reading — `wrap` is the
representative in `[0, L)`, `wrapSep` the one in `[-L/2, L/2)`, which is also the shortest of its class
(`wrapSep_abs_le_of_congr`).  `Kin.sliceCoord`, `pywrap` and `Cubic`/`Cuboid.correctPositionEntry` are `wrap`.
-/
namespace JF.C15
open JF JF.Periodic

/-- `y` is congruent to `x` modulo `L` -/
def Congr (L x y : ℚ) : Prop := ∃ k : ℤ, x - y = k * L

theorem Congr.refl (L x : ℚ) : Congr L x x := ⟨0, by simp⟩

theorem Congr.symm {L x y : ℚ} (h : Congr L x y) : Congr L y x :=
  let ⟨k, hk⟩ := h; ⟨-k, by rw [Int.cast_neg, neg_mul, ← hk, neg_sub]⟩

theorem Congr.neg {L x y : ℚ} (h : Congr L x y) : Congr L (-x) (-y) :=
  let ⟨k, hk⟩ := h; ⟨-k, by rw [Int.cast_neg, neg_mul, ← hk]; ring⟩

theorem Congr.trans {L x y z : ℚ} (h : Congr L x y) (h' : Congr L y z) : Congr L x z :=
  let ⟨k, hk⟩ := h; let ⟨k', hk'⟩ := h'; ⟨k + k', by rw [Int.cast_add, add_mul, ← hk, ← hk', sub_add_sub_cancel]⟩

theorem Congr.add {L a a' b b' : ℚ} (ha : Congr L a a') (hb : Congr L b b') : Congr L (a + b) (a' + b') :=
  let ⟨k, hk⟩ := ha; let ⟨m, hm⟩ := hb; ⟨k + m, by rw [Int.cast_add, add_mul, ← hk, ← hm, add_sub_add_comm]⟩

theorem Congr.sub {L a a' b b' : ℚ} (ha : Congr L a a') (hb : Congr L b b') : Congr L (a - b) (a' - b') :=
  let ⟨k, hk⟩ := ha; let ⟨m, hm⟩ := hb; ⟨k - m, by rw [Int.cast_sub, sub_mul, ← hk, ← hm]; ring⟩

theorem congr_add_int_mul (L x : ℚ) (n : ℤ) : Congr L (x + n * L) x := ⟨n, by ring⟩

/-- Two numbers of the same half-open window of length `L` that are congruent modulo `L` are equal.  Every uniqueness,
fixed-point and invariance statement below is this fact applied to the range and congruence of `wrap` / `wrapSep`. -/
theorem window_unique {L c a b : ℚ} (hL : 0 < L) (ha : c ≤ a ∧ a < c + L) (hb : c ≤ b ∧ b < c + L)
    (h : Congr L a b) : a = b := by
  obtain ⟨n, hn⟩ := h
  have h1 : (n : ℚ) * L < 1 * L := by rw [← hn]; linarith only [ha.2, hb.1]
  have h2 : (-1 : ℚ) * L < n * L := by rw [← hn]; linarith only [ha.1, hb.2]
  have h1' : n < 1 := by exact_mod_cast lt_of_mul_lt_mul_right h1 hL.le
  have h2' : -1 < n := by exact_mod_cast lt_of_mul_lt_mul_right h2 hL.le
  obtain rfl : n = 0 := by omega
  rw [Int.cast_zero, zero_mul] at hn
  exact sub_eq_zero.mp hn

/-- the corrected position in the exact reading: the `!= L` branch of `correct_position_entry` is dead there -/
theorem wrap_eq {x L : ℚ} (hL : 0 < L) : wrap Ops.rat x L = x - L * ⌊x / L⌋ := pywrap_rat_pos x L hL

theorem wrap_range {x L : ℚ} (hL : 0 < L) : 0 ≤ wrap Ops.rat x L ∧ wrap Ops.rat x L < L :=
  ⟨pywrap_rat_nonneg x L hL, pywrap_rat_lt x L hL⟩

theorem wrap_congr {x L : ℚ} (hL : 0 < L) : Congr L x (wrap Ops.rat x L) :=
  ⟨⌊x / L⌋, by rw [wrap_eq hL]; ring⟩

theorem wrap_unique {x y L : ℚ} (hL : 0 < L) (h0 : 0 ≤ y) (h1 : y < L) (hc : Congr L x y) :
    y = wrap Ops.rat x L :=
  window_unique (c := 0) hL ⟨h0, by rwa [zero_add]⟩ ⟨(wrap_range hL).1, by rw [zero_add]; exact (wrap_range hL).2⟩
    (hc.symm.trans (wrap_congr hL))

theorem wrap_fixed {x L : ℚ} (hL : 0 < L) (h0 : 0 ≤ x) (h1 : x < L) : wrap Ops.rat x L = x :=
  (wrap_unique hL h0 h1 (.refl L x)).symm

theorem wrap_idem {x L : ℚ} (hL : 0 < L) : wrap Ops.rat (wrap Ops.rat x L) L = wrap Ops.rat x L :=
  wrap_fixed hL (wrap_range hL).1 (wrap_range hL).2

/-- congruent inputs have the same image (the image is a function of the class modulo `L`) -/
theorem wrap_congr_eq {x x' L : ℚ} (hL : 0 < L) (h : Congr L x x') : wrap Ops.rat x L = wrap Ops.rat x' L :=
  wrap_unique hL (wrap_range hL).1 (wrap_range hL).2 (h.symm.trans (wrap_congr hL))

/-- positions that differ by a whole number of box lengths (however many) have the same image -/
theorem wrap_add_int_mul {x L : ℚ} (hL : 0 < L) (n : ℤ) : wrap Ops.rat (x + n * L) L = wrap Ops.rat x L :=
  wrap_congr_eq hL (congr_add_int_mul L x n)

/-- the boundary inputs of the quantifier: exactly `0` stays, exactly `L` goes to `0` -/
theorem wrap_zero {L : ℚ} (hL : 0 < L) : wrap Ops.rat 0 L = 0 := wrap_fixed hL le_rfl hL
theorem wrap_self {L : ℚ} (hL : 0 < L) : wrap Ops.rat L L = 0 := by
  rw [wrap_congr_eq hL (x' := 0) ⟨1, by ring⟩, wrap_zero hL]

theorem wrapSep_eq {s L : ℚ} (hL : 0 < L) : wrapSep Ops.rat s L (L / 2) = s - L * ⌊(s + L / 2) / L⌋ := by
  unfold wrapSep; rw [pymod_rat_pos _ _ hL]; ring

theorem wrapSep_range {s L : ℚ} (hL : 0 < L) :
    -(L / 2) ≤ wrapSep Ops.rat s L (L / 2) ∧ wrapSep Ops.rat s L (L / 2) < L / 2 := by
  have h0 := pymod_rat_nonneg (s + L / 2) L hL
  have h1 := pymod_rat_lt (s + L / 2) L hL
  unfold wrapSep
  exact ⟨by linarith only [h0], by linarith only [h1]⟩

theorem wrapSep_abs_le {s L : ℚ} (hL : 0 < L) : |wrapSep Ops.rat s L (L / 2)| ≤ L / 2 :=
  abs_le.mpr ⟨(wrapSep_range hL).1, (wrapSep_range hL).2.le⟩

theorem wrapSep_congr {s L : ℚ} (hL : 0 < L) : Congr L s (wrapSep Ops.rat s L (L / 2)) :=
  ⟨⌊(s + L / 2) / L⌋, by rw [wrapSep_eq hL]; ring⟩

theorem wrapSep_unique {s r L : ℚ} (hL : 0 < L) (h0 : -(L / 2) ≤ r) (h1 : r < L / 2) (hc : Congr L s r) :
    r = wrapSep Ops.rat s L (L / 2) :=
  have e : -(L / 2) + L = L / 2 := by ring
  window_unique (c := -(L / 2)) hL ⟨h0, by rwa [e]⟩ ⟨(wrapSep_range hL).1, by rw [e]; exact (wrapSep_range hL).2⟩
    (hc.symm.trans (wrapSep_congr hL))

/-- a number of magnitude at most `L/2` is no longer than any of its periodic images: a non-zero shift has magnitude at
least `L` -/
theorem abs_le_abs_add_int_mul {r L : ℚ} (hL : 0 < L) (hr : |r| ≤ L / 2) (m : ℤ) : |r| ≤ |r + m * L| := by
  rcases eq_or_ne m 0 with rfl | hm
  · simp
  · have h1 : (1 : ℚ) ≤ |(m : ℚ)| := by exact_mod_cast Int.one_le_abs hm
    have h2 : L ≤ |(m : ℚ) * L| := by rw [abs_mul, abs_of_pos hL]; exact le_mul_of_one_le_left hL.le h1
    have h3 := abs_sub (r + m * L) r
    rw [add_sub_cancel_left] at h3
    linarith only [hr, h2, h3]

/-- minimum image: nothing congruent to the separation is shorter than its wrapped form -/
theorem wrapSep_abs_le_of_congr {s r L : ℚ} (hL : 0 < L) (h : Congr L s r) : |wrapSep Ops.rat s L (L / 2)| ≤ |r| := by
  obtain ⟨n, hn⟩ := h.symm.trans (wrapSep_congr hL)
  rw [eq_add_of_sub_eq' hn]
  exact abs_le_abs_add_int_mul hL (wrapSep_abs_le hL) n

theorem wrapSep_minimal {s L : ℚ} (hL : 0 < L) (k : ℤ) : |wrapSep Ops.rat s L (L / 2)| ≤ |s + k * L| :=
  wrapSep_abs_le_of_congr hL (congr_add_int_mul L s k).symm

/-- hence the magnitude is even in the separation: `-s` and `s` have mirror-image classes (at the half-box boundary both
wrapped forms are `-L/2`, otherwise one is minus the other) -/
theorem wrapSep_abs_neg {s L : ℚ} (hL : 0 < L) : |wrapSep Ops.rat (-s) L (L / 2)| = |wrapSep Ops.rat s L (L / 2)| := by
  have h : ∀ s, |wrapSep Ops.rat (-s) L (L / 2)| ≤ |wrapSep Ops.rat s L (L / 2)| := fun s =>
    (wrapSep_abs_le_of_congr hL (wrapSep_congr hL).neg).trans_eq (abs_neg _)
  exact le_antisymm (h s) (by simpa using h (-s))

theorem wrapSep_fixed {s L : ℚ} (hL : 0 < L) (h0 : -(L / 2) ≤ s) (h1 : s < L / 2) :
    wrapSep Ops.rat s L (L / 2) = s :=
  (wrapSep_unique hL h0 h1 (.refl L s)).symm

theorem wrapSep_idem {s L : ℚ} (hL : 0 < L) :
    wrapSep Ops.rat (wrapSep Ops.rat s L (L / 2)) L (L / 2) = wrapSep Ops.rat s L (L / 2) :=
  wrapSep_fixed hL (wrapSep_range hL).1 (wrapSep_range hL).2

/-- separations of congruent positions are the same: the result depends on the two positions only through their
periodic images -/
theorem wrapSep_congr_eq {s s' L : ℚ} (hL : 0 < L) (h : Congr L s s') :
    wrapSep Ops.rat s L (L / 2) = wrapSep Ops.rat s' L (L / 2) :=
  wrapSep_unique hL (wrapSep_range hL).1 (wrapSep_range hL).2 (h.symm.trans (wrapSep_congr hL))

end JF.C15
