import JF.Lemmas.KinematicsList
import JF.Lemmas.ModL
import JF.Props.C14
import Mathlib.Tactic.Linarith
import Mathlib.Tactic.Ring
/-!
Vocabulary and lemmas for C07 (exact reading of `JF/Model/Kinematics.lean`): congruence modulo the box, the free-flight
map `advance`, in-box, well-formedness of the global state; the chain invariant `Chain` (exactly one unit moves) and its
index form `ChainI`, which every event of the chain machine preserves; admissibility of events and runs (`Adm`, `AdmRun`,
`EvWF`) and the no-jump condition `Smooth`; the leg loop seen from the scheduler (`Leg`, `Legs.sorted`); the data of the
examples of `JF/Props/C07.lean` (`Ex`).
-/
namespace JF
namespace Kin

def Cong (l a b : ℚ) : Prop := ∃ k : ℤ, b = a + k * l

/-- the relation of `JF/Lemmas/ModL.lean`, read from the old value to the new one -/
theorem cong_iff {l a b : ℚ} : Cong l a b ↔ C15.Congr l b a := exists_congr fun _ => sub_eq_iff_eq_add'.symm

theorem Cong.refl (l a : ℚ) : Cong l a a := cong_iff.2 (.refl l a)
theorem Cong.symm {l a b : ℚ} (h : Cong l a b) : Cong l b a := cong_iff.2 (cong_iff.1 h).symm
theorem Cong.trans {l a b c : ℚ} (h : Cong l a b) (h' : Cong l b c) : Cong l a c :=
  cong_iff.2 ((cong_iff.1 h').trans (cong_iff.1 h))
theorem Cong.add_right {l a b : ℚ} (c : ℚ) (h : Cong l a b) : Cong l (a + c) (b + c) :=
  cong_iff.2 ((cong_iff.1 h).add (.refl l c))
theorem Cong.of_eq {l a b : ℚ} (h : a = b) : Cong l a b := h ▸ Cong.refl l a

/-- holds only if all three lists have the same length -/
def CongVec : List ℚ → List ℚ → List ℚ → Prop
  | l :: L, p :: P, q :: Q => Cong l p q ∧ CongVec L P Q
  | [], [], [] => True
  | _, _, _ => False

/-- every coordinate lies in `[0, L_d)`; holds only if the lists have the same length -/
def InBox : List ℚ → List ℚ → Prop
  | l :: L, p :: P => (0 ≤ p ∧ p < l) ∧ InBox L P
  | [], [] => True
  | _, _ => False

def PosBox (L : List ℚ) : Prop := ∀ l ∈ L, 0 < l

def advance (P V : List ℚ) (dt : ℚ) : List ℚ := List.zipWith (fun p v => p + v * dt) P V

def normSq (v : List ℚ) : ℚ := (v.map (fun x => x * x)).sum

theorem congVec_iff : ∀ (L P Q : List ℚ), CongVec L P Q ↔
    P.length = L.length ∧ Q.length = L.length ∧
      ∀ d (hL : d < L.length) (hP : d < P.length) (hQ : d < Q.length), Cong L[d] P[d] Q[d]
  | [], [], [] => ⟨fun _ => ⟨rfl, rfl, fun _ h => absurd h (Nat.not_lt_zero _)⟩, fun _ => trivial⟩
  | [], [], _ :: _ => ⟨False.elim, fun h => nomatch h.2.1⟩
  | [], _ :: _, _ => ⟨False.elim, fun h => nomatch h.1⟩
  | _ :: _, [], _ => ⟨False.elim, fun h => nomatch h.1⟩
  | _ :: _, _ :: _, [] => ⟨False.elim, fun h => nomatch h.2.1⟩
  | l :: L, p :: P, q :: Q => by
      refine ⟨fun h => ?_, fun h => ⟨h.2.2 0 (Nat.succ_pos _) (Nat.succ_pos _) (Nat.succ_pos _), ?_⟩⟩
      · obtain ⟨h1, h2, h3⟩ := (congVec_iff L P Q).mp h.2
        refine ⟨congrArg Nat.succ h1, congrArg Nat.succ h2, fun d hL hP hQ => ?_⟩
        cases d with
        | zero => exact h.1
        | succ d => exact h3 d (Nat.lt_of_succ_lt_succ hL) (Nat.lt_of_succ_lt_succ hP) (Nat.lt_of_succ_lt_succ hQ)
      · exact (congVec_iff L P Q).mpr ⟨Nat.succ.inj h.1, Nat.succ.inj h.2.1, fun d hL hP hQ =>
          h.2.2 (d + 1) (Nat.succ_lt_succ hL) (Nat.succ_lt_succ hP) (Nat.succ_lt_succ hQ)⟩

theorem inBox_iff : ∀ (L P : List ℚ), InBox L P ↔
    P.length = L.length ∧ ∀ d (hL : d < L.length) (hP : d < P.length), 0 ≤ P[d] ∧ P[d] < L[d]
  | [], [] => ⟨fun _ => ⟨rfl, fun _ h => absurd h (Nat.not_lt_zero _)⟩, fun _ => trivial⟩
  | [], _ :: _ => ⟨False.elim, fun h => nomatch h.1⟩
  | _ :: _, [] => ⟨False.elim, fun h => nomatch h.1⟩
  | l :: L, p :: P => by
      refine ⟨fun h => ?_, fun h => ⟨h.2 0 (Nat.succ_pos _) (Nat.succ_pos _), ?_⟩⟩
      · obtain ⟨h1, h3⟩ := (inBox_iff L P).mp h.2
        refine ⟨congrArg Nat.succ h1, fun d hL hP => ?_⟩
        cases d with
        | zero => exact h.1
        | succ d => exact h3 d (Nat.lt_of_succ_lt_succ hL) (Nat.lt_of_succ_lt_succ hP)
      · exact (inBox_iff L P).mpr ⟨Nat.succ.inj h.1, fun d hL hP => h.2 (d + 1) (Nat.succ_lt_succ hL) (Nat.succ_lt_succ hP)⟩

theorem CongVec.length_left {L P Q : List ℚ} (h : CongVec L P Q) : P.length = L.length :=
  ((congVec_iff L P Q).mp h).1
theorem CongVec.length_right {L P Q : List ℚ} (h : CongVec L P Q) : Q.length = L.length :=
  ((congVec_iff L P Q).mp h).2.1
theorem InBox.length {L P : List ℚ} (h : InBox L P) : P.length = L.length :=
  ((inBox_iff L P).mp h).1

theorem CongVec.refl (L P : List ℚ) (h : P.length = L.length) : CongVec L P P :=
  (congVec_iff L P P).mpr ⟨h, h, fun d _ _ _ => Cong.refl L[d] P[d]⟩

theorem CongVec.symm {L P Q : List ℚ} (h : CongVec L P Q) : CongVec L Q P := by
  obtain ⟨h1, h2, h3⟩ := (congVec_iff L P Q).mp h
  exact (congVec_iff L Q P).mpr ⟨h2, h1, fun d hL hQ hP => (h3 d hL hP hQ).symm⟩

theorem CongVec.trans {L P Q R : List ℚ} (h : CongVec L P Q) (h' : CongVec L Q R) : CongVec L P R := by
  obtain ⟨h1, h2, h3⟩ := (congVec_iff L P Q).mp h
  obtain ⟨-, h2', h3'⟩ := (congVec_iff L Q R).mp h'
  exact (congVec_iff L P R).mpr ⟨h1, h2', fun d hL hP hR =>
    (h3 d hL hP (h2 ▸ hL)).trans (h3' d hL (h2 ▸ hL) hR)⟩

theorem sliceCoord_cong (L p v dt : ℚ) (hL : 0 < L) : Cong L (p + v * dt) (sliceCoord Ops.rat L p v dt) :=
  cong_iff.2 (C15.wrap_congr hL).symm

theorem advance_length (P V : List ℚ) (dt : ℚ) (h : P.length = V.length) : (advance P V dt).length = P.length := by
  rw [advance, List.length_zipWith, h, Nat.min_self]

theorem getElem_advance {P V : List ℚ} (dt : ℚ) {d : Nat} (h : d < (advance P V dt).length) (hP : d < P.length)
    (hV : d < V.length) : (advance P V dt)[d] = P[d] + V[d] * dt :=
  List.getElem_zipWith

theorem sliceVec_cong (L P V : List ℚ) (dt : ℚ) (hL : PosBox L) (hP : P.length = L.length) (hV : V.length = L.length) :
    CongVec L (advance P V dt) (sliceVec Ops.rat L P V dt) :=
  (congVec_iff _ _ _).mpr ⟨(advance_length P V dt (hP.trans hV.symm)).trans hP, sliceVec_length L P V dt hP hV,
    fun d hd hA hS => by
      rw [getElem_sliceVec dt hS hd (hP ▸ hd) (hV ▸ hd), getElem_advance dt hA (hP ▸ hd) (hV ▸ hd)]
      exact sliceCoord_cong _ _ _ _ (hL _ (List.getElem_mem hd))⟩

theorem sliceVec_inBox (L P V : List ℚ) (dt : ℚ) (hL : PosBox L) (hP : P.length = L.length) (hV : V.length = L.length) :
    InBox L (sliceVec Ops.rat L P V dt) :=
  (inBox_iff _ _).mpr ⟨sliceVec_length L P V dt hP hV, fun d hd hS => by
    rw [getElem_sliceVec dt hS hd (hP ▸ hd) (hV ▸ hd)]
    exact C15.wrap_range (hL _ (List.getElem_mem hd))⟩

theorem advance_cong {L P Q : List ℚ} (V : List ℚ) (dt : ℚ) (h : CongVec L P Q) (hV : V.length = L.length) :
    CongVec L (advance P V dt) (advance Q V dt) := by
  obtain ⟨h1, h2, h3⟩ := (congVec_iff L P Q).mp h
  refine (congVec_iff _ _ _).mpr ⟨(advance_length P V dt (h1.trans hV.symm)).trans h1,
    (advance_length Q V dt (h2.trans hV.symm)).trans h2, fun d hd hA hB => ?_⟩
  rw [getElem_advance dt hA (h1 ▸ hd) (hV ▸ hd), getElem_advance dt hB (h2 ▸ hd) (hV ▸ hd)]
  exact (h3 d hd (h1 ▸ hd) (h2 ▸ hd)).add_right _

theorem advance_advance (P V : List ℚ) (dt dt' : ℚ) (h : P.length = V.length) :
    advance (advance P V dt) V dt' = advance P V (dt + dt') := by
  have hl := advance_length P V dt h
  refine List.ext_getElem ((advance_length _ V dt' (hl.trans h)).trans (hl.trans (advance_length P V _ h).symm))
    fun d h1 h2 => ?_
  have hP : d < P.length := hl ▸ (advance_length _ V dt' (hl.trans h) ▸ h1)
  rw [getElem_advance dt' h1 (hl ▸ hP) (h ▸ hP), getElem_advance dt (hl ▸ hP) hP (h ▸ hP),
    getElem_advance (dt + dt') h2 hP (h ▸ hP)]
  ring

theorem setCoord_length (P : List ℚ) (d : Nat) (x : ℚ) : (setCoord P d x).length = P.length := by
  rw [setCoord_eq_set, List.length_set]

theorem setCoord_inBox (L P : List ℚ) (d : Nat) (x : ℚ) (h : InBox L P)
    (hx : ∀ h : d < L.length, 0 ≤ x ∧ x < L[d]) : InBox L (setCoord P d x) := by
  obtain ⟨h1, h2⟩ := (inBox_iff L P).mp h
  refine (inBox_iff _ _).mpr ⟨(setCoord_length P d x).trans h1, fun i hL hS => ?_⟩
  simp only [setCoord_eq_set, List.getElem_set]
  split
  · next hdi => subst hdi; exact hx hL
  · exact h2 i hL (h1 ▸ hL)

theorem setCoord_cong (L P : List ℚ) (d : Nat) (x : ℚ) (h : P.length = L.length)
    (hx : ∀ (h : d < L.length) (h' : d < P.length), Cong L[d] P[d] x) : CongVec L P (setCoord P d x) := by
  refine (congVec_iff _ _ _).mpr ⟨h, (setCoord_length P d x).trans h, fun i hL hP hS => ?_⟩
  simp only [setCoord_eq_set, List.getElem_set]
  split
  · next hdi => subst hdi; exact hx hL hP
  · exact Cong.refl _ _

theorem exists_idx_of_filter_length_one {β : Type} (p : β → Bool) : ∀ (l : List β), (l.filter p).length = 1 →
    ∃ a, a < l.length ∧ ∀ i u, l[i]? = some u → (p u = true ↔ i = a)
  | x :: l, h => by
      by_cases hx : p x = true
      · rw [List.filter_cons_of_pos hx, List.length_cons, Nat.add_eq_right, List.length_eq_zero_iff,
          List.filter_eq_nil_iff] at h
        refine ⟨0, Nat.succ_pos _, fun i u hi => ?_⟩
        cases i with
        | zero => obtain rfl : x = u := Option.some.inj hi; exact ⟨fun _ => rfl, fun _ => hx⟩
        | succ i => exact ⟨fun hu => absurd hu (h u (List.mem_of_getElem? hi)), fun e => nomatch e⟩
      · rw [List.filter_cons_of_neg hx] at h
        obtain ⟨a, ha, hidx⟩ := exists_idx_of_filter_length_one p l h
        refine ⟨a + 1, Nat.succ_lt_succ ha, fun i u hi => ?_⟩
        cases i with
        | zero => obtain rfl : x = u := Option.some.inj hi; exact ⟨fun hu => absurd hu hx, fun e => nomatch e⟩
        | succ i => exact (hidx i u hi).trans ⟨congrArg Nat.succ, Nat.succ.inj⟩

theorem filterMap_eq_singleton {β γ : Type} (f : β → Option γ) : ∀ (l : List β) (a : Nat) (x : β) (v : γ),
    l[a]? = some x → f x = some v → (∀ i y, l[i]? = some y → i ≠ a → f y = none) → l.filterMap f = [v]
  | y :: l, 0, x, v, hx, hv, ho => by
      obtain rfl : y = x := Option.some.inj hx
      rw [List.filterMap_cons_some hv, List.filterMap_eq_nil_iff.mpr fun w hw => ?_]
      obtain ⟨i, hi⟩ := List.getElem?_of_mem hw
      exact ho (i + 1) w hi (Nat.succ_ne_zero i)
  | y :: l, a + 1, x, v, hx, hv, ho => by
      rw [List.filterMap_cons_none (ho 0 y rfl (Nat.succ_ne_zero a).symm),
        filterMap_eq_singleton f l a x v hx hv fun i w hi hia => ho (i + 1) w hi fun e => hia (Nat.succ.inj e)]

def WFU (n : Nat) (u : PUnit ℚ) : Prop :=
  u.pos.length = n ∧ u.vel.isSome = u.ts.isSome ∧ ∀ v, u.vel = some v → v.length = n

def WF (L : List ℚ) (us : List (PUnit ℚ)) : Prop := ∀ u ∈ us, WFU L.length u

theorem isMoving_of_some {u : PUnit ℚ} {v : List ℚ} (h : u.vel = some v) : isMoving u = true := by
  rw [isMoving, h]; rfl

theorem isMoving_of_none {u : PUnit ℚ} (h : u.vel = none) : isMoving u = false := by
  rw [isMoving, h]; rfl

theorem timeSlice_isMoving (L : List ℚ) (t : Time ℚ) (u : PUnit ℚ) :
    isMoving (timeSlice Ops.rat L t u) = isMoving u := by
  simp [isMoving, timeSlice_vel]

theorem timeSlice_wfu (L : List ℚ) (t : Time ℚ) (u : PUnit ℚ) (h : WFU L.length u) :
    WFU L.length (timeSlice Ops.rat L t u) := by
  obtain ⟨h1, h2, h3⟩ := h
  cases hv : u.vel with
  | none => rw [timeSlice_of_rest L t u hv]; exact ⟨h1, h2, h3⟩
  | some v =>
      cases hs : u.ts with
      | none => simp [hv, hs] at h2
      | some s =>
          rw [timeSlice_of_moving L t u hv hs]
          refine ⟨sliceVec_length L u.pos v _ h1 (h3 v hv), rfl, ?_⟩
          intro w hw; cases hw; exact h3 v hv

theorem stop_wfu {n : Nat} (u : PUnit ℚ) (h : WFU n u) : WFU n (stop u) :=
  ⟨h.1, rfl, fun v hv => by simp [stop] at hv⟩

open JF.C14

/-- position of a unit after an event, as a function of the unit before the event alone -/
def posAfter (L : List ℚ) (e : Ev ℚ) (u : PUnit ℚ) : List ℚ :=
  match e with
  | .start _ _ _ => u.pos
  | .snap t d x => if isMoving u then setCoord (timeSlice Ops.rat L t u).pos d x else u.pos
  | .keep t => (timeSlice Ops.rat L t u).pos
  | .lift t _ => (timeSlice Ops.rat L t u).pos
  | .endOfChain t _ _ => (timeSlice Ops.rat L t u).pos

theorem step_map_pos (L : List ℚ) (us : List (PUnit ℚ)) (e : Ev ℚ) :
    (step Ops.rat L us e).map (·.pos) = us.map (posAfter L e) := by
  have hsl : ∀ t, (us.map (timeSlice Ops.rat L t)).map (·.pos) = us.map (fun u => (timeSlice Ops.rat L t u).pos) :=
    fun t => List.map_map
  have modify_pos := map_modify_of_eq (fun u : PUnit ℚ => u.pos)
  cases e with
  | start t a v => exact modify_pos _ (by intro _; rfl) us a
  | keep t => exact hsl t
  | snap t d x =>
      simp only [step, List.map_map]
      refine List.map_congr_left fun u _ => ?_
      simp only [Function.comp, timeSlice_isMoving, posAfter]
      split
      · rfl
      · next h => rw [timeSlice_of_rest L t u (by simpa [isMoving] using h)]
  | lift t b =>
      simp only [step]
      split
      · exact hsl t
      · split
        · exact hsl t
        · split
          · exact hsl t
          · exact (modify_pos _ (by intro _; rfl) _ _).trans ((modify_pos _ (by intro _; rfl) _ _).trans (hsl t))
  | endOfChain t a v =>
      simp only [step]
      split
      · exact hsl t
      · split
        · exact (modify_pos _ (by intro _; rfl) _ _).trans (hsl t)
        · exact (modify_pos _ (by intro _; rfl) _ _).trans ((modify_pos _ (by intro _; rfl) _ _).trans (hsl t))

theorem step_pos (L : List ℚ) (us : List (PUnit ℚ)) (e : Ev ℚ) (i : Nat) :
    (step Ops.rat L us e)[i]?.map (·.pos) = us[i]?.map (posAfter L e) := by
  rw [← List.getElem?_map, ← List.getElem?_map, step_map_pos]

theorem step_pos_eq {L : List ℚ} {us : List (PUnit ℚ)} {e : Ev ℚ} {i : Nat} {u u' : PUnit ℚ} (hu : us[i]? = some u)
    (hu' : (step Ops.rat L us e)[i]? = some u') : u'.pos = posAfter L e u := by
  have hp := step_pos L us e i
  rw [hu, hu'] at hp
  exact Option.some.inj hp

theorem step_length (L : List ℚ) (us : List (PUnit ℚ)) (e : Ev ℚ) : (step Ops.rat L us e).length = us.length := by
  have := congrArg List.length (step_map_pos L us e)
  rwa [List.length_map, List.length_map] at this

/-- what the chain invariant says of the unit at index `i` when unit `a` is the moving one -/
def UnitI (L v : List ℚ) (t : Time ℚ) (a i : Nat) (u : PUnit ℚ) : Prop :=
  WFU L.length u ∧ InBox L u.pos ∧ (if i = a then u.vel = some v ∧ u.ts = some t else u.vel = none)

/-- the chain invariant with the index `a` and the velocity `v` of the moving unit made explicit -/
def ChainI (L v : List ℚ) (t : Time ℚ) (us : List (PUnit ℚ)) (a : Nat) : Prop :=
  a < us.length ∧ ∀ i u, us[i]? = some u → UnitI L v t a i u

section
variable {L v v' : List ℚ} {t t' : Time ℚ} {a b i : Nat} {u : PUnit ℚ}

theorem UnitI.moving (hp : u.pos.length = L.length) (hb : InBox L u.pos) (hv : u.vel = some v) (hl : v.length = L.length)
    (ht : u.ts = some t) : UnitI L v t a a u :=
  ⟨⟨hp, by rw [hv, ht]; rfl, fun w hw => by rw [hv] at hw; cases hw; exact hl⟩, hb, by rw [if_pos rfl]; exact ⟨hv, ht⟩⟩

theorem UnitI.at (h : UnitI L v t a a u) : u.vel = some v ∧ u.ts = some t := by
  have := h.2.2; rwa [if_pos rfl] at this

theorem UnitI.vel_of_ne (h : UnitI L v t a i u) (hia : i ≠ a) : u.vel = none := by
  have := h.2.2; rwa [if_neg hia] at this

theorem UnitI.vel_cases (h : UnitI L v t a i u) : (u.vel = some v ∧ u.ts = some t) ∨ u.vel = none := by
  by_cases hia : i = a
  · subst hia; exact Or.inl h.at
  · exact Or.inr (h.vel_of_ne hia)

theorem UnitI.of_rest (h : UnitI L v t a i u) (hia : i ≠ a) (hib : i ≠ b) : UnitI L v' t' b i u :=
  ⟨h.1, h.2.1, by rw [if_neg hib]; exact h.vel_of_ne hia⟩

theorem UnitI.stop (h : UnitI L v t a i u) (hib : i ≠ b) : UnitI L v' t' b i (stop u) :=
  ⟨stop_wfu u h.1, h.2.1, by rw [if_neg hib]; rfl⟩

end

namespace ChainI
variable {L v : List ℚ} {t : Time ℚ} {us : List (PUnit ℚ)} {a : Nat}

theorem get (h : ChainI L v t us a) : ∃ ua, us[a]? = some ua ∧ WFU L.length ua ∧ InBox L ua.pos ∧
      ua.vel = some v ∧ ua.ts = some t :=
  have hu := h.2 a (us[a]'h.1) (List.getElem?_eq_getElem h.1)
  ⟨_, List.getElem?_eq_getElem h.1, hu.1, hu.2.1, hu.at⟩

theorem activeIdx (h : ChainI L v t us a) : activeIdx us = some a := by
  obtain ⟨ua, hua, -, -, hv, -⟩ := h.get
  exact findIdx?_isMoving hua hv fun k l hl hk => (h.2 k l hl).vel_of_ne hk

theorem slice (h : ChainI L v t us a) (hL : PosBox L) (t' : Time ℚ) :
    ChainI L v t' (us.map (timeSlice Ops.rat L t')) a := by
  refine ⟨(List.length_map _).symm ▸ h.1, fun i u' hi => ?_⟩
  rw [List.getElem?_map] at hi
  obtain ⟨u, hu, rfl⟩ := Option.map_eq_some_iff.mp hi
  have hi := h.2 i u hu
  by_cases hia : i = a
  · subst hia
    obtain ⟨hv, hs⟩ := hi.at
    rw [timeSlice_of_moving L t' u hv hs]
    exact UnitI.moving (sliceVec_length L u.pos v _ hi.1.1 (hi.1.2.2 v hv))
      (sliceVec_inBox L u.pos v _ hL hi.1.1 (hi.1.2.2 v hv)) rfl (hi.1.2.2 v hv) rfl
  · rw [timeSlice_of_rest L t' u (hi.vel_of_ne hia)]; exact hi.of_rest hia hia

theorem step_snap (h : ChainI L v t us a) (hL : PosBox L) (t' : Time ℚ) (d : Nat) (x : ℚ)
    (hx : ∀ hd : d < L.length, 0 ≤ x ∧ x < L[d]) : ChainI L v t' (step Ops.rat L us (.snap t' d x)) a := by
  have hs := h.slice hL t'
  refine ⟨by simpa [step] using h.1, fun i u' hi => ?_⟩
  simp only [step] at hi
  rw [List.getElem?_map] at hi
  obtain ⟨u, hu, rfl⟩ := Option.map_eq_some_iff.mp hi
  have hi := hs.2 i u hu
  split
  · exact ⟨⟨(setCoord_length _ d x).trans hi.1.1, hi.1.2⟩, setCoord_inBox L u.pos d x hi.2.1 hx, hi.2.2⟩
  · exact hi

theorem handover (h : ChainI L v t us a) {b : Nat} (hb : b < us.length) (hab : a ≠ b) {v' : List ℚ} {t' : Time ℚ}
    (g : PUnit ℚ → PUnit ℚ) (hg : ∀ u, UnitI L v t a b u → UnitI L v' t' b b (g u)) :
    ChainI L v' t' ((us.modify a Kin.stop).modify b g) b := by
  refine ⟨by rwa [List.length_modify, List.length_modify],
    forall_getElem?_modify b _ (forall_getElem?_modify a _ fun i u hu => ?_)⟩
  have hi := h.2 i u hu
  by_cases hib : b = i
  · subst hib
    rw [if_pos rfl, if_neg hab]
    exact hg u hi
  · rw [if_neg hib]
    by_cases hia : a = i
    · rw [if_pos hia]; exact hi.stop (Ne.symm hib)
    · rw [if_neg hia]; exact hi.of_rest (Ne.symm hia) (Ne.symm hib)

/-- a pair event hands the velocity `v` itself over -/
theorem step_lift (h : ChainI L v t us a) (hL : PosBox L) (t' : Time ℚ) (b : Nat) (hb : b < us.length) :
    ChainI L v t' (step Ops.rat L us (.lift t' b)) b := by
  have hs := h.slice hL t'
  obtain ⟨ua, hua, wa, -, hv, hts⟩ := hs.get
  simp only [step, hs.activeIdx, hua]
  by_cases hab : a = b
  · subst hab; simpa using hs
  · rw [if_neg (by simpa using hab), List.modify_modify_ne _ _ _ (Ne.symm hab)]
    exact hs.handover (by simpa using hb) hab _ fun u hi => UnitI.moving hi.1.1 hi.2.1 hv (wa.2.2 v hv) hts

theorem step_endOfChain (h : ChainI L v t us a) (hL : PosBox L) (t' : Time ℚ) (b : Nat) (w : List ℚ)
    (hb : b < us.length) (hw : w.length = L.length) : ChainI L w t' (step Ops.rat L us (.endOfChain t' b w)) b := by
  have hs := h.slice hL t'
  simp only [step, hs.activeIdx]
  by_cases hab : a = b
  · subst hab
    rw [if_pos (by simp)]
    refine ⟨by simpa [List.length_modify] using hb, forall_getElem?_modify a _ fun i u hu => ?_⟩
    have hi := hs.2 i u hu
    by_cases hia : a = i
    · subst hia
      rw [if_pos rfl]
      exact UnitI.moving hi.1.1 hi.2.1 rfl hw hi.at.2
    · rw [if_neg hia]; exact hi.of_rest (Ne.symm hia) (Ne.symm hia)
  · rw [if_neg (by simpa using hab)]
    exact hs.handover (by simpa using hb) hab _ fun u hi => UnitI.moving hi.1.1 hi.2.1 rfl hw rfl

theorem vels (h : ChainI L v t us a) : us.filterMap (·.vel) = [v] := by
  obtain ⟨ua, hua, -, -, hv, -⟩ := h.get
  exact filterMap_eq_singleton _ us a ua v hua hv fun i y hy hia => (h.2 i y hy).vel_of_ne hia

end ChainI

theorem ChainI.of_start {L : List ℚ} {us : List (PUnit ℚ)} (hwf : WF L us) (hbox : ∀ u ∈ us, InBox L u.pos)
    (hrest : ∀ u ∈ us, u.vel = none) (t : Time ℚ) (a : Nat) (v : List ℚ) (ha : a < us.length)
    (hv : v.length = L.length) : ChainI L v t (step Ops.rat L us (.start t a v)) a := by
  refine ⟨by simpa [step, List.length_modify] using ha, forall_getElem?_modify a _ fun i u hu => ?_⟩
  have hm : u ∈ us := List.mem_of_getElem? hu
  by_cases hia : a = i
  · subst hia
    rw [if_pos rfl]
    exact UnitI.moving (hwf u hm).1 (hbox u hm) rfl hv rfl
  · rw [if_neg hia]
    exact ⟨hwf u hm, hbox u hm, by rw [if_neg (Ne.symm hia)]; exact hrest u hm⟩

/-- the chain invariant: one moving unit, its squared speed is `c`, its time stamp is `t`, everything in the box -/
structure Chain (L : List ℚ) (c : ℚ) (t : Time ℚ) (us : List (PUnit ℚ)) : Prop where
  wf : WF L us
  inBox : ∀ u ∈ us, InBox L u.pos
  one : (us.filter isMoving).length = 1
  speed : ∀ u ∈ us, ∀ v, u.vel = some v → normSq v = c
  stamp : ∀ u ∈ us, isMoving u = true → u.ts = some t

theorem ChainI.chain {L v : List ℚ} {t : Time ℚ} {us : List (PUnit ℚ)} {a : Nat} (h : ChainI L v t us a) :
    Chain L (normSq v) t us where
  wf u hu := by obtain ⟨i, hi⟩ := List.getElem?_of_mem hu; exact (h.2 i u hi).1
  inBox u hu := by obtain ⟨i, hi⟩ := List.getElem?_of_mem hu; exact (h.2 i u hi).2.1
  one := by
    obtain ⟨ua, hua, -, -, hv, -⟩ := h.get
    rw [← List.filterMap_eq_filter, filterMap_eq_singleton _ us a ua ua hua (by simp [Option.guard, isMoving, hv])
      fun i y hy hia => by simp [Option.guard, isMoving, (h.2 i y hy).vel_of_ne hia]]
    rfl
  speed u hu w hw := by
    obtain ⟨i, hi⟩ := List.getElem?_of_mem hu
    rcases (h.2 i u hi).vel_cases with ⟨hv, -⟩ | h0
    · rw [hw] at hv; cases hv; rfl
    · rw [hw] at h0; cases h0
  stamp u hu hm := by
    obtain ⟨i, hi⟩ := List.getElem?_of_mem hu
    rcases (h.2 i u hi).vel_cases with ⟨-, hts⟩ | h0
    · exact hts
    · cases (isMoving_of_none h0).symm.trans hm

theorem Chain.chainI {L : List ℚ} {c : ℚ} {t : Time ℚ} {us : List (PUnit ℚ)} (h : Chain L c t us) :
    ∃ a v, normSq v = c ∧ ChainI L v t us a := by
  obtain ⟨a, ha, hidx⟩ := exists_idx_of_filter_length_one isMoving us h.one
  have hma := List.getElem_mem ha
  have hmv : isMoving us[a] = true := (hidx a _ (List.getElem?_eq_getElem ha)).mpr rfl
  cases hv : us[a].vel with
  | none => cases (isMoving_of_none hv).symm.trans hmv
  | some v =>
    refine ⟨a, v, h.speed _ hma v hv, ha, fun i u hu => ?_⟩
    have hm := List.mem_of_getElem? hu
    refine ⟨h.wf u hm, h.inBox u hm, ?_⟩
    by_cases hia : i = a
    · subst hia
      obtain rfl : us[i] = u := Option.some.inj ((List.getElem?_eq_getElem ha).symm.trans hu)
      rw [if_pos rfl]
      exact ⟨hv, h.stamp _ hm hmv⟩
    · rw [if_neg hia]
      cases hw : u.vel with
      | none => rfl
      | some w => exact absurd ((hidx i u hu).mp (isMoving_of_some hw)) hia

def Adm (L : List ℚ) (us : List (PUnit ℚ)) : Ev ℚ → Prop
  | .start _ a v => a < us.length ∧ v.length = L.length ∧ ∀ u ∈ us, u.vel = none
  | .keep _ => True
  | .snap _ d x => ∀ h : d < L.length, 0 ≤ x ∧ x < L[d]
  | .lift _ b => b < us.length
  | .endOfChain _ a v => a < us.length ∧ v.length = L.length ∧
      ∀ u ∈ us, ∀ v0, u.vel = some v0 → normSq v = normSq v0

def AdmRun (L : List ℚ) : List (PUnit ℚ) → List (Ev ℚ) → Prop
  | _, [] => True
  | us, e :: es => Adm L us e ∧ AdmRun L (step Ops.rat L us e) es

def lastTime (t : Time ℚ) : List (Ev ℚ) → Time ℚ
  | [] => t
  | e :: es => lastTime e.time es

theorem lastTime_eq : ∀ (t : Time ℚ) (es : List (Ev ℚ)), lastTime t es = ((es.map Ev.time).getLast?).getD t
  | _, [] => rfl
  | _, e :: es => by rw [lastTime, lastTime_eq e.time es, List.map_cons, List.getLast?_cons, Option.getD_some]

def EvWF (L : List ℚ) : Ev ℚ → Prop
  | .start _ _ v => v.length = L.length
  | .endOfChain _ _ v => v.length = L.length
  | _ => True

theorem wfu_set {n : Nat} {u : PUnit ℚ} (h : WFU n u) {v : List ℚ} (hv : v.length = n) (t : Time ℚ) :
    WFU n { u with vel := some v, ts := some t } :=
  ⟨h.1, rfl, fun _ hw => by cases hw; exact hv⟩

theorem WF.modify {L : List ℚ} {us : List (PUnit ℚ)} (h : WF L us) (k : Nat) (f : PUnit ℚ → PUnit ℚ)
    (hf : ∀ u, us[k]? = some u → WFU L.length u → WFU L.length (f u)) : WF L (us.modify k f) :=
  forall_mem_modify f us k h fun u hu => hf u hu (h u (List.mem_of_getElem? hu))

theorem step_wf (L : List ℚ) (us : List (PUnit ℚ)) (e : Ev ℚ) (h : WF L us) (he : EvWF L e) :
    WF L (step Ops.rat L us e) := by
  have hsl : ∀ t, WF L (us.map (timeSlice Ops.rat L t)) := fun t u hu => by
    obtain ⟨w, hw, rfl⟩ := List.mem_map.mp hu
    exact timeSlice_wfu L t w (h w hw)
  cases e with
  | start t a v => exact h.modify a _ fun u _ hu => wfu_set hu he t
  | keep t => exact hsl t
  | snap t d x =>
      intro u hu
      obtain ⟨w, hw, rfl⟩ := List.mem_map.mp hu
      have := hsl t w hw
      split
      · exact ⟨(setCoord_length _ d x).trans this.1, this.2⟩
      · exact this
  | lift t b =>
      simp only [step]
      split
      · exact hsl t
      · split
        · exact hsl t
        · next _ a _ _ ua hua =>
          have hwa := hsl t ua (List.mem_of_getElem? hua)
          split
          · exact hsl t
          · exact ((hsl t).modify b _ fun u _ hu =>
              show WFU _ { u with vel := ua.vel, ts := ua.ts } from ⟨hu.1, hwa.2.1, hwa.2.2⟩).modify a _ fun u _ hu => stop_wfu u hu
  | endOfChain t a v =>
      simp only [step]
      split
      · exact hsl t
      · next a0 hact =>
        split
        · next haa =>
          obtain rfl : a0 = a := by simpa using haa
          refine (hsl t).modify a0 _ fun u hu hw => ⟨hw.1, ?_, fun _ hw' => by cases hw'; exact he⟩
          -- the active unit moves, so it has a time stamp
          obtain ⟨hlt, hmv, -⟩ := List.findIdx?_eq_some_iff_getElem.mp hact
          obtain rfl : _ = u := Option.some.inj ((List.getElem?_eq_getElem hlt).symm.trans hu)
          exact hmv.symm.trans hw.2.1
        · exact ((hsl t).modify a0 _ fun u _ hu => stop_wfu u hu).modify a _ fun u _ hu => wfu_set hu he t

theorem posAfter_of_rest (L : List ℚ) (e : Ev ℚ) (u : PUnit ℚ) (h : u.vel = none) : posAfter L e u = u.pos := by
  cases e <;> simp [posAfter, timeSlice_of_rest, isMoving, h]

theorem timeSlice_pos_cong {L : List ℚ} (t : Time ℚ) {u : PUnit ℚ} {v : List ℚ} {s : Time ℚ} (hL : PosBox L)
    (hw : WFU L.length u) (hv : u.vel = some v) (hs : u.ts = some s) :
    CongVec L (advance u.pos v (val t - val s)) (timeSlice Ops.rat L t u).pos := by
  rw [timeSlice_of_moving L t u hv hs, ← sub_exact]
  exact sliceVec_cong L u.pos v _ hL hw.1 (hw.2.2 v hv)

theorem timeSlice_pos_inBox {L : List ℚ} (t : Time ℚ) {u : PUnit ℚ} {v : List ℚ} {s : Time ℚ} (hL : PosBox L)
    (hw : WFU L.length u) (hv : u.vel = some v) (hs : u.ts = some s) :
    InBox L (timeSlice Ops.rat L t u).pos := by
  rw [timeSlice_of_moving L t u hv hs]
  exact sliceVec_inBox L u.pos v _ hL hw.1 (hw.2.2 v hv)

/-- what an event must satisfy so that it is no jump: a start finds every unit at rest; the coordinate a
cell-boundary event writes is congruent (modulo the box length) to the time-sliced coordinate it overwrites -/
def Smooth (L : List ℚ) (us : List (PUnit ℚ)) : Ev ℚ → Prop
  | .start _ _ _ => ∀ u ∈ us, u.vel = none
  | .snap t d x => ∀ u ∈ us, isMoving u = true →
      ∀ (h : d < L.length) (h' : d < (timeSlice Ops.rat L t u).pos.length),
        Cong L[d] (timeSlice Ops.rat L t u).pos[d] x
  | _ => True

theorem posAfter_cong {L : List ℚ} {us : List (PUnit ℚ)} {e : Ev ℚ} {u : PUnit ℚ} {v : List ℚ} {s : Time ℚ}
    (hL : PosBox L) (hw : WFU L.length u) (hm : u ∈ us) (hsm : Smooth L us e)
    (hv : u.vel = some v) (hs : u.ts = some s) :
    CongVec L (advance u.pos v (val e.time - val s)) (posAfter L e u) := by
  cases e with
  | start t a w => rw [hsm u hm] at hv; cases hv
  | snap t d x =>
      have hmv := isMoving_of_some hv
      simp only [posAfter, hmv, if_true, Ev.time]
      refine (timeSlice_pos_cong t hL hw hv hs).trans ?_
      exact setCoord_cong L _ d x (timeSlice_wfu L t u hw).1 (fun h h' => hsm u hm hmv h h')
  | _ => exact timeSlice_pos_cong _ hL hw hv hs

/-- One leg of the event loop (`mediator.run`), reduced to what matters for the order of the committed times.
State: the time of the last commit and the multiset of live candidate times in the scheduler.
The scheduler returns a minimal live candidate `m` (C06); the leg trashes a sub-multiset `removed` of the
live candidates that contains `m`, keeps the others, and pushes new candidates, each normalised and not
before `m` (C14 `add_ge`: they are `time stamp of the moving unit + non-negative displacement`, and that time
stamp is the time of the last commit by the chain invariant). -/
inductive Leg : Time ℚ × List (Time ℚ) → Time ℚ × List (Time ℚ) → Prop
  | mk (now m : Time ℚ) (pending removed kept new : List (Time ℚ)) :
      m ∈ pending → (∀ p ∈ pending, Time.le m p = true) → List.Perm pending (removed ++ kept) → m ∈ removed →
      (∀ c ∈ new, Normalised c ∧ Time.le m c = true) → Leg (now, pending) (m, kept ++ new)

/-- a run of the leg loop together with the list of committed times -/
inductive Legs : Time ℚ × List (Time ℚ) → List (Time ℚ) → Time ℚ × List (Time ℚ) → Prop
  | nil (s : Time ℚ × List (Time ℚ)) : Legs s [] s
  | cons {s s' s'' : Time ℚ × List (Time ℚ)} {ts : List (Time ℚ)} : Leg s s' → Legs s' ts s'' → Legs s (s'.1 :: ts) s''

/-- invariant of the leg loop: no live candidate lies before the last commit -/
def LegInv (s : Time ℚ × List (Time ℚ)) : Prop :=
  Normalised s.1 ∧ ∀ p ∈ s.2, Normalised p ∧ Time.le s.1 p = true

theorem Leg.inv {s s' : Time ℚ × List (Time ℚ)} (h : Leg s s') (hi : LegInv s) :
    LegInv s' ∧ Time.le s.1 s'.1 = true := by
  cases h with
  | mk now m pending removed kept new hm hmin hperm hrem hnew =>
      obtain ⟨hn, hp⟩ := hi
      refine ⟨⟨(hp m hm).1, ?_⟩, (hp m hm).2⟩
      intro p hp'
      rcases List.mem_append.mp hp' with hk | hk
      · have : p ∈ pending := hperm.mem_iff.mpr (List.mem_append_right _ hk)
        exact ⟨(hp p this).1, hmin p this⟩
      · exact hnew p hk

theorem Legs.sorted {s s' : Time ℚ × List (Time ℚ)} {ts : List (Time ℚ)} (h : Legs s ts s') (hi : LegInv s) :
    (∀ x ∈ ts, Normalised x ∧ Time.le s.1 x = true) ∧ List.Pairwise (fun a b => Time.le a b = true) ts ∧ LegInv s' := by
  induction h with
  | nil s => exact ⟨by simp, List.Pairwise.nil, hi⟩
  | cons hl _ ih =>
      obtain ⟨hi', hle⟩ := hl.inv hi
      obtain ⟨h1, h2, h3⟩ := ih hi'
      refine ⟨?_, List.Pairwise.cons (fun x hx => (h1 x hx).2) h2, h3⟩
      intro x hx
      rcases List.mem_cons.mp hx with rfl | hx
      · exact ⟨hi'.1, hle⟩
      · exact ⟨(h1 x hx).1, (le_iff _ _ hi.1 (h1 x hx).1).mpr
          (le_trans ((le_iff _ _ hi.1 hi'.1).mp hle) ((le_iff _ _ hi'.1 (h1 x hx).1).mp (h1 x hx).2))⟩

/-! data of the non-vacuity examples of `JF/Props/C07.lean` -/
namespace Ex
def L0 : List ℚ := [4, 3]
def us0 : List (PUnit ℚ) := [⟨[1, 1], none, none⟩, ⟨[3, 2], none, none⟩, ⟨[0, 5/2], none, none⟩]
def t0 : Time ℚ := ⟨0, 0⟩
def t1 : Time ℚ := ⟨1, 1/2⟩
def t2 : Time ℚ := ⟨3, 0⟩
def t3 : Time ℚ := ⟨3, 1/4⟩
def t4 : Time ℚ := ⟨5, 0⟩
/-- start unit 0 along x; sample; unit 0 reaches the upper cell boundary `x = 4 ≡ 0`; it hits unit 1; the chain ends
and unit 2 goes on along y -/
def evs : List (Ev ℚ) :=
  [.start t0 0 [1, 0], .keep t1, .snap t2 0 0, .lift t3 1, .endOfChain t4 2 [0, 1]]
theorem posBox : PosBox L0 := by intro l hl; simp [L0] at hl; rcases hl with rfl | rfl <;> norm_num
theorem wf0 : WF L0 us0 := by intro u hu; simp [us0] at hu; rcases hu with rfl | rfl | rfl <;> simp [WFU, L0]
theorem inBox0 : ∀ u ∈ us0, InBox L0 u.pos := by
  intro u hu; simp [us0] at hu; rcases hu with rfl | rfl | rfl <;> norm_num [InBox, L0]
theorem rest0 : ∀ u ∈ us0, u.vel = none := by
  intro u hu; simp [us0] at hu; rcases hu with rfl | rfl | rfl <;> rfl
end Ex

end Kin
end JF
