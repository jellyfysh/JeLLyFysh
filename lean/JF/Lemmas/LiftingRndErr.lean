import JF.Lemmas.LiftingRnd
import JF.Lemmas.Lifting
import JF.Lemmas.RoundedErr
import Mathlib.Tactic.Positivity
/-!
Error analysis for `JF/Props/C05Float.lean`: how far the rounded quantities of the lifting walk (`R fm`, any
`fm : FloatModel`) are from the exact ones of `JF/Lemmas/Lifting.lean` (`ℚ`): the loop's running sums, `_random_position`,
the position each scheme hands to the loop, and the index read. There is one accumulation loop (`acc_err`, one `step_err` per
entry): `_random_position` is that loop over the positive entries followed by the rounded product as one more term. The
sums go through `add_approx` (a rounded sum of two approximations), the products through `rnd_err_abs`.
-/
namespace JF.Lifting
set_option linter.unusedSectionVars false
open R

variable {fm : FloatModel} {ι : Type}

/-- the classical accumulated relative error of `k` roundings (`≤ 2·k·eps` when `k·eps ≤ 1`, `gam_le_linear`) -/
def gam (fm : FloatModel) (k : ℕ) : ℚ := (1 + fm.eps) ^ k - 1

/-- absolute error of ONE rounding in the subnormal range (the product `lifting_rate * random()` can be subnormal; sums
of representable numbers cannot lose anything there) -/
def tau (fm : FloatModel) : ℚ := (1 + fm.eps) * max fm.tiny 0

theorem one_le_ope (fm : FloatModel) : (1 : ℚ) ≤ 1 + fm.eps := by linarith [fm.eps_nonneg]

theorem one_add_gam (fm : FloatModel) (k : ℕ) : 1 + gam fm k = (1 + fm.eps) ^ k := by unfold gam; ring

theorem gam_zero (fm : FloatModel) : gam fm 0 = 0 := by simp [gam]

theorem gam_succ (fm : FloatModel) (k : ℕ) : gam fm (k + 1) = fm.eps + (1 + fm.eps) * gam fm k := by
  unfold gam; ring

theorem gam_mono (fm : FloatModel) {j k : ℕ} (h : j ≤ k) : gam fm j ≤ gam fm k := by
  unfold gam
  have := pow_le_pow_right₀ (one_le_ope fm) h
  linarith

theorem gam_nonneg (fm : FloatModel) (k : ℕ) : 0 ≤ gam fm k := by
  have := gam_mono fm (Nat.zero_le k)
  rwa [gam_zero] at this

theorem tau_nonneg (fm : FloatModel) : 0 ≤ tau fm :=
  mul_nonneg (by linarith [fm.eps_nonneg]) (le_max_right _ _)

theorem pow_le_quad {x : ℚ} (hx : 0 ≤ x) (k : ℕ) : (k : ℚ) * x ≤ 1 → (1 + x) ^ k ≤ 1 + k * x + (k * x) ^ 2 := by
  induction k with
  | zero => simp
  | succ k ih =>
    intro h
    have hk : (k : ℚ) * x ≤ 1 := (mul_le_mul_of_nonneg_right (Nat.cast_le.2 (Nat.le_succ k)) hx).trans h
    have hk0 : (0 : ℚ) ≤ k := Nat.cast_nonneg k
    have h1 : (1 + x) ^ (k + 1) ≤ (1 + k * x + (k * x) ^ 2) * (1 + x) := by
      rw [pow_succ]; exact mul_le_mul_of_nonneg_right (ih hk) (by linarith)
    -- the difference of the two quadratics is `(k x² − k² x³) + x²`
    have h2 : (k : ℚ) * x * (k * x * x) ≤ 1 * (k * x * x) :=
      mul_le_mul_of_nonneg_right hk (mul_nonneg (mul_nonneg hk0 hx) hx)
    have h3 : 0 ≤ x * x := mul_nonneg hx hx
    push_cast
    linarith

theorem gam_le_linear (fm : FloatModel) (k : ℕ) (h : (k : ℚ) * fm.eps ≤ 1) : gam fm k ≤ 2 * k * fm.eps := by
  have h1 := pow_le_quad fm.eps_nonneg k h
  have h0 : 0 ≤ (k : ℚ) * fm.eps := mul_nonneg (Nat.cast_nonneg k) fm.eps_nonneg
  have h2 : ((k : ℚ) * fm.eps) ^ 2 ≤ (k : ℚ) * fm.eps := by
    rw [pow_two]; exact mul_le_of_le_one_left h0 h
  unfold gam
  linarith

/-- one rounding of any number up to `huge`: relative error `eps` plus, below the normal range, at most `tau` -/
theorem rnd_err_abs (fm : FloatModel) (ht : fm.tiny ≤ fm.huge) {x : ℚ} (hx : |x| ≤ fm.huge) :
    |fm.rnd x - x| ≤ fm.eps * |x| + tau fm := by
  have key : ∀ y : ℚ, 0 ≤ y → y ≤ fm.huge → |fm.rnd y - y| ≤ fm.eps * y + tau fm := by
    intro y hy0 hyh
    rcases le_or_gt fm.tiny y with h | h
    · have := fm.rel_err y (by rwa [abs_of_nonneg hy0]) (by rwa [abs_of_nonneg hy0])
      rw [abs_of_nonneg hy0] at this
      exact this.trans (le_add_of_nonneg_right (tau_nonneg fm))
    · have ht0 : 0 < fm.tiny := lt_of_le_of_lt hy0 h
      have h1 : 0 ≤ fm.rnd y := fm.rnd_nonneg hy0
      have h2 : fm.rnd y ≤ fm.rnd fm.tiny := fm.rnd_mono h.le
      have h3 := fm.rel_err fm.tiny (by rw [abs_of_pos ht0]) (by rwa [abs_of_pos ht0])
      rw [abs_of_pos ht0] at h3
      have h4 := (abs_le.mp h3).2
      have h5 : tau fm = fm.tiny + fm.eps * fm.tiny := by
        unfold tau; rw [max_eq_left ht0.le]; ring
      have h6 : 0 ≤ fm.eps * y := mul_nonneg fm.eps_nonneg hy0
      have h7 : 0 ≤ fm.eps * fm.tiny := mul_nonneg fm.eps_nonneg ht0.le
      rw [abs_le]
      constructor <;> linarith
  rcases le_total 0 x with h | h
  · rw [abs_of_nonneg h] at hx ⊢
    exact key x h hx
  · rw [abs_of_nonpos h] at hx ⊢
    have := key (-x) (neg_nonneg.2 h) hx
    rw [fm.rnd_neg] at this
    rwa [show -fm.rnd x - -x = -(fm.rnd x - x) by ring, abs_neg] at this

/-- the same table with its rates read as exact rationals -/
def tblQ (tbl : List (R fm × ι)) : List (ℚ × ι) := tbl.map fun e => (toQ e.1, e.2)

@[simp] theorem tblQ_nil : tblQ ([] : List (R fm × ι)) = [] := rfl
@[simp] theorem tblQ_cons (e : R fm × ι) (t : List (R fm × ι)) : tblQ (e :: t) = (toQ e.1, e.2) :: tblQ t := rfl
@[simp] theorem tblQ_length (tbl : List (R fm × ι)) : (tblQ tbl).length = tbl.length := by simp [tblQ]
theorem tblQ_take (tbl : List (R fm × ι)) (a : ℕ) : tblQ (tbl.take a) = (tblQ tbl).take a := by
  simp [tblQ, List.map_take]
theorem tblQ_getElem (tbl : List (R fm × ι)) {a : ℕ} (ha : a < tbl.length) :
    ((tblQ tbl)[a]'(by simpa using ha)).1 = toQ (tbl[a]).1 := by simp [tblQ]

theorem NonNegR.tblQ {l : List (R fm × ι)} (h : NonNegR l) : NonNeg (tblQ l) := fun y hy => by
  obtain ⟨z, hz, rfl⟩ := List.mem_map.1 hy
  exact h z hz

theorem negL_toQ (tbl : List (R fm × ι)) : tblQ (negL (Ops.rounded fm) tbl) = negOf (tblQ tbl) := by
  induction tbl with
  | nil => simp [negL, negOf]
  | cons x t ih =>
    obtain ⟨r, i⟩ := x
    unfold negL
    simp only [tblQ_cons, negOf]
    have e : ((Ops.rounded fm).ofInt 0 < r) ↔ (0 : ℚ) < toQ r := by simp
    by_cases h : (0 : ℚ) < toQ r
    · rw [if_pos (e.mpr h), if_pos h]; exact ih
    · rw [if_neg (fun h' => h (e.mp h')), if_neg h]; simp [ih]

def InF (fm : FloatModel) (l : List (R fm × ι)) : Prop := ∀ e ∈ l, toQ e.1 ∈ fm.F

theorem negL_inF {tbl : List (R fm × ι)} (h : InF fm tbl) : InF fm (negL (Ops.rounded fm) tbl) := by
  intro e he
  obtain ⟨r, h1, _, h3⟩ := mem_negL _ he
  rw [h3, toQ_neg]
  exact fm.neg_mem (h _ h1)

theorem pow_add_le (fm : FloatModel) {j k : ℕ} (h : j ≤ k) {T : ℚ} (hT : 0 ≤ T) :
    (1 + fm.eps) ^ j * T ≤ (1 + fm.eps) ^ k * T :=
  mul_le_mul_of_nonneg_right (pow_le_pow_right₀ (one_le_ope fm) h) hT

theorem step_err (fm : FloatModel) {c r : R fm} {x T : ℚ} {j n : ℕ} (hc : toQ c ∈ fm.F) (hr : toQ r ∈ fm.F)
    (hx : 0 ≤ x) (hr0 : 0 ≤ toQ r) (he : |toQ c - x| ≤ gam fm j * T) (hT : x + toQ r ≤ T) (hjn : j ≤ n)
    (hH : (1 + fm.eps) ^ n * T ≤ fm.huge) :
    |toQ (c + r) - (x + toQ r)| ≤ gam fm (j + 1) * T := by
  have hT0 : 0 ≤ T := by linarith
  have hj := pow_add_le fm hjn hT0
  rw [← one_add_gam] at hj
  have h := fm.add_approx hc hr he (β := 0) (by rw [sub_self, abs_zero]) (M := T)
    (by rwa [abs_of_nonneg (add_nonneg hx hr0)]) (by linarith)
  rw [toQ_add, gam_succ]
  exact h.trans_eq (by ring)

/-- the loop's running sums against the exact partial sums `cumB`: one `step_err` per entry -/
theorem acc_err (fm : FloatModel) {T : ℚ} {l : List (R fm × ι)} (hF : InF fm l) (hN : NonNegR l)
    (hT : total (tblQ l) ≤ T) (hH : (1 + fm.eps) ^ l.length * T ≤ fm.huge) {k : ℕ} (hk : k ≤ l.length) :
    |toQ (acc l ((Ops.rounded fm).ofInt 0) k) - cumB (tblQ l) k| ≤ gam fm k * T := by
  induction k with
  | zero => simp [gam_zero]
  | succ k ih =>
    have hk : k < l.length := hk
    have hk' : k < (tblQ l).length := by rwa [tblQ_length]
    have hm := List.getElem_mem hk
    have h := step_err fm (acc_mem l _ zero_memR k) (hF _ hm) (cumB_nonneg hN.tblQ k) (hN _ hm) (ih hk.le)
      (by rw [← tblQ_getElem l hk, ← cumB_succ _ hk']; exact (cumB_le_total hN.tblQ _).trans hT) hk.le hH
    rwa [← acc_succ l _ hk, ← tblQ_getElem l hk, ← cumB_succ _ hk'] at h

theorem acc_nonneg {l : List (R fm × ι)} (hl : NonNegR l) (k : ℕ) :
    0 ≤ toQ (acc l ((Ops.rounded fm).ofInt 0) k) := by
  have := acc_mono hl ((Ops.rounded fm).ofInt 0) zero_memR (Nat.zero_le k)
  simpa using this

theorem total_posL (t : List (R fm × ι)) : total (tblQ (posL (Ops.rounded fm) t)) = posSum (tblQ t) := by
  induction t with
  | nil => rfl
  | cons x t ih =>
    have ih' : total (tblQ (t.filter fun e => decide (0 < toQ e.1))) = posSum (tblQ t) := by simpa [posL] using ih
    by_cases h : (0 : ℚ) < toQ x.1 <;> simp [posL, posSum_cons, h, ih']

/-- `_random_position` before the active unit against the exact `posSum`: the loop of `acc_err`, run over the positive
entries -/
theorem posAcc_err (fm : FloatModel) {T : ℚ} (t : List (R fm × ι)) (hF : InF fm t) (hT : posSum (tblQ t) ≤ T)
    (hH : (1 + fm.eps) ^ t.length * T ≤ fm.huge) :
    |toQ (posAcc (Ops.rounded fm) t ((Ops.rounded fm).ofInt 0)) - posSum (tblQ t)| ≤ gam fm t.length * T := by
  have hT0 : 0 ≤ T := (posSum_nonneg _).trans hT
  have hlen : (posL (Ops.rounded fm) t).length ≤ t.length := List.length_filter_le _ t
  have h := acc_err fm (T := T) (l := posL (Ops.rounded fm) t) (fun e he => hF e (List.mem_filter.mp he).1) (posL_nonneg t)
    (by rwa [total_posL])
    ((pow_add_le fm hlen hT0).trans hH) le_rfl
  rw [cumB_of_length_le _ (tblQ_length _).le, total_posL] at h
  rw [posAcc_eq_acc]
  exact h.trans (mul_le_mul_of_nonneg_right (gam_mono fm hlen) hT0)

theorem neumaier_mem (xs : List (R fm)) (f c : R fm) (hf : toQ f ∈ fm.F) :
    toQ (neumaier (Ops.rounded fm) xs f c) ∈ fm.F := by
  induction xs generalizing f c with
  | nil =>
    unfold neumaier
    split
    · rw [toQ_add]; exact fm.rnd_mem _
    · exact hf
  | cons x t ih =>
    unfold neumaier
    exact ih _ _ (by rw [toQ_add]; exact fm.rnd_mem _)

/-- the value of CPython's compensated `sum()` in the rounded reading is representable -/
theorem pySum_mem (xs : List (R fm)) : toQ (pySum (Ops.rounded fm) xs) ∈ fm.F := by
  cases xs with
  | nil => simpa [pySum] using fm.zero_mem
  | cons x t => exact neumaier_mem t _ _ (by rw [toQ_add]; exact fm.rnd_mem _)

theorem sumNeg_mem (tbl : List (R fm × ι)) : toQ (sumNeg (Ops.rounded fm) tbl) ∈ fm.F := pySum_mem _

/-- `_random_position` when `get_active_identifier` runs:
`fl(P̃ + fl(0.0 + fl(fl(q − 0.0) · u)))`, `P̃` the left-to-right rounded sum of the positive rates before `a`
(`self._random_position += lifting_rate`, then `+= random.uniform(0.0, lifting_rate)`, `uniform(a, b) = a + (b-a)*random()`) -/
theorem toQ_posIn {tbl : List (R fm × ι)} {a : Nat} (ha : a < tbl.length) (u : R fm) :
    toQ (posIn (Ops.rounded fm) tbl a u) =
      fm.rnd (toQ (posAcc (Ops.rounded fm) (tbl.take a) ((Ops.rounded fm).ofInt 0)) +
        fm.rnd (0 + fm.rnd (fm.rnd (toQ (tbl[a]).1 - 0) * toQ u))) := by
  simp [posIn, ha, pyUniform]

theorem specIn_mem {tbl : List (R fm × ι)} {a : ℕ} (ha : a < tbl.length) (hq : 0 < toQ (tbl[a]).1) {u : ℚ}
    (hu0 : 0 ≤ u) (hu1 : u ≤ 1) :
    0 ≤ posSum ((tblQ tbl).take a) + toQ (tbl[a]).1 * u ∧
      posSum ((tblQ tbl).take a) + toQ (tbl[a]).1 * u ≤ posSum (tblQ tbl) := by
  have h := posSum_take_add_le (tblQ tbl) (a := a) (by simpa using ha) (by rw [tblQ_getElem tbl ha]; exact hq)
  rw [tblQ_getElem tbl ha] at h
  have h0 := posSum_nonneg ((tblQ tbl).take a)
  have h1 := mul_nonneg hq.le hu0
  have h2 := mul_le_of_le_one_right hq.le hu1
  exact ⟨by linarith, by linarith⟩

/-- Inside first: the rounded `_random_position` against the exact `P_a + q_a·u`.  The rounded product `m = fl(q_a·u)` is a
representable number in `[0, q_a]`, so adding it is one more step of the loop over the positive entries (`step_err`:
`a + 1` roundings of numbers below `T`); its own, possibly subnormal, rounding error comes on top (`n` is any number of
roundings `≥ a + 2`, e.g. one that does not depend on the active unit). -/
theorem posIn_err (fm : FloatModel) (ht : fm.tiny ≤ fm.huge) {tbl : List (R fm × ι)} {a n : ℕ} (ha : a < tbl.length)
    (hn : a + 2 ≤ n) (hq : 0 < toQ (tbl[a]).1) (hF : InF fm tbl) (u : R fm) (hu0 : 0 ≤ toQ u) (hu1 : toQ u ≤ 1)
    {T : ℚ} (hT : posSum (tblQ tbl) ≤ T) (hH : (1 + fm.eps) ^ n * T + (1 + fm.eps) * tau fm ≤ fm.huge) :
    |toQ (posIn (Ops.rounded fm) tbl a u) - (posSum ((tblQ tbl).take a) + toQ (tbl[a]).1 * toQ u)|
        ≤ gam fm n * T + (1 + fm.eps) * tau fm ∧
      toQ (posIn (Ops.rounded fm) tbl a u) ∈ fm.F := by
  have hqF := hF _ (List.getElem_mem ha)
  rw [toQ_posIn ha]
  refine ⟨?_, fm.rnd_mem _⟩
  rw [sub_zero, fm.rnd_id _ hqF, zero_add, fm.rnd_id _ (fm.rnd_mem _)]
  have hPq := (specIn_mem ha hq zero_le_one le_rfl).2
  rw [mul_one] at hPq
  have hP0 := posSum_nonneg ((tblQ tbl).take a)
  have hqu0 : 0 ≤ toQ (tbl[a]).1 * toQ u := mul_nonneg hq.le hu0
  have hqu1 : toQ (tbl[a]).1 * toQ u ≤ toQ (tbl[a]).1 := mul_le_of_le_one_right hq.le hu1
  have hT0 : 0 ≤ T := (posSum_nonneg _).trans hT
  have hqT : toQ (tbl[a]).1 ≤ T := by linarith only [hPq, hP0, hT]
  have he0 := fm.eps_nonneg
  have hτ := tau_nonneg fm
  have hHn : (1 + fm.eps) ^ n * T ≤ fm.huge := by
    linarith only [hH, mul_nonneg (zero_le_one.trans (one_le_ope fm)) hτ]
  -- `a` roundings for the positive rates before the active unit
  have hlen : (tbl.take a).length = a := by simp; omega
  have hPF := (posAcc_mem_ge (tbl.take a) ((Ops.rounded fm).ofInt 0) zero_memR).1
  have hPe := posAcc_err fm (T := T) (tbl.take a) (fun x hx => hF x (List.mem_of_mem_take hx))
    (by rw [tblQ_take]; linarith only [hPq, hq, hT]) (by rw [hlen]; exact (pow_add_le fm (by omega) hT0).trans hHn)
  rw [hlen, tblQ_take] at hPe
  -- one more for adding the rounded product
  have hm1 : toQ ((tbl[a]).1 * u) ≤ toQ (tbl[a]).1 := fm.rnd_le_of_le hqF hqu1
  have hstep := step_err fm hPF (r := (tbl[a]).1 * u) (fm.rnd_mem _) hP0 (fm.rnd_nonneg hqu0) hPe
    (by linarith only [hm1, hPq, hT]) (show a ≤ n by omega) hHn
  -- the product's own rounding, possibly subnormal
  have hm := rnd_err_abs fm ht (x := toQ (tbl[a]).1 * toQ u) (by
    rw [abs_of_nonneg hqu0]
    exact (hqu1.trans hqT).trans ((le_mul_of_one_le_left hT0 (one_le_pow₀ (one_le_ope fm))).trans hHn))
  rw [abs_of_nonneg hqu0] at hm
  have hg : (gam fm (a + 1) + fm.eps) * T ≤ gam fm n * T := mul_le_mul_of_nonneg_right
    ((by linarith only [mul_nonneg he0 (gam_nonneg fm (a + 1)), gam_succ fm (a + 1)] :
      gam fm (a + 1) + fm.eps ≤ gam fm (a + 2)).trans (gam_mono fm hn)) hT0
  refine (abs_sub_le _ (posSum ((tblQ tbl).take a) + toQ ((tbl[a]).1 * u)) _).trans ?_
  rw [add_sub_add_left_eq_sub]
  exact (add_le_add hstep hm).trans (by
    linarith only [hg, mul_le_mul_of_nonneg_left (hqu1.trans hqT) he0, mul_nonneg he0 hτ])

/-- Outside first: the rounded reflected position `fl(sum(neg) − _random_position)` against the exact
`S − (P_a + q_a·u)`, for ANY value `S̃` of `sum(neg)` within `δ` of the exact sum `S` -/
theorem posOut_err (fm : FloatModel) (ht : fm.tiny ≤ fm.huge) {tbl : List (R fm × ι)} {a n : ℕ} (ha : a < tbl.length)
    (hn : a + 2 ≤ n) (hq : 0 < toQ (tbl[a]).1) (hF : InF fm tbl) (u u2 : R fm) (hu0 : 0 ≤ toQ u) (hu1 : toQ u ≤ 1)
    {T δ : ℚ} (hT : posSum (tblQ tbl) + total (negOf (tblQ tbl)) ≤ T)
    (hδ : |toQ (sumNeg (Ops.rounded fm) tbl) - total (negOf (tblQ tbl))| ≤ δ)
    (hH : (1 + fm.eps) ^ n * T + (1 + fm.eps) * tau fm + δ ≤ fm.huge) :
    |toQ (posOf (Ops.rounded fm) .outside tbl a u u2) -
        (total (negOf (tblQ tbl)) - (posSum ((tblQ tbl).take a) + toQ (tbl[a]).1 * toQ u))|
      ≤ fm.eps * T + (1 + fm.eps) * (δ + (gam fm n * T + (1 + fm.eps) * tau fm)) := by
  have hS0 : 0 ≤ total (negOf (tblQ tbl)) := total_nonneg (negOf_nonneg _)
  have hδ0 : 0 ≤ δ := (abs_nonneg _).trans hδ
  obtain ⟨hp0, hp1⟩ := specIn_mem ha hq hu0 hu1
  obtain ⟨hin, hinF⟩ := posIn_err fm ht ha hn hq hF u hu0 hu1 (T := T) ((le_add_of_nonneg_right hS0).trans hT)
    ((le_add_of_nonneg_right hδ0).trans hH)
  rw [← one_add_gam] at hH
  have h := fm.sub_approx (sumNeg_mem tbl) hinF hδ hin (M := T) (by rw [abs_le]; constructor <;> linarith)
    (by linarith)
  exact h.trans_eq (by ring)

/-- Ratio: `fl(0.0 + fl(fl(sum(neg) − 0.0)·u2))` against the exact `S·u2`, for ANY value of `sum(neg)` within `δ`
of the exact sum -/
theorem posRatio_err (fm : FloatModel) (ht : fm.tiny ≤ fm.huge) (tbl : List (R fm × ι)) (a : ℕ) (u u2 : R fm)
    (hu0 : 0 ≤ toQ u2) (hu1 : toQ u2 ≤ 1) {T δ : ℚ} (hT : total (negOf (tblQ tbl)) ≤ T)
    (hδ : |toQ (sumNeg (Ops.rounded fm) tbl) - total (negOf (tblQ tbl))| ≤ δ) (hH : T + δ ≤ fm.huge) :
    |toQ (posOf (Ops.rounded fm) .ratio tbl a u u2) - total (negOf (tblQ tbl)) * toQ u2|
      ≤ fm.eps * (T + δ) + tau fm + δ := by
  have hS0 : 0 ≤ total (negOf (tblQ tbl)) := total_nonneg (negOf_nonneg _)
  have he0 := fm.eps_nonneg
  have hpos : toQ (posOf (Ops.rounded fm) .ratio tbl a u u2) =
      fm.rnd (toQ (sumNeg (Ops.rounded fm) tbl) * toQ u2) := by
    simp only [posOf, pyUniform, toQ_add, toQ_mul, toQ_sub, rounded_ofInt, Int.cast_zero, sub_zero, zero_add]
    rw [fm.rnd_id _ (sumNeg_mem tbl), fm.rnd_id _ (fm.rnd_mem _)]
  rw [hpos]
  set S := total (negOf (tblQ tbl))
  set St := toQ (sumNeg (Ops.rounded fm) tbl)
  have h1 := abs_le.mp hδ
  have hSt : |St| ≤ T + δ := by rw [abs_le]; constructor <;> linarith
  have hx : |St * toQ u2| ≤ T + δ := by
    rw [abs_mul, abs_of_nonneg hu0]
    exact (mul_le_of_le_one_right (abs_nonneg _) hu1).trans hSt
  have hr' : |fm.rnd (St * toQ u2) - St * toQ u2| ≤ fm.eps * (T + δ) + tau fm :=
    (rnd_err_abs fm ht (hx.trans hH)).trans (add_le_add (mul_le_mul_of_nonneg_left hx he0) le_rfl)
  have hd : |St * toQ u2 - S * toQ u2| ≤ δ := by
    rw [← sub_mul, abs_mul, abs_of_nonneg hu0]
    exact (mul_le_of_le_one_right (abs_nonneg _) hu1).trans hδ
  exact (abs_sub_le _ _ _).trans (add_le_add hr' hd)

/-- `sel_spec_R` against the EXACT partial sums `N_k = cumB k`: the position is above `N_k − gam k·T` (unless `k = 0`) and
at most `N_{k+1} + gam (k+1)·T` (unless `k` is the last index, which is also read on a fall-through). -/
theorem sel_sandwich (fm : FloatModel) {l : List (R fm × ι)} (hne : l ≠ []) (hl : NonNegR l) (hF : InF fm l)
    (p : R fm) {T : ℚ} (hT : total (tblQ l) ≤ T) (hH : (1 + fm.eps) ^ l.length * T ≤ fm.huge) :
    (sel (Ops.rounded fm) p l = 0 ∨
        cumB (tblQ l) (sel (Ops.rounded fm) p l) - gam fm (sel (Ops.rounded fm) p l) * T < toQ p) ∧
      (sel (Ops.rounded fm) p l = l.length - 1 ∨
        toQ p ≤ cumB (tblQ l) (sel (Ops.rounded fm) p l + 1) + gam fm (sel (Ops.rounded fm) p l + 1) * T) := by
  have hk := sel_lt (Ops.rounded fm) p hne
  obtain ⟨h1, h2⟩ := sel_spec_R hne hl p
  refine ⟨h1.imp_right fun h => ?_, h2.symm.imp (fun h => h.1) fun h => ?_⟩
  · linarith [(abs_le.mp (acc_err fm hF hl hT hH hk.le)).1]
  · linarith [(abs_le.mp (acc_err fm hF hl hT hH (Nat.succ_le_of_lt hk))).2]

end JF.Lifting
