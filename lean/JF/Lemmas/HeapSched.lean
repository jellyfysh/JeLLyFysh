import JF.Model.Sched
import JF.Lemmas.HeapInsert
import JF.Lemmas.HeapDown
/-!
Refinement of the model of `HeapScheduler` (`heap_scheduler.py`) against the plain reference model
"current event of each handler" (`Live`). The list scheduler is in `Lemmas/HeapList.lean`.
-/
namespace JF.Sched
open JF.Heap
variable {κ : Type} {cfg : Cfg κ}

theorem lookup_filter_ne (m : MV) (h h' : Nat) (hne : h' ≠ h) :
    List.lookup h' (m.filter (fun p => p.1 != h)) = List.lookup h' m := by
  induction m with
  | nil => rfl
  | cons p m ih =>
    obtain ⟨a, b⟩ := p
    by_cases ha : a = h
    · subst ha
      have : (h' == a) = false := by simpa using hne
      simp [List.filter, List.lookup, this, ih]
    · have : ((a, b).1 != h) = true := by simpa using ha
      simp only [List.filter, this, List.lookup]
      split <;> simp_all

theorem mvGet_mvSet (m : MV) (h v h' : Nat) :
    mvGet (mvSet m h v) h' = if h' = h then some v else mvGet m h' := by
  unfold mvGet mvSet
  by_cases hh : h' = h
  · subst hh; simp [List.lookup]
  · have : (h' == h) = false := by simpa using hh
    simp [List.lookup, this, hh, lookup_filter_ne m h h' hh]

/-- the plain reference model of the property: the current (pushed, not trashed) event of each handler -/
abbrev Live (κ : Type) := Nat → Option κ

def Live.set (l : Live κ) (h : Nat) (v : Option κ) : Live κ := fun x => if x = h then v else l x

structure Rel (cfg : Cfg κ) (W : Nat) (s : HSched κ) (live : Live κ) : Prop where
  inv : Inv cfg s.heap
  cnt : ∀ e, Mem cfg s.heap e → e.h ≠ 0 ∧ e.c < W ∧ ∃ m, mvGet s.mv e.h = some m ∧ e.c ≤ m
  cur : ∀ h t, (live h = some t ∧ cfg.finite t = true) ↔
    ∃ m, mvGet s.mv h = some m ∧ Mem cfg s.heap ⟨t, h, m⟩

theorem rel_init (cfg : Cfg κ) (W : Nat) : Rel cfg W (HSched.init cfg) (fun _ => none) := by
  refine ⟨inv_empty cfg, fun e h => absurd h (not_mem_empty cfg e), fun h t => ?_⟩
  constructor
  · rintro ⟨h, _⟩; cases h
  · rintro ⟨m, _, h⟩; exact absurd h (not_mem_empty cfg _)

/-- both branches of `push_event`: `⟨t, h, c⟩` is inserted into a heap of old entries that holds all those of other handlers
and of `h` only smaller counters; the dictionary has `c` for `h` and is unchanged elsewhere -/
theorem push_core (o : StrictWeak cfg) {W : Nat} {s : HSched κ} {live : Live κ} (R : Rel cfg W s live) {t : κ} {h : Nat}
    (h0 : h ≠ 0) (hf : cfg.finite t = true) {hp0 : CHeap κ} {mv : MV} {c : Nat} (I0 : Inv cfg hp0)
    (sub : ∀ e, Mem cfg hp0 e → Mem cfg s.heap e) (sup : ∀ e, Mem cfg s.heap e → e.h ≠ h → Mem cfg hp0 e)
    (old : ∀ e, Mem cfg hp0 e → e.h = h → e.c < c) (hcW : c < W) (g1 : mvGet mv h = some c)
    (g2 : ∀ h', h' ≠ h → mvGet mv h' = mvGet s.mv h') :
    Rel cfg W { s with mv := mv, heap := insert cfg hp0 t h c } (live.set h (some t)) := by
  obtain ⟨I', M', _⟩ := insert_spec o t h c I0
  refine ⟨I', fun e he => ?_, fun h' t' => ?_⟩
  · rcases (M' e).1 he with rfl | he
    · exact ⟨h0, hcW, c, g1, Nat.le_refl _⟩
    · obtain ⟨a, b, m, hm, hle⟩ := R.cnt e (sub e he)
      by_cases heh : e.h = h
      · exact ⟨a, b, c, by rw [heh]; exact g1, Nat.le_of_lt (old e he heh)⟩
      · exact ⟨a, b, m, by rw [g2 _ heh]; exact hm, hle⟩
  · by_cases hh : h' = h
    · subst hh
      simp only [Live.set, if_true]
      constructor
      · rintro ⟨h1, _⟩
        cases h1
        exact ⟨c, g1, (M' _).2 (Or.inl rfl)⟩
      · rintro ⟨m, hm, hmem⟩
        rw [g1] at hm; cases hm
        rcases (M' _).1 hmem with he | he
        · cases he; exact ⟨rfl, hf⟩
        · exact absurd (old _ he rfl) (Nat.lt_irrefl _)
    · simp only [Live.set, hh, if_false]
      rw [R.cur h' t', g2 _ hh]
      constructor
      · rintro ⟨m, hm, hmem⟩; exact ⟨m, hm, (M' _).2 (Or.inr (sup _ hmem hh))⟩
      · rintro ⟨m, hm, hmem⟩
        rcases (M' _).1 hmem with he | he
        · cases he; exact absurd rfl hh
        · exact ⟨m, hm, sub _ he⟩

theorem push_rel (o : StrictWeak cfg) {W : Nat} (hW : 0 < W) {s : HSched κ} {live : Live κ}
    (R : Rel cfg W s live) (t : κ) {h : Nat} (h0 : h ≠ 0) (hl : live h = none) :
    Rel cfg W (s.push cfg W t h) (live.set h (some t)) := by
  unfold HSched.push
  by_cases hf : cfg.finite t = true
  · simp only [hf, if_true]
    -- the dictionary after `setdefault`
    generalize hmv' : mvSetDefault s.mv h 0 = mv'
    generalize hc : (mvGet s.mv h).getD 0 = c
    have g1 : mvGet mv' h = some c := by
      rw [← hmv', ← hc]; unfold mvSetDefault
      cases hm : mvGet s.mv h with
      | none => simp [mvGet_mvSet]
      | some m => simp [hm]
    have g2 : ∀ h', h' ≠ h → mvGet mv' h' = mvGet s.mv h' := by
      intro h' hne
      rw [← hmv']; unfold mvSetDefault
      cases hm : mvGet s.mv h with
      | none => simp [mvGet_mvSet, hne]
      | some m => rfl
    by_cases hcW : c < W
    · simp only [hcW, if_true]
      refine push_core o R h0 hf R.inv (fun _ he => he) (fun _ he _ => he) (fun e he heh => ?_) hcW g1 g2
      -- an entry of `h` has a counter `≤ c`, and `= c` would make it the current event of the idle handler `h`
      obtain ⟨_, _, m, hm, hle⟩ := R.cnt e he
      rw [heh] at hm
      have hmc : m = c := by rw [← hc, hm]; rfl
      refine Nat.lt_of_le_of_ne (hmc ▸ hle) fun hec => ?_
      have := (R.cur h e.key).2 ⟨m, hm, by rw [hmc, ← hec, ← heh]; exact he⟩
      rw [hl] at this; cases this.1
    · simp only [hcW, if_false]
      obtain ⟨I1, M1⟩ := deleteEvents_spec o h R.inv
      exact push_core o R h0 hf I1 (fun e he => ((M1 e).1 he).1) (fun e he hne => (M1 e).2 ⟨he, hne⟩)
        (fun e he heh => absurd heh ((M1 e).1 he).2) hW (by simp [mvGet_mvSet])
        (fun h' hne => by simp only [mvGet_mvSet, hne, if_false]; exact g2 h' hne)
  · simp only [hf, Bool.false_eq_true, if_false]
    refine ⟨R.inv, R.cnt, fun h' t' => ?_⟩
    by_cases hh : h' = h
    · subst hh
      simp only [Live.set, if_true]
      constructor
      · rintro ⟨h1, h2⟩; cases h1; exact absurd h2 hf
      · rintro ⟨m, hm, hmem⟩
        have := (R.cur h' t').2 ⟨m, hm, hmem⟩
        rw [hl] at this; cases this.1
    · simp only [Live.set, hh, if_false]; exact R.cur h' t'

theorem trash_rel {W : Nat} {s : HSched κ} {live : Live κ} (R : Rel cfg W s live) (h : Nat) :
    Rel cfg W (s.trash h) (live.set h none) := by
  unfold HSched.trash
  refine ⟨R.inv, ?_, ?_⟩
  · intro e he
    obtain ⟨a, b, m, hm, hle⟩ := R.cnt e he
    refine ⟨a, b, ?_⟩
    simp only [mvGet_mvSet]
    by_cases heh : e.h = h
    · simp only [heh, if_true]
      rw [heh] at hm
      exact ⟨_, rfl, by rw [hm]; simp; omega⟩
    · simp only [heh, if_false]; exact ⟨m, hm, hle⟩
  · intro h' t'
    simp only [mvGet_mvSet]
    by_cases hh : h' = h
    · subst hh
      simp only [Live.set, if_true]
      constructor
      · rintro ⟨h1, _⟩; cases h1
      · rintro ⟨m, hm, hmem⟩
        cases hm
        obtain ⟨_, _, m, hm, hle⟩ := R.cnt _ hmem
        simp only at hm hle
        rw [hm] at hle; simp at hle; omega
    · simp only [Live.set, hh, if_false]; exact R.cur h' t'

/-- what `get_succeeding_event` of the heap scheduler returns, in terms of the reference model -/
def GetOK (cfg : Cfg κ) (live : Live κ) : GetRes κ → Prop
  | .ok h t | .guard h t =>
    live h = some t ∧ cfg.finite t = true ∧
    ∀ h' t', live h' = some t' → cfg.finite t' = true → cfg.lt t' t = false
  | .empty => ∀ h t, live h = some t → cfg.finite t = false

theorem get_heap (s : HSched κ) : (s.get cfg).1.heap = (root cfg (deadCb s.mv) s.heap).1 := by
  unfold HSched.get
  generalize root cfg (deadCb s.mv) s.heap = rt
  obtain ⟨a, b⟩ := rt
  dsimp only
  split
  · rfl
  · split <;> rfl

theorem get_rel (o : StrictWeak cfg) {W : Nat} {s : HSched κ} {live : Live κ} (R : Rel cfg W s live) :
    Rel cfg W (s.get cfg).1 live ∧ GetOK cfg live (s.get cfg).2 ∧ (s.get cfg).1.mv = s.mv ∧
    (match (s.get cfg).2 with
     | .ok _ t => cfg.lt t s.last = false ∧ (s.get cfg).1.last = t
     | .guard _ t => cfg.lt t s.last = true ∧ (s.get cfg).1.last = s.last
     | .empty => (s.get cfg).1.last = s.last) := by
  obtain ⟨RS, hcase⟩ := root_spec o (deadCb s.mv) R.inv
  unfold HSched.get
  generalize root cfg (deadCb s.mv) s.heap = rt at RS hcase
  obtain ⟨heap', top⟩ := rt
  simp only at RS hcase ⊢
  have notdead : ∀ h m, mvGet s.mv h = some m → deadCb s.mv h m = false := by
    intro h m hm; simp [deadCb, hm]
  have R' : ∀ last, Rel cfg W ({ heap := heap', mv := s.mv, last := last } : HSched κ) live := by
    intro last
    refine ⟨RS.inv, fun e he => R.cnt e (RS.sub e he), fun h t => ?_⟩
    rw [R.cur h t]
    constructor
    · rintro ⟨m, hm, hmem⟩
      rcases RS.sup _ hmem with h' | h'
      · exact ⟨m, hm, h'⟩
      · simp only at h'; rw [notdead h m hm] at h'; cases h'
    · rintro ⟨m, hm, hmem⟩; exact ⟨m, hm, RS.sub _ hmem⟩
  rcases hcase with ⟨_, hmem, hnd, hmin⟩ | ⟨hlen, htop⟩
  · obtain ⟨a, b, m, hm, hle⟩ := R.cnt top (RS.sub _ hmem)
    have hcm : top.c = m := by
      simp only [deadCb, hm, decide_eq_false_iff_not] at hnd; omega
    have htop : top = ⟨top.key, top.h, m⟩ := by rw [← hcm]
    have hlive := ((R' s.last).cur top.h top.key).2 ⟨m, hm, by rw [← htop]; exact hmem⟩
    have hmin' : ∀ h' t', live h' = some t' → cfg.finite t' = true → cfg.lt t' top.key = false := by
      intro h' t' h1 h2
      obtain ⟨m', _, hmem'⟩ := ((R' s.last).cur h' t').1 ⟨h1, h2⟩
      exact hmin _ hmem'
    have hne : (top.h == 0) = false := by simpa using a
    rw [hne, if_neg (by simp)]
    cases hg : cfg.lt top.key s.last with
    | true => rw [if_pos rfl]; exact ⟨R' _, ⟨hlive.1, hlive.2, hmin'⟩, rfl, hg, rfl⟩
    | false => rw [if_neg (by simp)]; exact ⟨R' _, ⟨hlive.1, hlive.2, hmin'⟩, rfl, hg, rfl⟩
  · subst htop
    rw [if_pos (by simp [nullEntry])]
    refine ⟨R' _, ?_, rfl, rfl⟩
    intro h t h1
    cases hf : cfg.finite t with
    | false => rfl
    | true =>
      obtain ⟨m, _, i, h1', hiL, _⟩ := ((R' s.last).cur h t).1 ⟨h1, hf⟩
      simp only at hiL; omega
end JF.Sched
