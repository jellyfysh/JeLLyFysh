import JF.Model.SystemRun3
import JF.Lemmas.ConcreteWorld3
/-
For a `LeafOnly` wiring the mode premise of `Tr3` is vacuous: the mode `ModeWiring.mode` reads off ANY activation flags is `leaf`
(`leafOnly_mode`), and every event of a kind a handler class commits in leaf mode keeps the ghost mode `leaf` (`modeStep_leafOnly`).
Hence `TrRaw3L` — `TrRaw3` WITHOUT the mode premise and with the mode at the request of the candidate time fixed to `leaf` — implies
`TrRaw3` (`trRaw3_of_leafOnly`), and a run over it is a run over `Tr3` (`run_mono`).  Used by `JF/Props/SystemInv3.lean`.
-/
namespace JF.Sys3
open JF JF.Act JF.CW3 JF.Composite JF.C12

theorem leafOnly_hmode {mw : ModeWiring} (h : LeafOnly mw = true) {T : TaggerIdx} (hT : T < mw.w.n) : leafHM (mw.hmode T) = true := by
  unfold LeafOnly at h
  simp only [Bool.and_eq_true, beq_iff_eq] at h
  have hl : T < mw.hm.length := h.1 ▸ hT
  unfold ModeWiring.hmode
  rw [List.getElem?_eq_getElem hl]
  exact List.all_eq_true.mp h.2 _ (List.getElem_mem hl)

theorem leafOnly_hmode' {mw : ModeWiring} (h : LeafOnly mw = true) (T : TaggerIdx) :
    leafHM (mw.hmode T) = true ∨ mw.hmode T = .unknown := by
  by_cases hT : T < mw.w.n
  · exact Or.inl (leafOnly_hmode h hT)
  · right
    unfold LeafOnly at h
    simp only [Bool.and_eq_true, beq_iff_eq] at h
    unfold ModeWiring.hmode
    rw [List.getElem?_eq_none (by rw [h.1]; exact Nat.le_of_not_lt hT)]
    rfl

theorem definite_leafHM {h : HMode} (hh : leafHM h = true ∨ h = .unknown) : definite h = none ∨ definite h = some .leaf := by
  rcases hh with hh | rfl
  · cases h with
    | start b => exact Or.inl rfl
    | switcher b => simp [leafHM] at hh
    | rootUnit => simp [leafHM] at hh
    | unknown => simp [leafHM] at hh
    | leafUnit => exact Or.inr rfl
    | _ => exact Or.inl rfl
  · exact Or.inl rfl

theorem findSome_leaf {β : Type} (f : β → Option WMode) (l : List β) (hf : ∀ x, f x = none ∨ f x = some .leaf) :
    (l.findSome? f).getD .leaf = .leaf := by
  induction l with
  | nil => rfl
  | cons x xs ih =>
    rw [List.findSome?_cons]
    rcases hf x with h | h <;> rw [h]
    · exact ih
    · rfl

theorem leafOnly_startMode {mw : ModeWiring} (h : LeafOnly mw = true) : mw.startMode = .leaf := by
  unfold ModeWiring.startMode
  cases hs : mw.w.start? with
  | none => rfl
  | some S =>
    simp only
    rcases leafOnly_hmode' h S with hh | hh
    · revert hh
      cases mw.hmode S with
      | start b => cases b <;> simp [leafHM, startModeOf]
      | _ => simp [startModeOf]
    · rw [hh]; rfl

theorem leafOnly_mode {mw : ModeWiring} (h : LeafOnly mw = true) (σ : AState) : mw.mode σ = .leaf := by
  unfold ModeWiring.mode modeOf
  rw [leafOnly_startMode h]
  exact findSome_leaf _ _ fun T => definite_leafHM (leafOnly_hmode' h T)

theorem modeStep_leafOnly {hmd : HMode} (hh : leafHM hmd = true) {e : Composite.Ev ℚ} (hk : CW2.evKind e ∈ kindsOf hmd .leaf)
    (hs : CW2.evKind e ≠ .start) : modeStep .leaf e = some .leaf := by
  cases hmd with
  | start b => simp [kindsOf] at hk; exact absurd hk hs
  | switcher b => simp [leafHM] at hh
  | rootUnit => simp [leafHM] at hh
  | unknown => simp [leafHM] at hh
  | neutral => cases e <;> simp [kindsOf, CW2.evKind] at hk <;> rfl
  | endOfChain => cases e <;> simp [kindsOf, CW2.evKind] at hk <;> rfl
  | cellBoundary => cases e <;> simp [kindsOf, CW2.evKind] at hk <;> rfl
  | leafUnit => cases e <;> simp [kindsOf, CW2.evKind] at hk <;> rfl

/-- one commit by a handler of tagger `E` in a leaf-only configuration, WITHOUT a mode premise: the `Composite.step` of a weakly
admissible event — not a second start — of a kind the handler class of `E` commits in leaf mode (the hypothesis `hkind` of
`JF/Props/ModeDiscipline.lean`, with the mode at the request of the candidate time = the mode of the flags = `leaf`), then the update of
every internal state, with the C11 history premise `StaysInRecordedCell` as in `TrRaw3`.  The ghost mode component of the states is the constant `leaf`. -/
def TrRaw3L (env : Env ℚ) (mw : ModeWiring) (E : TaggerIdx) (s s' : St3) : Prop :=
  E < mw.w.n ∧ s.mode = .leaf ∧ s'.mode = .leaf
  ∧ (∃ e : Composite.Ev ℚ, CW2.evKind e ∈ kindsOf (mw.hmode E) .leaf ∧ CW2.evKind e ≠ .start ∧
      AdmW env.base.d env.base.L s.cs e ∧ s'.cs = step Ops.rat isZ env.base.L s.cs e)
  ∧ OccsUpdated env mw.w.labels.length s.occs s'.occs s'.cs
  ∧ (∀ l, l < mw.w.labels.length → affects (mw.w.tagger E) (.cell l) = false →
      StaysInRecordedCell env.base.nPer (env.oe l) (getOcc s.occs l) s'.cs)

def Tr3L (env : Env ℚ) (mw : ModeWiring) (E : TaggerIdx) (g g' : G3 env mw) : Prop := TrRaw3L env mw E g.1 g'.1

theorem trRaw3_of_leafOnly {env : Env ℚ} {mw : ModeWiring} (h : LeafOnly mw = true) {E : TaggerIdx} {s s' : St3}
    (htr : TrRaw3L env mw E s s') : TrRaw3 env mw E s s' := by
  obtain ⟨hE, hm, hm', ⟨e, hk, hs, ha, hcs⟩, hocc, hp⟩ := htr
  refine ⟨⟨e, .leaf, hk, ?_, ha, hcs⟩, hocc, hp⟩
  show modeStep s.mode e = some s'.mode
  rw [hm, hm']
  exact modeStep_leafOnly (leafOnly_hmode h hE) hk hs

theorem run_mono {G : Type} {c : Wiring} {W : World G} {Tr Tr' : TaggerIdx → G → G → Prop} {S : TaggerIdx}
    (hmono : ∀ E g g', Tr E g g' → Tr' E g g') {rs : RS G} (h : Run c W Tr S rs) : Run c W Tr' S rs := by
  induction h with
  | start ids0 g0 g1 s0 out rs1 hfirst hcommit => exact .start ids0 g0 g1 s0 out rs1 hfirst hcommit
  | step rs rs' E g' _ hpending hend htr hcommit ih => exact .step rs rs' E g' ih hpending hend (hmono _ _ _ htr) hcommit

end JF.Sys3
