import JF.Props.C09PoolsClosed
import JF.Props.ModeDiscipline
import JF.Lemmas.RunChk
/-!
C09, last clause (no `TagActivatorError`): a concrete multi-leg run `Reach2` of `dipoles/dipole_motion.ini` (two dipoles, exact reading) as
non-vacuity witness for part B of `JF/Props/C09PoolsClosed.lean`.

The two dipoles `exC0`, `exC1` of `JF/Props/C12.lean` in the unit square, the composite events of `JF.C12.ModeExample.es`
(`JF/Props/ModeDiscipline.lean`), as legs of the COMPOSED MEDIATOR LOOP (`JF.Med.leg`, every leg computed by `decide +kernel`):
start of run at 0 (point mass (0, 0) starts with velocity (1, 0)) — `leaf_to_root` at 1/4 (`toRoot`: dipole 0 moves as a whole) —
`coulomb_root` at 1/2 (`pass`: dipole 0 hands its velocity to dipole 1) — `end_of_chain` at 3/4, candidate requested in root mode
(`eocRoot`: dipole 1 stops, dipole 0 starts with velocity (0, 1)) — `root_to_leaf` at 1 (`toLeaf`: point mass (0, 1) goes on alone) —
`harmonic_leaf` at 5/4 (`exchange`: lifting (0, 1) → (0, 0)) — `end_of_chain` at 3/2, candidate requested in leaf mode (`eocLeaf`).
Both mode switches occur; the yields of every leg are COMPUTED from the state (`CW2.yieldCls`).
-/
namespace JF.C09Pools.Closed2.Example
open JF JF.Act JF.Act.Gen JF.Heap JF.Sched JF.Med JF.CW2 JF.C14 JF.MediatorLoop JF.Sys JF.Sys2 JF.Composite JF.C12 JF.SystemInv2
  JF.C09Pools JF.C09Pools.Gen

abbrev mw : ModeWiring := mcfg_dipoles_dipole_motion
abbrev cfg : Wiring := cfg_dipoles_dipole_motion
abbrev pc : PoolCfg := pool_dipoles_dipole_motion

/-- unit square, two point masses per dipole, the factor maps / factor types of the generated data of `dipole_motion.ini` -/
def env : CW2.Env ℚ := ⟨exL, 2, 2, pc.fs, pc.ftypeOf⟩

theorem box : BoxOK env.d env.L := exBox

/-- a handler has an in-state iff its tagger is not a `NoInStateTagger` -/
def needs : HandlerId → Bool := fun h =>
  match owner cfg.wires h with
  | some T => (cfg.tagger T).cls != .noInState
  | none => false

abbrev M : MWire := mwire cfg 10 needs

theorem hyp : Hyp2 env mw 10 := hyp2_dipole_motion env box

def s0 : Sys2 := Sys2.init mw [exC0, exC1]

theorem ex_uniform : Uniform env.nPer [exC0, exC1] := uniform_exC

theorem init0 : Init2 env mw s0 where
  med := rfl
  good := ex_initial
  unif := ex_uniform
  rest := ex_rest
  prev := rfl
  cmode := rfl

def legR (s : Sys2) (o : Oracle XTime) (h : (leg M (specI xcfg) s.med o).toOption.isSome = true) :
    MedState (SSched XTime) × Committed XTime := (leg M (specI xcfg) s.med o).toOption.get h

def nextS (s : Sys2) (o : Oracle XTime) (h : (leg M (specI xcfg) s.med o).toOption.isSome = true) (cs' : List (CObj ℚ)) : Sys2 :=
  ⟨(legR s o h).1, cs', assign s.ids (legR s o h).2.created, s.cs, midAct M s.med o,
    cmodeNext mw s.med.preceding s.cmode (midAct M s.med o)⟩

/-- the oracle of a leg: the yields are computed from the state, the candidate times are given -/
def mkO (cs : List (CObj ℚ)) (cand : HandlerId → XTime) : Oracle XTime :=
  ⟨fun T => CW2.yieldCls env T (cfg.tagger T).cls cs, cand⟩

/-- what is evaluated of a leg from state `s` that committed `c`: handler `H` of tagger `E` committed at time `t` and did not stop the
run, no handler created in the leg has a candidate before the last commit, and `k` is a kind of event that `E` commits in the mode
its candidate was requested in -/
abbrev LegOK (s : Sys2) (cand : HandlerId → XTime) (c : Committed XTime) (H : HandlerId) (t : Time ℚ) (E : TaggerIdx) (k : EvKind) :
    Prop :=
  c.handler = H ∧ c.time = .fin t ∧ c.stop = false ∧ (∀ q ∈ c.created, xcfg.lt (cand q.1) s.med.sched.last = false) ∧
  owner cfg.wires H = some E ∧
  k ∈ kindsOf (mw.hmode E) (cmodeNext mw s.med.preceding s.cmode (midAct M s.med (mkO s.cs cand)) E)

/-- `hc`, `hs`, `hcs` are the defining equations of `c`, `s'` and `cs'`: left to unification, the kernel compares `c` with the second
component of the leg's result by running the leg -/
theorem step_of (s : Sys2) (cand : HandlerId → XTime)
    (h : (leg M (specI xcfg) s.med (mkO s.cs cand)).toOption.isSome = true) (e : Composite.Ev ℚ) {c : Committed XTime} {s' : Sys2}
    (hc : c = (legR s _ h).2) {cs' : List (CObj ℚ)} (hs : s' = nextS s _ h cs') (hcs : cs' = step Ops.rat isZ env.L s.cs e)
    {H : HandlerId} {t : Time ℚ}
    {E : TaggerIdx} (ok : LegOK s cand c H t E (evKind e)) (hn : ∀ x, NormX (cand x)) (ht : evTime Ops.rat e = t)
    (ha : EvAdm2 env mw s.cs e) : SysStep2 env mw 10 needs s (mkO s.cs cand) c s' := by
  subst hc hcs hs
  exact {
    yields := rfl
    leg := MediatorLoop.Example.ok_of_toOption (Option.some_get h).symm
    cands := fun q hq => ⟨hn q.1, ok.2.2.2.1 q hq⟩
    ev := ⟨t, E, ok.2.1, by rw [ok.1]; exact ok.2.2.2.2.1, e, ok.2.2.2.2.2, ht, ha, rfl⟩
    ids' := rfl
    prev := rfl
    mid' := rfl
    cmode' := rfl }

theorem normX_fin (q : ℤ) (r : ℚ) (h0 : 0 ≤ r) (h1 : r < 1) : NormX (.fin ⟨q, r⟩) := ⟨⟨q, rfl⟩, h0, h1⟩

theorem normX_ite {p : Prop} [Decidable p] {a b : XTime} (ha : NormX a) (hb : NormX b) : NormX (if p then a else b) := by
  split
  · exact ha
  · exact hb

theorem evAdm_of {cs : List (CObj ℚ)} {e : Composite.Ev ℚ} (ha : AdmW env.d env.L cs e) (hs : ∀ i P v, e ≠ .start i P v) :
    EvAdm2 env mw cs e := ⟨ha, fun i P v h => absurd h (hs i P v)⟩

/-! the states the events of `JF.C12.ModeExample.es` meet, and their weak admissibility there -/

theorem adms : JF.C12.AdmWFree 2 exL (step Ops.rat isZ exL [exC0, exC1] (.start 0 [0] [1, 0])) JF.C12.ModeExample.es :=
  JF.C12.ModeExample.es_admWFree

/-! ## the seven legs

Every state is defined as the result of the leg before it, so every evaluation that mentions `sₖ` runs the first `k` legs again.
`hₖ` ("leg `k` succeeds") has to precede the definition of `sₖ`.  The kernel therefore computes the run ONCE, in `run0` (`JF.runChk`
of `JF/Lemmas/RunChk.lean`: the legs one after the other, with what is evaluated of each leg), and `hₖ`, `okₖ` are read off it.

leg 1: the start-of-run handler (11) is handed out and commits at time 0 -/

def cand1 : HandlerId → XTime := fun _ => .fin ⟨0, 0⟩
def cand2 : HandlerId → XTime := fun h =>
  if h = 7 then .fin ⟨0, 1/4⟩ else if h = 9 then .fin ⟨0, 3/4⟩ else if h = 6 then .fin ⟨7, 0⟩ else if h = 10 then .fin ⟨100, 0⟩
  else .inf
def e2 : Composite.Ev ℚ := .toRoot ⟨0, 1/4⟩ 0
def cand3 : HandlerId → XTime := fun h => if h = 3 then .fin ⟨0, 1/2⟩ else if h = 9 then .fin ⟨0, 3/4⟩ else if h = 8 then .fin ⟨1, 0⟩ else .inf
def e3 : Composite.Ev ℚ := .pass ⟨0, 1/2⟩ [0, 1] 0 1
def cand4 : HandlerId → XTime := fun _ => .inf
def e4 : Composite.Ev ℚ := .eocRoot ⟨0, 3/4⟩ 1 0 [0, 1]
def cand5 : HandlerId → XTime := fun h => if h = 9 then .fin ⟨5, 0⟩ else .inf
def e5 : Composite.Ev ℚ := .toLeaf ⟨1, 0⟩ 0 1
def cand6 : HandlerId → XTime := fun h => if h = 0 then .fin ⟨1, 1/4⟩ else if h = 9 then .fin ⟨1, 1/2⟩ else if h = 7 then .fin ⟨9, 0⟩ else .inf
def e6 : Composite.Ev ℚ := .exchange ⟨1, 1/4⟩ [0] 0 1 0 0
def cand7 : HandlerId → XTime := fun _ => .inf
def e7 : Composite.Ev ℚ := .eocLeaf ⟨1, 1/2⟩ 0 0 1 0 [1, 0]

/-- the Boolean of `LegOK` -/
def chkL (cand : HandlerId → XTime) (H : HandlerId) (t : Time ℚ) (E : TaggerIdx) (k : EvKind) (s : Sys2) (c : Committed XTime) : Bool :=
  decide (LegOK s cand c H t E k)

theorem chkL_ok {cand : HandlerId → XTime} {H : HandlerId} {t : Time ℚ} {E : TaggerIdx} {k : EvKind} {s : Sys2} {c : Committed XTime}
    {h : (leg M (specI xcfg) s.med (mkO s.cs cand)).toOption.isSome = true} (hc : c = (legR s _ h).2)
    (r : chkL cand H t E k s (legR s _ h).2 = true) : LegOK s cand c H t E k := by
  subst hc
  exact of_decide_eq_true r

/-- the legs after leg `k`: candidate times, composite event, and what is checked of the leg -/
def L6 : List ((HandlerId → XTime) × Composite.Ev ℚ × (Sys2 → Committed XTime → Bool)) := [(cand7, e7, chkL cand7 9 ⟨1, 1/2⟩ 8 .eocLeaf)]
def L5 := (cand6, e6, chkL cand6 0 ⟨1, 1/4⟩ 0 .exchange) :: L6
def L4 := (cand5, e5, chkL cand5 8 ⟨1, 0⟩ 7 .toLeaf) :: L5
def L3 := (cand4, e4, chkL cand4 9 ⟨0, 3/4⟩ 8 .eocRoot) :: L4
def L2 := (cand3, e3, chkL cand3 3 ⟨0, 1/2⟩ 3 .pass) :: L3
def L1 := (cand2, e2, chkL cand2 7 ⟨0, 1/4⟩ 6 .toRoot) :: L2
def L0 := (cand1, Composite.Ev.start (α := ℚ) 0 [0] [1, 0], chkL cand1 11 ⟨0, 0⟩ 10 .start) :: L1

/-- a leg from `s` has to succeed; then `d` is evaluated on what it commits, and the run goes on from `nextS` -/
abbrev rc := runChk (fun (s : Sys2) (cand : HandlerId → XTime) => (leg M (specI xcfg) s.med (mkO s.cs cand)).toOption.isSome = true)
  (fun s _ (d : Sys2 → Committed XTime → Bool) h => d s (legR s _ h).2)
  (fun s _ (e : Composite.Ev ℚ) h => nextS s _ h (step Ops.rat isZ env.L s.cs e))

/-- the seven legs in ONE evaluation: `hₖ`, `okₖ`, `runₖ` are read off it -/
theorem run0 : rc s0 L0 = true := by decide +kernel

theorem h1 : (leg M (specI xcfg) s0.med (mkO s0.cs cand1)).toOption.isSome = true := (runChk_head run0 :)
def cs1 : List (CObj ℚ) := step Ops.rat isZ env.L s0.cs (.start 0 [0] [1, 0])
def s1 : Sys2 := nextS s0 _ h1 cs1
def c1 : Committed XTime := (legR s0 _ h1).2
theorem ok1 : LegOK s0 cand1 c1 11 ⟨0, 0⟩ 10 .start := chkL_ok c1.eq_1 (runChk_chk run0 h1)
theorem run1 : rc s1 L1 = true := runChk_tail run0 h1

/-! leg 2: the leaf-mode factor taggers, sampling, `leaf_to_root` (candidate 1/4), end of chain (3/4), end of run are handed out;
`leaf_to_root` commits: dipole 0 moves as a whole -/

theorem h2 : (leg M (specI xcfg) s1.med (mkO s1.cs cand2)).toOption.isSome = true := (runChk_head run1 :)
def cs2 : List (CObj ℚ) := step Ops.rat isZ env.L s1.cs e2
def s2 : Sys2 := nextS s1 _ h2 cs2
def c2 : Committed XTime := (legR s1 _ h2).2
theorem ok2 : LegOK s1 cand2 c2 7 ⟨0, 1/4⟩ 6 .toRoot := chkL_ok c2.eq_1 (runChk_chk run1 h2)
theorem run2 : rc s2 L2 = true := runChk_tail run1 h2

/-! leg 3 (root mode): `coulomb_root` (candidate 1/2), `repulsive_root` (TWO in-states: pool 2), `root_to_leaf` (1), end of chain (3/4,
requested in root mode) are handed out; `coulomb_root` commits: dipole 0 passes its velocity to dipole 1 -/

theorem h3 : (leg M (specI xcfg) s2.med (mkO s2.cs cand3)).toOption.isSome = true := (runChk_head run2 :)
def cs3 : List (CObj ℚ) := step Ops.rat isZ env.L s2.cs e3
def s3 : Sys2 := nextS s2 _ h3 cs3
def c3 : Committed XTime := (legR s2 _ h3).2
theorem ok3 : LegOK s2 cand3 c3 3 ⟨0, 1/2⟩ 3 .pass := chkL_ok c3.eq_1 (runChk_chk run2 h3)
theorem run3 : rc s3 L3 = true := runChk_tail run2 h3

/-! leg 4: the root-mode factor taggers are re-created; the end-of-chain event requested in root mode commits (`eocRoot`) -/

theorem h4 : (leg M (specI xcfg) s3.med (mkO s3.cs cand4)).toOption.isSome = true := (runChk_head run3 :)
def cs4 : List (CObj ℚ) := step Ops.rat isZ env.L s3.cs e4
def s4 : Sys2 := nextS s3 _ h4 cs4
def c4 : Committed XTime := (legR s3 _ h4).2
theorem ok4 : LegOK s3 cand4 c4 9 ⟨0, 3/4⟩ 8 .eocRoot := chkL_ok c4.eq_1 (runChk_chk run3 h4)
theorem run4 : rc s4 L4 = true := runChk_tail run3 h4

/-! leg 5: end of chain re-created (candidate 5); `root_to_leaf`, pending since leg 3, commits: point mass (0, 1) goes on alone -/

theorem h5 : (leg M (specI xcfg) s4.med (mkO s4.cs cand5)).toOption.isSome = true := (runChk_head run4 :)
def cs5 : List (CObj ℚ) := step Ops.rat isZ env.L s4.cs e5
def s5 : Sys2 := nextS s4 _ h5 cs5
def c5 : Committed XTime := (legR s4 _ h5).2
theorem ok5 : LegOK s4 cand5 c5 8 ⟨1, 0⟩ 7 .toLeaf := chkL_ok c5.eq_1 (runChk_chk run4 h5)
theorem run5 : rc s5 L5 = true := runChk_tail run4 h5

/-! leg 6 (leaf mode again): the leaf-mode factor taggers, `leaf_to_root`, end of chain (3/2, requested in leaf mode) are handed out;
`harmonic_leaf` commits: lifting (0, 1) → (0, 0) -/

theorem h6 : (leg M (specI xcfg) s5.med (mkO s5.cs cand6)).toOption.isSome = true := (runChk_head run5 :)
def cs6 : List (CObj ℚ) := step Ops.rat isZ env.L s5.cs e6
def s6 : Sys2 := nextS s5 _ h6 cs6
def c6 : Committed XTime := (legR s5 _ h6).2
theorem ok6 : LegOK s5 cand6 c6 0 ⟨1, 1/4⟩ 0 .exchange := chkL_ok c6.eq_1 (runChk_chk run5 h6)
theorem run6 : rc s6 L6 = true := runChk_tail run5 h6

/-! leg 7: the end-of-chain event requested in leaf mode commits (`eocLeaf`): point mass (1, 0) starts -/

theorem h7 : (leg M (specI xcfg) s6.med (mkO s6.cs cand7)).toOption.isSome = true := (runChk_head run6 :)
def cs7 : List (CObj ℚ) := step Ops.rat isZ env.L s6.cs e7
def s7 : Sys2 := nextS s6 _ h7 cs7
def c7 : Committed XTime := (legR s6 _ h7).2
theorem ok7 : LegOK s6 cand7 c7 9 ⟨1, 1/2⟩ 8 .eocLeaf := chkL_ok c7.eq_1 (runChk_chk run6 h7)

theorem step1 : SysStep2 env mw 10 needs s0 (mkO s0.cs cand1) c1 s1 :=
  step_of s0 cand1 h1 (.start 0 [0] [1, 0]) c1.eq_1 s1.eq_1 cs1.eq_1 ok1 (fun _ => normX_fin 0 0 (by norm_num) (by norm_num)) rfl
    ⟨JF.C12.ModeExample.start_admW, fun i P v h => by cases h; rfl⟩

theorem step2 : SysStep2 env mw 10 needs s1 (mkO s1.cs cand2) c2 s2 :=
  step_of s1 cand2 h2 e2 c2.eq_1 s2.eq_1 cs2.eq_1 ok2
    (fun _ => normX_ite (normX_fin 0 (1/4) (by norm_num) (by norm_num)) <|
      normX_ite (normX_fin 0 (3/4) (by norm_num) (by norm_num)) <|
      normX_ite (normX_fin 7 0 (by norm_num) (by norm_num)) <|
      normX_ite (normX_fin 100 0 (by norm_num) (by norm_num)) trivial) rfl
    (evAdm_of adms.1 (fun _ _ _ h => by cases h))

theorem step3 : SysStep2 env mw 10 needs s2 (mkO s2.cs cand3) c3 s3 :=
  step_of s2 cand3 h3 e3 c3.eq_1 s3.eq_1 cs3.eq_1 ok3
    (fun _ => normX_ite (normX_fin 0 (1/2) (by norm_num) (by norm_num)) <|
      normX_ite (normX_fin 0 (3/4) (by norm_num) (by norm_num)) <|
      normX_ite (normX_fin 1 0 (by norm_num) (by norm_num)) trivial) rfl
    (evAdm_of adms.2.1 (fun _ _ _ h => by cases h))

theorem step4 : SysStep2 env mw 10 needs s3 (mkO s3.cs cand4) c4 s4 :=
  step_of s3 cand4 h4 e4 c4.eq_1 s4.eq_1 cs4.eq_1 ok4 (fun _ => trivial) rfl (evAdm_of adms.2.2.1 (fun _ _ _ h => by cases h))

theorem step5 : SysStep2 env mw 10 needs s4 (mkO s4.cs cand5) c5 s5 :=
  step_of s4 cand5 h5 e5 c5.eq_1 s5.eq_1 cs5.eq_1 ok5
    (fun _ => normX_ite (normX_fin 5 0 (by norm_num) (by norm_num)) trivial) rfl
    (evAdm_of adms.2.2.2.1 (fun _ _ _ h => by cases h))

theorem step6 : SysStep2 env mw 10 needs s5 (mkO s5.cs cand6) c6 s6 :=
  step_of s5 cand6 h6 e6 c6.eq_1 s6.eq_1 cs6.eq_1 ok6
    (fun _ => normX_ite (normX_fin 1 (1/4) (by norm_num) (by norm_num)) <|
      normX_ite (normX_fin 1 (1/2) (by norm_num) (by norm_num)) <|
      normX_ite (normX_fin 9 0 (by norm_num) (by norm_num)) trivial) rfl
    (evAdm_of adms.2.2.2.2.1 (fun _ _ _ h => by cases h))

theorem step7 : SysStep2 env mw 10 needs s6 (mkO s6.cs cand7) c7 s7 :=
  step_of s6 cand7 h7 e7 c7.eq_1 s7.eq_1 cs7.eq_1 ok7 (fun _ => trivial) rfl (evAdm_of adms.2.2.2.2.2.1 (fun _ _ _ h => by cases h))

def os7 : List (Oracle XTime) :=
  [] ++ [mkO s0.cs cand1] ++ [mkO s1.cs cand2] ++ [mkO s2.cs cand3] ++ [mkO s3.cs cand4] ++ [mkO s4.cs cand5] ++ [mkO s5.cs cand6]
    ++ [mkO s6.cs cand7]
def cs7c : List (Committed XTime) := [] ++ [c1] ++ [c2] ++ [c3] ++ [c4] ++ [c5] ++ [c6] ++ [c7]

theorem reach_snoc {os : List (Oracle XTime)} {cs : List (Committed XTime)} {o o' : Oracle XTime} {c c' : Committed XTime}
    {s s' : Sys2} (prev : Reach2 env mw 10 needs (os ++ [o]) (cs ++ [c]) s) (hgo : c.stop = false)
    (hstep : SysStep2 env mw 10 needs s o' c' s') : Reach2 env mw 10 needs (os ++ [o] ++ [o']) (cs ++ [c] ++ [c']) s' :=
  .step prev (by intro cl h; rw [List.getLast?_concat] at h; cases h; exact hgo) hstep

theorem reach1 : Reach2 env mw 10 needs ([] ++ [mkO s0.cs cand1]) ([] ++ [c1]) s1 := .step (.init s0 init0) (by simp) step1
theorem reach2 : Reach2 env mw 10 needs ([] ++ [mkO s0.cs cand1] ++ [mkO s1.cs cand2]) ([] ++ [c1] ++ [c2]) s2 :=
  reach_snoc reach1 ok1.2.2.1 step2
theorem reach7 : Reach2 env mw 10 needs os7 cs7c s7 :=
  reach_snoc (reach_snoc (reach_snoc (reach_snoc (reach_snoc reach2 ok2.2.2.1 step3) ok3.2.2.1 step4)
    ok4.2.2.1 step5) ok5.2.2.1 step6) ok6.2.2.1 step7

theorem cs7c_go (cl : Committed XTime) (h : cs7c.getLast? = some cl) : cl.stop = false := by
  rw [cs7c, List.getLast?_concat, Option.some.injEq] at h
  subst h
  exact ok7.2.2.1

theorem run_summary : cs7c.map (·.handler) = [11, 7, 3, 9, 8, 0, 9] ∧
    cs7c.map (·.time) = [.fin ⟨0, 0⟩, .fin ⟨0, 1/4⟩, .fin ⟨0, 1/2⟩, .fin ⟨0, 3/4⟩, .fin ⟨1, 0⟩, .fin ⟨1, 1/4⟩, .fin ⟨1, 1/2⟩] ∧
    cs7c.map (·.stop) = [false, false, false, false, false, false, false] := by
  obtain ⟨⟨a1, b1, d1, _⟩, ⟨a2, b2, d2, _⟩, ⟨a3, b3, d3, _⟩, ⟨a4, b4, d4, _⟩, ⟨a5, b5, d5, _⟩, ⟨a6, b6, d6, _⟩, a7, b7, d7, _⟩ :=
    And.intro ok1 <| And.intro ok2 <| And.intro ok3 <| And.intro ok4 <| And.intro ok5 <| And.intro ok6 ok7
  simp only [cs7c, List.nil_append, List.cons_append, List.map_cons, List.map_nil, *, and_self]

/-- `pc.fs = env.fs` by unfolding `env` only: `rfl` starts with `PoolCfg.fs`, i.e. by instantiating the factor file -/
theorem fits (cs : List (CObj ℚ)) (h : cs.length = 2) : Fits2 pc env cs := ⟨rfl, by decide, h, by rw [env], fun _ => rfl⟩

end JF.C09Pools.Closed2.Example
