import JF.Lemmas.CompositeSteps
import JF.Lemmas.CompositeVels
/-!
One-chain invariant of the two-level machine `JF.Composite.step`: vocabulary and generic lemmas.

`RestL / OneL j v / AllL v` describe the velocities of the leaves of ONE composite object (all at rest / exactly leaf `j`
moves, with velocity `v` / all leaves move with `v`).  They depend only on the list of leaf velocities (`VelInv`), so the
invariant reads a state only through `CW2.vels` (`MovingAt.congr`), which time-slicing and the cell-boundary `snap` leave as
it is (`JF/Lemmas/CompositeVels.lean`).  `OneChainM cs sq m` is the invariant in mode `m` (`leaf` / `root`),
`OneChain cs sq` the mode-free statement (`oneChain_iff`).
-/
namespace JF.Composite
open JF JF.Kin
variable {cs : List (CObj ℚ)} {ls : List (PUnit ℚ)}

/-- same definition as `JF.Kin.normSq` of `JF/Lemmas/Kinematics.lean` -/
def nsq (v : List ℚ) : ℚ := (v.map (fun x => x * x)).sum

def RestL (ls : List (PUnit ℚ)) : Prop := ∀ l ∈ ls, l.vel = none
def AllL (v : List ℚ) (ls : List (PUnit ℚ)) : Prop := ls ≠ [] ∧ ∀ l ∈ ls, l.vel = some v
def OneL (j : Nat) (v : List ℚ) (ls : List (PUnit ℚ)) : Prop :=
  (∃ a, ls[j]? = some a ∧ a.vel = some v) ∧ ∀ k l, ls[k]? = some l → k ≠ j → l.vel = none

theorem exists_of_vel_congr {ls ls' : List (PUnit ℚ)} (h : ls'.map (·.vel) = ls.map (·.vel)) {k : Nat} {l' : PUnit ℚ}
    (hk : ls'[k]? = some l') : ∃ l, ls[k]? = some l ∧ l.vel = l'.vel := by
  have e := congrArg (fun x => x[k]?) h
  simp only [List.getElem?_map, hk, Option.map_some] at e
  cases h0 : ls[k]? with
  | none => simp [h0] at e
  | some l => exact ⟨l, rfl, by simpa [h0] using e.symm⟩

theorem restL_congr {ls ls' : List (PUnit ℚ)} (h : ls'.map (·.vel) = ls.map (·.vel)) (hr : RestL ls) : RestL ls' := by
  intro l' hl'
  obtain ⟨k, hk⟩ := List.getElem?_of_mem hl'
  obtain ⟨l, hl, e⟩ := exists_of_vel_congr h hk
  rw [← e]; exact hr l (List.mem_of_getElem? hl)

theorem allL_congr {v : List ℚ} {ls ls' : List (PUnit ℚ)} (h : ls'.map (·.vel) = ls.map (·.vel)) (hr : AllL v ls) :
    AllL v ls' := by
  refine ⟨fun e => hr.1 (List.map_eq_nil_iff.mp (by rw [← h, e]; rfl)), fun l' hl' => ?_⟩
  obtain ⟨k, hk⟩ := List.getElem?_of_mem hl'
  obtain ⟨l, hl, e⟩ := exists_of_vel_congr h hk
  rw [← e]; exact hr.2 l (List.mem_of_getElem? hl)

theorem oneL_congr {j : Nat} {v : List ℚ} {ls ls' : List (PUnit ℚ)} (h : ls'.map (·.vel) = ls.map (·.vel))
    (hr : OneL j v ls) : OneL j v ls' := by
  obtain ⟨⟨a, ha, hav⟩, ho⟩ := hr
  refine ⟨?_, fun k l' hk hne => ?_⟩
  · obtain ⟨a', ha', e⟩ := exists_of_vel_congr h.symm ha
    exact ⟨a', ha', e.trans hav⟩
  · obtain ⟨l, hl, e⟩ := exists_of_vel_congr h hk
    rw [← e]; exact ho k l hl hne

/-- `activeLeaf` is the index of the first moving leaf, as computed by the switcher -/
theorem activeLeaf_of_oneL {c : CObj ℚ} {j : Nat} {v : List ℚ} (h : OneL j v c.leaves) : activeLeaf c = some j :=
  h.1.elim fun _ ha => findIdx?_isMoving ha.1 ha.2 h.2

/-- `P` depends only on the velocities of the leaves -/
def VelInv (P : CObj ℚ → Prop) : Prop :=
  ∀ c c' : CObj ℚ, c'.leaves.map (·.vel) = c.leaves.map (·.vel) → P c → P c'

theorem velInv_rest : VelInv (fun c => RestL c.leaves) := fun _ _ h => restL_congr h
theorem velInv_one (j : Nat) (v : List ℚ) : VelInv (fun c => OneL j v c.leaves) := fun _ _ h => oneL_congr h
theorem velInv_all (v : List ℚ) : VelInv (fun c => AllL v c.leaves) := fun _ _ h => allL_congr h

/-- object `i` satisfies `P`, every leaf of every other object is at rest -/
def MovingAt (cs : List (CObj ℚ)) (i : Nat) (P : CObj ℚ → Prop) : Prop :=
  (∃ c, cs[i]? = some c ∧ P c) ∧ ∀ k ck, cs[k]? = some ck → k ≠ i → RestL ck.leaves

def AllRest (cs : List (CObj ℚ)) : Prop := ∀ c ∈ cs, RestL c.leaves

inductive Mode where
  /-- a single point mass moves -/
  | leaf
  /-- all point masses of one composite object move -/
  | root
  deriving DecidableEq, Repr

def OneChainM (cs : List (CObj ℚ)) (sq : ℚ) : Mode → Prop
  | .leaf => ∃ i j v, nsq v = sq ∧ MovingAt cs i (fun c => OneL j v c.leaves)
  | .root => ∃ i v, nsq v = sq ∧ MovingAt cs i (fun c => AllL v c.leaves)

/-- **One chain.** Exactly one object has a moving leaf; in it either exactly one leaf moves or all leaves move; the
moving leaves share one velocity `v` of squared norm `sq`; every leaf of every other object is at rest. -/
def OneChain (cs : List (CObj ℚ)) (sq : ℚ) : Prop :=
  ∃ (i : Nat) (c : CObj ℚ) (v : List ℚ), cs[i]? = some c ∧ nsq v = sq ∧ ((∃ j, OneL j v c.leaves) ∨ AllL v c.leaves) ∧
    ∀ (k : Nat) (ck : CObj ℚ), cs[k]? = some ck → k ≠ i → RestL ck.leaves

theorem oneChain_iff (cs : List (CObj ℚ)) (sq : ℚ) : OneChain cs sq ↔ ∃ m, OneChainM cs sq m := by
  constructor
  · rintro ⟨i, c, v, hc, hv, hm | hm, ho⟩
    · obtain ⟨j, hj⟩ := hm
      exact ⟨.leaf, i, j, v, hv, ⟨c, hc, hj⟩, ho⟩
    · exact ⟨.root, i, v, hv, ⟨c, hc, hm⟩, ho⟩
  · rintro ⟨m, hm⟩
    cases m with
    | leaf =>
      obtain ⟨i, j, v, hv, ⟨c, hc, hj⟩, ho⟩ := hm
      exact ⟨i, c, v, hc, hv, Or.inl ⟨j, hj⟩, ho⟩
    | root =>
      obtain ⟨i, v, hv, ⟨c, hc, hj⟩, ho⟩ := hm
      exact ⟨i, c, v, hc, hv, Or.inr hj, ho⟩

theorem OneChainM.imp {cs cs' : List (CObj ℚ)} {sq : ℚ} {m : Mode} (h : OneChainM cs sq m)
    (hf : ∀ {i : Nat} {P : CObj ℚ → Prop}, VelInv P → MovingAt cs i P → MovingAt cs' i P) : OneChainM cs' sq m := by
  cases m with
  | leaf => obtain ⟨i, j, v, hv, hM⟩ := h; exact ⟨i, j, v, hv, hf (velInv_one j v) hM⟩
  | root => obtain ⟨i, v, hv, hM⟩ := h; exact ⟨i, v, hv, hf (velInv_all v) hM⟩

theorem MovingAt.rest_of_ne {i : Nat} {P : CObj ℚ → Prop} (h : MovingAt cs i P) {k : Nat} {ck : CObj ℚ}
    (hk : cs[k]? = some ck) (hne : k ≠ i) : RestL ck.leaves := h.2 k ck hk hne

theorem MovingAt.eq_of_moving {i : Nat} {P : CObj ℚ → Prop} (h : MovingAt cs i P) {k : Nat} {ck : CObj ℚ}
    (hk : cs[k]? = some ck) {a : PUnit ℚ} (ha : a ∈ ck.leaves) (hav : a.vel ≠ none) : k = i := by
  by_contra hne
  exact hav (h.2 k ck hk hne a ha)

theorem MovingAt.get {i : Nat} {P : CObj ℚ → Prop} (h : MovingAt cs i P) {c : CObj ℚ}
    (hc : cs[i]? = some c) : P c := by
  obtain ⟨⟨c0, hc0, hp⟩, _⟩ := h
  rw [hc] at hc0; simp only [Option.some.injEq] at hc0; subst hc0; exact hp

theorem MovingAt.src_leaf {i0 j0 : Nat} {v0 : List ℚ} (hM : MovingAt cs i0 (fun c => OneL j0 v0 c.leaves))
    {i j : Nat} {c : CObj ℚ} {a : PUnit ℚ} {v : List ℚ} (hc : cs[i]? = some c) (ha : c.leaves[j]? = some a)
    (hav : a.vel = some v) : i = i0 ∧ j = j0 ∧ v = v0 ∧ OneL j0 v0 c.leaves := by
  have hi : i = i0 := hM.eq_of_moving hc (List.mem_of_getElem? ha) (by rw [hav]; simp)
  subst hi
  have hone := hM.get hc
  have hj : j = j0 := by
    by_contra hne
    have := hone.2 j a ha hne
    rw [hav] at this; exact absurd this (by simp)
  subst hj
  obtain ⟨⟨a', ha', hav'⟩, _⟩ := id hone
  rw [ha] at ha'; simp only [Option.some.injEq] at ha'; subst ha'
  rw [hav] at hav'; simp only [Option.some.injEq] at hav'
  exact ⟨rfl, rfl, hav', hone⟩

theorem MovingAt.src_root {i0 : Nat} {v0 : List ℚ} (hM : MovingAt cs i0 (fun c => AllL v0 c.leaves))
    {i : Nat} {c : CObj ℚ} {a : PUnit ℚ} (hc : cs[i]? = some c) (ha : a ∈ c.leaves) (hav : a.vel ≠ none) :
    i = i0 ∧ AllL v0 c.leaves := by
  have hi : i = i0 := hM.eq_of_moving hc ha hav
  subst hi
  exact ⟨rfl, hM.get hc⟩

/-! `vels cs` (the velocities of all units) is all that `RestL`, `OneL`, `AllL`, `MovingAt`, `OneChainM` read of a state;
time-slicing and the cell-boundary event do not change it. -/

theorem exists_of_vels {cs cs' : List (CObj ℚ)} (h : CW2.vels cs' = CW2.vels cs) {k : Nat} {c' : CObj ℚ}
    (hk : cs'[k]? = some c') : ∃ c, cs[k]? = some c ∧ c'.leaves.map (·.vel) = c.leaves.map (·.vel) := by
  have e := congrArg (fun x => x[k]?) h
  simp only [CW2.vels, List.getElem?_map, hk, Option.map_some] at e
  cases h0 : cs[k]? with
  | none => simp [h0] at e
  | some c => exact ⟨c, rfl, by rw [h0] at e; exact congrArg Prod.snd (Option.some.inj e)⟩

theorem MovingAt.congr {cs' : List (CObj ℚ)} (h : CW2.vels cs' = CW2.vels cs) {i : Nat} {P : CObj ℚ → Prop} (hP : VelInv P)
    (hM : MovingAt cs i P) : MovingAt cs' i P := by
  obtain ⟨⟨c, hc, hp⟩, ho⟩ := hM
  refine ⟨?_, fun k ck' hk hne => ?_⟩
  · obtain ⟨c', hc', e⟩ := exists_of_vels h.symm hc
    exact ⟨c', hc', hP c c' e.symm hp⟩
  · obtain ⟨ck, hck, e⟩ := exists_of_vels h hk
    exact restL_congr e (ho k ck hck hne)

theorem sliceComp_vels (L : List ℚ) (t : Time ℚ) (c : CObj ℚ) :
    (sliceComp Ops.rat L t c).leaves.map (·.vel) = c.leaves.map (·.vel) := by
  simp [sliceComp, Function.comp_def]

theorem MovingAt.sliceAt {P : CObj ℚ → Prop} (hP : VelInv P) (L : List ℚ) (t : Time ℚ) (S : List Nat) {cs : List (CObj ℚ)}
    {i : Nat} (h : MovingAt cs i P) : MovingAt (sliceAt Ops.rat L t S cs) i P :=
  h.congr (CW2.vels_sliceAt Ops.rat L t S cs) hP

theorem AllRest.sliceAt_aux (L : List ℚ) (t : Time ℚ) (S : List Nat) {cs : List (CObj ℚ)}
    (h : ∀ (k : Nat) (ck : CObj ℚ), cs[k]? = some ck → RestL ck.leaves) (k : Nat) (ck : CObj ℚ)
    (hk : (sliceAt Ops.rat L t S cs)[k]? = some ck) : RestL ck.leaves :=
  (exists_of_vels (CW2.vels_sliceAt Ops.rat L t S cs) hk).elim fun c0 h0 => restL_congr h0.2 (h k c0 h0.1)

/-- the moving object `c` changes its leaf velocities from `P` to `Q` -/
theorem MovingAt.modify_at {i : Nat} {P Q : CObj ℚ → Prop} (h : MovingAt cs i P) {c : CObj ℚ}
    (hc : cs[i]? = some c) (f : CObj ℚ → CObj ℚ) (hf : P c → Q (f c)) : MovingAt (cs.modify i f) i Q :=
  ⟨⟨f c, by rw [getElem?_modify_self, hc]; rfl, hf (h.get hc)⟩, fun k ck hk hne =>
    h.2 k ck ((getElem?_modify_ne f cs (Ne.symm hne)).symm.trans hk) hne⟩

/-- the moving object `c` (index `i`) comes to rest, another object `c'` (index `i'`, at rest before) takes over -/
theorem MovingAt.move {i i' : Nat} {P Q : CObj ℚ → Prop} (h : MovingAt cs i P) (hne : i ≠ i')
    {c c' : CObj ℚ} (hc : cs[i]? = some c) (hc' : cs[i']? = some c') (f g : CObj ℚ → CObj ℚ)
    (hf : P c → RestL (f c).leaves) (hg : RestL c'.leaves → Q (g c')) : MovingAt ((cs.modify i f).modify i' g) i' Q := by
  refine ⟨⟨g c', ?_, hg (h.2 i' c' hc' (Ne.symm hne))⟩, fun k ck hk hk' => ?_⟩
  · rw [getElem?_modify_self, getElem?_modify_ne _ _ hne, hc']; rfl
  · rw [getElem?_modify_ne _ _ (Ne.symm hk')] at hk
    by_cases hik : i = k
    · subst hik
      rw [getElem?_modify_self, hc] at hk
      cases hk
      exact hf (h.get hc)
    · rw [getElem?_modify_ne _ _ hik] at hk
      exact h.2 k ck hk (Ne.symm hik)

theorem MovingAt.of_rest (h : AllRest cs) {i : Nat} {c : CObj ℚ} (hc : cs[i]? = some c) {Q : CObj ℚ → Prop}
    (f : CObj ℚ → CObj ℚ) (hf : RestL c.leaves → Q (f c)) : MovingAt (cs.modify i f) i Q := by
  refine ⟨⟨f c, by rw [getElem?_modify_self, hc]; rfl, hf (h c (List.mem_of_getElem? hc))⟩, ?_⟩
  intro k ck hk hne
  rw [getElem?_modify_ne _ _ (fun e => hne e.symm)] at hk
  exact h ck (List.mem_of_getElem? hk)

/-! ### velocities of the leaves after `setLeaves` -/

theorem allL_setAll {v : List ℚ} {ups : List (Upd ℚ)} (hne : ls ≠ []) (hv : ∀ u ∈ ups, u.vel = some v)
    (hcov : ∀ k, k < ls.length → k ∈ ups.map (·.leaf)) : AllL v (setLeaves ls ups) :=
  ⟨setLeaves_ne_nil ups hne, vel_of_mem_setLeaves hv hcov⟩

theorem allL_set_range {v : List ℚ} (hne : ls ≠ []) (mk : Nat → Upd ℚ) (hleaf : ∀ k, (mk k).leaf = k)
    (hv : ∀ k, (mk k).vel = some v) : AllL v (setLeaves ls ((List.range ls.length).map mk)) :=
  ⟨setLeaves_ne_nil _ hne, vel_of_mem_set_range mk hleaf hv⟩

/-- all leaves moved; every leaf but `ch` is addressed and stopped -/
theorem oneL_keep_only {v : List ℚ} {ups : List (Upd ℚ)} {ch : Nat} (hall : AllL v ls)
    (hch : ch < ls.length) (hv : ∀ u ∈ ups, u.vel = none) (hnot : ch ∉ ups.map (·.leaf))
    (hcov : ∀ k, k < ls.length → k ≠ ch → k ∈ ups.map (·.leaf)) : OneL ch v (setLeaves ls ups) := by
  obtain ⟨a, ha, ham⟩ := exists_getElem?_of_lt hch
  refine ⟨⟨a, by rw [setLeaves_getElem?_of_not_mem _ _ _ hnot]; exact ha, hall.2 a ham⟩, ?_⟩
  intro k l hk hne
  rcases setLeaves_get ups ls k l hk with ⟨hn, h0⟩ | ⟨u, hu, _, e⟩
  · exact absurd (hcov k (lt_of_getElem? h0) hne) hn
  · rw [e]; exact hv u hu

theorem restL_stop {j : Nat} {v : List ℚ} (h : OneL j v ls) (ts : Option (Time ℚ)) (dv : Option (List ℚ)) :
    RestL (setLeaves ls [⟨j, none, ts, dv⟩]) := by
  intro l hl
  obtain ⟨k, hk⟩ := List.getElem?_of_mem hl
  rcases setLeaves_get _ ls k l hk with ⟨hn, h0⟩ | ⟨u, hu, _, e⟩
  · simp only [List.map_cons, List.map_nil, List.mem_cons, List.not_mem_nil, or_false] at hn
    exact h.2 k l h0 hn
  · simp only [List.mem_cons, List.not_mem_nil, or_false] at hu
    subst hu; exact e

theorem oneL_set {j : Nat} (ho : ∀ k l, ls[k]? = some l → k ≠ j → l.vel = none) {b : PUnit ℚ}
    (hb : ls[j]? = some b) (v : List ℚ) (ts : Option (Time ℚ)) (dv : Option (List ℚ)) :
    OneL j v (setLeaves ls [⟨j, some v, ts, dv⟩]) := by
  refine ⟨?_, fun k l hk hne => ?_⟩
  · obtain ⟨l', hl'⟩ := setLeaves_exists [⟨j, some v, ts, dv⟩] hb
    refine ⟨l', hl', ?_⟩
    rcases setLeaves_get _ ls j l' hl' with ⟨hn, _⟩ | ⟨u, hu, _, e⟩
    · simp at hn
    · obtain rfl := List.mem_singleton.mp hu; exact e
  · rcases setLeaves_get _ ls k l hk with ⟨_, h0⟩ | ⟨u, hu, e1, _⟩
    · exact ho k l h0 hne
    · obtain rfl := List.mem_singleton.mp hu; exact absurd e1.symm hne

theorem oneL_go {j : Nat} (h : RestL ls) {b : PUnit ℚ} (hb : ls[j]? = some b) (v : List ℚ)
    (ts : Option (Time ℚ)) (dv : Option (List ℚ)) : OneL j v (setLeaves ls [⟨j, some v, ts, dv⟩]) :=
  oneL_set (fun _ l hl _ => h l (List.mem_of_getElem? hl)) hb v ts dv

theorem oneL_change {j : Nat} {v : List ℚ} (h : OneL j v ls) (w : List ℚ) (ts : Option (Time ℚ))
    (dv : Option (List ℚ)) : OneL j w (setLeaves ls [⟨j, some w, ts, dv⟩]) :=
  oneL_set h.2 h.1.choose_spec.1 w ts dv

/-- the moving leaf `j` stops, leaf `j'` of the same object moves on with `w`: stop, then go -/
theorem oneL_move {j j' : Nat} {v : List ℚ} (h : OneL j v ls) {b : PUnit ℚ} (hb : ls[j']? = some b)
    (w : List ℚ) (t1 t2 : Option (Time ℚ)) (d1 d2 : Option (List ℚ)) :
    OneL j' w (setLeaves ls [⟨j, none, t1, d1⟩, ⟨j', some w, t2, d2⟩]) :=
  (setLeaves_exists [⟨j, none, t1, d1⟩] hb).elim fun _ hb' => oneL_go (restL_stop h t1 d1) hb' w t2 d2

end JF.Composite
