import JF.Lemmas.SystemRunLeg
import JF.Lemmas.C09PoolsClosedAct
/-!
The boundary between two legs as the mediator sees it, once for the three composed systems: `MedBig` is the part of the joint
invariants `JF.Sys.Big`, `JF.Sys2.Big2`, `JF.Sys3L.Big3` that speaks of the mediator state and the activator's lists in the middle
of the last leg.  A leg re-establishes it (`MedBig.next`, `MedBig.first`); across it, the next leg's `get_event_handlers_to_run` is a
step of C09's machine (`MedBig.run_next`) and of C08's (`MedBig.cur_next`), and it does not run out of handlers
(`MedBig.leg_ne_tagErr`).  The three take the phase of C09's machine in the form common to the worlds: the middle of the last leg
was reached by `first` (then the committed handler is the start-of-run handler's) or is a state of a run.
-/
namespace JF.SysLeg
open JF JF.Act JF.Heap JF.Sched JF.Med JF.C14 JF.MediatorLoop JF.Sys

/-- after the leg that committed `cl` (the last of `cs`): `E` = tagger of the committed handler, `tl` = committed time, `mid` = the
activator's lists in the middle of that leg.  These are the first ten fields of `Big`, `Big2`, `Big3` UNDER THE SAME NAMES, so that
structure-instance notation carries them over: `{ b with phase := …, … }` builds one of the three from `b : MedBig …`, and `{ big with }`
is the `MedBig` of `big`. -/
structure MedBig (c : Wiring) (S : TaggerIdx) (needs : HandlerId → Bool) (cs : List (Committed XTime)) (cl : Committed XTime)
    (m : MedState (SSched XTime)) (mid : Act) (E : TaggerIdx) (tl : Time ℚ) : Prop where
  med : MInv (I := specI xcfg) (mwire c S needs) (SRel xcfg) m (pendOf (fun _ => none) cs) cl.time
  started : m.act.started = true
  prec : m.preceding = some cl.handler
  owner : owner c.wires cl.handler = some E
  stopEq : cl.stop = (mwire c S needs).endOfRun cl.handler
  trashEq : m.act.ts = (trash c.wires mid E).1
  running : cl.handler ∈ (getT mid E).running
  time : cl.time = .fin tl
  tnorm : Normalised tl
  norm : ∀ h t, pendOf (fun _ => none) cs h = some t → NormX t

variable {c : Wiring} {S : TaggerIdx} {needs : HandlerId → Bool} {cs : List (Committed XTime)} {cl cm : Committed XTime}
  {m m' : MedState (SSched XTime)} {mid mid' : Act} {E : TaggerIdx} {tl t' : Time ℚ} {o : Oracle XTime}

theorem LegFacts.medBig {l : XTime} {E' : TaggerIdx}
    (f : LegFacts c S needs (pendOf (fun _ => none) cs) l m o cm m' mid' E')
    (hpn : ∀ h t, pendOf (fun _ => none) cs h = some t → NormX t) (hn : ∀ q ∈ cm.created, NormX (o.cand q.1))
    (ht : cm.time = .fin t') : MedBig c S needs (cs ++ [cm]) cm m' mid' E' t' := by
  obtain ⟨_, hcmn, hnorm⟩ := f.norm hpn hn
  rw [ht] at hcmn
  exact ⟨by rw [pendOf_snoc]; exact f.minv, f.started, f.prec, f.owner, f.stopEq, f.trashEq, f.running, ht, hcmn,
    by rw [pendOf_snoc]; exact hnorm⟩

/-- a leg after the first, from a state with `MedBig`: besides `LegFacts`, the activator's call was `update` for the tagger of the
last commit, and time has not gone back -/
theorem MedBig.next (hs : Med.Static (mwire c S needs)) (b : MedBig c S needs cs cl m mid E tl)
    (e : leg (mwire c S needs) (specI xcfg) m o = .ok (m', cm)) (hmid : mid' = midAct (mwire c S needs) m o)
    (hn : ∀ q ∈ cm.created, NormX (o.cand q.1)) (ht : cm.time = .fin t') :
    ∃ E', LegFacts c S needs (pendOf (fun _ => none) cs) cl.time m o cm m' mid' E' ∧
      update c.wires m.act.ts E o.yields = some (mid', cm.created) ∧
      MedBig c S needs (cs ++ [cm]) cm m' mid' E' t' ∧ val tl ≤ val t' := by
  obtain ⟨E', f⟩ := leg_facts hs b.med e hmid
  have b' := f.medBig b.norm hn ht
  exact ⟨E', f, f.update b.started b.prec b.owner, b', f.last_le b.time b.tnorm ht b'.tnorm⟩

/-- the first leg: the activator's call was `first`, and only start-of-run handlers are handed out -/
theorem MedBig.first (hs : Med.Static (mwire c S needs)) (hS : c.start? = some S) (hm : m = MedState.init (specI xcfg) c.wires)
    (e : leg (mwire c S needs) (specI xcfg) m o = .ok (m', cm)) (hmid : mid' = midAct (mwire c S needs) m o)
    (hn : ∀ q ∈ cm.created, kindOfH c q.1 = .startOfRun → NormX (o.cand q.1)) (ht : cm.time = .fin t') :
    LegFacts c S needs (fun _ => none) xcfg.bot m o cm m' mid' S ∧
      Act.first c.wires (initAct c.wires) S o.yields = some (mid', cm.created) ∧
      (∀ h, (pendPushed (fun _ => none) cm h).isSome → kindOfH c h = .startOfRun) ∧
      MedBig c S needs ([] ++ [cm]) cm m' mid' S t' := by
  obtain ⟨E', f⟩ := leg_facts hs (minv_of_init hm) e hmid
  obtain ⟨hfirst, rfl, hk⟩ := f.first hS hm
  refine ⟨f, hfirst, hk, LegFacts.medBig (cs := []) f (fun _ _ e => by cases e) (fun q hq => hn q hq (hk q.1 ?_)) ht⟩
  exact (pushAll_isSome _ _ _).mpr (Or.inr (by rw [f.ok.pushed_keys]; exact List.mem_map_of_mem hq))

section machines
variable {G : Type} {W : World G} {Tr : TaggerIdx → G → G → Prop} {ids : HandlerId → IdTuple} {g g' : G}
  {ys : TaggerIdx → List IdTuple} {created : List (HandlerId × IdTuple)}

theorem MedBig.not_endOfRun (b : MedBig c S needs cs cl m mid E tl) (hgo : cl.stop = false) : (c.tagger E).kind ≠ .endOfRun :=
  not_endOfRun_of_go b.owner b.stopEq hgo

/-- the next leg's `get_event_handlers_to_run` as a step of C09's `Run`, from the state in the middle of the last leg to the state in
the middle of the next -/
theorem MedBig.run_next (b : MedBig c S needs cs cl m mid E tl) (hgo : cl.stop = false)
    (hph : (E = S ∧ ∃ ids0 out, Act.first c.wires (initAct c.wires) S (fun T => W.yieldOf T g) = some (mid, out) ∧
        ids = assign ids0 out) ∨ Run c W Tr S ⟨mid, ids, g⟩)
    (hy : (fun T => W.yieldOf T g') = ys) (hupd : update c.wires m.act.ts E ys = some (mid', created))
    (htr : Run c W Tr S ⟨mid, ids, g⟩ → Tr E g g') : Run c W Tr S ⟨mid', assign ids created, g'⟩ := by
  have hcommit : commit c.wires W ⟨mid, ids, g⟩ E g' = some ⟨mid', assign ids created, g'⟩ := by
    unfold commit
    simp only [hy]
    rw [← b.trashEq, hupd]
  rcases hph with ⟨rfl, ids0, out, hfirst, rfl⟩ | hrunp
  · exact Run.start ids0 g g' mid out _ hfirst hcommit
  · exact Run.step _ _ E g' hrunp (List.ne_nil_of_mem b.running) (b.not_endOfRun hgo) (htr hrunp) hcommit

/-- … and of C08's `Reach8`: `quiet` of `StepOK8` is the world's (`hq`); clause (h) comes from `WiringSound` through the run of C09's
machine, or, in the second leg, from `first` having started the start-of-run tagger only -/
theorem MedBig.cur_next {U : Type} {Mo : C08.Motion G U} {born : HandlerId → G} (b : MedBig c S needs cs cl m mid E tl)
    (sound : WiringSound c = true) (hS : c.start? = some S) (fps : FootprintsSound c W Tr) (hlive : LiveIs c W)
    (hmv : ∀ E, Mo.moves E → affects (c.tagger E) .motion = true)
    (hbd : ∀ T, Mo.bound T → T < c.n ∧ motionBound (c.tagger T) = true) (hgo : cl.stop = false)
    (hph : (E = S ∧ ∃ ids0 out, Act.first c.wires (initAct c.wires) S (fun T => W.yieldOf T g) = some (mid, out) ∧
        ids = assign ids0 out) ∨ Run c W Tr S ⟨mid, ids, g⟩)
    (hr8 : C08.Reach8 c.wires W Mo S ⟨⟨mid, ids, g⟩, born⟩) (hy : (fun T => W.yieldOf T g') = ys)
    (hupd : update c.wires m.act.ts E ys = some (mid', created)) (hq : ¬ Mo.moves E → ∀ u, Mo.same g g' u) :
    ∃ born', C08.Reach8 c.wires W Mo S ⟨⟨mid', assign ids created, g'⟩, born'⟩ := by
  have hcommit : C08.commit8 c.wires W ⟨⟨mid, ids, g⟩, born⟩ E g' =
      some ⟨⟨mid', assign ids created, g'⟩, fun h => if h ∈ created.map Prod.fst then g' else born h⟩ := by
    unfold C08.commit8
    simp only [hy]
    rw [← b.trashEq, hupd]
  refine ⟨_, C08.Reach8.step _ _ E _ hr8 ⟨hq, fun hm T hb => ?_⟩ hcommit⟩
  rcases hph with ⟨rfl, _, out, hfirst, _⟩ | hrun
  · refine Or.inr (first_running_nil hfirst fun hTE => ?_)
    have := (hbd T hb).2
    rw [hTE, motionBound, (start_spec hS).2.1] at this
    cases this
  · exact run_clause_h c W Tr S sound hS fps hlive hrun (List.ne_nil_of_mem b.running) (b.not_endOfRun hgo) (hmv E hm) (hbd T hb).1
      (hbd T hb).2

/-- the next pass does not raise `TagActivatorError` if the taggers it is to create yield at most their pools on the next state -/
theorem MedBig.leg_ne_tagErr (b : MedBig c S needs cs cl m mid E tl) (sound : WiringSound c = true) (hS : c.start? = some S)
    (fps : FootprintsSound c W Tr) (hlive : LiveIs c W) (hgo : cl.stop = false)
    (hph : (E = S ∧ ∃ ids0 out, Act.first c.wires (initAct c.wires) S (fun T => W.yieldOf T g) = some (mid, out) ∧
        ids = assign ids0 out) ∨ Run c W Tr S ⟨mid, ids, g⟩)
    (hy : (fun T => W.yieldOf T g') = o.yields)
    (hdem : ∀ T ∈ (c.tagger E).creates, aGet (aStep c (absOf mid) E) T = true → (W.yieldOf T g').length ≤ (c.tagger T).pool) :
    leg (mwire c S needs) (specI xcfg) m o ≠ .error .tagActivatorError := by
  refine C09Pools.leg_ne_tagErr_of_commit (rs := ⟨mid, ids, g⟩) b.started b.prec b.owner b.trashEq hy ?_
  rcases hph with ⟨rfl, _, out, hfirst, _⟩ | hrun
  · exact C09Pools.start_commit_isSome_act c W E sound hS hfirst ids _ _ hdem
  · exact C09Pools.run_next_commit_isSome_act c W Tr S sound hS fps hlive hrun (List.ne_nil_of_mem b.running) (b.not_endOfRun hgo)
      hdem

end machines

end JF.SysLeg
