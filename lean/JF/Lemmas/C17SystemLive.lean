import JF.Lemmas.C17SystemMed
/-!
C17 at the system level: the sampling tagger and the end-of-run tagger are always on — from the second leg on their handler has a
pending event in the middle of every leg (`alive_inv`), with the value `JF.C17System.tick_inv` gives, and nothing later is committed
(`tick_due`).

`AlwaysOn M T h` (a condition on the wiring, decided by `alwaysOnB` in `JF/Props/C17System.lean`): `OwnTrash`, and tagger `T` is
created by the start-of-run event, re-created by its own commit (unless that commit ends the run), and never deactivated.  With one
identifier tuple yielded per request (`NoInStateTagger`: `yield None`) this is the activator-level half of "the instance of this
event handler should always be active" of the two handlers' docstrings; it is a safety statement about the bookkeeping (the handler
has a pending event whenever the scheduler is asked), not liveness of the run.
-/
namespace JF.C17System
open JF JF.Act JF.Heap JF.Sched JF.Med JF.C14 JF.MediatorLoop JF.Sys JF.Sampling JF.C17

structure AlwaysOn (M : MWire) (T : TaggerIdx) (h : HandlerId) : Prop extends OwnTrash M T h where
  byStart : T ∈ (getW M.w M.S).creates
  bySelf : T ∈ (getW M.w T).creates ∨ ∀ x, owner M.w x = some T → M.endOfRun x = true
  noDeact : ∀ E, T ∉ (getW M.w E).deactivates

/-- between two legs (after the first): the tagger is activated, and its handler has a pending event or is about to get one
(the tagger of the handler that has just committed creates `T`) -/
def Alive (M : MWire) (T : TaggerIdx) (h : HandlerId) (st : MedState (SSched XTime)) (p : Pend XTime) : Prop :=
  st.act.started = true ∧ (getT st.act.ts T).activated = true ∧
  ((p h).isSome ∨ ∃ hp E, st.preceding = some hp ∧ owner M.w hp = some E ∧ T ∈ (getW M.w E).creates)

section
variable {M : MWire}

theorem activated_applyActivation {T : TaggerIdx} {h : HandlerId} (A : AlwaysOn M T h) {s : Act} (hl : s.length = M.w.length)
    (ha : (getT s T).activated = true) (E : TaggerIdx) : (getT (applyActivation M.w s E) T).activated = true := by
  rw [getT_applyActivation M.w s E T (by rw [hl]; exact A.lt)]
  simp only [actAfter, if_neg (A.noDeact E), ha]
  split <;> rfl

theorem alive_step (hs : Static M) {T : TaggerIdx} {h : HandlerId} (A : AlwaysOn M T h) {st st' : MedState (SSched XTime)}
    {p : Pend XTime} {l : XTime} {o : Oracle XTime} {cm : Committed XTime}
    (inv : MInv (I := specI xcfg) M (SRel xcfg) st p l) (al : Alive M T h st p)
    (hleg : leg M (specI xcfg) st o = .ok (st', cm)) (hy : o.yields T ≠ []) :
    (pendPushed p cm h).isSome ∧ (cm.stop = false → Alive M T h st' (pendAfter p cm)) := by
  obtain ⟨E', f⟩ := Med.leg_facts (specLaws xcfg_strictWeak) hs inv hleg
  obtain ⟨hstarted, hact, hal⟩ := al
  obtain ⟨hp, E, hpre, hoE, hupd, _⟩ := getToRun_update hstarted f.toRun
  have hupd' : createLoop o.yields (applyActivation M.w st.act.ts E) (getW M.w E).creates = some (midAct M st o, cm.created) := hupd
  have hlen : st.act.ts.length = M.w.length := inv.pool.1
  have hact0 : (getT (applyActivation M.w st.act.ts E) T).activated = true := activated_applyActivation A hlen hact E
  have hmid : (pendPushed p cm h).isSome := by
    rcases hal with hsome | ⟨hp', E'', hpre', hoE', hcr⟩
    · exact (pushAll_isSome p cm.pushed h).mpr (Or.inl hsome)
    · -- `T` is created in this leg: it is activated and yields, so it pops a handler, which can only be `h`
      rw [hpre] at hpre'
      cases hpre'
      rw [hoE] at hoE'
      cases hoE'
      obtain ⟨new, _, hT⟩ := create_spec (hs.wf E).1 (fun U hU => by rw [hlen]; exact (hs.wf E).2 U hU) hupd'
      obtain ⟨p2, _, p3, p4⟩ := hT T
      rw [if_pos hcr, ← p4 (by rw [hlen]; exact A.lt), (createLoop_activated hupd' T).trans hact0, if_pos rfl] at p3
      obtain ⟨x, hx⟩ := List.exists_mem_of_ne_nil _ fun hc : (new T).map Prod.fst = [] => hy (by
        rw [← p3, List.map_eq_nil_iff.mp hc]; rfl)
      have hxr : x ∈ (getT (midAct M st o) T).running := by rw [p2]; exact List.mem_append_right _ hx
      have hxp := f.pmid.mem_pool_of_running hxr
      rw [A.pool, List.mem_singleton] at hxp
      exact (f.mirr h).mpr ⟨T, hxp ▸ hxr⟩
  refine ⟨hmid, fun hgo => ⟨leg_started hleg, ?_, ?_⟩⟩
  · rw [f.trashEq, trash, trashLoop_activated]; exact (createLoop_activated hupd' T).trans hact0
  · by_cases hh : cm.handler = h
    · right
      have hoT : owner M.w cm.handler = some T := by rw [hh]; exact A.toOwnTrash.owner hs
      refine ⟨cm.handler, T, f.prec, hoT, ?_⟩
      rcases A.bySelf with hc | hend
      · exact hc
      · rw [f.stopEq, hend cm.handler hoT] at hgo
        cases hgo
    · left
      have hnt : h ∉ cm.trashed := fun hin => hh ((trashed_iff hs A.toOwnTrash inv hleg hgo).mp hin)
      show (dropAll (pendPushed p cm) cm.trashed h).isSome
      rw [dropAll_eq, if_neg hnt]; exact hmid

/-- the first leg commits the start-of-run event: no other handler is handed out -/
theorem alive_first (hs : Static M) {T : TaggerIdx} {h : HandlerId} (A : AlwaysOn M T h) {st' : MedState (SSched XTime)}
    {o : Oracle XTime} {cm : Committed XTime}
    (hleg : leg M (specI xcfg) (MedState.init (specI xcfg) M.w) o = .ok (st', cm)) :
    owner M.w cm.handler = some M.S ∧ Alive M T h st' (pendAfter (fun _ => none) cm) := by
  obtain ⟨E, f⟩ := Med.leg_facts (specLaws xcfg_strictWeak) hs (minv_init (specLaws xcfg_strictWeak) M) hleg
  have hfirst : createLoop o.yields (applyActivation M.w (initAct M.w) M.S) [M.S] =
      some (midAct M (MedState.init (specI xcfg) M.w) o, cm.created) :=
    (getToRun_first (S := M.S) (a := (MedState.init (specI xcfg) M.w).act) rfl f.toRun).1
  obtain rfl : E = M.S := by
    by_contra hne
    have := f.running
    rw [first_running_nil hfirst hne] at this
    cases this
  refine ⟨f.owner, leg_started hleg, ?_, Or.inr ⟨cm.handler, M.S, f.prec, f.owner, A.byStart⟩⟩
  rw [f.trashEq, trash, trashLoop_activated]
  refine (createLoop_activated hfirst T).trans (activated_applyActivation A (by simp [initAct]) ?_ M.S)
  rw [getT_initAct, if_pos A.lt]

theorem mrun_nil {os : List (Oracle XTime)} {st : MedState (SSched XTime)} (hr : MRun M os [] st) :
    st = MedState.init (specI xcfg) M.w := by
  generalize hcs : ([] : List (Committed XTime)) = cs at hr
  cases hr with
  | init => rfl
  | step _ _ _ => simp at hcs

theorem alive_inv (hs : Static M) {T : TaggerIdx} {h : HandlerId} (A : AlwaysOn M T h) {os : List (Oracle XTime)}
    {cs : List (Committed XTime)} {st : MedState (SSched XTime)} (hr : MRun M os cs st) (hy : ∀ o ∈ os, o.yields T ≠ []) :
    (∀ k cm, cs[k]? = some cm →
      (cs.take k = [] → owner M.w cm.handler = some M.S) ∧
      (cs.take k ≠ [] → (pendPushed (pendOf (fun _ => none) (cs.take k)) cm h).isSome)) ∧
    (cs ≠ [] → (∀ cl, cs.getLast? = some cl → cl.stop = false) → Alive M T h st (pendOf (fun _ => none) cs)) := by
  induction hr with
  | init => exact ⟨fun k cm hk => by simp at hk, fun h => absurd rfl h⟩
  | @step os cs st st' o cm prev hgo hleg ih =>
    obtain ⟨ihm, ihe⟩ := ih (fun o ho => hy o (List.mem_append_left _ ho))
    have hyo : o.yields T ≠ [] := hy o (by simp)
    by_cases hcs : cs = []
    · subst hcs
      have := mrun_nil prev
      subst this
      obtain ⟨h1, h2⟩ := alive_first hs A hleg
      constructor
      · refine idx_snoc (P := fun pre cm => (pre = [] → owner M.w cm.handler = some M.S) ∧
          (pre ≠ [] → (pendPushed (pendOf (fun _ => none) pre) cm h).isSome)) ihm ⟨fun _ => h1, fun hne => absurd rfl hne⟩
      · intro _ _
        rw [pendOf_snoc]; exact h2
    · have al := ihe hcs hgo
      obtain ⟨h1, h2⟩ := alive_step hs A (mrun_minv hs prev) al hleg hyo
      constructor
      · refine idx_snoc (P := fun pre cm => (pre = [] → owner M.w cm.handler = some M.S) ∧
          (pre ≠ [] → (pendPushed (pendOf (fun _ => none) pre) cm h).isSome)) ihm ⟨fun hc => absurd hc hcs, fun _ => h1⟩
      · intro _ hlast
        rw [pendOf_snoc]; exact h2 (hlast cm (by simp))

theorem alive_pending (hs : Static M) {T : TaggerIdx} {h : HandlerId} (A : AlwaysOn M T h) {os : List (Oracle XTime)}
    {cs : List (Committed XTime)} {st : MedState (SSched XTime)} (hr : MRun M os cs st) (hy : ∀ o ∈ os, o.yields T ≠ [])
    {k : Nat} {cm : Committed XTime} (hk : cs[k]? = some cm) (h1 : 1 ≤ k) :
    (pendPushed (pendOf (fun _ => none) (cs.take k)) cm h).isSome := by
  refine ((alive_inv hs A hr hy).1 k cm hk).2 ?_
  intro hc
  have hlt : k < cs.length := (List.getElem?_eq_some_iff.mp hk).1
  have := congrArg List.length hc
  rw [List.length_take, Nat.min_eq_left (Nat.le_of_lt hlt)] at this
  simp at this; omega

theorem first_owner (hs : Static M) {T : TaggerIdx} {h : HandlerId} (A : AlwaysOn M T h) {os : List (Oracle XTime)}
    {cs : List (Committed XTime)} {st : MedState (SSched XTime)} (hr : MRun M os cs st) (hy : ∀ o ∈ os, o.yields T ≠ [])
    {cm : Committed XTime} (hk : cs[0]? = some cm) : owner M.w cm.handler = some M.S :=
  ((alive_inv hs A hr hy).1 0 cm hk).1 (by simp)

/-- from the second leg on the value of an always-on handler is pending in the middle of every leg, and nothing later is committed -/
theorem tick_due (hs : Static M) {T : TaggerIdx} {h : HandlerId} (A : AlwaysOn M T h) {f : Nat → XTime}
    {os : List (Oracle XTime)} {cs : List (Committed XTime)} {st : MedState (SSched XTime)} (hr : MRun M os cs st)
    (hc : Cands h f os cs) (hfin : ∀ j, xcfg.finite (f j) = true) (hy : ∀ o ∈ os, o.yields T ≠ []) {k : Nat}
    {cm : Committed XTime} (hk : cs[k]? = some cm) (h1 : 1 ≤ k) :
    pendPushed (pendOf (fun _ => none) (cs.take k)) cm h = some (f (commits h (cs.take k))) ∧
      xcfg.lt (f (commits h (cs.take k))) cm.time = false := by
  obtain ⟨t, ht⟩ := Option.isSome_iff_exists.mp (alive_pending hs A hr hy hk h1)
  have htv := (tick_inv hs A.toOwnTrash hr hc).1 k cm hk t ht
  subst htv
  exact ⟨ht, (mrun_legOK hs hr k cm hk).1.minimal h _ ht (hfin _)⟩

end

end JF.C17System
