import JF.Lemmas.StoreRefineLift
/-!
Facts about the purely functional specification `Spec` alone (no heap, no reference occurs in this
file): what the global state reads after a commit — under every identifier the last unit committed
there, everywhere else what it read before (`unitAt_insertUnits`).  `JF/Props/C13Refine.lean` carries
this to the reference-level store through the refinement theorem.
-/
namespace JF.Store
variable {α : Type}

namespace Spec

theorem physSet_ok {phys phys' : List (Node α × List (Node α))} {id : Ident} {p : Val α}
    (hs : physSet phys id p = .ok phys') :
    ∃ r R, phys[r]? = some R ∧
      ((id = [r] ∧ phys' = phys.set r ({ R.1 with pos := p }, R.2)) ∨
       ∃ c L, id = [r, c] ∧ R.2[c]? = some L ∧ phys' = phys.set r (R.1, R.2.set c { L with pos := p })) := by
  match id, hs with
  | [], hs => simp [physSet] at hs
  | [r], hs =>
    simp only [physSet] at hs
    cases hR : phys[r]? with
    | none => simp [hR] at hs
    | some R => exact ⟨r, R, hR, .inl ⟨rfl, by simpa [hR] using hs.symm⟩⟩
  | [r, c], hs =>
    simp only [physSet] at hs
    cases hR : phys[r]? with
    | none => simp [hR] at hs
    | some R =>
      cases hL : R.2[c]? with
      | none => simp [hR, hL] at hs
      | some L => exact ⟨r, R, hR, .inr ⟨c, L, rfl, hL, by simpa [hR, hL] using hs.symm⟩⟩
  | _ :: _ :: _ :: _, hs => simp [physSet] at hs

theorem node_physSet {g : Global α} {id : Ident} {p : Val α} {phys' : List (Node α × List (Node α))}
    (hs : physSet g.phys id p = .ok phys') (id' : Ident) :
    node { g with phys := phys' } id' =
      if id' = id then (node g id).map (fun n => { n with pos := p }) else node g id' := by
  obtain ⟨r, R, hR, ⟨rfl, rfl⟩ | ⟨c, L, rfl, hL, rfl⟩⟩ := physSet_ok hs
  · obtain ⟨hlt, hRe⟩ := List.getElem?_eq_some_iff.1 hR
    match id' with
    | [] => simp [node]
    | [r'] =>
      by_cases hr : r' = r
      · subst hr; simp [node, hlt, hRe]
      · simp [node, List.getElem?_set_ne (Ne.symm hr), hr]
    | [r', c'] =>
      by_cases hr : r' = r
      · subst hr; simp [node, hlt, hRe]
      · simp [node, List.getElem?_set_ne (Ne.symm hr)]
    | _ :: _ :: _ :: _ => simp [node]
  · obtain ⟨hlt, hRe⟩ := List.getElem?_eq_some_iff.1 hR
    obtain ⟨hlc, hLe⟩ := List.getElem?_eq_some_iff.1 hL
    match id' with
    | [] => simp [node]
    | [r'] =>
      by_cases hr : r' = r
      · subst hr; simp [node, hlt, hRe]
      · simp [node, List.getElem?_set_ne (Ne.symm hr)]
    | [r', c'] =>
      by_cases hr : r' = r
      · subst hr
        by_cases hc : c' = c
        · subst hc; simp [node, hlt, hlc, hRe, hLe]
        · simp [node, hlt, List.getElem?_set_ne (Ne.symm hc), hc, hRe]
      · simp [node, List.getElem?_set_ne (Ne.symm hr), hr]
    | _ :: _ :: _ :: _ => simp [node]

/-- what is stored under the identifier of a committed unit: its position, velocity and time stamp;
charge and weight are those of the node -/
def over (u o : UVal α) : UVal α := { u with charge := o.charge, weight := o.weight }

theorem unitAt_insertUnit {g g' : Global α} {u : UVal α} (hs : insertUnit g u = (g', none)) (id' : Ident) :
    unitAt g' id' = if id' = u.id then (unitAt g u.id).map (over u) else unitAt g id' := by
  simp only [insertUnit] at hs
  cases hp : physSet g.phys u.id u.pos with
  | error e => simp [hp] at hs
  | ok phys =>
    simp only [hp] at hs
    have hn := node_physSet hp id'
    have hlift : g'.phys = phys ∧ g'.levels = g.levels ∧ g'.perRoot = g.perRoot ∧
        (g'.lift.lookup id').map (·.1) = (if id' = u.id then u.vel else (g.lift.lookup id').map (·.1)) ∧
        (g'.lift.lookup id').map (·.2) = (if id' = u.id then u.ts else (g.lift.lookup id').map (·.2)) := by
      simp only [liftSet] at hs
      cases hv : u.vel with
      | some v =>
        cases ht : u.ts with
        | none => simp [hv, ht] at hs
        | some t =>
          simp only [hv, ht, Prod.mk.injEq] at hs
          obtain ⟨rfl, _⟩ := hs
          simp only [lookup_assocSet, true_and]
          by_cases h : id' = u.id <;> simp [h]
      | none =>
        cases ht : u.ts with
        | some t => simp [hv, ht] at hs
        | none =>
          simp only [hv, ht] at hs
          split at hs
          · simp only [Prod.mk.injEq] at hs
            obtain ⟨rfl, _⟩ := hs
            simp only [lookup_filter_ne, true_and]
            by_cases h : id' = u.id <;> simp [h]
          · rename_i hnone
            simp only [Prod.mk.injEq, and_true] at hs
            subst hs
            simp only [true_and]
            by_cases h : id' = u.id
            · subst h
              cases hl : g.lift.lookup u.id with
              | none => simp
              | some x => simp [hl] at hnone
            · simp [h]
    obtain ⟨h1, _, _, h4, h5⟩ := hlift
    have hnode : node g' id' = node { g with phys := phys } id' := by
      cases id' with
      | nil => rfl
      | cons r t =>
        cases t with
        | nil => simp only [node, h1]
        | cons c t =>
          cases t with
          | nil => simp only [node, h1]
          | cons _ _ => rfl
    simp only [unitAt, hnode, hn, h4, h5]
    by_cases h : id' = u.id
    · simp only [h, if_true, Option.map_map]
      congr 1
    · simp only [h, if_false]

theorem insertUnit_isSome {g g' : Global α} {u : UVal α} (hs : insertUnit g u = (g', none)) :
    (unitAt g u.id).isSome = true := by
  simp only [insertUnit] at hs
  cases hp : physSet g.phys u.id u.pos with
  | error e => simp [hp] at hs
  | ok phys =>
    obtain ⟨r, R, hR, ⟨hid, _⟩ | ⟨c, L, hid, hL, _⟩⟩ := physSet_ok hp
    · simp [unitAt, hid, node, hR]
    · simp [unitAt, hid, node, hR, hL]

/-- **The global state after a successful commit**, in closed form: under every identifier the last committed unit
with that identifier (position, velocity, time stamp), charge and weight those of the node; every other identifier as before. -/
theorem unitAt_insertUnits {us : List (UVal α)} : ∀ {g g' : Global α}, insertUnits g us = (g', none) → ∀ id,
    unitAt g' id = match us.reverse.find? (fun w => w.id = id) with
      | some u => (unitAt g id).map (over u)
      | none => unitAt g id := by
  induction us with
  | nil => intro g g' hs id; simp only [insertUnits, Prod.mk.injEq, and_true] at hs; rw [hs]; rfl
  | cons u us ih =>
    intro g g' hs id
    simp only [insertUnits] at hs
    cases hu : insertUnit g u with
    | mk g1 e =>
      cases e with
      | some e => simp [hu] at hs
      | none =>
        simp only [hu] at hs
        rw [ih hs id, unitAt_insertUnit hu, List.reverse_cons, List.find?_append]
        have oo : ∀ w : UVal α, over w ∘ over u = over w := fun _ => rfl
        cases us.reverse.find? (fun w => w.id = id) with
        | some w => by_cases h : id = u.id <;> simp [h, oo]
        | none =>
          by_cases h : id = u.id
          · subst h; simp
          · simp [h, Ne.symm h]

theorem insertUnits_isSome {us : List (UVal α)} {g g' : Global α} (hs : insertUnits g us = (g', none)) (id : Ident) :
    (unitAt g' id).isSome = (unitAt g id).isSome := by
  rw [unitAt_insertUnits hs]
  split <;> simp

/-- every committed unit has a node -/
theorem insertUnits_mem_isSome {us : List (UVal α)} : ∀ {g g' : Global α}, insertUnits g us = (g', none) →
    ∀ u ∈ us, (unitAt g u.id).isSome = true := by
  induction us with
  | nil => intro _ _ _ u hu; cases hu
  | cons v us ih =>
    intro g g' hs u hu
    simp only [insertUnits] at hs
    cases hv : insertUnit g v with
    | mk g1 e =>
      cases e with
      | some e => simp [hv] at hs
      | none =>
        simp only [hv] at hs
        rcases List.mem_cons.1 hu with rfl | hu
        · exact insertUnit_isSome hv
        · rw [← insertUnits_isSome (us := [v]) (g' := g1) (by simp [insertUnits, hv])]
          exact ih hs u hu

theorem unitAt_insertUnits_other {us : List (UVal α)} {g g' : Global α} (hs : insertUnits g us = (g', none))
    {id : Ident} (hn : ∀ w ∈ us, w.id ≠ id) : unitAt g' id = unitAt g id := by
  rw [unitAt_insertUnits hs, List.find?_eq_none.2 fun w hw => by simpa using hn w (List.mem_reverse.1 hw)]

/-- the last unit committed under an identifier is what the global state reads there afterwards -/
theorem unitAt_insertUnits_last {g g' : Global α} {pre post : List (UVal α)} {u : UVal α}
    (hs : insertUnits g (pre ++ u :: post) = (g', none)) (hn : ∀ w ∈ post, w.id ≠ u.id) :
    ∃ o, unitAt g u.id = some o ∧ unitAt g' u.id = some (over u o) := by
  have h := unitAt_insertUnits hs u.id
  rw [List.reverse_append, List.reverse_cons, List.append_assoc, List.find?_append,
    List.find?_eq_none.2 fun w hw => by simpa using hn w (List.mem_reverse.1 hw)] at h
  simp only [List.singleton_append, List.find?_cons_of_pos, decide_true, Option.none_or] at h
  obtain ⟨o, ho⟩ := Option.isSome_iff_exists.1 (insertUnits_mem_isSome hs u (by simp))
  exact ⟨o, ho, by rw [h, ho]; rfl⟩

end Spec
end JF.Store
