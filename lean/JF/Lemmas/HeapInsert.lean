import JF.Lemmas.HeapBasic
/-! `insert` of the model of `heap.c` preserves the heap invariant and adds exactly the new entry. -/
namespace JF.Heap
variable {κ : Type} {cfg : Cfg κ}

/-- the set-up part of `insert` (post-increment of `length`, reallocation, sentinel) -/
def prep (cfg : Cfg κ) (hp : CHeap κ) : CHeap κ × Nat :=
  let position := hp.length
  let hp := { hp with length := hp.length + 1 }
  if hp.length + 1 > hp.mem.size then
    let oldSize := hp.mem.size
    let newSize := if oldSize != 0 then oldSize * 2 else 64
    let hp := { hp with mem := grow cfg hp.mem newSize }
    if oldSize == 0 then
      let hp := set hp 0 (nullEntry cfg)
      ({ hp with length := hp.length + 1 }, position + 1)
    else (hp, position)
  else (hp, position)

theorem insert_eq (cfg : Cfg κ) (hp : CHeap κ) (k : κ) (h c : Nat) :
    insert cfg hp k h c =
      set (insertLoop cfg k ((prep cfg hp).2 + 1) (prep cfg hp).1 (prep cfg hp).2).1
        (insertLoop cfg k ((prep cfg hp).2 + 1) (prep cfg hp).1 (prep cfg hp).2).2 ⟨k, h, c⟩ := by
  rfl

attribute [local irreducible] grow

structure PrepSpec (cfg : Cfg κ) (hp hp1 : CHeap κ) (p : Nat) : Prop where
  nf : hp1.fault = false
  len : hp1.length = p + 1
  sz : p + 2 ≤ hp1.mem.size
  p1 : 1 ≤ p
  /-- the never-allocated heap (`length = 0`) counts as the heap that holds just the sentinel -/
  pdef : p = max hp.length 1
  bot : (get cfg hp1 0).key = cfg.bot
  same : ∀ i, 1 ≤ i → i < p → get cfg hp1 i = get cfg hp i

theorem prep_spec {hp : CHeap κ} (hw : WF cfg hp) : PrepSpec cfg hp (prep cfg hp).1 (prep cfg hp).2 := by
  obtain ⟨hnf, ⟨hl, hs⟩ | ⟨h1, h2, h3⟩⟩ := hw
  · have : prep cfg hp = ({ set { hp with length := 1, mem := grow cfg hp.mem 64 } 0 (nullEntry cfg) with length := 2 }, 1) := by
      simp [prep, hl, hs]
    rw [this]
    refine ⟨?_, rfl, ?_, Nat.le_refl 1, by rw [hl]; rfl, ?_, fun i h1 h2 => absurd h1 (Nat.not_le.2 h2)⟩
    · show (set _ 0 _).fault = false
      rw [fault_set _ _ (by simp)]; exact hnf
    · show 1 + 2 ≤ (set _ 0 _).mem.size
      simp
    · show (get cfg (set _ 0 _) 0).key = _
      rw [get_set_lt _ _ _ (by simp)]; simp [nullEntry]
  · have hp1 : hp.length = max hp.length 1 := (Nat.max_eq_left h1).symm
    by_cases hg : hp.length + 1 + 1 > hp.mem.size
    · have hs0 : hp.mem.size ≠ 0 := Nat.ne_of_gt (Nat.lt_of_lt_of_le (Nat.succ_pos _) h2)
      have : prep cfg hp = ({ hp with length := hp.length + 1, mem := grow cfg hp.mem (hp.mem.size * 2) }, hp.length) := by
        simp [prep, hg, hs0]
      rw [this]
      have hgrow : ∀ i, get cfg ({ hp with length := hp.length + 1, mem := grow cfg hp.mem (hp.mem.size * 2) } : CHeap κ) i
          = get cfg hp i := fun i =>
        get_grow cfg { hp with length := hp.length + 1 } (hp.mem.size * 2) i (Nat.le_mul_of_pos_right _ (by decide))
      refine ⟨hnf, rfl, ?_, h1, hp1, by rw [hgrow]; exact h3, fun i _ _ => hgrow i⟩
      show hp.length + 2 ≤ (grow cfg hp.mem (hp.mem.size * 2)).size
      rw [size_grow]; omega
    · have : prep cfg hp = ({ hp with length := hp.length + 1 }, hp.length) := by
        simp [prep, hg]
      rw [this]
      exact ⟨hnf, rfl, Nat.le_of_not_lt hg, h1, hp1, h3, fun i _ _ => rfl⟩

theorem insert_spec (o : StrictWeak cfg) {hp : CHeap κ} (k : κ) (h c : Nat) (hI : Inv cfg hp) :
    Inv cfg (insert cfg hp k h c) ∧
    (∀ e, Mem cfg (insert cfg hp k h c) e ↔ e = ⟨k, h, c⟩ ∨ Mem cfg hp e) ∧
    (insert cfg hp k h c).length = max hp.length 1 + 1 := by
  obtain ⟨hw, ho⟩ := hI
  have P := prep_spec hw
  rw [insert_eq]
  generalize (prep cfg hp).1 = hp1 at P ⊢
  generalize (prep cfg hp).2 = p at P ⊢
  -- below `p` the indices `≥ 1` are exactly the old live part
  have hpl : ∀ i, 1 ≤ i → i < p → i < hp.length := fun i h1 h2 => by have := P.pdef; omega
  have hlp : ∀ i, i < hp.length → i < p := fun i hi => by
    rw [P.pdef]; exact Nat.lt_of_lt_of_le hi (Nat.le_max_left _ _)
  have U : UpInv cfg k (p + 1) (Mem cfg hp) hp1 p := by
    refine ⟨P.nf, P.len, P.sz, P.p1, Nat.lt_succ_self p, P.bot, ?_, ?_, ?_⟩
    · intro i h1 hL hne _
      have hip : i < p := Nat.lt_of_le_of_ne (Nat.le_of_lt_succ hL) hne
      rw [P.same i h1 hip]
      by_cases h2 : i / 2 = 0
      · rw [h2, P.bot]; exact o.bot_min _
      · rw [P.same (i / 2) (Nat.pos_of_ne_zero h2) (Nat.lt_of_le_of_lt (Nat.div_le_self _ _) hip)]
        exact ho i h1 (hpl i h1 hip)
    · intro c hL hc; have := P.p1; omega
    · intro e
      constructor
      · rintro ⟨i, h1, hL, hne, he⟩
        have hip : i < p := Nat.lt_of_le_of_ne (Nat.le_of_lt_succ hL) hne
        rw [P.same i h1 hip] at he
        exact ⟨i, h1, hpl i h1 hip, he⟩
      · rintro ⟨i, h1, hL, he⟩
        have hip := hlp i hL
        exact ⟨i, h1, Nat.lt_succ_of_lt hip, Nat.ne_of_lt hip, by rw [P.same i h1 hip]; exact he⟩
  obtain ⟨V, hex⟩ := insertLoop_spec o k (p + 1) (Mem cfg hp) (p + 1) hp1 p (Nat.lt_succ_self p) U
  generalize (insertLoop cfg k (p + 1) hp1 p).1 = hp2 at V hex ⊢
  generalize (insertLoop cfg k (p + 1) hp1 p).2 = q at V hex ⊢
  have hqs : q < hp2.mem.size := Nat.lt_of_lt_of_le (Nat.lt_succ_of_lt V.posL) V.sz
  generalize hq : set hp2 q ⟨k, h, c⟩ = hp3
  obtain ⟨q_nf, hlen, q_sz, gq, gne⟩ := set_spec (cfg := cfg) hp2 _ hqs hq.symm
  rw [V.len] at hlen
  refine ⟨⟨⟨by rw [q_nf]; exact V.nf, Or.inr ⟨by rw [hlen]; exact Nat.succ_le_succ (Nat.zero_le p),
    by rw [hlen, q_sz]; exact V.sz, by rw [gne 0 (Nat.ne_of_lt V.pos1)]; exact V.bot⟩⟩, ?_⟩, ?_,
    by rw [hlen, P.pdef]⟩
  · intro i h1 hL
    rw [hlen] at hL
    by_cases hiq : i = q
    · rw [hiq, gq, gne _ (half_ne V.pos1)]; exact hex
    · rw [gne i hiq]
      by_cases h2 : i / 2 = q
      · rw [h2, gq]; exact (V.b i hL h2).1
      · rw [gne _ h2]; exact V.a i h1 hL hiq h2
  · intro e
    rw [← V.cont e]
    constructor
    · rintro ⟨i, h1, hL, he⟩
      rw [hlen] at hL
      by_cases hiq : i = q
      · rw [hiq, gq] at he; exact Or.inl he.symm
      · rw [gne i hiq] at he; exact Or.inr ⟨i, h1, hL, hiq, he⟩
    · rintro (he | ⟨i, h1, hL, hne, he⟩)
      · exact ⟨q, V.pos1, by rw [hlen]; exact V.posL, by rw [gq, he]⟩
      · exact ⟨i, h1, by rw [hlen]; exact hL, by rw [gne i hne]; exact he⟩
end JF.Heap
