import JF.Num.Rounded
import JF.Lemmas.PyArith
/-!
CPython's `divmod(x, 1.0)` (`pydivmod1`, the model of `float_divmod`) in the rounding-abstract reading:
for a representable non-negative `x` NO operation of the algorithm rounds, and the result is
`(⌊x⌋, x - ⌊x⌋)`.

Walk through `float_divmod(vx = x, wx = 1.0)`:
* `mod = fmod(vx, wx)`                     exact by definition of `fmod`:  `x - ⌊x⌋`;
* `div = (vx - mod) / wx`                  `x - (x - ⌊x⌋) = ⌊x⌋` is representable (`floor_mem`), so the
                                            subtraction is exact; division by one is exact;
* `if (mod) { if ((wx < 0) != (mod < 0)) … }`   never taken: `mod ≥ 0`, `wx = 1 > 0`;
* `else mod = copysign(0.0, wx)`           `= 0 = x - ⌊x⌋`;
* `if (div) { floordiv = floor(div); if (div - floordiv > 0.5) floordiv += 1.0; }`
                                            `div` is an integer: `div - floor(div) = rnd 0 = 0`, and
                                            `rnd (1/2) ≥ 0` by monotonicity, so the correction never fires;
* `else floordiv = copysign(0.0, vx / wx)`  `= 0 = ⌊x⌋`.
-/
namespace JF
open R
variable {fm : FloatModel}

/-- `if (v) … else v = copysign(0.0, …)`: the zero branch returns `v` as well (signed zeros are not distinguished) -/
theorem R.ite_bne_zero (a z : R fm) (hz : toQ z = 0) :
    (if (a != (Ops.rounded fm).ofInt 0) = true then a else z) = a := by
  by_cases h : toQ a = 0
  · rw [if_neg (by simp [h])]; exact R.ext (hz.trans h.symm)
  · rw [if_pos (by simpa using h)]

theorem pydivmod1_rounded (x : R fm) (hx : toQ x ∈ fm.F) (h0 : 0 ≤ toQ x) :
    pydivmod1 (Ops.rounded fm) x
      = (ofQ ((⌊toQ x⌋ : ℤ) : ℚ), ofQ (toQ x - ((⌊toQ x⌋ : ℤ) : ℚ))) := by
  have hfl : ((⌊toQ x⌋ : ℤ) : ℚ) ∈ fm.F := fm.floor_mem _ hx h0
  have hm0 : (Ops.rounded fm).fmod x ((Ops.rounded fm).ofInt 1) = ofQ (toQ x - ((⌊toQ x⌋ : ℤ) : ℚ)) := by
    apply R.ext
    have := fmod1 (toQ x)
    simp only [h0, if_true] at this
    simpa using this
  have hd0 : (x - (ofQ (toQ x - ((⌊toQ x⌋ : ℤ) : ℚ)) : R fm)) / (Ops.rounded fm).ofInt 1
      = ofQ ((⌊toQ x⌋ : ℤ) : ℚ) := by
    apply R.ext
    simp only [toQ_div, toQ_sub, rounded_ofInt, Int.cast_one, div_one, toQ_ofQ, sub_sub_cancel,
      fm.rnd_id _ hfl]
  have hnl : ¬ (toQ x - ((⌊toQ x⌋ : ℤ) : ℚ) < 0) := not_lt.mpr (sub_nonneg.mpr (Int.floor_le _))
  have hfloor : (Ops.rounded fm).floor (ofQ ((⌊toQ x⌋ : ℤ) : ℚ)) = ofQ ((⌊toQ x⌋ : ℤ) : ℚ) := by
    apply R.ext; simp only [rounded_floor, toQ_ofQ, Int.floor_intCast]
  have hhalf : ¬ (fm.rnd (1 / 2) < 0) := not_lt.mpr (fm.rnd_nonneg (by norm_num))
  simp only [pydivmod1, hm0, hd0, hfloor, lt_iff, toQ_div, toQ_sub, rounded_ofInt, toQ_ofQ, Int.cast_one,
    Int.cast_zero, Int.cast_ofNat, hnl, show ¬ ((1:ℚ) < 0) by norm_num, decide_false, bne_self_eq_false,
    Bool.and_false, Bool.false_eq_true, if_false, sub_self, fm.rnd_zero, hhalf]
  exact Prod.ext (R.ite_bne_zero _ _ rfl) (R.ite_bne_zero _ _ rfl)
end JF
