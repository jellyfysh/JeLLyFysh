import JF.Lemmas.SystemRunStep
/-!
Pieces of the induction step of the joint invariant (`JF.Sys.Big`, `JF/Lemmas/SystemRunStep.lean`).
-/
namespace JF.Sys
open JF JF.Act JF.Heap JF.Sched JF.Med JF.CW JF.C14 JF.MediatorLoop JF.Kin

theorem cbWired_spec {c : Wiring} {S : TaggerIdx} (h : cbWired c S = true) (hO : hasOccOf c = true) :
    ∃ B, B < c.n ∧ (c.tagger B).cls = .cellBoundary ∧ (c.tagger B).kind = .cellBoundary ∧
      (∀ T, T < c.n → (c.tagger T).kind = .cellBoundary → T = B) ∧ ∀ σ ∈ reach c S, aGet σ B = true := by
  unfold cbWired at h
  simp only [hO, Bool.not_true, Bool.false_or, List.any_eq_true, List.mem_range, Bool.and_eq_true, beq_iff_eq,
    List.all_eq_true, Bool.or_eq_true, bne_iff_ne, ne_eq] at h
  obtain ⟨B, hB, ⟨⟨h1, h2⟩, h3⟩, h4⟩ := h
  refine ⟨B, hB, h1, h2, ?_, h4⟩
  intro T hT hk
  rcases h3 T hT with h5 | h5
  · exact h5
  · exact absurd hk h5

theorem affects_ident_of {t : TaggerW} (h1 : t.kind ≠ .sampling) (h2 : t.kind ≠ .dumping) (h3 : t.kind ≠ .endOfRun)
    (h4 : t.kind ≠ .cellBoundary) : affects t .ident = true := by
  unfold affects
  cases hk : t.kind <;> simp_all

/-- strictly before `τ` the unit that is at `pos` at time `ts`, time-sliced along `v`, is in the cell of `pos` -/
def StayUntil (env : Env ℚ) (pos v : List ℚ) (ts τ : Time ℚ) : Prop :=
  ∀ x, val ts ≤ x → x < val τ → env.cellOf (sliceVec Ops.rat env.L pos v (x - val ts)) = env.cellOf pos

theorem stayUntil_slice {env : Env ℚ} {pos v : List ℚ} {ts τ t : Time ℚ} (hL : PosBox env.L)
    (hp : pos.length = env.L.length) (hv : v.length = env.L.length) (h : StayUntil env pos v ts τ)
    (h0 : val ts ≤ val t) (h1 : val t < val τ) :
    env.cellOf (sliceVec Ops.rat env.L pos v (Time.sub t ts)) = env.cellOf pos ∧
    StayUntil env (sliceVec Ops.rat env.L pos v (Time.sub t ts)) v t τ := by
  rw [sub_exact]
  have hcell := h (val t) h0 h1
  refine ⟨hcell, ?_⟩
  intro x hx0 hx1
  rw [sliceVec_comp env.L pos v _ _ hL hp hv, hcell]
  have := h x (le_trans h0 hx0) hx1
  rw [show val t - val ts + (x - val t) = x - val ts by ring]
  exact this

theorem stayUntil_of_geo {env : Env ℚ} (geo : Geo env) {pos v : List ℚ} {ts : Time ℚ} (hb : InBox env.L pos)
    (hv : geo.velOK v) : StayUntil env pos v ts (Time.add Ops.rat ts (geo.ttb pos v)) := by
  intro x h0 h1
  rw [add_val] at h1
  exact geo.stays pos v (x - val ts) hb hv (by linarith) (by linarith)

section
variable {env : Env ℚ} {geo : Geo env}

theorem kin_step (ho : env.o = Ops.rat) {us us' : List (PUnit ℚ)} {a : Nat} {pos v : List ℚ} {ts t : Time ℚ}
    {kind : HandlerKind} (hk : KinI env.L us a pos v ts) (hv : geo.velOK v) (hts : Normalised ts) (ht : Normalised t)
    (hle : val ts ≤ val t) (hc : Commits env geo kind t us us') :
    ∃ a' pos' v' ts', KinI env.L us' a' pos' v' ts' ∧ geo.velOK v' ∧ Normalised ts' ∧ val ts' ≤ val t ∧
      (kind ≠ .dumping → ts' = t) ∧
      ((kind = .sampling ∨ kind = .dumping) → a' = a ∧ v' = v ∧
        ((pos' = sliceVec Ops.rat env.L pos v (Time.sub t ts) ∧ ts' = t) ∨ (pos' = pos ∧ ts' = ts))) := by
  have hL := geo.posBox
  rcases hc with ⟨ev, hal, hev, hadm, rfl⟩ | ⟨_, rfl⟩
  · rw [ho]
    cases ev with
    | start t0 b w =>
      exfalso
      obtain ⟨⟨ua, hua, _, hvel, _⟩, _⟩ := hk
      have := hadm.2.2 ua (List.mem_of_getElem? hua)
      rw [hvel] at this; cases this
    | keep t0 =>
      have : t0 = t := hev
      subst this
      exact ⟨a, _, v, t0, hk.slice hL t0, hv, ht, le_refl _, fun _ => rfl, fun _ => ⟨rfl, rfl, Or.inl ⟨rfl, rfl⟩⟩⟩
    | snap t0 d x =>
      have : t0 = t := hev
      subst this
      refine ⟨a, _, v, t0, hk.step_snap hL t0 d x hadm.1, hv, ht, le_refl _, fun _ => rfl, fun hq => ?_⟩
      rcases hq with rfl | rfl <;> simp [allowedEv] at hal
    | lift t0 b =>
      have : t0 = t := hev
      subst this
      obtain ⟨pos', hk'⟩ := hk.step_lift hL t0 b hadm
      refine ⟨b, pos', v, t0, hk', hv, ht, le_refl _, fun _ => rfl, fun hq => ?_⟩
      rcases hq with rfl | rfl <;> simp [allowedEv] at hal
    | endOfChain t0 b w =>
      have : t0 = t := hev
      subst this
      obtain ⟨pos', hk'⟩ := hk.step_endOfChain hL t0 b w hadm.1 (geo.vlen w hadm.2)
      refine ⟨b, pos', w, t0, hk', hadm.2, ht, le_refl _, fun _ => rfl, fun hq => ?_⟩
      rcases hq with rfl | rfl <;> simp [allowedEv] at hal
  · next hd => exact ⟨a, pos, v, ts, hk, hv, hts, hle, fun h => absurd hd h, fun _ => ⟨rfl, rfl, Or.inr ⟨rfl, rfl⟩⟩⟩

/-- where the unit that was moving is after the commit of anything but a cell-boundary event: time-sliced to the committed time
(or, after a dumping event with its empty out-state, where it was) -/
theorem old_mover_pos (ho : env.o = Ops.rat) {us us' : List (PUnit ℚ)} {a : Nat} {pos v : List ℚ} {ts t : Time ℚ}
    {kind : HandlerKind} (hk : KinI env.L us a pos v ts) (hc : Commits env geo kind t us us')
    (hncb : kind ≠ .cellBoundary) :
    (us'[a]?).map (·.pos) = some (sliceVec Ops.rat env.L pos v (Time.sub t ts)) ∨ us' = us := by
  rcases hc with ⟨ev, hal, hev, hadm, rfl⟩ | ⟨_, rfl⟩
  · left
    rw [ho, step_pos env.L us ev a]
    obtain ⟨⟨ua, hua, hp, hvel, hts⟩, _⟩ := hk
    rw [hua]
    simp only [Option.map_some, Option.some.injEq]
    have hsl : ∀ t0, t0 = t → (timeSlice Ops.rat env.L t0 ua).pos = sliceVec Ops.rat env.L pos v (Time.sub t ts) := by
      intro t0 h0; subst h0
      rw [timeSlice_of_moving env.L t0 ua hvel hts, hp]
    cases ev with
    | start t0 b w =>
      exfalso
      have := hadm.2.2 ua (List.mem_of_getElem? hua)
      rw [hvel] at this; cases this
    | keep t0 => exact hsl t0 hev
    | lift t0 b => exact hsl t0 hev
    | endOfChain t0 b w => exact hsl t0 hev
    | snap t0 d x =>
      exfalso
      cases kind <;> simp [allowedEv] at hal
      exact hncb rfl
  · exact Or.inr rfl

end

section
variable {env : Env ℚ} {c : Wiring} {S : TaggerIdx}

theorem movers_rest {us : List (PUnit ℚ)} (h : ∀ u ∈ us, u.vel = none) : movers us = [] := by
  unfold movers
  rw [List.filter_eq_nil_iff]
  intro i _
  cases hu : us[i]? with
  | none => simp
  | some u => simp [Kin.isMoving, h u (List.mem_of_getElem? hu)]

/-- C09's freshness for the cell-boundary tagger says that its event is pending while a relevant unit is active -/
theorem cb_exists {rs : RS (G env c)} (inv : RunInv c (world env c) S rs) (hO : hasOccOf c = true)
    {B : TaggerIdx} (hB : B < c.n) (hBc : (c.tagger B).cls = .cellBoundary) (hBk : (c.tagger B).kind = .cellBoundary)
    (hBa : aGet (absOf rs.act) B = true) {a : Nat} {pos v : List ℚ} {ts : Time ℚ}
    (hk : KinI env.L rs.g.1.us a pos v ts) (hrel : env.relevant a = true) :
    ∃ hb, hb ∈ (getT rs.act B).running := by
  refine List.exists_mem_of_ne_nil _ (inv.pending_of_yield ⟨hB, by rw [hBk]; decide⟩ hBa rfl ?_)
  obtain ⟨h1, h2⟩ := rs.g.2 hO
  rw [hk.movers] at h1
  simp only [expectedActive, hrel, if_true] at h1
  rw [h1] at h2
  show yieldCls env (c.tagger B).cls rs.g.1 ≠ []
  rw [hBc]
  cases hx : rs.g.1.occ.activeCell with
  | none => rw [hx] at h2; simp at h2
  | some c0 => simp [yieldCls, wrapIds, CellTaggers.cellVetoTagger, tocc, h1, hx]

theorem occ_activeCell_mid {occ occ' : Occ.State} {us : List (PUnit ℚ)} {a : Nat} {pos v : List ℚ} {ts : Time ℚ}
    (ho : occAfter env true occ us = some occ') (hk : KinI env.L us a pos v ts) (hrel : env.relevant a = true) :
    occ'.activeCell = some (env.cellOf pos) := by
  obtain ⟨a0, hm, hu⟩ := occAfter_some ho
  rw [hk.movers] at hm
  have : a0 = a := by simpa using hm.symm
  subst this
  have := update_activeCell hu (by rw [unitIn_relevant]; exact hrel)
  rw [this]
  obtain ⟨⟨ua, hua, hp, _⟩, _⟩ := hk
  simp [unitIn, hua, hp]

theorem mover_unique {L : List ℚ} {us : List (PUnit ℚ)} {a : Nat} {pos v : List ℚ} {ts : Time ℚ}
    (hk : KinI L us a pos v ts) {a0 : Nat} {u : PUnit ℚ} {v0 : List ℚ} {ts0 : Time ℚ} (hu : us[a0]? = some u)
    (hv : u.vel = some v0) (hts : u.ts = some ts0) : a0 = a ∧ u.pos = pos ∧ v0 = v ∧ ts0 = ts := by
  obtain ⟨⟨ua, hua, hp, hva, htsa⟩, hall⟩ := hk
  by_cases h : a0 = a
  · subst h
    rw [hua] at hu
    have : ua = u := Option.some.inj hu
    subst this
    rw [hva] at hv; rw [htsa] at hts
    exact ⟨rfl, hp, (Option.some.inj hv).symm, (Option.some.inj hts).symm⟩
  · have := (hall a0 u hu).2.2 h
    rw [this] at hv; cases hv

end

end JF.Sys
