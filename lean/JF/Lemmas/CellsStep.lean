import JF.Model.Cells
import Mathlib.Logic.Function.Iterate
import Mathlib.Tactic.Linarith
/-!
Rounding-abstract reading of the float-stepping loops of `CuboidCells.__init__`:
for ANY scalar type and ANY stepping functions that are mutually inverse and along which the cell digit
`_cell_identifier(x) = min(int(x / side), n - 1)` is monotone and never jumps by more than one, the loops (if they
terminate) return the two ends of the maximal run of consecutive scalars BELOW THE SYSTEM LENGTH whose digit is the
cell's identifier; in particular the last cell ends at the largest scalar below the system length.
-/
namespace JF.Cells

theorem whileStep_spec {α : Type} (cond : α → Bool) (step : α → α) :
    ∀ (fuel : Nat) (x y : α), whileStep cond step fuel x = some y →
      cond y = false ∧ ∃ j : Nat, y = step^[j] x ∧ ∀ i < j, cond (step^[i] x) = true := by
  intro fuel
  induction fuel with
  | zero => intro x y h; simp [whileStep] at h
  | succ f ih =>
    intro x y h
    rw [whileStep] at h
    split at h
    · rename_i hc
      obtain ⟨h1, j, h2, h3⟩ := ih _ _ h
      refine ⟨h1, j + 1, by rw [Function.iterate_succ_apply]; exact h2, ?_⟩
      intro i hi
      cases i with
      | zero => simpa using hc
      | succ i => rw [Function.iterate_succ_apply]; exact h3 i (by omega)
    · rename_i hc
      cases h
      exact ⟨by simpa using hc, 0, rfl, fun i hi => absurd hi (by omega)⟩

/-- The two stepping loops of an extent block, abstractly: `fwd` and `bwd` are mutually inverse, `d` is monotone along
them and changes by at most one per step.  Stepping forward while `d = i` and then backward while `d > i`, from a
start with `i ≤ d`, ends at the last scalar with `d = i`: its forward neighbour has `d = i + 1`. -/
theorem two_loops {α : Type} {d : α → Int} {fwd bwd : α → α} (fb : ∀ x, fwd (bwd x) = x) (bf : ∀ x, bwd (fwd x) = x)
    (mono : ∀ x, d (bwd x) ≤ d x) (slow : ∀ x, d x ≤ d (bwd x) + 1) {i : Int} {cond1 cond2 : α → Bool}
    (hc1 : ∀ x, cond1 x = true ↔ d x = i) (hc2 : ∀ x, cond2 x = true ↔ i < d x) {fuel : Nat} {x0 u1 u2 : α}
    (start : i ≤ d x0) (h1 : whileStep cond1 fwd fuel x0 = some u1) (h2 : whileStep cond2 bwd fuel u1 = some u2) :
    d u2 = i ∧ d (fwd u2) = i + 1 := by
  obtain ⟨c1, j, e1, a1⟩ := whileStep_spec _ _ _ _ _ h1
  obtain ⟨c2, j', e2, a2⟩ := whileStep_spec _ _ _ _ _ h2
  rw [Bool.eq_false_iff, ne_eq, hc1] at c1
  rw [Bool.eq_false_iff, ne_eq, hc2] at c2
  -- after the first loop `d` is above `i`
  have hge : i ≤ d u1 := by
    cases j with
    | zero => rw [e1]; exact start
    | succ j =>
      have hp := (hc1 _).mp (a1 j (by omega))
      rw [e1, Function.iterate_succ_apply']
      have := mono (fwd (fwd^[j] x0))
      rw [bf] at this
      omega
  -- so the second loop makes at least one step
  cases j' with
  | zero =>
    rw [Function.iterate_zero, id] at e2
    rw [e2] at c2; omega
  | succ j' =>
    have hp := (hc2 _).mp (a2 j' (by omega))
    have hu : fwd u2 = bwd^[j'] u1 := by rw [e2, Function.iterate_succ_apply', fb]
    have hs := slow (bwd^[j'] u1)
    rw [← Function.iterate_succ_apply' bwd j' u1, ← e2] at hs
    rw [hu]
    constructor <;> omega

section
variable {α : Type} [Add α] [Sub α] [Mul α] [Div α] [Neg α] [LT α] [DecidableLT α] [LE α] [DecidableLE α] [BEq α]

/-- the assumptions on the stepper, relative to one direction (`side`, `n` cells, system length `len`) -/
structure StepLaws (o : Ops α) (st : Stepper α) (side : α) (n : Int) (len : α) : Prop where
  up_down : ∀ x, st.up (st.down x) = x
  down_up : ∀ x, st.down (st.up x) = x
  /-- the cell digit is monotone along the steps … -/
  mono : ∀ x, cellDigit o side n (st.down x) ≤ cellDigit o side n x
  /-- … and one step changes it by at most one -/
  slow : ∀ x, cellDigit o side n x ≤ cellDigit o side n (st.down x) + 1
  /-- `x < len` and `x >= len` are complementary (no NaN) -/
  lt_len : ∀ x, x < len ↔ ¬ len ≤ x
  /-- stepping down from below the system length stays below it -/
  down_len : ∀ x, ¬ len ≤ x → ¬ len ≤ st.down x
  /-- the largest scalar below the system length has quotient at least `n - 1` (it belongs to the last cell) -/
  top : ∀ x, len ≤ x → ¬ len ≤ st.down x → cellDigit o side n (st.down x) = n - 1

omit [Add α] [Sub α] [Mul α] [Neg α] [LT α] [DecidableLT α] [LE α] [DecidableLE α] [BEq α] in
theorem cellDigit_le (o : Ops α) (side : α) (n : Int) (x : α) : cellDigit o side n x ≤ n - 1 := by
  unfold cellDigit; omega

/-- the digit the upper stepping loops really test: `n` from the system length on, the cell digit below it -/
def effDigit (o : Ops α) (side : α) (n : Int) (len : α) (x : α) : Int :=
  if len ≤ x then n else cellDigit o side n x

omit [Add α] [Sub α] [Mul α] [Neg α] [DecidableLT α] [BEq α] in
theorem effDigit_mono {o : Ops α} {st : Stepper α} {side : α} {n : Int} {len : α} (laws : StepLaws o st side n len)
    (x : α) : effDigit o side n len (st.down x) ≤ effDigit o side n len x := by
  unfold effDigit
  by_cases h : len ≤ x
  · rw [if_pos h]
    split
    · omega
    · have := cellDigit_le o side n (st.down x); omega
  · rw [if_neg h, if_neg (laws.down_len x h)]
    exact laws.mono x

omit [Add α] [Sub α] [Mul α] [Neg α] [DecidableLT α] [BEq α] in
theorem effDigit_slow {o : Ops α} {st : Stepper α} {side : α} {n : Int} {len : α} (laws : StepLaws o st side n len)
    (x : α) : effDigit o side n len x ≤ effDigit o side n len (st.down x) + 1 := by
  unfold effDigit
  by_cases h : len ≤ x
  · rw [if_pos h]
    by_cases h' : len ≤ st.down x
    · rw [if_pos h']; omega
    · rw [if_neg h', laws.top x h h']; omega
  · rw [if_neg h, if_neg (laws.down_len x h)]
    exact laws.slow x

omit [Add α] [Sub α] [Mul α] [Neg α] [BEq α] in
/-- for a cell of the grid (`i < n`) the two loop conditions of the upper block are tests of `effDigit` -/
theorem upper_conds {o : Ops α} {st : Stepper α} {side : α} {n : Int} {len : α} (laws : StepLaws o st side n len)
    {i : Int} (hi : i < n) (x : α) :
    (decide (x < len) && (cellDigit o side n x == i)) = (effDigit o side n len x == i) ∧
    (decide (len ≤ x) || decide (cellDigit o side n x > i)) = decide (effDigit o side n len x > i) := by
  unfold effDigit
  by_cases h : len ≤ x
  · have h' : ¬ x < len := fun c => (laws.lt_len x).mp c h
    have hne : ¬ n = i := by omega
    simp [h, h', hi, hne]
  · have h' : x < len := (laws.lt_len x).mpr h
    simp [h, h']

omit [Add α] [Sub α] [Neg α] in
/-- **extent_sound (upper end)**: for a cell of the grid (`i < n`), if the start `(i+1)·side` is not below cell `i`,
the returned `cell_max` lies below the system length and has digit `i`; for an inner cell the next scalar above it lies
below the system length too and has digit `i + 1`; for the last cell the next scalar above it is not below the system
length, i.e. `cell_max` is the largest scalar below the system length. -/
theorem upperPos_sound (o : Ops α) (st : Stepper α) (fuel : Nat) (side : α) (n : Int) (len : α) (i : Int)
    (laws : StepLaws o st side n len) (hi : i < n)
    (start : len ≤ o.ofInt (i + 1) * side ∨ i ≤ cellDigit o side n (o.ofInt (i + 1) * side)) (u : α)
    (h : upperPos o st fuel side n len i = .ok u) :
    u < len ∧ cellDigit o side n u = i ∧
      (i + 1 < n → st.up u < len ∧ cellDigit o side n (st.up u) = i + 1) ∧
      (i + 1 = n → len ≤ st.up u) := by
  -- the statement about `effDigit`, as for the loops without the bound
  have key : effDigit o side n len u = i ∧ effDigit o side n len (st.up u) = i + 1 := by
    have start' : i ≤ effDigit o side n len (o.ofInt (i + 1) * side) := by
      unfold effDigit
      rcases start with s | s
      · rw [if_pos s]; omega
      · split
        · omega
        · exact s
    unfold upperPos at h
    simp only at h
    split at h
    · split at h
      · cases h
      · split at h <;> cases h
    · split at h
      · cases h
      · rename_i u1 h1
        split at h
        · cases h
        · rename_i u2 h2
          cases h
          exact two_loops laws.up_down laws.down_up (effDigit_mono laws) (effDigit_slow laws)
            (fun x => by rw [(upper_conds laws hi x).1, beq_iff_eq])
            (fun x => by rw [(upper_conds laws hi x).2, decide_eq_true_eq]) start' h1 h2
  obtain ⟨k1, k2⟩ := key
  unfold effDigit at k1 k2
  have hu : ¬ len ≤ u := by
    intro c; rw [if_pos c] at k1; omega
  rw [if_neg hu] at k1
  refine ⟨(laws.lt_len u).mpr hu, k1, ?_, ?_⟩
  · intro hlt
    have hu' : ¬ len ≤ st.up u := by
      intro c; rw [if_pos c] at k2; omega
    rw [if_neg hu'] at k2
    exact ⟨(laws.lt_len _).mpr hu', k2⟩
  · intro he
    by_contra c
    rw [if_neg c] at k2
    have := cellDigit_le o side n (st.up u)
    omega

omit [Add α] [Sub α] [Neg α] [DecidableLE α] [BEq α] in
/-- **extent_sound (lower end)**: for a cell not at the origin (`0 < i·side`), if the start `i·side` is not
above cell `i`, the returned `cell_min` has digit `i` and the next scalar below it has digit `i - 1`. -/
theorem lowerPos_sound (o : Ops α) (st : Stepper α) (fuel : Nat) (side : α) (n : Int) (len : α) (i : Int)
    (laws : StepLaws o st side n len)
    (hpos : o.ofInt 0 < o.ofInt i * side)
    (start : cellDigit o side n (o.ofInt i * side) ≤ i) (l : α)
    (h : lowerPos o st fuel side n i = .ok l) :
    cellDigit o side n l = i ∧ cellDigit o side n (st.down l) = i - 1 := by
  unfold lowerPos at h
  simp only [hpos, if_true] at h
  split at h
  · cases h
  · rename_i l1 h1
    split at h
    · cases h
    · rename_i l2 h2
      cases h
      -- the mirror image of the upper block: `-digit`, stepping down first
      have := two_loops (d := fun x => -cellDigit o side n x) (i := -i) laws.down_up laws.up_down
        (fun x => by have := laws.mono (st.up x); rw [laws.down_up] at this; exact neg_le_neg this)
        (fun x => by have := laws.slow (st.up x); rw [laws.down_up] at this; omega)
        (fun x => by rw [beq_iff_eq, neg_inj]) (fun x => by rw [decide_eq_true_eq, neg_lt_neg_iff])
        (neg_le_neg start) h1 h2
      constructor <;> omega

omit [Add α] [Sub α] [Neg α] [LE α] [DecidableLE α] [BEq α] in
/-- the first cell's `cell_min` is the literal product `0 · side` (no stepping) -/
theorem lowerPos_origin (o : Ops α) (st : Stepper α) (fuel : Nat) (side : α) (n : Int) (i : Int)
    (hpos : ¬ (o.ofInt 0 < o.ofInt i * side)) : lowerPos o st fuel side n i = .ok (o.ofInt i * side) := by
  unfold lowerPos
  simp only [hpos, if_false]

end

section
variable {α : Type} [Div α] [LT α] [LE α]

/-- order facts about the scalars and the stepper (true of the finite binary64 numbers with `nextafter`) -/
structure OrderLaws (o : Ops α) (st : Stepper α) (side : α) (n : Int) : Prop where
  total : ∀ x y : α, x ≤ y ∨ y < x
  antisymm : ∀ x y : α, x ≤ y → y ≤ x → x = y
  /-- nothing lies strictly between `x` and `up x` -/
  succ : ∀ x y : α, x < y → st.up x ≤ y
  up_down : ∀ x, st.up (st.down x) = x
  /-- `min(int(x / side), n - 1)` is monotone -/
  mono : ∀ x y : α, x ≤ y → cellDigit o side n x ≤ cellDigit o side n y

/-- two more facts of a linear order, needed to place a position inside its cell's extent -/
structure LinearLaws (α : Type) [LT α] [LE α] : Prop where
  trans : ∀ x y z : α, x ≤ y → y ≤ z → x ≤ z
  not_le_of_lt : ∀ x y : α, x < y → ¬ y ≤ x
end
end JF.Cells
