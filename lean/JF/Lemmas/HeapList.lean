import JF.Lemmas.HeapSched
/-! Refinement of the model of `ListScheduler` (`list_scheduler.py`) against the reference model. -/
namespace JF.Sched
open JF.Heap
variable {κ : Type} {cfg : Cfg κ}

structure LRel (ls : LSched κ) (live : Live κ) : Prop where
  mem : ∀ h t, (t, h) ∈ ls.times ↔ live h = some t
  nodup : ls.times.Pairwise (fun a b => a.2 ≠ b.2)

theorem lrel_init (cfg : Cfg κ) : LRel (LSched.init cfg) (fun _ => none) :=
  ⟨fun h t => by simp [LSched.init], by simp [LSched.init]⟩

theorem lpush_rel {ls : LSched κ} {live : Live κ} (L : LRel ls live) (t : κ) {h : Nat}
    (hl : live h = none) : LRel (ls.push t h) (live.set h (some t)) := by
  refine ⟨fun h' t' => ?_, ?_⟩
  · simp only [LSched.push, List.mem_append, List.mem_singleton, Prod.mk.injEq, Live.set]
    by_cases hh : h' = h
    · subst hh
      simp only [if_true, and_true]
      constructor
      · rintro (h1 | h1)
        · rw [(L.mem _ _).1 h1] at hl; cases hl
        · rw [h1]
      · intro h1; cases h1; exact Or.inr rfl
    · simp only [hh, if_false, and_false, or_false]; exact L.mem h' t'
  · simp only [LSched.push]
    rw [List.pairwise_append]
    refine ⟨L.nodup, by simp, ?_⟩
    rintro ⟨t', h'⟩ ha b hb
    simp only [List.mem_singleton] at hb; subst hb
    intro heq; simp only at heq; subst heq
    rw [(L.mem _ _).1 ha] at hl; cases hl

theorem mem_eraseP_handler (h : Nat) (l : List (κ × Nat)) (hp : l.Pairwise (fun a b => a.2 ≠ b.2)) (x : κ × Nat) :
    x ∈ l.eraseP (fun p => p.2 == h) ↔ x ∈ l ∧ x.2 ≠ h := by
  by_cases hx : x.2 = h
  · -- the entry removed is the only one of handler `h`
    refine iff_of_false (fun hm => ?_) fun hm => hm.2 hx
    have px : (x.2 == h) = true := beq_iff_eq.2 hx
    obtain ⟨a, l₁, l₂, h₁, ha, rfl, e⟩ :=
      List.exists_of_eraseP (p := fun p => p.2 == h) (List.mem_of_mem_eraseP hm) px
    rcases List.mem_append.1 (e ▸ hm) with hm | hm
    · exact h₁ x hm px
    · exact (List.pairwise_cons.1 (List.pairwise_append.1 hp).2.1).1 x hm ((beq_iff_eq.1 ha).trans hx.symm)
  · rw [List.mem_eraseP_of_neg (by simpa using hx), and_iff_left hx]

theorem ltrash_rel {ls : LSched κ} {live : Live κ} (L : LRel ls live) (h : Nat) :
    (live h = none → ls.trash h = none) ∧
    (∀ t, live h = some t → ∃ ls', ls.trash h = some ls' ∧ LRel ls' (live.set h none)) := by
  constructor
  · intro hl
    have : ls.times.any (fun p => p.2 == h) = false := by
      rw [List.any_eq_false]
      rintro ⟨t', h'⟩ hm
      simp only [beq_iff_eq]
      intro heq; subst heq
      rw [(L.mem _ _).1 hm] at hl; cases hl
    simp [LSched.trash, this]
  · intro t hl
    have : ls.times.any (fun p => p.2 == h) = true := by
      rw [List.any_eq_true]
      exact ⟨(t, h), (L.mem _ _).2 hl, by simp⟩
    refine ⟨{ ls with times := ls.times.eraseP (fun p => p.2 == h) }, by simp [LSched.trash, this], fun h' t' => ?_, ?_⟩
    · simp only [mem_eraseP_handler h _ L.nodup, Live.set]
      by_cases hh : h' = h
      · simp [hh]
      · simp only [hh, if_false, ne_eq, not_false_eq_true, and_true]; exact L.mem h' t'
    · exact L.nodup.sublist (List.eraseP_sublist)

theorem minBy_spec (o : StrictWeak cfg) : ∀ (l : List (κ × Nat)) (x : κ × Nat),
    minBy cfg.lt x l ∈ x :: l ∧ ∀ e ∈ x :: l, cfg.lt e.1 (minBy cfg.lt x l).1 = false := by
  intro l
  induction l with
  | nil => intro x; simp [minBy, o.irrefl]
  | cons a l ih =>
    intro x
    -- one comparison: the new running minimum `y` is `x` or `a` and not above either
    generalize hy' : (if cfg.lt a.1 x.1 then a else x) = y
    obtain ⟨hy, hx, ha⟩ := pick_step o (fun e : κ × Nat => e.1) x a true hy'.symm
    obtain ⟨h1, h2⟩ := ih y
    have hm := h2 y (List.mem_cons_self ..)
    rw [show minBy cfg.lt x (a :: l) = minBy cfg.lt y l from congrArg (fun z => minBy cfg.lt z l) hy']
    refine ⟨?_, fun e he => ?_⟩
    · rcases List.mem_cons.1 h1 with h | h
      · rcases hy with rfl | ⟨rfl, _⟩ <;> simp [h]
      · simp [h]
    · rcases List.mem_cons.1 he with rfl | he
      · exact o.ntrans _ _ _ hx hm
      · rcases List.mem_cons.1 he with rfl | he
        · exact o.ntrans _ _ _ (ha rfl) hm
        · exact h2 e (List.mem_cons_of_mem _ he)

/-- what `get_succeeding_event` of the list scheduler returns, in terms of the reference model -/
def LGetOK (cfg : Cfg κ) (live : Live κ) : GetRes κ → Prop
  | .ok h t | .guard h t => live h = some t ∧ ∀ h' t', live h' = some t' → cfg.lt t' t = false
  | .empty => ∀ h, live h = none

theorem lget_rel (o : StrictWeak cfg) {ls : LSched κ} {live : Live κ} (L : LRel ls live) :
    (ls.get cfg).1.times = ls.times ∧ LGetOK cfg live (ls.get cfg).2 := by
  unfold LSched.get
  cases hts : ls.times with
  | nil =>
    refine ⟨hts, fun h => ?_⟩
    cases hl : live h with
    | none => rfl
    | some t => have := (L.mem h t).2 hl; rw [hts] at this; cases this
  | cons x xs =>
    obtain ⟨h1, h2⟩ := minBy_spec o xs x
    have key : live (minBy cfg.lt x xs).2 = some (minBy cfg.lt x xs).1 ∧
        ∀ h' t', live h' = some t' → cfg.lt t' (minBy cfg.lt x xs).1 = false := by
      refine ⟨(L.mem _ _).1 (by rw [hts]; exact h1), fun h' t' hl => ?_⟩
      have := (L.mem h' t').2 hl
      rw [hts] at this
      exact h2 _ this
    simp only
    split
    · exact ⟨hts, key⟩
    · exact ⟨rfl, key⟩
end JF.Sched
