import JF.Lemmas.SystemRunGeo
import JF.Lemmas.SystemRunOcc
import JF.Lemmas.C10C11
/-!
Helper definitions and lemmas for `JF/Props/C10Closed.lean` (C10 closed on the joint invariant of `JF/Props/SystemInv.lean`).

`flatIdx` is the position of a cell identifier in `yield_cells()` order (`CellTaggers.allCells`: first index runs fastest —
`CuboidCells.position_to_cell`'s `sum(identifier[d] * cumulative_product[d])`, `JF.Walker.posIndex`); `cellIds grids p` is the
identifier `position_to_cell` computes direction by direction (`JF.C11.Grid.idx`).  `GridBox env` names the relation between the
three geometry fields of `CW.Env` (`L`, `grid`, `cellOf`) that the concrete world leaves open: box lengths and cells per side come
from one list of one-direction grids, and `cellOf` of a position in the box is the flat index of its identifier.  From it,
`GridBox.inGrid`: the cell number of every position in the box is below the number of cells of the grid.
-/
namespace JF.C10Closed
open JF JF.CellTaggers JF.CW JF.Kin JF.Sys JF.C10C11


/-- position of the cell identifier `c` in `yield_cells()` order (first index runs fastest) -/
def flatIdx : List Nat → Cell → Nat
  | n :: ns, i :: is => i + n * flatIdx ns is
  | _, _ => 0

theorem getElem?_flatMap_const {α β : Type} (f : α → List β) (n : Nat) (hf : ∀ x, (f x).length = n) :
    ∀ (l : List α) (k i : Nat), i < n → (l.flatMap f)[i + n * k]? = (l[k]?).bind fun x => (f x)[i]?
  | [], k, i, _ => by simp
  | x :: l, 0, i, hi => by
      rw [List.flatMap_cons, Nat.mul_zero, Nat.add_zero, List.getElem?_append_left (by rw [hf]; exact hi)]
      rfl
  | x :: l, k + 1, i, hi => by
      have hge : (f x).length ≤ i + n * (k + 1) := by rw [hf, Nat.mul_succ]; omega
      rw [List.flatMap_cons, List.getElem?_append_right hge, hf]
      have : i + n * (k + 1) - n = i + n * k := by rw [Nat.mul_succ]; omega
      rw [this, getElem?_flatMap_const f n hf l k i hi]
      rfl

theorem allCells_getElem?_flatIdx : ∀ {ns : List Nat} {c : Cell}, Valid ns c → (allCells ns)[flatIdx ns c]? = some c
  | [], [], _ => rfl
  | [], _ :: _, h | _ :: _, [], h => by simp [Valid] at h
  | n :: ns, i :: is, h => by
      obtain ⟨hi, hv⟩ := h
      show ((allCells ns).flatMap fun t => (List.range n).map (· :: t))[i + n * flatIdx ns is]? = _
      rw [getElem?_flatMap_const _ n (by intro t; simp) _ _ _ hi, allCells_getElem?_flatIdx hv]
      simp [hi]


/-- the cell identifier of a position: `_cell_identifier` in every direction -/
def cellIds : List C11.Grid → List ℚ → Cell
  | g :: gs, x :: xs => (g.idx x).toNat :: cellIds gs xs
  | _, _ => []

/-- **a position in the box has the identifier of a cell of the grid** (from `JF.Sys.idx_spec`) -/
theorem cellIds_valid : ∀ (gs : List C11.Grid) (p : List ℚ), InBox (gs.map (·.L)) p → Valid (gs.map (·.n)) (cellIds gs p)
  | [], [], _ => trivial
  | [], _ :: _, h | _ :: _, [], h => by simp [InBox] at h
  | g :: gs, x :: xs, h => by
      obtain ⟨⟨h0, h1⟩, hr⟩ := h
      obtain ⟨i, hi, hidx, _, _⟩ := idx_spec g h0 h1
      refine ⟨?_, cellIds_valid gs xs hr⟩
      rw [hidx]; simpa using hi

theorem cellIds_eq_zipWith : ∀ (gs : List C11.Grid) (p : List ℚ),
    cellIds gs p = List.zipWith (fun g x => (g.idx x).toNat) gs p
  | [], _ => by simp [cellIds]
  | _ :: _, [] => by simp [cellIds]
  | g :: gs, x :: xs => by simp [cellIds, cellIds_eq_zipWith gs xs]

theorem cellIds_congr (gs : List C11.Grid) (p q : List ℚ) (hl : p.length = q.length)
    (h : ∀ d (hg : d < gs.length) (hp : d < p.length) (hq : d < q.length), gs[d].idx p[d] = gs[d].idx q[d]) :
    cellIds gs p = cellIds gs q := by
  rw [cellIds_eq_zipWith, cellIds_eq_zipWith]
  apply List.ext_getElem (by simp [hl])
  intro d h1 h2
  simp only [List.length_zipWith, lt_min_iff] at h1 h2
  simp [h d h1.1 h1.2 h2.2]

/-- the cell number of every position in the box is a cell of the grid (`position_to_cell` returns a cell of the cell system) -/
def CellOfInGrid (env : Env ℚ) : Prop := ∀ p, InBox env.L p → env.cellOf p < numCells env.grid

/-- **the geometry fields of the concrete world fit together**: one list of one-direction grids gives the box lengths
(`setting.system_lengths`) and the cells per side of the cell system, and `position_to_cell` of a position in the box is the
flat index (in `yield_cells()` order) of the per-direction identifiers — `CuboidCells.position_to_cell`. -/
structure GridBox (env : Env ℚ) where
  grids : List C11.Grid
  hL : env.L = grids.map (·.L)
  hn : env.grid.n = grids.map (·.n)
  hcellOf : ∀ p, InBox env.L p → env.cellOf p = flatIdx env.grid.n (cellIds grids p)

theorem GridBox.valid {env : Env ℚ} (B : GridBox env) {p : List ℚ} (hp : InBox env.L p) :
    Valid env.grid.n (cellIds B.grids p) := by
  rw [B.hn]; exact cellIds_valid _ _ (by rw [← B.hL]; exact hp)

theorem GridBox.inGrid {env : Env ℚ} (B : GridBox env) : CellOfInGrid env := by
  intro p hp
  rw [B.hcellOf p hp]
  exact (List.getElem?_eq_some_iff.mp (allCells_getElem?_flatIdx (B.valid hp))).1

theorem GridBox.cellAt_cellOf {env : Env ℚ} (B : GridBox env) {p : List ℚ} (hp : InBox env.L p) :
    cellAt env.grid (env.cellOf p) = cellIds B.grids p := by
  unfold cellAt; rw [B.hcellOf p hp, allCells_getElem?_flatIdx (B.valid hp)]; rfl

/-- a `GridBox` with at least two cells per direction is an `AxisBox` of `JF/Lemmas/SystemRunGeo.lean` (so `axisGeoPos` is a
geometry of the same environment) -/
def GridBox.toAxisBox {env : Env ℚ} (B : GridBox env) (hn2 : ∀ g ∈ B.grids, 2 ≤ g.n) : AxisBox env where
  grids := B.grids
  hn2 := hn2
  hL := B.hL
  hcell := by
    intro p q hp hq h
    rw [B.hcellOf p hp, B.hcellOf q hq]
    congr 1
    refine cellIds_congr _ _ _ ?_ h
    rw [((inBox_iff _ _).mp hp).1, ((inBox_iff _ _).mp hq).1]


/-- the point masses that pass the charge filter, each once, in order -/
def relUnits (env : Env ℚ) (n : Nat) : List Nat := (List.range n).filter env.relevant

theorem relUnits_nodup (env : Env ℚ) (n : Nat) : (relUnits env n).Nodup := List.nodup_range.filter _

theorem mem_relUnits (env : Env ℚ) (us : List (PUnit ℚ)) (u : Nat) :
    u ∈ relUnits env us.length ↔ relW env us u = true := by
  simp [relUnits, relW]


/-- the partner identifiers of a yield: everything after the first (= active) identifier of every in-state -/
def targetsOf (l : List Act.IdTuple) : List Ident :=
  l.flatMap fun x => match x with
    | some ids => ids.tail
    | none => []

theorem targetsOf_wrapIds (l : List (List Ident)) : targetsOf (wrapIds l) = pairTargets l := by
  simp [targetsOf, wrapIds, pairTargets, List.flatMap_map]

theorem targetsOf_perm {l l' : List Act.IdTuple} (h : l.Perm l') : (targetsOf l).Perm (targetsOf l') :=
  h.flatMap_right _

theorem targetsOf_nil : targetsOf [] = [] := rfl

end JF.C10Closed
