import JF.Model.Kinematics
import JF.Lemmas.PyArith
/-!
Equations of the time slice in the exact reading (`timeSlice_vel` for every scalar type), shared by the point-mass machine (`JF/Lemmas/Kinematics.lean`) and the
composite objects (`JF/Lemmas/CompositeVec.lean`). The two recursive vector operations of `JF/Model/Kinematics.lean` are
list functions of the core library (`sliceVec` zips three lists, `setCoord` is `List.set`), so lengths and entries come
from the library lemmas. Also how `List.modify` acts under a map and on a property of all entries (`map_modify_of_eq`,
`forall_getElem?_modify`, `forall_mem_modify`), for the event steps that rewrite one or two units.
-/
namespace JF.Kin

theorem sliceCoord_eq (L p v dt : ℚ) (hL : 0 < L) :
    sliceCoord Ops.rat L p v dt = p + v * dt - L * ⌊(p + v * dt) / L⌋ :=
  pywrap_rat_pos _ _ hL

theorem timeSlice_of_rest (L : List ℚ) (t : Time ℚ) (u : PUnit ℚ) (h : u.vel = none) :
    timeSlice Ops.rat L t u = u := by
  unfold timeSlice; rw [h]

theorem timeSlice_of_moving (L : List ℚ) (t : Time ℚ) (u : PUnit ℚ) {v : List ℚ} {s : Time ℚ}
    (hv : u.vel = some v) (hs : u.ts = some s) :
    timeSlice Ops.rat L t u = { pos := sliceVec Ops.rat L u.pos v (Time.sub t s), vel := some v, ts := some t } := by
  unfold timeSlice; rw [hv, hs]

theorem timeSlice_vel {α : Type} [Add α] [Sub α] [Mul α] [LT α] [DecidableLT α] [BEq α] {o : Ops α} (L : List α)
    (t : Time α) (u : PUnit α) : (timeSlice o L t u).vel = u.vel := by
  unfold timeSlice; split
  · next h _ => simp [h]
  · rfl

theorem sliceVec_eq_zipWith (dt : ℚ) : ∀ L P V : List ℚ,
    sliceVec Ops.rat L P V dt = List.zipWith (fun l (pv : ℚ × ℚ) => sliceCoord Ops.rat l pv.1 pv.2 dt) L (P.zip V)
  | [], _, _ => rfl
  | _ :: _, [], _ => rfl
  | _ :: _, _ :: _, [] => rfl
  | _ :: L, _ :: P, _ :: V => congrArg _ (sliceVec_eq_zipWith dt L P V)

theorem sliceVec_length (L P V : List ℚ) (dt : ℚ) (hP : P.length = L.length) (hV : V.length = L.length) :
    (sliceVec Ops.rat L P V dt).length = L.length := by
  rw [sliceVec_eq_zipWith, List.length_zipWith, List.length_zip, hP, hV, Nat.min_self, Nat.min_self]

theorem getElem_sliceVec {L P V : List ℚ} (dt : ℚ) {d : Nat} (h : d < (sliceVec Ops.rat L P V dt).length)
    (hL : d < L.length) (hP : d < P.length) (hV : d < V.length) :
    (sliceVec Ops.rat L P V dt)[d] = sliceCoord Ops.rat L[d] P[d] V[d] dt := by
  simp only [sliceVec_eq_zipWith, List.getElem_zipWith, List.getElem_zip]

theorem setCoord_eq_set : ∀ (P : List ℚ) (d : Nat) (x : ℚ), setCoord P d x = P.set d x
  | [], _, _ => rfl
  | _ :: _, 0, _ => rfl
  | _ :: P, d + 1, x => congrArg _ (setCoord_eq_set P d x)

theorem map_modify_of_eq {β γ : Type} (f : β → γ) (g : β → β) (hfg : ∀ x, f (g x) = f x) :
    ∀ (xs : List β) (j : Nat), (xs.modify j g).map f = xs.map f
  | [], _ => by rw [List.modify_nil]
  | y :: xs, 0 => congrArg (· :: _) (hfg y)
  | y :: xs, j + 1 => by rw [List.modify_succ_cons, List.map_cons, map_modify_of_eq f g hfg xs j, List.map_cons]

theorem forall_getElem?_modify {β : Type} {l : List β} {Q : Nat → β → Prop} (k : Nat) (f : β → β)
    (h : ∀ i u, l[i]? = some u → Q i (if k = i then f u else u)) : ∀ i u, (l.modify k f)[i]? = some u → Q i u := by
  intro i u hu
  rw [List.getElem?_modify] at hu
  cases hl : l[i]? with
  | none => rw [hl] at hu; cases hu
  | some w => rw [hl] at hu; obtain rfl := Option.some.inj hu; exact h i w hl

theorem forall_mem_modify {β : Type} {P : β → Prop} (f : β → β) (l : List β) (i : Nat)
    (h : ∀ u ∈ l, P u) (hf : ∀ u, l[i]? = some u → P (f u)) : ∀ u ∈ l.modify i f, P u := by
  intro u hu
  obtain ⟨j, hj⟩ := List.getElem?_of_mem hu
  refine forall_getElem?_modify (Q := fun _ u => P u) i f (fun j w hw => ?_) j u hj
  split
  · next hij => exact hf w (hij ▸ hw)
  · exact h w (List.mem_of_getElem? hw)

end JF.Kin
