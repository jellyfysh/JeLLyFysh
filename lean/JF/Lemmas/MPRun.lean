import JF.Lemmas.MPLeg
/-!
# C20 helper lemmas 4: whole runs — the multi-process mediator refines the single-process mediator
-/
namespace JF.MP

variable {G E T O : Type}

/-- **The activator/scheduler protocol assumed** (it is the contract of `TagActivator` and of the schedulers; the
trace validation evaluates it on every recorded leg). `R e h` = handler `h` is in `_running_event_handlers`.
Nothing is assumed about how the scheduler breaks ties between equal candidate times: both mediators issue the same
`push_event` calls in the same order, so the scheduler goes through the same states. -/
structure Protocol (env : Env G E T O) (R : E → Nat → Bool) : Prop where
  /-- `get_event_handlers_to_run` returns a dictionary: distinct handlers -/
  act_nodup : ∀ g e, (env.activate g e).1.Nodup
  /-- … taken from the not-running handlers -/
  act_fresh : ∀ g e h, h ∈ (env.activate g e).1 → R e h = false
  /-- … which are running afterwards -/
  act_run : ∀ g e h, R (env.activate g e).2 h = (R e h || decide (h ∈ (env.activate g e).1))
  /-- the scheduler only holds events of running handlers: `get_succeeding_event` returns one of them -/
  choose_run : ∀ g e l, R (env.activate g e).2 (env.choose (env.activate g e).2 l).1 = true
  /-- the scheduler does not change which handlers run -/
  choose_keep : ∀ e l h, R (env.choose e l).2 h = R e h
  /-- `get_trashable_events`: `assert preceding_event_handler in trashable_events` -/
  trash_self : ∀ e c, c ∈ (env.trash e c).1
  /-- trashed handlers stop running, nothing else changes -/
  trash_run : ∀ e c h, R (env.trash e c).2 h = (R e h && !decide (h ∈ (env.trash e c).1))

/-- is this a failure of the adversary (illegitimate or exhausted `wait` results) rather than of the mediator? -/
def AdvFail {α : Type} (r : Except (Nat × Err) α) : Prop :=
  ∃ m, r = .error (m, .adversary) ∨ r = .error (m, .starved)

theorem runSP_succ (env : Env G E T O) {k n : Nat} {g : G} {e e1 e2 e3 : E} {last : Nat → Nat} {hist : Nat → G}
    {cr tr : List Nat} {c : Nat} (hact : env.activate g e = (cr, e1))
    (hc : env.choose e1 (cr.map fun h => (h, env.timeOf h n g)) = (c, e2)) (htr : env.trash e2 c = (tr, e3)) :
    runSP env (k + 1) n g e last hist =
      let hist' : Nat → G := fun m => if m = n then g else hist m
      let tag := last' last cr n c
      let out := env.outOf c tag (hist' tag)
      ⟨c, env.timeOf c tag (hist' tag), out, env.commit g out⟩ ::
        runSP env k (n + 1) (env.commit g out) e3 (last' last cr n) hist' := by
  simp only [runSP, hact, hc, htr]
  rfl

theorem runMP_refines (env : Env G E T O) (R : E → Nat → Bool) (P : Protocol env R) (cfg : Cfg)
    (advs : List (List (List Nat))) :
    ∀ (n : Nat) (g : G) (e : E) (s : St) (hist : Nat → G) (last : Nat → Nat),
      BInv (R e) s → (∀ h, (s h).tag = last h) →
      runMP env cfg advs n g e s hist = .ok (runSP env advs.length n g e last hist) ∨
      AdvFail (runMP env cfg advs n g e s hist) := by
  induction advs with
  | nil => intro n g e s hist last _ _; left; rfl
  | cons ws rest ih =>
    intro n g e s hist last hB hlast
    rcases hact : env.activate g e with ⟨cr, e1⟩
    have hnd : cr.Nodup := by have := P.act_nodup g e; rwa [hact] at this
    have hfresh : ∀ h ∈ cr, R e h = false := by
      intro h hh; have := P.act_fresh g e h; rw [hact] at this; exact this hh
    have hrun1 : ∀ h, R e1 h = (R e h || decide (h ∈ cr)) := by
      intro h; have := P.act_run g e h; rwa [hact] at this
    by_cases hleg : legLegit cfg n s cr ws = false
    · right; exact ⟨n, Or.inl (by simp [runMP, hact, hleg])⟩
    · have hleg' : legLegit cfg n s cr ws = true := by simpa using hleg
      rcases legRecv_ok cfg n ws hB hlast hnd hfresh hleg' with ⟨hst, -⟩ | ⟨L, rst, hL, hBL, htagL, -, -⟩
      · right; exact ⟨n, Or.inr (by simp [runMP, hact, hleg', hst])⟩
      · rcases hc : env.choose e1 (cr.map fun h => (h, env.timeOf h n g)) with ⟨c, e2⟩
        -- the scheduler sees exactly the pushes of the single-process mediator
        have hch : env.choose e1 ((cr.map fun h => (h, n)).map
              fun p => (p.1, env.timeOf p.1 p.2 ((fun m => if m = n then g else hist m) p.2))) = (c, e2) := by
          rw [← hc]; simp [List.map_map, Function.comp_def]
        have hcrun : R e1 c = true := by
          have := P.choose_run g e (cr.map fun h => (h, env.timeOf h n g))
          rw [hact] at this; simp only at this; rwa [hc] at this
        have hkeep : ∀ h, R e2 h = R e1 h := by
          intro h; have := P.choose_keep e1 (cr.map fun h => (h, env.timeOf h n g)) h; rwa [hc] at this
        rcases htr : env.trash e2 c with ⟨tr, e3⟩
        have hrun3 : ∀ h, R e3 h = (R e2 h && !decide (h ∈ tr)) := by
          intro h; have := P.trash_run e2 c h; rwa [htr] at this
        obtain ⟨p, y, s3, ds, hcom, htrash, hB3, hlast3⟩ := legEnd_ok hBL (hrun1 c ▸ hcrun) tr
        rw [htagL c] at hcom
        have hR : (fun h => (R e h || decide (h ∈ cr)) && !decide (h ∈ tr)) = R e3 := by
          funext h; simp only [hrun3, hkeep, hrun1]
        rw [hR] at hB3
        rw [List.length_cons, runSP_succ env hact hc htr]
        simp only [runMP, hact, hleg', hL, hch, hcom, htr, htrash, Bool.true_eq_false, if_false]
        rcases ih (n + 1)
          (env.commit g (env.outOf c (last' last cr n c) (if last' last cr n c = n then g else hist (last' last cr n c))))
          e3 s3 (fun m => if m = n then g else hist m) (last' last cr n) hB3 (fun h => (hlast3 h).trans (htagL h)) with hok | ⟨m, hm | hm⟩
        · left; rw [hok]
        · right; exact ⟨m, Or.inl (by rw [hm])⟩
        · right; exact ⟨m, Or.inr (by rw [hm])⟩

end JF.MP
