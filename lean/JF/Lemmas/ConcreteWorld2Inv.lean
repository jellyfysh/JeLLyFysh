import JF.Lemmas.ConcreteWorld2
import JF.Lemmas.ConcreteWorld
/-
The world of composite objects as a `JF.Act.World` (for `JF/Props/Footprints2.lean`), the invariant its states carry, and who is
active under that invariant.

* `St` = global state `List (CObj ℚ)` + the GHOST mode (`Composite.Mode`, the component the model state lacks: `C12Chain`);
* `Inv` = `AllGood` (C12's invariant: every object consistent with its point masses) ∧ `Uniform` ∧ (`AllRest`, the state before the
  start-of-run event, ∨ `OneChainM` in the ghost mode: exactly one moving chain, `C12Chain`);
* `TrRaw2` = a `Composite.step` of an event of a kind the handler class of the committing tagger commits (`kindsOf`), weakly
  admissible (`C12.AdmW`), whose kind is possible in the ghost mode (`C12.modeStep`, THE MODE PREMISE: what
  `JF/Props/ModeDiscipline.lean` derives from the activation flags of a mode-sound wiring);
* under `Inv`, `yield_independent_lifted_identifiers` yields exactly one identifier (`independent_leaf` / `independent_root`), and the
  number of active branches, what a mode-switch tagger is compared by, is the same before and after a transition (`count_step`).
-/
namespace JF.CW2
open JF JF.Act JF.Composite JF.C12

theorem flatMap_range_single {β : Type} (f : Nat → List β) : ∀ (n i : Nat), i < n → (∀ k, k < n → k ≠ i → f k = []) →
    (List.range n).flatMap f = f i
  | 0, _, h, _ => absurd h (Nat.not_lt_zero _)
  | n + 1, i, hi, h => by
    rw [List.range_succ, List.flatMap_append]
    by_cases hin : i = n
    · subst hin
      have : (List.range i).flatMap f = [] :=
        List.flatMap_eq_nil_iff.mpr fun k hk => h k (by have := List.mem_range.mp hk; omega) (by have := List.mem_range.mp hk; omega)
      rw [this]; simp
    · have hi' : i < n := by omega
      rw [flatMap_range_single f n i hi' (fun k hk hne => h k (by omega) hne)]
      have : f n = [] := h n (by omega) (fun e => hin e.symm)
      simp [this]

theorem filter_range_single (p : Nat → Bool) : ∀ (n j : Nat), j < n → (∀ k, k < n → (p k = true ↔ k = j)) →
    (List.range n).filter p = [j]
  | 0, _, h, _ => absurd h (Nat.not_lt_zero _)
  | n + 1, j, hj, h => by
    rw [List.range_succ, List.filter_append]
    by_cases hjn : j = n
    · subst hjn
      have h1 : (List.range j).filter p = [] := by
        rw [List.filter_eq_nil_iff]
        intro k hk hp
        have := List.mem_range.mp hk
        have := (h k (by omega)).mp hp
        omega
      have h2 : p j = true := (h j (by omega)).mpr rfl
      rw [h1]; simp [h2]
    · have hj' : j < n := by omega
      rw [filter_range_single p n j hj' (fun k hk => h k (by omega))]
      have : p n = false := by
        cases hp : p n
        · rfl
        · exact absurd ((h n (by omega)).mp hp).symm hjn
      simp [this]

/-- global state + the ghost mode -/
structure St where
  cs : List (CObj ℚ)
  mode : Composite.Mode

/-- every composite object has `setting.number_of_nodes_per_root_node` point masses -/
def Uniform (nPer : Nat) (cs : List (CObj ℚ)) : Prop := ∀ c ∈ cs, c.leaves.length = nPer

theorem uniform_exC : Uniform 2 [exC0, exC1] := by
  intro c hc
  simp only [List.mem_cons, List.not_mem_nil, or_false] at hc
  rcases hc with rfl | rfl <;> rfl

def Inv (env : Env ℚ) (s : St) : Prop :=
  AllGood env.d env.L s.cs ∧ Uniform env.nPer s.cs ∧ (AllRest s.cs ∨ ∃ sq, OneChainM s.cs sq s.mode)

def G (env : Env ℚ) : Type := { s : St // Inv env s }

def world2 (env : Env ℚ) (mw : ModeWiring) : World (G env) :=
  { yieldOf := fun T g => yieldCls env T (mw.w.tagger T).cls g.1.cs
    view := fun T => viewOf (mw.w.tagger T)
    live := fun T => T < mw.w.n ∧ (mw.w.tagger T).kind ≠ .startOfRun }

theorem liveIs2 (env : Env ℚ) (mw : ModeWiring) : LiveIs mw.w (world2 env mw) := fun _ => Iff.rfl

/-- one commit by a handler of tagger `E`: the `Composite.step` of a weakly admissible event of a kind of `E`'s handler class
(`cm`: the mode at the request of the candidate time, which `kindsOf` needs for the end of chain), the kind being possible in the
ghost mode.  (An empty out-state — a dumping event — is `keep t []`.)  Since no mode allows a `start`, the start-of-run event is
NOT a transition: it is the first commit of `JF.Act.Run`, which is unconstrained. -/
def TrRaw2 (env : Env ℚ) (mw : ModeWiring) (E : TaggerIdx) (s s' : St) : Prop :=
  ∃ (e : Composite.Ev ℚ) (cm : WMode), evKind e ∈ kindsOf (mw.hmode E) cm ∧ modeStep s.mode e = some s'.mode ∧
    AdmW env.d env.L s.cs e ∧ s'.cs = step Ops.rat isZ env.L s.cs e

def Tr2 (env : Env ℚ) (mw : ModeWiring) (E : TaggerIdx) (g g' : G env) : Prop := TrRaw2 env mw E g.1 g'.1

/-- the same without the mode premise (used to show that the premise is needed) -/
def TrNoMode2 (env : Env ℚ) (mw : ModeWiring) (E : TaggerIdx) (cs cs' : List (CObj ℚ)) : Prop :=
  ∃ (e : Composite.Ev ℚ) (cm : WMode), evKind e ∈ kindsOf (mw.hmode E) cm ∧ evKind e ≠ .start ∧
    AdmW env.d env.L cs e ∧ cs' = step Ops.rat isZ env.L cs e

/-- the start-of-run event from the state at rest (NOT part of `Tr2`) -/
def TrStart2 (env : Env ℚ) (mw : ModeWiring) (E : TaggerIdx) (s s' : St) : Prop :=
  ∃ (i : Nat) (P : List Nat) (v : List ℚ) (cm : WMode), EvKind.start ∈ kindsOf (mw.hmode E) cm ∧ AllRest s.cs ∧
    StartMode s.cs i P s'.mode ∧ AdmW env.d env.L s.cs (.start i P v) ∧ s'.cs = step Ops.rat isZ env.L s.cs (.start i P v)

/-! ### a non-quiet event needs a moving unit -/

theorem rest_getElem? {cs : List (CObj ℚ)} (h : AllRest cs) (k : Nat) (ck : CObj ℚ) (hk : cs[k]? = some ck) : RestL ck.leaves :=
  h ck (List.mem_of_getElem? hk)

theorem rest_sliceAt {cs : List (CObj ℚ)} (h : AllRest cs) (L : List ℚ) (t : Time ℚ) (S : List Nat) (k : Nat) (ck : CObj ℚ)
    (hk : (sliceAt Ops.rat L t S cs)[k]? = some ck) : RestL ck.leaves :=
  AllRest.sliceAt_aux L t S (rest_getElem? h) k ck hk

/-- the events after the start that are not `keep` / `snap` hand a velocity over: weak admissibility says the source moves -/
theorem admW_not_rest {d : Nat} {L : List ℚ} {cs : List (CObj ℚ)} {e : Composite.Ev ℚ} (ha : AdmW d L cs e)
    (hq : quietKind (evKind e) = false) (hs : evKind e ≠ .start) : ¬ AllRest cs := by
  intro hr
  cases e with
  | keep t S => simp [evKind, quietKind] at hq
  | snap t S i j dd x => simp [evKind, quietKind] at hq
  | start i P v => exact hs rfl
  | exchange t S i j i' j' =>
    obtain ⟨_, _, a, b, v, h1, h2, _⟩ := ha
    unfold leafOf at h1
    cases hc : (sliceAt Ops.rat L t S cs)[i]? with
    | none => rw [hc] at h1; cases h1
    | some c =>
      rw [hc] at h1
      have := rest_sliceAt hr L t S i c hc a (List.mem_of_getElem? h1)
      rw [h2] at this; cases this
  | pass t S iL iT =>
    obtain ⟨_, _, cL, cT, a, h1, _, h3, h4⟩ := ha
    exact h4 (rest_sliceAt hr L t S iL cL h1 a h3)
  | eocLeaf t i j i' j' vn =>
    obtain ⟨c0, c', a, b, old, h1, h2, h3, _⟩ := ha
    have := restL_congr (sliceComp_vels L t c0) (rest_getElem? hr i c0 h1) a (List.mem_of_getElem? h2)
    rw [h3] at this; cases this
  | eocRoot t i i' vn =>
    obtain ⟨c, c', a, old, h1, _, h3, h4, _⟩ := ha
    have := rest_sliceAt hr L t [i] i c h1 a h3
    rw [h4] at this; cases this
  | toLeaf t i ch =>
    obtain ⟨co, a, h1, h2, h3, _⟩ := ha
    exact h3 (rest_sliceAt hr L t [i] i co h1 a h2)
  | toRoot t i =>
    obtain ⟨co, a, h1, h2, h3⟩ := ha
    exact h3 (rest_sliceAt hr L t [i] i co h1 a h2)

theorem uniform_iff_lens (nPer : Nat) (cs : List (CObj ℚ)) : Uniform nPer cs ↔ ∀ n ∈ lens cs, n = nPer := by
  unfold Uniform lens
  constructor
  · intro h n hn
    obtain ⟨c, hc, rfl⟩ := List.mem_map.mp hn
    exact h c hc
  · intro h c hc
    exact h _ (List.mem_map.mpr ⟨c, hc, rfl⟩)

theorem uniform_step {nPer : Nat} {cs : List (CObj ℚ)} (h : Uniform nPer cs) (L : List ℚ) (e : Composite.Ev ℚ) :
    Uniform nPer (step Ops.rat isZ L cs e) := by
  rw [uniform_iff_lens, lens_step]
  exact (uniform_iff_lens nPer cs).mp h

theorem allRest_iff_vels (cs : List (CObj ℚ)) : AllRest cs ↔ ∀ p ∈ vels cs, ∀ v ∈ p.2, v = none := by
  unfold AllRest RestL vels
  constructor
  · intro h p hp v hv
    obtain ⟨c, hc, rfl⟩ := List.mem_map.mp hp
    obtain ⟨l, hl, rfl⟩ := List.mem_map.mp hv
    exact h c hc l hl
  · intro h c hc l hl
    exact h _ (List.mem_map.mpr ⟨c, hc, rfl⟩) _ (List.mem_map.mpr ⟨l, hl, rfl⟩)

theorem modeStep_quiet {m m' : Composite.Mode} {e : Composite.Ev ℚ} (hq : quietKind (evKind e) = true)
    (hm : modeStep m e = some m') : m' = m := by
  cases e <;> simp [evKind, quietKind] at hq <;> simp [modeStep] at hm <;> exact hm.symm

theorem modeStep_not_start {m m' : Composite.Mode} {e : Composite.Ev ℚ} (hm : modeStep m e = some m') : evKind e ≠ .start := by
  cases e <;> cases m <;> simp [modeStep, evKind] at hm ⊢

/-- **every transition keeps the invariant**: from a state satisfying `Inv`, a weakly admissible event whose kind is possible in
the ghost mode leads to a state satisfying `Inv` in the mode `modeStep` gives.  The "at rest" / "which leaves move" facts the
per-event theorems of C12 need are derived from the one-chain invariant (`C12.step_chain_aux`). -/
theorem inv_step {env : Env ℚ} (hL : BoxOK env.d env.L) {s : St} (hi : Inv env s) {e : Composite.Ev ℚ} {m' : Composite.Mode}
    (hm : modeStep s.mode e = some m') (ha : AdmW env.d env.L s.cs e) :
    Inv env ⟨step Ops.rat isZ env.L s.cs e, m'⟩ := by
  obtain ⟨hg, hu, hr⟩ := hi
  refine ⟨?_, uniform_step hu env.L e, ?_⟩
  · rcases hr with hr | ⟨sq, hc⟩
    · cases hq : quietKind (evKind e) with
      | false => exact absurd hr (admW_not_rest ha hq (modeStep_not_start hm))
      | true =>
        cases e with
        | keep t S => exact step_good hL hg (.keep t S) trivial
        | snap t S i j dd x => exact step_good hL hg (.snap t S i j dd x) ha
        | _ => simp [evKind, quietKind] at hq
    · exact step_good hL hg e (step_chain_aux hL hg hc e hm ha).1
  · rcases hr with hr | ⟨sq, hc⟩
    · cases hq : quietKind (evKind e) with
      | false => exact absurd hr (admW_not_rest ha hq (modeStep_not_start hm))
      | true =>
        left
        show AllRest (step Ops.rat isZ env.L s.cs e)
        rw [allRest_iff_vels, vels_quiet Ops.rat isZ env.L s.cs e hq]
        exact (allRest_iff_vels s.cs).mp hr
    · exact Or.inr ⟨sq, (step_chain_aux hL hg hc e hm ha).2⟩

theorem trRaw2_inv {env : Env ℚ} (hL : BoxOK env.d env.L) {mw : ModeWiring} {E : TaggerIdx} {s s' : St} (hi : Inv env s)
    (h : TrRaw2 env mw E s s') : Inv env s' := by
  obtain ⟨e, _, _, hm, ha, hs⟩ := h
  have := inv_step hL hi hm ha
  cases s' with
  | mk cs' m' =>
    simp only at hs
    subst hs
    exact this

theorem inv_start {env : Env ℚ} (hL : BoxOK env.d env.L) {cs : List (CObj ℚ)} (hg : AllGood env.d env.L cs)
    (hu : Uniform env.nPer cs) (hr : AllRest cs) {i : Nat} {P : List Nat} {v : List ℚ} (ha : AdmW env.d env.L cs (.start i P v))
    {m : Composite.Mode} (hm : StartMode cs i P m) : Inv env ⟨step Ops.rat isZ env.L cs (.start i P v), m⟩ :=
  ⟨step_good hL hg _ (admW_adm_start hr ha), uniform_step hu env.L (.start i P v), Or.inr ⟨_, start_oneChainM hr ha hm⟩⟩

theorem inv_rest {env : Env ℚ} {cs : List (CObj ℚ)} (hg : AllGood env.d env.L cs) (hu : Uniform env.nPer cs) (hr : AllRest cs)
    (m : Composite.Mode) : Inv env ⟨cs, m⟩ := ⟨hg, hu, Or.inl hr⟩

theorem flags_getElem? (cs : List (CObj ℚ)) (k : Nat) : (flags cs)[k]? = (cs[k]?).map flagOf := by
  unfold flags; rw [List.getElem?_map]

theorem flagOf_leaf (c : CObj ℚ) (k : Nat) :
    ((flagOf c).2[k]?).getD false = ((c.leaves[k]?).map fun l => l.vel.isSome).getD false := by
  simp only [flagOf, List.getElem?_map]
  cases c.leaves[k]? <;> rfl

theorem independentOf_rest {d : Nat} {L : List ℚ} {c : CObj ℚ} (hg : Good d L c) (hr : RestL c.leaves) (nPer k : Nat) :
    independentOf nPer k (flagOf c) = [] := by
  have : c.root.vel = none := (absent_iff hg.wf.2.2 hg.vel hg.sh hg.rnz).mpr hr
  simp [independentOf, flagOf, Kin.isMoving, this]

theorem independent_rest {d : Nat} {L : List ℚ} (nPer : Nat) {cs : List (CObj ℚ)} (hg : AllGood d L cs) (hr : AllRest cs) :
    independent nPer (flags cs) = [] := by
  unfold independent
  rw [List.flatMap_eq_nil_iff]
  intro k hk
  have hlen : (flags cs).length = cs.length := by simp [flags]
  rw [hlen] at hk
  have hk' := List.mem_range.mp hk
  rw [flags_getElem?, List.getElem?_eq_getElem hk']
  simp only [Option.map_some]
  exact independentOf_rest (hg _ (List.getElem_mem hk')) (hr _ (List.getElem_mem hk')) nPer k

/-- leaf mode: the one moving point mass (the composite object itself if it has a single point mass) -/
theorem independentOf_one {d : Nat} {L : List ℚ} {c : CObj ℚ} (hg : Good d L c) {nPer : Nat} (hn : c.leaves.length = nPer)
    {j : Nat} {v : List ℚ} (h : OneL j v c.leaves) (i : Nat) :
    independentOf nPer i (flagOf c) = [if nPer = 1 then [i] else [i, j]] := by
  obtain ⟨⟨a, ha, hav⟩, ho⟩ := h
  have hroot : Kin.isMoving c.root = true := by
    have := root_moving hg (List.mem_of_getElem? ha) (by rw [hav]; simp)
    cases hv : c.root.vel with
    | none => exact absurd hv this
    | some _ => simp [Kin.isMoving, hv]
  have hj : j < nPer := hn ▸ lt_of_getElem? ha
  have hl : liftedLeaves nPer (flagOf c) = [j] := by
    unfold liftedLeaves
    apply filter_range_single _ nPer j hj
    intro k hk
    rw [flagOf_leaf]
    have hk' : k < c.leaves.length := hn ▸ hk
    rw [List.getElem?_eq_getElem hk']
    simp only [Option.map_some, Option.getD_some]
    constructor
    · intro hm
      by_contra hne
      have := ho k c.leaves[k] (List.getElem?_eq_getElem hk') hne
      rw [this] at hm; cases hm
    · rintro rfl
      have : c.leaves[k] = a := by
        have := List.getElem?_eq_getElem hk'
        rw [ha] at this
        exact (Option.some.inj this).symm
      rw [this, hav]; rfl
  unfold independentOf
  have h1 : (flagOf c).1 = true := hroot
  simp only [h1, if_true, hl, List.length_cons, List.length_nil, Nat.zero_add, beq_iff_eq, List.map_cons, List.map_nil]
  by_cases hn1 : nPer = 1
  · simp [hn1]
  · have : ¬ 1 = nPer := fun e => hn1 e.symm
    simp [hn1, this]

theorem independentOf_all {d : Nat} {L : List ℚ} {c : CObj ℚ} (hg : Good d L c) {nPer : Nat} (hn : c.leaves.length = nPer)
    {v : List ℚ} (h : AllL v c.leaves) (i : Nat) : independentOf nPer i (flagOf c) = [[i]] := by
  obtain ⟨hne, hall⟩ := h
  obtain ⟨a, ha⟩ := List.exists_mem_of_ne_nil _ hne
  have hroot : Kin.isMoving c.root = true := by
    have := root_moving hg ha (by rw [hall a ha]; simp)
    cases hv : c.root.vel with
    | none => exact absurd hv this
    | some _ => simp [Kin.isMoving, hv]
  have hl : liftedLeaves nPer (flagOf c) = List.range nPer := by
    unfold liftedLeaves
    rw [List.filter_eq_self]
    intro k hk
    have hk' : k < c.leaves.length := hn ▸ List.mem_range.mp hk
    rw [flagOf_leaf, List.getElem?_eq_getElem hk']
    simp [hall _ (List.getElem_mem hk')]
  unfold independentOf
  have h1 : (flagOf c).1 = true := hroot
  simp [h1, hl]

theorem independent_single {d : Nat} {L : List ℚ} {nPer : Nat} {cs : List (CObj ℚ)} (hg : AllGood d L cs) {i : Nat}
    {P : CObj ℚ → Prop} (hM : MovingAt cs i P) :
    ∃ c, cs[i]? = some c ∧ P c ∧ independent nPer (flags cs) = independentOf nPer i (flagOf c) := by
  obtain ⟨⟨c, hc, hp⟩, hrest⟩ := hM
  refine ⟨c, hc, hp, ?_⟩
  unfold independent
  have hlen : (flags cs).length = cs.length := by simp [flags]
  rw [hlen, flatMap_range_single _ cs.length i (lt_of_getElem? hc)]
  · rw [flags_getElem?, hc]; rfl
  · intro k hk hne
    rw [flags_getElem?, List.getElem?_eq_getElem hk]
    simp only [Option.map_some]
    exact independentOf_rest (hg _ (List.getElem_mem hk)) (hrest k _ (List.getElem?_eq_getElem hk) hne) nPer k

theorem independent_leaf {d : Nat} {L : List ℚ} {nPer : Nat} {cs : List (CObj ℚ)} (hg : AllGood d L cs) (hu : Uniform nPer cs)
    {i j : Nat} {v : List ℚ} (hM : MovingAt cs i (fun c => OneL j v c.leaves)) :
    independent nPer (flags cs) = [if nPer = 1 then [i] else [i, j]] := by
  obtain ⟨c, hc, hp, e⟩ := independent_single (nPer := nPer) hg hM
  rw [e]
  exact independentOf_one (hg.get hc) (hu c (List.mem_of_getElem? hc)) hp i

theorem independent_root {d : Nat} {L : List ℚ} {nPer : Nat} {cs : List (CObj ℚ)} (hg : AllGood d L cs) (hu : Uniform nPer cs)
    {i : Nat} {v : List ℚ} (hM : MovingAt cs i (fun c => AllL v c.leaves)) : independent nPer (flags cs) = [[i]] := by
  obtain ⟨c, hc, hp, e⟩ := independent_single (nPer := nPer) hg hM
  rw [e]
  exact independentOf_all (hg.get hc) (hu c (List.mem_of_getElem? hc)) hp i

theorem independent_length_chain {d : Nat} {L : List ℚ} {nPer : Nat} {cs : List (CObj ℚ)} (hg : AllGood d L cs)
    (hu : Uniform nPer cs) {sq : ℚ} {m : Composite.Mode} (hc : OneChainM cs sq m) : (independent nPer (flags cs)).length = 1 := by
  cases m with
  | leaf =>
    obtain ⟨i, j, v, _, hM⟩ := hc
    rw [independent_leaf hg hu hM]; rfl
  | root =>
    obtain ⟨i, v, _, hM⟩ := hc
    rw [independent_root hg hu hM]; rfl

theorem count_step {env : Env ℚ} (hL : BoxOK env.d env.L) {mw : ModeWiring} {E : TaggerIdx} {s s' : St} (hi : Inv env s)
    (h : TrRaw2 env mw E s s') :
    (independent env.nPer (flags s'.cs)).length = (independent env.nPer (flags s.cs)).length := by
  have hi' := trRaw2_inv hL hi h
  obtain ⟨e, _, _, hm, ha, hs⟩ := h
  cases hq : quietKind (evKind e) with
  | true => rw [hs, flags_eq_of_vels (vels_quiet Ops.rat isZ env.L s.cs e hq)]
  | false =>
    obtain ⟨hg, hu, hr⟩ := hi
    rcases hr with hr | ⟨sq, hc⟩
    · exact absurd hr (admW_not_rest ha hq (modeStep_not_start hm))
    · have hc' := (step_chain_aux hL hg hc e hm ha).2
      rw [← hs] at hc'
      rw [independent_length_chain hi'.1 hi'.2.1 hc', independent_length_chain hg hu hc]

theorem supported2_agree {mw : ModeWiring} (hs : Supported2 mw = true) {E : TaggerIdx} (hE : E < mw.w.n) :
    kindAgrees (mw.w.tagger E).kind (mw.hmode E) = true := by
  unfold Supported2 at hs
  simp only [Bool.and_eq_true] at hs
  have := List.all_eq_true.mp hs.2 E (List.mem_range.mpr hE)
  simp only [Bool.and_eq_true] at this
  exact this.2

/-- a tagger whose commits do not affect `.ident` according to the table has a handler class that commits only `keep` / `snap`,
if the two readings of its handler class agree (`Supported2`, `CW3.Supported3`) -/
theorem quiet_of_agree {mw : ModeWiring} {E : TaggerIdx} (hag : E < mw.w.n → kindAgrees (mw.w.tagger E).kind (mw.hmode E) = true)
    (ha : affects (mw.w.tagger E) .ident = false) {k : EvKind} {cm : WMode} (hk : k ∈ kindsOf (mw.hmode E) cm) :
    quietKind k = true := by
  by_cases hE : E < mw.w.n
  · exact quiet_of_kindAgrees ha (hag hE) hk
  · rw [tagger_ge mw.w (Nat.le_of_not_lt hE)] at ha
    cases ha

theorem quiet_of_ident_false {mw : ModeWiring} (hs : Supported2 mw = true) {E : TaggerIdx}
    (ha : affects (mw.w.tagger E) .ident = false) {k : EvKind} {cm : WMode} (hk : k ∈ kindsOf (mw.hmode E) cm) :
    quietKind k = true :=
  quiet_of_agree (supported2_agree hs) ha hk

theorem vels_quiet_tr {env : Env ℚ} {mw : ModeWiring} {E : TaggerIdx} {s s' : St}
    (hq : ∀ k cm, k ∈ kindsOf (mw.hmode E) cm → quietKind k = true) (h : TrRaw2 env mw E s s') : vels s'.cs = vels s.cs := by
  obtain ⟨e, cm, hk, _, _, hcs⟩ := h
  rw [hcs]
  exact vels_quiet Ops.rat isZ env.L s.cs e (hq _ cm hk)

end JF.CW2
