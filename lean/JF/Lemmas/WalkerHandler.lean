import JF.Model.Walker
import JF.Lemmas.PyArith
/-!
Helper lemmas for C18: unfolding of the model of `CellVetoEventHandler.initialize/send_event_time`
in the exact reading.
-/
namespace JF.Walker

theorem timeAdd_val (t : Time ℚ) (d : ℚ) :
    (Time.add Ops.rat t d).q + (Time.add Ops.rat t d).r = t.q + t.r + d := by
  simp only [Time.add, rat_isInf, pydivmod1_rat]; simp only [Bool.not_false, if_true]; ring

theorem sendCore_spec {h : Handler ℚ} {dir active k : Nat} {speed cf' x e : ℚ} {walker : Table ℚ}
    {sel : ℚ × ℚ → ℚ} {ts : Time ℚ} {p : Proposal ℚ}
    (hs : sendCore Ops.rat h dir speed active walker sel cf' ts k x e = .ok p) :
    ∃ j, sampleCell walker k x = .ok j ∧
      p.boundingRate = sel ((h.bounds[j]!)[dir]!) * cf' ∧ 0 < p.boundingRate ∧
      translate Ops.rat h.grid active h.domain[j]! = .ok p.target ∧
      walker.total * cf' * speed ≠ 0 ∧
      p.time.q + p.time.r = ts.q + ts.r + e / (walker.total * cf' * speed) := by
  unfold sendCore at hs
  cases hj : sampleCell walker k x with
  | error er => rw [hj] at hs; cases hs
  | ok j =>
    rw [hj] at hs
    simp only [rat_ofInt, Int.cast_zero] at hs
    by_cases hrate : 0 < sel ((h.bounds[j]!)[dir]!) * cf'
    · rw [decide_eq_true hrate, Bool.not_true, if_neg Bool.false_ne_true] at hs
      cases htr : translate Ops.rat h.grid active h.domain[j]! with
      | error er => rw [htr] at hs; cases hs
      | ok target =>
        simp only [htr] at hs
        by_cases hden : walker.total * cf' * speed = 0
        · rw [if_pos (beq_iff_eq.mpr hden)] at hs; cases hs
        · rw [if_neg (by rwa [beq_iff_eq]), Except.ok.injEq] at hs
          subst hs
          exact ⟨j, rfl, rfl, hrate, htr, hden, timeAdd_val _ _⟩
    · rw [decide_eq_false hrate, Bool.not_false, if_pos rfl] at hs; cases hs

/-- `[Walker(item_list) for item_list in ...]` succeeded: every walker is the constructor's result -/
theorem buildAll_spec (rs : List (List ℚ)) (ts : List (Table ℚ)) (hb : buildAll Ops.rat rs = .ok ts) :
    ∀ (d : Nat) (r : List ℚ), rs[d]? = some r → ∃ t, ts[d]? = some t ∧ build Ops.rat r = .ok t := by
  induction rs generalizing ts with
  | nil => intro d r hd; cases hd
  | cons r rs ih =>
    simp only [buildAll] at hb
    cases ht : build Ops.rat r with
    | error e => rw [ht] at hb; cases hb
    | ok t =>
      cases hts : buildAll Ops.rat rs with
      | error e => simp only [ht, hts] at hb; cases hb
      | ok ts' =>
        simp only [ht, hts, Except.ok.injEq] at hb
        subst hb
        intro d r' hd
        cases d with
        | zero => rw [List.getElem?_cons_zero, Option.some.injEq] at hd; subst hd; exact ⟨t, rfl, ht⟩
        | succ d => rw [List.getElem?_cons_succ] at hd ⊢; exact ih ts' hts d r' hd

/-- the rates of the walker for direction `d`: `max(bound, 0.0)` of the stored upper (`sel = (·.1)`) or negated
lower (`sel = (·.2)`) bounds, in domain order -/
def walkerRates (bounds : List (List (ℚ × ℚ))) (sel : ℚ × ℚ → ℚ) (d : Nat) : List ℚ :=
  bounds.map fun row => pymax0 Ops.rat (sel (row[d]!))

theorem pymax0_rat (b : ℚ) : pymax0 Ops.rat b = max b 0 := by
  simp only [pymax0, rat_ofInt, Int.cast_zero]
  split
  · rename_i h; rw [max_eq_right h.le]
  · rename_i h; rw [max_eq_left (not_lt.mp h)]

theorem walkerRates_getD (bounds : List (List (ℚ × ℚ))) (sel : ℚ × ℚ → ℚ) (d j : Nat) :
    (walkerRates bounds sel d).getD j 0 = if j < bounds.length then max (sel ((bounds[j]!)[d]!)) 0 else 0 := by
  unfold walkerRates
  rw [List.getD_eq_getElem?_getD, List.getElem?_map]
  split
  · rename_i hj
    rw [List.getElem?_eq_getElem hj, Option.map_some, Option.getD_some, pymax0_rat, getElem!_pos bounds j hj]
  · rename_i hj
    rw [List.getElem?_eq_none (not_lt.mp hj)]
    rfl

theorem getElem!_map_of_default {α β : Type} [Inhabited α] [Inhabited β] (f : α → β) (hf : f default = default)
    (l : List α) (i : Nat) : (l.map f)[i]! = f l[i]! := by
  rw [List.getElem!_eq_getElem?_getD, List.getElem!_eq_getElem?_getD, List.getElem?_map]
  cases l[i]? with
  | none => exact hf.symm
  | some a => rfl

/-- the stored bounds `(upper_bound, -lower_bound)` by offset and direction; outside the estimator's table both
sides read `(0, 0)` -/
theorem storedBound (est : List (List (ℚ × ℚ))) (j d : Nat) :
    ((est.map fun row => row.map fun ul => (ul.1, -ul.2))[j]!)[d]! = (((est[j]!)[d]!).1, -((est[j]!)[d]!).2) := by
  rw [getElem!_map_of_default (List.map fun ul : ℚ × ℚ => (ul.1, -ul.2)) rfl est j,
    getElem!_map_of_default (fun ul : ℚ × ℚ => (ul.1, -ul.2)) (Prod.ext rfl neg_zero) est[j]! d]

theorem initHandler_spec (g : Grid ℚ) (est : List (List (ℚ × ℚ))) (h : Handler ℚ)
    (hi : initHandler Ops.rat g est = .ok h) :
    h.grid = g ∧ h.domain = domainOf g.ns g.nl ∧ h.bounds = est.map (fun row => row.map fun ul => (ul.1, -ul.2)) ∧
    ∀ d, d < g.dims.length →
      (∃ t, h.upper[d]? = some t ∧ build Ops.rat (walkerRates h.bounds (·.1) d) = .ok t) ∧
      (∃ t, h.lower[d]? = some t ∧ build Ops.rat (walkerRates h.bounds (·.2) d) = .ok t) := by
  unfold initHandler at hi
  simp only at hi
  split at hi
  · cases hi
  · rename_i up hup
    split at hi
    · cases hi
    · rename_i lo hlo
      rw [Except.ok.injEq] at hi
      subst hi
      refine ⟨rfl, rfl, rfl, fun d hd => ⟨?_, ?_⟩⟩
      · exact buildAll_spec _ _ hup d _ (by simp [hd, walkerRates])
      · exact buildAll_spec _ _ hlo d _ (by simp [hd, walkerRates])

end JF.Walker
