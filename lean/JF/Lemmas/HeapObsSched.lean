import JF.Lemmas.HeapObs
/-!
`LiveEq`: two states of the model of `HeapScheduler` that differ at most in the allocated size of the C
array and in the memory beyond `length`.  Every operation of the scheduler maps `LiveEq` states to
`LiveEq` states and returns the same result in both.
-/
namespace JF.Sched
open JF.Heap
variable {κ : Type} {cfg : Cfg κ}

/-- same live part: `HeapEq` of the heaps (the never-allocated heap, `length = 0`, is what `__setstate__` builds from an
empty pickle; the heap with just the sentinel, `length = 1`, is what is left when the last entry was removed), the same
dictionary `_minimal_valid_counter` and the same `_last_returned_event`.  Nothing is said about the allocated sizes, the
memory at indices `≥ length` and the handler/counter fields of the sentinel (they are never read: `insertLoop_sim`). -/
structure LiveEq (cfg : Cfg κ) (a b : HSched κ) : Prop where
  inva : Inv cfg a.heap
  invb : Inv cfg b.heap
  len : max a.heap.length 1 = max b.heap.length 1
  ent : ∀ i, 1 ≤ i → i < a.heap.length → get cfg a.heap i = get cfg b.heap i
  mv : a.mv = b.mv
  last : a.last = b.last

section
variable {a b c : HSched κ}

theorem LiveEq.nofault (E : LiveEq cfg a b) : a.heap.fault = false ∧ b.heap.fault = false :=
  ⟨E.inva.1.1, E.invb.1.1⟩

theorem LiveEq.length_eq (E : LiveEq cfg a b) (h : 1 < a.heap.length ∨ 1 < b.heap.length) :
    a.heap.length = b.heap.length := by
  have := E.len; omega

theorem LiveEq.sentinel (E : LiveEq cfg a b) (ha : 1 ≤ a.heap.length) (hb : 1 ≤ b.heap.length) :
    (get cfg a.heap 0).key = (get cfg b.heap 0).key := by
  obtain ⟨_, h | h⟩ := E.inva.1
  · rw [h.1] at ha; exact absurd ha (by decide)
  · obtain ⟨_, h' | h'⟩ := E.invb.1
    · rw [h'.1] at hb; exact absurd hb (by decide)
    · rw [h.2.2, h'.2.2]

theorem LiveEq.refl (I : Inv cfg a.heap) : LiveEq cfg a a := ⟨I, I, rfl, fun _ _ _ => rfl, rfl, rfl⟩

theorem LiveEq.symm (E : LiveEq cfg a b) : LiveEq cfg b a :=
  ⟨E.invb, E.inva, E.len.symm, fun i h1 hi => (E.ent i h1 (live_lt E.len.symm h1 hi)).symm, E.mv.symm, E.last.symm⟩

theorem LiveEq.trans (E : LiveEq cfg a b) (F : LiveEq cfg b c) : LiveEq cfg a c :=
  ⟨E.inva, F.invb, E.len.trans F.len,
    fun i h1 hi => (E.ent i h1 hi).trans (F.ent i h1 (live_lt E.len h1 hi)), E.mv.trans F.mv, E.last.trans F.last⟩

theorem LiveEq.heap (E : LiveEq cfg a b) : HeapEq cfg a.heap b.heap := ⟨E.inva, E.invb, E.len, E.ent⟩

theorem LiveEq.of_heap (H : HeapEq cfg a.heap b.heap) (hm : a.mv = b.mv) (hl : a.last = b.last) : LiveEq cfg a b :=
  ⟨H.inva, H.invb, H.len, H.ent, hm, hl⟩

theorem push_liveEq (o : StrictWeak cfg) (E : LiveEq cfg a b) (W : Nat) (t : κ) (h : Nat) :
    LiveEq cfg (a.push cfg W t h) (b.push cfg W t h) := by
  unfold HSched.push
  rw [← E.mv]
  by_cases hf : cfg.finite t = true
  · simp only [hf, if_true]
    by_cases hc : (mvGet a.mv h).getD 0 < W
    · simp only [hc, if_true]
      exact .of_heap (insert_live o E.heap t h _) rfl E.last
    · simp only [hc, if_false]
      exact .of_heap (insert_live o (deleteEvents_live o h E.heap) t h 0) rfl E.last
  · simp only [hf, Bool.false_eq_true, if_false]
    exact E

theorem trash_liveEq (E : LiveEq cfg a b) (h : Nat) : LiveEq cfg (a.trash h) (b.trash h) := by
  unfold HSched.trash
  rw [← E.mv]
  exact ⟨E.inva, E.invb, E.len, E.ent, rfl, E.last⟩

/-- `get_succeeding_event`: the same outcome, including the kind of error (empty heap, or the monotonicity assertion);
in particular among exactly simultaneous events the same one is served -/
theorem get_liveEq (o : StrictWeak cfg) (E : LiveEq cfg a b) :
    LiveEq cfg (a.get cfg).1 (b.get cfg).1 ∧ (a.get cfg).2 = (b.get cfg).2 := by
  obtain ⟨H, r⟩ := root_live o (deadCb a.mv) E.heap
  unfold HSched.get
  rw [← E.mv, ← E.last]
  generalize root cfg (deadCb a.mv) a.heap = ra at H r
  generalize root cfg (deadCb a.mv) b.heap = rb at H r
  obtain ⟨ha, ta⟩ := ra
  obtain ⟨hb, tb⟩ := rb
  simp only at H r ⊢
  subst r
  split
  · exact ⟨.of_heap H rfl rfl, rfl⟩
  · split
    · exact ⟨.of_heap H rfl rfl, rfl⟩
    · exact ⟨.of_heap H rfl rfl, rfl⟩

/-- the unpickled scheduler has the same live part (from `pickle_spec`), for every state that refines the reference model -/
theorem pickle_liveEq (o : StrictWeak cfg) {W : Nat} {s : HSched κ} {live : Live κ} (R : Rel cfg W s live) :
    LiveEq cfg s (s.pickle cfg) := by
  obtain ⟨P1, P2, P3, P4, P5⟩ := pickle_spec o R
  refine ⟨R.inv, P1.inv, ?_, fun i h1 hi => (P4 i h1 hi).symm, P2.symm, P3.symm⟩
  rw [P5]; split <;> omega
end

end JF.Sched
