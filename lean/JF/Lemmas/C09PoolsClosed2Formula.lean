import JF.Lemmas.C09PoolsCfg
/-!
C09, last clause (no `TagActivatorError`) — the demand bounds in CLOSED FORM, and the per-configuration obligation stated with them (`shortfallsF`).

`demandBound` (`JF/Lemmas/C09PoolsCfg.lean`) computes the bound of a `FactorTypeMapInStateTagger` on composite objects (`nPer ≠ 1`) by brute force: the maximum of
the yield over ALL one-chain extracted states (`demandMax`: `1 + nRoots · nPer` states, each with a `set(...)` of up to
`(nRoots − 1) · k` in-states); and the bounds of the cell taggers
enumerate the cells of the grid.  For a factor tagger that is asked in leaf mode only (`sel = 0`) C10's specification of the factor maps
gives the bound in closed form:
* inter-object factor type (some line of the type reaches into the second composite object): `(nRoots − 1) · maxEntries`,
* intra-object factor type: `maxEntries`,
where `maxEntries` = the largest number of lines of the type that contain one point-mass index (counted per occurrence).
`demandBoundF` uses the formula where it applies, `relevant units − 1` for the cell taggers and `demandBound` elsewhere;
`demandBound_le_F`: it is an upper bound; `shortfalls_eq_F`: `shortfallsF pc = shortfalls pc` as soon as the formula is the bound itself at
the taggers it reports (`exactF`, decidable) — which is how `JF/Lemmas/C09PoolsShipped.lean` proves the obligations of the shipped
configurations.
-/
namespace JF.C09Pools
open JF JF.Act JF.CellTaggers JF.FactorMaps
open JF.CW2 (Branch leafIds)

/-- the largest number of lines of type `ty` that contain one point-mass index `j < nPer` (per occurrence) -/
def maxEntries (nPer : Nat) (lines : List Line) (ty : String) : Nat :=
  ((List.range nPer).map fun j => (entries j (linesOf lines ty)).length).foldl max 0

/-- some line of the type reaches into the second composite object (`C10.InterType`, as a Boolean) -/
def interB (nPer : Nat) (lines : List Line) (ty : String) : Bool :=
  (linesOf lines ty).any fun S => S.any fun t => decide (nPer ≤ t)

/-- the type occurs and all its lines stay within the first composite object (`C10.IntraType`, as a Boolean) -/
def intraB (nPer : Nat) (lines : List Line) (ty : String) : Bool :=
  !(linesOf lines ty).isEmpty && (linesOf lines ty).all fun S => S.all fun t => decide (t < nPer)

theorem interB_spec {s : Setting} {lines : List Line} {ty : String} (h : interB s.nPer lines ty = true) :
    C10.InterType s lines ty := by
  unfold interB at h
  simp only [List.any_eq_true, decide_eq_true_eq] at h
  obtain ⟨S, hS, t, ht, htn⟩ := h
  exact ⟨S, hS, t, ht, htn⟩

theorem intraB_spec {s : Setting} {lines : List Line} {ty : String} (h : intraB s.nPer lines ty = true) :
    C10.IntraType s lines ty := by
  unfold intraB at h
  simp only [Bool.and_eq_true, Bool.not_eq_true', List.all_eq_true, decide_eq_true_eq] at h
  refine ⟨?_, fun S hS t ht => h.2 S hS t ht⟩
  intro e
  rw [e] at h
  simp at h

theorem entries_le_max {nPer j : Nat} (hj : j < nPer) (lines : List Line) (ty : String) :
    (entries j (linesOf lines ty)).length ≤ maxEntries nPer lines ty :=
  ((foldl_max_le_iff _ 0 _).mp (Nat.le_refl _)).2 _ (List.mem_map.mpr ⟨j, List.mem_range.mpr hj, rfl⟩)

/-- the extracted states a leaf-mode tagger is asked on: none, or one point mass -/
theorem mem_oneChainBranches_zero {nRoots nPer : Nat} {bs : List Branch} (h : bs ∈ oneChainBranches 0 nRoots nPer) :
    bs = [] ∨ ∃ i j, i < nRoots ∧ j < nPer ∧ bs = [⟨i, [j]⟩] := by
  unfold oneChainBranches at h
  rcases List.mem_cons.mp h with h | h
  · exact Or.inl h
  · right
    obtain ⟨i, hi, h⟩ := List.mem_flatMap.mp h
    simp only [beq_self_eq_true, if_true, List.nil_append] at h
    have : ((0 : Nat) == 1) = false := rfl
    simp only [this, Bool.false_eq_true, if_false] at h
    obtain ⟨j, hj, rfl⟩ := List.mem_map.mp h
    exact ⟨i, j, List.mem_range.mp hi, List.mem_range.mp hj, rfl⟩

/-- **the parametric lemma**: for a factor tagger asked in leaf mode only, on composite objects (`nPer ≠ 1`), with the factor maps
`fs` of an accepted factor file `lines`: if every point mass's factor map yields at most `B` in-states, the demand over ALL one-chain
states is at most `B` -/
theorem demandMax_leaf_le_of (s : Setting) (fs : Factors) (ty : String) (B : Nat)
    (hB : ∀ i j, i < s.nRoots → j < s.nPer → perLeaf s fs ty [i, j] ≤ B) :
    demandMax 0 s.nRoots s.nPer fs ty .factorTypeMap ≤ B := by
  unfold demandMax
  refine (foldl_max_le_iff _ 0 B).mpr ⟨Nat.zero_le _, ?_⟩
  intro x hx
  obtain ⟨bs, hbs, rfl⟩ := List.mem_map.mp hx
  rcases mem_oneChainBranches_zero hbs with rfl | ⟨i, j, hi, hj, rfl⟩
  · simp [yieldB, taggerYield, yieldAll, dedupe]
  · have hleaf : ([⟨i, [j]⟩] : List Branch).flatMap leafIds = [[i, j]] := by simp [leafIds]
    simp only [yieldB, hleaf]
    cases hy : taggerYield ⟨s.nRoots, s.nPer⟩ fs ty [[i, j]] with
    | error e => simp
    | ok l =>
      simp only [List.length_map]
      have := factor_demand_le_sum ⟨s.nRoots, s.nPer⟩ fs ty [[i, j]] l hy
      simp only [List.map_cons, List.map_nil, List.sum_cons, List.sum_nil, Nat.add_zero] at this
      exact Nat.le_trans this (hB i j hi hj)

/-- **closed formula, inter-object factor type**: `(nRoots − 1) · maxEntries` -/
theorem demandMax_leaf_inter (s : Setting) (lines : List Line) (fs : Factors) (ty : String)
    (h : instantiate s lines [] = .ok fs) (hinter : C10.InterType s lines ty) (hn : s.nPer ≠ 1) :
    demandMax 0 s.nRoots s.nPer fs ty .factorTypeMap ≤ (s.nRoots - 1) * maxEntries s.nPer lines ty := by
  refine demandMax_leaf_le_of s fs ty _ (fun i j hi hj => ?_)
  rw [factor_demand_inter s lines fs ty i j h hinter hn hi hj]
  exact Nat.mul_le_mul_left _ (entries_le_max hj lines ty)

/-- **closed formula, intra-object factor type**: `maxEntries` -/
theorem demandMax_leaf_intra (s : Setting) (lines : List Line) (fs : Factors) (ty : String)
    (h : instantiate s lines [] = .ok fs) (hintra : C10.IntraType s lines ty) :
    demandMax 0 s.nRoots s.nPer fs ty .factorTypeMap ≤ maxEntries s.nPer lines ty := by
  refine demandMax_leaf_le_of s fs ty _ (fun i j hi hj => ?_)
  rw [factor_demand_intra s lines fs ty i j h hintra hi hj]
  exact entries_le_max hj lines ty

/-- the formula for a leaf-mode factor tagger, if it applies (`none`: fall back on the brute-force bound) -/
def leafFormula (pc : PoolCfg) (T : TaggerIdx) : Option Nat :=
  match instantiate ⟨pc.nRoots, pc.nPer⟩ pc.lines [] with
  | .ok _ =>
    if interB pc.nPer pc.lines (pc.ftypeOf T) then some ((pc.nRoots - 1) * maxEntries pc.nPer pc.lines (pc.ftypeOf T))
    else if intraB pc.nPer pc.lines (pc.ftypeOf T) then some (maxEntries pc.nPer pc.lines (pc.ftypeOf T))
    else none
  | .error _ => none

/-- **the demand bound in closed form**: the formula for leaf-mode factor taggers on composite objects; for the three taggers that
read the occupants of cells, all other relevant units (the grid cannot make it more: `cell_demands_share_relevant`);
`demandBound` otherwise (for a factor tagger on composite objects that is also asked in root mode this is still the enumeration of
the one-chain states).  The cells are never enumerated. -/
def demandBoundF (pc : PoolCfg) (T : TaggerIdx) : Nat :=
  match (pc.w.tagger T).cls with
  | .factorTypeMap =>
    if pc.nPer != 1 && pc.selOf T == 0 then (leafFormula pc T).getD (demandBound pc T) else demandBound pc T
  | .excludedCells | .cellBounding | .surplusCells => match pc.occOf T with | some o => o.nRel - 1 | none => 0
  | _ => demandBound pc T

theorem demandMax_le_leafFormula {pc : PoolCfg} {T : TaggerIdx} {b : Nat} (hn : pc.nPer ≠ 1) (hf : leafFormula pc T = some b) :
    demandMax 0 pc.nRoots pc.nPer pc.fs (pc.ftypeOf T) .factorTypeMap ≤ b := by
  unfold leafFormula at hf
  unfold PoolCfg.fs
  cases hi : instantiate ⟨pc.nRoots, pc.nPer⟩ pc.lines [] with
  | error e => rw [hi] at hf; cases hf
  | ok fs =>
    rw [hi] at hf
    dsimp only at hf ⊢
    split at hf
    · next hint =>
      cases hf
      exact demandMax_leaf_inter ⟨pc.nRoots, pc.nPer⟩ pc.lines fs _ hi (interB_spec (s := ⟨pc.nRoots, pc.nPer⟩) hint) hn
    · split at hf
      · next hint =>
        cases hf
        exact demandMax_leaf_intra ⟨pc.nRoots, pc.nPer⟩ pc.lines fs _ hi (intraB_spec (s := ⟨pc.nRoots, pc.nPer⟩) hint)
      · cases hf

theorem demandBound_le_F (pc : PoolCfg) (T : TaggerIdx) : demandBound pc T ≤ demandBoundF pc T := by
  unfold demandBoundF demandBound
  cases (pc.w.tagger T).cls <;> dsimp only
  case factorTypeMap =>
    by_cases hc : (pc.nPer != 1 && pc.selOf T == 0) = true
    · rw [if_pos hc]
      simp only [Bool.and_eq_true, bne_iff_ne, ne_eq, beq_iff_eq] at hc
      have h1 : (pc.nPer == 1) = false := by simpa using hc.1
      simp only [h1, hc.2, Bool.false_eq_true, if_false]
      cases hf : leafFormula pc T with
      | none => exact Nat.le_refl _
      | some b => exact demandMax_le_leafFormula hc.1 hf
    · rw [if_neg hc]
  case excludedCells => cases pc.occOf T <;> [exact Nat.le_refl _; exact excludedBound_le _ _ _]
  case cellBounding => cases pc.occOf T <;> [exact Nat.le_refl _; exact Nat.min_le_right _ _]
  all_goals exact Nat.le_refl _

/-- the taggers whose shipped pool is smaller than the formula bound -/
def shortfallsF (pc : PoolCfg) : List (TaggerIdx × Nat × Nat) :=
  (List.range pc.w.n).filterMap fun T =>
    if (pc.w.tagger T).pool < demandBoundF pc T then some (T, (pc.w.tagger T).pool, demandBoundF pc T) else none

/-- where the closed form reports a shortfall, its bound is the bound itself -/
def exactF (pc : PoolCfg) : Bool :=
  (List.range pc.w.n).all fun T => !decide ((pc.w.tagger T).pool < demandBoundF pc T) || demandBound pc T == demandBoundF pc T

/-- **the closed-form obligation is the obligation**: a tagger whose pool reaches the formula reaches the bound (`demandBound_le_F`), and
where it does not, `exactF` says that formula and bound agree — so the two reports are the same list -/
theorem shortfalls_eq_F {pc : PoolCfg} (h : exactF pc = true) : shortfalls pc = shortfallsF pc := by
  unfold shortfalls shortfallsF
  refine List.filterMap_congr fun T hT => ?_
  have hT' := List.all_eq_true.mp h T hT
  have hle := demandBound_le_F pc T
  by_cases hlt : (pc.w.tagger T).pool < demandBoundF pc T
  · simp only [hlt, decide_true, Bool.not_true, Bool.false_or, beq_iff_eq] at hT'
    rw [hT']
  · rw [if_neg hlt, if_neg (by omega)]

end JF.C09Pools
