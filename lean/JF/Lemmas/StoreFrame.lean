import JF.Lemmas.StoreInv
/-!
The invariant in the initial state, and which part of the state a mutation can touch.
-/
namespace JF.Store
variable {α : Type}

theorem initNodes_spec (w : α) : ∀ (ps : List (Option Nat × List α)) (h : Heap α),
    h.next ≤ (initNodes w h ps).1.next ∧ ∀ n ∈ (initNodes w h ps).2, n.pos < (initNodes w h ps).1.next := by
  intro ps
  induction ps with
  | nil => intro h; simp [initNodes]
  | cons p ps ih =>
    intro h
    obtain ⟨c, p⟩ := p
    simp only [initNodes]
    obtain ⟨i1, i2⟩ := ih (h.alloc (.vec p)).1
    refine ⟨Nat.le_trans (by simp) i1, ?_⟩
    intro n hn
    rcases List.mem_cons.1 hn with rfl | hn
    · exact Nat.lt_of_lt_of_le (by simp) i1
    · exact i2 n hn

theorem initRoots_spec [Div α] (o : Ops α) : ∀ (rs : List (Option Nat × List α × List (Option Nat × List α))) (h : Heap α),
    h.next ≤ (initRoots o h rs).1.next ∧
    ∀ r ∈ (initRoots o h rs).2.flatMap posRefs, r < (initRoots o h rs).1.next := by
  intro rs
  induction rs with
  | nil => intro h; simp [initRoots]
  | cons x rs ih =>
    intro h
    obtain ⟨c, p, ch⟩ := x
    simp only [initRoots]
    set a := h.alloc (.vec p) with adef
    obtain ⟨k1, k2⟩ := initNodes_spec (o.ofInt 1 / o.ofInt ch.length) ch a.1
    set k := initNodes (o.ofInt 1 / o.ofInt ch.length) a.1 ch with kdef
    obtain ⟨i1, i2⟩ := ih k.1
    have ha : h.next < a.1.next := by simp [adef]
    refine ⟨Nat.le_trans (Nat.le_of_lt ha) (Nat.le_trans k1 i1), ?_⟩
    intro r hr
    simp only [List.flatMap_cons, List.mem_append, posRefs, List.mem_cons, List.mem_map] at hr
    rcases hr with (hr | ⟨n, hn, rfl⟩) | hr
    · subst hr
      exact Nat.lt_of_lt_of_le ha (Nat.le_trans k1 i1)
    · exact Nat.lt_of_lt_of_le (k2 n hn) i1
    · exact i2 r (by simpa [posRefs] using hr)

theorem inv_init [Div α] (o : Ops α) (levels perRoot : Nat)
    (roots : List (Option Nat × List α × List (Option Nat × List α))) :
    Inv (Sess.init o levels perRoot roots) := by
  refine ⟨?_, by simp [Sess.init], by simp [Sess.init], by simp [Sess.init]⟩
  intro r hr
  simp only [Sess.init, Global.refs, List.flatMap_nil, List.append_nil] at hr
  exact (initRoots_spec o roots Heap.empty).2 r hr

theorem getUnit_refs_sub {b : Branch α} {u : Nat} {c : CUnit α} (hc : b.getUnit u = some c) :
    ∀ r ∈ c.refs, r ∈ b.refs := by
  obtain ⟨pre, post, hold, _⟩ := setUnit_refs c hc
  intro r hr; rw [hold]; simp [hr]

/-- A mutation through live branch `b` changes no object outside that branch, does not touch the
global state's own fields, and leaves every other live branch as it is. -/
theorem step_mutation_frame (s : Sess α) (op : Op α) {b : Nat} (ht : op.target = some b) :
    (step s op).1.g = s.g ∧
    (∀ j, j ≠ b → (step s op).1.live[j]? = s.live[j]?) ∧
    (∀ L, s.live[b]? = some L → ∀ r, r < s.h.next → r ∉ L.b.refs → (step s op).1.h.get? r = s.h.get? r) := by
  obtain ⟨u, f, -, sh⟩ := step_mutation_shape s op ht
  generalize step s op = r at sh ⊢
  cases sh with
  | key => exact ⟨rfl, fun _ _ => rfl, fun _ _ _ _ _ => rfl⟩
  | fail => exact ⟨rfl, fun _ _ => rfl, fun _ _ _ _ _ => rfl⟩
  | write r o hc hr =>
    refine ⟨rfl, fun _ _ => rfl, ?_⟩
    intro L hL x _ hx
    obtain ⟨L', hL', hu, _⟩ := getLiveUnit_some hc
    rw [hL] at hL'; cases hL'
    exact Heap.get?_write_ne _ _ (fun h => hx (h ▸ getUnit_refs_sub hu r hr))
  | rebind x h' hc e _ =>
    refine ⟨rfl, ?_, fun _ _ r hr _ => e.2 r hr⟩
    intro j hj
    obtain ⟨L, _, _, hset⟩ := getLiveUnit_some hc
    rw [hset]
    exact List.getElem?_set_ne (Ne.symm hj)

end JF.Store
