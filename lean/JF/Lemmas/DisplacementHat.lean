import JF.Lemmas.DisplacementReal
import JF.Lemmas.DisplacementPeriodic
/-!
# Real-number reading of `MexicanHatPotential` (`potential/abstracts.py`), generic in the radial potential

`Hat` carries the three abstract methods of the Python class as functions of the *distance* `r`:
`U` (`_potential` is `U (norm separation)`), `invIn` (`_invert_potential_inside_minimum`), `invOut`
(`_invert_potential_outside_minimum`, `none` = `float('inf')`).  The separation enters through `s` (its
component along the motion, updated in place by the Python code) and the constant `q` (sum of the squares
of the other components).  The four case routines are written in the order of their call graph
(`behind_outside → behind_inside → front_inside → front_outside`, no recursion).

The `try … except ValueError` of `_displacement_behind_outside_sphere` is read as the test whether the first
`math.sqrt` succeeds (`0 ≤ r0² - q`): in the real-number reading no nested square root fails (under `Hat.Valid` the
proofs of the four case theorems derive, on their way, that each argument is non-negative; this is not stated as a
theorem of its own, and `Real.sqrt` is total), so that is the only way into the `except` branch.  [In binary64 a nested rounding failure is
possible — known finding `ep:inversion:budget-within-rounding-of-turning-point`.]
-/
namespace JF.DispR
open Set JF.Uphill

noncomputable section

structure Hat where
  U : ℝ → ℝ
  r0 : ℝ
  invIn : ℝ → ℝ
  invOut : ℝ → Option ℝ

namespace Hat
variable (H : Hat) (q : ℝ)

/-- `_potential(separation)` with component `s` along the motion -/
def pot (s : ℝ) : ℝ := H.U (Real.sqrt (s * s + q))

/-- `_displacement_front_outside_sphere` -/
def frontOutside (s cur dE : ℝ) : Option ℝ :=
  (H.invOut (cur + dE)).map fun n => s + Real.sqrt (n * n - q)

/-- `_displacement_front_inside_sphere` -/
def frontInside (s dE : ℝ) : Option ℝ :=
  let disp := s + Real.sqrt (H.r0 * H.r0 - q)
  let s1 := s - disp
  let cur := H.pot q s1
  (H.frontOutside q s1 cur dE).map (disp + ·)

/-- `_displacement_behind_inside_sphere` -/
def behindInside (s cur dE : ℝ) : Option ℝ :=
  let maxIn := H.pot q 0
  let diff := maxIn - cur
  if dE < diff then
    some (s - Real.sqrt (H.invIn (cur + dE) * H.invIn (cur + dE) - q))
  else
    (H.frontInside q 0 (dE - diff)).map (s + ·)

/-- `_displacement_behind_outside_sphere` -/
def behindOutside (s dE : ℝ) : Option ℝ :=
  if 0 ≤ H.r0 * H.r0 - q then
    let disp := s - Real.sqrt (H.r0 * H.r0 - q)
    let s1 := s - disp
    let cur := H.pot q s1
    (H.behindInside q s1 cur dE).map (disp + ·)
  else
    (H.frontOutside q 0 (H.pot q 0) dE).map (s + ·)

/-- `MexicanHatPotential.standard_velocity_displacement` -/
def disp (s dE : ℝ) : Option ℝ :=
  if Real.sqrt (s * s + q) ≥ H.r0 then
    if s ≤ 0 then H.frontOutside q s (H.pot q s) dE else H.behindOutside q s dE
  else
    if s ≤ 0 then H.frontInside q s dE else H.behindInside q s (H.pot q s) dE

/-- energy along the path from the current separation -/
def path (s : ℝ) : ℝ → ℝ := fun x => H.pot q (s - x)

/-- what the class documentation demands of an inheriting potential -/
structure Valid : Prop where
  r0_pos : 0 < H.r0
  q_pos : 0 < q
  /-- decreasing inside the minimum sphere -/
  anti : AntitoneOn H.U (Ioc 0 H.r0)
  /-- increasing outside -/
  mono : MonotoneOn H.U (Ici H.r0)
  /-- `_invert_potential_inside_minimum` is the (order-respecting) inverse on `(0, r0]` -/
  invIn_spec : ∀ y a b, 0 < b → b ≤ a → a ≤ H.r0 → H.U a ≤ y → y ≤ H.U b →
    b ≤ H.invIn y ∧ H.invIn y ≤ a ∧ H.U (H.invIn y) = y
  /-- `_invert_potential_outside_minimum` is the (order-respecting) inverse on `[r0, ∞)` -/
  invOut_some : ∀ y a n, H.r0 ≤ a → H.U a ≤ y → H.invOut y = some n → a ≤ n ∧ H.U n = y
  /-- … and returns `inf` only for energies that are never reached outside -/
  invOut_none : ∀ y, H.invOut y = none → ∀ r, H.r0 ≤ r → H.U r < y

end Hat

variable {H : Hat} {q : ℝ}

theorem Hat.path_shift (H : Hat) (q s d1 : ℝ) :
    H.path q (s - d1) = fun x => H.path q s (x + d1) := by
  funext x; unfold Hat.path; rw [sub_sub, add_comm]

/-- a first stretch with gain `G1`, then a case routine run from the separation `s'` reached there -/
theorem Hat.after {s s' d1 G1 E2 E : ℝ} {o : Option ℝ} (h1 : Good (H.path q s) d1 G1)
    (hs' : s' = s - d1) (h2 : Outcome (H.path q s') E2 o) (hE : G1 + E2 = E) :
    Outcome (H.path q s) E (o.map (d1 + ·)) := by
  rw [hs', Hat.path_shift] at h2
  exact Outcome.after h1 h2 hE


/-- distance of the two units after the active one has moved by `x` -/
def rho (s q x : ℝ) : ℝ := Real.sqrt (nsq s q x)

theorem Hat.path_eq (H : Hat) (q s x : ℝ) : H.path q s x = H.U (rho s q x) := rfl

theorem rho_pos {s q x : ℝ} (hq : 0 < q) : 0 < rho s q x := Real.sqrt_pos.2 (nsq_pos hq)

theorem rho_anti {s q x y : ℝ} (hxy : x ≤ y) (hy : y ≤ s) : rho s q y ≤ rho s q x :=
  Real.sqrt_le_sqrt (nsq_anti hxy hy)

theorem rho_mono {s q x y : ℝ} (hx : s ≤ x) (hxy : x ≤ y) : rho s q x ≤ rho s q y :=
  Real.sqrt_le_sqrt (nsq_mono hx hxy)

theorem Hat.path_zero (H : Hat) (q s : ℝ) : H.path q s 0 = H.pot q s := by
  unfold Hat.path; rw [sub_zero]

theorem Hat.path_self (H : Hat) (q s : ℝ) : H.path q s s = H.pot q 0 := by
  unfold Hat.path; rw [sub_self]

theorem Hat.path_of_nsq (H : Hat) {q s x n : ℝ} (hn : 0 ≤ n) (h : nsq s q x = n * n) :
    H.path q s x = H.U n := by
  rw [Hat.path_eq, rho, h, Real.sqrt_mul_self hn]


/-- `DisplacedEvenPowerPotential` as a `Hat`: `U r = k (r - r0)^p` with `p` even
(`_potential`: `prefactor * (norm - r0) ** power`), the two inversions `r0 ∓ (y / k) ** (1 / p)` -/
noncomputable def evenPowerHat (k r0 : ℝ) (p : ℕ) : Hat where
  U r := k * (r - r0) ^ p
  r0 := r0
  invIn y := r0 - (y / k) ^ ((1:ℝ) / p)
  invOut y := some (r0 + (y / k) ^ ((1:ℝ) / p))

theorem root_pow {z : ℝ} {p : ℕ} (hz : 0 ≤ z) (hp : p ≠ 0) : (z ^ ((1:ℝ) / p)) ^ p = z := by
  rw [one_div]; exact Real.rpow_inv_natCast_pow hz hp

theorem evenPower_root {k y : ℝ} {p : ℕ} (hk : 0 < k) (hp0 : p ≠ 0) (hy : 0 ≤ y) :
    0 ≤ (y / k) ^ ((1:ℝ) / p) ∧ k * ((y / k) ^ ((1:ℝ) / p)) ^ p = y := by
  have hz := div_nonneg hy hk.le
  exact ⟨Real.rpow_nonneg hz _, by rw [root_pow hz hp0]; field_simp⟩

theorem le_of_mul_pow_le {k u v : ℝ} {p : ℕ} (hk : 0 < k) (hp0 : p ≠ 0) (hu : 0 ≤ u) (hv : 0 ≤ v)
    (h : k * u ^ p ≤ k * v ^ p) : u ≤ v :=
  (pow_le_pow_iff_left₀ hu hv hp0).1 (le_of_mul_le_mul_left h hk)

/-- `k t^p` is increasing in the distance `t ≥ 0` from the minimum sphere, and `p` even makes the two sides
alike; both inversions return the point at distance `t = (y/k)^(1/p)` -/
theorem evenPower_valid {k r0 q : ℝ} {p : ℕ} (hk : 0 < k) (hr0 : 0 < r0) (hp : Even p) (hp0 : p ≠ 0)
    (hq : 0 < q) : (evenPowerHat k r0 p).Valid q := by
  have flip : ∀ x : ℝ, (x - r0) ^ p = (r0 - x) ^ p := fun x => by rw [← hp.neg_pow, neg_sub]
  refine ⟨hr0, hq, ?_, ?_, ?_, ?_, ?_⟩
  · intro x hx y hy hxy
    show k * (y - r0) ^ p ≤ k * (x - r0) ^ p
    rw [flip x, flip y]
    exact mul_le_mul_of_nonneg_left
      (pow_le_pow_left₀ (sub_nonneg.2 hy.2) (sub_le_sub_left hxy r0) p) hk.le
  · intro x hx y hy hxy
    exact mul_le_mul_of_nonneg_left
      (pow_le_pow_left₀ (sub_nonneg.2 hx) (sub_le_sub_right hxy r0) p) hk.le
  · intro y a b hb hba ha h1 h2
    change k * (a - r0) ^ p ≤ y at h1
    change y ≤ k * (b - r0) ^ p at h2
    rw [flip a] at h1
    rw [flip b] at h2
    have ha' : 0 ≤ r0 - a := sub_nonneg.2 ha
    obtain ⟨ht0, ht⟩ := evenPower_root hk hp0 ((mul_nonneg hk.le (pow_nonneg ha' p)).trans h1)
    show b ≤ r0 - (y / k) ^ ((1:ℝ) / p) ∧ r0 - (y / k) ^ ((1:ℝ) / p) ≤ a ∧
      k * (r0 - (y / k) ^ ((1:ℝ) / p) - r0) ^ p = y
    generalize (y / k) ^ ((1:ℝ) / p) = t at ht0 ht ⊢
    rw [← ht] at h1 h2
    refine ⟨le_sub_comm.1 (le_of_mul_pow_le hk hp0 ht0 (ha'.trans (sub_le_sub_left hba r0)) h2),
      sub_le_comm.1 (le_of_mul_pow_le hk hp0 ha' ht0 h1), ?_⟩
    rw [flip, sub_sub_cancel]; exact ht
  · intro y a n ha h1 hn
    change k * (a - r0) ^ p ≤ y at h1
    obtain rfl : r0 + (y / k) ^ ((1:ℝ) / p) = n := Option.some.inj hn
    have ha' : 0 ≤ a - r0 := sub_nonneg.2 ha
    obtain ⟨ht0, ht⟩ := evenPower_root hk hp0 ((mul_nonneg hk.le (pow_nonneg ha' p)).trans h1)
    show a ≤ r0 + (y / k) ^ ((1:ℝ) / p) ∧ k * (r0 + (y / k) ^ ((1:ℝ) / p) - r0) ^ p = y
    generalize (y / k) ^ ((1:ℝ) / p) = t at ht0 ht ⊢
    rw [← ht] at h1
    exact ⟨sub_le_iff_le_add'.1 (le_of_mul_pow_le hk hp0 ha' ht0 h1), by rw [add_sub_cancel_left]; exact ht⟩
  · intro y h; cases h


variable (hV : H.Valid q)
include hV

theorem Hat.mono_front_out {s a b : ℝ} (ha : s ≤ a) (hout : H.r0 * H.r0 ≤ nsq s q a) :
    MonotoneOn (H.path q s) (Icc a b) := fun x hx y hy hxy => by
  have h1 : H.r0 ≤ rho s q x :=
    (le_sqrt_of_mul_self_le hV.r0_pos.le hout).trans (rho_mono (q := q) ha hx.1)
  have h2 := rho_mono (q := q) (ha.trans hx.1) hxy
  exact hV.mono h1 (h1.trans h2) h2

theorem Hat.anti_front_in {s a b : ℝ} (ha : s ≤ a) (hin : nsq s q b ≤ H.r0 * H.r0) :
    AntitoneOn (H.path q s) (Icc a b) := fun x hx y hy hxy => by
  have h2 : rho s q y ≤ H.r0 :=
    (rho_mono (q := q) (ha.trans hy.1) hy.2).trans (sqrt_le_of_le_mul_self hV.r0_pos.le hin)
  have h3 := rho_mono (q := q) (ha.trans hx.1) hxy
  exact hV.anti ⟨rho_pos hV.q_pos, h3.trans h2⟩ ⟨rho_pos hV.q_pos, h2⟩ h3

theorem Hat.mono_behind_in {s a b : ℝ} (hb : b ≤ s) (hin : nsq s q a ≤ H.r0 * H.r0) :
    MonotoneOn (H.path q s) (Icc a b) := fun x hx y hy hxy => by
  have h2 : rho s q x ≤ H.r0 :=
    (rho_anti (q := q) hx.1 (hx.2.trans hb)).trans (sqrt_le_of_le_mul_self hV.r0_pos.le hin)
  have h3 := rho_anti (q := q) hxy (hy.2.trans hb)
  exact hV.anti ⟨rho_pos hV.q_pos, h3.trans h2⟩ ⟨rho_pos hV.q_pos, h2⟩ h3

theorem Hat.anti_behind_out {s a b : ℝ} (hb : b ≤ s) (hout : H.r0 * H.r0 ≤ nsq s q b) :
    AntitoneOn (H.path q s) (Icc a b) := fun x hx y hy hxy => by
  have h2 : H.r0 ≤ rho s q y :=
    (le_sqrt_of_mul_self_le hV.r0_pos.le hout).trans (rho_anti (q := q) hy.2 hb)
  have h3 := rho_anti (q := q) hxy (hy.2.trans hb)
  exact hV.mono h2 (h2.trans h3) h3

/-! ### the four case routines

Each is the passage of one stretch that accumulates a known amount (nothing on a descent), followed by the
next routine of the call graph from the separation reached, or ends by inverting the radial potential. -/

/-- **front, outside**: climb from the current potential by the budget, for ever if the potential never
rises by that much -/
theorem Hat.frontOutside_ok {s dE : ℝ} (hs : s ≤ 0) (hout : H.r0 * H.r0 ≤ s * s + q) (hE : 0 ≤ dE) :
    Outcome (H.path q s) dE (H.frontOutside q s (H.pot q s) dE) := by
  have hm : ∀ d, MonotoneOn (H.path q s) (Icc 0 d) := fun d =>
    H.mono_front_out hV hs (hout.trans_eq (nsq_zero s q).symm)
  unfold Hat.frontOutside
  cases hn : H.invOut (H.pot q s + dE) with
  | none =>
    intro d hd
    have hr : H.r0 ≤ rho s q d := le_sqrt_of_mul_self_le hV.r0_pos.le
      ((hout.trans_eq (nsq_zero s q).symm).trans (nsq_mono hs hd))
    have := hV.invOut_none _ hn _ hr
    refine ⟨bv_mono (hm d) hd, ?_⟩
    rw [uphill_mono (hm d) hd, Hat.path_zero, Hat.path_eq]
    exact sub_lt_iff_lt_add'.2 this
  | some n =>
    have ha : H.r0 ≤ Real.sqrt (s * s + q) := le_sqrt_of_mul_self_le hV.r0_pos.le hout
    obtain ⟨h1, h2⟩ := hV.invOut_some (H.pot q s + dE) _ _ ha (le_add_of_nonneg_right hE) hn
    have hsq : s * s + q ≤ n * n :=
      le_mul_self_of_sqrt_le (add_nonneg (mul_self_nonneg s) hV.q_pos.le) h1
    have hd : 0 ≤ s + Real.sqrt (n * n - q) := neg_le_iff_add_nonneg'.1 (neg_le_sqrt_sub hs hsq)
    have g := Good.of_mono hd (hm _)
    rwa [Hat.path_zero, H.path_of_nsq (hV.r0_pos.le.trans (ha.trans h1))
      (nsq_add_sqrt ((le_add_of_nonneg_left (mul_self_nonneg s)).trans hsq)), h2,
      add_sub_cancel_left] at g

/-- **front, inside**: descend to the minimum sphere, then climb outside -/
theorem Hat.frontInside_ok {s dE : ℝ} (hs : s ≤ 0) (hin : s * s + q ≤ H.r0 * H.r0) (hE : 0 ≤ dE) :
    Outcome (H.path q s) dE (H.frontInside q s dE) := by
  have e := nsq_add_sqrt (s := s) ((le_add_of_nonneg_left (mul_self_nonneg s)).trans hin)
  have hd : 0 ≤ s + Real.sqrt (H.r0 * H.r0 - q) :=
    neg_le_iff_add_nonneg'.1 (neg_le_sqrt_sub hs hin)
  simp only [Hat.frontInside]
  exact Hat.after (Good.of_anti hd (H.anti_front_in hV hs e.le)) rfl
    (H.frontOutside_ok hV (sub_nonpos.2 (le_add_of_nonneg_right (Real.sqrt_nonneg _))) e.ge hE)
    (zero_add dE)

/-- **behind, inside**: climb the inner hill as far as the budget goes; with what is left go on
from the closest approach -/
theorem Hat.behindInside_ok {s dE : ℝ} (hs : 0 ≤ s) (hin : s * s + q ≤ H.r0 * H.r0) (hE : 0 ≤ dE) :
    Outcome (H.path q s) dE (H.behindInside q s (H.pot q s) dE) := by
  have hmono := H.mono_behind_in hV (s := s) (a := 0) (b := s) le_rfl ((nsq_zero s q).trans_le hin)
  have h0s : 0 * 0 + q ≤ s * s + q := by
    rw [zero_mul]; exact add_le_add (mul_self_nonneg s) le_rfl
  have hq0 : 0 < 0 * 0 + q := by rw [zero_mul, zero_add]; exact hV.q_pos
  simp only [Hat.behindInside]
  split_ifs with hlt
  · -- the budget ends on the inner hill
    obtain ⟨h1, h2, h3⟩ := hV.invIn_spec (H.pot q s + dE) _ _ (Real.sqrt_pos.2 hq0)
      (Real.sqrt_le_sqrt h0s) (sqrt_le_of_le_mul_self hV.r0_pos.le hin) (le_add_of_nonneg_right hE)
      (le_sub_iff_add_le'.1 hlt.le)
    generalize H.invIn (H.pot q s + dE) = n at h1 h2 h3 ⊢
    have hn0 : 0 ≤ n := (Real.sqrt_nonneg _).trans h1
    have hnq : 0 * 0 + q ≤ n * n := le_mul_self_of_sqrt_le hq0.le h1
    rw [zero_mul, zero_add] at hnq
    have hns : n * n ≤ s * s + q := mul_self_le_of_le_sqrt hn0 (hq0.le.trans h0s) h2
    have g := Good.of_mono (sub_nonneg.2 (sqrt_sub_le hs hns))
      (hmono.mono (Icc_subset_Icc le_rfl (sub_le_self s (Real.sqrt_nonneg (n * n - q)))))
    rwa [Hat.path_zero, H.path_of_nsq hn0 (nsq_sub_sqrt hnq), h3, add_sub_cancel_left] at g
  · -- over the top of the inner hill
    have g1 := Good.of_mono hs hmono
    rw [Hat.path_self, Hat.path_zero] at g1
    exact Hat.after g1 (sub_self s).symm
      (H.frontInside_ok hV le_rfl (h0s.trans hin) (sub_nonneg.2 (not_lt.1 hlt))) (add_sub_cancel _ _)

/-- **behind, outside**: descend to the minimum sphere (if the path reaches it), or to the closest
approach (if it does not) -/
theorem Hat.behindOutside_ok {s dE : ℝ} (hs : 0 ≤ s) (hout : H.r0 * H.r0 ≤ s * s + q) (hE : 0 ≤ dE) :
    Outcome (H.path q s) dE (H.behindOutside q s dE) := by
  have hsub : ∀ r : ℝ, s - Real.sqrt r ≤ s := fun r => sub_le_self s (Real.sqrt_nonneg r)
  simp only [Hat.behindOutside]
  split_ifs with hreach
  · have e := nsq_sub_sqrt (s := s) (sub_nonneg.1 hreach)
    exact Hat.after (Good.of_anti (sub_nonneg.2 (sqrt_sub_le hs hout))
        (H.anti_behind_out hV (hsub _) e.ge)) rfl
      (H.behindInside_ok hV (sub_nonneg.2 (hsub _)) e.le hE) (zero_add dE)
  · have hmiss : H.r0 * H.r0 ≤ 0 * 0 + q := by
      rw [zero_mul, zero_add]; exact (sub_neg.1 (not_le.1 hreach)).le
    exact Hat.after (Good.of_anti hs (H.anti_behind_out hV le_rfl (hmiss.trans_eq (nsq_self s q).symm)))
      (sub_self s).symm (H.frontOutside_ok hV le_rfl hmiss hE) (zero_add dE)

/-- `MexicanHatPotential.standard_velocity_displacement`, through all of front/behind × inside/outside -/
theorem Hat.disp_ok {s dE : ℝ} (hE : 0 ≤ dE) : Outcome (H.path q s) dE (H.disp q s dE) := by
  have hn : 0 ≤ s * s + q := add_nonneg (mul_self_nonneg s) hV.q_pos.le
  have h0 := hV.r0_pos.le
  unfold Hat.disp
  split_ifs with h1 h2 h3
  · exact H.frontOutside_ok hV h2 (mul_self_le_of_le_sqrt h0 hn h1) hE
  · exact H.behindOutside_ok hV (not_le.1 h2).le (mul_self_le_of_le_sqrt h0 hn h1) hE
  · exact H.frontInside_ok hV h3 (le_mul_self_of_sqrt_le hn (not_le.1 h1).le) hE
  · exact H.behindInside_ok hV (not_le.1 h3).le (le_mul_self_of_sqrt_le hn (not_le.1 h1).le) hE

end
end JF.DispR
