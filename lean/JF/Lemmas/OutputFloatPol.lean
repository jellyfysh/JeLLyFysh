import JF.Props.Output
import Mathlib.Tactic.Linarith
import Mathlib.Tactic.Ring
/-!
Exact reading (`ℚ`) of `PolarizationOutputHandler.write` (`JF.Output.polarization`,
`/repo/jellyfysh/input_output_handler/output_handler/polarization_output_handler.py`, `base/node.py:
yield_closest_leaf_unit_positions`): the closed form of the written vector and the list lemmas the theorems of
`JF/Props/OutputFloat.lean` need.
-/
namespace JF.OutputFloat
open JF JF.Periodic JF.C15 JF.Output


/-- the position of the leaf closest to the root position: `[entry + shortest_separation[index] …]` -/
def closest (Ls : List ℚ) (r : Root ℚ) (l : Leaf ℚ) : List ℚ :=
  List.zipWith (· + ·) r.pos (sepSpec Ls r.pos l.pos)

/-- the charge of a leaf (`0` stands in for `None`, which the well-formedness hypotheses exclude) -/
def chargeOf (l : Leaf ℚ) : ℚ := l.charge.getD 0

/-- contribution of one point mass to component `j`: `q_i · r_i[j]`, `r_i` the unwrapped position -/
def leafTerm (Ls : List ℚ) (r : Root ℚ) (l : Leaf ℚ) (j : Nat) : ℚ := chargeOf l * (closest Ls r l).getD j 0

/-- the same with the position RELATIVE to the root position (the nearest-image separation root → leaf) -/
def relTerm (Ls : List ℚ) (r : Root ℚ) (l : Leaf ℚ) (j : Nat) : ℚ := chargeOf l * (sepSpec Ls r.pos l.pos).getD j 0

/-- `Σ_i q_i · r_i`, component by component, over all molecules and all their point masses -/
def polSpec (Ls : List ℚ) (state : List (Root ℚ)) : List ℚ :=
  (List.range Ls.length).map fun j => (state.map fun r => (r.children.map fun l => leafTerm Ls r l j).sum).sum

/-- `Σ_i q_i · (r_i − R_mol(i))`: what remains for neutral molecules -/
def polSpecRel (Ls : List ℚ) (state : List (Root ℚ)) : List ℚ :=
  (List.range Ls.length).map fun j => (state.map fun r => (r.children.map fun l => relTerm Ls r l j).sum).sum

/-- a composite object the handler accepts: a position and at least one child, every child with a position of `dimension`
entries and a charge, total charge zero (the handler's `assert`) -/
structure RootOK (Ls : List ℚ) (r : Root ℚ) : Prop where
  pos : r.pos.length = Ls.length
  ne : r.children ≠ []
  leaf : ∀ l ∈ r.children, l.pos.length = Ls.length ∧ ∃ q, l.charge = some q
  neutral : (r.children.map chargeOf).sum = 0


theorem mapM_charge {cs : List (Leaf ℚ)} (h : ∀ l ∈ cs, ∃ q, l.charge = some q) :
    cs.mapM (·.charge) = some (cs.map chargeOf) := by
  rw [mapM_eq_some_forall₂, List.forall₂_map_right_iff, List.forall₂_same]
  intro l hl
  obtain ⟨q, hq⟩ := h l hl
  rw [chargeOf, hq]; rfl

theorem mapM_charge_none {cs : List (Leaf ℚ)} (h : ∃ l ∈ cs, l.charge = none) : cs.mapM (·.charge) = none := by
  obtain ⟨l, hl, hn⟩ := h
  induction hl with
  | head as => rw [List.mapM_cons, hn]; rfl
  | tail b _ ih => rw [List.mapM_cons, ih]; cases b.charge <;> rfl

theorem accumulate_range (d : Nat) (g : Nat → ℚ) (q : ℚ) (p : List ℚ) (hp : p.length = d) :
    accumulate ((List.range d).map g) q p = some ((List.range d).map fun j => g j + q * p.getD j 0) := by
  unfold accumulate
  rw [if_pos (by rw [List.length_map, List.length_range, hp])]
  congr 1
  apply List.ext_getElem (by simp)
  intro i h1 _
  have hi : i < p.length := by simpa [hp] using h1
  simp only [List.getElem_mapIdx, List.getElem_map, List.getElem_range, List.getElem?_eq_getElem hi,
    List.getD_eq_getElem?_getD, Option.getD_some]

theorem accumulate_short {pol p : List ℚ} (q : ℚ) (h : pol.length < p.length) : accumulate pol q p = none := by
  unfold accumulate
  rw [if_neg (by omega)]

variable {st : Setting ℚ} {Ls : List ℚ}

theorem closestPosition_eq (hb : BoxOK st.box Ls) (r : Root ℚ) (l : Leaf ℚ) (hr : r.pos.length = Ls.length)
    (hl : l.pos.length = Ls.length) :
    closestPosition Ops.rat st r.pos l.pos = some (closest Ls r l) ∧ (closest Ls r l).length = Ls.length := by
  unfold closestPosition closest
  have := sepSpec_length hr hl
  rw [sepVec_eq hb hr hl]
  simp only [this, hr, le_refl, if_true, List.length_zipWith, min_self, and_self]

theorem closest_getD (r : Root ℚ) (l : Leaf ℚ) (hr : r.pos.length = Ls.length) (hl : l.pos.length = Ls.length)
    (j : Nat) (hj : j < Ls.length) :
    (closest Ls r l).getD j 0 = r.pos.getD j 0 + (sepSpec Ls r.pos l.pos).getD j 0 := by
  have := sepSpec_length hr hl
  unfold closest
  simp only [List.getD_eq_getElem?_getD]
  rw [List.getElem?_eq_getElem (by simp; omega), List.getElem?_eq_getElem (by omega),
    List.getElem?_eq_getElem (by omega)]
  simp


theorem foldlM_range {β : Type} {d : Nat} (F : List ℚ → β → Except String (List ℚ)) (t : β → Nat → ℚ) :
    ∀ (xs : List β) (g : Nat → ℚ),
      (∀ x ∈ xs, ∀ g : Nat → ℚ, F ((List.range d).map g) x = .ok ((List.range d).map fun j => g j + t x j)) →
      xs.foldlM F ((List.range d).map g) = .ok ((List.range d).map fun j => g j + (xs.map fun x => t x j).sum) := by
  intro xs
  induction xs with
  | nil => intro g _; simp [pure, Except.pure]
  | cons x xs ih =>
    intro g h
    rw [List.foldlM_cons, h x List.mem_cons_self g]
    simp only [bind, Except.bind]
    rw [ih _ fun y hy => h y (List.mem_cons_of_mem _ hy)]
    congr 1
    apply List.map_congr_left
    intro j _
    simp only [List.map_cons, List.sum_cons]
    ring

/-- one well-formed molecule adds `Σ_leaves q · (unwrapped position)` to the running vector -/
theorem polRoot_eq (hb : BoxOK st.box Ls) (r : Root ℚ) (ok : RootOK Ls r) (g : Nat → ℚ) :
    polRoot Ops.rat st r ((List.range Ls.length).map g) =
      .ok ((List.range Ls.length).map fun j => g j + (r.children.map fun l => leafTerm Ls r l j).sum) := by
  unfold polRoot
  rw [mapM_charge (fun l hl => (ok.leaf l hl).2)]
  have hs : Lifting.pySum Ops.rat (r.children.map chargeOf) = 0 := by
    rw [JF.Lifting.pySum_exact Ops.rat rfl _]; exact ok.neutral
  have hne : r.children.isEmpty = false := by
    cases hc : r.children with
    | nil => exact absurd hc ok.ne
    | cons _ _ => rfl
  simp only [hs, rat_ofInt, Int.cast_zero, beq_self_eq_true, Bool.not_true, Bool.false_eq_true, if_false, hne]
  refine foldlM_range _ (fun l j => leafTerm Ls r l j) r.children g fun l hl g => ?_
  obtain ⟨hl', q, hq⟩ := ok.leaf l hl
  obtain ⟨e1, e2⟩ := closestPosition_eq hb r l ok.pos hl'
  simp only [hq, e1, accumulate_range _ g q _ e2, leafTerm, chargeOf, Option.getD_some]

theorem foldRoots (hb : BoxOK st.box Ls) (state : List (Root ℚ)) (g : Nat → ℚ) (h : ∀ r ∈ state, RootOK Ls r) :
    state.foldlM (fun pol r => polRoot Ops.rat st r pol) ((List.range Ls.length).map g) =
      .ok ((List.range Ls.length).map fun j =>
        g j + (state.map fun r => (r.children.map fun l => leafTerm Ls r l j).sum).sum) :=
  foldlM_range _ _ state g fun r hr g => polRoot_eq hb r (h r hr) g

theorem replicate_zero (d : Nat) : List.replicate d (Ops.rat.ofInt 0) = (List.range d).map fun _ => (0 : ℚ) := by
  apply List.ext_getElem (by simp)
  intro i h1 h2
  simp

theorem foldRoots_error (hb : BoxOK st.box Ls) (pre post : List (Root ℚ)) (r : Root ℚ) (e : String)
    (hpre : ∀ r ∈ pre, RootOK Ls r) (he : ∀ pol, polRoot Ops.rat st r pol = .error e) (g : Nat → ℚ) :
    (pre ++ r :: post).foldlM (fun pol r => polRoot Ops.rat st r pol) ((List.range Ls.length).map g) = .error e := by
  rw [List.foldlM_append, foldRoots hb pre g hpre]
  simp only [bind, Except.bind, List.foldlM_cons, he]


theorem root_sum_rel (r : Root ℚ) (ok : RootOK Ls r) (j : Nat) (hj : j < Ls.length) :
    (r.children.map fun l => leafTerm Ls r l j).sum = (r.children.map fun l => relTerm Ls r l j).sum := by
  have e : ∀ l ∈ r.children, leafTerm Ls r l j = r.pos.getD j 0 * chargeOf l + relTerm Ls r l j := by
    intro l hl
    unfold leafTerm relTerm
    rw [closest_getD r l ok.pos (ok.leaf l hl).1 j hj]; ring
  rw [List.map_congr_left e, List.sum_map_add, List.sum_map_mul_left, ok.neutral]; ring

theorem polSpec_eq_rel (state : List (Root ℚ)) (h : ∀ r ∈ state, RootOK Ls r) : polSpec Ls state = polSpecRel Ls state := by
  unfold polSpec polSpecRel
  apply List.map_congr_left
  intro j hj
  rw [List.mem_range] at hj
  congr 1
  apply List.map_congr_left
  intro r hr
  exact root_sum_rel r (h r hr) j hj

end JF.OutputFloat
