import JF.Num.Rounded
import Mathlib.Tactic.Positivity
import Mathlib.Tactic.FieldSimp
/-!
The hypotheses of `FloatModel` are satisfiable: two concrete instances.

* `FloatModel.exact`   : the trivial one, no rounding at all (`rnd = id`, every rational representable, `eps = 0`);
* `FloatModel.fixed k` : a GENUINELY ROUNDING one: fixed-point numbers with `k ≥ 1` fractional bits, i.e.
  `F = {m / 2^k : m ∈ ℤ}`, rounding toward zero (IEEE mode `roundTowardZero`).  This is what a binary
  format looks like whose whole range is "subnormal": absolute spacing `2^-k` everywhere, so the relative
  error bound `2^-k |x|` holds from `tiny = 1` upwards, and below `tiny` sums of representable numbers are
  exact - exactly the two-regime structure (`rel_err` / `add_tiny`) that `FloatModel` abstracts from
  binary64.

The instance that matters - IEEE-754 binary64 round-to-nearest-even itself, `eps = 2^-53`, `tiny = 2^-1022` - is
constructed and proved in `JF/Lemmas/RoundedBinary.lean` (`FloatModel.binary64`).
-/
namespace JF

theorem monotone_of_odd {f : ℚ → ℚ} (hneg : ∀ x, f (-x) = -f x) (h0 : ∀ x, 0 ≤ x → 0 ≤ f x)
    (hpos : ∀ x y, 0 < x → x ≤ y → f x ≤ f y) : Monotone f := by
  intro a b hab
  rcases lt_or_ge 0 a with ha | ha
  · exact hpos a b ha hab
  · rcases le_or_gt 0 b with hb | hb
    · exact le_trans (neg_nonneg.mp (hneg a ▸ h0 _ (neg_nonneg.mpr ha))) (h0 b hb)
    · have := hpos _ _ (neg_pos.mpr hb) (neg_le_neg hab)
      rwa [hneg, hneg, neg_le_neg_iff] at this

namespace FloatModel

def exact : FloatModel where
  rnd := id
  F := Set.univ
  eps := 0
  tiny := 0
  huge := 2 ^ 55
  rnd_mem _ := Set.mem_univ _
  rnd_id _ _ := rfl
  rnd_mono := monotone_id
  rnd_neg _ := rfl
  eps_nonneg := le_refl _
  eps_le_half := by norm_num
  huge_ge := le_refl _
  rel_err x _ _ := by simp
  add_tiny _ _ _ _ _ := Set.mem_univ _
  int_mem _ _ := Set.mem_univ _
  floor_mem _ _ _ := Set.mem_univ _
  fract_mem _ _ _ := Set.mem_univ _

/-- round toward zero to a multiple of `1/g` -/
def rz (g x : ℚ) : ℚ := if 0 ≤ x then ((⌊x * g⌋ : ℤ) : ℚ) / g else ((⌈x * g⌉ : ℤ) : ℚ) / g

theorem rz_grid {g : ℚ} (hg : 0 < g) (m : ℤ) : rz g ((m:ℚ) / g) = (m:ℚ) / g := by
  unfold rz
  have e : (m:ℚ) / g * g = m := by field_simp
  split <;> simp [e]

theorem rz_neg (g x : ℚ) : rz g (-x) = -rz g x := by
  unfold rz
  rcases lt_trichotomy x 0 with h | h | h
  · have h1 : ¬ (0 ≤ x) := not_le.mpr h
    have h2 : 0 ≤ -x := by linarith
    simp only [h1, h2, if_true, if_false, neg_mul, Int.floor_neg, Int.cast_neg, neg_div]
  · subst h; simp
  · have h1 : 0 ≤ x := h.le
    have h2 : ¬ (0 ≤ -x) := by linarith
    simp only [h1, h2, if_true, if_false, neg_mul, Int.ceil_neg, Int.cast_neg, neg_div]

theorem rz_mono {g : ℚ} (hg : 0 < g) : Monotone (rz g) := by
  refine monotone_of_odd (rz_neg g) (fun x hx => ?_) fun x y hx hxy => ?_
  · rw [rz, if_pos hx]
    exact div_nonneg (by exact_mod_cast Int.floor_nonneg.mpr (mul_nonneg hx hg.le)) hg.le
  · rw [rz, rz, if_pos hx.le, if_pos (hx.le.trans hxy)]
    exact div_le_div_of_nonneg_right
      (by exact_mod_cast Int.floor_le_floor (mul_le_mul_of_nonneg_right hxy hg.le)) hg.le

theorem rz_abs_err {g : ℚ} (hg : 0 < g) (x : ℚ) : |rz g x - x| ≤ 1 / g := by
  have key : ∀ a : ℚ, |a - x * g| ≤ 1 → |a / g - x| ≤ 1 / g := by
    intro a h
    have e : a / g - x = (a - x * g) / g := by field_simp
    rw [e, abs_div, abs_of_pos hg]; exact div_le_div_of_nonneg_right h hg.le
  unfold rz
  split
  · have h1 := Int.floor_le (x * g)
    have h2 := Int.lt_floor_add_one (x * g)
    apply key; rw [abs_le]; constructor <;> linarith
  · have h1 := Int.le_ceil (x * g)
    have h2 := Int.ceil_lt_add_one (x * g)
    apply key; rw [abs_le]; constructor <;> linarith

/-- fixed point with `k ≥ 1` fractional bits, rounding toward zero -/
def fixed (k : ℕ) (hk : 1 ≤ k) : FloatModel :=
  have hg : (0:ℚ) < 2 ^ k := by positivity
  { rnd := rz (2 ^ k)
    F := {x | ∃ m : ℤ, x = (m:ℚ) / 2 ^ k}
    eps := 1 / 2 ^ k
    tiny := 1
    huge := 2 ^ 55
    rnd_mem := fun x => by
      unfold rz; split
      · exact ⟨_, rfl⟩
      · exact ⟨_, rfl⟩
    rnd_id := fun x ⟨m, hm⟩ => by rw [hm]; exact rz_grid hg m
    rnd_mono := rz_mono hg
    rnd_neg := rz_neg _
    eps_nonneg := by positivity
    eps_le_half := by
      have : (2:ℚ) ^ 1 ≤ 2 ^ k := pow_le_pow_right₀ (by norm_num) hk
      rw [div_le_div_iff₀ hg (by norm_num)]; linarith
    huge_ge := le_refl _
    rel_err := fun x h1 _ => by
      calc |rz (2 ^ k) x - x| ≤ 1 / 2 ^ k := rz_abs_err hg x
        _ = 1 / 2 ^ k * 1 := (mul_one _).symm
        _ ≤ 1 / 2 ^ k * |x| := mul_le_mul_of_nonneg_left h1 (by positivity)
    add_tiny := fun a b ⟨m, hm⟩ ⟨n, hn⟩ _ => ⟨m + n, by rw [hm, hn]; push_cast; ring⟩
    int_mem := fun n _ => ⟨n * 2 ^ k, by push_cast; field_simp⟩
    floor_mem := fun x _ _ => ⟨⌊x⌋ * 2 ^ k, by push_cast; field_simp⟩
    fract_mem := fun x ⟨m, hm⟩ _ => ⟨m - ⌊x⌋ * 2 ^ k, by rw [hm]; push_cast; field_simp⟩ }

/-- the fixed-point model really rounds: `rnd (1/3) = 1/4 ≠ 1/3` with two fractional bits -/
example : (fixed 2 (by norm_num)).rnd (1 / 3) = 1 / 4 := by
  show rz (2 ^ 2) (1 / 3) = 1 / 4
  unfold rz
  have : ⌊(1 / 3 : ℚ) * 2 ^ 2⌋ = 1 := by rw [Int.floor_eq_iff]; norm_num
  norm_num [this]

end FloatModel
end JF
