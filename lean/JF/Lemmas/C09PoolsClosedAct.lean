import JF.Lemmas.C09PoolsRun
import JF.Model.SystemRun
import JF.Props.MediatorLoop
/-!
C09, last clause (no `TagActivatorError`) — how a leg of the mediator loop (`JF.Med.leg`) meets the activator-level lemmas of
`JF/Lemmas/C09PoolsRun.lean`: a leg ends in `TagActivatorError` only if `get_event_handlers_to_run` raised it (`leg_tagErr`), i.e. if
`first` / `update` ran out of handlers.
-/
namespace JF.C09Pools
open JF JF.Act JF.Sched JF.Med JF.Sys JF.MediatorLoop

/-- **`SingleProcessMediator.run` leaves the loop with `TagActivatorError` only if `get_event_handlers_to_run` raised it** -/
theorem leg_tagErr {κ : Type} {M : MWire} {I : SchedI κ} {st : MedState I.σ} {o : Oracle κ}
    (e : leg M I st o = .error .tagActivatorError) :
    (getToRun M.w M.S st.act st.preceding o.yields).2 = .tagActivatorError := by
  unfold leg at e
  simp only at e
  split at e
  · next h => exact h
  · cases e
  · cases e
  · split at e
    · next e' hp =>
      obtain ⟨h, hh⟩ := pushLoop_error _ _ _ hp
      simp only [Except.error.injEq] at e
      rw [e] at hh; cases hh
    · split at e
      · cases e
      · cases e
      · split at e
        · cases e
        · cases e
        · split at e
          · next e' hp =>
            obtain ⟨h, hh⟩ := trashAll_error _ _ _ hp
            simp only [Except.error.injEq] at e
            rw [e] at hh; cases hh
          · cases e

theorem getToRun_first_tagErr {w : Wires} {S : TaggerIdx} {a : ActSt} {ys : TaggerIdx → List IdTuple}
    (hst : a.started = false) (h : (getToRun w S a none ys).2 = .tagActivatorError) : first w a.ts S ys = none := by
  unfold getToRun at h
  simp only [hst, Bool.not_false, if_true] at h
  split at h
  · next hf => exact hf
  · cases h

theorem getToRun_started_tagErr {w : Wires} {S : TaggerIdx} {a : ActSt} {hd : HandlerId} {E : TaggerIdx}
    {ys : TaggerIdx → List IdTuple} (hst : a.started = true) (ho : owner w hd = some E)
    (h : (getToRun w S a (some hd) ys).2 = .tagActivatorError) : update w a.ts E ys = none := by
  unfold getToRun at h
  simp only [hst, Bool.not_true, Bool.false_eq_true, if_false, Option.bind_some, ho] at h
  split at h
  · next hf => exact hf
  · cases h

theorem first_leg_ne_tagErr {κ : Type} {I : SchedI κ} (c : Wiring) {S : TaggerIdx} {needs : HandlerId → Bool} (hS : c.start? = some S)
    {st : MedState I.σ} (hst : st = MedState.init I c.wires) {o : Oracle κ} (hd : (o.yields S).length ≤ (c.tagger S).pool) :
    leg (mwire c S needs) I st o ≠ .error .tagActivatorError := by
  intro herr
  have hte := leg_tagErr herr
  have hpre : st.preceding = none := by rw [hst]; rfl
  rw [hpre] at hte
  have hf : first c.wires st.act.ts S o.yields = none := getToRun_first_tagErr (by rw [hst]; rfl) hte
  have hts : st.act.ts = initAct c.wires := by rw [hst]; rfl
  rw [hts] at hf
  let W : World Unit := ⟨fun T _ => o.yields T, fun _ x => x, fun _ => True⟩
  have := first_isSome c W S hS () hd
  change (first c.wires (initAct c.wires) S o.yields).isSome = true at this
  rw [hf] at this
  cases this

/-- the composed systems trash at the end of a leg and create at the start of the next: `commit` is the two together -/
theorem leg_ne_tagErr_of_commit {κ G : Type} {I : SchedI κ} {c : Wiring} {S : TaggerIdx} {needs : HandlerId → Bool}
    {st : MedState I.σ} {o : Oracle κ} {hd : HandlerId} {E : TaggerIdx} {W : World G} {rs : RS G} {g' : G}
    (hstarted : st.act.started = true) (hprec : st.preceding = some hd) (ho : owner c.wires hd = some E)
    (htrash : st.act.ts = (trash c.wires rs.act E).1) (hy : (fun T => W.yieldOf T g') = o.yields)
    (hsome : (commit c.wires W rs E g').isSome = true) : leg (mwire c S needs) I st o ≠ .error .tagActivatorError := by
  intro herr
  have hte := leg_tagErr herr
  rw [hprec] at hte
  have hu : update c.wires st.act.ts E o.yields = none := getToRun_started_tagErr hstarted ho hte
  unfold commit at hsome
  rw [hy, ← htrash, hu] at hsome
  cases hsome

end JF.C09Pools
