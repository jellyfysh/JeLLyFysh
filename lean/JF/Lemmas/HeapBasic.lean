import JF.Model.Heap
/-!
Invariants of the model of `heap.c` (`WF`, `HOrd`, `Mem`) and the loop invariant of the bubble-up loop of `insert`.
-/
namespace JF.Heap
variable {κ : Type} {cfg : Cfg κ}

/-- what the proofs need of the comparison: a strict weak order with the sentinel key minimal -/
structure StrictWeak (cfg : Cfg κ) : Prop where
  irrefl : ∀ a, cfg.lt a a = false
  trans : ∀ a b c, cfg.lt a b = true → cfg.lt b c = true → cfg.lt a c = true
  ntrans : ∀ a b c, cfg.lt a b = false → cfg.lt b c = false → cfg.lt a c = false
  bot_min : ∀ a, cfg.lt a cfg.bot = false

theorem StrictWeak.asymm (o : StrictWeak cfg) {a b : κ} (h : cfg.lt a b = true) : cfg.lt b a = false := by
  cases h' : cfg.lt b a with
  | false => rfl
  | true => have := o.trans a b a h h'; rw [o.irrefl] at this; cases this

theorem StrictWeak.lt_of_lt_of_nlt (o : StrictWeak cfg) {a b c : κ} (h : cfg.lt a b = true)
    (h' : cfg.lt c b = false) : cfg.lt a c = true := by
  cases h'' : cfg.lt a c with
  | true => rfl
  | false => have := o.ntrans a c b h'' h'; rw [h] at this; cases this

theorem get_set_lt (hp : CHeap κ) {i : Nat} (j : Nat) (e : Entry κ) (h : i < hp.mem.size) :
    get cfg (set hp i e) j = if j = i then e else get cfg hp j := by
  unfold get set
  simp only [h, if_true]
  by_cases hj : j = i
  · subst hj; simp [Array.getD, h]
  · simp [Array.getD, hj]
    grind

@[simp] theorem length_set (hp : CHeap κ) (i : Nat) (e : Entry κ) : (set hp i e).length = hp.length := by
  unfold set; split <;> rfl
@[simp] theorem size_set (hp : CHeap κ) (i : Nat) (e : Entry κ) : (set hp i e).mem.size = hp.mem.size := by
  unfold set; split <;> simp
theorem fault_set (hp : CHeap κ) {i : Nat} (e : Entry κ) (h : i < hp.mem.size) : (set hp i e).fault = hp.fault := by
  unfold set; simp [h]
theorem chk_of_lt (hp : CHeap κ) {i : Nat} (h : i < hp.mem.size) : chk hp i = hp := by
  unfold chk; simp [h]

@[simp] theorem size_chk (hp : CHeap κ) (i : Nat) : (chk hp i).mem.size = hp.mem.size := by
  unfold chk; split <;> rfl
@[simp] theorem length_chk (hp : CHeap κ) (i : Nat) : (chk hp i).length = hp.length := by
  unfold chk; split <;> rfl
@[simp] theorem get_chk (hp : CHeap κ) (i j : Nat) : get cfg (chk hp i) j = get cfg hp j := by
  unfold chk; split <;> rfl


theorem get_grow (cfg : Cfg κ) (hp : CHeap κ) (n i : Nat) (hn : hp.mem.size ≤ n) :
    get cfg { hp with mem := grow cfg hp.mem n } i = get cfg hp i := by
  unfold get grow
  by_cases h : i < n
  · simp [Array.getD, h]
  · have : ¬ i < hp.mem.size := by omega
    simp [Array.getD, h, this]

@[simp] theorem size_grow (cfg : Cfg κ) (m : Array (Entry κ)) (n : Nat) : (grow cfg m n).size = n := by
  simp [grow]

theorem set_spec (hp : CHeap κ) {i : Nat} (e : Entry κ) (h : i < hp.mem.size) {r : CHeap κ} (hr : r = set hp i e) :
    r.fault = hp.fault ∧ r.length = hp.length ∧ r.mem.size = hp.mem.size ∧ get cfg r i = e ∧
    ∀ j, j ≠ i → get cfg r j = get cfg hp j := by
  subst hr
  exact ⟨fault_set hp e h, length_set hp i e, size_set hp i e, by rw [get_set_lt hp i e h, if_pos rfl],
    fun j hj => by rw [get_set_lt hp j e h, if_neg hj]⟩

theorem half_ne {i : Nat} (h : 1 ≤ i) : i / 2 ≠ i := by omega

theorem pred_lt {i m : Nat} (h : i < m) : m - 1 < m := Nat.sub_one_lt_of_lt h

/-- a loop at position `pos` with `fuel + 1` iterations left moves to a larger position: `fuel` iterations are enough there -/
theorem fuel_step {L pos pos' fuel : Nat} (hf : L ≤ pos + (fuel + 1)) (h : pos < pos') : L ≤ pos' + fuel := by omega

/-- moving the hole from `p` to `q` (the entry at `q` is copied to `p`) keeps the set of entries outside the hole -/
theorem mem_hole_move (hp : CHeap κ) {L p q : Nat} (hps : p < hp.mem.size) (hp1 : 1 ≤ p) (hpL : p < L)
    (hq1 : 1 ≤ q) (hqL : q < L) (hpq : p ≠ q) (e : Entry κ) :
    (∃ i, 1 ≤ i ∧ i < L ∧ i ≠ q ∧ get cfg (set hp p (get cfg hp q)) i = e) ↔
    (∃ i, 1 ≤ i ∧ i < L ∧ i ≠ p ∧ get cfg hp i = e) := by
  constructor
  · rintro ⟨i, h1, hL, hne, he⟩
    rw [get_set_lt hp i _ hps] at he
    by_cases hip : i = p
    · rw [if_pos hip] at he; exact ⟨q, hq1, hqL, fun h => hpq h.symm, he⟩
    · rw [if_neg hip] at he; exact ⟨i, h1, hL, hip, he⟩
  · rintro ⟨i, h1, hL, hne, he⟩
    by_cases hiq : i = q
    · exact ⟨p, hp1, hpL, hpq, by rw [get_set_lt hp p _ hps, if_pos rfl, ← hiq]; exact he⟩
    · exact ⟨i, h1, hL, hiq, by rw [get_set_lt hp i _ hps, if_neg hne]; exact he⟩

theorem child_iff (c pos : Nat) : c / 2 = pos ↔ c = pos * 2 ∨ c = pos * 2 + 1 := by omega

/-- no fault so far; either nothing was ever allocated, or the sentinel is in place and the block has
room for `length + 1` entries (the spare slot `bubble_down` uses) -/
def WF (cfg : Cfg κ) (hp : CHeap κ) : Prop :=
  hp.fault = false ∧
    ((hp.length = 0 ∧ hp.mem.size = 0) ∨
     (1 ≤ hp.length ∧ hp.length + 1 ≤ hp.mem.size ∧ (get cfg hp 0).key = cfg.bot))

/-- heap order: no entry is smaller than its parent (index 0 is the sentinel) -/
def HOrd (cfg : Cfg κ) (hp : CHeap κ) : Prop :=
  ∀ i, 1 ≤ i → i < hp.length → cfg.lt (get cfg hp i).key (get cfg hp (i / 2)).key = false

def Mem (cfg : Cfg κ) (hp : CHeap κ) (e : Entry κ) : Prop :=
  ∃ i, 1 ≤ i ∧ i < hp.length ∧ get cfg hp i = e

def Inv (cfg : Cfg κ) (hp : CHeap κ) : Prop := WF cfg hp ∧ HOrd cfg hp

theorem inv_empty (cfg : Cfg κ) : Inv cfg (CHeap.empty : CHeap κ) := by
  refine ⟨⟨rfl, Or.inl ⟨rfl, rfl⟩⟩, ?_⟩
  intro i _ h; simp [CHeap.empty] at h

theorem not_mem_empty (cfg : Cfg κ) (e : Entry κ) : ¬ Mem cfg (CHeap.empty : CHeap κ) e := by
  rintro ⟨i, _, h, _⟩; simp [CHeap.empty] at h

theorem HOrd.root_min (o : StrictWeak cfg) {hp : CHeap κ} (h : HOrd cfg hp) :
    ∀ i, 1 ≤ i → i < hp.length → cfg.lt (get cfg hp i).key (get cfg hp 1).key = false := by
  intro i
  induction i using Nat.strongRecOn with
  | _ i ih =>
    intro h1 hl
    by_cases hi : i = 1
    · subst hi; exact o.irrefl _
    · have := ih (i / 2) (by omega) (by omega) (by omega)
      exact o.ntrans _ _ _ (h i h1 hl) this

/-- loop invariant of the `while` loop of `insert`: the array with a hole at `pos` for the key `k` -/
structure UpInv (cfg : Cfg κ) (k : κ) (L : Nat) (C : Entry κ → Prop) (hp : CHeap κ) (pos : Nat) : Prop where
  nf : hp.fault = false
  len : hp.length = L
  sz : L + 1 ≤ hp.mem.size
  pos1 : 1 ≤ pos
  posL : pos < L
  bot : (get cfg hp 0).key = cfg.bot
  a : ∀ i, 1 ≤ i → i < L → i ≠ pos → i / 2 ≠ pos →
    cfg.lt (get cfg hp i).key (get cfg hp (i / 2)).key = false
  b : ∀ c, c < L → c / 2 = pos →
    cfg.lt (get cfg hp c).key k = false ∧ cfg.lt (get cfg hp c).key (get cfg hp (pos / 2)).key = false
  cont : ∀ e, (∃ i, 1 ≤ i ∧ i < L ∧ i ≠ pos ∧ get cfg hp i = e) ↔ C e

theorem insertLoop_spec (o : StrictWeak cfg) (k : κ) (L : Nat) (C : Entry κ → Prop) :
    ∀ fuel hp pos, pos < fuel → UpInv cfg k L C hp pos →
      UpInv cfg k L C (insertLoop cfg k fuel hp pos).1 (insertLoop cfg k fuel hp pos).2 ∧
      cfg.lt k (get cfg (insertLoop cfg k fuel hp pos).1 ((insertLoop cfg k fuel hp pos).2 / 2)).key = false := by
  intro fuel
  induction fuel with
  | zero => intro hp pos h; exact absurd h (Nat.not_lt_zero _)
  | succ fuel ih =>
    intro hp pos hf I
    have hp1 := I.pos1
    have hpL := I.posL
    have hps : pos < hp.mem.size := Nat.lt_of_lt_of_le (Nat.lt_succ_of_lt hpL) I.sz
    have hpar : pos / 2 < hp.mem.size := Nat.lt_of_le_of_lt (Nat.div_le_self _ _) hps
    simp only [insertLoop, chk_of_lt hp hpar]
    cases hlt : cfg.lt k (get cfg hp (pos / 2)).key with
    | false => simp only [Bool.false_eq_true, if_false]; exact ⟨I, hlt⟩
    | true =>
      simp only [if_true]
      have hpar1 : 1 ≤ pos / 2 := by
        rcases Nat.eq_zero_or_pos (pos / 2) with h0 | h0
        · rw [h0, I.bot, o.bot_min] at hlt; cases hlt
        · exact h0
      have hparlt : pos / 2 < pos := Nat.div_lt_self hp1 (by decide)
      have hparL : pos / 2 < L := Nat.lt_trans hparlt hpL
      have hpp2 : pos / 2 / 2 ≠ pos := by omega
      have hpp := I.a (pos / 2) hpar1 hparL (Nat.ne_of_lt hparlt) hpp2
      generalize hq : set hp pos (get cfg hp (pos / 2)) = hp'
      obtain ⟨q_nf, q_len, q_sz, hgpos, hgne⟩ := set_spec (cfg := cfg) hp _ hps hq.symm
      apply ih _ _ (by omega)
      refine ⟨by rw [q_nf]; exact I.nf, by rw [q_len]; exact I.len, by rw [q_sz]; exact I.sz, hpar1, hparL, ?_, ?_, ?_, ?_⟩
      · rw [hgne 0 (by omega)]; exact I.bot
      · intro i h1 hL hne hne2
        have hip : i ≠ pos := fun h => hne2 (by rw [h])
        rw [hgne i hip]
        by_cases h2 : i / 2 = pos
        · rw [h2, hgpos]; exact (I.b i hL h2).2
        · rw [hgne _ h2]; exact I.a i h1 hL hip h2
      · intro c hL hc
        rw [hgne _ hpp2]
        by_cases hcp : c = pos
        · rw [hcp, hgpos]; exact ⟨o.asymm hlt, hpp⟩
        · rw [hgne c hcp]
          have h1 := I.a c (by omega) hL hcp (by omega)
          rw [hc] at h1
          refine ⟨?_, o.ntrans _ _ _ h1 hpp⟩
          cases h3 : cfg.lt (get cfg hp c).key k with
          | false => rfl
          | true => have := o.trans _ _ _ h3 hlt; rw [h1] at this; cases this
      · intro e
        rw [← I.cont e]
        rw [← hq]; exact mem_hole_move hp hps hp1 hpL hpar1 hparL (Nat.ne_of_gt hparlt) e

theorem insertLoop_length (k : κ) : ∀ fuel (hp : CHeap κ) pos,
    (insertLoop cfg k fuel hp pos).1.length = hp.length := by
  intro fuel
  induction fuel with
  | zero => intro hp pos; rfl
  | succ fuel ih =>
    intro hp pos
    simp only [insertLoop]
    split
    · rw [ih]; simp
    · simp
end JF.Heap
