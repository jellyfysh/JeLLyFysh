import JF.Lemmas.SystemRunMed
import JF.Lemmas.SystemRunGeo
import JF.Lemmas.SystemRunMotion
import JF.Props.Footprints
/-!
The composed system for the concrete coulomb_atoms world: its runs (`Reach`) and the joint invariant (`Big`); the induction step is
in `JF/Lemmas/SystemRunMain.lean`.

One leg (`SysStep`) = one pass through the body of `SingleProcessMediator.run`, i.e. `JF.Med.leg` (spec-level scheduler over
`XTime`) on the concrete global state of `JF.CW`:
* the activator first updates its occupancy with the active unit of the current global state (`occNext`), then the taggers yield
  on that state: `o.yields T = yieldCls env (class of T) ⟨us, occ'⟩` — the yields are COMPUTED, not oracle values;
* the candidate times are constrained by what the handler kinds compute (`CandsOK`): a cell-boundary handler returns exactly
  `time stamp of the unit of its in-state + geo.ttb position velocity` (`CellBoundaryEventHandler.send_event_time`), every other
  handler a normalised finite time or `inf`, not before the last commit;
* the committed handler's event moves the global state by `Kin.step` of an event of the kind allowed for the committing tagger
  (`CW.allowedEv`) at the committed time (`Commits`; a dumping event may also leave the state as it is).
-/
namespace JF.Sys
open JF JF.Act JF.Heap JF.Sched JF.Med JF.CW JF.C14 JF.MediatorLoop JF.Kin

section defs
variable (env : Env ℚ) (geo : Geo env) (c : Wiring) (S : TaggerIdx) (needs : HandlerId → Bool)

/-- side conditions of a committed event (C07's admissibility `Adm` with the velocities of the geometry, and C07's `Smooth` for
the cell-boundary event: the coordinate it writes is congruent modulo the box length to the time-sliced coordinate it
overwrites — in the exact reading the boundary IS the time-sliced coordinate, `JF.C11.boundary_pos`, last clause) -/
def EvAdm (us : List (PUnit ℚ)) : Kin.Ev ℚ → Prop
  | .start _ a v => a < us.length ∧ geo.velOK v ∧ ∀ u ∈ us, u.vel = none
  | .keep _ => True
  | .snap t d x => (∀ h : d < env.L.length, 0 ≤ x ∧ x < env.L[d]) ∧ Smooth env.L us (.snap t d x)
  | .lift _ b => b < us.length
  | .endOfChain _ a v => a < us.length ∧ geo.velOK v

def Commits (kind : HandlerKind) (t : Time ℚ) (us us' : List (PUnit ℚ)) : Prop :=
  (∃ ev : Kin.Ev ℚ, allowedEv kind ev = true ∧ ev.time = t ∧ EvAdm env geo us ev ∧ us' = Kin.step env.o env.L us ev)
  ∨ (kind = .dumping ∧ us' = us)

/-- what `send_event_time` of the handlers handed out in this leg returns -/
def CandsOK (us : List (PUnit ℚ)) (last : XTime) (o : Oracle XTime) (created : List (HandlerId × IdTuple)) : Prop :=
  ∀ q ∈ created,
    (kindOfH c q.1 = .cellBoundary →
      ∃ a u v ts, q.2 = some [[a]] ∧ us[a]? = some u ∧ u.vel = some v ∧ u.ts = some ts ∧
        o.cand q.1 = .fin (Time.add Ops.rat ts (geo.ttb u.pos v))) ∧
    (kindOfH c q.1 ≠ .cellBoundary → NormX (o.cand q.1) ∧ xcfg.lt (o.cand q.1) last = false)

structure SysStep (s : Sys) (o : Oracle XTime) (cm : Committed XTime) (s' : Sys) : Prop where
  occ1 : occNext env (hasOccOf c) s = some s'.occ
  yields : o.yields = fun T => yieldCls env (c.tagger T).cls ⟨s.us, s'.occ⟩
  leg : leg (mwire c S needs) (specI xcfg) s.med o = .ok (s'.med, cm)
  cands : CandsOK env geo c s.us s.med.sched.last o cm.created
  ev : ∃ t, cm.time = .fin t ∧ Commits env geo (kindOfH c cm.handler) t s.us s'.us
  ids' : s'.ids = assign s.ids cm.created
  prev : s'.usPrev = s.us
  mid' : s'.mid = midAct (mwire c S needs) s.med o

/-- the state before the first leg: nothing moves, the occupancy records no active unit (`initialize`) -/
structure Init (s : Sys) : Prop where
  med : s.med = MedState.init (specI xcfg) c.wires
  wf : WF env.L s.us
  box : ∀ u ∈ s.us, InBox env.L u.pos
  rest : ∀ u ∈ s.us, u.vel = none
  occId : s.occ.activeId = none
  occCell : s.occ.activeCell = none
  occInit : ∃ cap, s.occ = Occ.init cap (unitsOf env s.us)
  prev : s.usPrev = s.us

/-- no leg after the end-of-run commit (`hgo`) -/
inductive Reach : List (Oracle XTime) → List (Committed XTime) → Sys → Prop
  | init (s : Sys) (h : Init env c s) : Reach [] [] s
  | step {os : List (Oracle XTime)} {cs : List (Committed XTime)} {s s' : Sys} {o : Oracle XTime} {cm : Committed XTime}
      (prev : Reach os cs s) (hgo : ∀ cl, cs.getLast? = some cl → cl.stop = false)
      (hstep : SysStep env geo c S needs s o cm s') : Reach (os ++ [o]) (cs ++ [cm]) s'

def NoTieAll (p : Pend XTime) (cm : Committed XTime) : Prop :=
  ∀ hb, kindOfH c hb = .cellBoundary → pendPushed p cm hb ≠ some cm.time

/-- the unit that was active in `usPrev` (the state the occupancy `occ` was updated on) is, in the state `us`, in the cell the
occupancy has recorded as active cell.  For `us = usPrev`: C11's mirror for the active unit.  For `us` = the state after the
commit: the active unit — time-sliced to the event time — has not left its recorded cell (`JF.CW.StaysInRecordedCell` for the
commits that keep the active unit; the premise `hmove` of `JF.C11.update_inv` for those that change it). -/
def OldActiveStays (occ : Occ.State) (usPrev us : List (PUnit ℚ)) : Prop :=
  ∀ a, movers usPrev = [a] → env.relevant a = true → occ.activeCell = some (unitIn env us a).cell

/-- the no-tie hypothesis of one leg: at a tie the active unit would be time-sliced onto the cell boundary by an event that does
not re-create the cell taggers (`JF.Footprints.Example.quiet_commit_needs_premise`) -/
def TieFreeLeg (p : Pend XTime) (cm : Committed XTime) : Prop :=
  (kindOfH c cm.handler = .sampling ∨ kindOfH c cm.handler = .dumping) → NoTieAll c p cm

def TieFree (cs : List (Committed XTime)) : Prop :=
  ∀ k cm, cs[k]? = some cm → TieFreeLeg c (pendOf (fun _ => none) (cs.take k)) cm

/-- decidable side condition on a wiring with an occupancy: there is exactly one tagger of kind cell-boundary, it has the class
`CellBoundaryTagger`, and it is activated in every reachable activation state -/
def cbWired (c : Wiring) (S : TaggerIdx) : Bool :=
  !hasOccOf c ||
  (List.range c.n).any fun B =>
    (c.tagger B).cls == .cellBoundary && (c.tagger B).kind == .cellBoundary &&
    (List.range c.n).all (fun T => T == B || (c.tagger T).kind != .cellBoundary) &&
    (reach c S).all (fun σ => aGet σ B)

structure Hyp : Prop where
  ho : env.o = Ops.rat
  sound : WiringSound c = true
  hS : c.start? = some S
  sup : Supported c = true
  cb : cbWired c S = true

/-- the joint invariant at the boundary after the leg that committed `cl` (the last element of `cs`): `E` = tagger of the
committed handler, `tl` = committed time; exactly unit `a` moves, from `pos` with velocity `v` since `ts`. -/
structure Big (cs : List (Committed XTime)) (cl : Committed XTime) (s : Sys)
    (E : TaggerIdx) (tl : Time ℚ) (a : Nat) (pos v : List ℚ) (ts : Time ℚ) : Prop where
  med : MInv (I := specI xcfg) (mwire c S needs) (SRel xcfg) s.med (pendOf (fun _ => none) cs) cl.time
  started : s.med.act.started = true
  prec : s.med.preceding = some cl.handler
  owner : owner c.wires cl.handler = some E
  stopEq : cl.stop = (mwire c S needs).endOfRun cl.handler
  trashEq : s.med.act.ts = (trash c.wires s.mid E).1
  running : cl.handler ∈ (getT s.mid E).running
  time : cl.time = .fin tl
  tnorm : Normalised tl
  norm : ∀ h t, pendOf (fun _ => none) cs h = some t → NormX t
  kin : KinI env.L s.us a pos v ts
  vel : geo.velOK v
  tsnorm : Normalised ts
  tsle : val ts ≤ val tl
  /-- a dumping event has an empty out-state: the mover keeps its older time stamp -/
  tsEq : (c.tagger E).kind ≠ .dumping → ts = tl
  /-- C09: the run of the activator-level machine up to the middle of the last leg (it carries `Fresh` for every live tagger:
  `JF.Act.run_inv`) -/
  phase : ∃ hc : Consistent env (hasOccOf c) ⟨s.usPrev, s.occ⟩,
    (cs.length = 1 ∧ E = S ∧ ∃ ids0 out, first c.wires (initAct c.wires) S
        (fun T => (world env c).yieldOf T ⟨⟨s.usPrev, s.occ⟩, hc⟩) = some (s.mid, out) ∧ s.ids = assign ids0 out)
    ∨ Run c (world env c) (Tr env c) S ⟨s.mid, s.ids, ⟨⟨s.usPrev, s.occ⟩, hc⟩⟩
  /-- C08: the run of its machine `Reach8` up to the middle of the last leg, for the concrete motion relation `motionOf` (it
  carries `Current`; `born h` = the state `h`'s candidate was computed from) -/
  cur : ∃ (hc : Consistent env (hasOccOf c) ⟨s.usPrev, s.occ⟩) (born : HandlerId → G env c),
    C08.Reach8 c.wires (world env c) (motionOf env c) S ⟨⟨s.mid, s.ids, ⟨⟨s.usPrev, s.occ⟩, hc⟩⟩, born⟩
  wfPrev : ∀ u ∈ s.usPrev, WFU env.L.length u
  /-- the state the last leg's candidates were computed on: at rest (first leg) or with one mover -/
  kinPrev : (∀ u ∈ s.usPrev, u.vel = none) ∨ ∃ a0 pos0 v0 ts0, KinI env.L s.usPrev a0 pos0 v0 ts0
  commit : Commits env geo (c.tagger E).kind tl s.usPrev s.us
  mirror : hasOccOf c = true → OldActiveStays env s.occ s.usPrev s.usPrev
  stays : hasOccOf c = true → (c.tagger E).kind ≠ .cellBoundary → NoTieAll c (pendOf (fun _ => none) cs.dropLast) cl →
    OldActiveStays env s.occ s.usPrev s.us
  /-- a pending cell-boundary candidate is the time until which the mover stays in the cell of its position -/
  cb : hasOccOf c = true → cl.stop = false → TieFreeLeg c (pendOf (fun _ => none) cs.dropLast) cl →
    ∀ hb tb, kindOfH c hb = .cellBoundary →
    pendOf (fun _ => none) cs hb = some tb →
    ∃ τ, tb = .fin τ ∧ Normalised τ ∧ ∀ x, val ts ≤ x → x < val τ →
      env.cellOf (sliceVec Ops.rat env.L pos v (x - val ts)) = env.cellOf pos

/-- decidable side condition for the derivation of `JF.MediatorLoop.CandOK` for the cell-boundary candidates: a dumping event — whose
out-state is empty, so that the active unit keeps an older time stamp — does not create a cell-boundary handler -/
def dumpQuiet (c : Wiring) : Bool :=
  (List.range c.n).all fun E => (c.tagger E).kind != .dumping ||
    (c.tagger E).creates.all fun T => (c.tagger T).kind != .cellBoundary

end defs

section step
variable {env : Env ℚ} {geo : Geo env} {c : Wiring} {S : TaggerIdx} {needs : HandlerId → Bool}

theorem hyp_static (H : Hyp env c S) : Med.Static (mwire c S needs) :=
  static_of_wiringSound c S needs H.sound H.hS

theorem hyp_fps (H : Hyp env c S) : FootprintsSound c (world env c) (Tr env c) :=
  Footprints.footprintsSound_concrete env c H.sup

theorem runInv (H : Hyp env c S) {rs : RS (G env c)} (h : Run c (world env c) (Tr env c) S rs) : RunInv c (world env c) S rs :=
  Act.run_inv c (world env c) (Tr env c) S H.sound H.hS (hyp_fps H) (liveIs env c) h

theorem Big.medBig {cs : List (Committed XTime)} {cl : Committed XTime} {s : Sys} {E : TaggerIdx} {tl : Time ℚ}
    {a : Nat} {pos v : List ℚ} {ts : Time ℚ} (big : Big env geo c S needs cs cl s E tl a pos v ts) :
    SysLeg.MedBig c S needs cs cl s.med s.mid E tl :=
  { big with }

theorem occ_after {cs : List (Committed XTime)} {cl : Committed XTime} {s : Sys} {E : TaggerIdx} {tl : Time ℚ}
    {a : Nat} {pos v : List ℚ} {ts : Time ℚ} (big : Big env geo c S needs cs cl s E tl a pos v ts)
    {o : Oracle XTime} {cm : Committed XTime} {s' : Sys} (st : SysStep env geo c S needs s o cm s') :
    occAfter env (hasOccOf c) s.occ s.us = some s'.occ := by
  have := st.occ1
  unfold occNext at this
  rwa [if_pos big.started] at this

/-- the disjunct of `JF.CW.TrRaw`: the side conditions of the event dropped -/
theorem Commits.dis {kind : HandlerKind} {t : Time ℚ} {us us' : List (PUnit ℚ)} (h : Commits env geo kind t us us') :
    (∃ ev : Kin.Ev ℚ, allowedEv kind ev = true ∧ us' = Kin.step env.o env.L us ev) ∨ (kind = .dumping ∧ us' = us) := by
  rcases h with ⟨ev, hal, _, _, hus⟩ | h
  · exact Or.inl ⟨ev, hal, hus⟩
  · exact Or.inr h

theorem quiet_cases {k : HandlerKind} (hq : quietKind k = true) (he : k ≠ .endOfRun) : k = .sampling ∨ k = .dumping := by
  cases k <;> simp_all [quietKind]

theorem not_moves_kinds {t : TaggerW} (h : ¬ affects t .motion = true) :
    t.kind = .sampling ∨ t.kind = .dumping ∨ t.kind = .endOfRun ∨ t.kind = .cellBoundary := by
  unfold affects at h
  cases hk : t.kind <;> simp_all

theorem same_of_quiet (ho : env.o = Ops.rat) {us us' : List (PUnit ℚ)} {kind : HandlerKind} {t : Time ℚ}
    (hwf : ∀ u ∈ us, WFU env.L.length u) (hc : Commits env geo kind t us us')
    (hq : kind = .sampling ∨ kind = .dumping ∨ kind = .endOfRun ∨ kind = .cellBoundary) (u : Nat) :
    SameMotion env.L us us' u := by
  rcases hc with ⟨ev, hal, _, hadm, rfl⟩ | ⟨_, rfl⟩
  · rw [ho]
    cases ev with
    | keep t0 => exact same_keep geo.posBox hwf t0 u
    | snap t0 d x => exact same_snap geo.posBox hwf t0 d x hadm.2 u
    | start t0 b w => rcases hq with rfl | rfl | rfl | rfl <;> simp [allowedEv] at hal
    | lift t0 b => rcases hq with rfl | rfl | rfl | rfl <;> simp [allowedEv] at hal
    | endOfChain t0 b w => rcases hq with rfl | rfl | rfl | rfl <;> simp [allowedEv] at hal
  · exact SameMotion.refl _ _ _

/-- the premise `StaysInRecordedCell` of `JF.CW.Tr` after a sampling / dumping commit: the mover is the old one (`movers_of_identQuiet`),
and `Big.stays` speaks of it -/
theorem Big.staysRecorded {cs : List (Committed XTime)} {cl : Committed XTime} {s : Sys} {E : TaggerIdx} {tl : Time ℚ}
    {a : Nat} {pos v : List ℚ} {ts : Time ℚ} (big : Big env geo c S needs cs cl s E tl a pos v ts) (hO : hasOccOf c = true)
    (hq : (c.tagger E).kind = .sampling ∨ (c.tagger E).kind = .dumping)
    (ntl : TieFreeLeg c (pendOf (fun _ => none) cs.dropLast) cl) : StaysInRecordedCell env s.occ s.us := by
  have hncb : (c.tagger E).kind ≠ .cellBoundary := by rcases hq with h | h <;> rw [h] <;> decide
  have hold := big.stays hO hncb (ntl (by rw [kindOfH_of_owner big.owner]; exact hq))
  have hqk : quietKind (c.tagger E).kind = true := by rcases hq with h | h <;> rw [h] <;> rfl
  have hmv := (movers_of_identQuiet (env := env) (Or.inl hqk) big.commit.dis).1
  intro a0 hm hrel
  exact hold a0 (by rw [← hmv]; exact hm) hrel

/-- this leg's `get_event_handlers_to_run` as a step of C09's `JF.Act.Run` for the transition relation `JF.CW.Tr`, whose premise
`StaysInRecordedCell` comes from `big.stays`, and of C08's machine, whose hypothesis `quiet` holds by the kinematics
(`same_of_quiet`) -/
theorem mid_step (H : Hyp env c S) {cs : List (Committed XTime)} {cl : Committed XTime} {s : Sys} {E : TaggerIdx} {tl : Time ℚ}
    {a : Nat} {pos v : List ℚ} {ts : Time ℚ} (big : Big env geo c S needs cs cl s E tl a pos v ts)
    (hgo : cl.stop = false) (ntl : TieFreeLeg c (pendOf (fun _ => none) cs.dropLast) cl)
    {o : Oracle XTime} {cm : Committed XTime} {s' : Sys} (st : SysStep env geo c S needs s o cm s')
    (hupd : update c.wires s.med.act.ts E o.yields = some (s'.mid, cm.created)) :
    ∃ (hc' : Consistent env (hasOccOf c) ⟨s.us, s'.occ⟩) (born' : HandlerId → G env c),
      Run c (world env c) (Tr env c) S ⟨s'.mid, s'.ids, ⟨⟨s.us, s'.occ⟩, hc'⟩⟩ ∧
      C08.Reach8 c.wires (world env c) (motionOf env c) S ⟨⟨s'.mid, s'.ids, ⟨⟨s.us, s'.occ⟩, hc'⟩⟩, born'⟩ := by
  obtain ⟨hc, hph⟩ := big.phase
  obtain ⟨_, born, hr8⟩ := big.cur
  have hocc := occ_after big st
  have hc' : Consistent env (hasOccOf c) ⟨s.us, s'.occ⟩ :=
    consistent_after (g := ⟨s.usPrev, s.occ⟩) (g' := ⟨s.us, s'.occ⟩) hc hocc
  have hy : (fun T => (world env c).yieldOf T ⟨⟨s.us, s'.occ⟩, hc'⟩) = o.yields := by rw [st.yields]; rfl
  obtain ⟨born', h8⟩ := big.medBig.cur_next H.sound H.hS (hyp_fps H) (liveIs env c)
    (Mo := motionOf env c) (fun _ h => h) (fun _ h => h) hgo (hph.imp_left And.right) hr8 hy hupd
    fun hnm u => same_of_quiet H.ho big.wfPrev big.commit (not_moves_kinds hnm) u
  refine ⟨hc', born', ?_, st.ids' ▸ h8⟩
  rw [st.ids']
  exact big.medBig.run_next hgo (hph.imp_left And.right) hy hupd fun _ =>
    ⟨big.commit.dis, hocc, fun hO hq => big.staysRecorded hO (quiet_cases hq (big.medBig.not_endOfRun hgo)) ntl⟩

end step

end JF.Sys
