import JF.Lemmas.StoreRefineSpec
import Mathlib.Tactic.Common
/-!
The lifting part of the purely functional specification `Spec`: lookups in its association list after
`assocSet` / a deletion, and the independent-active rule
(`TreeLiftingState.yield_independent_lifted_identifiers`).
-/
namespace JF.Store
variable {α : Type}
namespace Spec

theorem lookup_assocSet {β : Type} (d : List (Ident × β)) (id id' : Ident) (x : β) :
    (assocSet d id x).lookup id' = if id' = id then some x else d.lookup id' := by
  induction d with
  | nil =>
    simp only [assocSet, List.lookup_cons, List.lookup_nil]
    by_cases h : id' = id
    · subst h; simp
    · simp [h, beq_false_of_ne h]
  | cons e d ih =>
    obtain ⟨k, y⟩ := e
    simp only [assocSet]
    by_cases hk : k = id
    · subst hk
      simp only [if_true, List.lookup_cons]
      by_cases h : id' = k
      · subst h; simp
      · simp [h, beq_false_of_ne h]
    · simp only [hk, if_false, List.lookup_cons, ih]
      by_cases h : id' = k
      · subst h; simp [hk]
      · simp [beq_false_of_ne h]

theorem lookup_filter_ne {β : Type} (d : List (Ident × β)) (id id' : Ident) :
    (d.filter (·.1 ≠ id)).lookup id' = if id' = id then none else d.lookup id' := by
  induction d with
  | nil => simp
  | cons e d ih =>
    obtain ⟨k, y⟩ := e
    simp only [List.filter_cons]
    by_cases hk : k = id
    · subst hk
      simp only [ne_eq, not_true_eq_false, decide_false, Bool.false_eq_true, if_false, ih, List.lookup_cons]
      by_cases h : id' = k
      · subst h; simp
      · simp [h, beq_false_of_ne h]
    · simp only [ne_eq, hk, not_false_eq_true, decide_true, if_true, List.lookup_cons, ih]
      by_cases h : id' = k
      · subst h; simp [hk]
      · simp [beq_false_of_ne h]

/-- `id` is active: it has a velocity and a time stamp in the lifting state -/
def active (g : Global α) (id : Ident) : Prop := (g.lift.lookup id).isSome = true

theorem mem_keys_iff {β : Type} (d : List (Ident × β)) (id : Ident) :
    id ∈ d.map (·.1) ↔ (d.lookup id).isSome = true := by
  induction d with
  | nil => simp
  | cons e d ih =>
    obtain ⟨k, x⟩ := e
    simp only [List.map_cons, List.mem_cons, List.lookup_cons]
    by_cases hk : id = k
    · subst hk; simp
    · simp only [hk, false_or, beq_false_of_ne hk, ih]

theorem mem_lifted {g : Global α} {n : Nat} (hn : n ≤ g.levels) (id : Ident) :
    id ∈ lifted g n ↔ id.length = n ∧ active g id := by
  simp only [lifted, hn, if_true, List.mem_filter, mem_keys_iff, decide_eq_true_eq, active]
  exact And.comm

/-- **Active extraction = the independent active units (two levels).**  The identifiers
`extract_active_global_state` extracts are, for every active composite object `[r]`, the object itself
if all its `perRoot` point masses are active, otherwise its active point masses. -/
theorem mem_independent {g : Global α} (hlv : g.levels = 2) (id : Ident) :
    id ∈ independent g ↔ ∃ r, active g [r] ∧
      ((id = [r] ∧ ∀ i, i < g.perRoot → active g [r, i]) ∨
       ((¬ ∀ i, i < g.perRoot → active g [r, i]) ∧ ∃ i, i < g.perRoot ∧ id = [r, i] ∧ active g [r, i])) := by
  have hl1 : ¬ g.levels = 1 := by rw [hlv]; decide
  have m1 := mem_lifted (g := g) (n := 1) (by rw [hlv]; decide)
  have m2 := mem_lifted (g := g) (n := 2) (by rw [hlv]; decide)
  simp only [independent, hl1, if_false, List.mem_flatMap]
  have full : ∀ r : Nat,
      (((List.range g.perRoot).map (fun i => [r] ++ [i])).filter (· ∈ lifted g 2)).length = g.perRoot ↔
        ∀ i, i < g.perRoot → active g [r, i] := by
    intro r
    have : ((List.range g.perRoot).map (fun i => [r] ++ [i])).length = g.perRoot := by simp
    conv => lhs; rhs; rw [← this]
    rw [List.length_filter_eq_length_iff]
    simp only [List.mem_map, List.mem_range, decide_eq_true_eq, forall_exists_index, and_imp]
    constructor
    · intro h i hi
      have := h _ i hi rfl
      exact ((m2 _).1 this).2
    · intro h x i hi hx
      subst hx
      exact (m2 _).2 ⟨rfl, h i hi⟩
  constructor
  · rintro ⟨root, hroot, hid⟩
    obtain ⟨hlen, hl⟩ := (m1 root).1 hroot
    obtain ⟨r, rfl⟩ : ∃ r, root = [r] := by
      match root, hlen with
      | [r], _ => exact ⟨r, rfl⟩
    refine ⟨r, hl, ?_⟩
    by_cases hf : ∀ i, i < g.perRoot → active g [r, i]
    · left
      rw [if_pos ((full r).2 hf)] at hid
      exact ⟨by simpa using hid, hf⟩
    · right
      rw [if_neg (fun h => hf ((full r).1 h))] at hid
      simp only [List.mem_filter, List.mem_map, List.mem_range, decide_eq_true_eq] at hid
      obtain ⟨⟨i, hi, rfl⟩, h2⟩ := hid
      exact ⟨hf, i, hi, rfl, ((m2 _).1 h2).2⟩
  · rintro ⟨r, hl, h⟩
    refine ⟨[r], (m1 _).2 ⟨rfl, hl⟩, ?_⟩
    rcases h with ⟨rfl, hf⟩ | ⟨hf, i, hi, rfl, hli⟩
    · rw [if_pos ((full r).2 hf)]; simp
    · rw [if_neg (fun h => hf ((full r).1 h))]
      simp only [List.mem_filter, List.mem_map, List.mem_range, decide_eq_true_eq]
      exact ⟨⟨i, hi, rfl⟩, (m2 _).2 ⟨rfl, hli⟩⟩

theorem mem_independent_one {g : Global α} (h1 : g.levels = 1) (id : Ident) :
    id ∈ independent g ↔ active g id := by
  simp only [independent, h1, if_true, mem_keys_iff, active]

end Spec
end JF.Store
