import JF.Model.MPMediator
/-!
# C20 helper lemmas 1: what each mediator action does to the local state of the handler it touches
-/
namespace JF.MP

@[simp] theorem upd_same (s : St) (h : Nat) (x : HS) : upd s h x h = x := by simp [upd]
theorem upd_other (s : St) {h k : Nat} (x : HS) (hk : k ≠ h) : upd s h x k = s k := by simp [upd, hk]

theorem coh_iff (x : HS) : x.coh = true ↔
    (match x.stage with
      | .idle => (x.pc = .idle ∨ x.pc = .suspended) ∧ x.chan = []
      | .timeStarted => (x.pc = .computingTime ∧ x.chan = []) ∨ (x.pc = .suspended ∧ x.chan = [.time x.tag])
      | .suspended => x.pc = .suspended ∧ x.chan = []
      | .outStarted => (x.pc = .computingOut ∧ x.chan = []) ∨ (x.pc = .idle ∧ x.chan = [.out x.tag]))
    ∧ (∀ t, x.stored = some t → x.stage = .idle ∧ t = x.tag) := by
  obtain ⟨st, pc, tag, chan, stored⟩ := x
  cases st <;> cases stored <;> simp [HS.coh]

theorem stored_none {x : HS} (hc : x.coh = true) (h : x.stage ≠ .idle) : x.stored = none := by
  cases hs : x.stored with
  | none => rfl
  | some t => exact absurd (((coh_iff x).1 hc).2 t hs).1 h

theorem send_ok (x : HS) (n : Nat) (hc : x.coh = true) (hi : x.stage = .idle) (hs : x.stored = none) :
    ∃ y, x.send n = .ok y ∧ y.stage = .timeStarted ∧ y.coh = true ∧ y.tag = n ∧ y.stored = none := by
  obtain ⟨st, pc, tag, chan, stored⟩ := x
  simp only at hi hs; subst hi hs
  rw [coh_iff] at hc
  simp only at hc
  obtain ⟨⟨hp, hch⟩, -⟩ := hc
  subst hch
  rcases hp with hp | hp <;> subst hp <;>
    exact ⟨_, rfl, rfl, by simp [HS.coh, HS.start, HS.finish], rfl, rfl⟩

theorem recvTime_ok (x : HS) (hc : x.coh = true) (hi : x.stage = .timeStarted) :
    ∃ y, x.recvTime = .ok (x.tag, y) ∧ y.stage = .suspended ∧ y.coh = true ∧ y.tag = x.tag ∧ y.stored = none := by
  obtain ⟨st, pc, tag, chan, stored⟩ := x
  simp only at hi; subst hi
  obtain rfl : stored = none := stored_none hc (by simp)
  rw [coh_iff] at hc
  simp only at hc
  obtain ⟨hp, -⟩ := hc
  rcases hp with ⟨hp, hch⟩ | ⟨hp, hch⟩ <;> subst hp hch <;>
    exact ⟨_, rfl, rfl, by simp [HS.coh, HS.finish], rfl, rfl⟩

theorem startOut_ok (x : HS) (hc : x.coh = true) (hi : x.stage = .suspended) :
    ∃ y, x.startOut = .ok y ∧ y.stage = .outStarted ∧ y.coh = true ∧ y.tag = x.tag ∧ y.stored = none := by
  obtain ⟨st, pc, tag, chan, stored⟩ := x
  simp only at hi; subst hi
  obtain rfl : stored = none := stored_none hc (by simp)
  rw [coh_iff] at hc
  simp only at hc
  obtain ⟨⟨hp, hch⟩, -⟩ := hc
  subst hp hch
  exact ⟨_, rfl, rfl, by simp [HS.coh, HS.finish], rfl, rfl⟩

/-- receive branch `out_state_started`: `state = idle; … ; _out_states[handler] = pipe.recv()` -/
theorem recvOut_ok (x : HS) (hc : x.coh = true) (hi : x.stage = .outStarted) :
    ∃ y, ({ x with stage := .idle } : HS).recvOut = .ok y ∧ y.stage = .idle ∧ y.coh = true ∧ y.tag = x.tag ∧
      y.stored = some x.tag := by
  obtain ⟨st, pc, tag, chan, stored⟩ := x
  simp only at hi; subst hi
  rw [coh_iff] at hc
  simp only at hc
  obtain ⟨hp, hst⟩ := hc
  rcases hp with ⟨hp, hch⟩ | ⟨hp, hch⟩ <;> subst hp hch <;>
    exact ⟨_, rfl, rfl, by simp [HS.coh, HS.finish], rfl, rfl⟩

/-- the commit block succeeds on every handler that is not `event_time_started` and, if idle, has a stored
out-state; the committed out-state carries the tag of the worker's in-state -/
theorem commit_ok (x : HS) (hc : x.coh = true) (hi : x.stage ≠ .timeStarted)
    (hs : x.stage = .idle → x.stored ≠ none) :
    ∃ p y, x.commit = .ok (x.tag, p, y) ∧ y.stage = .idle ∧ y.coh = true ∧ y.tag = x.tag ∧ y.stored = some x.tag := by
  obtain ⟨st, pc, tag, chan, stored⟩ := x
  have hsn : st ≠ .idle → stored = none := stored_none hc
  rw [coh_iff] at hc
  simp only at hc hi hs
  obtain ⟨hp, hst⟩ := hc
  cases st with
  | timeStarted => exact absurd rfl hi
  | idle =>
    cases stored with
    | none => exact absurd rfl (hs rfl)
    | some t =>
      obtain ⟨-, ht⟩ := hst t rfl
      subst ht
      simp only at hp
      obtain ⟨hp, hch⟩ := hp
      subst hch
      rcases hp with hp | hp <;> subst hp <;>
        exact ⟨_, _, rfl, rfl, by simp [HS.coh], rfl, rfl⟩
  | suspended =>
    obtain rfl := hsn (by simp)
    simp only at hp
    obtain ⟨hp, hch⟩ := hp
    subst hp hch
    exact ⟨_, _, rfl, rfl, by simp [HS.coh, HS.finish], rfl, rfl⟩
  | outStarted =>
    obtain rfl := hsn (by simp)
    simp only at hp
    rcases hp with ⟨hp, hch⟩ | ⟨hp, hch⟩ <;> subst hp hch <;>
      exact ⟨_, _, rfl, rfl, by simp [HS.coh, HS.finish], rfl, rfl⟩

/-- the body of the trash loop succeeds on every handler that is not `event_time_started` and leaves it idle without
stored out-state -/
theorem trash_ok (x : HS) (hc : x.coh = true) (hi : x.stage ≠ .timeStarted) :
    ∃ y d, x.trash = .ok (y, d) ∧ y.stage = .idle ∧ y.coh = true ∧ y.tag = x.tag ∧ y.stored = none := by
  obtain ⟨st, pc, tag, chan, stored⟩ := x
  rw [coh_iff] at hc
  simp only at hc hi
  obtain ⟨hp, hst⟩ := hc
  cases st with
  | timeStarted => exact absurd rfl hi
  | idle =>
    simp only at hp
    obtain ⟨hp, hch⟩ := hp
    subst hch
    rcases hp with hp | hp <;> subst hp <;>
      exact ⟨_, _, rfl, rfl, by simp [HS.coh], rfl, rfl⟩
  | suspended =>
    simp only at hp
    obtain ⟨hp, hch⟩ := hp
    subst hp hch
    exact ⟨_, _, rfl, rfl, by simp [HS.coh], rfl, rfl⟩
  | outStarted =>
    simp only at hp
    rcases hp with ⟨hp, hch⟩ | ⟨hp, hch⟩ <;> subst hp hch <;>
      exact ⟨_, _, rfl, rfl, by simp [HS.coh, HS.finish], rfl, rfl⟩

end JF.MP
