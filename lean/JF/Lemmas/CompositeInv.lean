import JF.Lemmas.CompositeVec
/-!
For C12: the invariant of one composite object (`Good`), its preservation by time-slicing and by
the generic "leaf updates + commit of the root" machine `applyUpds` of `JF/Model/Composite.lean`.
Exact reading: `α = ℚ`, `Ops.rat`, and the test `abs(c) < 1.0e-13` replaced by `c == 0` (`isZ`).
-/
namespace JF.Composite
open JF JF.Kin
variable {d : Nat} {L : List ℚ} {c : CObj ℚ} {t : Time ℚ}

def isZ (c : ℚ) : Bool := c == 0

def WFC (d : Nat) (c : CObj ℚ) : Prop := WFU d c.root ∧ (∀ l ∈ c.leaves, WFU d l) ∧ c.leaves ≠ []

/-- `len(children) · v_root = Σ v_leaf` (i.e. `v_root = Σ (1/n) · v_leaf`), `None` read as zero -/
def VelC (c : CObj ℚ) : Prop :=
  ∀ k, (c.leaves.length : ℚ) * velAt c.root k = (c.leaves.map (fun l => velAt l k)).sum

def Sh (ls : List (PUnit ℚ)) : Prop := ∃ v, NZ v ∧ ∀ l ∈ ls, l.vel = none ∨ l.vel = some v

def RNZ (c : CObj ℚ) : Prop := ∀ v, c.root.vel = some v → NZ v

/-- at time `τ`: `n · x_root(τ) ≡ Σ x_leaf(τ)` modulo the box, coordinate by coordinate -/
def PosC (L : List ℚ) (c : CObj ℚ) (τ : ℚ) : Prop :=
  ∀ k, k < L.length → Cong (L.getD k 0) ((c.leaves.length : ℚ) * advAt c.root τ k) ((c.leaves.map (fun l => advAt l τ k)).sum)

structure Good (d : Nat) (L : List ℚ) (c : CObj ℚ) : Prop where
  wf : WFC d c
  vel : VelC c
  sh : Sh c.leaves
  rnz : RNZ c
  pos : ∀ τ, PosC L c τ

theorem length_cast_ne_zero {β : Type} {ls : List β} (h : ls ≠ []) : (ls.length : ℚ) ≠ 0 :=
  Nat.cast_ne_zero.mpr (mt List.length_eq_zero_iff.mp h)

theorem pos_shift (hv : VelC c) {τ : ℚ} (h : PosC L c τ) (τ' : ℚ) : PosC L c τ' := by
  intro k hk
  obtain ⟨z, hz⟩ := h k hk
  refine ⟨z, ?_⟩
  have e2 : (c.leaves.map (fun l => advAt l τ' k)).sum
      = (c.leaves.map (fun l => advAt l τ k)).sum + (c.leaves.map (fun l => velAt l k)).sum * (τ' - τ) := by
    rw [← List.sum_map_mul_right, ← List.sum_map_add]
    exact sum_map_congr _ _ _ (fun l _ => advAt_shift l τ τ' k)
  rw [e2, advAt_shift c.root τ τ' k, ← hv k, ← hz]
  ring

theorem sum_vel_shared (v : List ℚ) (k : Nat) : ∀ (ls : List (PUnit ℚ)), (∀ l ∈ ls, l.vel = none ∨ l.vel = some v) →
    ∃ m : ℕ, (ls.map (fun l => velAt l k)).sum = m * v.getD k 0 ∧ ((∃ l ∈ ls, l.vel ≠ none) → 0 < m)
  | [], _ => ⟨0, by simp, by simp⟩
  | x :: ls, h => by
    obtain ⟨m, hm, hpos⟩ := sum_vel_shared v k ls (fun l hl => h l (by simp [hl]))
    rcases h x (by simp) with hx | hx
    · have hxk : velAt x k = 0 := by simp only [velAt, velOpt, hx]
      refine ⟨m, by simp only [List.map_cons, List.sum_cons, hxk, hm, zero_add], ?_⟩
      rintro ⟨l, hl, hne⟩
      simp at hl
      rcases hl with rfl | hl
      · exact absurd hx hne
      · exact hpos ⟨l, hl, hne⟩
    · have hxk : velAt x k = v.getD k 0 := by simp only [velAt, velOpt, hx]
      exact ⟨m + 1, by simp only [List.map_cons, List.sum_cons, hxk, hm]; push_cast; ring, fun _ => Nat.succ_pos m⟩

theorem velAt_root_ne_zero (hv : VelC c) {v : List ℚ} (hsh : ∀ l ∈ c.leaves, l.vel = none ∨ l.vel = some v) {k : Nat}
    (hk : v.getD k 0 ≠ 0) {l : PUnit ℚ} (hl : l ∈ c.leaves) (hne : l.vel ≠ none) : velAt c.root k ≠ 0 := by
  obtain ⟨m, hm, hpos⟩ := sum_vel_shared v k c.leaves hsh
  have hm0 : (m : ℚ) ≠ 0 := by exact_mod_cast (hpos ⟨l, hl, hne⟩).ne'
  intro h0
  have := hv k
  rw [hm, h0, mul_zero] at this
  exact mul_ne_zero hm0 hk this.symm

/-- "absent exactly when none moves" follows from the velocity sum, the shared non-zero leaf velocity and the
non-zero root velocity -/
theorem absent_iff (hn : c.leaves ≠ []) (hv : VelC c) (hs : Sh c.leaves) (hr : RNZ c) :
    c.root.vel = none ↔ ∀ l ∈ c.leaves, l.vel = none := by
  obtain ⟨v, ⟨k, hk⟩, hsh⟩ := hs
  constructor
  · intro hroot l hl
    by_contra hne
    exact velAt_root_ne_zero hv hsh hk hl hne (by simp only [velAt, velOpt, hroot])
  · intro hall
    cases hroot : c.root.vel with
    | none => rfl
    | some w =>
      obtain ⟨k', hk'⟩ := hr w hroot
      have := hv k'
      rw [sum_map_congr _ (fun _ => (0 : ℚ)) _ (fun l hl => by simp [velAt, velOpt, hall l hl])] at this
      simp [velAt, velOpt, hroot] at this
      rcases this with h | h
      · exact absurd h (by simpa [List.length_eq_zero_iff] using hn)
      · exact absurd h hk'

theorem sliceComp_good (hL : BoxOK d L) (t : Time ℚ) (h : Good d L c) :
    Good d L (sliceComp Ops.rat L t c) ∧ ∀ l ∈ (sliceComp Ops.rat L t c).leaves, Sliced t l := by
  obtain ⟨⟨hwr, hwl, hne⟩, hv, hs, hr, hp⟩ := h
  have hvel : ∀ l : PUnit ℚ, ∀ k, velAt (timeSlice Ops.rat L t l) k = velAt l k := by
    intro l k; simp [velAt]
  refine ⟨⟨⟨(timeSlice_spec hL t hwr).1, ?_, ?_⟩, ?_, ?_, ?_, ?_⟩, ?_⟩
  · exact List.forall_mem_map.mpr fun l0 hl0 => (timeSlice_spec hL t (hwl l0 hl0)).1
  · simpa [sliceComp] using hne
  · intro k
    simp only [sliceComp, List.length_map, List.map_map]
    rw [hvel]
    rw [sum_map_congr _ (fun l => velAt l k) _ (fun l _ => by simp [Function.comp, hvel])]
    exact hv k
  · obtain ⟨v, hv0, hsh⟩ := hs
    exact ⟨v, hv0, List.forall_mem_map.mpr fun l0 hl0 => by simpa using hsh l0 hl0⟩
  · intro v hv'
    simp only [sliceComp, timeSlice_vel] at hv'
    exact hr v hv'
  · intro τ k hk
    have hk' : k < d := by rw [← hL.1]; exact hk
    simp only [sliceComp, List.length_map, List.map_map]
    have h1 := Cong.nat_mul c.leaves.length ((timeSlice_spec hL t hwr).2.2 τ k hk')
    have h2 := Cong.sum_map (L.getD k 0) (fun l => advAt (timeSlice Ops.rat L t l) τ k) (fun l => advAt l τ k) c.leaves
      (fun l hl => (timeSlice_spec hL t (hwl l hl)).2.2 τ k hk')
    exact (h1.trans (hp τ k hk)).trans h2.symm
  · exact List.forall_mem_map.mpr fun l0 hl0 => (timeSlice_spec hL t (hwl l0 hl0)).2.1

def dvAt (u : Upd ℚ) (k : Nat) : ℚ := velOpt u.dv k

/-- conditions on one update relative to the leaf `l` it replaces: a leaf that moves afterwards gets a velocity of the
right length and the event time as time stamp; the registered change is `new velocity − old velocity` -/
def UOK (d : Nat) (t : Time ℚ) (l : PUnit ℚ) (u : Upd ℚ) : Prop :=
  (∀ v, u.vel = some v → v.length = d ∧ u.ts = some t) ∧
  (∀ dv, u.dv = some dv → dv.length = d) ∧
  (∀ k, dvAt u k = velOpt u.vel k - velAt l k)

structure UpdsOK (d : Nat) (t : Time ℚ) (ls : List (PUnit ℚ)) (ups : List (Upd ℚ)) : Prop where
  nodup : (ups.map (·.leaf)).Nodup
  ok : ∀ u ∈ ups, ∃ l, ls[u.leaf]? = some l ∧ UOK d t l u

def setU (u : Upd ℚ) (l : PUnit ℚ) : PUnit ℚ := { l with vel := u.vel, ts := u.ts }

theorem setLeaves_cons (ls : List (PUnit ℚ)) (u : Upd ℚ) (ups : List (Upd ℚ)) :
    setLeaves ls (u :: ups) = setLeaves (ls.modify u.leaf (setU u)) ups := rfl

@[simp] theorem setLeaves_nil (ls : List (PUnit ℚ)) : setLeaves ls [] = ls := rfl

theorem setLeaves_length : ∀ (ups : List (Upd ℚ)) (ls : List (PUnit ℚ)), (setLeaves ls ups).length = ls.length
  | [], ls => rfl
  | u :: ups, ls => by rw [setLeaves_cons, setLeaves_length ups]; simp

theorem UpdsOK.tail {ls : List (PUnit ℚ)} {u : Upd ℚ} {ups : List (Upd ℚ)}
    (h : UpdsOK d t ls (u :: ups)) : UpdsOK d t (ls.modify u.leaf (setU u)) ups := by
  obtain ⟨hnd, hok⟩ := h
  simp only [List.map_cons, List.nodup_cons] at hnd
  refine ⟨hnd.2, ?_⟩
  intro u' hu'
  obtain ⟨l, hl, rest⟩ := hok u' (by simp [hu'])
  refine ⟨l, ?_, rest⟩
  have hne : u.leaf ≠ u'.leaf := by
    intro he
    exact hnd.1 (by rw [he]; exact List.mem_map_of_mem hu')
  rw [List.getElem?_modify]
  simp [hne, hl]

theorem sum_setLeaves_vel (k : Nat) : ∀ (ups : List (Upd ℚ)) (ls : List (PUnit ℚ)),
    UpdsOK d t ls ups →
    ((setLeaves ls ups).map (fun l => velAt l k)).sum = (ls.map (fun l => velAt l k)).sum + (ups.map (fun u => dvAt u k)).sum
  | [], ls, _ => by simp
  | u :: ups, ls, h => by
    rw [setLeaves_cons, sum_setLeaves_vel k ups _ h.tail]
    obtain ⟨l, hl, _, _, hdv⟩ := h.ok u (by simp)
    rw [sum_map_modify _ _ ls u.leaf l hl]
    simp only [List.map_cons, List.sum_cons, hdv k]
    simp only [velAt, setU]
    ring

theorem forall_mem_setLeaves (P : PUnit ℚ → Prop) : ∀ (ups : List (Upd ℚ)) (ls : List (PUnit ℚ)),
    (∀ l ∈ ls, P l) → (∀ u ∈ ups, ∀ l, P l → P (setU u l)) → ∀ l ∈ setLeaves ls ups, P l
  | [], ls, h, _ => by simpa using h
  | u :: ups, ls, h, hg => by
    rw [setLeaves_cons]
    exact forall_mem_setLeaves P ups _
      (forall_mem_modify _ ls u.leaf h (fun x hx => hg u (by simp) x (h x (List.mem_of_getElem? hx))))
      (fun u' hu' => hg u' (by simp [hu']))

theorem map_setLeaves_of_eq {γ : Type} (f : PUnit ℚ → γ) (hf : ∀ u l, f (setU u l) = f l) :
    ∀ (ups : List (Upd ℚ)) (ls : List (PUnit ℚ)), (setLeaves ls ups).map f = ls.map f
  | [], ls => rfl
  | u :: ups, ls => by
    rw [setLeaves_cons, map_setLeaves_of_eq f hf ups, map_modify_of_eq f _ (hf u)]

theorem pendOf_eq (w : ℚ) (ups : List (Upd ℚ)) : pendOf w ups = pendFrom w none ups := rfl

theorem pendFrom_cons_none {w : ℚ} {p : Option (List ℚ)} {u : Upd ℚ} {ups : List (Upd ℚ)} (h : u.dv = none) :
    pendFrom w p (u :: ups) = pendFrom w p ups := by
  simp [pendFrom, h]

theorem pendFrom_cons_some {w : ℚ} {p : Option (List ℚ)} {u : Upd ℚ} {ups : List (Upd ℚ)} {dv : List ℚ} (h : u.dv = some dv) :
    pendFrom w p (u :: ups) = pendFrom w (register p (vscale dv w)) ups := by
  simp [pendFrom, h]

theorem velOpt_register (d : Nat) (p : Option (List ℚ)) (ch : List ℚ) (hp : ∀ q, p = some q → q.length = d)
    (hch : ch.length = d) (k : Nat) :
    velOpt (register p ch) k = velOpt p k + ch.getD k 0 ∧ ∀ q, register p ch = some q → q.length = d := by
  cases hp' : p with
  | none =>
    refine ⟨by simp only [register, velOpt, zero_add], ?_⟩
    intro q hq
    simp only [register, Option.some.injEq] at hq
    rw [← hq]; exact hch
  | some p0 =>
    have hl : p0.length = ch.length := by rw [hp p0 hp', hch]
    refine ⟨by simp only [register, velOpt]; exact getD_vadd _ _ hl k, ?_⟩
    intro q hq
    simp only [register, Option.some.injEq] at hq
    rw [← hq, length_vadd _ _ hl]; exact hp p0 hp'

theorem pend_fold (d : Nat) (w : ℚ) (k : Nat) : ∀ (ups : List (Upd ℚ)) (p : Option (List ℚ)),
    (∀ q, p = some q → q.length = d) → (∀ u ∈ ups, ∀ dv, u.dv = some dv → dv.length = d) →
    velOpt (pendFrom w p ups) k = velOpt p k + (ups.map (fun u => dvAt u k)).sum * w ∧
    (∀ q, pendFrom w p ups = some q → q.length = d) ∧
    ((∀ u ∈ ups, u.dv = none) → pendFrom w p ups = p)
  | [], p, hp, _ => ⟨by simp [pendFrom], by simpa [pendFrom] using hp, fun _ => rfl⟩
  | u :: ups, p, hp, hu => by
    cases hdv : u.dv with
    | none =>
      rw [pendFrom_cons_none hdv]
      obtain ⟨h1, h2, h3⟩ := pend_fold d w k ups p hp (fun u' hu' => hu u' (by simp [hu']))
      refine ⟨?_, h2, ?_⟩
      · rw [h1]
        have : dvAt u k = 0 := by simp only [dvAt, hdv, velOpt]
        simp only [List.map_cons, List.sum_cons, this, zero_add]
      · exact fun hall => h3 fun u' hu' => hall u' (List.mem_cons_of_mem _ hu')
    | some dv =>
      rw [pendFrom_cons_some hdv]
      have hdl : dv.length = d := hu u (by simp) dv hdv
      obtain ⟨hr1, hr2⟩ := velOpt_register d p (vscale dv w) hp (by simpa using hdl) k
      obtain ⟨h1, h2, h3⟩ := pend_fold d w k ups (register p (vscale dv w)) hr2 (fun u' hu' => hu u' (by simp [hu']))
      refine ⟨?_, h2, ?_⟩
      · rw [h1, hr1, getD_vscale]
        have : dvAt u k = dv.getD k 0 := by simp only [dvAt, hdv, velOpt]
        simp only [List.map_cons, List.sum_cons, this]; ring
      · exact fun hall => absurd (hall u List.mem_cons_self) (by rw [hdv]; simp)

theorem weight_rat (c : CObj ℚ) : weight Ops.rat c = 1 / (c.leaves.length : ℚ) := by
  simp [weight, Ops.rat]

/-- `_commit_sub_tree_non_leaf_velocity_change` on the root, exact reading -/
theorem commitRoot_spec (hL : BoxOK d L) (t : Time ℚ) (p : Option (List ℚ))
    (hp : ∀ q, p = some q → q.length = d) {r : PUnit ℚ} (hr : WFU d r) :
    let r' := commitRoot Ops.rat isZ L t p r
    WFU d r' ∧ (∀ k, velAt r' k = velAt r k + velOpt p k) ∧
    (∀ k, k < d → Cong (L.getD k 0) (advAt r' (tval t) k) (advAt r (tval t) k)) ∧
    (∀ v', r'.vel = some v' → (r.vel = some v' ∧ p = none) ∨ (r.vel = none ∧ p = some v') ∨ (r.vel ≠ none ∧ NZ v')) := by
  cases p with
  | none =>
    simp only [commitRoot]
    exact ⟨hr, fun k => by simp [velOpt], fun k _ => Cong.refl _ _, fun v' h => Or.inl ⟨h, by first | rfl | trivial⟩⟩
  | some ch =>
    have hch : ch.length = d := hp ch rfl
    cases hvel : r.vel with
    | none =>
      simp only [commitRoot, hvel]
      refine ⟨⟨hr.1, ?_⟩, ?_, ?_, ?_⟩
      · intro v hv
        simp only [Option.some.injEq] at hv
        subst hv
        exact ⟨hch, rfl⟩
      · intro k; simp [velAt, velOpt, hvel]
      · intro k _
        apply Cong.of_eq
        simp [advAt, velAt, velOpt, hvel, tsVal]
      · intro v' hv'
        simp only [Option.some.injEq] at hv'
        exact Or.inr (Or.inl ⟨by first | rfl | trivial, by rw [hv']⟩)
    | some v =>
      obtain ⟨hvl, _⟩ := hr.2 v hvel
      obtain ⟨hw', hs', hc'⟩ := timeSlice_spec hL t hr
      have hvel' : (timeSlice Ops.rat L t r).vel = some v := by rw [timeSlice_vel, hvel]
      have hts' : (timeSlice Ops.rat L t r).ts = some t := hs' (by rw [hvel']; simp)
      simp only [commitRoot, hvel]
      have hlen : v.length = ch.length := by rw [hvl, hch]
      cases hz : (vadd v ch).all isZ with
      | true =>
        simp only [if_true]
        refine ⟨⟨hw'.1, by intro v0 h0; simp at h0⟩, ?_, ?_, ?_⟩
        · intro k
          have := all_zero_getD _ hz k
          rw [getD_vadd _ _ hlen] at this
          simp only [velAt, velOpt, hvel]; linarith
        · intro k hk
          refine Cong.trans (Cong.of_eq ?_) (hc' (tval t) k hk)
          rw [advAt_sliced hs' k]
          simp [advAt, velAt, velOpt]
        · intro v' hv'; simp at hv'
      | false =>
        simp only [Bool.false_eq_true, if_false]
        refine ⟨⟨hw'.1, ?_⟩, ?_, ?_, ?_⟩
        · intro v0 h0
          simp only [Option.some.injEq] at h0
          subst h0
          exact ⟨by rw [length_vadd _ _ hlen, hvl], by rw [hts']; rfl⟩
        · intro k
          simp only [velAt, velOpt, hvel]; exact getD_vadd _ _ hlen k
        · intro k hk
          refine Cong.trans (Cong.of_eq ?_) (hc' (tval t) k hk)
          rw [advAt_sliced hs' k]
          simp [advAt, velAt, velOpt, tsVal, hts']
        · intro v' hv'
          simp only [Option.some.injEq] at hv'
          subst hv'
          exact Or.inr (Or.inr ⟨by simp, not_all_zero_NZ _ hz⟩)

/-- The generic step: leaf updates that register `new − old` for every leaf they touch, applied to a composite object
whose leaves were time-sliced to the event time, preserve the invariant. -/
theorem applyUpds_good (hL : BoxOK d L) (t : Time ℚ) {ups : List (Upd ℚ)}
    (hwf : WFC d c) (hv : VelC c) (hrnz : RNZ c) (hp : PosC L c (tval t))
    (hsl : ∀ l ∈ c.leaves, Sliced t l)
    (hups : UpdsOK d t c.leaves ups)
    (hsh' : Sh (setLeaves c.leaves ups))
    (hmove : c.root.vel = none → (∃ u ∈ ups, u.dv ≠ none) → ∃ l ∈ setLeaves c.leaves ups, l.vel ≠ none) :
    Good d L (applyUpds Ops.rat isZ L t ups c) := by
  obtain ⟨hwr, hwl, hne⟩ := hwf
  have hn := length_cast_ne_zero hne
  have hdvl : ∀ u ∈ ups, ∀ dv, u.dv = some dv → dv.length = d := fun u hu => (hups.ok u hu).choose_spec.2.2.1
  have hpend := fun k => pend_fold d (weight Ops.rat c) k ups none (by simp) hdvl
  simp only [← pendOf_eq] at hpend
  have hplen : ∀ q, pendOf (weight Ops.rat c) ups = some q → q.length = d := (hpend 0).2.1
  obtain ⟨hwr', hvel', hcong', hnz'⟩ := commitRoot_spec hL t (pendOf (weight Ops.rat c) ups) hplen hwr
  have hV : VelC (applyUpds Ops.rat isZ L t ups c) := by
    intro k
    simp only [applyUpds, setLeaves_length]
    rw [hvel' k, sum_setLeaves_vel k ups c.leaves hups, ← hv k, (hpend k).1, weight_rat]
    simp only [velOpt, zero_add]
    field_simp
  have hsl' : ∀ l ∈ setLeaves c.leaves ups, Sliced t l := by
    apply forall_mem_setLeaves (Sliced t) ups c.leaves hsl
    intro u hu l _ hne'
    simp only [setU] at hne' ⊢
    cases huv : u.vel with
    | none => exact absurd huv hne'
    | some v => exact ((hups.ok u hu).choose_spec.2.1 v huv).2
  refine ⟨⟨hwr', ?_, ?_⟩, hV, hsh', ?_, ?_⟩
  · apply forall_mem_setLeaves (WFU d) ups c.leaves hwl
    intro u hu l hl
    refine ⟨hl.1, ?_⟩
    intro v huv
    simp only [setU] at huv
    obtain ⟨h1, h2⟩ := (hups.ok u hu).choose_spec.2.1 v huv
    exact ⟨h1, by simp [setU, h2]⟩
  · intro h
    have := setLeaves_length ups c.leaves
    simp only [applyUpds] at h
    rw [h] at this
    exact hne (List.length_eq_zero_iff.mp this.symm)
  · -- a stored root velocity is non-zero
    intro v' hv'
    rcases hnz' v' hv' with ⟨h1, _⟩ | ⟨h1, h2⟩ | ⟨_, h2⟩
    · exact hrnz v' h1
    · have hex : ∃ u ∈ ups, u.dv ≠ none := by
        by_contra hcon
        push Not at hcon
        rw [(hpend 0).2.2 hcon] at h2
        exact absurd h2 (by simp)
      obtain ⟨l', hl', hlne⟩ := hmove h1 hex
      obtain ⟨w, ⟨k, hk⟩, hshw⟩ := hsh'
      refine ⟨k, fun hzero => velAt_root_ne_zero hV hshw hk hl' hlne ?_⟩
      simp only [velAt, velOpt, hv']
      exact hzero
    · exact h2
  · -- positions: at the event time, then at every time
    have hP : PosC L (applyUpds Ops.rat isZ L t ups c) (tval t) := by
      intro k hk
      have hk' : k < d := by rw [← hL.1]; exact hk
      simp only [applyUpds, setLeaves_length]
      have h1 := Cong.nat_mul c.leaves.length (hcong' k hk')
      have e1 : ((setLeaves c.leaves ups).map (fun l => advAt l (tval t) k)).sum
          = ((setLeaves c.leaves ups).map (fun l => l.pos.getD k 0)).sum :=
        sum_map_congr _ _ _ (fun l hl => advAt_sliced (hsl' l hl) k)
      have e2 : (c.leaves.map (fun l => advAt l (tval t) k)).sum = (c.leaves.map (fun l => l.pos.getD k 0)).sum :=
        sum_map_congr _ _ _ (fun l hl => advAt_sliced (hsl l hl) k)
      rw [e1, map_setLeaves_of_eq (fun l => l.pos.getD k 0) (fun _ _ => rfl), ← e2]
      exact h1.trans (hp k hk)
    exact fun τ => pos_shift hV hP τ

end JF.Composite
