import JF.Lemmas.SystemRunGeo
import JF.Props.C08
/-!
The concrete motion relation of C08 for the point-mass world: unit `u` has in `us'` the velocity it has in `us`, the same position
if it is at rest, and — if it moves — a position on the straight line through its old position along its velocity, up to whole box
lengths.  The relation is reflexive and transitive for all states (as `JF.C08.Motion` demands), and every event that the footprint
table declares not motion-changing (`keep`, a smooth `snap`, or nothing at all) preserves it for every unit of a well-formed state.
-/
namespace JF.Sys
open JF JF.Act JF.CW JF.Kin JF.C14

/-- `Q` lies on the straight line through `P` with direction `v`, up to whole box lengths -/
def OnLine (L P v Q : List ℚ) : Prop :=
  P.length = Q.length ∧ ∃ d : ℚ, ∀ i (hP : i < P.length) (hQ : i < Q.length),
    ∃ k : ℤ, Q[i] = P[i] + v.getD i 0 * d + k * L.getD i 0

theorem OnLine.refl (L P v : List ℚ) : OnLine L P v P :=
  ⟨rfl, 0, fun i _ _ => ⟨0, by simp⟩⟩

theorem OnLine.trans {L P v Q R : List ℚ} (h1 : OnLine L P v Q) (h2 : OnLine L Q v R) : OnLine L P v R := by
  obtain ⟨l1, d1, e1⟩ := h1
  obtain ⟨l2, d2, e2⟩ := h2
  refine ⟨l1.trans l2, d1 + d2, fun i hP hR => ?_⟩
  have hQ : i < Q.length := by omega
  obtain ⟨k1, a1⟩ := e1 i hP hQ
  obtain ⟨k2, a2⟩ := e2 i hQ hR
  exact ⟨k1 + k2, by rw [a2, a1]; push_cast; ring⟩

def SameMotion (L : List ℚ) (us us' : List (PUnit ℚ)) (u : Nat) : Prop :=
  match us[u]?, us'[u]? with
  | some x, some y => x.vel = y.vel ∧ (x.vel = none → x.pos = y.pos) ∧ ∀ v, x.vel = some v → OnLine L x.pos v y.pos
  | none, none => True
  | _, _ => False

theorem SameMotion.refl (L : List ℚ) (us : List (PUnit ℚ)) (u : Nat) : SameMotion L us us u := by
  unfold SameMotion
  cases us[u]? with
  | none => trivial
  | some x => exact ⟨rfl, fun _ => rfl, fun v _ => OnLine.refl L x.pos v⟩

theorem SameMotion.trans {L : List ℚ} {us1 us2 us3 : List (PUnit ℚ)} {u : Nat} (h1 : SameMotion L us1 us2 u)
    (h2 : SameMotion L us2 us3 u) : SameMotion L us1 us3 u := by
  unfold SameMotion at h1 h2 ⊢
  cases e1 : us1[u]? <;> cases e2 : us2[u]? <;> cases e3 : us3[u]? <;> rw [e1, e2] at h1 <;> rw [e2, e3] at h2 <;>
    simp only at h1 h2 ⊢ <;> try trivial
  next x y z =>
    obtain ⟨a1, a2, a3⟩ := h1
    obtain ⟨b1, b2, b3⟩ := h2
    refine ⟨a1.trans b1, fun hx => (a2 hx).trans (b2 (a1 ▸ hx)), fun v hv => ?_⟩
    exact (a3 v hv).trans (b3 v (a1 ▸ hv))

/-- the motion world of configuration `c`: units are point masses (the first entry of each identifier of an in-state tuple) -/
def motionOf (env : Env ℚ) (c : Wiring) : C08.Motion (G env c) Nat where
  units ids := (ids.getD []).filterMap List.head?
  same g g' u := SameMotion env.L g.1.us g'.1.us u
  same_refl g u := SameMotion.refl env.L g.1.us u
  same_trans _ _ _ _ h1 h2 := h1.trans h2
  moves E := affects (c.tagger E) .motion = true
  bound T := T < c.n ∧ motionBound (c.tagger T) = true

theorem setCoord_getElem (P : List ℚ) (d : Nat) (x : ℚ) (i : Nat) (h : i < (setCoord P d x).length) (h' : i < P.length) :
    (setCoord P d x)[i] = if i = d then x else P[i] := by
  simp only [setCoord_eq_set, List.getElem_set, eq_comm]

theorem onLine_timeSlice {L : List ℚ} (hL : PosBox L) (t : Time ℚ) {x : PUnit ℚ} (hw : WFU L.length x) {v : List ℚ}
    (hv : x.vel = some v) : OnLine L x.pos v (timeSlice Ops.rat L t x).pos := by
  cases hs : x.ts with
  | none => have := hw.2.1; simp [hv, hs] at this
  | some s =>
    rw [timeSlice_of_moving L t x hv hs]
    have hpl := hw.1
    have hvl := hw.2.2 v hv
    have hsl := sliceVec_length L x.pos v (Time.sub t s) hpl hvl
    refine ⟨by simp only; omega, Time.sub t s, fun i hP hQ => ?_⟩
    have hiL : i < L.length := by omega
    have hiv : i < v.length := by omega
    simp only at hQ ⊢
    rw [getElem_sliceVec _ hQ hiL hP hiv, sliceCoord_eq _ _ _ _ (hL _ (List.getElem_mem hiL))]
    refine ⟨-⌊(x.pos[i] + v[i] * Time.sub t s) / L[i]⌋, ?_⟩
    rw [← List.getElem_eq_getD (h := hiv) 0, ← List.getElem_eq_getD (h := hiL) 0]
    push_cast; ring

theorem same_keep {L : List ℚ} (hL : PosBox L) {us : List (PUnit ℚ)} (hwf : ∀ u ∈ us, WFU L.length u) (t : Time ℚ) (u : Nat) :
    SameMotion L us (step Ops.rat L us (.keep t)) u := by
  unfold SameMotion
  simp only [step, List.getElem?_map]
  cases hx : us[u]? with
  | none => trivial
  | some x =>
    simp only [Option.map_some]
    refine ⟨(timeSlice_vel L t x).symm, fun h => by rw [timeSlice_of_rest L t x h], fun v hv => ?_⟩
    exact onLine_timeSlice hL t (hwf x (List.mem_of_getElem? hx)) hv

/-- a smooth `snap` (the written coordinate is congruent to the time-sliced one): every unit keeps its motion -/
theorem same_snap {L : List ℚ} (hL : PosBox L) {us : List (PUnit ℚ)} (hwf : ∀ u ∈ us, WFU L.length u) (t : Time ℚ) (d : Nat)
    (x : ℚ) (hsm : Smooth L us (.snap t d x)) (u : Nat) : SameMotion L us (step Ops.rat L us (.snap t d x)) u := by
  unfold SameMotion
  simp only [step, List.getElem?_map]
  cases hx : us[u]? with
  | none => trivial
  | some y =>
    simp only [Option.map_some]
    have hm : y ∈ us := List.mem_of_getElem? hx
    have hw := hwf y hm
    by_cases hmv : isMoving y = true
    · rw [if_pos (by rw [timeSlice_isMoving]; exact hmv)]
      refine ⟨(timeSlice_vel L t y).symm, fun h => by simp [isMoving, h] at hmv, fun v hv => ?_⟩
      obtain ⟨hlen, dd, hline⟩ := onLine_timeSlice hL t hw hv
      refine ⟨by simp only [setCoord_length]; exact hlen, dd, fun i hP hQ => ?_⟩
      simp only at hQ ⊢
      have hQ' : i < (timeSlice Ops.rat L t y).pos.length := by simpa [setCoord_length] using hQ
      rw [setCoord_getElem _ d x i hQ hQ']
      by_cases hid : i = d
      · subst hid
        simp only [if_true]
        obtain ⟨k0, e0⟩ := hline i hP hQ'
        have hiL : i < L.length := by rw [← hw.1]; exact hP
        obtain ⟨k1, e1⟩ := hsm y hm hmv hiL hQ'
        refine ⟨k0 + k1, ?_⟩
        rw [e1, e0, ← List.getElem_eq_getD (h := hiL) 0]
        push_cast; ring
      · simp only [hid, if_false]
        exact hline i hP hQ'
    · have hmv' : isMoving y = false := by simpa using hmv
      rw [if_neg (by rw [timeSlice_isMoving]; simp [hmv'])]
      have hrest : y.vel = none := by
        cases hv : y.vel with
        | none => rfl
        | some v => simp [isMoving, hv] at hmv'
      rw [timeSlice_of_rest L t y hrest]
      exact ⟨rfl, fun _ => rfl, fun v hv => by rw [hrest] at hv; cases hv⟩

end JF.Sys
