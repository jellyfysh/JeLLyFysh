/-!
A run that is DEFINED step after step, each step needing a proof that the step before it succeeded — the example runs of the composed
systems: `sₖ₊₁ := nextS sₖ _ hₖ₊₁ …` with `hₖ₊₁ : (leg … sₖ.med …).toOption.isSome = true` — is expensive to evaluate fact by fact:
whatever mentions `sₖ` runs the first `k` steps again.  `runChk ok chk nxt s steps` walks through the run ONCE: from state `s` and
input `c` the step has to succeed (`ok s c`, decidable), then a Boolean `chk` is evaluated on data `d` that comes with the step, and the
walk goes on from `nxt s c e h`.  With `nxt` the very function the run is defined by, the states it visits ARE `s₁, s₂, …`; one
evaluated `run₀ : runChk … s₀ steps = true` then yields `hₖ₊₁` (`runChk_head`), the evaluated facts of step `k + 1` (`runChk_chk`) and
`runₖ₊₁` (`runChk_tail`), each at the cost of unfolding one definition (`JF/Lemmas/C09PoolsClosed2Run.lean`).

Two traps.  `theorem h : stmt := runChk_head run` unifies `?ok ?s ?c` with the expected type first and fails: write
`(runChk_head run :)`.  And nothing may be left to unification that compares a defined `cₖ`, `sₖ` with the result of a step: the kernel
decides it by running the step.  Lemmas about a step take the defining equations (`cₖ.eq_1`, `sₖ.eq_1`) as hypotheses and `subst` them;
`runChk_chk`, `runChk_tail` take the proof `hh : ok s c` as an argument for the same reason: the caller passes the `hₖ` its own
definitions mention.
-/
namespace JF

variable {S C E D : Type}

def runChk (ok : S → C → Prop) [∀ s c, Decidable (ok s c)] (chk : (s : S) → (c : C) → D → ok s c → Bool)
    (nxt : (s : S) → (c : C) → E → ok s c → S) : S → List (C × E × D) → Bool
  | _, [] => true
  | s, (c, e, d) :: rest => if h : ok s c then chk s c d h && runChk ok chk nxt (nxt s c e h) rest else false

variable {ok : S → C → Prop} [∀ s c, Decidable (ok s c)] {chk : (s : S) → (c : C) → D → ok s c → Bool}
  {nxt : (s : S) → (c : C) → E → ok s c → S} {s : S} {c : C} {e : E} {d : D} {rest : List (C × E × D)}

theorem runChk_head (h : runChk ok chk nxt s ((c, e, d) :: rest) = true) : ok s c := by
  rw [runChk] at h
  split at h
  · assumption
  · cases h

theorem runChk_chk (h : runChk ok chk nxt s ((c, e, d) :: rest) = true) (hh : ok s c) : chk s c d hh = true := by
  rw [runChk, dif_pos hh, Bool.and_eq_true] at h
  exact h.1

theorem runChk_tail (h : runChk ok chk nxt s ((c, e, d) :: rest) = true) (hh : ok s c) :
    runChk ok chk nxt (nxt s c e hh) rest = true := by
  rw [runChk, dif_pos hh, Bool.and_eq_true] at h
  exact h.2

end JF
