import JF.Gen.Pools
import JF.Lemmas.C09PoolsClosed2Formula
/-!
C09, last clause (no `TagActivatorError`) — the obligation "pool ≥ demand bound for every tagger" of ALL shipped configurations as one
table: `allPools.map shortfalls = shortfallsTable` (`shipped_shortfalls`).  `JF/Gen/Pools.lean` holds the data: the configurations and the
table as `harness/translate_pools.py` computes it from its own reading of the bounds, so a disagreement between the two readings
breaks the build.  The table is evaluated by the kernel once, with the bounds in closed form (`shortfallsF`; configurations that read
the same factor file share that work), and carried over to `shortfalls` by `shortfalls_eq_F`.  The statements per configuration
(`Gen.shortfalls_<name>`) are its rows.
-/
namespace JF.C09Pools
open JF.Act JF.C09Pools.Gen

theorem shipped_shortfallsF : allPools.all exactF = true ∧ allPools.map shortfallsF = shortfallsTable := by decide +kernel

/-- **the pools of every shipped configuration against their demand bounds**: no pool falls short, except `nearby_sphere` of
`hard_disk_dipoles_cells.ini` (pool 15, bound 161) -/
theorem shipped_shortfalls : allPools.map shortfalls = shortfallsTable := by
  rw [← shipped_shortfallsF.2]
  exact List.map_congr_left fun pc hpc => shortfalls_eq_F (List.all_eq_true.mp shipped_shortfallsF.1 pc hpc)

/-- row `i` of the table (the indices are printed beside `allPools` and `shortfallsTable`) -/
theorem shortfalls_at (i : Nat) {pc : PoolCfg} {l : List (TaggerIdx × Nat × Nat)} (h : allPools[i]? = some pc)
    (hi : shortfallsTable[i]? = some l) : shortfalls pc = l := by
  rw [← shipped_shortfalls, List.getElem?_map, h] at hi
  exact Option.some.inj hi

theorem shortfallsF_at (i : Nat) {pc : PoolCfg} {l : List (TaggerIdx × Nat × Nat)} (h : allPools[i]? = some pc)
    (hi : shortfallsTable[i]? = some l) : shortfallsF pc = l := by
  rw [← shipped_shortfallsF.2, List.getElem?_map, h] at hi
  exact Option.some.inj hi

namespace Gen

theorem shortfalls_coulomb_atoms_cell_bounded : shortfalls pool_coulomb_atoms_cell_bounded = [] := shortfalls_at 0 rfl rfl
theorem shortfalls_coulomb_atoms_cell_veto : shortfalls pool_coulomb_atoms_cell_veto = [] := shortfalls_at 1 rfl rfl
theorem shortfalls_coulomb_atoms_power_bounded : shortfalls pool_coulomb_atoms_power_bounded = [] := shortfalls_at 2 rfl rfl
theorem shortfalls_coulomb_atoms_power_bounded_dump : shortfalls pool_coulomb_atoms_power_bounded_dump = [] := shortfalls_at 3 rfl rfl
theorem shortfalls_dipoles_atom_factors : shortfalls pool_dipoles_atom_factors = [] := shortfalls_at 4 rfl rfl
theorem shortfalls_dipoles_cell_bounded : shortfalls pool_dipoles_cell_bounded = [] := shortfalls_at 5 rfl rfl
theorem shortfalls_dipoles_cell_veto : shortfalls pool_dipoles_cell_veto = [] := shortfalls_at 6 rfl rfl
theorem shortfalls_dipoles_dipole_factors_inside_first : shortfalls pool_dipoles_dipole_factors_inside_first = [] := shortfalls_at 7 rfl rfl
theorem shortfalls_dipoles_dipole_factors_outside_first : shortfalls pool_dipoles_dipole_factors_outside_first = [] := shortfalls_at 8 rfl rfl
theorem shortfalls_dipoles_dipole_factors_ratio : shortfalls pool_dipoles_dipole_factors_ratio = [] := shortfalls_at 9 rfl rfl
theorem shortfalls_dipoles_dipole_motion : shortfalls pool_dipoles_dipole_motion = [] := shortfalls_at 10 rfl rfl
theorem shortfalls_water_coulomb_cell_veto_lj_cell_veto : shortfalls pool_water_coulomb_cell_veto_lj_cell_veto = [] := shortfalls_at 11 rfl rfl
theorem shortfalls_water_coulomb_cell_veto_lj_inverted : shortfalls pool_water_coulomb_cell_veto_lj_inverted = [] := shortfalls_at 12 rfl rfl
theorem shortfalls_water_coulomb_power_bounded_lj_cell_bounded : shortfalls pool_water_coulomb_power_bounded_lj_cell_bounded = [] := shortfalls_at 13 rfl rfl
theorem shortfalls_water_coulomb_power_bounded_lj_inverted : shortfalls pool_water_coulomb_power_bounded_lj_inverted = [] := shortfalls_at 14 rfl rfl
theorem shortfalls_water_single_molecule : shortfalls pool_water_single_molecule = [] := shortfalls_at 15 rfl rfl
theorem shortfalls_hard_disk_dipoles_hard_disk_dipoles : shortfalls pool_hard_disk_dipoles_hard_disk_dipoles = [] := shortfalls_at 16 rfl rfl
theorem shortfalls_hard_disk_dipoles_hard_disk_dipoles_cells : shortfalls pool_hard_disk_dipoles_hard_disk_dipoles_cells = [(0, 15, 161)] := shortfalls_at 17 rfl rfl
theorem shortfalls_hard_disk_dipoles_single_hard_disk_dipole : shortfalls pool_hard_disk_dipoles_single_hard_disk_dipole = [] := shortfalls_at 18 rfl rfl
end Gen

end JF.C09Pools
