import JF.Model.Cells
import JF.Lemmas.CellsWrap
import JF.Lemmas.CellsNear
import JF.Lemmas.CellsStep
import Mathlib.Algebra.Order.Floor.Ring
import Mathlib.Data.Rat.Floor
import Mathlib.Tactic.Linarith
import Mathlib.Tactic.Ring
/-!
Exact reading (`ℚ`) of the position arithmetic of the cell systems:
`int(p / side)`, `x % L`, and the mid-point trick of `relative_cell` / `translate`.
-/
namespace JF.Cells

theorem pymod_rat (x y : ℚ) (hy : 0 < y) : pymod Ops.rat x y = x - y * ⌊x / y⌋ :=
  pymod_rat_pos x y hy

/-- `_cell_identifier` of a non-negative entry in the exact reading: the floor of the quotient, clamped to `n - 1` -/
theorem cellDigit_rat_eq {side p : ℚ} (n : ℤ) (hs : 0 < side) (p0 : 0 ≤ p) :
    cellDigit Ops.rat side n p = min ⌊p / side⌋ (n - 1) := by
  simp only [cellDigit, digit, rat_toInt, trunc_nonneg (div_nonneg p0 hs.le)]

/-- `_cell_identifier` of any non-negative entry is an identifier of the grid (also for `p = L`, which the assertion of
`position_to_cell` admits, and beyond) -/
theorem cellDigit_rat_bounds {side p : ℚ} {n : ℤ} (hs : 0 < side) (hn : 1 ≤ n) (p0 : 0 ≤ p) :
    0 ≤ cellDigit Ops.rat side n p ∧ cellDigit Ops.rat side n p < n := by
  have := Int.floor_nonneg.mpr (div_nonneg p0 hs.le)
  rw [cellDigit_rat_eq n hs p0]; omega

/-- inside the grid the clamp `min(·, n - 1)` is inactive: the digit is the index of the cell `[i·side, (i+1)·side)` that
holds the entry -/
theorem cellDigit_rat_iff {side p : ℚ} {i n : ℤ} (hs : 0 < side) (p0 : 0 ≤ p) (p1 : p < n * side) :
    (i * side ≤ p ∧ p < (i + 1) * side) ↔ i = cellDigit Ops.rat side n p := by
  have hn : ⌊p / side⌋ < n := by rw [Int.floor_lt, div_lt_iff₀ hs]; exact p1
  rw [cellDigit_rat_eq n hs p0, min_eq_left (by omega), eq_comm, Int.floor_eq_iff, le_div_iff₀ hs, div_lt_iff₀ hs]

theorem cellDigit_rat {side p : ℚ} {i n : ℤ} (hs : 0 < side) (i0 : 0 ≤ i) (hin : i < n) (h1 : i * side ≤ p)
    (h2 : p < (i + 1) * side) : cellDigit Ops.rat side n p = i :=
  ((cellDigit_rat_iff hs ((mul_nonneg (by exact_mod_cast i0) hs.le).trans h1)
    (h2.trans_le (mul_le_mul_of_nonneg_right (by exact_mod_cast hin) hs.le))).mp ⟨h1, h2⟩).symm

theorem trunc_intCast (z : ℤ) : Rat.trunc (z : ℚ) = z := by
  rcases le_or_gt 0 (z : ℚ) with h | h
  · rw [trunc_nonneg h, Int.floor_intCast]
  · rw [trunc_neg h, Int.ceil_intCast]

/-- `_cell_identifier(L) = n - 1`: the system length itself is mapped to the last cell -/
theorem cellDigit_rat_top {side : ℚ} {n : ℤ} (hs : 0 < side) : cellDigit Ops.rat side n (n * side) = n - 1 := by
  have : digit Ops.rat side (n * side) = n := by
    simp only [digit, rat_toInt]
    rw [mul_div_assoc, div_self hs.ne', mul_one, trunc_intCast]
  unfold cellDigit; omega

/-- the mid-point trick, one direction: if `x` lies strictly inside the (unwrapped) cell `m`, then
the corrected entry `w = correct_position_entry(x)` (`JF.pywrap`; `x % L` in this exact reading) lies in the box and
`int(w / side) = m mod n`. -/
theorem digit_pywrap {side x : ℚ} {n m : ℤ} (hs : 0 < side) (hn : 1 ≤ n)
    (h1 : m * side < x) (h2 : x < (m + 1) * side) :
    0 ≤ pywrap Ops.rat x (n * side) ∧ pywrap Ops.rat x (n * side) ≤ n * side ∧
      cellDigit Ops.rat side n (pywrap Ops.rat x (n * side)) = m % n := by
  have hr0 : 0 ≤ m % n := Int.emod_nonneg m (by omega)
  have hr1 : m % n < n := Int.emod_lt_of_pos m (by omega)
  -- `m = n·q + r` with `0 ≤ r < n`: `x` lies in the `q`-th periodic image of the box, in cell `r` of that image
  have hm : (m : ℚ) = n * (m / n : ℤ) + (m % n : ℤ) := by exact_mod_cast (Int.mul_ediv_add_emod m n).symm
  rw [hm] at h1 h2
  have e1 : ((m % n : ℤ) : ℚ) * side ≤ x - n * side * (m / n : ℤ) := by linarith only [h1]
  have e2 : x - n * side * (m / n : ℤ) < ((m % n : ℤ) + 1) * side := by linarith only [h2]
  have e0 : 0 ≤ x - n * side * (m / n : ℤ) := (mul_nonneg (by exact_mod_cast hr0) hs.le).trans e1
  have e3 : x - n * side * (m / n : ℤ) < n * side :=
    e2.trans_le (mul_le_mul_of_nonneg_right (by exact_mod_cast hr1) hs.le)
  rw [pywrap_rat_image (m / n) (e0.trans_lt e3) e0 e3]
  exact ⟨e0, e3.le, cellDigit_rat hs hr0 hr1 e1 e2⟩

/-! ### per-direction geometry of a system, as recursive predicates over its lists -/

/-- `n_d ≥ 1`, `side_d > 0`, `L_d = n_d · side_d` -/
def DirOK : List Int → List ℚ → List ℚ → Prop
  | [], [], [] => True
  | n :: ns, sd :: sds, l :: ls => (1 ≤ n ∧ 0 < sd ∧ l = n * sd) ∧ DirOK ns sds ls
  | _, _, _ => False

/-- recorded extent within `side/8` of the ideal `[i·side, (i+1)·side]` in every direction -/
def ExtNear : List ℚ → List Int → List ℚ → List ℚ → Prop
  | [], [], [], [] => True
  | sd :: sds, i :: is, lo :: los, hi :: his =>
    (|lo - i * sd| ≤ sd / 8 ∧ |hi - (i + 1) * sd| ≤ sd / 8) ∧ ExtNear sds is los his
  | _, _, _, _ => False

/-- recorded extent equal to the ideal one -/
def ExtIdeal : List ℚ → List Int → List ℚ → List ℚ → Prop
  | [], [], [], [] => True
  | sd :: sds, i :: is, lo :: los, hi :: his => (lo = i * sd ∧ hi = (i + 1) * sd) ∧ ExtIdeal sds is los his
  | _, _, _, _ => False

/-- lockstep induction along `DirOK` -/
theorem DirOK.rec' {motive : ∀ (n : List Int) (side L : List ℚ), DirOK n side L → Prop} (nil : motive [] [] [] trivial)
    (cons : ∀ {n sd ns sds ls} (hn : 1 ≤ n) (hs : 0 < sd) (h : DirOK ns sds ls), motive ns sds ls h →
      motive (n :: ns) (sd :: sds) ((n * sd) :: ls) ⟨⟨hn, hs, rfl⟩, h⟩) :
    ∀ {n : List Int} {side L : List ℚ} (h : DirOK n side L), motive n side L h
  | [], [], [], _ => nil
  | _ :: _, _ :: _, _ :: _, ⟨⟨hn, hs, rfl⟩, h⟩ => cons hn hs h (DirOK.rec' nil cons h)
  | [], [], _ :: _, h | [], _ :: _, _, h | _ :: _, [], _, h | _ :: _, _ :: _, [], h => h.elim

theorem ExtNear.of_nil : ∀ {ident : List Int} {lo hi : List ℚ}, ExtNear [] ident lo hi → ident = [] ∧ lo = [] ∧ hi = []
  | [], [], [], _ => ⟨rfl, rfl, rfl⟩
  | [], [], _ :: _, h | [], _ :: _, _, h | _ :: _, _, _, h => h.elim

theorem ExtNear.of_cons {sd : ℚ} {sds : List ℚ} : ∀ {ident : List Int} {lo hi : List ℚ}, ExtNear (sd :: sds) ident lo hi →
    ∃ i is l ls h hs, ident = i :: is ∧ lo = l :: ls ∧ hi = h :: hs ∧
      |l - i * sd| ≤ sd / 8 ∧ |h - (i + 1) * sd| ≤ sd / 8 ∧ ExtNear sds is ls hs
  | i :: is, l :: ls, h :: hs, ⟨⟨h1, h2⟩, h'⟩ => ⟨i, is, l, ls, h, hs, rfl, rfl, rfl, h1, h2, h'⟩
  | [], _, _, h | _ :: _, [], _, h | _ :: _, _ :: _, [], h => h.elim

theorem ExtIdeal.of_nil : ∀ {ident : List Int} {lo hi : List ℚ}, ExtIdeal [] ident lo hi →
    ident = [] ∧ lo = [] ∧ hi = []
  | [], [], [], _ => ⟨rfl, rfl, rfl⟩
  | [], [], _ :: _, h | [], _ :: _, _, h | _ :: _, _, _, h => h.elim

theorem ExtIdeal.of_cons {sd : ℚ} {sds : List ℚ} : ∀ {ident : List Int} {lo hi : List ℚ},
    ExtIdeal (sd :: sds) ident lo hi →
    ∃ i is los his, ident = i :: is ∧ lo = (i * sd) :: los ∧ hi = ((i + 1) * sd) :: his ∧ ExtIdeal sds is los his
  | i :: is, _ :: los, _ :: his, ⟨⟨rfl, rfl⟩, h⟩ => ⟨i, is, los, his, rfl, rfl, rfl, h⟩
  | [], _, _, h | _ :: _, [], _, h | _ :: _, _ :: _, [], h => h.elim

theorem ExtIdeal.near : ∀ {side : List ℚ} {ident : List Int} {lo hi : List ℚ},
    (∀ sd ∈ side, 0 < sd) → ExtIdeal side ident lo hi → ExtNear side ident lo hi
  | [], _, _, _, _, h => by
    obtain ⟨rfl, rfl, rfl⟩ := h.of_nil
    trivial
  | sd :: sds, _, _, _, hp, h => by
    obtain ⟨i, is, los, his, rfl, rfl, rfl, h'⟩ := h.of_cons
    obtain ⟨hs, hp'⟩ := List.forall_mem_cons.mp hp
    have h8 : |(0 : ℚ)| ≤ sd / 8 := by rw [abs_zero]; exact div_nonneg hs.le (by norm_num)
    exact ⟨⟨by rwa [sub_self], by rwa [sub_self]⟩, ExtIdeal.near hp' h'⟩

/-- positions of the box: `0 ≤ p_d < L_d` -/
def InBox : List ℚ → List ℚ → Prop
  | [], [] => True
  | l :: ls, p :: ps => (0 ≤ p ∧ p < l) ∧ InBox ls ps
  | _, _ => False

/-- `lo_d ≤ p_d < hi_d` in every direction -/
def Contains : List ℚ → List ℚ → List ℚ → Prop
  | [], [], [] => True
  | lo :: los, hi :: his, p :: ps => (lo ≤ p ∧ p < hi) ∧ Contains los his ps
  | _, _, _ => False

/-- the assertion of `position_to_cell` -/
def assertInBox (lengths pos : List ℚ) : Bool :=
  (List.zipWith (fun p l => decide (Ops.rat.ofInt 0 ≤ p) && decide (p ≤ l)) pos lengths).all id

theorem assertInBox_cons {l p : ℚ} {ls ps : List ℚ} :
    assertInBox (l :: ls) (p :: ps) = true ↔ (0 ≤ p ∧ p ≤ l) ∧ assertInBox ls ps = true := by
  simp [assertInBox, and_assoc]

/-- the identifier `position_to_cell` looks up -/
def posIdent (side : List ℚ) (perSide : List Int) (pos : List ℚ) : List Int := cellDigits Ops.rat side perSide pos

/-- positions the assertion of `position_to_cell` admits: `0 ≤ p_d ≤ L_d` -/
def InClosedBox : List ℚ → List ℚ → Prop
  | [], [] => True
  | l :: ls, p :: ps => (0 ≤ p ∧ p ≤ l) ∧ InClosedBox ls ps
  | _, _ => False

/-- every position the assertion admits (`p_d = L_d` included) passes it and has a valid identifier: `position_to_cell`
cannot raise `IndexError` -/
theorem posIdent_valid_closed {n : List Int} {side L p : List ℚ} (hd : DirOK n side L) (hb : InClosedBox L p) :
    assertInBox L p = true ∧ Valid n (posIdent side n p) := by
  induction hd using DirOK.rec' generalizing p with
  | nil => match p, hb with
    | [], _ => exact ⟨rfl, trivial⟩
  | @cons n _ _ _ _ hn hs _ ih => match p, hb with
    | _ :: _, ⟨⟨p0, p1⟩, hb⟩ =>
      have ⟨ha, hv⟩ := ih hb
      have ⟨b0, b1⟩ := cellDigit_rat_bounds (n := n) hs hn p0
      exact ⟨assertInBox_cons.mpr ⟨⟨p0, p1⟩, ha⟩, b0, b1, hv⟩

/-- positions in the box pass the assertion, their digits form a valid identifier, and with ideal extents that
identifier's cell is the one containing the position -/
theorem posIdent_valid {n : List Int} {side L p : List ℚ} (hd : DirOK n side L) (hb : InBox L p) :
    assertInBox L p = true ∧ Valid n (posIdent side n p) ∧
      ∀ (ident : List Int) (lo hi : List ℚ), ExtIdeal side ident lo hi → Valid n ident →
        (Contains lo hi p ↔ ident = posIdent side n p) := by
  induction hd using DirOK.rec' generalizing p with
  | nil => match p, hb with
    | [], _ =>
      refine ⟨rfl, trivial, fun ident lo hi h _ => ?_⟩
      obtain ⟨rfl, rfl, rfl⟩ := h.of_nil
      exact ⟨fun _ => rfl, fun _ => trivial⟩
  | @cons n _ _ _ _ hn hs _ ih => match p, hb with
    | _ :: _, ⟨⟨p0, p1⟩, hb⟩ =>
      obtain ⟨ha, hv, hc⟩ := ih hb
      obtain ⟨b0, b1⟩ := cellDigit_rat_bounds (n := n) hs hn p0
      refine ⟨assertInBox_cons.mpr ⟨⟨p0, p1.le⟩, ha⟩, ⟨b0, b1, hv⟩, fun ident lo hi hI hvI => ?_⟩
      obtain ⟨i, is, los, his, rfl, rfl, rfl, hI'⟩ := hI.of_cons
      exact (and_congr (cellDigit_rat_iff hs p0 p1) (hc is los his hI' hvI.2.2)).trans List.cons_eq_cons.symm

/-- one direction of the mid-point trick of `relative_cell` (`sign = false`, `m = i - j`) and `translate`
(`sign = true`, `m = i + j`) -/
theorem midEntry_digit {sd lo hi rlo : ℚ} {n i j : ℤ} (sign : Bool) (hs : 0 < sd) (hn : 1 ≤ n)
    (h1 : |lo - i * sd| ≤ sd / 8) (h2 : |hi - (i + 1) * sd| ≤ sd / 8) (h3 : |rlo - j * sd| ≤ sd / 8) :
    0 ≤ midEntry Ops.rat sign hi lo rlo (n * sd) ∧ midEntry Ops.rat sign hi lo rlo (n * sd) ≤ n * sd ∧
      cellDigit Ops.rat sd n (midEntry Ops.rat sign hi lo rlo (n * sd)) =
        (if sign then (i + j) % n else (i - j) % n) := by
  obtain ⟨a1, a2⟩ := abs_le.mp h1
  obtain ⟨b1, b2⟩ := abs_le.mp h2
  obtain ⟨c1, c2⟩ := abs_le.mp h3
  cases sign
  · simp only [midEntry, rat_ofInt, Bool.false_eq_true, if_false]
    exact digit_pywrap (m := i - j) hs hn (by push_cast; linarith only [a1, b1, c2, hs])
      (by push_cast; linarith only [a2, b2, c1, hs])
  · simp only [midEntry, rat_ofInt, if_true]
    exact digit_pywrap (m := i + j) hs hn (by push_cast; linarith only [a1, b1, c1, hs])
      (by push_cast; linarith only [a2, b2, c2, hs])

/-- all directions: the position handed to `position_to_cell` by `relative_cell` / `translate` passes the
assertion and has the digits `(c ∓ r) mod n` -/
theorem mid_digits (sign : Bool) {n : List Int} {side L : List ℚ} {ci : List Int} {clo chi : List ℚ}
    {ri : List Int} {rlo rhi : List ℚ}
    (hd : DirOK n side L) (hc : ExtNear side ci clo chi) (hr : ExtNear side ri rlo rhi) :
    assertInBox L (zipWith3' (fun (mm : ℚ × ℚ) om l => midEntry Ops.rat sign mm.1 mm.2 om l) (List.zip chi clo) rlo L)
        = true ∧
      posIdent side n (zipWith3' (fun (mm : ℚ × ℚ) om l => midEntry Ops.rat sign mm.1 mm.2 om l) (List.zip chi clo) rlo L)
        = (if sign then addMod n ci ri else subMod n ci ri) := by
  induction hd using DirOK.rec' generalizing ci clo chi ri rlo rhi with
  | nil =>
    obtain ⟨rfl, rfl, rfl⟩ := hc.of_nil
    obtain ⟨rfl, rfl, rfl⟩ := hr.of_nil
    cases sign <;> exact ⟨rfl, rfl⟩
  | @cons n sd ns sds ls hn hs _ ih =>
    obtain ⟨i, is, lo, los, hi, his, rfl, rfl, rfl, h1, h2, hc'⟩ := hc.of_cons
    obtain ⟨j, js, rl, rls, rh, rhs, rfl, rfl, rfl, h3, _, hr'⟩ := hr.of_cons
    obtain ⟨ia, ib⟩ := ih hc' hr'
    obtain ⟨e0, e1, e2⟩ := midEntry_digit (n := n) sign hs hn h1 h2 h3
    refine ⟨assertInBox_cons.mpr ⟨⟨e0, e1⟩, ia⟩, ?_⟩
    show _ :: posIdent sds ns (zipWith3' _ (List.zip his los) rls ls) = _
    rw [e2, ib]
    cases sign <;> rfl

theorem DirOK.pos {n : List Int} {side L : List ℚ} (h : DirOK n side L) : (∀ x ∈ n, 1 ≤ x) ∧ (∀ sd ∈ side, 0 < sd) := by
  induction h using DirOK.rec' with
  | nil => exact ⟨fun _ h => (nomatch h), fun _ h => (nomatch h)⟩
  | cons hn hs _ ih => exact ⟨List.forall_mem_cons.mpr ⟨hn, ih.1⟩, List.forall_mem_cons.mpr ⟨hs, ih.2⟩⟩

theorem ExtNear.lengths : ∀ {side : List ℚ} {ident : List Int} {lo hi : List ℚ}, ExtNear side ident lo hi →
    ident.length = side.length
  | [], _, _, _, h => by rw [h.of_nil.1]; rfl
  | _ :: _, _, _, _, h => by
    obtain ⟨i, is, l, ls, h, hs, rfl, rfl, rfl, _, _, h'⟩ := h.of_cons
    simp [ExtNear.lengths h']

theorem DirOK.lengths : ∀ {n : List Int} {side L : List ℚ}, DirOK n side L → side.length = n.length := fun h => by
  induction h using DirOK.rec' with
  | nil => rfl
  | cons _ _ _ ih => exact congrArg (· + 1) ih

/-- `side = L / n` gives `L = n · side` in exact arithmetic -/
theorem dirOK_of_div : ∀ (n : List Int) (L : List ℚ), n.length = L.length → (∀ x ∈ n, 1 ≤ x) → (∀ l ∈ L, 0 < l) →
    DirOK n (List.zipWith (fun l n => l / Ops.rat.ofInt n) L n) L
  | [], [], _, _, _ => by simp [DirOK]
  | n :: ns, l :: ls, hlen, hpos, hL => by
    obtain ⟨hn, hpos'⟩ := List.forall_mem_cons.mp hpos
    obtain ⟨hl, hL'⟩ := List.forall_mem_cons.mp hL
    have hnq : (0 : ℚ) < n := by exact_mod_cast (show (0 : Int) < n by omega)
    exact ⟨⟨hn, div_pos hl hnq, (mul_div_cancel₀ l hnq.ne').symm⟩, dirOK_of_div ns ls (Nat.succ.inj hlen) hpos' hL'⟩
  | [], _ :: _, h, _, _ => by simp at h
  | _ :: _, [], h, _, _ => by simp at h


theorem trunc_mono {a b : ℚ} (h : a ≤ b) : Rat.trunc a ≤ Rat.trunc b := by
  rcases le_or_gt 0 a with ha | ha
  · rw [trunc_nonneg ha, trunc_nonneg (le_trans ha h)]; exact Int.floor_le_floor h
  · rcases le_or_gt 0 b with hb | hb
    · rw [trunc_neg ha, trunc_nonneg hb]
      have : ⌈a⌉ ≤ 0 := Int.ceil_le.mpr (by exact_mod_cast ha.le)
      have : 0 ≤ ⌊b⌋ := Int.floor_nonneg.mpr hb
      omega
    · rw [trunc_neg ha, trunc_neg hb]; exact Int.ceil_le_ceil h

theorem trunc_le_ceil (x : ℚ) : Rat.trunc x ≤ ⌈x⌉ := by
  rcases le_or_gt 0 x with h | h
  · rw [trunc_nonneg h]; exact Int.floor_le_ceil x
  · rw [trunc_neg h]

theorem trunc_slow {a b : ℚ} (h : b ≤ a + 1) : Rat.trunc b ≤ Rat.trunc a + 1 := by
  refine (trunc_mono h).trans ?_
  rcases le_or_gt 0 a with ha | ha
  · rw [trunc_nonneg ha, trunc_nonneg (add_nonneg ha zero_le_one), Int.floor_add_one]
  · rw [trunc_neg ha, ← Int.ceil_add_one]; exact trunc_le_ceil _

theorem cellDigit_rat_mono {side : ℚ} (hs : 0 < side) (n : ℤ) {x y : ℚ} (h : x ≤ y) :
    cellDigit Ops.rat side n x ≤ cellDigit Ops.rat side n y := by
  have : digit Ops.rat side x ≤ digit Ops.rat side y := by
    simp only [digit, rat_toInt]
    exact trunc_mono (div_le_div_of_nonneg_right h hs.le)
  unfold cellDigit; omega

theorem stepLaws_grid (side δ : ℚ) (n : ℤ) (hs : 0 < side) (hδ0 : 0 ≤ δ) (hδ : δ ≤ side) :
    StepLaws Ops.rat ⟨(· + δ), (· - δ)⟩ side n (n * side) := by
  refine ⟨fun x => by simp, fun x => by simp, ?_, ?_, fun x => not_le.symm, ?_, ?_⟩
  · intro x
    apply cellDigit_rat_mono hs
    show x - δ ≤ x
    linarith
  · intro x
    have : digit Ops.rat side x ≤ digit Ops.rat side (x - δ) + 1 := by
      simp only [digit, rat_toInt]
      apply trunc_slow
      have e : (x - δ) / side = x / side - δ / side := by ring
      have : δ / side ≤ 1 := (div_le_one hs).mpr hδ
      rw [e]; linarith
    show cellDigit Ops.rat side n x ≤ cellDigit Ops.rat side n (x - δ) + 1
    unfold cellDigit; omega
  · intro x hx
    show ¬ (n : ℚ) * side ≤ x - δ
    linarith [not_le.mp hx]
  · intro x hx _
    show cellDigit Ops.rat side n (x - δ) = n - 1
    have h1 : ((n - 1 : ℤ) : ℚ) ≤ (x - δ) / side := by
      rw [le_div_iff₀ hs]; push_cast; linarith
    have : n - 1 ≤ digit Ops.rat side (x - δ) := by
      have := trunc_mono h1
      rwa [trunc_intCast] at this
    unfold cellDigit; omega

end JF.Cells
