import JF.Lemmas.SystemRunMain
import JF.Props.C11
/-!
C11's full occupancy invariant `OccInv` along the runs of the composed system: the step from the occupancy of one leg to the
occupancy of the next (`occ_step`), with the premise `hmove` of `JF.C11.update_inv` discharged —
non-active units do not move (C07's kinematics), and the unit that stops being active has not left its recorded cell
(`Big.mirror` + `Big.stays`, i.e. the joint invariant).
-/
namespace JF.Sys
open JF JF.Act JF.CW JF.C14 JF.Kin JF.C11 JF.Occ

def relW (env : Env ℚ) (us : List (PUnit ℚ)) (u : Nat) : Bool := decide (u < us.length) && env.relevant u

/-- the cell that contains the position of unit `u` (for the units the occupancy keeps track of) -/
def cellW (env : Env ℚ) (us : List (PUnit ℚ)) (u : Nat) : Nat :=
  if relW env us u then env.cellOf (((us[u]?).map (·.pos)).getD []) else 0

theorem occInv_congr {rel : UId → Bool} {cellOf cellOf' : UId → Cell} {s : Occ.State} (h : OccInv rel cellOf s)
    (hc : ∀ u, rel u = true → cellOf u = cellOf' u) : OccInv rel cellOf' s := by
  refine ⟨h.wf, ?_, ?_⟩
  · rcases h.active with h1 | ⟨a, ha, hcell, hr⟩
    · exact Or.inl h1
    · exact Or.inr ⟨a, ha, by rw [← hc a hr]; exact hcell, hr⟩
  · intro u c
    rw [h.count u c]
    by_cases hr : rel u = true
    · simp only [hr, true_and, hc u hr]
    · simp [hr]

theorem relOf_map (env : Env ℚ) (us : List (PUnit ℚ)) : ∀ (l : List Nat) (u : Nat),
    C11.relOf (l.map (unitIn env us)) u = (decide (u ∈ l) && env.relevant u)
  | [], u => by simp [C11.relOf]
  | i :: l, u => by
      rw [List.map_cons, relOf_cons, relOf_map env us l u]
      by_cases h : i = u
      · subst h; simp [unitIn]
      · have h' : ¬ u = i := fun e => h e.symm
        simp [unitIn, h, h']

theorem cellOfUnits_map (env : Env ℚ) (us : List (PUnit ℚ)) : ∀ (l : List Nat) (u : Nat), u ∈ l →
    C11.cellOfUnits (l.map (unitIn env us)) u = (unitIn env us u).cell
  | [], u, h => by simp at h
  | i :: l, u, h => by
      rw [List.map_cons, cellOfUnits_cons]
      by_cases hi : i = u
      · subst hi; simp [unitIn]
      · have : (unitIn env us i).id ≠ u := hi
        rw [if_neg this]
        rcases List.mem_cons.mp h with h1 | h1
        · exact absurd h1.symm hi
        · exact cellOfUnits_map env us l u h1

theorem init_occInv (env : Env ℚ) (us : List (PUnit ℚ)) (cap : Int) :
    OccInv (relW env us) (cellW env us) (Occ.init cap (unitsOf env us)) := by
  have hnd : ((unitsOf env us).map (·.id)).Nodup := by
    have : (unitsOf env us).map (·.id) = List.range us.length := by
      unfold unitsOf
      rw [List.map_map]
      have : ((fun x : Occ.UnitIn => x.id) ∘ unitIn env us) = id := rfl
      rw [this, List.map_id]
    rw [this]; exact List.nodup_range
  have h := C11.init_inv cap (unitsOf env us) hnd
  have hrel : C11.relOf (unitsOf env us) = relW env us := by
    funext u
    unfold unitsOf relW
    rw [relOf_map]
    simp
  rw [hrel] at h
  refine occInv_congr h ?_
  intro u hr
  have hu : u < us.length := by
    unfold relW at hr
    simp only [Bool.and_eq_true, decide_eq_true_eq] at hr
    exact hr.1
  unfold unitsOf cellW
  rw [cellOfUnits_map env us _ u (List.mem_range.mpr hu), if_pos hr]
  rfl

section
variable {env : Env ℚ} {geo : Geo env}

theorem commits_length (ho : env.o = Ops.rat) {us us' : List (PUnit ℚ)} {kind : HandlerKind} {t : Time ℚ}
    (hc : Commits env geo kind t us us') : us'.length = us.length := by
  rcases hc with ⟨ev, _, _, _, rfl⟩ | ⟨_, rfl⟩
  · rw [ho]; exact step_length _ _ _
  · rfl

theorem commits_rest_pos (ho : env.o = Ops.rat) {us us' : List (PUnit ℚ)} {kind : HandlerKind} {t : Time ℚ}
    (hc : Commits env geo kind t us us') {i : Nat} {x : PUnit ℚ} (hx : us[i]? = some x) (hr : x.vel = none) :
    (us'[i]?).map (·.pos) = some x.pos := by
  rcases hc with ⟨ev, _, _, _, rfl⟩ | ⟨_, rfl⟩
  · rw [ho, step_pos env.L us ev i, hx]
    simp only [Option.map_some, Option.some.injEq]
    exact posAfter_of_rest env.L ev x hr
  · rw [hx]; rfl

theorem update_cell_indep {s : Occ.State} {new : Occ.UnitIn} (hr : new.relevant = false) (hid : s.activeId ≠ some new.id)
    (cc : Occ.Cell) : Occ.update s new = Occ.update s { new with cell := cc } := by
  unfold Occ.update
  have hne : (some new.id != s.activeId) = true := by
    simp only [bne_iff_ne, ne_eq]; exact fun e => hid e.symm
  simp only [hne, if_true]
  cases Occ.reinsertOld s with
  | error e => rfl
  | ok s1 => simp [Occ.activate, hr]

/-- `JF.C11.update_inv` for the unit `update` is called with in a run: its recorded cell need be the cell the invariant speaks
about only if the unit is relevant -/
theorem occInv_update {rel : UId → Bool} {cellOf cellOf' : UId → Cell} {occ occ' : Occ.State} {new : Occ.UnitIn}
    (ih : OccInv rel cellOf occ) (hrel : new.relevant = rel new.id) (hcell : new.relevant = true → new.cell = cellOf' new.id)
    (hmove : ∀ u, ¬(u = new.id ∧ occ.activeId = some u) → cellOf' u = cellOf u) (hu : Occ.update occ new = .ok occ') :
    OccInv rel cellOf' occ' := by
  have hupd : Occ.update occ new = Occ.update occ { new with cell := cellOf' new.id } := by
    by_cases hr : new.relevant = true
    · rw [← hcell hr]
    · apply update_cell_indep (by simpa using hr)
      intro hid
      rcases ih.active with ⟨hn, _⟩ | ⟨b, hb, _, hrb⟩
      · rw [hn] at hid; cases hid
      · rw [hb] at hid
        cases hid
        exact hr (hrel.trans hrb)
  obtain ⟨s', he, hinv⟩ := C11.update_inv (cellOf' := cellOf') { new with cell := cellOf' new.id } ih hrel rfl hmove
  rw [hupd, he] at hu
  cases hu
  exact hinv

theorem occ_step (ho : env.o = Ops.rat) {usPrev us : List (PUnit ℚ)} {occ occ' : Occ.State} {kind : HandlerKind} {t : Time ℚ}
    (ih : OccInv (relW env usPrev) (cellW env usPrev) occ)
    (hcons : Consistent env true ⟨usPrev, occ⟩)
    (hkp : (∀ u ∈ usPrev, u.vel = none) ∨ ∃ a0 pos0 v0 ts0, KinI env.L usPrev a0 pos0 v0 ts0)
    {a : Nat} {pos v : List ℚ} {ts : Time ℚ} (hk : KinI env.L us a pos v ts)
    (hcom : Commits env geo kind t usPrev us)
    (hmirror : OldActiveStays env occ usPrev usPrev)
    (hstays : kind ≠ .cellBoundary → OldActiveStays env occ usPrev us)
    (hocc : occAfter env true occ us = some occ') :
    OccInv (relW env us) (cellW env us) occ' := by
  obtain ⟨a', hm, hu⟩ := occAfter_some hocc
  rw [hk.movers] at hm
  have : a' = a := by simpa using hm.symm
  subst this
  have hlen := commits_length ho hcom
  have hrelW : relW env us = relW env usPrev := by funext u; unfold relW; rw [hlen]
  have ha : a' < us.length := hk.lt
  have hdis := hcom.dis
  have hmove : ∀ u, ¬(u = a' ∧ occ.activeId = some u) → cellW env us u = cellW env usPrev u := by
    intro u hnu
    unfold cellW
    rw [hrelW]
    by_cases hr : relW env usPrev u = true
    · simp only [hr, if_true]
      have hul : u < usPrev.length := by
        unfold relW at hr
        simp only [Bool.and_eq_true, decide_eq_true_eq] at hr
        exact hr.1
      have hrel : env.relevant u = true := by
        unfold relW at hr
        simp only [Bool.and_eq_true] at hr
        exact hr.2
      obtain ⟨x, hx⟩ : ∃ x, usPrev[u]? = some x := ⟨usPrev[u], List.getElem?_eq_getElem hul⟩
      cases hv : x.vel with
      | none =>
        have := commits_rest_pos ho hcom hx hv
        cases hy : us[u]? with
        | none => rw [hy] at this; simp at this
        | some y =>
          rw [hy] at this
          simp only [Option.map_some, Option.some.injEq] at this
          simp [hx, this]
      | some w =>
        -- `u` was the mover of `usPrev`, recorded as active, and is not the mover of `us`
        rcases hkp with hrest | ⟨a0, pos0, v0, ts0, hk0⟩
        · rw [hrest x (List.mem_of_getElem? hx)] at hv; cases hv
        · have hua0 : u = a0 := by
            by_contra hne
            rw [(hk0.2 u x hx).2.2 hne] at hv; cases hv
          subst hua0
          have hact : occ.activeId = some u := by
            have := (hcons rfl).1
            simp only [hk0.movers, expectedActive, hrel, if_true] at this
            exact this
          have hne : u ≠ a' := fun e => hnu ⟨e, hact⟩
          have hncb : kind ≠ .cellBoundary := by
            intro hcb
            have := (movers_of_identQuiet (env := env) (Or.inr hcb) hdis).1
            rw [hk.movers, hk0.movers] at this
            exact hne (by simpa using this.symm)
          have h1 := hmirror u hk0.movers hrel
          have h2 := hstays hncb u hk0.movers hrel
          rw [h1] at h2
          have := Option.some.inj h2
          simpa [unitIn] using this.symm
    · simp [hr]
  rw [hrelW]
  refine occInv_update (new := unitIn env us a') ih ?_ (fun hr => ?_) hmove hu
  · show env.relevant a' = relW env usPrev a'
    unfold relW; rw [← hlen]; simp [ha]
  · have hr' : env.relevant a' = true := hr
    unfold cellW relW
    simp [ha, hr', unitIn]

end

end JF.Sys
