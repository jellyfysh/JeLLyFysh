import JF.Lemmas.SystemRun
import JF.Lemmas.ConcreteWorld
import JF.Lemmas.C09PoolsRun
/-!
One leg of the spec-level mediator loop `JF.Med.leg` on a state that satisfies the mediator's invariant `JF.Med.MInv`, taken apart once
(`LegFacts`, `leg_facts`) for the three composed systems (`JF.Sys`, `JF.Sys2`, `JF.Sys3L`), whose induction steps differ in the world
only; and what the three systems read off `WiringSound` in the same way.
-/
namespace JF.SysLeg
open JF JF.Act JF.Heap JF.Sched JF.Med JF.C14 JF.MediatorLoop JF.Sys

variable {c : Wiring} {S : TaggerIdx} {needs : HandlerId → Bool}

theorem endOfRun_of_stop {cl : Committed XTime} {E : TaggerIdx} (ho : owner c.wires cl.handler = some E)
    (hst : cl.stop = (mwire c S needs).endOfRun cl.handler) : cl.stop = ((c.tagger E).kind == HandlerKind.endOfRun) :=
  hst.trans (endOfRun_mwire ho)

theorem not_endOfRun_of_go {cl : Committed XTime} {E : TaggerIdx} (ho : owner c.wires cl.handler = some E)
    (hst : cl.stop = (mwire c S needs).endOfRun cl.handler) (hgo : cl.stop = false) : (c.tagger E).kind ≠ .endOfRun := by
  intro hk
  rw [endOfRun_of_stop ho hst, hk] at hgo
  cases hgo

/-- a commit that may change the active unit trashes every activated cell-boundary tagger — read off `WiringSound` (clauses (a)
and (c): the cell-boundary tagger's yield reads the identity of the active unit) -/
theorem trashes_cb_of_ident {G : Type} {W : World G} (sound : WiringSound c = true) (hS : c.start? = some S) (hlive : LiveIs c W)
    {rs : RS G} (inv : RunInv c W S rs) {E : TaggerIdx} (hE : (getT rs.act E).running ≠ [])
    (hend : (c.tagger E).kind ≠ .endOfRun) (haff : affects (c.tagger E) .ident = true)
    {B : TaggerIdx} (hB : B < c.n) (hBc : (c.tagger B).cls = .cellBoundary) (hBk : (c.tagger B).kind = .cellBoundary)
    (hBa : aGet (absOf rs.act) B = true) : B ∈ (c.tagger E).trashes := by
  obtain ⟨hEn, _, hcan⟩ := inv.canCommit_pending hS hlive.live hE hend
  obtain ⟨_, _, hviol⟩ := C09Pools.wiringSound_parts sound hS
  have hBs : (c.tagger B).kind ≠ .startOfRun := by rw [hBk]; decide
  obtain ⟨cl1, _, cl3, _⟩ := clauses_of_no_violation (no_violation hviol inv.reach hEn hcan hB) hBs
  by_contra ht
  by_cases hc : B ∈ (c.tagger E).creates
  · have := cl1 hc ht; rw [hBa] at this; cases this
  · rcases (cl3 ht hc).2 with h | h
    · rw [hBa] at h; cases h
    · have := CW.disjoint_ident h haff
      simp [reads, hBc] at this

/-- a leg from the mediator state `med` (ghost dictionary `p`, last commit time `l`) on the oracle value `o`, with record `cm`, to
`med'`; `mid` are the activator's lists in the middle of the leg, `E'` is the tagger of the committed handler -/
structure LegFacts (c : Wiring) (S : TaggerIdx) (needs : HandlerId → Bool) (p : Pend XTime) (l : XTime)
    (med : MedState (SSched XTime)) (o : Oracle XTime) (cm : Committed XTime) (med' : MedState (SSched XTime)) (mid : Act)
    (E' : TaggerIdx) : Prop where
  minv : MInv (I := specI xcfg) (mwire c S needs) (SRel xcfg) med' (pendAfter p cm) cm.time
  ok : LegOK xcfg xcfg.finite p l cm
  pushed : cm.pushed = cm.created.map fun q => (q.1, o.cand q.1)
  prec : med'.preceding = some cm.handler
  stopEq : cm.stop = (mwire c S needs).endOfRun cm.handler
  owner : owner c.wires cm.handler = some E'
  running : cm.handler ∈ (getT mid E').running
  trashed : cm.trashed = (trash c.wires mid E').2
  trashEq : med'.act.ts = (trash c.wires mid E').1
  started : med'.act.started = true
  pmid : PoolInv c.wires mid
  mirr : ∀ x, (pendPushed p cm x).isSome ↔ ∃ T, x ∈ (getT mid T).running
  toRun : ∃ a1, getToRun c.wires S med.act med.preceding o.yields = (a1, .ok cm.created) ∧ mid = a1.ts

theorem leg_facts (hs : Med.Static (mwire c S needs)) {p : Pend XTime} {l : XTime} {med med' : MedState (SSched XTime)}
    {o : Oracle XTime} {cm : Committed XTime} (inv : MInv (I := specI xcfg) (mwire c S needs) (SRel xcfg) med p l)
    (e : leg (mwire c S needs) (specI xcfg) med o = .ok (med', cm)) {mid : Act} (hmid : mid = midAct (mwire c S needs) med o) :
    ∃ E', LegFacts c S needs p l med o cm med' mid E' := by
  subst hmid
  obtain ⟨E', f⟩ := Med.leg_facts (specLaws xcfg_strictWeak) hs inv e
  exact ⟨E', f.minv, f.ok, f.pushed, f.prec, f.stopEq, f.owner, f.running, f.trashed, f.trashEq, leg_started e, f.pmid, f.mirr,
    _, f.toRun, rfl⟩

theorem minv_of_init {med : MedState (SSched XTime)} (h : med = MedState.init (specI xcfg) c.wires) :
    MInv (I := specI xcfg) (mwire c S needs) (SRel xcfg) med (fun _ => none) xcfg.bot := by
  rw [h]; exact minv_init (specLaws xcfg_strictWeak) (mwire c S needs)

section
variable {p : Pend XTime} {l : XTime} {med med' : MedState (SSched XTime)} {o : Oracle XTime} {cm : Committed XTime}
  {mid : Act} {E' : TaggerIdx}

theorem LegFacts.norm (f : LegFacts c S needs p l med o cm med' mid E') (hp : ∀ h t, p h = some t → NormX t)
    (hn : ∀ q ∈ cm.created, NormX (o.cand q.1)) :
    (∀ h t, pendPushed p cm h = some t → NormX t) ∧ NormX cm.time ∧ ∀ h t, pendAfter p cm h = some t → NormX t := by
  have hmid : ∀ h t, pendPushed p cm h = some t → NormX t := by
    intro h t e
    rcases pushAll_some _ _ e with h1 | h1
    · exact hp h t h1
    · rw [f.pushed] at h1
      obtain ⟨q, hq, hqe⟩ := List.mem_map.mp h1
      simp only [Prod.mk.injEq] at hqe
      obtain ⟨rfl, rfl⟩ := hqe
      exact hn q hq
  exact ⟨hmid, hmid _ _ f.ok.pending, fun h t e => hmid h t (pendAfter_some e).2⟩

theorem LegFacts.last_le (f : LegFacts c S needs p l med o cm med' mid E') {tl t' : Time ℚ} (hl : l = .fin tl)
    (htl : Normalised tl) (ht' : cm.time = .fin t') (ht'n : Normalised t') : val tl ≤ val t' := by
  have := f.ok.guard
  rw [ht', hl] at this
  exact (xlt_false_iff ht'n htl).mp this

theorem LegFacts.commit_le (f : LegFacts c S needs p l med o cm med' mid E') {h : HandlerId} {τ t' : Time ℚ}
    (e : pendPushed p cm h = some (.fin τ)) (hτn : Normalised τ) (ht' : cm.time = .fin t') (ht'n : Normalised t') :
    val t' ≤ val τ ∧ (pendPushed p cm h ≠ some cm.time → val t' < val τ) := by
  have hmin := f.ok.minimal h _ e rfl
  rw [ht'] at hmin
  have hle := (xlt_false_iff hτn ht'n).mp hmin
  refine ⟨hle, fun hne => lt_of_le_of_ne hle fun heq => hne ?_⟩
  rw [e, ht', normalised_ext hτn ht'n heq.symm]

theorem LegFacts.update (f : LegFacts c S needs p l med o cm med' mid E') (hst : med.act.started = true) {h : HandlerId}
    {E : TaggerIdx} (hpre : med.preceding = some h) (ho : Act.owner c.wires h = some E) :
    Act.update c.wires med.act.ts E o.yields = some (mid, cm.created) := by
  obtain ⟨a1, hgtr, hmid⟩ := f.toRun
  rw [hpre] at hgtr
  rw [hmid]
  exact getToRun_started hst ho hgtr

theorem LegFacts.first (f : LegFacts c S needs p l med o cm med' mid E') (hS : c.start? = some S)
    (hm : med = MedState.init (specI xcfg) c.wires) :
    Act.first c.wires (initAct c.wires) S o.yields = some (mid, cm.created) ∧ E' = S ∧
    ∀ h, (pendPushed p cm h).isSome → kindOfH c h = .startOfRun := by
  obtain ⟨a1, hgtr, hmid⟩ := f.toRun
  have hact0 : med.act = ⟨false, initAct c.wires⟩ := by rw [hm]; rfl
  have hpre0 : med.preceding = none := by rw [hm]; rfl
  rw [hpre0] at hgtr
  have hfirst := (getToRun_first (by rw [hact0]) hgtr).1
  rw [hact0, ← hmid] at hfirst
  have hrun : ∀ {x T}, x ∈ (getT mid T).running → T = S := fun hx => by
    by_contra hne
    rw [first_running_nil hfirst hne] at hx
    cases hx
  refine ⟨hfirst, hrun f.running, fun h hp => ?_⟩
  obtain ⟨T, hT⟩ := (f.mirr h).mp hp
  obtain rfl := hrun hT
  rw [kindOfH_of_owner (owner_of_running (poolsOK_wires c) f.pmid hT)]
  exact (start_spec hS).2.1

/-- `hcl`: C08's clause (h) for the committing tagger -/
theorem LegFacts.trashed_of (f : LegFacts c S needs p l med o cm med' mid E') {h : HandlerId} {T : TaggerIdx}
    (hT : Act.owner c.wires h = some T) (hp : (pendPushed p cm h).isSome)
    (hcl : T ∈ (getW c.wires E').trashes ∨ (getT mid T).running = []) : h ∈ cm.trashed := by
  obtain ⟨T', hT'⟩ := (f.mirr h).mp hp
  obtain rfl : T = T' := Option.some.inj (hT.symm.trans (owner_of_running (poolsOK_wires c) f.pmid hT'))
  rcases hcl with h1 | h1
  · rw [f.trashed]
    exact (trashLoop_out_mem _ _ h).mpr ⟨T, h1, hT'⟩
  · rw [h1] at hT'; cases hT'

end

theorem not_bound_of_start {h : HandlerId} {T : TaggerIdx} (hT : owner c.wires h = some T)
    (hb : motionBound (c.tagger T) = true) : kindOfH c h ≠ .startOfRun := by
  intro hk
  rw [kindOfH_of_owner hT] at hk
  rw [motionBound, hk] at hb
  cases hb

section
variable {α : Type} {P : List α → α → Prop} {cs : List α}

theorem everyLeg_snoc {cm : α} (h : ∀ k x, (cs ++ [cm])[k]? = some x → P ((cs ++ [cm]).take k) x) :
    (∀ k x, cs[k]? = some x → P (cs.take k) x) ∧ P cs cm := by
  constructor
  · intro k x hk
    have hlt : k < cs.length := (List.getElem?_eq_some_iff.mp hk).1
    have := h k x (by rw [List.getElem?_append_left hlt]; exact hk)
    rwa [List.take_append_of_le_length (Nat.le_of_lt hlt)] at this
  · have := h cs.length cm (by simp)
    simpa using this

theorem everyLeg_concat {cm : α} (h : ∀ k x, cs[k]? = some x → P (cs.take k) x) (hc : P cs cm) :
    ∀ k x, (cs ++ [cm])[k]? = some x → P ((cs ++ [cm]).take k) x := by
  intro k x hk
  rcases Nat.lt_or_ge k cs.length with hlt | hge
  · rw [List.getElem?_append_left hlt] at hk
    rw [List.take_append_of_le_length (Nat.le_of_lt hlt)]
    exact h k x hk
  · have hlen := (List.getElem?_eq_some_iff.mp hk).1
    obtain rfl : k = cs.length := by simp at hlen; omega
    rw [List.getElem?_concat_length] at hk
    cases hk
    rw [List.take_left' rfl]
    exact hc

theorem everyLeg_take (h : ∀ k x, cs[k]? = some x → P (cs.take k) x) (n : Nat) :
    ∀ k x, (cs.take n)[k]? = some x → P ((cs.take n).take k) x := by
  intro j x hj
  rw [List.getElem?_take] at hj
  split at hj
  · next hjk =>
    have := h j x hj
    rwa [List.take_take, Nat.min_eq_left (Nat.le_of_lt hjk)]
  · cases hj

theorem everyLeg_last (h : ∀ k x, cs[k]? = some x → P (cs.take k) x) {cl : α} (hl : cs.getLast? = some cl) :
    P cs.dropLast cl := by
  have h' : ∀ k x, (cs.dropLast ++ [cl])[k]? = some x → P ((cs.dropLast ++ [cl]).take k) x := by
    rw [List.dropLast_append_getLast? cl (by rw [hl]; simp)]; exact h
  exact (everyLeg_snoc h').2

end

/-- a leg's record is determined by its six components (`P`: whatever else is read off the same evaluation of the leg) -/
theorem committed_eq {c r : Committed XTime} {P : Prop}
    (e : (c.created = r.created ∧ c.pushed = r.pushed ∧ c.handler = r.handler ∧ c.time = r.time ∧ c.trashed = r.trashed ∧
      c.stop = r.stop) ∧ P) : c = r ∧ P := by
  cases c; cases r
  obtain ⟨⟨rfl, rfl, rfl, rfl, rfl, rfl⟩, hp⟩ := e
  exact ⟨rfl, hp⟩

/-- the result of one evaluation of `JF.Med.leg` checked against the expected record: what the example runs read off a leg (the
record; `started`; the scheduler's last time is the committed time) -/
def legOK {ε : Type} (r : Except ε (MedState (SSched XTime) × Committed XTime)) (rec : Committed XTime) : Bool :=
  match r with
  | .ok (m, c) =>
    decide (c.created = rec.created ∧ c.pushed = rec.pushed ∧ c.handler = rec.handler ∧ c.time = rec.time ∧ c.trashed = rec.trashed ∧
      c.stop = rec.stop) && m.act.started && decide (m.sched.last = rec.time)
  | .error _ => false

theorem legOK_spec {ε : Type} {r : Except ε (MedState (SSched XTime) × Committed XTime)} {rec : Committed XTime}
    (h : legOK r rec = true) :
    r.toOption.isSome = true ∧ ∀ hs, (r.toOption.get hs).2 = rec ∧ (r.toOption.get hs).1.act.started = true ∧
      (r.toOption.get hs).1.sched.last = rec.time := by
  cases r with
  | error _ => cases h
  | ok x =>
    simp only [legOK, Bool.and_eq_true, decide_eq_true_eq] at h
    exact ⟨rfl, fun _ => ⟨(committed_eq ⟨h.1.1, trivial⟩).1, h.1.2, h.2⟩⟩

/-- `NormX`, decided -/
def normXb : XTime → Bool
  | .fin t => t.q.den == 1 && decide (0 ≤ t.r) && decide (t.r < 1)
  | .inf => true
  | .bot => false

theorem normXb_spec {t : XTime} (h : normXb t = true) : NormX t := by
  cases t with
  | bot => cases h
  | inf => trivial
  | fin t =>
    simp only [normXb, Bool.and_eq_true, beq_iff_eq, decide_eq_true_eq] at h
    exact ⟨⟨t.q.num, (Rat.coe_int_num_of_den_eq_one h.1.1).symm⟩, h.1.2, h.2⟩

theorem go_snoc {cs cs' : List (Committed XTime)} {cm : Committed XTime} (e : cs' = cs ++ [cm]) (h : cm.stop = false) :
    ∀ cl, cs'.getLast? = some cl → cl.stop = false := by
  intro cl hl
  rw [e, List.getLast?_concat] at hl
  cases hl
  exact h

end JF.SysLeg
