import JF.Model.CellTaggers
import Mathlib.Data.List.Perm.Basic
import Mathlib.Data.List.Nodup
import Mathlib.Data.Int.ModEq
/-!
Helper lemmas for C10 (cell half): the integer torus behind `CuboidPeriodicCells`.

* `dedupe` is a set: same members, no duplicates;
* `allCells` enumerates exactly the valid identifiers, each once;
* translation by a valid cell permutes the grid (`translate_perm`) and maps the neighbourhood of the
  zero cell onto the neighbourhood of the cell (`isNearby_translate`); a permutation that carries one
  predicate to another carries the one part of the list onto the other (`List.Perm.filter_map_comm`).
-/
namespace JF.CellTaggers


theorem mem_dedupe {α : Type} [BEq α] [LawfulBEq α] {x : α} : ∀ {l : List α}, x ∈ dedupe l ↔ x ∈ l
  | [] => by simp [dedupe]
  | y :: ys => by
    have ih := mem_dedupe (x := x) (l := ys)
    simp only [dedupe, List.contains_iff_mem]
    split <;> simp only [List.mem_cons, ih]
    grind

theorem nodup_dedupe {α : Type} [BEq α] [LawfulBEq α] : ∀ (l : List α), (dedupe l).Nodup
  | [] => by simp [dedupe]
  | y :: ys => by
    simp only [dedupe, List.contains_iff_mem]
    split
    · exact nodup_dedupe ys
    · exact List.nodup_cons.mpr ⟨fun hm => ‹¬ y ∈ ys› (mem_dedupe.mp hm), nodup_dedupe ys⟩


@[simp] theorem valid_nil_nil : Valid [] [] = True := rfl
@[simp] theorem valid_cons_cons (n c : Nat) (ns : List Nat) (cs : Cell) :
    Valid (n :: ns) (c :: cs) = (c < n ∧ Valid ns cs) := rfl
@[simp] theorem valid_nil_cons (c : Nat) (cs : Cell) : Valid [] (c :: cs) = False := rfl
@[simp] theorem valid_cons_nil (n : Nat) (ns : List Nat) : Valid (n :: ns) [] = False := rfl

theorem mem_allCells : ∀ {ns : List Nat} {c : Cell}, c ∈ allCells ns ↔ Valid ns c
  | [], c => by cases c <;> simp [allCells]
  | n :: ns, c => by
    simp only [allCells, List.mem_flatMap, List.mem_map, List.mem_range]
    constructor
    · rintro ⟨t, ht, x, hx, rfl⟩
      exact ⟨hx, mem_allCells.mp ht⟩
    · intro h
      cases c with
      | nil => simp at h
      | cons x t => exact ⟨t, mem_allCells.mpr h.2, x, h.1, rfl⟩

theorem nodup_allCells : ∀ (ns : List Nat), (allCells ns).Nodup
  | [] => by simp [allCells]
  | n :: ns => by
    simp only [allCells]
    rw [List.nodup_flatMap]
    refine ⟨fun t _ => ?_, ?_⟩
    · exact (List.nodup_range).map (fun a b h => by simpa using h)
    · refine (nodup_allCells ns).pairwise_of_forall_ne fun a _ b _ hab => ?_
      simp only [Function.onFun, List.Disjoint, List.mem_map, List.mem_range]
      rintro c ⟨x, _, rfl⟩ ⟨y, _, h⟩
      simp only [List.cons.injEq] at h
      exact hab h.2.symm

theorem valid_induction₂ {motive : List Nat → Cell → Cell → Prop} (nil : motive [] [] [])
    (cons : ∀ {n ns c cs r rs}, c < n → r < n → Valid ns cs → Valid ns rs → motive ns cs rs →
      motive (n :: ns) (c :: cs) (r :: rs)) :
    ∀ {ns : List Nat} {c r : Cell}, Valid ns c → Valid ns r → motive ns c r
  | [], [], [], _, _ => nil
  | _ :: _, _ :: _, _ :: _, hc, hr => cons hc.1 hr.1 hc.2 hr.2 (valid_induction₂ nil cons hc.2 hr.2)
  | [], _ :: _, _, h, _ | _ :: _, [], _, h, _ | [], [], _ :: _, _, h | _ :: _, _ :: _, [], _, h => by simp at h


theorem mem_near1 {n ℓ c x : Nat} :
    x ∈ near1 n ℓ c ↔ ∃ k, k < 2 * ℓ + 1 ∧ (((c : Int) - ℓ + k) % n).toNat = x := by
  simp [near1, List.mem_map, List.mem_range]

theorem near1_lt {n ℓ c x : Nat} (hn : 0 < n) (h : x ∈ near1 n ℓ c) : x < n := by
  obtain ⟨k, _, rfl⟩ := mem_near1.mp h
  have h1 := Int.emod_lt_of_pos ((c : Int) - ℓ + k) (b := (n : Int)) (by exact_mod_cast hn)
  have h2 := Int.emod_nonneg ((c : Int) - ℓ + k) (b := (n : Int)) (by omega)
  omega

theorem mem_near1_iff {n ℓ c x : Nat} (hn : 0 < n) (hx : x < n) :
    x ∈ near1 n ℓ c ↔ ∃ k : Nat, k < 2 * ℓ + 1 ∧ (x : Int) ≡ (c : Int) - ℓ + k [ZMOD n] := by
  rw [mem_near1]
  have hn' : (n : Int) ≠ 0 := by omega
  refine exists_congr fun k => and_congr_right fun _ => ?_
  have h2 := Int.emod_nonneg ((c : Int) - ℓ + k) hn'
  have hxm : (x : Int) % n = x := Int.emod_eq_of_lt (by omega) (by exact_mod_cast hx)
  unfold Int.ModEq
  rw [hxm]
  constructor
  · intro h; omega
  · intro h; omega

theorem near1_translate {n ℓ c r : Nat} (hr : r < n) : (c + r) % n ∈ near1 n ℓ c ↔ r ∈ near1 n ℓ 0 := by
  have hn : 0 < n := by omega
  rw [mem_near1_iff hn (Nat.mod_lt _ hn), mem_near1_iff hn hr]
  refine exists_congr fun k => and_congr_right fun _ => ?_
  have e1 : (((c + r) % n : Nat) : Int) ≡ (c : Int) + r [ZMOD n] := by
    rw [Int.natCast_mod]; push_cast; exact Int.mod_modEq _ _
  have e2 : (c : Int) - ℓ + k = (c : Int) + (((0 : Nat) : Int) - ℓ + k) := by omega
  rw [e2]
  exact ⟨fun h => Int.ModEq.add_left_cancel' _ (e1.symm.trans h), fun h => e1.trans (h.add_left _)⟩


@[simp] theorem mem_nearbyProduct_cons {ℓ n c x : Nat} {ns : List Nat} {cs xs : Cell} :
    x :: xs ∈ nearbyProduct ℓ (n :: ns) (c :: cs) ↔ x ∈ near1 n ℓ c ∧ xs ∈ nearbyProduct ℓ ns cs := by
  simp [nearbyProduct]

theorem nearbyProduct_valid {ℓ : Nat} : ∀ {ns : List Nat} {c x : Cell}, Valid ns c → x ∈ nearbyProduct ℓ ns c →
    Valid ns x
  | [], [], x, _, hx => by simp_all [nearbyProduct]
  | n :: ns, c :: cs, x, h, hx => by
    simp only [nearbyProduct, List.mem_flatMap, List.mem_map] at hx
    obtain ⟨y, hy, t, ht, rfl⟩ := hx
    exact ⟨near1_lt (by have := h.1; omega) hy, nearbyProduct_valid h.2 ht⟩
  | [], _ :: _, _, h, _ | _ :: _, [], _, h, _ => by simp at h

theorem nodup_nearby (g : Grid) (c : Cell) : (nearby g c).Nodup := nodup_dedupe _

theorem translate_valid {ns : List Nat} {c r : Cell} (hc : Valid ns c) (hr : Valid ns r) :
    Valid ns (translate ns c r) :=
  valid_induction₂ (motive := fun ns c r => Valid ns (translate ns c r)) trivial
    (fun hc _ _ _ ih => ⟨Nat.mod_lt _ (by omega), ih⟩) hc hr

/-- `translate(c, ·)` maps the neighbourhood of the zero cell onto the neighbourhood of `c` -/
theorem isNearby_translate {g : Grid} {c r : Cell} (hc : Valid g.n c) (hr : Valid g.n r) :
    isNearby g c (translate g.n c r) = isNearby g (zeroCell g.n) r := by
  have h : translate g.n c r ∈ nearbyProduct g.layers g.n c ↔ r ∈ nearbyProduct g.layers g.n (zeroCell g.n) := by
    refine valid_induction₂ (motive := fun ns c r =>
      translate ns c r ∈ nearbyProduct g.layers ns c ↔ r ∈ nearbyProduct g.layers ns (zeroCell ns)) ?_ ?_ hc hr
    · simp [translate, nearbyProduct]
    · intro n ns c cs r rs hc hr _ _ ih
      simp only [translate, zeroCell, List.map_cons, mem_nearbyProduct_cons, near1_translate hr]
      exact and_congr_right fun _ => ih
  simp only [isNearby, nearby, List.contains_eq_mem, mem_dedupe, h]

theorem translate_inj {ns : List Nat} {c r r' : Cell} (hc : Valid ns c) (hr : Valid ns r) (hr' : Valid ns r')
    (h : translate ns c r = translate ns c r') : r = r' := by
  refine valid_induction₂ (motive := fun ns c r => ∀ r', Valid ns r' → translate ns c r = translate ns c r' → r = r')
    ?_ ?_ hc hr r' hr' h
  · intro r' hr' _
    cases r' with
    | nil => rfl
    | cons _ _ => simp at hr'
  · intro n ns c cs r rs hc hr _ _ ih r' hr' h
    cases r' with
    | nil => simp at hr'
    | cons y ys =>
      simp only [translate, List.cons.injEq] at h
      rw [(Nat.ModEq.add_left_cancel' c h.1).eq_of_lt_of_lt hr hr'.1, ih ys hr'.2 h.2]

/-- translation by a cell of the grid permutes the grid: it is injective and maps the grid into itself -/
theorem translate_perm {ns : List Nat} {c : Cell} (hc : Valid ns c) :
    ((allCells ns).map (translate ns c)).Perm (allCells ns) :=
  (List.subperm_of_subset
    ((nodup_allCells ns).map_on fun _ hx _ hy => translate_inj hc (mem_allCells.mp hx) (mem_allCells.mp hy))
    (List.forall_mem_map.mpr fun _ hr => mem_allCells.mpr (translate_valid hc (mem_allCells.mp hr)))).perm_of_length_le
    (by rw [List.length_map])

/-- a map that permutes `l` and carries `q` to `p` carries the `q`-part of `l` onto its `p`-part -/
theorem _root_.List.Perm.filter_map_comm {α : Type} {l : List α} {f : α → α} (hf : (l.map f).Perm l) {p q : α → Bool}
    (h : ∀ x ∈ l, p (f x) = q x) : ((l.filter q).map f).Perm (l.filter p) := by
  rw [List.filter_congr fun x hx => (h x hx).symm]
  exact (List.filter_map (f := f) (p := p)).symm ▸ hf.filter p

theorem translate_relative : ∀ {ns : List Nat} {c x : Cell}, Valid ns c → Valid ns x →
    translate ns c (relative ns x c) = x := by
  intro ns c x hc hx
  refine valid_induction₂ (motive := fun ns c x => translate ns c (relative ns x c) = x) rfl ?_ hc hx
  intro n ns c cs x xs hc hx _ _ ih
  have : c + (x + (n - c)) = x + n := by omega
  simp only [translate, relative]
  rw [Nat.mod_eq_of_lt hc, Nat.add_mod_mod, this, Nat.add_mod_right, Nat.mod_eq_of_lt hx, ih]

/-- `relative_cell(c, zero_cell) = c`: the key of the derivative-bound table is the walker item -/
theorem relative_zero : ∀ {ns : List Nat} {c : Cell}, Valid ns c → relative ns c (zeroCell ns) = c
  | [], [], _ => by simp [relative]
  | n :: ns, c :: cs, hc => by
    simp only [valid_cons_cons] at hc
    simp only [relative, zeroCell, List.map_cons, Nat.zero_mod, Nat.sub_zero, Nat.add_mod_right,
      Nat.mod_eq_of_lt hc.1]
    exact congrArg _ (relative_zero hc.2)
  | [], _ :: _, h | _ :: _, [], h => by simp at h

end JF.CellTaggers
