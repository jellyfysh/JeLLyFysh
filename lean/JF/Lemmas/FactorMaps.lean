import JF.Model.FactorMaps
import JF.Lemmas.FactorCells
import Mathlib.Data.List.Perm.Basic
import Mathlib.Data.List.Nodup
/-!
Helper lemmas for C10 (factor-file half): what `_instantiate_factor_type_maps` leaves in the maps.

`Good s seen fs`: after the lines `seen`, the dictionary `fs` has an entry exactly for the factor
types that occurred, its `local` flag is the common locality of all lines of that type, and
`map[i]` is — for an index `i` of the first composite object — the list of all lines of the type
that contain `i` (once per occurrence), in file order, and absent iff there is none; every index
seen is below `2 * nPer`.
-/
namespace JF.FactorMaps

/-- `self._map.get(j, [])` -/
def getL (m : IndexMap) (j : Nat) : List (List Nat) := (m.lookup j).getD []

/-- no key with an empty list (keys are created only together with a first entry) -/
def NoEmpty (m : IndexMap) : Prop := ∀ j l, m.lookup j = some l → l ≠ []

theorem lookup_none_iff {m : IndexMap} (h : NoEmpty m) (j : Nat) : m.lookup j = none ↔ getL m j = [] := by
  unfold getL
  cases hl : m.lookup j with
  | none => simp
  | some l => simpa using h j l hl

theorem lookup_some_getL {m : IndexMap} {j : Nat} {l : List (List Nat)} (h : m.lookup j = some l) :
    getL m j = l := by simp [getL, h]

theorem lookup_mapAppend (m : IndexMap) (i : Nat) (S : List Nat) (j : Nat) :
    (mapAppend m i S).lookup j = if j = i then some (getL m i ++ [S]) else m.lookup j := by
  induction m with
  | nil => simp only [mapAppend, getL, List.lookup_cons, List.lookup_nil]; grind
  | cons p rest ih =>
    simp only [mapAppend, getL] at ih ⊢
    split <;> simp only [List.lookup_cons, ih] <;> grind

theorem getL_mapAppend (m : IndexMap) (i : Nat) (S : List Nat) (j : Nat) :
    getL (mapAppend m i S) j = if j = i then getL m i ++ [S] else getL m j := by
  unfold getL
  rw [lookup_mapAppend]
  split <;> simp [getL]

theorem noEmpty_mapAppend {m : IndexMap} (h : NoEmpty m) (i : Nat) (S : List Nat) :
    NoEmpty (mapAppend m i S) := by
  intro j l hl
  rw [lookup_mapAppend] at hl
  split at hl
  · simp only [Option.some.injEq] at hl; subst hl; simp
  · exact h j l hl

/-- the loop of `append_to_map` over a tail `is` of the index list `S` -/
def foldAppend (n : Nat) (S : List Nat) (is : List Nat) (m : IndexMap) : IndexMap :=
  is.foldl (fun m index => if index ≥ n then m else mapAppend m index S) m

theorem appendToMap_eq (n : Nat) (m : IndexMap) (S : List Nat) : appendToMap n m S = foldAppend n S S m := rfl

theorem getL_foldAppend (n : Nat) (S : List Nat) : ∀ (is : List Nat) (m : IndexMap) (j : Nat),
    getL (foldAppend n S is m) j = getL m j ++ if j < n then List.replicate (is.count j) S else []
  | [], m, j => by simp [foldAppend]
  | i :: is, m, j => by
    have ih := fun m => getL_foldAppend n S is m j
    simp only [foldAppend, List.foldl_cons] at ih ⊢
    by_cases hi : i ≥ n
    · rw [if_pos hi, ih]
      by_cases hj : j < n
      · simp [hj, show ¬ i = j by omega]
      · simp [hj]
    · rw [if_neg hi, ih, getL_mapAppend]
      by_cases hji : j = i
      · subst hji; simp [show j < n by omega, List.replicate_succ]
      · simp [hji, List.count_cons_of_ne fun h : i = j => hji h.symm]

theorem noEmpty_foldAppend (n : Nat) (S : List Nat) : ∀ (is : List Nat) (m : IndexMap),
    NoEmpty m → NoEmpty (foldAppend n S is m)
  | [], m, h => h
  | i :: is, m, h => by
    simp only [foldAppend, List.foldl_cons]
    split
    · exact noEmpty_foldAppend n S is m h
    · exact noEmpty_foldAppend n S is _ (noEmpty_mapAppend h i S)

theorem lookup_upsert (fs : Factors) (k : String) (v : TypeMap) (k' : String) :
    (upsert fs k v).lookup k' = if k' = k then some v else fs.lookup k' := by
  induction fs with
  | nil => simp only [upsert, List.lookup_cons, List.lookup_nil]; grind
  | cons p rest ih =>
    simp only [upsert]
    split <;> simp only [List.lookup_cons, ih] <;> grind

theorem setLocal_ok {tm tm' : TypeMap} {v : Bool} (h : setLocal tm v = .ok tm') :
    tm'.isLocal = some v ∧ tm'.map = tm.map ∧ ∀ b, tm.isLocal = some b → b = v := by
  unfold setLocal at h
  split at h
  · rename_i hn
    cases h; exact ⟨rfl, rfl, fun b hb => by rw [hn] at hb; cases hb⟩
  · rename_i b hb
    split at h
    · cases h
    · rename_i hv
      cases h
      have : v = b := by simpa using hv
      exact ⟨this ▸ hb, rfl, fun b' hb' => by rw [hb] at hb'; cases hb'; exact this.symm⟩


/-- index lists of the lines of factor type `ty`, in file order -/
def linesOf (lines : List Line) (ty : String) : List (List Nat) :=
  (lines.filter fun ln => ln.ty == ty).map (·.idx)

/-- the lines that contain `i`, once per occurrence of `i` in the line -/
def entries (i : Nat) (L : List (List Nat)) : List (List Nat) :=
  L.flatMap fun S => List.replicate (S.count i) S

/-- `all(index < n for index in line)` -/
def isLocalLine (n : Nat) (S : List Nat) : Bool := S.all fun i => i < n

structure GoodTy (s : Setting) (L : List (List Nat)) (tm : TypeMap) : Prop where
  nonempty : L ≠ []
  loc : ∀ S ∈ L, tm.isLocal = some (isLocalLine s.nPer S)
  map : ∀ j, getL tm.map j = if j < s.nPer then entries j L else []
  noEmpty : NoEmpty tm.map

structure Good (s : Setting) (seen : List Line) (fs : Factors) : Prop where
  absent : ∀ ty, fs.lookup ty = none → linesOf seen ty = []
  present : ∀ ty tm, fs.lookup ty = some tm → GoodTy s (linesOf seen ty) tm
  bound : ∀ ln ∈ seen, ∀ i ∈ ln.idx, i < 2 * s.nPer

theorem good_nil (s : Setting) : Good s [] [] :=
  ⟨fun _ _ => rfl, fun _ _ h => by simp at h, fun _ h => by simp at h⟩

theorem linesOf_append_same (seen : List Line) (ln : Line) :
    linesOf (seen ++ [ln]) ln.ty = linesOf seen ln.ty ++ [ln.idx] := by
  simp [linesOf, List.filter_append]

theorem linesOf_append_other (seen : List Line) (ln : Line) (ty : String) (h : ¬ ty = ln.ty) :
    linesOf (seen ++ [ln]) ty = linesOf seen ty := by
  have : (ln.ty == ty) = false := by
    simpa using fun e : ln.ty = ty => h e.symm
  simp [linesOf, List.filter_append, this]

theorem entries_append (i : Nat) (L : List (List Nat)) (S : List Nat) :
    entries i (L ++ [S]) = entries i L ++ List.replicate (S.count i) S := by
  simp [entries, List.flatMap_append]

theorem good_addLine {s : Setting} {seen : List Line} {fs fs' : Factors} {ln : Line}
    (hg : Good s seen fs) (h : addLine s fs ln = .ok fs') : Good s (seen ++ [ln]) fs' := by
  unfold addLine at h
  split at h
  · cases h
  rename_i hidx
  have hbound : ∀ ln' ∈ seen ++ [ln], ∀ i ∈ ln'.idx, i < 2 * s.nPer := by
    intro ln' hln' i hi
    rcases List.mem_append.mp hln' with hl | hl
    · exact hg.bound ln' hl i hi
    · rw [List.mem_singleton.mp hl] at hi
      simp only [List.any_eq_true, not_exists, not_and, decide_eq_true_eq] at hidx
      have := hidx i hi; omega
  -- the entry of the line's type before the line (`⟨none, []⟩` if it is the first of its type)
  generalize htm : (fs.lookup ln.ty).getD ⟨none, []⟩ = tm at h
  obtain ⟨hloc, hmap, hne⟩ : (∀ S ∈ linesOf seen ln.ty, tm.isLocal = some (isLocalLine s.nPer S)) ∧
      (∀ j, getL tm.map j = if j < s.nPer then entries j (linesOf seen ln.ty) else []) ∧ NoEmpty tm.map := by
    subst htm
    cases hfl : fs.lookup ln.ty with
    | none => rw [hg.absent _ hfl]; simp [getL, entries, NoEmpty]
    | some tm0 => exact ⟨(hg.present _ _ hfl).loc, (hg.present _ _ hfl).map, (hg.present _ _ hfl).noEmpty⟩
  dsimp only at h
  split at h
  · cases h
  rename_i tm' hset
  obtain ⟨hl', hm', hv⟩ := setLocal_ok hset
  cases h
  refine ⟨fun ty hty => ?_, fun ty tm1 hty => ?_, hbound⟩ <;> rw [lookup_upsert] at hty <;> split at hty
  · cases hty
  · rename_i hne'
    rw [linesOf_append_other _ _ _ hne']; exact hg.absent _ hty
  · rename_i he
    subst he
    cases hty
    rw [linesOf_append_same]
    refine ⟨by simp, ?_, ?_, ?_⟩
    · intro S hS
      rcases List.mem_append.mp hS with hS | hS
      · exact hl'.trans (congrArg some (hv _ (hloc S hS)).symm)
      · rw [List.mem_singleton.mp hS]; exact hl'
    · intro j
      simp only [appendToMap_eq, getL_foldAppend, hm', hmap j, entries_append]
      split <;> simp
    · rw [appendToMap_eq, hm']
      exact noEmpty_foldAppend _ _ _ _ hne
  · rename_i hne'
    rw [linesOf_append_other _ _ _ hne']; exact hg.present _ _ hty

theorem good_instantiate {s : Setting} : ∀ {lines seen : List Line} {fs fs' : Factors},
    Good s seen fs → instantiate s lines fs = .ok fs' → Good s (seen ++ lines) fs'
  | [], seen, fs, fs', hg, h => by
    simp only [instantiate] at h
    injection h with h
    subst h; simpa using hg
  | ln :: rest, seen, fs, fs', hg, h => by
    simp only [instantiate] at h
    split at h
    · cases h
    · rename_i fs1 h1
      have := good_instantiate (good_addLine hg h1) h
      simpa using this

theorem good_of_instantiate {s : Setting} {lines : List Line} {fs : Factors}
    (h : instantiate s lines [] = .ok fs) : Good s lines fs := by
  simpa using good_instantiate (good_nil s) h


theorem entries_of_nodup (i : Nat) : ∀ (L : List (List Nat)), (∀ S ∈ L, S.Nodup) →
    entries i L = L.filter fun S => S.contains i
  | [], _ => rfl
  | S :: L, h => by
    have ih := entries_of_nodup i L fun S' hS' => h S' (by simp [hS'])
    have hS := h S (by simp)
    simp only [entries, List.flatMap_cons] at ih ⊢
    rw [ih, List.filter_cons]
    by_cases hi : i ∈ S
    · have : S.contains i = true := by simpa using hi
      rw [List.count_eq_one_of_mem hS hi, this]; rfl
    · have : S.contains i = false := by simpa using hi
      rw [List.count_eq_zero.mpr hi, this]; rfl

end JF.FactorMaps
