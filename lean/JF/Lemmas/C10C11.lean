import JF.Model.ConcreteWorld
import JF.Lemmas.FactorCells
import JF.Props.C11
/-!
Definitions and helper lemmas for `JF/Props/C10C11.lean` (the link C11 ⟶ C10): the conversion of C11's occupancy state
(`JF.Occ.State`: cells and units are numbers) into the occupancy the cell taggers of C10 read (`JF.CellTaggers.Occ`: cells and
units are identifier tuples), and the counting argument that turns C11's per-cell record counts into C10's global permutation.
-/
namespace JF.C10C11
open JF JF.CellTaggers

abbrev UId := JF.Occ.UId

/-- number of cells of the grid (`len(list(cells.yield_cells()))`) -/
def numCells (g : Grid) : Nat := (allCells g.n).length
/-- the global-state identifier of point mass `u` is the tuple `(u,)` -/
def wrap (u : UId) : Ident := [u]
def idents (l : List UId) : List Ident := l.map wrap

/-- **The conversion** `Occ.State → CellTaggers.Occ`: the occupancy as the cell taggers read it.  C11's cell number `k` is the
`k`-th cell in `yield_cells()` order (`CW.cellAt`, `CW.cellIdx`: position in `allCells g.n`), unit `u` is the identifier `(u,)`;
`__getitem__` = occupants of the cell's index, `_surplus` entry by entry in dictionary order, `yield_active_cells` = the recorded
pair if both `_active_cell` and `_active_unit_identifier` are set.  It is the concrete world's `CW.tocc`
(`JF/Model/ConcreteWorld.lean`, which `harness/fpcorr.py` feeds from the real class) without the unused fields of its
environment: `tocc_eq`, by `rfl`. -/
def toTaggerOcc (g : Grid) (s : JF.Occ.State) : CellTaggers.Occ :=
  { occ := fun c => (s.occupants (CW.cellIdx g c)).map fun u => [u]
    surplus := s.surplus.map fun e => (CW.cellAt g e.1, e.2.map fun u => [u])
    active := match s.activeCell, s.activeId with
      | some c, some a => some (CW.cellAt g c, [a])
      | _, _ => none }

theorem tocc_eq {α : Type} (env : CW.Env α) (s : JF.Occ.State) : CW.tocc env s = toTaggerOcc env.grid s := rfl

theorem map_idxOf_self {β : Type} [BEq β] [LawfulBEq β] (l : List β) (h : l.Nodup) :
    l.map (fun x => l.idxOf x) = List.range l.length := by
  apply List.ext_getElem (by simp)
  intro i h1 h2
  simp [List.Nodup.idxOf_getElem h]

/-- summing per-cell counts: if `u` can only be listed under cell `k0`, it occurs in the concatenation over the cells `0 … N-1`
as often as in the list of `k0` — provided `k0` is one of these cells -/
theorem count_flatMap_range {β : Type} [DecidableEq β] (f : Nat → List β) (u : β) (k0 : Nat)
    (hz : ∀ k, k ≠ k0 → (f k).count u = 0) (N : Nat) :
    ((List.range N).flatMap f).count u = if k0 < N then (f k0).count u else 0 := by
  induction N with
  | zero => simp
  | succ N ih =>
    rw [List.range_succ, List.flatMap_append, List.count_append, ih]
    simp only [List.flatMap_cons, List.flatMap_nil, List.append_nil]
    by_cases h : N = k0
    · subst h; simp
    · rw [hz N h]
      have : (k0 < N + 1) = (k0 < N) := by
        apply propext; omega
      simp [this]

theorem wrap_injective : Function.Injective wrap := fun a b h => by simpa [wrap] using h

theorem map_erase_wrap (l : List UId) (a : UId) : (l.erase a).map wrap = (l.map wrap).erase (wrap a) :=
  List.map_erase wrap_injective l

theorem cellAt_valid (g : Grid) {k : Nat} (hk : k < numCells g) : Valid g.n (CW.cellAt g k) := by
  unfold CW.cellAt
  rw [List.getElem?_eq_getElem hk]
  exact mem_allCells.mp (List.getElem_mem hk)

/-- everything the converted occupancy stores, read off the `Occ.State` -/
def storedIds (g : Grid) (s : JF.Occ.State) : List UId :=
  (List.range (numCells g)).flatMap s.occupants ++ JF.Occ.yieldSurplus s

theorem stored_toTaggerOcc (g : Grid) (s : JF.Occ.State) :
    stored g (toTaggerOcc g s) = idents (storedIds g s) := by
  have h1 : (allCells g.n).flatMap (toTaggerOcc g s).occ =
      ((List.range (numCells g)).flatMap s.occupants).map wrap := by
    rw [List.map_flatMap, numCells, ← map_idxOf_self _ (nodup_allCells g.n), List.flatMap_map]
    rfl
  have h2 : (toTaggerOcc g s).yieldSurplus = (JF.Occ.yieldSurplus s).map wrap := by
    simp only [CellTaggers.Occ.yieldSurplus, toTaggerOcc, JF.Occ.yieldSurplus, JF.Occ.Dict.values,
      List.map_flatten, List.map_map, List.flatMap_def]
    rfl
  rw [stored, h1, h2, idents, storedIds, List.map_append]


/-- **per-cell counts ⟶ global permutation.**  C11's invariant speaks cell by cell (`recCount s u c` is 1 for the cell of `u`'s
position, 0 for every other cell); summed over the cells of the grid a relevant non-active unit whose cell is a cell of the grid
is stored exactly once, everybody else not at all: the stored units are a permutation of any duplicate-free enumeration of the
relevant units, minus the active one. -/
theorem storedIds_perm {rel : UId → Bool} {cellOf : UId → JF.Occ.Cell} {s : JF.Occ.State}
    (h : C11.OccInv rel cellOf s) (g : Grid) (relevant : List UId) (hnd : relevant.Nodup)
    (hmem : ∀ u, u ∈ relevant ↔ rel u = true) (hgrid : ∀ u ∈ relevant, cellOf u < numCells g)
    {a : UId} (ha : s.activeId = some a) : (storedIds g s).Perm (relevant.erase a) := by
  rw [List.perm_iff_count]
  intro u
  rw [storedIds, List.count_append, List.count_erase, List.Nodup.count hnd]
  by_cases hcond : rel u = true ∧ s.activeId ≠ some u
  · obtain ⟨h1, h2⟩ := C11.recorded_exactly_once h hcond.1 hcond.2
    have hu : u ∈ relevant := (hmem u).mpr hcond.1
    have hua : ¬ a = u := fun e => hcond.2 (e ▸ ha)
    rw [count_flatMap_range s.occupants u (cellOf u) (fun k hk => List.count_eq_zero.mpr (h2 k hk)), if_pos (hgrid u hu)]
    simpa [hu, hua, JF.Occ.getItem] using h1
  · obtain ⟨h1, h2⟩ := C11.not_recorded h (u := u) (by by_cases hr : rel u = true <;> simp_all)
    rw [List.count_eq_zero.mpr h2, List.count_eq_zero.mpr
      (by simp only [List.mem_flatMap, not_exists, not_and]; exact fun c _ => h1 c)]
    by_cases hr : rel u = true
    · have hau : a = u := by simpa [hr, ha] using hcond
      simp [(hmem u).mpr hr, hau]
    · simp [(hmem u).not.mpr hr]

end JF.C10C11
