import JF.Model.Store
import Mathlib.Tactic.Common
/-!
Lemmas for C13 (`JF/Props/C13.lean`): heap frame rules; `extract_from_global_state` builds copies
(`Copies`: new, pairwise different objects with the current values) of the units `extract_global_state`
would alias; the identifier-indexed view `unitAt` of the global state.
-/
namespace JF.Store
variable {α : Type}

namespace Heap

@[simp] theorem next_alloc (h : Heap α) (o : Obj α) : (h.alloc o).1.next = h.next + 1 := by
  simp [alloc, next]

@[simp] theorem alloc_ref (h : Heap α) (o : Obj α) : (h.alloc o).2 = h.next := rfl

theorem get?_alloc (h : Heap α) (o : Obj α) (r : Ref) :
    (h.alloc o).1.get? r = if r = h.next then some o else h.get? r := by
  simp only [alloc, get?, next, Array.getElem?_push]
  split <;> simp_all

theorem get?_alloc_old (h : Heap α) (o : Obj α) {r : Ref} (hr : r < h.next) :
    (h.alloc o).1.get? r = h.get? r := by
  rw [get?_alloc, if_neg (Nat.ne_of_lt hr)]

@[simp] theorem get?_alloc_new (h : Heap α) (o : Obj α) : (h.alloc o).1.get? h.next = some o := by
  rw [get?_alloc]; simp

@[simp] theorem next_write (h : Heap α) (r : Ref) (o : Obj α) : (h.write r o).next = h.next := by
  simp [write, next]

theorem get?_write_ne (h : Heap α) (o : Obj α) {r r' : Ref} (hne : r' ≠ r) :
    (h.write r o).get? r' = h.get? r' := by
  simp only [write, get?, Array.getElem?_setIfInBounds]
  rw [if_neg (fun hh => hne hh.symm)]

theorem get?_write_same (h : Heap α) (o : Obj α) {r : Ref} (hr : r < h.next) :
    (h.write r o).get? r = some o := by
  simp only [write, get?, Array.getElem?_setIfInBounds, next] at *
  simp [hr]

theorem get?_isSome (h : Heap α) (r : Ref) : (h.get? r).isSome ↔ r < h.next := by
  simp [get?, next]

theorem get?_eq_none (h : Heap α) {r : Ref} (hr : h.next ≤ r) : h.get? r = none := by
  simp only [get?, next] at *
  simp [hr]

end Heap

/-- `h'` extends `h`: more cells, the old ones untouched -/
def Ext (h h' : Heap α) : Prop := h.next ≤ h'.next ∧ ∀ r, r < h.next → h'.get? r = h.get? r

theorem Ext.refl (h : Heap α) : Ext h h := ⟨Nat.le_refl _, fun _ _ => rfl⟩
theorem Ext.trans {h1 h2 h3 : Heap α} (a : Ext h1 h2) (b : Ext h2 h3) : Ext h1 h3 :=
  ⟨Nat.le_trans a.1 b.1, fun r hr => by rw [b.2 r (Nat.lt_of_lt_of_le hr a.1), a.2 r hr]⟩
theorem Ext.alloc (h : Heap α) (o : Obj α) : Ext h (h.alloc o).1 :=
  ⟨by simp, fun _ hr => Heap.get?_alloc_old h o hr⟩
theorem Ext.copy (h : Heap α) (r : Ref) : Ext h (h.copy r).1 := Ext.alloc _ _

def CUnit.refs (u : CUnit α) : List Ref := u.pos :: (u.vel.toList ++ u.ts.toList)
def Branch.refs (b : Branch α) : List Ref := b.units.flatMap CUnit.refs

theorem readUnit_congr {h h' : Heap α} {u : CUnit α} (hf : ∀ r ∈ u.refs, h'.get? r = h.get? r) :
    readUnit h' u = readUnit h u := by
  obtain ⟨id, pos, ch, vel, ts, w⟩ := u
  simp only [CUnit.refs, List.mem_cons, List.mem_append, Option.mem_toList] at hf
  simp only [readUnit, UVal.mk.injEq, true_and, and_true]
  refine ⟨hf _ (Or.inl rfl), ?_, ?_⟩
  · cases vel with
    | none => rfl
    | some v => simp [hf v (Or.inr (Or.inl rfl))]
  · cases ts with
    | none => rfl
    | some t => simp [hf t (Or.inr (Or.inr rfl))]

theorem readBranch_congr {h h' : Heap α} {b : Branch α} (hf : ∀ r ∈ b.refs, h'.get? r = h.get? r) :
    readBranch h' b = readBranch h b := by
  simp only [readBranch]
  apply List.map_congr_left
  intro u hu
  apply readUnit_congr
  intro r hr
  exact hf r (by simp only [Branch.refs, List.mem_flatMap]; exact ⟨u, hu, hr⟩)

theorem readUnit_ext {h h' : Heap α} (e : Ext h h') {c : CUnit α} (hlt : ∀ r ∈ c.refs, r < h.next) :
    readUnit h' c = readUnit h c :=
  readUnit_congr (fun r hr => e.2 r (hlt r hr))

/-- the unit `extract_global_state` builds: references of the global state itself -/
def aliasUnit (l : Lifting) (n : PNode α) (id : Ident) : CUnit α :=
  ⟨id, n.pos, n.charge, (l.get id).1, (l.get id).2, n.weight⟩

theorem mkCNode_false (l : Lifting) (h : Heap α) (n : PNode α) (id : Ident) :
    mkCNode false l h n id = (h, aliasUnit l n id) := rfl

/-- all references of a unit are new objects of the step `h → h'`, pairwise different -/
def FreshRefs (h h' : Heap α) (rs : List Ref) : Prop :=
  rs.Nodup ∧ ∀ r ∈ rs, h.next ≤ r ∧ r < h'.next

theorem FreshRefs.append {h1 h2 h3 : Heap α} {a b : List Ref} (ha : FreshRefs h1 h2 a)
    (hb : FreshRefs h2 h3 b) (h12 : h1.next ≤ h2.next) (h23 : h2.next ≤ h3.next) :
    FreshRefs h1 h3 (a ++ b) := by
  refine ⟨?_, ?_⟩
  · rw [List.nodup_append]
    refine ⟨ha.1, hb.1, ?_⟩
    intro x hx y hy hxy
    have h1 := (ha.2 x hx).2; have h2 := (hb.2 y hy).1; subst hxy; exact Nat.lt_irrefl _ (Nat.lt_of_lt_of_le h1 h2)
  · intro r hr
    rcases List.mem_append.1 hr with hr | hr
    · have := ha.2 r hr; exact ⟨this.1, Nat.lt_of_lt_of_le this.2 h23⟩
    · have := hb.2 r hr; exact ⟨Nat.le_trans h12 this.1, this.2⟩

theorem map_get?_ext {h h' : Heap α} (e : Ext h h') (o : Option Ref) (ho : ∀ r ∈ o, r < h.next) :
    o.map h'.get? = o.map h.get? := by
  cases o with
  | none => rfl
  | some r => simp [e.2 r (ho r rfl)]

theorem copyOpt_spec (h : Heap α) (o : Option Ref) (ho : ∀ r ∈ o, r < h.next) :
    Ext h (h.copyOpt o).1 ∧ FreshRefs h (h.copyOpt o).1 (h.copyOpt o).2.toList ∧
    (h.copyOpt o).2.map (h.copyOpt o).1.get? = o.map h.get? := by
  cases o with
  | none => exact ⟨Ext.refl h, ⟨by simp [Heap.copyOpt], by simp [Heap.copyOpt]⟩, rfl⟩
  | some r =>
    have hr : r < h.next := ho r rfl
    have hs : (h.get? r).isSome := (Heap.get?_isSome h r).2 hr
    refine ⟨Ext.copy h r, ⟨by simp [Heap.copyOpt], ?_⟩, ?_⟩
    · simp [Heap.copyOpt, Heap.copy]
    · simp only [Heap.copyOpt, Heap.copy, Option.map_some, Heap.alloc_ref, Heap.get?_alloc_new]
      obtain ⟨o, ho⟩ := Option.isSome_iff_exists.1 hs
      simp [ho]

/-- the units `us` built in the step `h → h'` are copies of the units `src`: new, pairwise different
objects holding the values that `src` reads in `h` -/
structure Copies (h h' : Heap α) (src us : List (CUnit α)) : Prop where
  ext : Ext h h'
  fresh : FreshRefs h h' (us.flatMap CUnit.refs)
  read : us.map (readUnit h') = src.map (readUnit h)

theorem Copies.nil (h : Heap α) : Copies h h [] [] := ⟨Ext.refl h, ⟨List.nodup_nil, by simp⟩, rfl⟩

theorem Copies.append {h1 h2 h3 : Heap α} {s1 u1 s2 u2 : List (CUnit α)} (a : Copies h1 h2 s1 u1)
    (b : Copies h2 h3 s2 u2) (ok : ∀ u ∈ s2, ∀ r ∈ u.refs, r < h1.next) :
    Copies h1 h3 (s1 ++ s2) (u1 ++ u2) := by
  refine ⟨a.ext.trans b.ext, ?_, ?_⟩
  · simpa using a.fresh.append b.fresh a.ext.1 b.ext.1
  · rw [List.map_append, List.map_append, b.read, ← a.read]
    congr 1
    · exact List.map_congr_left fun u hu => readUnit_congr fun r hr =>
        b.ext.2 r (a.fresh.2 r (List.mem_flatMap.2 ⟨u, hu, hr⟩)).2
    · exact List.map_congr_left fun u hu => readUnit_congr fun r hr => a.ext.2 r (ok u hu r hr)

theorem mkCNode_copies (l : Lifting) (h : Heap α) (n : PNode α) (id : Ident)
    (hv : ∀ r ∈ (aliasUnit l n id).refs, r < h.next) :
    Copies h (mkCNode true l h n id).1 [aliasUnit l n id] [(mkCNode true l h n id).2] := by
  simp only [aliasUnit, CUnit.refs, List.mem_cons, List.mem_append, Option.mem_toList] at hv
  have hp : n.pos < h.next := hv _ (Or.inl rfl)
  have hsome : (h.get? n.pos).isSome := (Heap.get?_isSome h _).2 hp
  obtain ⟨o, ho⟩ := Option.isSome_iff_exists.1 hsome
  set h1 := h.copy n.pos with h1def
  have e1 : Ext h h1.1 := Ext.copy _ _
  have hv2 : ∀ r ∈ (l.get id).1, r < h1.1.next := fun r hr =>
    Nat.lt_of_lt_of_le (hv r (Or.inr (Or.inl hr))) e1.1
  obtain ⟨e2, f2, v2⟩ := copyOpt_spec h1.1 (l.get id).1 hv2
  set h2 := h1.1.copyOpt (l.get id).1 with h2def
  have hv3 : ∀ r ∈ (l.get id).2, r < h2.1.next := fun r hr =>
    Nat.lt_of_lt_of_le (hv r (Or.inr (Or.inr hr))) (Nat.le_trans e1.1 e2.1)
  obtain ⟨e3, f3, v3⟩ := copyOpt_spec h2.1 (l.get id).2 hv3
  set h3 := h2.1.copyOpt (l.get id).2 with h3def
  have hmk : mkCNode true l h n id = (h3.1, ⟨id, h1.2, n.charge, h2.2, h3.2, n.weight⟩) := rfl
  simp only [hmk]
  have f1 : FreshRefs h h1.1 [h1.2] := by
    refine ⟨by simp, ?_⟩
    intro r hr
    simp only [List.mem_singleton] at hr
    subst hr
    simp [h1def, Heap.copy]
  refine ⟨e1.trans (e2.trans e3), ?_, ?_⟩
  · have := (f1.append f2 e1.1 e2.1).append f3 (Nat.le_trans e1.1 e2.1) e3.1
    simpa [CUnit.refs] using this
  · simp only [List.map_cons, List.map_nil, List.cons.injEq, and_true, readUnit, aliasUnit, UVal.mk.injEq, true_and]
    refine ⟨?_, ?_, ?_⟩
    · have : h1.2 < h1.1.next := by simp [h1def, Heap.copy]
      rw [e3.2 _ (Nat.lt_of_lt_of_le this e2.1), e2.2 _ this]
      simp [h1def, Heap.copy, ho]
    · rw [← map_get?_ext e1 _ (fun r hr => hv r (Or.inr (Or.inl hr))), ← v2]
      exact map_get?_ext e3 _ (fun r hr => (f2.2 r (by simpa using hr)).2)
    · rw [v3]
      exact map_get?_ext (e1.trans e2) _ (fun r hr => hv r (Or.inr (Or.inr hr)))

/-- nodes whose references (position, and velocity / time stamp under any identifier) exist -/
def NodesOK (l : Lifting) (h : Heap α) (ns : List (PNode α)) : Prop :=
  ∀ n ∈ ns, ∀ id, ∀ r ∈ (aliasUnit l n id).refs, r < h.next

theorem NodesOK.ext {l : Lifting} {h h' : Heap α} {ns : List (PNode α)} (a : NodesOK l h ns)
    (e : Ext h h') : NodesOK l h' ns :=
  fun n hn id r hr => Nat.lt_of_lt_of_le (a n hn id r hr) e.1

theorem mkChildren_false (l : Lifting) (r : Nat) (h : Heap α) : ∀ (ns : List (PNode α)) (i : Nat),
    mkChildren false l r h ns i = (h, ns.mapIdx (fun k n => aliasUnit l n [r, i + k])) := by
  intro ns
  induction ns with
  | nil => intro i; rfl
  | cons n ns ih =>
    intro i
    simp only [mkChildren, mkCNode_false, ih, List.mapIdx_cons, Nat.add_zero, Prod.mk.injEq, List.cons.injEq, true_and]
    congr 1
    funext k m
    rw [Nat.add_assoc, Nat.add_comm 1 k]

theorem mkChildren_copies (l : Lifting) (r : Nat) (ns : List (PNode α)) :
    ∀ (h : Heap α) (i : Nat), NodesOK l h ns →
    Copies h (mkChildren true l r h ns i).1 (mkChildren false l r h ns i).2 (mkChildren true l r h ns i).2 := by
  induction ns with
  | nil => intro h i _; exact Copies.nil h
  | cons n ns ih =>
    intro h i hok
    have a := mkCNode_copies l h n [r, i] (hok n (by simp) [r, i])
    have b := ih (mkCNode true l h n [r, i]).1 (i + 1) (fun m hm => (hok.ext a.ext) m (by simp [hm]))
    show Copies h _ ([aliasUnit l n [r, i]] ++ (mkChildren false l r h ns (i + 1)).2) ([_] ++ _)
    simp only [mkChildren_false] at b ⊢
    refine a.append b ?_
    intro u hu
    obtain ⟨k, hk, rfl⟩ := List.mem_mapIdx.1 hu
    exact hok _ (List.mem_cons_of_mem _ (List.getElem_mem hk)) _

/-- the unit stored under `id` (references of the global state itself) -/
def unitAt (g : Global α) (id : Ident) : Option (CUnit α) :=
  match physGet g.roots id with
  | .ok n => some (aliasUnit g.lift n id)
  | .error _ => none

def readAt (g : Global α) (h : Heap α) (id : Ident) : Option (UVal α) := (unitAt g id).map (readUnit h)

def Global.refs (g : Global α) : List Ref :=
  g.roots.flatMap (fun R => R.node.pos :: R.children.map (·.pos)) ++ g.lift.dict.flatMap (fun e => [e.2.1, e.2.2])

theorem dictGet_mem {d : List (Ident × Ref × Ref)} {id : Ident} {x : Ref × Ref} (hx : dictGet d id = some x) :
    (id, x) ∈ d := by
  induction d with
  | nil => simp [dictGet] at hx
  | cons e d ih =>
    obtain ⟨k, y⟩ := e
    simp only [dictGet] at hx
    split at hx
    · simp_all
    · exact List.mem_cons_of_mem _ (ih hx)

theorem lift_get_refs {l : Lifting} {id : Ident} {r : Ref} (hr : r ∈ (l.get id).1 ∨ r ∈ (l.get id).2) :
    r ∈ l.dict.flatMap (fun e => [e.2.1, e.2.2]) := by
  simp only [Lifting.get] at hr
  cases hd : dictGet l.dict id with
  | none => simp [hd] at hr
  | some x =>
    obtain ⟨v, t⟩ := x
    simp only [hd, Option.mem_def, Option.some.injEq] at hr
    simp only [List.mem_flatMap]
    exact ⟨(id, v, t), dictGet_mem hd, by rcases hr with hr | hr <;> simp [← hr]⟩

theorem aliasUnit_refs_sub {g : Global α} {R : PRoot α} (hR : R ∈ g.roots) {n : PNode α}
    (hn : n = R.node ∨ n ∈ R.children) (id : Ident) : ∀ r ∈ (aliasUnit g.lift n id).refs, r ∈ g.refs := by
  intro r hr
  simp only [aliasUnit, CUnit.refs, List.mem_cons, List.mem_append, Option.mem_toList] at hr
  simp only [Global.refs, List.mem_append]
  rcases hr with hr | hr
  · left
    simp only [List.mem_flatMap]
    refine ⟨R, hR, ?_⟩
    rcases hn with hn | hn
    · simp [hr, hn]
    · simp only [List.mem_cons, List.mem_map]; exact Or.inr ⟨n, hn, hr.symm⟩
  · right; exact lift_get_refs hr

def GlobalOK (g : Global α) (h : Heap α) : Prop := ∀ r ∈ g.refs, r < h.next

theorem GlobalOK.nodes {g : Global α} {h : Heap α} (ok : GlobalOK g h) {R : PRoot α} (hR : R ∈ g.roots) :
    NodesOK g.lift h (R.node :: R.children) := by
  intro n hn id r hr
  exact ok r (aliasUnit_refs_sub hR (by simpa using hn) id r hr)

/-- identifiers of the branch of `id`: ancestors, the node, all descendants (preorder) -/
def branchIds (g : Global α) : Ident → List Ident
  | [r] => [r] :: (List.range ((g.roots[r]?.map (·.children.length)).getD 0)).map (fun i => [r, i])
  | [r, c] => [[r], [r, c]]
  | _ => []

theorem readAt_root {g : Global α} {h : Heap α} {r : Nat} {R : PRoot α} (hR : g.roots[r]? = some R) :
    readAt g h [r] = some (readUnit h (aliasUnit g.lift R.node [r])) := by
  simp [readAt, unitAt, physGet, hR]

theorem readAt_child {g : Global α} {h : Heap α} {r c : Nat} {R : PRoot α} {L : PNode α}
    (hR : g.roots[r]? = some R) (hL : R.children[c]? = some L) :
    readAt g h [r, c] = some (readUnit h (aliasUnit g.lift L [r, c])) := by
  simp [readAt, unitAt, physGet, hR, hL]

theorem branchIds_root (g : Global α) {r : Nat} {R : PRoot α} (hR : g.roots[r]? = some R) :
    branchIds g [r] = [r] :: (List.range R.children.length).map (fun i => [r, i]) := by
  simp [branchIds, hR]

theorem extract_total (g : Global α) (h : Heap α) (id : Ident) :
    (∃ x, extract g h id = .ok x) ∧ (unitAt g id).isSome = true ∨
    extract g h id = .error .index ∧ (unitAt g id).isSome = false := by
  match id with
  | [] => simp [extract, unitAt, physGet]
  | [r] =>
    simp only [extract, unitAt, physGet]
    cases hR : g.roots[r]? <;> simp
  | [r, c] =>
    simp only [extract, unitAt, physGet]
    cases hR : g.roots[r]? with
    | none => simp
    | some R => cases hL : R.children[c]? <;> simp [hL]
  | r :: _ :: _ :: _ =>
    simp only [extract, unitAt, physGet]
    cases hR : g.roots[r]? <;> simp

theorem aliasBranch_units (l : Lifting) (h : Heap α) (r : Nat) (R : PRoot α) :
    (aliasBranch l h r R).units = aliasUnit l R.node [r] :: (mkChildren false l r h R.children 0).2 := rfl

/-- what `extract` promises about the values of a branch built for `id`: the units of `branchIds g id`,
each with the value the global state has under its identifier -/
def BranchSpec (g : Global α) (h : Heap α) (id : Ident) (vs : List (UVal α)) : Prop :=
  vs.map (·.id) = branchIds g id ∧ ∀ v ∈ vs, some v = readAt g h v.id

theorem aliasBranch_spec (g : Global α) (h : Heap α) {r : Nat} {R : PRoot α} (hR : g.roots[r]? = some R) :
    BranchSpec g h [r] (readBranch h (aliasBranch g.lift h r R)) := by
  simp only [readBranch, aliasBranch_units, mkChildren_false, Nat.zero_add, List.map_cons]
  refine ⟨?_, ?_⟩
  · rw [branchIds_root g hR]
    simp only [List.map_cons, List.map_map, readUnit, aliasUnit, List.cons.injEq, true_and]
    apply List.ext_getElem?
    intro k
    simp only [List.getElem?_map, List.getElem?_mapIdx]
    by_cases hk : k < R.children.length
    · simp [List.getElem?_range hk, List.getElem?_eq_getElem hk, readUnit]
    · have h1 : R.children[k]? = none := List.getElem?_eq_none (by omega)
      have h2 : (List.range R.children.length)[k]? = none := List.getElem?_eq_none (by simp; omega)
      simp [h1, h2]
  · intro v hv
    rcases List.mem_cons.1 hv with rfl | hv
    · exact (readAt_root hR).symm
    · obtain ⟨u, hu, rfl⟩ := List.mem_map.1 hv
      obtain ⟨k, hk, rfl⟩ := List.mem_mapIdx.1 hu
      exact (readAt_child hR (List.getElem?_eq_getElem hk)).symm

theorem BranchSpec.units {g : Global α} {h h' : Heap α} {id : Ident} {b : Branch α}
    (sp : BranchSpec g h id (readBranch h' b)) :
    b.units.map (·.id) = branchIds g id ∧ ∀ u ∈ b.units, some (readUnit h' u) = readAt g h u.id := by
  rw [readBranch] at sp
  have ids := sp.1
  rw [List.map_map] at ids
  exact ⟨ids, fun u hu => sp.2 _ (List.mem_map_of_mem hu)⟩

theorem aliasBranches_eq (l : Lifting) (h : Heap α) : ∀ (Rs : List (PRoot α)) (k : Nat),
    aliasBranches l h Rs k = Rs.mapIdx (fun i R => aliasBranch l h (k + i) R) := by
  intro Rs
  induction Rs with
  | nil => intro k; rfl
  | cons R Rs ih =>
    intro k
    simp only [aliasBranches, ih, List.mapIdx_cons, Nat.add_zero, List.cons.injEq, true_and]
    congr 1
    funext i R'
    rw [Nat.add_assoc, Nat.add_comm 1 i]

theorem extract_spec {g : Global α} {h : Heap α} {id : Ident} (ok : GlobalOK g h) {h' : Heap α} {b : Branch α}
    (he : extract g h id = .ok (h', b)) :
    Ext h h' ∧ FreshRefs h h' b.refs ∧ BranchSpec g h id (readBranch h' b) := by
  cases id with
  | nil => simp [extract] at he
  | cons r rest =>
    simp only [extract] at he
    cases hR : g.roots[r]? with
    | none => simp [hR] at he
    | some R =>
      simp only [hR] at he
      have nok := ok.nodes (List.mem_of_getElem? hR)
      have a := mkCNode_copies g.lift h R.node [r] (nok R.node (by simp) [r])
      have cok : NodesOK g.lift (mkCNode true g.lift h R.node [r]).1 R.children :=
        fun m hm => (nok.ext a.ext) m (by simp [hm])
      match rest, he with
      | [], he =>
        simp only [Except.ok.injEq, Prod.mk.injEq] at he
        obtain ⟨rfl, rfl⟩ := he
        have cp := a.append (mkChildren_copies g.lift r R.children _ 0 cok)
          (fun u hu => by
            simp only [mkChildren_false] at hu
            obtain ⟨k, hk, rfl⟩ := List.mem_mapIdx.1 hu
            exact nok _ (List.mem_cons_of_mem _ (List.getElem_mem hk)) _)
        refine ⟨cp.ext, cp.fresh, ?_⟩
        have sp := aliasBranch_spec g h hR
        have rd := cp.read
        simp only [readBranch, aliasBranch_units, mkChildren_false, List.singleton_append] at sp rd
        rw [← rd] at sp
        exact sp
      | [c], he =>
        cases hL : R.children[c]? with
        | none => simp [hL] at he
        | some L =>
          simp only [hL, Except.ok.injEq, Prod.mk.injEq] at he
          obtain ⟨rfl, rfl⟩ := he
          have lok := cok L (List.mem_of_getElem? hL) [r, c]
          have cp := a.append (mkCNode_copies g.lift _ L [r, c] lok)
            (fun u hu => by
              rw [List.mem_singleton.1 hu]
              exact nok L (List.mem_cons_of_mem _ (List.mem_of_getElem? hL)) _)
          refine ⟨cp.ext, cp.fresh, ?_⟩
          show BranchSpec g h [r, c] (List.map _ ([_] ++ [_]))
          rw [cp.read]
          exact ⟨rfl, by simp [readAt_root hR, readAt_child hR hL, readUnit, aliasUnit]⟩
      | _ :: _ :: _, he => simp at he

end JF.Store
