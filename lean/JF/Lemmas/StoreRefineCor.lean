import JF.Lemmas.StoreRefineRead
import JF.Lemmas.StoreFrame
/-!
Facts about the purely functional specification `Spec` alone that are behind the corollaries of
`JF/Props/C13Refine.lean` (no heap, no reference occurs in a statement of this file):

* `AgreeOff b S S'` — two specification states that differ at most in the *values* of held branch `b`:
  a mutation through `b` produces such a state, and every operation that does not hand `b` to `insert`
  keeps the relation and yields the same outcome token, except for a further mutation of `b` itself;
* only `insert` changes the global part;
* what an extraction reads.
-/
namespace JF.Store
variable {α : Type}

/-- `op` hands held branch `b` (or one of its cnodes) to `insert_into_global_state` -/
def Op.Inserts (b : Nat) : Op α → Prop
  | .insert sel => b ∈ sel.map (·.1)
  | _ => False

instance (b : Nat) (op : Op α) : Decidable (op.Inserts b) := by
  unfold Op.Inserts; split <;> infer_instance

namespace Spec

/-- `S` and `S'` have the same global part, the same number of held branches with the same ghost
flags, and the same values in every held branch other than `b` -/
structure AgreeOff (b : Nat) (S S' : Spec α) : Prop where
  g : S.g = S'.g
  len : S.held.length = S'.held.length
  flag : ∀ j : Nat, S.held[j]?.map (·.2) = S'.held[j]?.map (·.2)
  other : ∀ j : Nat, j ≠ b → S.held[j]? = S'.held[j]?

theorem AgreeOff.refl (b : Nat) (S : Spec α) : AgreeOff b S S := ⟨rfl, rfl, fun _ => rfl, fun _ _ => rfl⟩

theorem AgreeOff.symm {b : Nat} {S S' : Spec α} (A : AgreeOff b S S') : AgreeOff b S' S :=
  ⟨A.g.symm, A.len.symm, fun j => (A.flag j).symm, fun j hj => (A.other j hj).symm⟩

theorem AgreeOff.trans {b : Nat} {S1 S2 S3 : Spec α} (A : AgreeOff b S1 S2) (B : AgreeOff b S2 S3) :
    AgreeOff b S1 S3 :=
  ⟨A.g.trans B.g, A.len.trans B.len, fun j => (A.flag j).trans (B.flag j),
    fun j hj => (A.other j hj).trans (B.other j hj)⟩

theorem setHeld_eq_mapIdx (held : List (List (UVal α) × Bool)) (b u : Nat) (x : UVal α) :
    setHeld held b u x = held.mapIdx fun j L => if b = j then (L.1.set u x, L.2) else L := by
  apply List.ext_getElem?
  intro j
  simp only [setHeld, List.getElem?_modify, List.getElem?_mapIdx]
  rfl

theorem AgreeOff.mapIdx {b : Nat} {S S' : Spec α} (A : AgreeOff b S S') (g : Global α)
    (G : Nat → List (UVal α) × Bool → List (UVal α) × Bool) (F : Nat → Bool → Bool)
    (hG : ∀ j L, (G j L).2 = F j L.2) : AgreeOff b ⟨g, S.held.mapIdx G⟩ ⟨g, S'.held.mapIdx G⟩ := by
  refine ⟨rfl, by simp [A.len], ?_, ?_⟩
  · intro j
    have : (·.2) ∘ G j = F j ∘ (·.2) := funext (hG j)
    simp only [List.getElem?_mapIdx, Option.map_map, this]
    rw [← Option.map_map, A.flag j, Option.map_map]
  · intro j hj
    simp only [List.getElem?_mapIdx, A.other j hj]

theorem mutate_agreeOff (S : Spec α) (b u : Nat) (f : UVal α → Except Err (UVal α)) :
    AgreeOff b (mutate S b u f).1 S := by
  simp only [mutate]
  cases getHeld S.held b u with
  | none => exact AgreeOff.refl b S
  | some c =>
    dsimp only
    cases f c with
    | error e => exact AgreeOff.refl b S
    | ok c' =>
      dsimp only
      refine ⟨rfl, by simp [setHeld], ?_, ?_⟩
      · intro j
        simp only [setHeld_eq_mapIdx, List.getElem?_mapIdx, Option.map_map]
        congr 1
        funext L
        simp only [Function.comp]
        split <;> rfl
      · intro j hj
        simp only [setHeld_eq_mapIdx, List.getElem?_mapIdx, if_neg (Ne.symm hj)]
        exact Option.map_id'

/-- the six mutations are instances of `mutate`: `step_mutation_shape`, read at any session -/
theorem step_eq_mutate {op : Op α} {b : Nat} (ht : op.target = some b) :
    ∃ (u : Nat) (f : UVal α → Except Err (UVal α)), ∀ S : Spec α, step S op = mutate S b u f :=
  let ⟨u, f, h, _⟩ := step_mutation_shape ⟨⟨[], ⟨0, 0, [], [], []⟩⟩, .empty, []⟩ op ht
  ⟨u, f, h⟩

theorem step_mutation_agreeOff (S : Spec α) {op : Op α} {b : Nat} (ht : op.target = some b) :
    AgreeOff b (step S op).1 S := by
  obtain ⟨u, f, h⟩ := step_eq_mutate ht
  rw [h]
  exact mutate_agreeOff S b u f

theorem agreeOff_append {b : Nat} {S S' : Spec α} (A : AgreeOff b S S') (x : List (List (UVal α) × Bool)) :
    AgreeOff b ⟨S.g, S.held ++ x⟩ ⟨S.g, S'.held ++ x⟩ := by
  have app : ∀ j, (S.held ++ x)[j]? = if j < S'.held.length then S.held[j]? else x[j - S'.held.length]? := by
    intro j
    rw [List.getElem?_append, A.len]
  refine ⟨rfl, by simp [A.len], ?_, ?_⟩
  · intro j
    rw [app, List.getElem?_append]
    split
    · exact A.flag j
    · rfl
  · intro j hb
    rw [app, List.getElem?_append]
    split
    · exact A.other j hb
    · rfl

theorem mapM_pick_congr {held held' : List (List (UVal α) × Bool)} : ∀ (sel : List (Nat × Nat)),
    (∀ s ∈ sel, held[s.1]? = held'[s.1]?) → sel.mapM (pick held) = sel.mapM (pick held') := by
  intro sel
  induction sel with
  | nil => intro _; rfl
  | cons s sel ih =>
    intro h
    rw [List.mapM_cons, List.mapM_cons, ih (fun t ht => h t (List.mem_cons_of_mem _ ht))]
    have : pick held s = pick held' s := by simp only [pick, h s (by simp)]
    rw [this]

/-- an operation that obeys the discipline in `S` obeys it in every state with the same ghost flags -/
theorem AgreeOff.disciplined {b : Nat} {S S' : Spec α} (A : AgreeOff b S S') (op : Op α) :
    Disciplined S op ↔ Disciplined S' op := by
  simp only [Disciplined]
  cases op.inPlace with
  | none => exact Iff.rfl
  | some b' => simp only [A.flag b']

theorem step_agreeOff {b : Nat} {S S' : Spec α} (A : AgreeOff b S S') (op : Op α) (hni : ¬ op.Inserts b) :
    AgreeOff b (step S op).1 (step S' op).1 ∧ (op.target ≠ some b → (step S op).2 = (step S' op).2) := by
  obtain ⟨g, held⟩ := S
  obtain ⟨g', held'⟩ := S'
  obtain rfl : g = g' := A.g
  cases ht : op.target with
  | some b' =>
    by_cases hb : b' = b
    · subst hb
      exact ⟨((step_mutation_agreeOff _ ht).trans A).trans (step_mutation_agreeOff _ ht).symm,
        fun h => absurd rfl h⟩
    · obtain ⟨u, f, h⟩ := step_eq_mutate ht
      have hget : getHeld held b' u = getHeld held' b' u := by simp only [getHeld, A.other b' hb]
      rw [h, h]
      simp only [mutate, hget]
      cases getHeld held' b' u with
      | none => exact ⟨A, fun _ => rfl⟩
      | some c =>
        dsimp only
        cases f c with
        | error e => exact ⟨A, fun _ => rfl⟩
        | ok c' =>
          dsimp only
          rw [setHeld_eq_mapIdx, setHeld_eq_mapIdx]
          exact ⟨A.mapIdx _ _ (fun _ f => f) (fun j L => by split <;> rfl), fun _ => rfl⟩
  | none =>
    cases op with
    | extract id =>
      simp only [step]
      cases extract g id with
      | error e => exact ⟨A, fun _ => rfl⟩
      | ok us => exact ⟨agreeOff_append A _, fun _ => rfl⟩
    | active =>
      simp only [step]
      cases (independent g).mapM (extract g) with
      | error e => exact ⟨A, fun _ => rfl⟩
      | ok bs => exact ⟨agreeOff_append A _, fun _ => rfl⟩
    | global => exact ⟨agreeOff_append A _, fun _ => rfl⟩
    | insert sel =>
      simp only [Op.Inserts] at hni
      have hp : sel.mapM (pick held) = sel.mapM (pick held') :=
        mapM_pick_congr sel (fun s hs => A.other s.1 (fun h => hni (h ▸ List.mem_map_of_mem hs)))
      simp only [step, ← hp]
      cases sel.mapM (pick held) with
      | none => exact ⟨A, fun _ => rfl⟩
      | some bs =>
        exact ⟨A.mapIdx _ _ (fun j f => if j ∈ sel.map (·.1) then false else f) (fun j L => by split <;> rfl),
          fun _ => rfl⟩
    | _ => simp [Op.target] at ht

theorem run_agreeOff {b : Nat} (ops : List (Op α)) : ∀ {S S' : Spec α}, AgreeOff b S S' →
    (∀ op ∈ ops, ¬ op.Inserts b) →
    AgreeOff b (run S ops).1 (run S' ops).1 ∧
    ∀ (k : Nat) (op : Op α), ops[k]? = some op → op.target ≠ some b → (run S ops).2[k]? = (run S' ops).2[k]? := by
  induction ops with
  | nil => intro S S' A _; exact ⟨A, fun k op h => by simp at h⟩
  | cons o ops ih =>
    intro S S' A hni
    obtain ⟨A1, t1⟩ := step_agreeOff A o (hni o (by simp))
    obtain ⟨A2, t2⟩ := ih A1 (fun op hop => hni op (List.mem_cons_of_mem _ hop))
    refine ⟨A2, ?_⟩
    intro k op hk hne
    cases k with
    | zero =>
      simp only [List.getElem?_cons_zero, Option.some.injEq] at hk
      subst hk
      simp only [run, List.getElem?_cons_zero, t1 hne]
    | succ k =>
      simp only [List.getElem?_cons_succ] at hk
      simp only [run, List.getElem?_cons_succ]
      exact t2 k op hk hne

theorem disciplinedRun_agreeOff {b : Nat} (ops : List (Op α)) : ∀ {S S' : Spec α}, AgreeOff b S S' →
    (∀ op ∈ ops, ¬ op.Inserts b) → (DisciplinedRun S ops ↔ DisciplinedRun S' ops) := by
  induction ops with
  | nil => intro S S' _ _; exact Iff.rfl
  | cons o ops ih =>
    intro S S' A hni
    simp only [DisciplinedRun]
    rw [A.disciplined o, ih (step_agreeOff A o (hni o (by simp))).1 (fun op hop => hni op (List.mem_cons_of_mem _ hop))]

theorem step_g_of_not_insert (S : Spec α) (op : Op α) (hi : op.isInsert = false) : (step S op).1.g = S.g := by
  cases ht : op.target with
  | some b => exact (step_mutation_agreeOff S ht).g
  | none =>
    cases op with
    | extract id => simp only [step]; split <;> rfl
    | active => simp only [step]; split <;> rfl
    | global => rfl
    | insert sel => simp [Op.isInsert] at hi
    | _ => simp [Op.target] at ht

theorem run_g_of_no_insert (ops : List (Op α)) : ∀ (S : Spec α), (∀ op ∈ ops, op.isInsert = false) →
    (run S ops).1.g = S.g := by
  induction ops with
  | nil => intro S _; rfl
  | cons o ops ih =>
    intro S h
    simp only [run]
    rw [ih _ (fun op hop => h op (List.mem_cons_of_mem _ hop)), step_g_of_not_insert S o (h o (by simp))]

/-- what `extract_global_state` shows: one branch of values per root -/
def snapshot (g : Global α) : List (List (UVal α)) := (List.range g.phys.length).map fun r => branch g [r]

theorem mem_branchIds_self {g : Global α} {id : Ident} (h : (unitAt g id).isSome = true) : id ∈ branchIds g id := by
  match id with
  | [] => simp [unitAt, node] at h
  | [r] => simp [branchIds]
  | [r, c] => simp [branchIds]
  | _ :: _ :: _ :: _ => simp [unitAt, node] at h

theorem extract_reads {g : Global α} {id : Ident} {us : List (UVal α)} (h : extract g id = .ok us) :
    us = (branchIds g id).filterMap (unitAt g) ∧ ∃ v, unitAt g id = some v ∧ v ∈ us := by
  simp only [extract] at h
  split at h
  · rename_i hs
    simp only [Except.ok.injEq] at h
    subst h
    refine ⟨rfl, ?_⟩
    obtain ⟨v, hv⟩ := Option.isSome_iff_exists.1 hs
    exact ⟨v, hv, List.mem_filterMap.2 ⟨id, mem_branchIds_self hs, hv⟩⟩
  · cases h

theorem extract_ok_of_isSome {g : Global α} {id : Ident} (h : (unitAt g id).isSome = true) :
    extract g id = .ok (branch g id) := by
  simp [extract, h]

theorem mapM_extract_ok {g : Global α} : ∀ {ids : List Ident} {bs : List (List (UVal α))},
    ids.mapM (extract g) = .ok bs → bs = ids.map (branch g) := by
  intro ids
  induction ids with
  | nil =>
    intro bs h
    simp only [List.mapM_nil] at h
    cases h
    rfl
  | cons id ids ih =>
    intro bs h
    rw [List.mapM_cons] at h
    cases h1 : extract g id with
    | error e => rw [h1] at h; cases h
    | ok us =>
      cases h2 : ids.mapM (extract g) with
      | error e => rw [h1, h2] at h; cases h
      | ok bs' =>
        rw [h1, h2] at h
        have hb : bs = us :: bs' := by cases h; rfl
        have hu : us = branch g id := (extract_reads h1).1
        rw [hb, hu, ih h2]
        rfl

end Spec
end JF.Store

namespace JF.Store
variable {α : Type}

instance Spec.decDisciplinedRun : ∀ (S : Spec α) (ops : List (Op α)), Decidable (Spec.DisciplinedRun S ops)
  | _, [] => isTrue trivial
  | S, op :: ops =>
    have := Spec.decDisciplinedRun (Spec.step S op).1 ops
    inferInstanceAs (Decidable (Spec.Disciplined S op ∧ Spec.DisciplinedRun (Spec.step S op).1 ops))

theorem Spec.disciplined_of_not_inPlace (S : Spec α) {op : Op α} (h : op.inPlace = none) : Spec.Disciplined S op := by
  simp only [Spec.Disciplined, h]

end JF.Store
