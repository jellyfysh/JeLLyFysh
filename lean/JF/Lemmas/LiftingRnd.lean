import JF.Lemmas.LiftingGen
import JF.Num.Rounded
import Mathlib.Tactic.Linarith
import Mathlib.Tactic.Ring
import Mathlib.Tactic.Push
/-!
The selection loop of the lifting schemes (`JF.Model.Lifting`) read over `R fm`, the rationals whose `+ - *` round with
`fm.rnd` for an arbitrary `fm : FloatModel`, for `JF/Props/C05Float.lean`. Rounding is monotone and the identity on
representable numbers, so the rounded running sums of non-negative entries are representable and non-decreasing; hence
`sel_spec` of `JF/Lemmas/LiftingGen.lean` applies as it does over an exact field (`sel_spec_R`).
-/
namespace JF.Lifting
set_option linter.unusedSectionVars false

section rounded
open R
variable {fm : FloatModel} {ι : Type}

def NonNegR (l : List (R fm × ι)) : Prop := ∀ e ∈ l, 0 ≤ toQ e.1

theorem NonNegR.tail {e : R fm × ι} {l : List (R fm × ι)} (h : NonNegR (e :: l)) : NonNegR l :=
  fun x hx => h x (List.mem_cons_of_mem _ hx)

theorem NonNegR.head {e : R fm × ι} {l : List (R fm × ι)} (h : NonNegR (e :: l)) : 0 ≤ toQ e.1 :=
  h e List.mem_cons_self

theorem negL_nonneg (tbl : List (R fm × ι)) : NonNegR (negL (Ops.rounded fm) tbl) := by
  intro e he
  obtain ⟨r, _, h2, h3⟩ := mem_negL _ he
  have : ¬ (0 : ℚ) < toQ r := by simpa using h2
  rw [h3, toQ_neg]; linarith [not_lt.mp this]

theorem acc_mem (l : List (R fm × ι)) (c : R fm) (hc : toQ c ∈ fm.F) (k : Nat) : toQ (acc l c k) ∈ fm.F := by
  induction l generalizing c k with
  | nil => simpa using hc
  | cons e t ih =>
    cases k with
    | zero => simpa using hc
    | succ k => exact ih _ (by rw [toQ_add]; exact fm.rnd_mem _) k

theorem acc_le_succ {l : List (R fm × ι)} (hl : NonNegR l) (c : R fm) (hc : toQ c ∈ fm.F) (k : Nat) :
    toQ (acc l c k) ≤ toQ (acc l c (k + 1)) := by
  induction l generalizing c k with
  | nil => simp
  | cons e t ih =>
    cases k with
    | zero =>
      simp only [acc_zero, acc_cons_succ, toQ_add]
      exact fm.le_rnd_of_le hc (by linarith [hl.head])
    | succ k => exact ih hl.tail _ (by rw [toQ_add]; exact fm.rnd_mem _) k

theorem acc_mono {l : List (R fm × ι)} (hl : NonNegR l) (c : R fm) (hc : toQ c ∈ fm.F) {j k : Nat} (h : j ≤ k) :
    toQ (acc l c j) ≤ toQ (acc l c k) := by
  induction k, h using Nat.le_induction with
  | base => exact le_refl _
  | succ k _ ih => exact le_trans ih (acc_le_succ hl c hc k)

theorem zero_memR : toQ ((Ops.rounded fm).ofInt 0) ∈ fm.F := by simpa using fm.zero_mem

theorem sel_mono {p p' : R fm} (h : toQ p ≤ toQ p') (l : List (R fm × ι)) :
    sel (Ops.rounded fm) p l ≤ sel (Ops.rounded fm) p' l := by
  cases hw' : walkIdx p' l ((Ops.rounded fm).ofInt 0) with
  | none =>
    have : sel (Ops.rounded fm) p' l = l.length - 1 := by simp [sel, hw']
    rw [this]; exact sel_le_pred _ p l
  | some k' =>
    obtain ⟨h1, _, h3⟩ := (walkIdx_some_iff_g p' l _ k').mp hw'
    have hreach : p ≤ acc l ((Ops.rounded fm).ofInt 0) (k' + 1) := le_trans (α := ℚ) h h3
    obtain ⟨k, hk, hle⟩ := walkIdx_le_of_reached p l ((Ops.rounded fm).ofInt 0) h1 hreach
    simp [sel, hw', hk, hle]

theorem sel_spec_R {l : List (R fm × ι)} (hne : l ≠ []) (hl : NonNegR l) (p : R fm) :
    (sel (Ops.rounded fm) p l = 0 ∨
        toQ (acc l ((Ops.rounded fm).ofInt 0) (sel (Ops.rounded fm) p l)) < toQ p) ∧
      (toQ p ≤ toQ (acc l ((Ops.rounded fm).ofInt 0) (sel (Ops.rounded fm) p l + 1)) ∨
        sel (Ops.rounded fm) p l = l.length - 1 ∧ toQ (acc l ((Ops.rounded fm).ofInt 0) l.length) < toQ p) :=
  sel_spec toQ le_iff _ p hne fun _ _ h => acc_mono hl _ zero_memR h

/-- The entry read by loop + fall-through has rate zero iff (a) the position is `≤ 0` and the first entry has rate zero,
or (b) the last rounded running sum is below the position (fall-through) and the last entry has rate zero. -/
theorem sel_zero_rate_iff {l : List (R fm × ι)} (hne : l ≠ []) (hl : NonNegR l) (p : R fm) :
    toQ (l[sel (Ops.rounded fm) p l]'(sel_lt _ p hne)).1 = 0 ↔
      (toQ p ≤ 0 ∧ toQ (l[0]'(List.length_pos_iff.mpr hne)).1 = 0) ∨
      (toQ (acc l ((Ops.rounded fm).ofInt 0) l.length) < toQ p ∧
        toQ (l[l.length - 1]'(by have := List.length_pos_iff.mpr hne; omega)).1 = 0) := by
  have hk := sel_lt (Ops.rounded fm) p hne
  obtain ⟨h1, h2⟩ := sel_spec_R hne hl p
  have hA0 : ∀ k, 0 ≤ toQ (acc l ((Ops.rounded fm).ofInt 0) k) := fun k => by
    simpa using acc_mono hl ((Ops.rounded fm).ofInt 0) zero_memR (Nat.zero_le k)
  constructor
  · intro hz
    -- a zero entry does not move the running sum: `A_{k+1} = A_k`, so `p ≤ A_{k+1}` forces `k = 0` and `p ≤ A_0 = 0`
    rcases h2 with h2 | ⟨hs, h2⟩
    · rw [acc_succ l _ hk, toQ_add, hz, add_zero, fm.rnd_id _ (acc_mem l _ zero_memR _)] at h2
      have hs := h1.resolve_right (not_lt.2 h2)
      simp only [hs, acc_zero, rounded_ofInt, Int.cast_zero] at hz h2
      exact Or.inl ⟨h2, hz⟩
    · simp only [hs] at hz
      exact Or.inr ⟨h2, hz⟩
  · rintro (⟨hp, hz⟩ | ⟨hp, hz⟩)
    · have hs := h1.resolve_right (not_lt.2 (hp.trans (hA0 _)))
      simpa only [hs] using hz
    · have hs := (h2.resolve_left
        (not_le.2 ((acc_mono hl _ zero_memR (Nat.succ_le_of_lt hk)).trans_lt hp))).1
      simpa only [hs] using hz

theorem posL_nonneg (tbl : List (R fm × ι)) : NonNegR (posL (Ops.rounded fm) tbl) := fun e he => by
  have : (0 : ℚ) < toQ e.1 := by simpa using (List.mem_filter.mp he).2
  exact this.le

/-- `_random_position` before the active unit is representable and never below its start value -/
theorem posAcc_mem_ge (t : List (R fm × ι)) (p : R fm) (hp : toQ p ∈ fm.F) :
    toQ (posAcc (Ops.rounded fm) t p) ∈ fm.F ∧ toQ p ≤ toQ (posAcc (Ops.rounded fm) t p) := by
  rw [posAcc_eq_acc]
  exact ⟨acc_mem _ p hp _, by simpa using acc_mono (posL_nonneg t) p hp (Nat.zero_le _)⟩

theorem condAOn_iff (l : List (R fm × ι)) (p : R fm) :
    condAOn (Ops.rounded fm) l p = true ↔ toQ p ≤ 0 ∧ ∃ h : 0 < l.length, toQ (l[0]).1 = 0 := by
  unfold condAOn
  cases l with
  | nil => simp
  | cons e t => simp

theorem condBOn_iff (l : List (R fm × ι)) (p : R fm) :
    condBOn (Ops.rounded fm) l p = true ↔
      toQ (acc l ((Ops.rounded fm).ofInt 0) l.length) < toQ p ∧
        ∃ h : 0 < l.length, toQ (l[l.length - 1]).1 = 0 := by
  unfold condBOn
  rcases List.eq_nil_or_concat l with rfl | ⟨L, b, rfl⟩
  · simp
  · simp

end rounded

end JF.Lifting
