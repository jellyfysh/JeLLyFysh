import JF.Model.ConcreteWorld2
import JF.Props.C12Chain
import JF.Lemmas.CompositeVels
/-
For `JF/Props/Footprints2.lean`: what the events of the two-level machine `Composite.step` do to the part of the
global state the taggers read (`flags`: which units carry a velocity) and to the shape of the tree.

* `vels_quiet` — a `keep` / `snap` event (the kinds of sampling, dumping, end-of-run and cell-boundary handlers) leaves the velocity
  of EVERY unit as it is (any scalar type): the `.ident` and `.motion` columns `false` of `affects`;
* `yieldCls_congr` — the yields read the global state only through `flags`: the `.motion` / `.time` columns `false` of `reads`;
* `lens_step` — no event changes the number of composite objects or the number of point masses of any of them;
* `quiet_of_kindAgrees`, `yield_untouched` — the footprint tables read in this world: which handler classes commit only `keep` / `snap`,
  and what the compared yield of each tagger class depends on.
-/
namespace JF.CW2
open JF JF.Act JF.Composite

section
variable {α : Type}

theorem flags_eq_of_vels {cs cs' : List (CObj α)} (h : vels cs' = vels cs) : flags cs' = flags cs := by
  have e : ∀ xs : List (CObj α), flags xs = (vels xs).map fun p => (p.1.isSome, p.2.map Option.isSome) := by
    intro xs
    simp only [flags, vels, List.map_map]
    apply List.map_congr_left
    intro c _
    simp [flagOf, velsOf, Kin.isMoving, Function.comp_def]
  rw [e, e, h]

theorem length_eq_of_vels {cs cs' : List (CObj α)} (h : vels cs' = vels cs) : cs'.length = cs.length := by
  have := congrArg List.length h
  simpa [vels] using this

/-- **`.motion` / `.time` are not read**: what a tagger yields depends on the global state only through `flags` (which units carry
a velocity) -/
theorem yieldCls_congr (env : Env α) (T : TaggerIdx) (cls : TaggerClass) {cs cs' : List (CObj α)} (h : flags cs' = flags cs) :
    yieldCls env T cls cs' = yieldCls env T cls cs := by
  unfold yieldCls
  rw [h]

variable [Add α] [Sub α] [Mul α] [LT α] [DecidableLT α] [BEq α]

variable [Div α] [Neg α]

/-- **`.ident` / `.motion` = false for the quiet kinds**: a `keep` or a `snap` leaves the velocity of every root and every leaf as
it is -/
theorem vels_quiet (o : Ops α) (small : α → Bool) (L : List α) (cs : List (CObj α)) (e : Composite.Ev α)
    (hq : quietKind (evKind e) = true) : vels (step o small L cs e) = vels cs := by
  cases e with
  | keep t S => exact vels_sliceAt o L t S cs
  | snap t S i j d x => exact vels_snap o L t S i j d x cs
  | _ => simp [evKind, quietKind] at hq

end

def lens (cs : List (CObj ℚ)) : List Nat := cs.map (·.leaves.length)

def LP (f : CObj ℚ → CObj ℚ) : Prop := ∀ c, (f c).leaves.length = c.leaves.length

theorem lens_modify {f : CObj ℚ → CObj ℚ} (h : LP f) (cs : List (CObj ℚ)) (i : Nat) : lens (cs.modify i f) = lens cs :=
  Kin.map_modify_of_eq (fun c : CObj ℚ => c.leaves.length) f h cs i

theorem lp_sliceComp (L : List ℚ) (t : Time ℚ) : LP (sliceComp Ops.rat L t) := fun c => by simp [sliceComp]

theorem lens_sliceAt (L : List ℚ) (t : Time ℚ) (S : List Nat) (cs : List (CObj ℚ)) : lens (sliceAt Ops.rat L t S cs) = lens cs :=
  Kin.foldl_modify_map (fun c : CObj ℚ => c.leaves.length) (sliceComp Ops.rat L t) (lp_sliceComp L t) S cs

theorem lens_step (L : List ℚ) (cs : List (CObj ℚ)) (e : Composite.Ev ℚ) : lens (step Ops.rat isZ L cs e) = lens cs := by
  -- every branch of every event is `sliceAt` followed by modifications of single objects that keep their point masses
  cases e <;> simp only [step, snap, exchange, pass, eocLeaf, eocRoot, toLeaf, toRoot, start, apply2] <;> repeat' split
  all_goals
    repeat rw [lens_modify (fun c => by simp [applyUpds, setLeaves_length])]
    try exact lens_sliceAt L _ _ cs

/-- the two tables agree: a handler kind whose commits do not affect `.ident` (sampling, dumping, end of run, cell boundary) is
read by `kindAgrees` as a handler class that commits only `keep` / `snap` (`neutral`, `cellBoundary`) -/
theorem quiet_of_kindAgrees {t : TaggerW} {hm : HMode} (ha : affects t .ident = false) (hag : kindAgrees t.kind hm = true)
    {k : EvKind} {cm : WMode} (hk : k ∈ kindsOf hm cm) : quietKind k = true := by
  unfold kindAgrees at hag
  -- one goal per row of `kindAgrees`; the rows whose kind affects `.ident` contradict `ha`
  split at hag <;> cases hag <;> rename_i hkind <;> simp only [affects, hkind, Bool.true_eq_false] at ha
  all_goals
    simp only [kindsOf, List.mem_singleton] at hk
    subst hk
    rfl

theorem viewOf_count {t : TaggerW} (h : idsView t = false) (l : List IdTuple) :
    l.map (viewOf t) = List.replicate l.length none := by
  induction l with
  | nil => rfl
  | cons x xs ih => simp [viewOf, h, ih, List.replicate_succ]

/-- **what the tagger classes of this world read**: the compared yield of tagger `t` is the same in two global states whose flags
agree — which is demanded only if the table says that `t` reads `.ident` — and which have the same number of independent active
identifiers (the one thing an `activeRootUnit` tagger compared by its number of pending events sees) -/
theorem yield_untouched {α : Type} (env : Env α) (T : TaggerIdx) (t : TaggerW) {cs cs' : List (CObj α)}
    (hfl : reads t .ident = true → flags cs' = flags cs)
    (hcnt : t.cls = .activeRootUnit → idsView t = false →
      (independent env.nPer (flags cs')).length = (independent env.nPer (flags cs)).length) :
    ((yieldCls env T t.cls cs').map (viewOf t)).Perm ((yieldCls env T t.cls cs).map (viewOf t)) := by
  have quiet : reads t .ident = true → yieldCls env T t.cls cs' = yieldCls env T t.cls cs :=
    fun hr => yieldCls_congr env T _ (hfl hr)
  cases hcls : t.cls with
  | noInState => exact List.Perm.refl _
  | activeGlobalState =>
    by_cases hv : idsView t = true
    · rw [← hcls, quiet (by simp [reads, hcls, hv])]
    · simp [yieldCls, yieldF, viewOf, hv]
  | activeRootUnit =>
    by_cases hv : idsView t = true
    · rw [← hcls, quiet (by simp [reads, hcls, hv])]
    · have hv' : idsView t = false := by simpa using hv
      rw [viewOf_count hv', viewOf_count hv']
      simp only [yieldCls, yieldF, branches, List.length_map, hcnt hcls hv', List.Perm.refl]
  | factorTypeMap => rw [← hcls, quiet (by simp [reads, hcls])]
  | cellBoundary | cellBounding | cellVeto | excludedCells | surplusCells | unknown => exact List.Perm.refl _

end JF.CW2
