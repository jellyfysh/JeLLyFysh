import JF.Model.ConcreteWorld
import JF.Lemmas.ActivatorWiring
import JF.Lemmas.OccLeg
/-
Lemmas for `JF/Props/Footprints.lean`: the concrete world of `JF/Model/ConcreteWorld.lean` as a `JF.Act.World`, and the pieces of
the proof that the hand-written footprint tables (`affects`, `reads`) are sound for it.  What `update` does to the carried occupancy is
in `JF/Lemmas/OccLeg.lean` (shared with `JF.CW3`): `Consistent.occ`, `yieldCls_cell` say how this world reads there.  Core Lean only;
every statement is for an arbitrary scalar type.
-/
namespace JF.CW
open JF JF.Act

section
variable {α : Type}

theorem movers_map (f : PUnit α → PUnit α) (hf : ∀ u, Kin.isMoving (f u) = Kin.isMoving u) (us : List (PUnit α)) :
    movers (us.map f) = movers us := by
  unfold movers
  rw [List.length_map]
  apply List.filter_congr
  intro i _
  rw [List.getElem?_map]
  cases us[i]? <;> simp [hf]

theorem isMoving_snapUnit (d : Nat) (x : α) (u : PUnit α) :
    Kin.isMoving (if Kin.isMoving u then { u with pos := Kin.setCoord u.pos d x } else u) = Kin.isMoving u := by
  split <;> simp_all [Kin.isMoving]

theorem keep_or_snap_of_identQuiet {kind : HandlerKind} {ev : Kin.Ev α}
    (hk : quietKind kind = true ∨ kind = .cellBoundary) (hal : allowedEv kind ev = true) :
    (∃ t, ev = .keep t) ∨ ∃ t d x, ev = .snap t d x := by
  rcases hk with hk | rfl
  · cases kind <;> cases hk <;> cases ev <;> first | exact Or.inl ⟨_, rfl⟩ | cases hal
  · cases ev <;> first | exact Or.inr ⟨_, _, _, rfl⟩ | cases hal

variable [Add α] [Sub α] [Mul α] [LT α] [DecidableLT α] [BEq α]

theorem isMoving_timeSlice (o : Ops α) (L : List α) (t : Time α) (u : PUnit α) :
    Kin.isMoving (Kin.timeSlice o L t u) = Kin.isMoving u := by
  unfold Kin.timeSlice Kin.isMoving
  split <;> simp_all

/-- a commit whose kind has `affects · .ident = false` leaves the set of active units and the number of units alone -/
theorem movers_of_identQuiet {env : Env α} {kind : HandlerKind} {us us' : List (PUnit α)}
    (hk : quietKind kind = true ∨ kind = .cellBoundary)
    (h : (∃ ev : Kin.Ev α, allowedEv kind ev = true ∧ us' = Kin.step env.o env.L us ev) ∨ (kind = .dumping ∧ us' = us)) :
    movers us' = movers us ∧ us'.length = us.length := by
  rcases h with ⟨ev, hal, rfl⟩ | ⟨_, rfl⟩
  · rcases keep_or_snap_of_identQuiet hk hal with ⟨t, rfl⟩ | ⟨t, d, x, rfl⟩
    · exact ⟨movers_map _ (isMoving_timeSlice env.o env.L t) us, by simp [Kin.step]⟩
    · refine ⟨?_, by simp [Kin.step]⟩
      show movers ((us.map _).map _) = _
      rw [movers_map _ (isMoving_snapUnit d x), movers_map _ (isMoving_timeSlice env.o env.L t)]
  · exact ⟨rfl, rfl⟩

end

section
variable {α : Type}

theorem unitIn_relevant (env : Env α) (us : List (PUnit α)) (a : Nat) : (unitIn env us a).relevant = env.relevant a := rfl

theorem occAfter_some {env : Env α} {occ occ' : Occ.State} {us' : List (PUnit α)}
    (h : occAfter env true occ us' = some occ') :
    ∃ a, movers us' = [a] ∧ Occ.update occ (unitIn env us' a) = .ok occ' := by
  unfold occAfter at h
  simp only [if_true] at h
  split at h
  · next a hm =>
    refine ⟨a, hm, ?_⟩
    split at h
    · next s hs => injection h with h; subst h; exact hs
    · cases h
  · cases h

/-- the carried occupancy of this world in the terms of `JF/Lemmas/OccLeg.lean` -/
theorem Consistent.occ {env : Env α} {g : CState α} (hc : Consistent env true g) :
    CW3.ConsistentOcc env.relevant (movers g.us) g.occ := hc rfl

/-- the one occupancy of this world as an internal state of `JF.CW3` on the root level: the cell taggers read it the same way -/
def oeOf (env : Env α) : CW3.OccEnv α := ⟨1, env.grid, env.cellOf, env.relevant⟩

theorem yieldCls_cell (env : Env α) {cls : TaggerClass} (h : CW3.isCellCls cls = true) (g : CState α) :
    yieldCls env cls g = CW3.yieldCell 0 (oeOf env) cls g.occ := by
  cases cls <;> first | rfl | cases h

/-- **the carried occupancy stays consistent**: after any commit + update, whatever the event was -/
theorem consistent_after {env : Env α} {hasOcc : Bool} {g g' : CState α} (hc : Consistent env hasOcc g)
    (ho : occAfter env hasOcc g.occ g'.us = some g'.occ) : Consistent env hasOcc g' := by
  intro hh
  subst hh
  obtain ⟨a, hm, hu⟩ := occAfter_some ho
  rw [hm]
  exact (Consistent.occ hc).update rfl hu

/-- the state before the start-of-run event (nothing moves, the occupancy freshly initialised) is consistent; with
`consistent_after` every state of a run that starts there is -/
theorem consistent_at_rest (env : Env α) (hasOcc : Bool) (us : List (PUnit α)) (cap : Int) (units : List Occ.UnitIn)
    (h : movers us = []) : Consistent env hasOcc ⟨us, Occ.init cap units⟩ :=
  fun _ => h ▸ CW3.consistent_init env.relevant cap units

end

theorem commit_g {G : Type} {w : Wires} {W : World G} {rs rs' : RS G} {E : TaggerIdx} {g' : G}
    (e : commit w W rs E g' = some rs') : rs'.g = g' := by
  obtain ⟨_, _, _, rfl⟩ := commit_some e
  rfl

section
variable {α : Type}

/-- global states of the world of configuration `c`: point masses + carried occupancy, consistent with each other -/
def G (env : Env α) (c : Wiring) : Type := { g : CState α // Consistent env (hasOccOf c) g }

def world (env : Env α) (c : Wiring) : World (G env c) :=
  { yieldOf := fun T g => yieldCls env (c.tagger T).cls g.1
    view := fun T => viewOf (c.tagger T)
    live := fun T => T < c.n ∧ (c.tagger T).kind ≠ .startOfRun }

theorem liveIs (env : Env α) (c : Wiring) : LiveIs c (world env c) := fun _ => Iff.rfl

variable [Add α] [Sub α] [Mul α] [LT α] [DecidableLT α] [BEq α]

/-- the transition relation of configuration `c`: a commit by a handler of tagger `E` -/
def Tr (env : Env α) (c : Wiring) (E : TaggerIdx) (g g' : G env c) : Prop :=
  TrRaw env (hasOccOf c) (c.tagger E).kind g.1 g'.1

/-- nothing is lost by restricting to consistent states: a raw transition from a consistent state ends in one -/
theorem trRaw_consistent {env : Env α} {hasOcc : Bool} {kind : HandlerKind} {g g' : CState α}
    (hc : Consistent env hasOcc g) (h : TrRaw env hasOcc kind g g') : Consistent env hasOcc g' :=
  consistent_after hc h.2.1

end

theorem disjoint_ident {c : Wiring} {e t : TaggerW} (h : disjointFP c e t = true) :
    affects e .ident = true → reads t .ident = false := by
  unfold disjointFP at h
  have := List.all_eq_true.mp h .ident (by simp [aspects])
  intro ha
  simpa [ha] using this

theorem ident_false_of_disjoint {c : Wiring} {e t : TaggerW} (h : disjointFP c e t = true) (hr : reads t .ident = true) :
    affects e .ident = false := by
  cases ha : affects e .ident
  · rfl
  · rw [disjoint_ident h ha] at hr; cases hr

theorem cell_false_of_disjoint {c : Wiring} {e t : TaggerW} {l : Nat} (hl : l < c.labels.length) (h : disjointFP c e t = true)
    (hr : reads t (.cell l) = true) : affects e (.cell l) = false := by
  have := List.all_eq_true.mp h (.cell l) (by
    simp only [aspects, List.mem_append, List.mem_map, List.mem_range]
    exact Or.inr ⟨l, hl, rfl⟩)
  simpa [hr] using this

theorem identQuiet_of_affects {t : TaggerW} (ha : affects t .ident = false) :
    quietKind t.kind = true ∨ t.kind = .cellBoundary := by
  revert ha; unfold affects; cases t.kind <;> simp [quietKind]

/-- every tagger index of a supported wiring: a tagger of this world, or (out of range) the default tagger -/
theorem supported_tagger {c : Wiring} (hs : Supported c = true) (i : TaggerIdx) :
    okT c.labels.length (c.tagger i) = true ∨ ((c.tagger i).cls = .unknown ∧ (c.tagger i).kind = .unknown) := by
  by_cases hi : i < c.n
  · left
    unfold Supported at hs
    simp only [Bool.and_eq_true] at hs
    exact List.all_eq_true.mp hs.2 _ (tagger_mem c hi)
  · right
    have : c.taggers.length ≤ i := Nat.le_of_not_lt hi
    simp [Wiring.tagger, List.getElem?_eq_none this]

theorem supported_labels {c : Wiring} (hs : Supported c = true) : c.labels.length ≤ 1 := by
  unfold Supported at hs
  simp only [Bool.and_eq_true, decide_eq_true_eq] at hs
  exact hs.1

end JF.CW
