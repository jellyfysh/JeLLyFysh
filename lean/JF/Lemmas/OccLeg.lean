import JF.Model.ConcreteWorld3
import JF.Lemmas.OccFields
/-
One carried occupancy (`SingleActiveCellOccupancy`, C11's model) across one commit, as every world that carries occupancies uses it: over
`ConsistentOcc rel acts occ`, where who was active on the cell level before (`acts`) and how the one active unit afterwards looks to
`update` (`u`) are variables — `JF/Lemmas/ConcreteWorld.lean` puts in `movers us` and `CW.unitIn env us' a`,
`JF/Lemmas/ConcreteWorld3.lean` `unitsOn nPer level (flags cs)` and `CW3.unitIn nPer oe cs' a`.  The occupancy stays consistent
(`ConsistentOcc.update`); `update` for the unit that was active already changes at most the recorded cell (`ConsistentOcc.update_same`),
so the yield of no cell tagger changes — for the classes that read the cell lists under the history premise
(`ConsistentOcc.yieldCell_update`).  What `update` does to the recorded unit and cell is `CW.update_fields` (`JF/Lemmas/OccFields.lean`).
-/
namespace JF.CW3
open JF JF.Act

theorem expected_some {rel : Nat → Bool} {acts : List Nat} {a : Nat} (h : expectedActive rel acts = some a) :
    acts = [a] ∧ rel a = true := by
  unfold expectedActive at h
  split at h
  · split at h
    · next hr => injection h with h; subst h; exact ⟨rfl, hr⟩
    · cases h
  · cases h

/-- a freshly initialised occupancy is consistent with a state at rest (nobody active) -/
theorem consistent_init (rel : Nat → Bool) (cap : Int) (units : List Occ.UnitIn) :
    ConsistentOcc rel [] (Occ.init cap units) := by
  simp [ConsistentOcc, expectedActive, (CW.init_active cap units).1, (CW.init_active cap units).2]

variable {rel : Nat → Bool} {acts : List Nat} {occ occ' : Occ.State} {u : Occ.UnitIn}

/-- **a carried occupancy stays consistent**: whoever was active before, after `update` for `u` the occupancy is consistent with
`u` being the one active unit -/
theorem ConsistentOcc.update (hc : ConsistentOcc rel acts occ) (hr : u.relevant = rel u.id)
    (hu : Occ.update occ u = .ok occ') : ConsistentOcc rel [u.id] occ' := by
  obtain ⟨h1, h2⟩ := CW.update_active hu
  refine ⟨?_, h2⟩
  rw [h1, expectedActive, ← hr]
  split
  · -- an identifier recorded before was the expected one, hence relevant
    next hid => rw [hr, (expected_some (hc.1.symm.trans hid)).2]; rfl
  · rfl

/-- `update` for the unit that was active already: a relevant unit gets its new cell recorded and nothing else changes; for an
irrelevant one nothing changes at all -/
theorem ConsistentOcc.update_same (hc : ConsistentOcc rel acts occ) (ha : acts = [u.id]) (hr : u.relevant = rel u.id)
    (hu : Occ.update occ u = .ok occ') :
    (u.relevant = true ∧ occ.activeId = some u.id ∧ occ' = { occ with activeCell := some u.cell }) ∨
    (u.relevant = false ∧ occ.activeId = none ∧ occ' = occ) := by
  subst ha
  obtain ⟨hid, hcell⟩ := hc
  rw [expectedActive, ← hr] at hid
  cases hrel : u.relevant
  · right
    simp only [hrel, Bool.false_eq_true, if_false] at hid
    rw [CW.update_irrelevant hid hrel] at hu
    injection hu with hu
    refine ⟨rfl, hid, ?_⟩
    have hc : occ.activeCell = none := by
      rw [hid] at hcell
      exact Option.isSome_eq_false_iff.mp hcell |> Option.isNone_iff_eq_none.mp
    rw [← hu]
    cases occ
    simp only at hid hc
    subst hid; subst hc; rfl
  · left
    simp only [hrel, if_true] at hid
    rw [CW.update_same hid] at hu
    injection hu with hu
    exact ⟨rfl, hid, hu.symm⟩

/-- … so what `yield_active_cells` shows of the active UNIT (the yield of `CellBoundaryTagger` / `CellVetoTagger`) is unchanged -/
theorem ConsistentOcc.update_same_active (hc : ConsistentOcc rel acts occ) (ha : acts = [u.id]) (hr : u.relevant = rel u.id)
    (hu : Occ.update occ u = .ok occ') : occ'.activeId = occ.activeId ∧ occ'.activeCell.isSome = occ.activeCell.isSome := by
  rcases hc.update_same ha hr hu with ⟨_, hid, rfl⟩ | ⟨_, _, rfl⟩
  · exact ⟨rfl, by rw [hc.2, hid]; rfl⟩
  · exact ⟨rfl, rfl⟩

/-- … and under the history premise (the unit is still in its recorded cell) the whole occupancy is -/
theorem ConsistentOcc.update_quiet (hc : ConsistentOcc rel acts occ) (ha : acts = [u.id]) (hr : u.relevant = rel u.id)
    (hu : Occ.update occ u = .ok occ') (hp : rel u.id = true → occ.activeCell = some u.cell) : occ' = occ := by
  rcases hc.update_same ha hr hu with ⟨h, _, rfl⟩ | ⟨_, _, rfl⟩
  · rw [← hp (hr ▸ h)]
  · rfl

/-- the cell-veto / cell-boundary yield of ANY reading of the occupancy (`CW.tocc`, `CW3.tocc`) that shows the active unit `a` as
`ident a` in whatever cell: a function of `activeId` and of whether `activeCell` is set -/
theorem veto_of_active {o o' : CellTaggers.Occ} {s s' : Occ.State} {ident : Nat → CellTaggers.Ident}
    {cell : Nat → CellTaggers.Cell}
    (ho : o.active = match s.activeCell, s.activeId with | some c, some a => some (cell c, ident a) | _, _ => none)
    (ho' : o'.active = match s'.activeCell, s'.activeId with | some c, some a => some (cell c, ident a) | _, _ => none)
    (h : s'.activeId = s.activeId ∧ s'.activeCell.isSome = s.activeCell.isSome) :
    CellTaggers.cellVetoTagger o' = CellTaggers.cellVetoTagger o := by
  obtain ⟨h1, h2⟩ := h
  unfold CellTaggers.cellVetoTagger
  rw [ho, ho', h1]
  cases s.activeId <;> cases hc : s.activeCell <;> cases hc' : s'.activeCell <;> rw [hc, hc'] at h2 <;>
    first | rfl | cases h2

theorem reads_ident_of_cell {t : TaggerW} (h : isCellCls t.cls = true) : reads t .ident = true := by
  revert h; unfold reads isCellCls; cases t.cls <;> simp

theorem reads_cell_of_cellReading {t : TaggerW} {l : Nat} (h : cellReading t.cls = true) (hl : t.label = some l) :
    reads t (.cell l) = true := by
  revert h; unfold reads cellReading; cases t.cls <;> simp [hl]

/-- the two cell classes that do not read the cell lists (cell boundary, cell veto) yield `(active_identifier,)` -/
theorem yieldCell_veto {α : Type} {nPer : Nat} {oe : OccEnv α} {cls : TaggerClass} (s : Occ.State)
    (h : isCellCls cls = true) (hr : cellReading cls = false) :
    yieldCell nPer oe cls s = CW.wrapIds (CellTaggers.cellVetoTagger (tocc nPer oe s)) := by
  cases cls <;> simp [isCellCls, cellReading] at h hr <;> rfl

/-- **what `update` for the unit that was active already does to the yield of a cell tagger**: nothing — for the classes that read the
cell lists (`cellReading`) under the history premise -/
theorem ConsistentOcc.yieldCell_update {α : Type} {nPer : Nat} {oe : OccEnv α} {cls : TaggerClass} (hc : ConsistentOcc rel acts occ)
    (ha : acts = [u.id]) (hr : u.relevant = rel u.id) (hu : Occ.update occ u = .ok occ')
    (hp : cellReading cls = true → rel u.id = true → occ.activeCell = some u.cell) :
    yieldCell nPer oe cls occ' = yieldCell nPer oe cls occ := by
  cases hrd : cellReading cls
  · cases hcell : isCellCls cls
    · cases cls <;> first | rfl | cases hcell
    · rw [yieldCell_veto _ hcell hrd, yieldCell_veto _ hcell hrd,
        veto_of_active (o := tocc nPer oe occ) (o' := tocc nPer oe occ') rfl rfl (hc.update_same_active ha hr hu)]
  · rw [hc.update_quiet ha hr hu (hp hrd)]

end JF.CW3
