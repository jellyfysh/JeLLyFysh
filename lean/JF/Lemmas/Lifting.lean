import JF.Lemmas.LiftingGen
import Mathlib.Algebra.Order.Field.Basic
import Mathlib.Tactic.Ring
/-!
The exact reading of `JF.Model.Lifting` over an arbitrary linearly ordered field `K` (any `Ops K` whose literal `0`
is the field's zero): CPython's compensated `sum()` is the plain sum (`pySum_exact`), the folds of
`JF/Lemmas/LiftingGen.lean` are `negOf` and `posSum`, the running sums of the common loop are the partial sums
`cumB` (`acc_eq`), and the overlap of two intervals is the increment of the clamp into one of them over
the other (`overlap_eq_clamp`), so overlaps with consecutive intervals telescope.
-/
namespace JF.Lifting
set_option linter.unusedSectionVars false

variable {K : Type} [Field K] [LinearOrder K] [IsStrictOrderedRing K] {ι : Type}

/-- the list of non-positive entries of a table, negated, in insertion order: what `insert` builds in
`_negative_lifting_rates` / `_associated_identifiers` -/
def negOf : List (K × ι) → List (K × ι)
  | [] => []
  | (r, i) :: t => if 0 < r then negOf t else (-r, i) :: negOf t

def posSum : List (K × ι) → K
  | [] => 0
  | (r, _) :: t => if 0 < r then r + posSum t else posSum t

def total (l : List (K × ι)) : K := (l.map Prod.fst).sum

/-- `N_{k-1}`: sum of the first `k` entries (`cumB l 0 = 0`, `cumB l (k+1) = N_k`) -/
def cumB (l : List (K × ι)) (k : Nat) : K := total (l.take k)

def NonNeg (l : List (K × ι)) : Prop := ∀ e ∈ l, 0 ≤ e.1

theorem posSum_cons (e : K × ι) (t : List (K × ι)) :
    posSum (e :: t) = if 0 < e.1 then e.1 + posSum t else posSum t := rfl

theorem posSum_cons_max (e : K × ι) (t : List (K × ι)) : posSum (e :: t) = max 0 e.1 + posSum t := by
  rw [posSum_cons]
  split
  · next h => rw [max_eq_right h.le]
  · next h => rw [max_eq_left (not_lt.mp h), zero_add]

@[simp] theorem total_nil : total ([] : List (K × ι)) = 0 := rfl
@[simp] theorem total_cons (e : K × ι) (l : List (K × ι)) : total (e :: l) = e.1 + total l := by
  simp [total]
@[simp] theorem cumB_zero (l : List (K × ι)) : cumB l 0 = 0 := by simp [cumB]
@[simp] theorem cumB_nil (k : Nat) : cumB ([] : List (K × ι)) k = 0 := by simp [cumB]
@[simp] theorem cumB_cons_succ (e : K × ι) (l : List (K × ι)) (k : Nat) :
    cumB (e :: l) (k + 1) = e.1 + cumB l k := by simp [cumB]

theorem cumB_length (l : List (K × ι)) : cumB l l.length = total l := by simp [cumB]

theorem cumB_of_length_le (l : List (K × ι)) {k : Nat} (h : l.length ≤ k) : cumB l k = total l := by
  simp [cumB, List.take_of_length_le h]

theorem NonNeg.tail {e : K × ι} {l : List (K × ι)} (h : NonNeg (e :: l)) : NonNeg l :=
  fun x hx => h x (List.mem_cons_of_mem _ hx)

theorem NonNeg.head {e : K × ι} {l : List (K × ι)} (h : NonNeg (e :: l)) : 0 ≤ e.1 :=
  h e List.mem_cons_self

theorem total_nonneg {l : List (K × ι)} (h : NonNeg l) : 0 ≤ total l := by
  induction l with
  | nil => simp
  | cons e t ih => rw [total_cons]; exact add_nonneg h.head (ih h.tail)

theorem cumB_nonneg {l : List (K × ι)} (h : NonNeg l) (k : Nat) : 0 ≤ cumB l k :=
  total_nonneg fun e he => h e (List.mem_of_mem_take he)

theorem cumB_mono {l : List (K × ι)} (h : NonNeg l) : ∀ {j k : Nat}, j ≤ k → cumB l j ≤ cumB l k := by
  induction l with
  | nil => intro j k _; simp
  | cons e t ih =>
    intro j k hjk
    cases j with
    | zero => simpa using cumB_nonneg h k
    | succ j =>
      cases k with
      | zero => omega
      | succ k => simp only [cumB_cons_succ]; exact add_le_add le_rfl (ih h.tail (Nat.le_of_succ_le_succ hjk))

theorem cumB_le_total {l : List (K × ι)} (h : NonNeg l) (k : Nat) : cumB l k ≤ total l := by
  rcases Nat.le_total k l.length with hk | hk
  · rw [← cumB_length]; exact cumB_mono h hk
  · rw [cumB_of_length_le l hk]

theorem cumB_succ (l : List (K × ι)) {k : Nat} (hk : k < l.length) :
    cumB l (k + 1) = cumB l k + (l[k]).1 := by
  induction l generalizing k with
  | nil => simp at hk
  | cons e t ih =>
    cases k with
    | zero => simp
    | succ k =>
      have hk' : k < t.length := by simpa using hk
      rw [cumB_cons_succ, cumB_cons_succ, List.getElem_cons_succ, ih hk', add_assoc]

theorem negOf_nonneg (tbl : List (K × ι)) : NonNeg (negOf tbl) := by
  induction tbl with
  | nil => intro e he; simp [negOf] at he
  | cons x t ih =>
    obtain ⟨r, i⟩ := x
    unfold negOf
    split
    · exact ih
    · next h =>
      intro e he
      rcases List.mem_cons.mp he with rfl | he
      · exact neg_nonneg.2 (not_lt.mp h)
      · exact ih e he

theorem total_eq_posSum_sub (tbl : List (K × ι)) : total tbl = posSum tbl - total (negOf tbl) := by
  induction tbl with
  | nil => simp [posSum, negOf]
  | cons x t ih =>
    obtain ⟨r, i⟩ := x
    unfold posSum negOf
    split <;> simp [ih] <;> ring

theorem posSum_nonneg (tbl : List (K × ι)) : 0 ≤ posSum tbl := by
  induction tbl with
  | nil => simp [posSum]
  | cons x t ih =>
    obtain ⟨r, i⟩ := x
    unfold posSum
    split
    · next h => exact add_nonneg h.le ih
    · exact ih

theorem posSum_take_add_drop (tbl : List (K × ι)) (a : Nat) :
    posSum (tbl.take a) + posSum (tbl.drop a) = posSum tbl := by
  induction tbl generalizing a with
  | nil => simp [posSum]
  | cons x t ih =>
    obtain ⟨r, i⟩ := x
    cases a with
    | zero => simp [posSum]
    | succ a =>
      rw [List.take_succ_cons, List.drop_succ_cons, posSum_cons, posSum_cons]
      split
      · rw [add_assoc, ih a]
      · exact ih a

theorem posSum_take_le (tbl : List (K × ι)) (a : Nat) : posSum (tbl.take a) ≤ posSum tbl :=
  (le_add_of_nonneg_right (posSum_nonneg _)).trans_eq (posSum_take_add_drop tbl a)

theorem posSum_take_add_le (tbl : List (K × ι)) {a : Nat} (ha : a < tbl.length) (hq : 0 < (tbl[a]).1) :
    posSum (tbl.take a) + (tbl[a]).1 ≤ posSum tbl := by
  rw [← posSum_take_add_drop tbl a, List.drop_eq_getElem_cons ha, posSum_cons, if_pos hq]
  exact add_le_add le_rfl (le_add_of_nonneg_right (posSum_nonneg _))

section ops
variable (o : Ops K)

theorem neumaier_exact (h0 : o.ofInt 0 = 0) (xs : List K) (f : K) :
    neumaier o xs f 0 = f + xs.sum := by
  induction xs generalizing f with
  | nil => simp [neumaier, h0]
  | cons x t ih =>
    unfold neumaier
    have h1 : (0 : K) + (f - (f + x) + x) = 0 := by rw [zero_add, sub_add_cancel_left, neg_add_cancel]
    have h2 : (0 : K) + (x - (f + x) + f) = 0 := by rw [zero_add, sub_add_cancel_right, neg_add_cancel]
    simp only [h1, h2, ite_self, ih, List.sum_cons]
    exact add_assoc _ _ _

theorem pySum_exact (h0 : o.ofInt 0 = 0) (xs : List K) : pySum o xs = xs.sum := by
  cases xs with
  | nil => simp [pySum, h0]
  | cons x t =>
    simp only [pySum, h0, List.sum_cons]
    rw [neumaier_exact o h0 t, zero_add]

theorem pyUniform_zero (h0 : o.ofInt 0 = 0) (b u : K) : pyUniform (o.ofInt 0) b u = b * u := by
  simp [pyUniform, h0]

theorem negL_eq_negOf (h0 : o.ofInt 0 = 0) (tbl : List (K × ι)) : negL o tbl = negOf tbl := by
  induction tbl with
  | nil => rfl
  | cons x t ih =>
    obtain ⟨r, i⟩ := x
    simp only [negL, negOf, h0, ih]

theorem posAcc_eq (h0 : o.ofInt 0 = 0) (t : List (K × ι)) (p : K) : posAcc o t p = p + posSum t := by
  induction t generalizing p with
  | nil => simp [posAcc, posSum]
  | cons x t ih =>
    obtain ⟨r, i⟩ := x
    unfold posAcc posSum
    rw [h0]
    split
    · rw [ih, add_assoc]
    · exact ih p

theorem posIn_eq (h0 : o.ofInt 0 = 0) {tbl : List (K × ι)} {a : Nat} (ha : a < tbl.length) (u : K) :
    posIn o tbl a u = posSum (tbl.take a) + (tbl[a]).1 * u := by
  simp [posIn, ha, posAcc_eq o h0, pyUniform, h0]

theorem sumNeg_eq (h0 : o.ofInt 0 = 0) (tbl : List (K × ι)) : sumNeg o tbl = total (negOf tbl) := by
  rw [sumNeg, negL_eq_negOf o h0, pySum_exact o h0]
  rfl

end ops

theorem walkIdx_lt (p : K) (l : List (K × ι)) (c : K) {k : Nat} (h : walkIdx p l c = some k) :
    k < l.length := walkIdx_lt_g p l c h

theorem acc_eq (l : List (K × ι)) (c : K) (k : Nat) : acc l c k = c + cumB l k := by
  induction l generalizing c k with
  | nil => simp
  | cons e t ih =>
    cases k with
    | zero => simp
    | succ k => rw [acc_cons_succ, ih, cumB_cons_succ, add_assoc]

theorem acc_monotone {l : List (K × ι)} (hl : NonNeg l) (c : K) : Monotone fun k => c + cumB l k :=
  fun _ _ h => add_le_add le_rfl (cumB_mono hl h)

/-- at a position `≤ 0 + first entry` the loop stops at index 0 whatever the sign of the position:
this is how a zero-rate first entry gets selected at position 0 -/
theorem walkIdx_first (p : K) (e : K × ι) (t : List (K × ι)) (c : K) (h : p ≤ c + e.1) :
    walkIdx p (e :: t) c = some 0 := by
  obtain ⟨r, i⟩ := e
  simp [walkIdx, h]

/-- length of the intersection of `[p, p+q]` and `[c, d]` -/
def overlap (p q c d : K) : K := max 0 (min (p + q) d - max p c)

def clamp (c d x : K) : K := min (max x c) d

theorem overlap_eq_clamp (p q c d : K) (hq : 0 ≤ q) (hcd : c ≤ d) :
    overlap p q c d = clamp c d (p + q) - clamp c d p := by
  unfold overlap clamp
  rcases le_total (p + q) c with h1 | h1
  · -- `[p, p + q]` lies below `c`: both clamps are `c`
    rw [max_eq_right h1, max_eq_right ((le_add_of_nonneg_right hq).trans h1), min_eq_left hcd, sub_self, max_eq_left]
    exact sub_nonpos.2 ((min_le_left _ _).trans h1)
  · rcases le_total d p with h2 | h2
    · -- it lies above `d`: both clamps are `d`
      rw [max_eq_left h1, max_eq_left (hcd.trans h2), min_eq_right (h2.trans (le_add_of_nonneg_right hq)), min_eq_right h2,
        sub_self, max_eq_left]
      exact sub_nonpos.2 h2
    · -- it meets `[c, d]`: the clamps are the end points of the intersection
      rw [max_eq_left h1, min_eq_left (max_le h2 hcd), max_eq_right]
      exact sub_nonneg.2 (max_le (le_min (le_add_of_nonneg_right hq) h2) (le_min h1 hcd))

/-- the two intervals exchange their roles -/
theorem overlap_eq_clamp' (p q c d : K) (hq : 0 ≤ q) (hcd : c ≤ d) :
    overlap p q c d = clamp p (p + q) d - clamp p (p + q) c := by
  have h := overlap_eq_clamp c (d - c) p (p + q) (sub_nonneg.mpr hcd) (le_add_of_nonneg_right hq)
  rw [add_sub_cancel] at h
  rw [← h, overlap, overlap, add_sub_cancel, min_comm (p + q) d, max_comm p c]

theorem clamp_of_le {c d x : K} (hx : x ≤ c) (hcd : c ≤ d) : clamp c d x = c := by
  rw [clamp, max_eq_right hx, min_eq_left hcd]

theorem clamp_of_ge {c d x : K} (hx : d ≤ x) : clamp c d x = d :=
  min_eq_right (hx.trans (le_max_left _ _))

end JF.Lifting
