import JF.Model.Lifting
import Mathlib.Tactic.Linarith
import Mathlib.Tactic.Push
/-!
The model of the lifting schemes (`JF.Model.Lifting`) read over an ARBITRARY scalar type: no algebra at all, only the
shape of the loops.  Holds in particular for `Float`, for an ordered field (`JF/Lemmas/Lifting.lean`) and for `R fm`
(`JF/Lemmas/LiftingRnd.lean`).  `reset` + the insertion loop are two folds (`negL`, `posAcc`; `fill_g`), and `posAcc` is the
loop's own running sum `acc` over the positive entries (`posAcc_eq_acc`); the common loop stops at the first running sum
`acc` that reaches the position (`walkIdx_some_iff_g`); `sel` is the index that the loop + the `[-1]` fall-through read,
described by two comparisons wherever the running sums are monotone in value (`sel_spec`).
-/
namespace JF.Lifting
set_option linter.unusedSectionVars false

variable {α : Type} {ι : Type} [Add α] [Sub α] [Mul α] [Neg α] [LT α] [DecidableLT α] [LE α] [DecidableLE α]
  [BEq α]

/-- the list `zip(_negative_lifting_rates, _associated_identifiers)` after the insertion loop: the entries whose
rate is not `> 0.0`, negated, in insertion order -/
def negL (o : Ops α) : List (α × ι) → List (α × ι)
  | [] => []
  | (r, i) :: t => if o.ofInt 0 < r then negL o t else (-r, i) :: negL o t

/-- `_random_position` after the entries of a list have been inserted as inactive, not-yet-recorded ones:
`self._random_position += lifting_rate` for every positive entry, left to right -/
def posAcc (o : Ops α) : List (α × ι) → α → α
  | [], p => p
  | (r, _) :: t, p => if o.ofInt 0 < r then posAcc o t (p + r) else posAcc o t p

/-- a stretch of the table without the active index: the positive entries add to `sumPos` and, until the active unit
has been recorded, to the position -/
theorem fillFrom_inactive_g (o : Ops α) (a : Nat) (u : α) (t : List (α × ι)) :
    ∀ (i : Nat) (s : Lifting α ι), a < i ∨ i + t.length ≤ a →
      fillFrom o a u i s t = .ok ⟨s.neg ++ negL o t, if s.recorded then s.pos else posAcc o t s.pos,
        posAcc o t s.sumPos, s.recorded⟩ := by
  induction t with
  | nil => intro i s _; cases s; simp [fillFrom, negL, posAcc]
  | cons x t ih =>
    intro i s hi
    obtain ⟨r, id⟩ := x
    simp only [List.length_cons] at hi
    have hne : (i == a) = false := by simp; omega
    have hi' : a < i + 1 ∨ i + 1 + t.length ≤ a := by omega
    unfold fillFrom insert
    by_cases hpos : o.ofInt 0 < r <;> cases hr : s.recorded <;> simp [hne, hpos, ih _ _ hi', negL, posAcc]

/-- a stretch of the table that holds the active index `a = i + j`, with nothing recorded before it: a positive active
entry is recorded, one whose rate is not `> 0.0` trips the `assert` -/
theorem fillFrom_active_g (o : Ops α) (a : Nat) (u : α) (t : List (α × ι)) :
    ∀ (i j : Nat) (s : Lifting α ι) (hj : j < t.length), a = i + j → s.recorded = false →
      fillFrom o a u i s t =
        if o.ofInt 0 < (t[j]).1 then
          .ok ⟨s.neg ++ negL o t, posAcc o (t.take j) s.pos + pyUniform (o.ofInt 0) (t[j]).1 u,
            posAcc o t s.sumPos, true⟩
        else .error .assertion := by
  induction t with
  | nil => intro i j s hj; simp at hj
  | cons x t ih =>
    intro i j s hj ha hr
    obtain ⟨r, id⟩ := x
    cases j with
    | zero =>
      have he : (i == a) = true := by simp; omega
      unfold fillFrom insert
      by_cases hq : o.ofInt 0 < r <;>
        simp [he, hq, fillFrom_inactive_g o a u t (i + 1) _ (Or.inl (by omega)), negL, posAcc]
    | succ j =>
      have hne : (i == a) = false := by simp; omega
      have hj' : j < t.length := by simpa using hj
      have ih' := fun s' (h : s'.recorded = false) => ih (i + 1) j s' hj' (by omega) h
      unfold fillFrom insert
      by_cases hpos : o.ofInt 0 < r <;> simp [hne, hpos, hr, ih', negL, posAcc]

theorem fill_g (o : Ops α) (tbl : List (α × ι)) (a : Nat) (u : α) (ha : a < tbl.length)
    (hq : o.ofInt 0 < (tbl[a]).1) :
    fill o tbl a u = .ok ⟨negL o tbl, posAcc o (tbl.take a) (o.ofInt 0) + pyUniform (o.ofInt 0) (tbl[a]).1 u,
      posAcc o tbl (o.ofInt 0), true⟩ := by
  unfold fill
  rw [fillFrom_active_g o a u tbl 0 a (empty o) ha (by omega) rfl, if_pos hq]
  simp [empty]

/-- an active entry whose rate is not `> 0.0` trips the `assert`, for every scalar type -/
theorem choose_assertion_g (o : Ops α) (sch : Scheme) (tbl : List (α × ι)) {a : Nat} (ha : a < tbl.length)
    (hq : ¬ o.ofInt 0 < (tbl[a]).1) (u u2 : α) : choose o sch tbl a u u2 = .error .assertion := by
  unfold choose fill
  rw [fillFrom_active_g o a u tbl 0 a (empty o) ha (by omega) rfl, if_neg hq]

/-- `_random_position` as `get_active_identifier` finds it (inside first: the position itself) -/
def posIn (o : Ops α) (tbl : List (α × ι)) (a : Nat) (u : α) : α :=
  match tbl[a]? with
  | some e => posAcc o (tbl.take a) (o.ofInt 0) + pyUniform (o.ofInt 0) e.1 u
  | none => o.ofInt 0

/-- `sum(self._negative_lifting_rates)` -/
def sumNeg (o : Ops α) (tbl : List (α × ι)) : α := pySum o ((negL o tbl).map (·.1))

/-- the position each scheme hands to the common loop, as a function of the table, the active unit and the draws -/
def posOf (o : Ops α) (sch : Scheme) (tbl : List (α × ι)) (a : Nat) (u u2 : α) : α :=
  match sch with
  | .inside => posIn o tbl a u
  | .outside => sumNeg o tbl - posIn o tbl a u
  | .ratio => pyUniform (o.ofInt 0) (sumNeg o tbl) u2

theorem chooseIdx_g (o : Ops α) (sch : Scheme) (tbl : List (α × ι)) (a : Nat) (u u2 : α) (ha : a < tbl.length)
    (hq : o.ofInt 0 < (tbl[a]).1) :
    chooseIdx o sch tbl a u u2 = selectIdx o (posOf o sch tbl a u u2) (negL o tbl) := by
  unfold chooseIdx
  rw [fill_g o tbl a u ha hq]
  cases sch <;> simp [position, posOf, posIn, sumNeg, ha]

theorem choose_g (o : Ops α) (sch : Scheme) (tbl : List (α × ι)) (a : Nat) (u u2 : α) (ha : a < tbl.length)
    (hq : o.ofInt 0 < (tbl[a]).1) :
    choose o sch tbl a u u2 = select o (posOf o sch tbl a u u2) (negL o tbl) := by
  unfold choose
  rw [fill_g o tbl a u ha hq]
  cases sch <;> simp [getInside, getOutside, getRatio, posOf, posIn, sumNeg, ha]

/-- running sum of the loop after `k` entries, started at `c` -/
def acc : List (α × ι) → α → Nat → α
  | _, c, 0 => c
  | [], c, _ + 1 => c
  | (r, _) :: t, c, k + 1 => acc t (c + r) k

@[simp] theorem acc_zero (l : List (α × ι)) (c : α) : acc l c 0 = c := by cases l <;> rfl
@[simp] theorem acc_cons_succ (e : α × ι) (t : List (α × ι)) (c : α) (k : Nat) :
    acc (e :: t) c (k + 1) = acc t (c + e.1) k := rfl
@[simp] theorem acc_nil (c : α) (k : Nat) : acc ([] : List (α × ι)) c k = c := by cases k <;> rfl

/-- the positive entries of a table in insertion order, the mirror of `negL`: `_random_position` and
`_sum_positive_lifting_rates` run over them the same loop `summed += rate` that `get_active_identifier` runs over `negL` -/
def posL (o : Ops α) (t : List (α × ι)) : List (α × ι) := t.filter fun e => o.ofInt 0 < e.1

theorem posAcc_eq_acc (o : Ops α) (t : List (α × ι)) (p : α) :
    posAcc o t p = acc (posL o t) p (posL o t).length := by
  induction t generalizing p with
  | nil => rfl
  | cons x t ih =>
    obtain ⟨r, i⟩ := x
    unfold posAcc posL
    by_cases h : o.ofInt 0 < r <;> simp [h, ih, posL]

theorem walkIdx_some_iff_g (p : α) (l : List (α × ι)) (c : α) (k : Nat) :
    walkIdx p l c = some k ↔ k < l.length ∧ (∀ j < k, ¬ p ≤ acc l c (j + 1)) ∧ p ≤ acc l c (k + 1) := by
  induction l generalizing c k with
  | nil => simp [walkIdx]
  | cons e t ih =>
    obtain ⟨r, i⟩ := e
    -- one step of the loop; the running sums `j < k + 1` are the first one and those of the tail
    by_cases hp : p ≤ c + r <;> cases k <;> simp [walkIdx, hp, ih, Nat.forall_lt_succ_left]

theorem walkIdx_none_iff_g (p : α) (l : List (α × ι)) (c : α) :
    walkIdx p l c = none ↔ ∀ j < l.length, ¬ p ≤ acc l c (j + 1) := by
  induction l generalizing c with
  | nil => simp [walkIdx]
  | cons e t ih =>
    obtain ⟨r, i⟩ := e
    by_cases hp : p ≤ c + r <;> simp [walkIdx, hp, ih, Nat.forall_lt_succ_left]

theorem forall_lt_not_le_iff {β : Type} [LinearOrder β] {A : Nat → β} (hA : Monotone A) (p : β) (k : Nat) :
    (∀ j < k, ¬ p ≤ A (j + 1)) ↔ k = 0 ∨ A k < p := by
  constructor
  · intro h
    cases k with
    | zero => exact Or.inl rfl
    | succ k => exact Or.inr (not_le.1 (h k (Nat.lt_succ_self k)))
  · rintro (rfl | h) j hj
    · exact absurd hj (Nat.not_lt_zero j)
    · exact not_le.2 ((hA (Nat.succ_le_of_lt hj)).trans_lt h)

theorem walkIdx_lt_g (p : α) (l : List (α × ι)) (c : α) {k : Nat} (h : walkIdx p l c = some k) : k < l.length :=
  ((walkIdx_some_iff_g p l c k).mp h).1

/-- the index that loop + fall-through read (for a non-empty list) -/
def sel (o : Ops α) (p : α) (l : List (α × ι)) : Nat :=
  match walkIdx p l (o.ofInt 0) with
  | some k => k
  | none => l.length - 1

theorem selectIdx_eq_sel (o : Ops α) (p : α) {l : List (α × ι)} (hl : l ≠ []) :
    selectIdx o p l = .ok (sel o p l) := by
  unfold selectIdx sel
  cases hw : walkIdx p l (o.ofInt 0) with
  | some k => rfl
  | none => cases l with
    | nil => exact absurd rfl hl
    | cons e t => rfl

theorem selectIdx_nil (o : Ops α) (p : α) : selectIdx o p ([] : List (α × ι)) = .error .index := by
  simp [selectIdx, walkIdx]

theorem sel_lt (o : Ops α) (p : α) {l : List (α × ι)} (hl : l ≠ []) : sel o p l < l.length := by
  unfold sel
  cases hw : walkIdx p l (o.ofInt 0) with
  | some k => exact walkIdx_lt_g p l _ hw
  | none =>
    have : 0 < l.length := List.length_pos_iff.mpr hl
    simp only; omega

/-- Loop + fall-through for running sums that are monotone in VALUE (`v = id` over an ordered field, `v = toQ` over `R fm`,
where rounding is monotone).  With `A_k = acc l 0 k` and `k` the index read: `A_k < p` unless `k = 0`, and `p ≤ A_{k+1}`
unless the loop fell through (`A_len < p`), and then `k` is the last index. -/
theorem sel_spec {β : Type} [LinearOrder β] (v : α → β) (hv : ∀ a b : α, a ≤ b ↔ v a ≤ v b) (o : Ops α) (p : α)
    {l : List (α × ι)} (hne : l ≠ []) (hm : Monotone fun k => v (acc l (o.ofInt 0) k)) :
    (sel o p l = 0 ∨ v (acc l (o.ofInt 0) (sel o p l)) < v p) ∧
      (v p ≤ v (acc l (o.ofInt 0) (sel o p l + 1)) ∨
        sel o p l = l.length - 1 ∧ v (acc l (o.ofInt 0) l.length) < v p) := by
  have key : ∀ k, (∀ j < k, ¬ p ≤ acc l (o.ofInt 0) (j + 1)) ↔ k = 0 ∨ v (acc l (o.ofInt 0) k) < v p := fun k =>
    (forall₂_congr fun _ _ => not_congr (hv _ _)).trans (forall_lt_not_le_iff hm (v p) k)
  cases hw : walkIdx p l (o.ofInt 0) with
  | none =>
    have hs : sel o p l = l.length - 1 := by simp [sel, hw]
    have h := ((key l.length).mp ((walkIdx_none_iff_g p l _).mp hw)).resolve_left
      (fun h => hne (List.eq_nil_of_length_eq_zero h))
    rw [hs]
    exact ⟨Or.inr ((hm (Nat.sub_le _ 1)).trans_lt h), Or.inr ⟨rfl, h⟩⟩
  | some k =>
    have hs : sel o p l = k := by simp [sel, hw]
    obtain ⟨_, h2, h3⟩ := (walkIdx_some_iff_g p l _ k).mp hw
    rw [hs]
    exact ⟨(key k).mp h2, Or.inl ((hv _ _).mp h3)⟩

theorem select_eq (o : Ops α) (p : α) {l : List (α × ι)} (hl : l ≠ []) :
    select o p l = .ok (l[sel o p l]'(sel_lt o p hl)).2 := by
  unfold select
  rw [selectIdx_eq_sel o p hl]
  simp [lookup, sel_lt o p hl]

theorem select_eq_bind (o : Ops α) (p : α) (l : List (α × ι)) :
    select o p l = (selectIdx o p l).bind (lookup l) := by
  unfold select
  cases selectIdx o p l <;> rfl

/-- the insertion loop's negative list is a filter and a map of the table: what the lemmas of `negL` rest on -/
theorem negL_eq (o : Ops α) (t : List (α × ι)) :
    negL o t = (t.filter fun e => ¬ o.ofInt 0 < e.1).map fun e => (-e.1, e.2) := by
  induction t with
  | nil => rfl
  | cons x t ih =>
    obtain ⟨r, i⟩ := x
    by_cases h : o.ofInt 0 < r <;> simp [negL, h, ih]

/-- an entry of the negative list is the negation of a table entry whose rate is not `> 0` -/
theorem mem_negL (o : Ops α) {tbl : List (α × ι)} {e : α × ι} (h : e ∈ negL o tbl) :
    ∃ r, (r, e.2) ∈ tbl ∧ ¬ o.ofInt 0 < r ∧ e.1 = -r := by
  rw [negL_eq, List.mem_map] at h
  obtain ⟨x, hx, rfl⟩ := h
  obtain ⟨h1, h2⟩ := List.mem_filter.mp hx
  exact ⟨x.1, h1, of_decide_eq_true h2, rfl⟩

theorem negL_eq_nil_iff (o : Ops α) (tbl : List (α × ι)) : negL o tbl = [] ↔ ∀ e ∈ tbl, o.ofInt 0 < e.1 := by
  rw [negL_eq, List.map_eq_nil_iff, List.filter_eq_nil_iff]
  exact forall₂_congr fun e _ => by rw [decide_eq_true_iff, not_not]

theorem negL_length_le (o : Ops α) (tbl : List (α × ι)) : (negL o tbl).length ≤ tbl.length := by
  rw [negL_eq, List.length_map]
  exact List.length_filter_le _ _

theorem negL_ids_sublist (o : Ops α) (tbl : List (α × ι)) :
    ((negL o tbl).map Prod.snd).Sublist (tbl.map Prod.snd) := by
  rw [negL_eq, List.map_map]
  exact List.filter_sublist.map _

theorem acc_succ (l : List (α × ι)) (c : α) {k : Nat} (hk : k < l.length) :
    acc l c (k + 1) = acc l c k + (l[k]).1 := by
  induction l generalizing c k with
  | nil => simp at hk
  | cons e t ih =>
    cases k with
    | zero => simp
    | succ k =>
      have hk' : k < t.length := by simpa using hk
      simp only [acc_cons_succ, List.getElem_cons_succ]
      exact ih _ hk'

theorem walkIdx_le_of_reached (p : α) (l : List (α × ι)) (c : α) {k' : Nat} (hk' : k' < l.length)
    (h : p ≤ acc l c (k' + 1)) : ∃ k, walkIdx p l c = some k ∧ k ≤ k' := by
  cases hw : walkIdx p l c with
  | none => exact absurd h ((walkIdx_none_iff_g p l c).mp hw k' hk')
  | some k =>
    refine ⟨k, rfl, ?_⟩
    by_contra hlt
    exact ((walkIdx_some_iff_g p l c k).mp hw).2.1 k' (by omega) h

theorem sel_le_pred (o : Ops α) (p : α) (l : List (α × ι)) : sel o p l ≤ l.length - 1 := by
  unfold sel
  cases hw : walkIdx p l (o.ofInt 0) with
  | some k => have := walkIdx_lt_g p l _ hw; simp only; omega
  | none => exact le_refl _

/-- condition (a) on a negative list `l` and a position `p`: `p ≤ 0` and `l` starts with a zero-rate entry -/
def condAOn (o : Ops α) (l : List (α × ι)) (p : α) : Bool :=
  decide (p ≤ o.ofInt 0) &&
    (match l with
     | e :: _ => e.1 == o.ofInt 0
     | [] => false)

/-- condition (b) on a negative list `l` and a position `p`: the loop's last running sum is below `p` and the last
entry of `l` has rate zero -/
def condBOn (o : Ops α) (l : List (α × ι)) (p : α) : Bool :=
  decide (acc l (o.ofInt 0) l.length < p) &&
    (match l.getLast? with
     | some e => e.1 == o.ofInt 0
     | none => false)

/-- condition (a) as a test on the quantities a move computes -/
def condA (o : Ops α) (sch : Scheme) (tbl : List (α × ι)) (a : Nat) (u u2 : α) : Bool :=
  condAOn o (negL o tbl) (posOf o sch tbl a u u2)

/-- condition (b), the fall-through, as a test on the quantities a move computes -/
def condB (o : Ops α) (sch : Scheme) (tbl : List (α × ι)) (a : Nat) (u u2 : α) : Bool :=
  condBOn o (negL o tbl) (posOf o sch tbl a u u2)

end JF.Lifting
