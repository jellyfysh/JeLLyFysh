import JF.Lemmas.C09PoolsCells
import JF.Model.ConcreteWorld
import JF.Model.ConcreteWorld2
/-!
C09, last clause (no `TagActivatorError`) — demand bounds of the taggers of the concrete worlds
`JF.CW` (point masses + one cell occupancy, `JF/Model/ConcreteWorld.lean`) and `JF.CW2` (composite objects, factor files,
`JF/Model/ConcreteWorld2.lean`), for EVERY state where possible; where an invariant is needed it is named
(one independent active unit: `JF.CW2.independent … .length ≤ 1`, proved for reachable states by
`JF.CW2.independent_length_chain`; the occupancy invariant `JF.C10.OccInv`, proved for reachable states by `JF.C10C11.reach_occInv`).
-/
namespace JF.C09Pools
open JF JF.Act JF.CellTaggers

theorem dedupe_length_le {α : Type} [BEq α] : ∀ (l : List α), (dedupe l).length ≤ l.length
  | [] => by simp [dedupe]
  | x :: xs => by
    have := dedupe_length_le xs
    unfold dedupe
    split <;> simp <;> omega

theorem length_filter_ne_range {n i : Nat} (hi : i < n) : ((List.range n).filter (· != i)).length = n - 1 := by
  rw [← List.Nodup.erase_eq_filter List.nodup_range, List.length_erase_of_mem (List.mem_range.mpr hi), List.length_range]

section cw
variable {α : Type}

theorem mem_movers_lt {us : List (PUnit α)} {i : Nat} (h : i ∈ CW.movers us) : i < us.length :=
  List.mem_range.mp (List.mem_filter.mp h).1

/-- `NoInStateTagger`: `yield None` — exactly one in-state, every state -/
theorem cw_noInState (env : CW.Env α) (g : CW.CState α) : (CW.yieldCls env .noInState g).length = 1 := rfl

/-- `ActiveGlobalStateInStateTagger`: ONE tuple holding the identifiers of all independent active units — exactly one in-state,
every state, however many units are active (the tagger's pool is fixed to 1 by its constructor) -/
theorem cw_activeGlobalState (env : CW.Env α) (g : CW.CState α) : (CW.yieldCls env .activeGlobalState g).length = 1 := rfl

/-- `FactorTypeMapInStateTagger` over point masses (one pair-factor type): every active unit × every other unit — exact, every state -/
theorem cw_factorTypeMap (env : CW.Env α) (g : CW.CState α) :
    (CW.yieldCls env .factorTypeMap g).length = (CW.movers g.us).length * (g.us.length - 1) := by
  simp only [CW.yieldCls]
  generalize hm : CW.movers g.us = m
  have hlt : ∀ i ∈ m, i < g.us.length := fun i hi => mem_movers_lt (hm ▸ hi)
  clear hm
  induction m with
  | nil => simp
  | cons i m ih =>
    rw [List.flatMap_cons, List.length_append, ih (fun j hj => hlt j (List.mem_cons_of_mem _ hj)), List.length_map,
      length_filter_ne_range (hlt i List.mem_cons_self), List.length_cons, Nat.succ_mul]
    omega

/-- … with one active unit (C07's chain invariant): number of point masses − 1 -/
theorem cw_factorTypeMap_one_chain (env : CW.Env α) (g : CW.CState α) (h1 : (CW.movers g.us).length ≤ 1) :
    (CW.yieldCls env .factorTypeMap g).length ≤ g.us.length - 1 := by
  rw [cw_factorTypeMap]
  exact Nat.le_trans (Nat.mul_le_mul_right _ h1) (by omega)

/-- `CellVetoTagger`, `CellBoundaryTagger`: at most one in-state, every state -/
theorem cw_cellVeto (env : CW.Env α) (g : CW.CState α) : (CW.yieldCls env .cellVeto g).length ≤ 1 := by
  simp only [CW.yieldCls, CW.wrapIds, List.length_map]; exact cellVeto_demand_le_one _

theorem cw_cellBoundary (env : CW.Env α) (g : CW.CState α) : (CW.yieldCls env .cellBoundary g).length ≤ 1 := by
  simp only [CW.yieldCls, CW.wrapIds, List.length_map]; exact cellVeto_demand_le_one _

/-- **the three cell-reading taggers in the world of point masses**, at every state whose occupancy satisfies C11's invariant
(`JF.SystemInv.c11_occinv_closed`: every reachable one of a wiring with an occupancy, under `TieFreeAll`) with `nRel` relevant units, all in cells of the grid -/
theorem cw_cell_demands {rel : JF.Occ.UId → Bool} {cellOf : JF.Occ.UId → JF.Occ.Cell} (env : CW.Env α) (g : CW.CState α)
    (h : C11.OccInv rel cellOf g.occ) (relevant : List JF.Occ.UId) (hl : C10C11.IsRelevantList rel relevant)
    (hg : C10C11.InGrid env.grid relevant cellOf) :
    (CW.yieldCls env .excludedCells g).length ≤ excludedBound env.grid g.occ.cap relevant.length ∧
    (CW.yieldCls env .cellBounding g).length ≤ boundingBound env.grid relevant.length ∧
    (CW.yieldCls env .surplusCells g).length ≤ surplusBound relevant.length := by
  simp only [CW.yieldCls, CW.wrapIds, List.length_map, C10C11.tocc_eq]
  cases ha : g.occ.activeId with
  | none =>
    have hn : (C10C11.toTaggerOcc env.grid g.occ).active = none := by
      simp only [C10C11.toTaggerOcc, ha]; split <;> simp_all
    obtain ⟨_, h2, h3, h4⟩ := no_active_no_demand env.grid _ hn
    rw [h2, h3, h4]; exact ⟨Nat.zero_le _, Nat.zero_le _, Nat.zero_le _⟩
  | some a =>
    have inv := C10C11.occInv_of_c11 h env.grid relevant hl.nodup hl.mem hg ha
    have hlen : (C10C11.idents relevant).length = relevant.length := by simp [C10C11.idents]
    refine ⟨?_, ?_, ?_⟩
    · rw [← hlen]
      refine excluded_demand_le_bound _ _ _ _ _ inv _ (fun hpos c => ?_)
      simp only [C10C11.toTaggerOcc, List.length_map]
      exact h.wf.cap hpos _
    · rw [← hlen]; exact bounding_demand_le_bound _ _ _ _ _ inv
    · rw [← hlen]; exact surplus_demand_le_relevant _ _ _ _ _ inv

end cw

open JF.CW2 (Branch Flags independent independentOf branches branchOf leafIds liftedLeaves)

/-- `CW2.yieldF` read off the branches of the extracted active global state (it depends on the flags only through them) -/
def yieldB (nRoots nPer : Nat) (fs : FactorMaps.Factors) (ty : String) (cls : TaggerClass) (bs : List Branch) : List IdTuple :=
  match cls with
  | .noInState => [none]
  | .activeGlobalState =>
    [some (bs.flatMap fun b => if b.children.length == nPer then [[b.root]] else b.children.map fun j => [b.root, j])]
  | .activeRootUnit => bs.map fun b => some [[b.root]]
  | .factorTypeMap =>
    match FactorMaps.taggerYield ⟨nRoots, nPer⟩ fs ty (bs.flatMap leafIds) with
    | .ok l => l.map some
    | .error _ => []
  | _ => []

theorem yieldF_eq_yieldB {α : Type} (env : CW2.Env α) (T : TaggerIdx) (cls : TaggerClass) (fl : Flags) :
    CW2.yieldF α env T cls fl = yieldB fl.length env.nPer env.fs (env.ftype T) cls (branches env.nPer fl) := by
  cases cls <;> rfl

/-- `NoInStateTagger`, `ActiveGlobalStateInStateTagger` (the variant with composite objects): exactly one in-state, every state -/
theorem cw2_noInState {α : Type} (env : CW2.Env α) (T : TaggerIdx) (fl : Flags) :
    (CW2.yieldF α env T .noInState fl).length = 1 := rfl
theorem cw2_activeGlobalState {α : Type} (env : CW2.Env α) (T : TaggerIdx) (fl : Flags) :
    (CW2.yieldF α env T .activeGlobalState fl).length = 1 := rfl

/-- `ActiveRootUnitInStateTagger`: one in-state per branch of the extracted active global state = per independent active unit —
exact, every state -/
theorem cw2_activeRootUnit {α : Type} (env : CW2.Env α) (T : TaggerIdx) (fl : Flags) :
    (CW2.yieldF α env T .activeRootUnit fl).length = (independent env.nPer fl).length := by
  simp [CW2.yieldF, branches]

/-- number of in-states one active leaf contributes (0 if its factor map raises) -/
def perLeafLen : Except String (List FactorMaps.InState) → Nat
  | .ok l => l.length
  | .error _ => 0

def perLeaf (s : FactorMaps.Setting) (fs : FactorMaps.Factors) (ty : String) (a : FactorMaps.Ident) : Nat :=
  perLeafLen (FactorMaps.yieldFactor s fs ty a)

theorem yieldAll_length (s : FactorMaps.Setting) (fs : FactorMaps.Factors) (ty : String) :
    ∀ (leaves : List FactorMaps.Ident) (l : List FactorMaps.InState), FactorMaps.yieldAll s fs ty leaves = .ok l →
      l.length = (leaves.map (perLeaf s fs ty)).sum
  | [], l, h => by simp only [FactorMaps.yieldAll] at h; cases h; rfl
  | a :: rest, l, h => by
    simp only [FactorMaps.yieldAll] at h
    cases ha : FactorMaps.yieldFactor s fs ty a with
    | error e => rw [ha] at h; cases h
    | ok la =>
      rw [ha] at h
      cases hr : FactorMaps.yieldAll s fs ty rest with
      | error e => rw [hr] at h; cases h
      | ok lr =>
        rw [hr] at h
        simp only [Except.ok.injEq] at h
        subst h
        rw [List.length_append, yieldAll_length s fs ty rest lr hr, List.map_cons, List.sum_cons]
        simp only [perLeaf, perLeafLen, ha]

/-- **`FactorTypeMapInStateTagger`, every state**: the `set(...)` of the factors of all active leaves has at most as many members
as the active leaves' factor maps yield together -/
theorem factor_demand_le_sum (s : FactorMaps.Setting) (fs : FactorMaps.Factors) (ty : String) (leaves : List FactorMaps.Ident)
    (l : List FactorMaps.InState) (h : FactorMaps.taggerYield s fs ty leaves = .ok l) :
    l.length ≤ (leaves.map (perLeaf s fs ty)).sum := by
  simp only [FactorMaps.taggerYield] at h
  split at h
  · cases h
  · rename_i la hla
    simp only [Except.ok.injEq] at h
    subst h
    rw [← yieldAll_length s fs ty leaves la hla]
    exact dedupe_length_le la

/-- **one active leaf, inter-object factor type** (C10's `factor_spec_inter`): EXACTLY (number of other composite objects) ×
(number of lines of the type containing the leaf's index, counted per occurrence) -/
theorem factor_demand_inter (s : FactorMaps.Setting) (lines : List FactorMaps.Line) (fs : FactorMaps.Factors) (ty : String)
    (r i : Nat) (h : FactorMaps.instantiate s lines [] = .ok fs) (hinter : C10.InterType s lines ty) (hn : s.nPer ≠ 1)
    (hr : r < s.nRoots) (hi : i < s.nPer) :
    perLeaf s fs ty [r, i] = (s.nRoots - 1) * (FactorMaps.entries i (FactorMaps.linesOf lines ty)).length := by
  unfold perLeaf
  rw [C10.factor_spec_inter s lines fs ty r i h hinter hn hr hi]
  simp only [perLeafLen, List.length_flatMap, List.length_map, List.map_const', List.sum_replicate]
  rw [C10.others, length_filter_ne_range hr]
  rfl

/-- **one active leaf, intra-object factor type** (C10's `factor_spec_intra`): the lines of the type containing the leaf's index -/
theorem factor_demand_intra (s : FactorMaps.Setting) (lines : List FactorMaps.Line) (fs : FactorMaps.Factors) (ty : String)
    (r i : Nat) (h : FactorMaps.instantiate s lines [] = .ok fs) (hintra : C10.IntraType s lines ty)
    (hr : r < s.nRoots) (hi : i < s.nPer) :
    perLeaf s fs ty [r, i] = (FactorMaps.entries i (FactorMaps.linesOf lines ty)).length := by
  unfold perLeaf
  rw [C10.factor_spec_intra s lines fs ty r i h hintra hr hi]
  split
  · next he => rw [he]; rfl
  · simp only [perLeafLen, List.length_map]

/-! ### one independent active unit: finitely many extracted active global states -/

/-- which extracted active global states a tagger is asked on: `0` leaf mode only (one leaf `(i, j)` active; handlers derived
from `SingleActiveLeafUnitEventHandler` / configurations without a mode switcher started on a leaf), `1` root mode only (a whole
composite object `(i,)`; `CompositeObjectsLifting` handlers), anything else: both -/
abbrev Sel := Nat

/-- the extracted active global states with at most one independent active unit, for `nRoots` composite objects of `nPer` point
masses: none; a whole composite object `(i,)` (root mode: the branch has all children); one leaf `(i, j)` -/
def oneChainBranches (sel : Sel) (nRoots nPer : Nat) : List (List Branch) :=
  [] :: (List.range nRoots).flatMap fun i =>
    (if sel == 0 then [] else [[⟨i, List.range nPer⟩]]) ++
    (if sel == 1 then [] else (List.range nPer).map fun j => [⟨i, [j]⟩])

theorem mem_oneChainBranches_root {sel : Sel} {nRoots nPer i : Nat} (hs : sel ≠ 0) (hi : i < nRoots) :
    [(⟨i, List.range nPer⟩ : Branch)] ∈ oneChainBranches sel nRoots nPer := by
  refine List.mem_cons_of_mem _ (List.mem_flatMap.mpr ⟨i, List.mem_range.mpr hi, List.mem_append_left _ ?_⟩)
  have : (sel == 0) = false := by simpa using hs
  simp [this]

theorem mem_oneChainBranches_leaf {sel : Sel} {nRoots nPer i j : Nat} (hs : sel ≠ 1) (hi : i < nRoots) (hj : j < nPer) :
    [(⟨i, [j]⟩ : Branch)] ∈ oneChainBranches sel nRoots nPer := by
  refine List.mem_cons_of_mem _ (List.mem_flatMap.mpr ⟨i, List.mem_range.mpr hi, List.mem_append_right _ ?_⟩)
  have : (sel == 1) = false := by simpa using hs
  simp only [this, Bool.false_eq_true, if_false]
  exact List.mem_map.mpr ⟨j, List.mem_range.mpr hj, rfl⟩

/-- the mode of a state, read off its independent active identifiers: compatible with selection `sel` -/
def ModeOK (sel : Sel) (nPer : Nat) (fl : Flags) : Prop :=
  ∀ x ∈ independent nPer fl, (sel = 0 → x.length = 2) ∧ (sel = 1 → x.length = 1)

/-- **every state with at most one independent active unit extracts to one of the enumerated branch lists** (flags of `nRoots`
composite objects with `nPer` leaves each) -/
theorem branches_mem_oneChain {nPer : Nat} (sel : Sel) (fl : Flags) (hu : ∀ f ∈ fl, f.2.length = nPer)
    (h1 : (independent nPer fl).length ≤ 1) (hm : ModeOK sel nPer fl) :
    branches nPer fl ∈ oneChainBranches sel fl.length nPer := by
  unfold branches
  cases hind : independent nPer fl with
  | nil => exact List.mem_cons_self
  | cons x rest =>
    have hrest : rest = [] := by
      rw [hind] at h1
      cases rest with
      | nil => rfl
      | cons _ _ => simp at h1
    subst hrest
    have hx : x ∈ independent nPer fl := by rw [hind]; exact List.mem_cons_self
    have hmx := hm x hx
    unfold independent at hx
    obtain ⟨i, hi, hxi⟩ := List.mem_flatMap.mp hx
    have hil : i < fl.length := List.mem_range.mp hi
    rw [List.getElem?_eq_getElem hil] at hxi
    simp only [independentOf] at hxi
    split at hxi
    · split at hxi
      · simp only [List.mem_singleton] at hxi
        subst hxi
        have : branchOf fl [i] = ⟨i, List.range nPer⟩ := by
          simp only [branchOf, List.getElem?_eq_getElem hil, Option.map_some, Option.getD_some,
            hu _ (List.getElem_mem hil)]
        rw [List.map_cons, List.map_nil, this]
        refine mem_oneChainBranches_root (fun h0 => ?_) hil
        have := hmx.1 h0
        simp at this
      · obtain ⟨j, hj, rfl⟩ := List.mem_map.mp hxi
        have hjl : j < nPer := List.mem_range.mp (List.mem_filter.mp hj).1
        rw [List.map_cons, List.map_nil]
        refine mem_oneChainBranches_leaf (fun h1' => ?_) hil hjl
        have := hmx.2 h1'
        simp at this
    · simp at hxi

/-- the largest demand of a tagger over the one-chain states of its mode — attained by construction (`demandMax_attained`) -/
def demandMax (sel : Sel) (nRoots nPer : Nat) (fs : FactorMaps.Factors) (ty : String) (cls : TaggerClass) : Nat :=
  ((oneChainBranches sel nRoots nPer).map fun bs => (yieldB nRoots nPer fs ty cls bs).length).foldl max 0

theorem foldl_max_le_iff : ∀ (l : List Nat) (a B : Nat), l.foldl max a ≤ B ↔ a ≤ B ∧ ∀ x ∈ l, x ≤ B
  | [], a, B => by simp
  | y :: ys, a, B => by
    rw [List.foldl_cons, foldl_max_le_iff ys, Nat.max_le, List.forall_mem_cons, and_assoc]

theorem foldl_max_mem : ∀ (l : List Nat) (a : Nat), l.foldl max a = a ∨ l.foldl max a ∈ l
  | [], a => Or.inl rfl
  | y :: ys, a => by
    rw [List.foldl_cons]
    rcases foldl_max_mem ys (max a y) with h | h
    · rw [h]
      rcases Nat.le_total a y with hay | hay
      · right; rw [Nat.max_eq_right hay]; exact List.mem_cons_self
      · left; exact Nat.max_eq_left hay
    · right; exact List.mem_cons_of_mem _ h

/-- **composite objects, every state with at most one independent active unit**: the demand of every tagger of the world is at
most `demandMax` -/
theorem cw2_demand_le_max {α : Type} (env : CW2.Env α) (T : TaggerIdx) (cls : TaggerClass) (sel : Sel) (fl : Flags)
    (hu : ∀ f ∈ fl, f.2.length = env.nPer) (h1 : (independent env.nPer fl).length ≤ 1) (hm : ModeOK sel env.nPer fl) :
    (CW2.yieldF α env T cls fl).length ≤ demandMax sel fl.length env.nPer env.fs (env.ftype T) cls := by
  rw [yieldF_eq_yieldB]
  exact ((foldl_max_le_iff _ 0 _).mp (Nat.le_refl _)).2 _ (List.mem_map.mpr ⟨_, branches_mem_oneChain sel fl hu h1 hm, rfl⟩)

/-- no restriction on the mode: selection `2` -/
theorem modeOK_any (nPer : Nat) (fl : Flags) : ModeOK 2 nPer fl := fun _ _ => ⟨fun h => absurd h (by decide), fun h => absurd h (by decide)⟩

/-- the bound is tight: some one-chain extracted state demands exactly `demandMax` handlers (or `demandMax = 0`) -/
theorem demandMax_attained (sel : Sel) (nRoots nPer : Nat) (fs : FactorMaps.Factors) (ty : String) (cls : TaggerClass) :
    demandMax sel nRoots nPer fs ty cls = 0 ∨
    ∃ bs ∈ oneChainBranches sel nRoots nPer, (yieldB nRoots nPer fs ty cls bs).length = demandMax sel nRoots nPer fs ty cls := by
  rcases foldl_max_mem ((oneChainBranches sel nRoots nPer).map fun bs => (yieldB nRoots nPer fs ty cls bs).length) 0 with h | h
  · exact Or.inl h
  · obtain ⟨bs, hbs, e⟩ := List.mem_map.mp h
    exact Or.inr ⟨bs, hbs, e⟩

end JF.C09Pools
