import Mathlib.MeasureTheory.Integral.IntervalIntegral.IntegrationByParts
import Mathlib.Analysis.SpecialFunctions.ExpDeriv
import Mathlib.Analysis.SpecialFunctions.Trigonometric.Deriv
import Mathlib.Analysis.Calculus.ContDiff.Deriv
import Mathlib.Algebra.Ring.Periodic
/-!
# Calculus on the circle for the concrete instance of C01's generator statement

Plain Mathlib analysis, no project definitions: `L`-periodic `C¹` functions on `ℝ` (functions on the circle `ℝ / L`),
the integral over one period, and **integration by parts against the Boltzmann weight without boundary term**
(`periodic_boltzmann_ibp`): for `C¹` `L`-periodic `U`, `g`

  `∫_0^L e^{−βU} g' = β ∫_0^L e^{−βU} g U'`.
-/
namespace JF.C01Generator.Circle
open Real intervalIntegral MeasureTheory

def Smooth (L : ℝ) (g : ℝ → ℝ) : Prop := ContDiff ℝ 1 g ∧ Function.Periodic g L

theorem Smooth.add {L : ℝ} {f g : ℝ → ℝ} (hf : Smooth L f) (hg : Smooth L g) : Smooth L (f + g) :=
  ⟨hf.1.add hg.1, hf.2.add hg.2⟩

theorem Smooth.zero (L : ℝ) : Smooth L (0 : ℝ → ℝ) :=
  ⟨contDiff_const, fun _ => rfl⟩

theorem Smooth.smul {L : ℝ} (c : ℝ) {g : ℝ → ℝ} (hg : Smooth L g) : Smooth L (c • g) :=
  ⟨hg.1.const_smul c, fun x => by simp [hg.2 x]⟩

theorem Smooth.differentiable {L : ℝ} {g : ℝ → ℝ} (hg : Smooth L g) : Differentiable ℝ g :=
  hg.1.differentiable one_ne_zero

theorem Smooth.continuous {L : ℝ} {g : ℝ → ℝ} (hg : Smooth L g) : Continuous g := hg.1.continuous

theorem Smooth.continuous_deriv {L : ℝ} {g : ℝ → ℝ} (hg : Smooth L g) : Continuous (deriv g) :=
  hg.1.continuous_deriv_one

theorem Smooth.deriv_add {L : ℝ} {f g : ℝ → ℝ} (hf : Smooth L f) (hg : Smooth L g) :
    deriv (f + g) = deriv f + deriv g := by
  funext s
  exact _root_.deriv_add (hf.differentiable s) (hg.differentiable s)

theorem Smooth.deriv_smul {L : ℝ} (c : ℝ) {g : ℝ → ℝ} (hg : Smooth L g) :
    deriv (c • g) = c • deriv g := by
  funext s
  exact _root_.deriv_const_smul c (hg.differentiable s)

theorem hasDerivAt_weight (β : ℝ) {U : ℝ → ℝ} (hU : Differentiable ℝ U) (s : ℝ) :
    HasDerivAt (fun s => exp (-β * U s)) (exp (-β * U s) * (-β * deriv U s)) s :=
  ((hU s).hasDerivAt.const_mul (-β)).exp

theorem periodic_boltzmann_ibp (L β : ℝ) {U g : ℝ → ℝ} (hU : Smooth L U) (hg : Smooth L g) :
    ∫ s in (0:ℝ)..L, exp (-β * U s) * deriv g s = β * ∫ s in (0:ℝ)..L, exp (-β * U s) * g s * deriv U s := by
  have hu' : Continuous fun s => exp (-β * U s) * (-β * deriv U s) :=
    (Real.continuous_exp.comp (continuous_const.mul hU.continuous)).mul (continuous_const.mul hU.continuous_deriv)
  have hUL : U L = U 0 := by simpa using hU.2 0
  have hgL : g L = g 0 := by simpa using hg.2 0
  rw [integral_mul_deriv_eq_deriv_mul (fun s _ => hasDerivAt_weight β hU.differentiable s)
      (fun s _ => (hg.differentiable s).hasDerivAt) (hu'.intervalIntegrable _ _)
      (hg.continuous_deriv.intervalIntegrable _ _),
    hUL, hgL, sub_self, zero_sub, ← intervalIntegral.integral_const_mul, ← intervalIntegral.integral_neg]
  exact intervalIntegral.integral_congr fun s _ => by ring

/-- the cosine pair energy `1 − cos(2π s / L)` of the separation `s` -/
noncomputable def cosU (L : ℝ) (s : ℝ) : ℝ := 1 - cos (2 * π * s / L)

theorem arg_add_period {L : ℝ} (hL : L ≠ 0) (s : ℝ) : 2 * π * (s + L) / L = 2 * π * s / L + 2 * π := by
  rw [mul_add, add_div, mul_div_assoc (2 * π) L L, div_self hL, mul_one]

theorem contDiff_arg (L : ℝ) : ContDiff ℝ 1 fun s : ℝ => 2 * π * s / L :=
  (contDiff_const.mul contDiff_id).div_const L

theorem sin_smooth {L : ℝ} (hL : L ≠ 0) : Smooth L fun s => sin (2 * π * s / L) :=
  ⟨Real.contDiff_sin.comp (contDiff_arg L), fun s => by simp only [arg_add_period hL, sin_add_two_pi]⟩

theorem cos_smooth {L : ℝ} (hL : L ≠ 0) : Smooth L fun s => cos (2 * π * s / L) :=
  ⟨Real.contDiff_cos.comp (contDiff_arg L), fun s => by simp only [arg_add_period hL, cos_add_two_pi]⟩

theorem cosU_smooth {L : ℝ} (hL : L ≠ 0) : Smooth L (cosU L) :=
  ⟨contDiff_const.sub (cos_smooth hL).1, fun s => congrArg (fun c => 1 - c) ((cos_smooth hL).2 s)⟩

theorem deriv_cosU (L : ℝ) (s : ℝ) : deriv (cosU L) s = 2 * π / L * sin (2 * π * s / L) := by
  have h1 := ((hasDerivAt_id s).const_mul (2 * π)).div_const L
  exact ((h1.cos.const_sub 1).deriv).trans (by rw [id]; ring)

end JF.C01Generator.Circle
