import JF.Lemmas.HeapList
/-! The heap never holds more entries than pushes were made (justifies modelling the C `uint` length by `Nat`). -/
namespace JF.Sched
open JF.Heap
variable {κ : Type} {cfg : Cfg κ}

theorem deleteEvents_length_le (hp : CHeap κ) (h : Nat) : (deleteEvents cfg hp h).length ≤ hp.length := by
  unfold deleteEvents
  rw [heapify_length]
  exact delScan_length_le h _ hp 1

/-- one `push_event` makes the heap at most one entry longer (two on the very first push: sentinel) -/
theorem push_length (o : StrictWeak cfg) {W : Nat} {s : HSched κ} {live : Live κ} (R : Rel cfg W s live)
    (t : κ) (h : Nat) : max (s.push cfg W t h).heap.length 1 ≤ max s.heap.length 1 + 1 := by
  unfold HSched.push
  by_cases hf : cfg.finite t = true
  · simp only [hf, if_true]
    by_cases hc : (mvGet s.mv h).getD 0 < W
    · simp only [hc, if_true]
      rw [(insert_spec o t h _ R.inv).2.2]
      exact Nat.max_le.2 ⟨Nat.le_refl _, Nat.le_add_left 1 _⟩
    · simp only [hc, if_false]
      have hd := deleteEvents_length_le (cfg := cfg) s.heap h
      rw [(insert_spec o t h 0 (deleteEvents_spec o h R.inv).1).2.2]
      omega
  · simp only [hf, Bool.false_eq_true, if_false]; exact Nat.le_succ _
end JF.Sched
