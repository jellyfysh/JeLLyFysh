import JF.Lemmas.CellsNear
/-!
What the constructor establishes about the list of cells (for every scalar type, every stepper):
cell number `k` carries the identifier whose mixed-radix index is `k`.
-/
namespace JF.Cells

/-- index structure of a cell system -/
structure WF {α : Type} (s : System α) : Prop where
  pos : ∀ x ∈ s.perSide, 1 ≤ x
  dim : s.perSide.length = s.lengths.length
  cp : s.cumProd = cumProdFrom 1 s.perSide
  size : (s.cells.size : Int) = numberOfCells s.perSide
  ident : ∀ k (h : k < s.cells.size), Valid s.perSide s.cells[k].ident ∧ flat s.perSide s.cells[k].ident = k
  layers : 0 ≤ s.layers

section
variable {α : Type} [Add α] [Sub α] [Mul α] [Div α] [Neg α] [LT α] [DecidableLT α] [LE α] [DecidableLE α] [BEq α]

omit [Add α] [Sub α] [Mul α] [Div α] [Neg α] [LT α] [DecidableLT α] [BEq α] in
theorem mkCell_ident {ident : List Int} {lo hi : List α} {c : Cell α} (h : mkCell ident lo hi = .ok c) :
    c.ident = ident := by
  unfold mkCell at h
  split at h
  · cases h
  · cases h; rfl

omit [Add α] [Sub α] [Neg α] in
theorem buildCells_ident (o : Ops α) (st : Stepper α) (fuel : Nat) (n : List Int) (side lengths : List α)
    (cp : List Int) :
    ∀ (k : Nat) (summed : Int) (ident : List Int) (cells : List (Cell α)),
      buildCells o st fuel n side lengths cp k summed ident = .ok cells →
      cells.length = k ∧ ∀ j (h : j < cells.length), cells[j].ident = (incr n)^[j] ident := by
  intro k
  induction k with
  | zero =>
    intro summed ident cells h
    simp only [buildCells] at h
    cases h
    exact ⟨rfl, fun j h => absurd h (by simp)⟩
  | succ k ih =>
    intro summed ident cells h
    rw [buildCells] at h
    split at h
    · cases h
    · split at h
      · cases h
      · split at h
        · cases h
        · rename_i c hc
          split at h
          · cases h
          · rename_i rest hrest
            cases h
            obtain ⟨hl, hi⟩ := ih _ _ _ hrest
            refine ⟨by simp [hl], ?_⟩
            intro j hj
            cases j with
            | zero => simp [mkCell_ident hc]
            | succ j =>
              simp only [List.getElem_cons_succ, Function.iterate_succ_apply]
              exact hi j (by simpa using hj)

theorem expandPerSide_length (dim : Nat) (c : List Int) : (expandPerSide dim c).length = dim := by
  simp [expandPerSide]

omit [Add α] [Sub α] [Neg α] in
/-- **the constructor establishes the index structure** (any scalar, any stepper, any fuel) -/
theorem create_wf (o : Ops α) (st : Stepper α) (fuel : Nat) (periodic : Bool) (lengths : List α)
    (cps : List Int) (layers : Int) (s : System α)
    (h : create o st fuel periodic lengths cps layers = .ok s) :
    WF s ∧ s.periodic = periodic ∧ s.lengths = lengths ∧ s.layers = layers ∧
      s.perSide = expandPerSide lengths.length cps ∧
      s.side = List.zipWith (fun l n => l / o.ofInt n) lengths s.perSide := by
  unfold create at h
  simp only at h
  split at h
  · cases h
  · split at h
    · cases h
    · rename_i hlay
      split at h
      · cases h
      · rename_i hpos
        split at h
        · cases h
        · rename_i cells hcells
          cases h
          have hpos' : ∀ x ∈ expandPerSide lengths.length cps, 1 ≤ x := by
            intro x hx
            simp only [List.any_eq_true, decide_eq_true_eq, not_exists, not_and, not_le] at hpos
            have := hpos x hx; omega
          have hlay' : 0 ≤ layers := by simpa using hlay
          obtain ⟨hl, hi⟩ := buildCells_ident o st fuel _ _ _ _ _ _ _ _ hcells
          have hN := numberOfCells_pos hpos'
          refine ⟨⟨hpos', expandPerSide_length _ _, rfl, ?_, ?_, hlay'⟩, rfl, rfl, rfl, rfl, rfl⟩
          · simp only [List.size_toArray, hl]; omega
          · intro k hk
            simp only [List.size_toArray] at hk
            simp only [List.getElem_toArray]
            rw [hi k hk]
            have hv := valid_replicate_zero hpos'
            rw [expandPerSide_length] at hv
            have hf := flat_replicate_zero (expandPerSide lengths.length cps)
            rw [expandPerSide_length] at hf
            have := incr_iterate hv k (by rw [hf]; rw [hl] at hk; omega)
            rw [hf] at this
            exact ⟨this.1, by rw [this.2]; simp⟩

end

section
variable {α : Type} {s : System α}

theorem pyGet_nat {β : Type} (l : Array β) (k : Nat) (h : k < l.size) : pyGet l (k : Int) = .ok l[k] := by
  simp [pyGet, h]

theorem cellOfIdent_valid (w : WF s) {t : List Int} (hv : Valid s.perSide t) :
    ∃ (k : Nat) (h : k < s.cells.size), (k : Int) = flat s.perSide t ∧ cellOfIdent s t = .ok s.cells[k] ∧
      s.cells[k].ident = t := by
  obtain ⟨f0, f1⟩ := flat_bounds hv
  have hk : (flat s.perSide t).toNat < s.cells.size := by
    have := w.size; omega
  refine ⟨(flat s.perSide t).toNat, hk, by omega, ?_, ?_⟩
  · unfold cellOfIdent
    rw [w.cp]
    have : dot t (cumProdFrom 1 s.perSide) = ((flat s.perSide t).toNat : Int) := by
      show flat s.perSide t = _; omega
    rw [this, pyGet_nat _ _ hk]
  · obtain ⟨v, f⟩ := w.ident _ hk
    exact flat_inj v hv (by rw [f]; omega)

theorem cellOfIdent_self (w : WF s) (k : Nat) (h : k < s.cells.size) :
    cellOfIdent s s.cells[k].ident = .ok s.cells[k] := by
  obtain ⟨v, f⟩ := w.ident k h
  obtain ⟨k', h', e, hc, _⟩ := cellOfIdent_valid w v
  have : k' = k := by omega
  subst this; exact hc

theorem ident_inj (w : WF s) (k k' : Nat) (h : k < s.cells.size) (h' : k' < s.cells.size)
    (e : s.cells[k].ident = s.cells[k'].ident) : k = k' := by
  have a := (w.ident k h).2
  have b := (w.ident k' h').2
  rw [e] at a; omega

-- identifiers with one entry changed
theorem valid_modifyDir : ∀ {n ident : List Int} (d : Nat) (f : Int → Int), Valid n ident → d < n.length →
    (0 ≤ f (ident.getD d 0) ∧ f (ident.getD d 0) < n.getD d 1) → Valid n (modifyDir ident d f)
  | [], [], _, _, _, h, _ => by simp at h
  | n :: ns, i :: is, 0, f, hv, _, hf => by
    simp only [List.getD_cons_zero] at hf
    exact ⟨hf.1, hf.2, hv.2.2⟩
  | n :: ns, i :: is, d + 1, f, hv, hd, hf => by
    simp only [List.getD_cons_succ] at hf
    exact ⟨hv.1, hv.2.1, valid_modifyDir d f hv.2.2 (by simpa using hd) hf⟩
  | [], _ :: _, _, _, h, _, _ => h.elim
  | _ :: _, [], _, _, h, _, _ => h.elim

theorem getD_bounds {n ident : List Int} (d : Nat) (hv : Valid n ident) (hd : d < n.length) :
    0 ≤ ident.getD d 0 ∧ ident.getD d 0 < n.getD d 1 :=
  Valid.rec₂ (motive := fun n a _ => ∀ d, d < n.length → 0 ≤ a.getD d 0 ∧ a.getD d 0 < n.getD d 1)
    (fun _ h => nomatch h)
    (fun a0 a1 _ _ ih d hd => match d, hd with
      | 0, _ => ⟨a0, a1⟩
      | d + 1, hd => ih d (Nat.lt_of_succ_lt_succ hd)) hv hv d hd

theorem neighborIdent_periodic (n ident : List Int) (d : Nat) (positive : Bool) :
    neighborIdent true n ident d positive =
      some (modifyDir ident d fun v => (v + (if positive then 1 else -1)) % n.getD d 1) := by
  cases positive <;> rfl

theorem neighborIdent_clipped {n ident : List Int} {d : Nat} (positive : Bool)
    (h0 : 0 ≤ ident.getD d 0) (h1 : ident.getD d 0 < n.getD d 1) :
    neighborIdent false n ident d positive =
      if 0 ≤ ident.getD d 0 + (if positive then 1 else -1) ∧ ident.getD d 0 + (if positive then 1 else -1) < n.getD d 1
      then some (modifyDir ident d fun v => v + (if positive then 1 else -1)) else none := by
  simp only [neighborIdent, Bool.false_eq_true, if_false]
  generalize ident.getD d 0 = i at *
  generalize n.getD d 1 = m at *
  cases positive
  · simp only [Bool.false_eq_true, if_false]
    by_cases h : i - 1 < 0
    · rw [if_pos h, if_neg (by omega)]
    · rw [if_neg h, if_pos (by omega)]; rfl
  · simp only [if_true]
    by_cases h : i + 1 ≥ m
    · rw [if_pos h, if_neg (by omega)]
    · rw [if_neg h, if_pos (by omega)]

/-- past its assertion `neighbor_cell` looks up the identifier `neighborIdent` selects -/
theorem neighbor_some (w : WF s) (c : Cell α) {d : Nat} (hd : d < s.perSide.length) (positive : Bool) {t : List Int}
    {c' : Cell α} (ht : neighborIdent s.periodic s.perSide c.ident d positive = some t)
    (hl : cellOfIdent s t = .ok c') : neighbor s c (d : Int) positive = .ok (some c') := by
  have hdim : (d : Int) < (s.lengths.length : Int) := by rw [← w.dim]; exact_mod_cast hd
  simp only [neighbor, Int.natCast_nonneg, decide_true, hdim, Bool.and_self, Bool.not_true, Bool.false_eq_true,
    if_false, Int.toNat_natCast, ht, hl]

theorem neighbor_none (w : WF s) (c : Cell α) {d : Nat} (hd : d < s.perSide.length) (positive : Bool)
    (ht : neighborIdent s.periodic s.perSide c.ident d positive = none) : neighbor s c (d : Int) positive = .ok none := by
  have hdim : (d : Int) < (s.lengths.length : Int) := by rw [← w.dim]; exact_mod_cast hd
  simp only [neighbor, Int.natCast_nonneg, decide_true, hdim, Bool.and_self, Bool.not_true, Bool.false_eq_true,
    if_false, Int.toNat_natCast, ht]
theorem exists_ok_of_any {ε β : Type} {r : Except ε β} {f : β → Bool} (h : r.toOption.any f = true) :
    ∃ x, r = .ok x ∧ f x = true := by
  cases r with
  | error e => cases h
  | ok x => exact ⟨x, rfl, h⟩

/-- `[f(x) for x in l]` succeeds if every call does, and then holds exactly the results of the calls -/
theorem mapE_spec {β γ : Type} (f : β → Except String γ) : ∀ (l : List β), (∀ x ∈ l, ∃ y, f x = .ok y) →
    ∃ l', mapE f l = .ok l' ∧ ∀ y, y ∈ l' ↔ ∃ x ∈ l, f x = .ok y
  | [], _ => ⟨[], rfl, by simp⟩
  | x :: xs, h => by
    obtain ⟨y, hy⟩ := h x (by simp)
    obtain ⟨ys, hys, hmem⟩ := mapE_spec f xs fun z hz => h z (by simp [hz])
    refine ⟨y :: ys, by simp only [mapE, hy, hys], fun z => ?_⟩
    rw [List.mem_cons, hmem]
    constructor
    · rintro (rfl | ⟨x', hx', e⟩)
      · exact ⟨x, List.mem_cons_self, hy⟩
      · exact ⟨x', List.mem_cons_of_mem _ hx', e⟩
    · rintro ⟨x', hx', e⟩
      rcases List.mem_cons.mp hx' with rfl | hx'
      · exact Or.inl (Except.ok.inj (e.symm.trans hy))
      · exact Or.inr ⟨x', hx', e⟩

end
end JF.Cells
