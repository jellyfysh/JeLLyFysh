import JF.Model.Potential.Derivative
import JF.Model.Potential.DerivativeEwald
import Mathlib.Analysis.SpecialFunctions.Pow.Deriv
import Mathlib.Analysis.SpecialFunctions.Sqrt
import Mathlib.Analysis.SpecialFunctions.Trigonometric.InverseDeriv
/-!
The exact (`ℝ`) reading `DOps.real` of the scalar record `DOps` of `JF/Model/Potential/Derivative.lean`; `erfc` is a
parameter (Mathlib has no error function).  Under it `pyDiv`, `pyPow`, `pySum`, `norm` are ordinary real expressions
and `analyseVelocity` succeeds exactly on `StdVel`.  The two chain rules shared by the potentials, for a separation
`V3.moved` along an axis: `timeDerivative_hasDerivAt` and `radial_hasDerivAt` (a function of the distance).
-/
namespace JF.Deriv
open Real

/-- exact reading: Mathlib's real functions; nothing overflows (`isFinite = true`) -/
noncomputable def DOps.real (erfc : ℝ → ℝ) : DOps ℝ where
  ofInt n := (n : ℝ)
  isFinite _ := true
  sqrt := Real.sqrt
  pow := fun x y => x ^ y
  exp := Real.exp
  erfc := erfc
  cos := Real.cos
  sin := Real.sin
  acos := Real.arccos
  pi := Real.pi

variable (e : ℝ → ℝ)

@[simp] theorem real_ofInt (n : ℤ) : (DOps.real e).ofInt n = (n : ℝ) := rfl
@[simp] theorem real_isFinite (x : ℝ) : (DOps.real e).isFinite x = true := rfl
@[simp] theorem real_pow (x y : ℝ) : (DOps.real e).pow x y = x ^ y := rfl
@[simp] theorem real_sqrt (x : ℝ) : (DOps.real e).sqrt x = √x := rfl
@[simp] theorem real_exp (x : ℝ) : (DOps.real e).exp x = Real.exp x := rfl
@[simp] theorem real_erfc (x : ℝ) : (DOps.real e).erfc x = e x := rfl
@[simp] theorem real_cos (x : ℝ) : (DOps.real e).cos x = Real.cos x := rfl
@[simp] theorem real_sin (x : ℝ) : (DOps.real e).sin x = Real.sin x := rfl
@[simp] theorem real_acos (x : ℝ) : (DOps.real e).acos x = Real.arccos x := rfl
@[simp] theorem real_pi : (DOps.real e).pi = π := rfl

theorem bind_of_ok {α β : Type} {x : Res α} {a : α} {f : α → Res β} {r : Res β} (hx : x = .ok a) (h : f a = r) :
    (x >>= f) = r := by
  rw [hx]; exact h

theorem of_bind_ok {α β : Type} {x : Res α} {f : α → Res β} {b : β} (h : (x >>= f) = .ok b) :
    ∃ a, x = .ok a ∧ f a = .ok b :=
  match x, h with
  | .ok a, h => ⟨a, rfl, h⟩

theorem pyDiv_real (x y : ℝ) (hy : y ≠ 0) : pyDiv (DOps.real e) x y = .ok (x / y) := by
  simp [pyDiv, hy]

theorem pyDiv_real_zero (x : ℝ) : pyDiv (DOps.real e) x 0 = .error "ZeroDivisionError" := by
  simp [pyDiv]

theorem pyPow_real (x y : ℝ) : pyPow (DOps.real e) x y = .ok (x ^ y) := by
  simp [pyPow]

theorem pySum3_real (a b c : ℝ) : pySum (DOps.real e) [a, b, c] = a + b + c := by
  have hstep : ∀ (st : ℝ × ℝ) (x : ℝ), sumStep (DOps.real e) st x = (st.1 + x, st.2) := fun st x => by
    simp only [sumStep]
    split_ifs <;> (ext <;> simp)
  simp [pySum, List.foldl, hstep]

/-- squared euclidean norm -/
def V3.nsq (s : V3 ℝ) : ℝ := s.x * s.x + s.y * s.y + s.z * s.z

theorem V3.nsq_nonneg (s : V3 ℝ) : 0 ≤ s.nsq :=
  add_nonneg (add_nonneg (mul_self_nonneg _) (mul_self_nonneg _)) (mul_self_nonneg _)

theorem norm_real (s : V3 ℝ) : norm (DOps.real e) s = .ok (√(s.nsq)) := by
  simp only [norm, pySum3_real, pyPow_real, half, real_ofInt, V3.nsq]
  rw [Real.sqrt_eq_rpow]; norm_num

/-- `v` is a standard velocity: speed `sp > 0` along axis `d`, the other components zero -/
def StdVel (v : V3 ℝ) (d : ℕ) (sp : ℝ) : Prop :=
  0 < sp ∧ ((d = 0 ∧ v = ⟨sp, 0, 0⟩) ∨ (d = 1 ∧ v = ⟨0, sp, 0⟩) ∨ (d = 2 ∧ v = ⟨0, 0, sp⟩))

/-- the separation (target minus active) after the ACTIVE unit has moved by `x` along axis `d` -/
def V3.moved (s : V3 ℝ) (d : ℕ) (x : ℝ) : V3 ℝ :=
  match d with
  | 0 => ⟨s.x - x, s.y, s.z⟩
  | 1 => ⟨s.x, s.y - x, s.z⟩
  | _ => ⟨s.x, s.y, s.z - x⟩

/-- a separation after one of its end points moved by `+x` along axis `d` (bending potential) -/
def V3.pushed (s : V3 ℝ) (d : ℕ) (x : ℝ) : V3 ℝ := s.moved d (-x)

def V3.subSmul (s v : V3 ℝ) (t : ℝ) : V3 ℝ := ⟨s.x - t * v.x, s.y - t * v.y, s.z - t * v.z⟩

theorem subSmul_of_stdVel {v : V3 ℝ} {d : ℕ} {sp : ℝ} (hv : StdVel v d sp) (s : V3 ℝ) (t : ℝ) :
    s.subSmul v t = s.moved d (sp * t) := by
  obtain ⟨_, ⟨rfl, rfl⟩ | ⟨rfl, rfl⟩ | ⟨rfl, rfl⟩⟩ := hv <;>
    simp [V3.subSmul, V3.moved, mul_comm]

theorem analyseVelocity_of_stdVel {v : V3 ℝ} {d : ℕ} {sp : ℝ} (hv : StdVel v d sp) :
    analyseVelocity (DOps.real e) v = .ok (d, sp) := by
  have hb : ∀ x : ℝ, 0 < x → (x == (0 : ℝ)) = false := fun x hx => by simp [hx.ne']
  obtain ⟨hsp, ⟨rfl, rfl⟩ | ⟨rfl, rfl⟩ | ⟨rfl, rfl⟩⟩ := hv <;>
    simp [analyseVelocity, List.filter, V3.get, hb _ hsp, hsp]

/-- completeness: `_analyse_velocity` succeeds ONLY on standard velocities -/
theorem stdVel_of_analyseVelocity {v : V3 ℝ} {d : ℕ} {sp : ℝ}
    (h : analyseVelocity (DOps.real e) v = .ok (d, sp)) : StdVel v d sp := by
  obtain ⟨x, y, z⟩ := v
  cases hbx : (x == (0 : ℝ)) <;> cases hby : (y == (0 : ℝ)) <;> cases hbz : (z == (0 : ℝ)) <;>
    simp [analyseVelocity, List.filter, V3.get, hbx, hby, hbz] at h
  all_goals
    split_ifs at h with h0
    simp only [Except.ok.injEq, Prod.mk.injEq] at h
    obtain ⟨rfl, rfl⟩ := h
    simp only [beq_iff_eq] at hbx hby hbz
    simp [StdVel, h0, hbx, hby, hbz]

/-- `StandardVelocityPotential.derivative`: chain rule `d/dt U(s - t v) = speed · d/dx U(s - x e_d)` -/
theorem timeDerivative_hasDerivAt {U : V3 ℝ → ℝ} {svd : ℕ → Res ℝ} {v s : V3 ℝ} {d : ℕ} {sp r : ℝ}
    (hv : StdVel v d sp) (hsvd : svd d = .ok r) (hU : HasDerivAt (fun x => U (s.moved d x)) r 0) :
    timeDerivative (DOps.real e) v svd = .ok (r * sp) ∧
      HasDerivAt (fun t => U (s.subSmul v t)) (r * sp) 0 := by
  constructor
  · exact bind_of_ok (analyseVelocity_of_stdVel e hv) (bind_of_ok hsvd rfl)
  · simp only [subSmul_of_stdVel hv]
    exact HasDerivAt.comp_of_eq (h₂ := fun x => U (s.moved d x)) 0 hU
      (((hasDerivAt_id (0 : ℝ)).const_mul sp).congr_deriv (mul_one sp)) (mul_zero sp).symm

theorem poly2_hasDerivAt (c0 c1 c2 : ℝ) : HasDerivAt (fun x : ℝ => c0 + c1 * x + c2 * (x * x)) c1 0 := by
  exact ((((hasDerivAt_id (0 : ℝ)).const_mul c1).const_add c0).add
    (((hasDerivAt_id (0 : ℝ)).mul (hasDerivAt_id (0 : ℝ))).const_mul c2)).congr_deriv (by simp)

theorem nsq_moved (s : V3 ℝ) (d : ℕ) (x : ℝ) : (s.moved d x).nsq = s.nsq + -2 * s.get d * x + 1 * (x * x) := by
  match d with
  | 0 | 1 | _ + 2 => simp only [V3.moved, V3.nsq, V3.get]; ring

theorem nsq_moved_hasDerivAt (s : V3 ℝ) (d : ℕ) :
    HasDerivAt (fun x => (s.moved d x).nsq) (-2 * s.get d) 0 :=
  (poly2_hasDerivAt _ _ _).congr_of_eventuallyEq (Filter.Eventually.of_forall (nsq_moved s d))

@[simp] theorem moved_zero (s : V3 ℝ) (d : ℕ) : s.moved d 0 = s := by
  unfold V3.moved; split <;> simp

/-- a function of the distance along the motion of the active unit: `d/dx φ(|s − x e_d|) = φ'(|s|) · (−s_d / |s|)` -/
theorem radial_hasDerivAt {φ : ℝ → ℝ} {φ' : ℝ} (s : V3 ℝ) (d : ℕ) (hs : s.nsq ≠ 0)
    (hφ : HasDerivAt φ φ' (√(s.nsq))) :
    HasDerivAt (fun x => φ (√((s.moved d x).nsq))) (φ' * (-(s.get d) / √(s.nsq))) 0 :=
  HasDerivAt.comp_of_eq 0 hφ
    (((nsq_moved_hasDerivAt s d).sqrt (by simpa using hs)).congr_deriv (by simp only [moved_zero]; ring))
    (by rw [moved_zero])

theorem V3.norm_pos {s : V3 ℝ} (hs : s.nsq ≠ 0) : 0 < √(s.nsq) :=
  Real.sqrt_pos.mpr (lt_of_le_of_ne s.nsq_nonneg (Ne.symm hs))

end JF.Deriv
