import JF.Lemmas.SystemRun2Step
/-!
The induction step of the joint invariant `Big2` of the composed system for composite objects without cells: the first leg
(`first_step2`) and every later leg (`big_step2`).
-/
namespace JF.Sys2
open JF JF.Act JF.Sched JF.Med JF.CW2 JF.C14 JF.Sys JF.C12 JF.SysLeg
open JF.MediatorLoop hiding Run
open JF.Heap hiding Inv
open JF.Composite hiding pendOf

section
variable {env : Env ℚ} {mw : ModeWiring} {S : TaggerIdx} {needs : HandlerId → Bool}

theorem big_step2 (H : Hyp2 env mw S) {cs : List (Committed XTime)} {cl : Committed XTime} {s : Sys2} {E : TaggerIdx}
    {tl : Time ℚ} {sq : ℚ} (big : Big2 env mw S needs cs cl s E tl sq) (hgo : cl.stop = false)
    {o : Oracle XTime} {cm : Committed XTime} {s' : Sys2} (st : SysStep2 env mw S needs s o cm s') :
    ∃ E' tl', Big2 env mw S needs (cs ++ [cm]) cm s' E' tl' sq := by
  obtain ⟨t', E'', ht'eq, hE'', hcom⟩ := st.ev
  obtain ⟨E', f, hupd, b', -⟩ := big.medBig.next (hyp2_static H) st.leg st.mid' (fun q hq => (st.cands q hq).1) ht'eq
  obtain rfl : E'' = E' := Option.some.inj (hE''.symm.trans f.owner)
  obtain ⟨hch, hi', h', hrun'⟩ := mid_run2 H big hgo st hupd
  obtain ⟨born', hr8'⟩ := mid_cur2 H big hgo st hupd hi'
  have hstopE' := endOfRun_of_stop f.owner f.stopEq
  -- the state after the commit: C12's invariant and the one chain, in the mode of the flags of the next leg
  have hnew : AllGood env.d env.L s'.cs ∧ Uniform env.nPer s'.cs ∧
      ∃ m, OneChainM s'.cs sq m ∧ (cm.stop = false → m = ofW (mw.mode (aStep mw.w (absOf s'.mid) E''))) := by
    obtain ⟨e', hk', _, ⟨ha', _⟩, hcs'⟩ := hcom
    have hmode : ∃ m, modeStep (ofW (mw.mode (absOf s'.mid))) e' = some m ∧
        (cm.stop = false → m = ofW (mw.mode (aStep mw.w (absOf s'.mid) E''))) := by
      cases hstop : cm.stop with
      | false =>
        exact ⟨_, mode_step_of_run H hrun' (List.ne_nil_of_mem f.running) (not_endOfRun_of_go f.owner f.stopEq hstop) hk',
          fun _ => rfl⟩
      | true =>
        have he : (mw.w.tagger E'').kind = .endOfRun := by rw [hstopE'] at hstop; simpa using hstop
        obtain ⟨t0, S0, rfl⟩ := evKind_keep (keep_of_not_moves H.sup (by simp [affects, he]) hk')
        exact ⟨_, rfl, fun h => by cases h⟩
    obtain ⟨m, hm, hmeq⟩ := hmode
    obtain ⟨hadm, hc'⟩ := step_chain_aux H.hL hi'.1 hch e' hm ha'
    rw [hcs']
    exact ⟨step_good H.hL hi'.1 e' hadm, uniform_step hi'.2.1 env.L e', m, hc', hmeq⟩
  obtain ⟨med', cs', ids', csPrev', mid', cmode'⟩ := s'
  obtain rfl : csPrev' = s.cs := st.prev
  exact ⟨E'', t', { b' with
    phase := ⟨hi', Or.inr ⟨h', hrun'⟩⟩
    cur := ⟨hi', born', hr8'⟩
    commit := hcom
    good := hnew.1
    unif := hnew.2.1
    chain := hnew.2.2 }⟩

theorem first_step2 (H : Hyp2 env mw S) {s : Sys2} (hi : Init2 env mw s) {o : Oracle XTime} {cm : Committed XTime} {s' : Sys2}
    (st : SysStep2 env mw S needs s o cm s') :
    ∃ E' tl' sq, Big2 env mw S needs ([] ++ [cm]) cm s' E' tl' sq := by
  obtain ⟨t', E'', ht'eq, hE'', hcom⟩ := st.ev
  obtain ⟨f, hfirst, -, b'⟩ := MedBig.first (hyp2_static H) H.hS hi.med st.leg st.mid' (fun q hq _ => (st.cands q hq).1) ht'eq
  obtain rfl : E'' = S := Option.some.inj (hE''.symm.trans f.owner)
  have hpre0 : s.med.preceding = none := by rw [hi.med]; rfl
  obtain ⟨b, hb⟩ := start_hmode H.ms H.hS
  have hcom0 := hcom
  obtain ⟨e, hk, _, ⟨ha, hsm⟩, hcs⟩ := hcom
  rw [hb] at hk
  simp only [kindsOf, List.mem_singleton] at hk
  obtain ⟨i, P, v, rfl⟩ : ∃ i P v, e = .start i P v := by cases e <;> simp [evKind] at hk; exact ⟨_, _, _, rfl⟩
  have hsm := hsm i P v rfl
  have hstart : mw.mode (aStep mw.w (absOf s'.mid) E'') = mw.startMode := by
    rw [absOf_of_first hfirst]; exact mode_startState H.ms H.hS
  have hcm0 : s'.cmode = fun _ => mw.startMode := by
    rw [st.cmode', hpre0, ← hi.cmode]; rfl
  obtain ⟨med', cs', ids', csPrev', mid', cmode'⟩ := s'
  obtain rfl : csPrev' = s.cs := st.prev
  obtain rfl : cs' = _ := hcs
  have hi0 : Inv env ⟨s.cs, ofW (mw.mode (absOf mid'))⟩ := inv_rest hi.good hi.unif hi.rest _
  have hy : (fun T => (world2 env mw).yieldOf T ⟨_, hi0⟩) = o.yields := by rw [st.yields]; rfl
  exact ⟨E'', t', nsq v,
    { b' with
      phase := ⟨hi0, Or.inl ⟨rfl, rfl, hi.rest, hcm0, s.ids, cm.created, by rw [hy]; exact hfirst, st.ids'⟩⟩
      cur := ⟨hi0, fun _ => ⟨_, hi0⟩, by
        rw [show ids' = assign s.ids cm.created from st.ids']
        exact C08.Reach8.start s.ids (⟨_, hi0⟩ : G env) mid' cm.created (by rw [hy]; exact hfirst)⟩
      commit := hcom0
      good := step_good H.hL hi.good _ (admW_adm_start hi.rest ha)
      unif := uniform_step hi.unif env.L (.start i P v)
      chain := ⟨_, start_oneChainM hi.rest ha hsm, fun _ => by rw [hstart]⟩ }⟩

end

end JF.Sys2
