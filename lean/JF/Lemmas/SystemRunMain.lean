import JF.Lemmas.SystemRunInv
/-!
The induction step of the joint invariant of the composed system: every later leg (`big_step`) and the first leg (`first_step`).
-/
namespace JF.Sys
open JF JF.Act JF.Heap JF.Sched JF.Med JF.CW JF.C14 JF.MediatorLoop JF.Kin

section
variable {env : Env ℚ} {geo : Geo env} {c : Wiring} {S : TaggerIdx} {needs : HandlerId → Bool}

theorem pushed_facts {us : List (PUnit ℚ)} {a : Nat} {pos v : List ℚ} {ts : Time ℚ} {last : XTime} {o : Oracle XTime}
    {created : List (HandlerId × IdTuple)} (hk : KinI env.L us a pos v ts) (hv : geo.velOK v) (hts : Normalised ts)
    (hc : CandsOK env geo c us last o created) {h : HandlerId} {t : XTime}
    (hm : (h, t) ∈ created.map (fun q => (q.1, o.cand q.1))) :
    NormX t ∧ (kindOfH c h = .cellBoundary → ∃ τ, t = .fin τ ∧ Normalised τ ∧ StayUntil env pos v ts τ ∧ val ts < val τ) ∧
    (kindOfH c h ≠ .cellBoundary → xcfg.lt t last = false) := by
  obtain ⟨q, hq, hqe⟩ := List.mem_map.mp hm
  simp only [Prod.mk.injEq] at hqe
  obtain ⟨rfl, rfl⟩ := hqe
  obtain ⟨h1, h2⟩ := hc q hq
  by_cases hkq : kindOfH c q.1 = .cellBoundary
  · obtain ⟨a0, u, v0, ts0, _, hu, hv0, hts0, hcand⟩ := h1 hkq
    obtain ⟨_, hp, hv0e, hts0e⟩ := mover_unique hk hu hv0 hts0
    rw [hcand, hp, hv0e, hts0e]
    refine ⟨add_normalised _ _ hts, fun _ => ⟨_, rfl, add_normalised _ _ hts, ?_, ?_⟩, fun hne => absurd hkq hne⟩
    · exact stayUntil_of_geo geo hk.vlen.2.2 hv
    · rw [add_val]; linarith [geo.pos pos v hk.vlen.2.2 hv]
  · exact ⟨(h2 hkq).1, fun hc' => absurd hc' hkq, fun _ => (h2 hkq).2⟩

theorem big_step (H : Hyp env c S) {cs : List (Committed XTime)} {cl : Committed XTime} {s : Sys} {E : TaggerIdx}
    {tl : Time ℚ} {a : Nat} {pos v : List ℚ} {ts : Time ℚ} (big : Big env geo c S needs cs cl s E tl a pos v ts)
    (hgo : cl.stop = false) (ntl : TieFreeLeg c (pendOf (fun _ => none) cs.dropLast) cl)
    {o : Oracle XTime} {cm : Committed XTime} {s' : Sys}
    (st : SysStep env geo c S needs s o cm s') :
    ∃ E' tl' a' pos' v' ts', Big env geo c S needs (cs ++ [cm]) cm s' E' tl' a' pos' v' ts' := by
  have pok : PoolsOK c.wires := poolsOK_wires c
  obtain ⟨t', ht'eq, hcom⟩ := st.ev
  have hcands := st.cands
  rw [big.med.rel.last] at hcands
  obtain ⟨E', f, hupd, b', hle⟩ := big.medBig.next (hyp_static H) st.leg st.mid' (fun q hq =>
    (pushed_facts big.kin big.vel big.tsnorm hcands (List.mem_map_of_mem (f := fun q => (q.1, o.cand q.1)) hq)).1) ht'eq
  have ht'n := b'.tnorm
  obtain ⟨hc', born', hrun', hr8'⟩ := mid_step H big hgo ntl st hupd
  have inv' := runInv H hrun'
  have hocc := occ_after big st
  have midcb : hasOccOf c = true → ∀ hb tb, kindOfH c hb = .cellBoundary →
      pendPushed (pendOf (fun _ => none) cs) cm hb = some tb →
      ∃ τ, tb = .fin τ ∧ Normalised τ ∧ StayUntil env pos v ts τ := by
    intro hO hb tb hkb e
    rcases pushAll_some _ _ e with h1 | h1
    · exact big.cb hO hgo ntl hb tb hkb h1
    · rw [f.pushed] at h1
      obtain ⟨τ, h2, h3, h4, _⟩ := (pushed_facts big.kin big.vel big.tsnorm hcands h1).2.1 hkb
      exact ⟨τ, h2, h3, h4⟩
  have hkE' : kindOfH c cm.handler = (c.tagger E').kind := kindOfH_of_owner f.owner
  rw [hkE'] at hcom
  obtain ⟨a', pos', v', ts', hk', hv', hts'n, hts'le, htsEq', hquiet⟩ :=
    kin_step H.ho big.kin big.vel big.tsnorm ht'n (le_trans big.tsle hle) hcom
  have cb_after : ∀ hb tb τ, kindOfH c hb = .cellBoundary → pendPushed (pendOf (fun _ => none) cs) cm hb = some tb →
      tb = .fin τ → Normalised τ → NoTieAll c (pendOf (fun _ => none) cs) cm → val t' < val τ := by
    intro hb tb τ hkb e hτ hτn hnt
    exact (f.commit_le (hτ ▸ e) hτn ht'eq ht'n).2 (hnt hb hkb)
  have hpl : pos.length = env.L.length := big.kin.vlen.2.1
  have hvl : v.length = env.L.length := big.kin.vlen.1
  have hcell : hasOccOf c = true → env.relevant a = true → s'.occ.activeCell = some (env.cellOf pos) := fun hO hrel =>
    occ_activeCell_mid (hO ▸ hocc) big.kin hrel
  have hunit : (unitIn env s.us a).cell = env.cellOf pos := by
    obtain ⟨⟨ua, hua, hp, _⟩, _⟩ := big.kin
    simp [unitIn, hua, hp]
  have hmover : ∀ {a0}, movers s.us = [a0] → a0 = a := fun hm => by
    rw [big.kin.movers] at hm
    simpa using hm.symm
  obtain ⟨med', us', occ', ids', usPrev', mid'⟩ := s'
  obtain rfl : usPrev' = s.us := st.prev
  refine ⟨E', t', a', pos', v', ts',
    { b' with
      kin := hk'
      vel := hv'
      tsnorm := hts'n
      tsle := hts'le
      tsEq := htsEq'
      phase := ⟨hc', Or.inr hrun'⟩
      cur := ⟨hc', born', hr8'⟩
      wfPrev := fun u hu => let ⟨i, hi⟩ := List.mem_iff_getElem?.mp hu; (big.kin.2 i u hi).1
      kinPrev := Or.inr ⟨a, pos, v, ts, big.kin⟩
      commit := hcom
      mirror := ?mirror
      stays := ?stays
      cb := ?cb }⟩
  case mirror =>
    intro hO a0 hm hrel
    obtain rfl := hmover hm
    rw [hcell hO hrel, hunit]
  case stays =>
    intro hO hncb hnt a0 hm hrel
    rw [List.dropLast_concat] at hnt
    obtain rfl := hmover hm
    rw [hcell hO hrel]
    rcases old_mover_pos H.ho big.kin hcom hncb with hpos | hsame
    · -- time-sliced: the pending cell-boundary event is strictly later
      have hunit' : (unitIn env us' a0).cell = env.cellOf (sliceVec Ops.rat env.L pos v (Time.sub t' ts)) := by
        cases hu : us'[a0]? with
        | none => rw [hu] at hpos; simp at hpos
        | some u =>
          rw [hu] at hpos
          simp only [Option.map_some, Option.some.injEq] at hpos
          simp [unitIn, hu, hpos]
      rw [hunit']
      obtain ⟨B, hB, hBc, hBk, _, hBr⟩ := cbWired_spec H.cb hO
      obtain ⟨hb, hhb⟩ := cb_exists (rs := ⟨mid', ids', ⟨⟨s.us, occ'⟩, hc'⟩⟩) inv' hO hB hBc hBk (hBr _ inv'.reach) big.kin hrel
      have hkb : kindOfH c hb = .cellBoundary := by
        rw [kindOfH_of_owner (owner_of_running pok f.pmid hhb)]; exact hBk
      obtain ⟨tb, htb⟩ := Option.isSome_iff_exists.mp ((f.mirr hb).mpr ⟨B, hhb⟩)
      obtain ⟨τ, hτ, hτn, hstay⟩ := midcb hO hb tb hkb htb
      rw [(stayUntil_slice geo.posBox hpl hvl hstay (le_trans big.tsle hle) (cb_after hb tb τ hkb htb hτ hτn hnt)).1]
    · rw [hsame, hunit]
  case cb =>
    intro hO hstop hntc hb tb hkb e
    rw [List.dropLast_concat] at hntc
    rw [pendOf_snoc] at e
    obtain ⟨hnt, e'⟩ := pendAfter_some e
    obtain ⟨τ, hτ, hτn, hstay⟩ := midcb hO hb tb hkb e'
    by_cases hq : (c.tagger E').kind = .sampling ∨ (c.tagger E').kind = .dumping
    · obtain ⟨rfl, rfl, hpos'⟩ := hquiet hq
      refine ⟨τ, hτ, hτn, ?_⟩
      rcases hpos' with ⟨rfl, rfl⟩ | ⟨rfl, rfl⟩
      · exact (stayUntil_slice geo.posBox hpl hvl hstay (le_trans big.tsle hle)
          (cb_after hb tb τ hkb e' hτ hτn (hntc (by rw [hkE']; exact hq)))).2
      · exact hstay
    · -- any other commit trashes the cell-boundary tagger
      exfalso
      apply hnt
      obtain ⟨B, hB, hBc, hBk, hBu, hBr⟩ := cbWired_spec H.cb hO
      obtain ⟨T, hT⟩ := (f.mirr hb).mp (by rw [e']; rfl)
      have hoT := owner_of_running pok f.pmid hT
      have hTn : T < c.n := by rw [← c.wires_length]; exact owner_lt hoT
      obtain rfl : T = B := hBu T hTn (by rw [← kindOfH_of_owner hoT]; exact hkb)
      have hend : (c.tagger E').kind ≠ .endOfRun := SysLeg.not_endOfRun_of_go f.owner f.stopEq hstop
      have hE'n : E' < c.n := by rw [← c.wires_length]; exact owner_lt f.owner
      have hin : T ∈ (c.tagger E').trashes := by
        by_cases hcbk : (c.tagger E').kind = .cellBoundary
        · obtain rfl := hBu E' hE'n hcbk
          exact (C09Pools.wiringSound_parts H.sound H.hS).1.self_trash E' hE'n
        · exact SysLeg.trashes_cb_of_ident (rs := ⟨mid', ids', ⟨⟨s.us, occ'⟩, hc'⟩⟩) H.sound H.hS (liveIs env c) inv'
            (List.ne_nil_of_mem f.running) hend
            (affects_ident_of (fun h => hq (Or.inl h)) (fun h => hq (Or.inr h)) hend hcbk) hB hBc hBk (hBr _ inv'.reach)
      rw [f.trashed]
      exact (trashLoop_out_mem _ _ hb).mpr ⟨T, by rw [(getW_wires c E').2.1]; exact hin, hT⟩

/-- `JF.MediatorLoop.CandOK` for a leg after the first: by hypothesis (`CandsOK`) for the handlers that are not cell-boundary
handlers; the cell-boundary handler's candidate is the time stamp of the active unit, which is the time of the last commit, plus a
positive time to the boundary (`Geo.pos`, i.e. `JF.C11.boundary_pos`).  Stated for whatever `get_event_handlers_to_run` hands out
(the leg need not succeed). -/
theorem candOK_created (H : Hyp env c S) (hdq : dumpQuiet c = true) {cs : List (Committed XTime)} {cl : Committed XTime}
    {s : Sys} {E : TaggerIdx} {tl : Time ℚ} {a : Nat} {pos v : List ℚ} {ts : Time ℚ}
    (big : Big env geo c S needs cs cl s E tl a pos v ts) {o : Oracle XTime} {a1 : ActSt}
    {created : List (HandlerId × IdTuple)}
    (hgtr : getToRun (mwire c S needs).w (mwire c S needs).S s.med.act s.med.preceding o.yields = (a1, .ok created))
    (hcands : CandsOK env geo c s.us s.med.sched.last o created) :
    ∀ q ∈ created, xcfg.lt (o.cand q.1) cl.time = false := by
  have hs : Med.Static (mwire c S needs) := hyp_static H
  have pok : PoolsOK c.wires := poolsOK_wires c
  rw [big.prec] at hgtr
  have hupd : update c.wires s.med.act.ts E o.yields = some (a1.ts, created) :=
    getToRun_started big.started big.owner hgtr
  have hcr := (C09.update_returns_only_not_running hs.wf pok big.med.pool hupd).2
  rw [big.med.rel.last] at hcands
  intro q hq
  have hq' : (q.1, o.cand q.1) ∈ created.map (fun p => (p.1, o.cand p.1)) := List.mem_map.mpr ⟨q, hq, rfl⟩
  obtain ⟨_, hcb, hother⟩ := pushed_facts big.kin big.vel big.tsnorm hcands hq'
  by_cases hk : kindOfH c q.1 = .cellBoundary
  · obtain ⟨τ, hτ, hτn, _, hlt⟩ := hcb hk
    have hnd : (c.tagger E).kind ≠ .dumping := by
      intro hd
      -- a dumping tagger creates no cell-boundary handler
      have hkey : q.1 ∈ created.map Prod.fst := List.mem_map.mpr ⟨q, hq, rfl⟩
      obtain ⟨⟨T, hT, hnr⟩, _⟩ := hcr q.1 hkey
      have hEn : E < c.n := by rw [← c.wires_length]; exact owner_lt big.owner
      have hTn : T < c.wires.length := (hs.wf E).2 T hT
      have hown : owner c.wires q.1 = some T := owner_of_mem_pool pok hTn (big.med.pool.mem_pool_of_notRunning hnr)
      rw [kindOfH_of_owner hown] at hk
      have := List.all_eq_true.mp hdq E (List.mem_range.mpr hEn)
      simp only [hd, bne_self_eq_false, Bool.false_or, List.all_eq_true, bne_iff_ne, ne_eq] at this
      have hT' : T ∈ (c.tagger E).creates := by rw [← (getW_wires c E).1]; exact hT
      exact this T hT' hk
    rw [hτ, big.time, xlt_false_iff hτn big.tnorm, ← big.tsEq hnd]
    exact le_of_lt hlt
  · exact hother hk

theorem first_step (H : Hyp env c S) {s : Sys} (hi : Init env c s) {o : Oracle XTime} {cm : Committed XTime} {s' : Sys}
    (st : SysStep env geo c S needs s o cm s') :
    ∃ E' tl' a' pos' v' ts', Big env geo c S needs ([] ++ [cm]) cm s' E' tl' a' pos' v' ts' := by
  obtain ⟨t', ht'eq, hcom⟩ := st.ev
  obtain ⟨f, hfirst, hkS, b'⟩ := SysLeg.MedBig.first (hyp_static H) H.hS hi.med st.leg st.mid'
    (fun q hq hk => ((st.cands q hq).2 (by rw [hk]; decide)).1) ht'eq
  have hSk := (start_spec H.hS).2.1
  have hact0 : s.med.act = ⟨false, initAct c.wires⟩ := by rw [hi.med]; rfl
  have hocc : s'.occ = s.occ := by
    have := st.occ1; unfold occNext at this; rw [hact0] at this; simpa using this.symm
  rw [kindOfH_of_owner f.owner, hSk] at hcom
  obtain ⟨a', pos', v', hk', hv'⟩ : ∃ a' pos' v', KinI env.L s'.us a' pos' v' t' ∧ geo.velOK v' := by
    rcases hcom with ⟨ev, hal, hev, hadm, hus⟩ | ⟨hd, _⟩
    · cases ev with
      | start t0 b w =>
        have : t0 = t' := hev
        subst this
        obtain ⟨p, hp⟩ := KinI.of_start hi.wf hi.box hi.rest t0 b w hadm.1 (geo.vlen w hadm.2.1)
        rw [hus, H.ho]
        exact ⟨b, p, w, hp, hadm.2.1⟩
      | keep t0 => simp [allowedEv] at hal
      | snap t0 d x => simp [allowedEv] at hal
      | lift t0 b => simp [allowedEv] at hal
      | endOfChain t0 b w => simp [allowedEv] at hal
    · cases hd
  have hrest : movers s.us = [] := movers_rest hi.rest
  obtain ⟨med', us', occ', ids', usPrev', mid'⟩ := s'
  obtain rfl : usPrev' = s.us := st.prev
  obtain rfl : occ' = s.occ := hocc
  have hc0 : Consistent env (hasOccOf c) ⟨s.us, s.occ⟩ := by
    intro _
    simp [hrest, expectedActive, hi.occId, hi.occCell]
  have hy : (fun T => (world env c).yieldOf T ⟨⟨s.us, s.occ⟩, hc0⟩) = o.yields := by rw [st.yields]; rfl
  exact ⟨S, t', a', pos', v', t',
    { b' with
      kin := hk'
      vel := hv'
      tsnorm := b'.tnorm
      tsle := le_refl _
      tsEq := fun _ => rfl
      phase := ⟨hc0, Or.inl ⟨rfl, rfl, s.ids, cm.created, by rw [hy]; exact hfirst, st.ids'⟩⟩
      cur := ⟨hc0, fun _ => ⟨⟨s.us, s.occ⟩, hc0⟩, by
        rw [show ids' = assign s.ids cm.created from st.ids']
        exact C08.Reach8.start s.ids (⟨⟨s.us, s.occ⟩, hc0⟩ : G env c) mid' cm.created (by rw [hy]; exact hfirst)⟩
      wfPrev := hi.wf
      kinPrev := Or.inl hi.rest
      commit := by rw [hSk]; exact hcom
      mirror := fun _ a0 hm _ => by rw [hrest] at hm; cases hm
      stays := fun _ _ _ a0 hm _ => by rw [hrest] at hm; cases hm
      cb := fun _ _ _ hb tb hkb e => by
        rw [pendOf_snoc] at e
        rw [hkS hb (Option.isSome_iff_exists.2 ⟨tb, (pendAfter_some e).2⟩)] at hkb
        cases hkb }⟩

end

end JF.Sys
