import JF.Model.ConcreteWorld2
import JF.Lemmas.KinematicsList
/-!
`vels cs` — the velocities of all units — is what the one-chain invariant (`MovingAt`, `OneChainM`, `AllRest`) and the taggers read of
a state of the two-level machine.  Time-slicing and the cell-boundary event do not change it (any scalar type).
-/
namespace JF.CW2
open JF JF.Composite
variable {α : Type} [Add α] [Sub α] [Mul α] [LT α] [DecidableLT α] [BEq α]

theorem velsOf_sliceComp (o : Ops α) (L : List α) (t : Time α) (c : CObj α) : velsOf (sliceComp o L t c) = velsOf c := by
  simp only [velsOf, sliceComp, Kin.timeSlice_vel, List.map_map]
  congr 1
  apply List.map_congr_left
  intro l _
  simp [Kin.timeSlice_vel]

theorem vels_sliceAt (o : Ops α) (L : List α) (t : Time α) (S : List Nat) (cs : List (CObj α)) :
    vels (sliceAt o L t S cs) = vels cs :=
  Kin.foldl_modify_map velsOf (sliceComp o L t) (velsOf_sliceComp o L t) S cs

theorem vels_snap (o : Ops α) (L : List α) (t : Time α) (S : List Nat) (i : Nat) (j : Option Nat) (d : Nat) (x : α)
    (cs : List (CObj α)) : vels (snap o L t S i j d x cs) = vels cs := by
  unfold snap
  simp only []
  unfold vels
  rw [Kin.map_modify_of_eq]
  · exact vels_sliceAt o L t S cs
  · intro c
    cases j with
    | none => rfl
    | some j =>
      simp only [velsOf]
      congr 1
      exact Kin.map_modify_of_eq (fun l : PUnit α => l.vel) (fun l => { l with pos := Kin.setCoord l.pos d x }) (fun _ => rfl) _ _

end JF.CW2
