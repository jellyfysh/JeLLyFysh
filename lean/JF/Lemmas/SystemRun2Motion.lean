import JF.Lemmas.ConcreteWorld2Inv
import JF.Props.C08
/-!
The concrete motion relation of C08 (`JF.C08.Motion`) for the world of composite objects without cells (`JF.CW2`).

Units are identified like in the tree state handler: `[i]` is the root unit of composite object `i`, `[i, j]` its point mass `j`.
`SameTraj d L x y`: unit `y` has the velocity of `x`, the position of `x` if it is at rest, and the trajectory
`τ ↦ pos + vel · (τ − time stamp)` of `y` is that of `x` modulo the box lengths — "the straight-line trajectory that is still
current".  The one event kind that the handler classes of the taggers with `affects · .motion = false` commit in this world
(`keep`: time-slice the in-state, nothing else) preserves it for every unit of a state satisfying C12's `AllGood` (`same_sliceAt`).
-/
namespace JF.Sys2
open JF JF.Act JF.CW2 JF.Composite JF.C12

def unitAt (cs : List (CObj ℚ)) : List Nat → Option (PUnit ℚ)
  | [i] => (cs[i]?).map (·.root)
  | [i, j] => (cs[i]?).bind (fun c => c.leaves[j]?)
  | _ => none

def SameTraj (d : Nat) (L : List ℚ) (x y : PUnit ℚ) : Prop :=
  x.vel = y.vel ∧ (x.vel = none → x.pos = y.pos) ∧ ∀ τ k, k < d → Cong (L.getD k 0) (advAt y τ k) (advAt x τ k)

theorem SameTraj.refl (d : Nat) (L : List ℚ) (x : PUnit ℚ) : SameTraj d L x x :=
  ⟨rfl, fun _ => rfl, fun _ _ _ => Cong.refl _ _⟩

theorem SameTraj.trans {d : Nat} {L : List ℚ} {x y z : PUnit ℚ} (h1 : SameTraj d L x y) (h2 : SameTraj d L y z) :
    SameTraj d L x z :=
  ⟨h1.1.trans h2.1, fun hx => (h1.2.1 hx).trans (h2.2.1 (h1.1 ▸ hx)), fun τ k hk => (h2.2.2 τ k hk).trans (h1.2.2 τ k hk)⟩

theorem sameTraj_timeSlice {d : Nat} {L : List ℚ} (hL : BoxOK d L) (t : Time ℚ) {u : PUnit ℚ} (hu : WFU d u) :
    SameTraj d L u (Kin.timeSlice Ops.rat L t u) := by
  refine ⟨(timeSlice_vel L t u).symm, fun hv => ?_, (timeSlice_spec hL t hu).2.2⟩
  unfold Kin.timeSlice; rw [hv]

def SameMotion2 (d : Nat) (L : List ℚ) (cs cs' : List (CObj ℚ)) (u : List Nat) : Prop :=
  match unitAt cs u, unitAt cs' u with
  | some x, some y => SameTraj d L x y
  | none, none => True
  | _, _ => False

theorem SameMotion2.refl (d : Nat) (L : List ℚ) (cs : List (CObj ℚ)) (u : List Nat) : SameMotion2 d L cs cs u := by
  unfold SameMotion2
  cases unitAt cs u with
  | none => trivial
  | some x => exact SameTraj.refl d L x

theorem SameMotion2.trans {d : Nat} {L : List ℚ} {cs1 cs2 cs3 : List (CObj ℚ)} {u : List Nat}
    (h1 : SameMotion2 d L cs1 cs2 u) (h2 : SameMotion2 d L cs2 cs3 u) : SameMotion2 d L cs1 cs3 u := by
  unfold SameMotion2 at h1 h2 ⊢
  cases e1 : unitAt cs1 u <;> cases e2 : unitAt cs2 u <;> cases e3 : unitAt cs3 u <;> rw [e1, e2] at h1 <;> rw [e2, e3] at h2 <;>
    simp only at h1 h2 ⊢ <;> try trivial
  exact h1.trans h2

theorem unitAt_modify_slice (L : List ℚ) (t : Time ℚ) (cs : List (CObj ℚ)) (i : Nat) (u : List Nat) :
    unitAt (cs.modify i (sliceComp Ops.rat L t)) u =
      if u.head? = some i then (unitAt cs u).map (Kin.timeSlice Ops.rat L t) else unitAt cs u := by
  match u with
  | [] => simp [unitAt]
  | [a] =>
    simp only [unitAt, List.head?_cons, Option.some.injEq]
    by_cases h : a = i
    · subst h
      rw [getElem?_modify_self, if_pos rfl]
      cases cs[a]? <;> simp [sliceComp]
    · rw [getElem?_modify_ne _ _ (fun e => h e.symm), if_neg h]
  | [a, b] =>
    simp only [unitAt, List.head?_cons, Option.some.injEq]
    by_cases h : a = i
    · subst h
      rw [getElem?_modify_self, if_pos rfl]
      cases cs[a]? with
      | none => simp
      | some c => simp [sliceComp, List.getElem?_map]
    · rw [getElem?_modify_ne _ _ (fun e => h e.symm), if_neg h]
  | _ :: _ :: _ :: _ => simp [unitAt]

theorem unitAt_some {cs : List (CObj ℚ)} {u : List Nat} {x : PUnit ℚ} (hx : unitAt cs u = some x) :
    ∃ (a : Nat) (c : CObj ℚ), cs[a]? = some c ∧ (x = c.root ∨ x ∈ c.leaves) := by
  match u with
  | [] => simp [unitAt] at hx
  | [a] =>
    simp only [unitAt] at hx
    cases hc : cs[a]? with
    | none => rw [hc] at hx; simp at hx
    | some c =>
      rw [hc] at hx
      exact ⟨a, c, hc, Or.inl (Option.some.inj hx).symm⟩
  | [a, b] =>
    simp only [unitAt] at hx
    cases hc : cs[a]? with
    | none => rw [hc] at hx; simp at hx
    | some c =>
      rw [hc] at hx
      exact ⟨a, c, hc, Or.inr (List.mem_of_getElem? hx)⟩
  | _ :: _ :: _ :: _ => simp [unitAt] at hx

theorem wfu_unitAt {d : Nat} {L : List ℚ} {cs : List (CObj ℚ)} (h : AllGood d L cs) {u : List Nat} {x : PUnit ℚ}
    (hx : unitAt cs u = some x) : WFU d x := by
  obtain ⟨a, c, hc, rfl | hm⟩ := unitAt_some hx
  · exact (h.get hc).wf.1
  · exact (h.get hc).wf.2.1 x hm

theorem same_sliceAt {d : Nat} {L : List ℚ} (hL : BoxOK d L) (t : Time ℚ) : ∀ (S : List Nat) {cs : List (CObj ℚ)},
    AllGood d L cs → ∀ u, SameMotion2 d L cs (sliceAt Ops.rat L t S cs) u
  | [], cs, _, u => SameMotion2.refl d L cs u
  | i :: S, cs, h, u => by
    rw [sliceAt_cons]
    have hg : AllGood d L (cs.modify i (sliceComp Ops.rat L t)) :=
      allGood_modify h i _ (fun c hc => (sliceComp_good hL t (h.get hc)).1)
    refine SameMotion2.trans ?_ (same_sliceAt hL t S hg u)
    unfold SameMotion2
    rw [unitAt_modify_slice]
    by_cases hh : u.head? = some i
    · rw [if_pos hh]
      cases hx : unitAt cs u with
      | none => trivial
      | some x => exact sameTraj_timeSlice hL t (wfu_unitAt h hx)
    · rw [if_neg hh]
      cases hx : unitAt cs u with
      | none => trivial
      | some x => exact SameTraj.refl d L x

/-- the units of the in-state extracted for an identifier: the root unit and the point mass(es) of the branch
(`TreeStateHandler.extract_from_global_state`: for `(i,)` the root with all its children, for `(i, j)` the root with the child `j`) -/
def branchUnits (nPer : Nat) : List Nat → List (List Nat)
  | [i] => [i] :: (List.range nPer).map fun j => [i, j]
  | [i, j] => [[i], [i, j]]
  | _ => []

def motion2 (env : Env ℚ) (mw : ModeWiring) : C08.Motion (G env) (List Nat) where
  units ids := (ids.getD []).flatMap (branchUnits env.nPer)
  same g g' u := SameMotion2 env.d env.L g.1.cs g'.1.cs u
  same_refl g u := SameMotion2.refl env.d env.L g.1.cs u
  same_trans _ _ _ _ h1 h2 := h1.trans h2
  moves E := affects (mw.w.tagger E) .motion = true
  bound T := T < mw.w.n ∧ motionBound (mw.w.tagger T) = true

end JF.Sys2
