import JF.Model.Output
import Mathlib.Data.List.Nodup
import Mathlib.Data.List.Range
/-!
Combinatorics of the pair loop of the output handlers (`JF.Output.crossPairs`) and of the interrupted print loop
(`JF.Output.collect`), for any element type and any number of groups.
-/
namespace JF.Output
open List

variable {β γ : Type}


theorem collect_eq {α : Type} (f : γ → Out α) (g : γ → List (Line α)) (l : List γ) (h : ∀ x ∈ l, f x = (g x, none)) :
    collect f l = (l.flatMap g, none) := by
  induction l with
  | nil => rfl
  | cons x xs ih =>
    unfold collect
    rw [h x List.mem_cons_self, ih fun y hy => h y (List.mem_cons_of_mem _ hy)]
    rfl

theorem collect_single {α : Type} (f : γ → Out α) (g : γ → Line α) (l : List γ) (h : ∀ x ∈ l, f x = ([g x], none)) :
    collect f l = (l.map g, none) := by
  rw [List.map_eq_flatMap]
  exact collect_eq f _ l h

theorem collect_map_congr {α δ : Type} (f : γ → Out α) (f' : δ → Out α) (k : γ → δ) (l : List γ)
    (h : ∀ x ∈ l, f' (k x) = f x) : collect f' (l.map k) = collect f l := by
  induction l with
  | nil => rfl
  | cons x xs ih =>
    rw [List.map_cons, collect, collect, h x List.mem_cons_self, ih fun y hy => h y (List.mem_cons_of_mem _ hy)]

theorem collect_map {α : Type} (g : Line α → Line α) (f f' : γ → Out α) (l : List γ)
    (h : ∀ x ∈ l, f' x = ((f x).1.map g, (f x).2)) :
    collect f' l = ((collect f l).1.map g, (collect f l).2) := by
  induction l with
  | nil => rfl
  | cons x xs ih =>
    have hx := h x (by simp)
    have := ih (fun y hy => h y (by simp [hy]))
    unfold collect
    rw [hx]
    rcases hfx : f x with ⟨ls, e⟩
    cases e with
    | some e => simp
    | none => simp [this]


theorem crossPairs_cons (g : List β) (gs : List (List β)) :
    crossPairs (g :: gs) = (gs.flatMap fun h => g.flatMap fun a => h.map fun b => (a, b)) ++ crossPairs gs := rfl

theorem crossPairs_map (f : β → γ) (gs : List (List β)) :
    crossPairs (gs.map (List.map f)) = (crossPairs gs).map (Prod.map f f) := by
  induction gs with
  | nil => rfl
  | cons g gs ih =>
    simp only [List.map_cons, crossPairs_cons, ih, List.map_append, List.map_flatMap, List.flatMap_map, List.map_map]
    congr 1

theorem mem_crossPairs_cons {g : List β} {gs : List (List β)} {a b : β} :
    (a, b) ∈ crossPairs (g :: gs) ↔ (a ∈ g ∧ ∃ h ∈ gs, b ∈ h) ∨ (a, b) ∈ crossPairs gs := by
  rw [crossPairs_cons, List.mem_append, List.mem_flatMap]
  exact or_congr_left
    ⟨fun ⟨h, hh, hp⟩ => ⟨(List.pair_mem_product.mp hp).1, h, hh, (List.pair_mem_product.mp hp).2⟩,
      fun ⟨ha, h, hh, hb⟩ => ⟨h, hh, List.pair_mem_product.mpr ⟨ha, hb⟩⟩⟩

/-- a pair is produced iff its first component lies in an EARLIER group than its second: in particular never two
elements of the same group (position), and never in the reverse order -/
theorem mem_crossPairs {gs : List (List β)} {a b : β} :
    (a, b) ∈ crossPairs gs ↔ ∃ i j : Nat, i < j ∧ ∃ g h, gs[i]? = some g ∧ gs[j]? = some h ∧ a ∈ g ∧ b ∈ h := by
  induction gs with
  | nil => simp [crossPairs]
  | cons g0 gs ih =>
    rw [mem_crossPairs_cons, ih]
    constructor
    · rintro (⟨ha, h, hh, hb⟩ | ⟨i, j, hij, g, h, hg, hh, ha, hb⟩)
      · obtain ⟨j, hj⟩ := List.mem_iff_getElem?.mp hh
        exact ⟨0, j + 1, Nat.succ_pos j, g0, h, rfl, hj, ha, hb⟩
      · exact ⟨i + 1, j + 1, Nat.succ_lt_succ hij, g, h, hg, hh, ha, hb⟩
    · rintro ⟨i, j, hij, g, h, hg, hh, ha, hb⟩
      cases j with
      | zero => exact absurd hij (Nat.not_lt_zero i)
      | succ j =>
        cases i with
        | zero =>
          cases hg
          exact Or.inl ⟨ha, h, List.mem_of_getElem? hh, hb⟩
        | succ i => exact Or.inr ⟨i, j, Nat.lt_of_succ_lt_succ hij, g, h, hg, hh, ha, hb⟩

theorem fst_mem_of_mem_crossPairs {gs : List (List β)} {p : β × β} (h : p ∈ crossPairs gs) :
    (∃ g ∈ gs, p.1 ∈ g) ∧ ∃ g ∈ gs, p.2 ∈ g := by
  obtain ⟨a, b⟩ := p
  obtain ⟨i, j, -, g, h', hg, hh, ha, hb⟩ := mem_crossPairs.mp h
  exact ⟨⟨g, List.mem_of_getElem? hg, ha⟩, ⟨h', List.mem_of_getElem? hh, hb⟩⟩

theorem forall_crossPairs {gs : List (List β)} {P : β → Prop} (h : ∀ g ∈ gs, ∀ x ∈ g, P x) :
    ∀ p ∈ crossPairs gs, P p.1 ∧ P p.2 := by
  intro p hp
  obtain ⟨⟨g, hg, h1⟩, ⟨g', hg', h2⟩⟩ := fst_mem_of_mem_crossPairs hp
  exact ⟨h g hg _ h1, h g' hg' _ h2⟩

theorem nodup_crossPairs {gs : List (List β)} (hn : gs.flatten.Nodup) : (crossPairs gs).Nodup := by
  induction gs with
  | nil => exact List.nodup_nil
  | cons g gs ih =>
    rw [List.flatten_cons, List.nodup_append] at hn
    obtain ⟨hg, hgs, hdis⟩ := hn
    have hgs' := List.nodup_flatten.mp hgs
    rw [crossPairs_cons, List.nodup_append]
    refine ⟨List.nodup_flatMap.mpr ⟨fun h hh => hg.product (hgs'.1 h hh), hgs'.2.imp fun hd p hp hp' => ?_⟩,
      ih hgs, fun p hp q hq hpq => ?_⟩
    · -- the blocks `g × h`, `g × h'` of the first group: second components from disjoint groups
      exact hd ((List.pair_mem_product (x := p.1) (y := p.2)).mp hp).2 ((List.pair_mem_product (x := p.1) (y := p.2)).mp hp').2
    · -- the first block and the rest: first components from different groups
      subst hpq
      obtain ⟨h, -, hp⟩ := List.mem_flatMap.mp hp
      obtain ⟨⟨g', hg', ha'⟩, -⟩ := fst_mem_of_mem_crossPairs hq
      exact hdis p.1 ((List.pair_mem_product (x := p.1) (y := p.2)).mp hp).1 p.1 (List.mem_flatten.mpr ⟨g', hg', ha'⟩) rfl


def addrs (sizes : List Nat) : List (List (Nat × Nat)) :=
  sizes.zipIdx.map fun (n, i) => (List.range n).map fun a => (i, a)

def tagged (gs : List (List β)) : List (List ((Nat × Nat) × β)) :=
  gs.zipIdx.map fun (g, i) => g.zipIdx.map fun (x, a) => ((i, a), x)

theorem tagged_snd (gs : List (List β)) : (tagged gs).map (List.map Prod.snd) = gs := by
  simp [tagged, Function.comp_def, List.zipIdx_map_fst]

theorem tagged_fst (gs : List (List β)) : (tagged gs).map (List.map Prod.fst) = addrs (gs.map List.length) := by
  simp [tagged, addrs, Function.comp_def, List.zipIdx_map, List.range_eq_range', ← List.zipIdx_map_snd]

theorem addrs_getElem? (sizes : List Nat) (i : Nat) :
    (addrs sizes)[i]? = sizes[i]?.map fun n => (List.range n).map fun a => (i, a) := by
  simp only [addrs, List.getElem?_map, List.getElem?_zipIdx]
  cases sizes[i]? <;> simp

theorem addrs_getElem?_eq_some {sizes : List Nat} {i : Nat} {g : List (Nat × Nat)} (h : (addrs sizes)[i]? = some g) :
    ∃ n, sizes[i]? = some n ∧ g = (List.range n).map fun a => (i, a) := by
  rw [addrs_getElem?] at h
  obtain ⟨n, hn, rfl⟩ := Option.map_eq_some_iff.mp h
  exact ⟨n, hn, rfl⟩

theorem mem_addrs_flatten {sizes : List Nat} {p : Nat × Nat} :
    p ∈ (addrs sizes).flatten ↔ ∃ n, sizes[p.1]? = some n ∧ p.2 < n := by
  rw [List.mem_flatten]
  constructor
  · rintro ⟨g, hg, hp⟩
    obtain ⟨i, hi⟩ := List.mem_iff_getElem?.mp hg
    obtain ⟨n, hn, rfl⟩ := addrs_getElem?_eq_some hi
    obtain ⟨a, ha, rfl⟩ := List.mem_map.mp hp
    exact ⟨n, hn, List.mem_range.mp ha⟩
  · rintro ⟨n, hs, hp⟩
    refine ⟨(List.range n).map fun a => (p.1, a), List.mem_of_getElem? (i := p.1) ?_,
      List.mem_map.mpr ⟨p.2, List.mem_range.mpr hp, rfl⟩⟩
    rw [addrs_getElem?, hs]; rfl

theorem nodup_addrs (sizes : List Nat) : (addrs sizes).flatten.Nodup := by
  rw [List.nodup_flatten]
  constructor
  · intro g hg
    obtain ⟨i, hi⟩ := List.mem_iff_getElem?.mp hg
    obtain ⟨n, -, rfl⟩ := addrs_getElem?_eq_some hi
    exact List.nodup_range.map fun x y hxy => (Prod.mk.inj hxy).2
  · -- different groups carry different indices
    rw [List.pairwise_iff_getElem]
    intro i j hi hj hij
    obtain ⟨n, -, e1⟩ := addrs_getElem?_eq_some (List.getElem?_eq_getElem hi)
    obtain ⟨m, -, e2⟩ := addrs_getElem?_eq_some (List.getElem?_eq_getElem hj)
    rw [e1, e2, List.disjoint_left]
    intro p hp hq
    obtain ⟨a, -, rfl⟩ := List.mem_map.mp hp
    obtain ⟨b, -, h⟩ := List.mem_map.mp hq
    exact absurd (Prod.mk.inj h).1.symm hij.ne

/-- **every unordered pair of elements of two DIFFERENT groups is produced exactly once (in one of its two orders), a pair
of elements of the same group never**, for any number of groups of any sizes -/
theorem crossPairs_addrs_count (sizes : List Nat) (p q : Nat × Nat)
    (hp : p ∈ (addrs sizes).flatten) (hq : q ∈ (addrs sizes).flatten) :
    (crossPairs (addrs sizes)).count (p, q) + (crossPairs (addrs sizes)).count (q, p) = if p.1 = q.1 then 0 else 1 := by
  have hnd := nodup_crossPairs (nodup_addrs sizes)
  -- a pair of addresses is produced iff the first group index is smaller
  have key : ∀ p q : Nat × Nat, p ∈ (addrs sizes).flatten → q ∈ (addrs sizes).flatten →
      ((p, q) ∈ crossPairs (addrs sizes) ↔ p.1 < q.1) := by
    intro p q hp hq
    obtain ⟨n, hn, hpn⟩ := mem_addrs_flatten.mp hp
    obtain ⟨m, hm, hqm⟩ := mem_addrs_flatten.mp hq
    rw [mem_crossPairs]
    constructor
    · rintro ⟨i, j, hij, g, h, hg, hh, ha, hb⟩
      obtain ⟨_, -, rfl⟩ := addrs_getElem?_eq_some hg
      obtain ⟨_, -, rfl⟩ := addrs_getElem?_eq_some hh
      obtain ⟨_, -, rfl⟩ := List.mem_map.mp ha
      obtain ⟨_, -, rfl⟩ := List.mem_map.mp hb
      exact hij
    · intro hlt
      refine ⟨p.1, q.1, hlt, (List.range n).map fun a => (p.1, a), (List.range m).map fun a => (q.1, a), ?_, ?_,
        List.mem_map.mpr ⟨p.2, List.mem_range.mpr hpn, rfl⟩, List.mem_map.mpr ⟨q.2, List.mem_range.mpr hqm, rfl⟩⟩
      · rw [addrs_getElem?, hn]; rfl
      · rw [addrs_getElem?, hm]; rfl
  have c1 := key p q hp hq
  have c2 := key q p hq hp
  rcases Nat.lt_trichotomy p.1 q.1 with h | h | h
  · rw [List.count_eq_one_of_mem hnd (c1.mpr h), List.count_eq_zero_of_not_mem fun hh => Nat.lt_asymm h (c2.mp hh),
      if_neg h.ne]
  · rw [List.count_eq_zero_of_not_mem fun hh => (c1.mp hh).ne h,
      List.count_eq_zero_of_not_mem fun hh => (c2.mp hh).ne h.symm, if_pos h]
  · rw [List.count_eq_zero_of_not_mem fun hh => Nat.lt_asymm h (c1.mp hh), List.count_eq_one_of_mem hnd (c2.mpr h),
      if_neg h.ne']

end JF.Output
