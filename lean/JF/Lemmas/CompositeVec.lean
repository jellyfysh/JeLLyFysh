import JF.Model.Composite
import JF.Lemmas.KinematicsVec
import JF.Lemmas.ModL
import Mathlib.Algebra.BigOperators.Ring.List
import Mathlib.Tactic.Linarith
import Mathlib.Tactic.Ring
import Mathlib.Tactic.FieldSimp
/-!
Lemmas for C12: list vectors in the exact reading (`α = ℚ`), congruence modulo a box length, time-slicing of one unit,
sums over the leaves of a composite object.
-/
namespace JF.Composite
open JF JF.Kin

theorem getD_vscale (v : List ℚ) (w : ℚ) (k : Nat) : (vscale v w).getD k 0 = v.getD k 0 * w := by
  unfold vscale
  rw [List.getD_eq_getElem?_getD, List.getD_eq_getElem?_getD, List.getElem?_map]
  cases v[k]? <;> simp

theorem getD_vneg (v : List ℚ) (k : Nat) : (vneg v).getD k 0 = - v.getD k 0 := by
  unfold vneg
  rw [List.getD_eq_getElem?_getD, List.getD_eq_getElem?_getD, List.getElem?_map]
  cases v[k]? <;> simp

theorem getD_vadd (a b : List ℚ) (h : a.length = b.length) (k : Nat) :
    (vadd a b).getD k 0 = a.getD k 0 + b.getD k 0 := by
  simp only [vadd, List.getD_eq_getElem?_getD, List.getElem?_zipWith]
  by_cases hk : k < a.length
  · rw [List.getElem?_eq_getElem hk, List.getElem?_eq_getElem (h ▸ hk)]; rfl
  · rw [List.getElem?_eq_none (Nat.le_of_not_lt hk), List.getElem?_eq_none (h ▸ Nat.le_of_not_lt hk)]
    exact (add_zero 0).symm

@[simp] theorem length_vscale (v : List ℚ) (w : ℚ) : (vscale v w).length = v.length := by simp [vscale]
@[simp] theorem length_vneg (v : List ℚ) : (vneg v).length = v.length := by simp [vneg]
theorem length_vadd (a b : List ℚ) (h : a.length = b.length) : (vadd a b).length = a.length := by
  simp [vadd, h]

@[simp] theorem scale1_rat (v : List ℚ) : scale1 Ops.rat v = v := by
  simp [scale1, vscale, one, Ops.rat]

@[simp] theorem scaleN_rat : ∀ (k : Nat) (v : List ℚ), scaleN Ops.rat k v = v
  | 0, v => rfl
  | k + 1, v => by simp [scaleN, scaleN_rat k]

@[simp] theorem length_zeros (v : List ℚ) : (zeros Ops.rat v).length = v.length := by simp [zeros]

def NZ (v : List ℚ) : Prop := ∃ k, v.getD k 0 ≠ 0

theorem all_zero_getD (v : List ℚ) (h : v.all (fun c => c == 0) = true) (k : Nat) : v.getD k 0 = 0 := by
  rw [List.getD_eq_getElem?_getD]
  cases hk : v[k]? with
  | none => rfl
  | some x => exact eq_of_beq (List.all_eq_true.mp h x (List.mem_of_getElem? hk))

theorem not_all_zero_NZ (v : List ℚ) (h : v.all (fun c => c == 0) = false) : NZ v := by
  obtain ⟨x, hx, hne⟩ := List.all_eq_false.mp h
  obtain ⟨k, hk⟩ := List.getElem?_of_mem hx
  exact ⟨k, by rw [List.getD_eq_getElem?_getD, hk]; exact fun e => hne (beq_iff_eq.mpr e)⟩

def Cong (l x y : ℚ) : Prop := ∃ z : ℤ, x - y = z * l

theorem Cong.refl (l x : ℚ) : Cong l x x := C15.Congr.refl l x
theorem Cong.of_eq {l x y : ℚ} (h : x = y) : Cong l x y := h ▸ Cong.refl l x
theorem Cong.symm {l x y : ℚ} (h : Cong l x y) : Cong l y x := C15.Congr.symm h
theorem Cong.trans {l x y w : ℚ} (h : Cong l x y) (h' : Cong l y w) : Cong l x w := C15.Congr.trans h h'
theorem Cong.add {l x y x' y' : ℚ} (h : Cong l x y) (h' : Cong l x' y') : Cong l (x + x') (y + y') :=
  C15.Congr.add h h'
theorem Cong.nat_mul {l x y : ℚ} (n : Nat) (h : Cong l x y) : Cong l (n * x) (n * y) := by
  obtain ⟨z, hz⟩ := h; exact ⟨n * z, by rw [Int.cast_mul, Int.cast_natCast, mul_assoc, ← hz, mul_sub]⟩

theorem Cong.sum_map {β : Type} (l : ℚ) (f g : β → ℚ) : ∀ (xs : List β), (∀ x ∈ xs, Cong l (f x) (g x)) →
    Cong l (xs.map f).sum (xs.map g).sum
  | [], _ => by simpa using Cong.refl l 0
  | x :: xs, h => by
    simp only [List.map_cons, List.sum_cons]
    exact Cong.add (h x (by simp)) (Cong.sum_map l f g xs (fun y hy => h y (by simp [hy])))

theorem sum_map_congr {β : Type} (f g : β → ℚ) (xs : List β) (h : ∀ x ∈ xs, f x = g x) :
    (xs.map f).sum = (xs.map g).sum := congrArg List.sum (List.map_congr_left h)

theorem sum_map_modify {β : Type} (f : β → ℚ) (g : β → β) : ∀ (xs : List β) (j : Nat) (x : β), xs[j]? = some x →
    ((xs.modify j g).map f).sum = (xs.map f).sum - f x + f (g x)
  | y :: xs, 0, x, h => by
    obtain rfl : y = x := Option.some.inj h
    rw [List.modify_zero_cons, List.map_cons, List.map_cons, List.sum_cons, List.sum_cons]; ring
  | y :: xs, j + 1, x, h => by
    rw [List.modify_succ_cons, List.map_cons, List.map_cons, List.sum_cons, List.sum_cons,
      sum_map_modify f g xs j x h]; ring

def velOpt (v : Option (List ℚ)) (k : Nat) : ℚ := match v with | some v => v.getD k 0 | none => 0
/-- component `k` of the velocity, `None` read as zero -/
def velAt (u : PUnit ℚ) (k : Nat) : ℚ := velOpt u.vel k
def tval (t : Time ℚ) : ℚ := t.q + t.r
def tsVal (u : PUnit ℚ) : ℚ := match u.ts with | some t => tval t | none => 0
/-- coordinate `k` of the position advanced to time `τ` along the stored velocity from the stored time stamp
(not folded back into the box) -/
def advAt (u : PUnit ℚ) (τ : ℚ) (k : Nat) : ℚ := u.pos.getD k 0 + velAt u k * (τ - tsVal u)

def WFU (d : Nat) (u : PUnit ℚ) : Prop :=
  u.pos.length = d ∧ ∀ v, u.vel = some v → v.length = d ∧ u.ts.isSome

def Sliced (t : Time ℚ) (u : PUnit ℚ) : Prop := u.vel ≠ none → u.ts = some t

theorem advAt_shift (u : PUnit ℚ) (τ τ' : ℚ) (k : Nat) : advAt u τ' k = advAt u τ k + velAt u k * (τ' - τ) := by
  unfold advAt; ring

theorem advAt_sliced {t : Time ℚ} {u : PUnit ℚ} (h : Sliced t u) (k : Nat) : advAt u (tval t) k = u.pos.getD k 0 := by
  unfold advAt
  by_cases hv : u.vel = none
  · simp [velAt, velOpt, hv]
  · simp [tsVal, h hv]

theorem sub_eq_tval (t ts : Time ℚ) : Time.sub t ts = tval t - tval ts := by
  unfold Time.sub tval; ring

theorem length_sliceVec (L P V : List ℚ) (dt : ℚ) (hP : P.length = L.length) (hV : V.length = L.length) :
    (sliceVec Ops.rat L P V dt).length = L.length := sliceVec_length L P V dt hP hV

theorem getD_sliceVec (L P V : List ℚ) (dt : ℚ) (hP : P.length = L.length) (hV : V.length = L.length) (k : Nat)
    (hk : k < L.length) :
    (sliceVec Ops.rat L P V dt).getD k 0 = sliceCoord Ops.rat (L.getD k 0) (P.getD k 0) (V.getD k 0) dt := by
  have hS : k < (sliceVec Ops.rat L P V dt).length := (sliceVec_length L P V dt hP hV).symm ▸ hk
  rw [← List.getElem_eq_getD (h := hS), ← List.getElem_eq_getD (h := hk), ← List.getElem_eq_getD (h := hP ▸ hk),
    ← List.getElem_eq_getD (h := hV ▸ hk), getElem_sliceVec]

theorem sliceCoord_cong (l p v dt : ℚ) (hl : 0 < l) : Cong l (sliceCoord Ops.rat l p v dt) (p + v * dt) :=
  (C15.wrap_congr hl).symm

def BoxOK (d : Nat) (L : List ℚ) : Prop := L.length = d ∧ ∀ l ∈ L, 0 < l

theorem BoxOK.pos {d : Nat} {L : List ℚ} (h : BoxOK d L) {k : Nat} (hk : k < d) : 0 < L.getD k 0 := by
  have hk' : k < L.length := by rw [h.1]; exact hk
  rw [List.getD_eq_getElem?_getD, List.getElem?_eq_getElem hk']
  exact h.2 _ (List.getElem_mem hk')

@[simp] theorem timeSlice_vel (L : List ℚ) (t : Time ℚ) (u : PUnit ℚ) : (timeSlice Ops.rat L t u).vel = u.vel :=
  Kin.timeSlice_vel L t u

/-- `_time_slice_unit` in the exact reading: the velocity stays, a moving unit carries the event time afterwards, and
the trajectory `τ ↦ pos + vel·(τ − time stamp)` is the same modulo the box -/
theorem timeSlice_spec {d : Nat} {L : List ℚ} (hL : BoxOK d L) (t : Time ℚ) {u : PUnit ℚ} (hu : WFU d u) :
    WFU d (timeSlice Ops.rat L t u) ∧ Sliced t (timeSlice Ops.rat L t u) ∧
    ∀ τ k, k < d → Cong (L.getD k 0) (advAt (timeSlice Ops.rat L t u) τ k) (advAt u τ k) := by
  obtain ⟨hp, hv⟩ := hu
  cases hvel : u.vel with
  | none =>
    rw [timeSlice_of_rest L t u hvel]
    exact ⟨⟨hp, hv⟩, fun h => absurd hvel h, fun τ k _ => Cong.refl _ _⟩
  | some v =>
    obtain ⟨hvl, hts⟩ := hv v hvel
    obtain ⟨ts, hts⟩ := Option.isSome_iff_exists.mp hts
    rw [timeSlice_of_moving L t u hvel hts]
    refine ⟨⟨?_, ?_⟩, fun _ => rfl, ?_⟩
    · simp only []
      rw [length_sliceVec L u.pos v _ (by rw [hp, hL.1]) (by rw [hvl, hL.1]), hL.1]
    · intro v' hv'
      simp only [Option.some.injEq] at hv'
      subst hv'
      exact ⟨hvl, rfl⟩
    · intro τ k hk
      unfold advAt velAt velOpt tsVal
      simp only [hvel, hts]
      rw [getD_sliceVec L u.pos v _ (by rw [hp, hL.1]) (by rw [hvl, hL.1]) k (by rw [hL.1]; exact hk)]
      obtain ⟨z, hz⟩ := sliceCoord_cong (L.getD k 0) (u.pos.getD k 0) (v.getD k 0) (Time.sub t ts) (hL.pos hk)
      refine ⟨z, ?_⟩
      rw [sub_eq_tval] at hz ⊢
      linarith

end JF.Composite
