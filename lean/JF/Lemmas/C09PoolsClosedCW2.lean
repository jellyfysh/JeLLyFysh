import JF.Props.SystemInv2
import JF.Lemmas.C09PoolsCfg
import JF.Lemmas.C09PoolsClosedAct
/-!
C09, last clause (no `TagActivatorError`), composite objects without cells (`JF.CW2`, `JF.Sys2`) — the pieces of `demand_le_pool_closed2`:

* `Fits2`: how a generated `PoolCfg` describes the environment / state of a run of this world;
* `selSound`: the decidable link between the generated `sel` (which one-chain states a factor tagger is asked on: from the handler
  class) and the MODE READ OFF THE ACTIVATION FLAGS (`ModeWiring.mode`): in every reachable activation state, an ACTIVATED tagger with
  `sel = 0` sees leaf mode and one with `sel = 1` sees root mode;
* `modeOK_of_chain`, `yield2_le_demandBound`: on a one-chain state of mode `m`, a tagger whose `sel` is compatible with `m` yields at
  most `demandBound` in-states.
-/
namespace JF.C09Pools
open JF JF.Act JF.CW2 JF.Composite JF.C12

/-- the generated numbers describe this environment: composite objects with `nPer ≠ 1` point masses, `nRoots` of them, the factor
maps of the configuration's factor file, the factor types of its taggers -/
structure Fits2 (pc : PoolCfg) (env : CW2.Env ℚ) (cs : List (CObj ℚ)) : Prop where
  nPer : pc.nPer = env.nPer
  nPer1 : env.nPer ≠ 1
  nRoots : cs.length = pc.nRoots
  fs : pc.fs = env.fs
  ftype : ∀ T, pc.ftypeOf T = env.ftype T

/-- **the activation-aware link**: in every reachable activation state, every activated tagger that is only asked in leaf mode
(`sel = 0`) is activated in a leaf-mode state, every one only asked in root mode (`sel = 1`) in a root-mode state -/
def selSound (mw : ModeWiring) (pc : PoolCfg) (S : TaggerIdx) : Bool :=
  (reach mw.w S).all fun σ => (List.range mw.w.n).all fun T =>
    !(aGet σ T) || ((pc.selOf T != 0 || mw.mode σ == .leaf) && (pc.selOf T != 1 || mw.mode σ == .root))

theorem selSound_spec {mw : ModeWiring} {pc : PoolCfg} {S : TaggerIdx} (h : selSound mw pc S = true) {σ : AState}
    (hσ : σ ∈ reach mw.w S) {T : TaggerIdx} (hT : T < mw.w.n) (ha : aGet σ T = true) :
    (pc.selOf T = 0 → mw.mode σ = .leaf) ∧ (pc.selOf T = 1 → mw.mode σ = .root) := by
  have := List.all_eq_true.mp (List.all_eq_true.mp h σ hσ) T (List.mem_range.mpr hT)
  simp only [ha, Bool.not_true, Bool.false_or, Bool.and_eq_true, Bool.or_eq_true, bne_iff_ne, ne_eq, beq_iff_eq] at this
  exact ⟨fun h0 => this.1.resolve_left (fun hn => hn h0), fun h1 => this.2.resolve_left (fun hn => hn h1)⟩

/-- stated for a variable state: with the state written out as a pair, `rfl` unfolds `yieldCls` before it sees that the two agree -/
theorem world2_yieldOf (env : CW2.Env ℚ) (mw : ModeWiring) (T : TaggerIdx) (g : CW2.G env) :
    (world2 env mw).yieldOf T g = CW2.yieldCls env T (mw.w.tagger T).cls g.1.cs := rfl

theorem flags_unif {nPer : Nat} {cs : List (CObj ℚ)} (hu : Uniform nPer cs) : ∀ f ∈ flags cs, f.2.length = nPer := by
  intro f hf
  obtain ⟨c, hc, rfl⟩ := List.mem_map.mp hf
  simp only [flagOf, List.length_map]
  exact hu c hc

theorem modeOK_of_chain {d : Nat} {L : List ℚ} {nPer : Nat} {cs : List (CObj ℚ)} (hg : AllGood d L cs) (hu : Uniform nPer cs)
    (hn : nPer ≠ 1) {sq : ℚ} {m : Composite.Mode} (hc : OneChainM cs sq m) (sel : Sel)
    (hs : (sel = 0 → m = .leaf) ∧ (sel = 1 → m = .root)) : ModeOK sel nPer (flags cs) := by
  intro x hx
  cases m with
  | leaf =>
    obtain ⟨i, j, v, _, hM⟩ := hc
    rw [independent_leaf hg hu hM] at hx
    simp only [hn, if_false, List.mem_singleton] at hx
    subst hx
    exact ⟨fun _ => rfl, fun h1 => (by have := hs.2 h1; cases this)⟩
  | root =>
    obtain ⟨i, v, _, hM⟩ := hc
    rw [independent_root hg hu hM] at hx
    simp only [List.mem_singleton] at hx
    subst hx
    exact ⟨fun h0 => (by have := hs.1 h0; cases this), fun _ => rfl⟩

/-- **on a one-chain state of mode `m`, a tagger of this world whose `sel` is compatible with `m` yields at most `demandBound`
in-states** -/
theorem yield2_le_demandBound (pc : PoolCfg) (env : CW2.Env ℚ) (cs : List (CObj ℚ)) (fit : Fits2 pc env cs)
    (hg : AllGood env.d env.L cs) (hu : Uniform env.nPer cs) {sq : ℚ} {m : Composite.Mode} (hc : OneChainM cs sq m)
    (T : TaggerIdx) (hcls : CW2.clsOK (pc.w.tagger T).cls = true)
    (hs : (pc.selOf T = 0 → m = .leaf) ∧ (pc.selOf T = 1 → m = .root)) :
    (CW2.yieldCls env T (pc.w.tagger T).cls cs).length ≤ demandBound pc T := by
  have h1 : (independent env.nPer (flags cs)).length = 1 := independent_length_chain hg hu hc
  unfold demandBound
  cases hk : (pc.w.tagger T).cls with
  | noInState | activeGlobalState => simp [CW2.yieldCls, CW2.yieldF]
  | activeRootUnit =>
    show (CW2.yieldF ℚ env T .activeRootUnit (flags cs)).length ≤ 1
    rw [cw2_activeRootUnit, h1]
  | factorTypeMap =>
    have hne : (pc.nPer == 1) = false := by rw [fit.nPer]; simpa using fit.nPer1
    simp only [hne, Bool.false_eq_true, if_false]
    have := cw2_demand_le_max env T .factorTypeMap (pc.selOf T) (flags cs) (flags_unif hu) (Nat.le_of_eq h1)
      (modeOK_of_chain hg hu fit.nPer1 hc _ hs)
    have hl : (flags cs).length = pc.nRoots := by rw [← fit.nRoots]; simp [flags]
    rw [hl, ← fit.nPer, ← fit.fs, ← fit.ftype T] at this
    exact this
  | _ => rw [hk] at hcls; cases hcls

end JF.C09Pools
