import JF.Lemmas.RoundedInstances
import Mathlib.Data.Int.Log
import Mathlib.Tactic.Positivity
import Mathlib.Tactic.FieldSimp
import Mathlib.Algebra.Order.Field.Power
/-!
# IEEE-754 binary64 round-to-nearest-even IS a `FloatModel`

The hypotheses of `JF/Num/Rounded.lean` are not only satisfiable (see `RoundedInstances.lean`), they hold for
the floating-point format the code base runs on.  Construction, each step proved (nothing assumed):

1. `IntRound`            : a rounding `ℚ → ℤ` (monotone, identity on integers, odd, error ≤ δ);
                           `rne` = round to nearest, ties to even (δ = 1/2).
2. `FloatModel.binary`   : numbers `m · 2^e` with `|m| < 2^p`, `e ≥ emin` (gradual underflow, no largest exponent);
                           `brnd x = ir.r (x / 2^ex) · 2^ex` with `ex = max (⌊log2 |x|⌋ - (p-1)) emin`, the exponent
                           of the last place of the binade of `x`.  Proved: idempotent, monotone (also ACROSS
                           binades), odd, relative error `δ · 2^(1-p)` from `tiny = 2^(emin+p-1)` upwards, sums
                           below `tiny` exact, integers up to `2^p`, `floor` and fractional part representable.
3. `FloatModel.clamp`    : saturation at a largest representable number `B` (keeps all fields; nothing in the
                           rounding-abstract theorems ever rounds above `huge ≤ B`).
4. `FloatModel.binary64` : `p = 53`, `emin = -1074`, `B = (2^53 - 1)·2^971`, `rne`:  `eps = 2^-53`, `tiny = 2^-1022`,
                           `huge = 2^1023`; `F` is exactly the set of finite doubles (signed zeros identified).

What this is and is not: `brnd rne 53 (-1074)` is the MATHEMATICAL definition of IEEE-754 `roundTiesToEven` for
binary64 (significand scaled to an integer in `[2^52, 2^53)`, or to a multiple of `2^-1074`, then rounded to the
nearest integer, ties to even), written in Lean over `ℚ`.  It differs from the standard only above `maxDouble`
(saturation instead of overflow to `±∞`).  That the HARDWARE / CPython implement this function is not a
theorem of Lean (Lean's `Float` is opaque to the kernel); that link is the bit-exact differential test run by
`./check C14`.
-/
namespace JF

/-- binary logarithm of the magnitude, rounded down -/
def lg (x : ℚ) : ℤ := Int.log 2 |x|

theorem abs_lt_lg (x : ℚ) : |x| < (2:ℚ) ^ (lg x + 1) := by
  have := Int.lt_zpow_succ_log_self (b := 2) (by norm_num) |x|
  simpa [lg] using this

theorem lg_le_abs {x : ℚ} (hx : x ≠ 0) : (2:ℚ) ^ lg x ≤ |x| := by
  have := Int.zpow_log_le_self (b := 2) (r := |x|) (by norm_num) (abs_pos.mpr hx)
  simpa [lg] using this

theorem lg_lt_of_abs_lt {x : ℚ} (hx : x ≠ 0) {k : ℤ} (h : |x| < (2:ℚ) ^ k) : lg x < k := by
  have := (Int.lt_zpow_iff_log_lt (b := 2) (by norm_num) (x := k) (r := |x|) (abs_pos.mpr hx)).mp
    (by simpa using h)
  simpa [lg] using this

theorem le_lg_of_le_abs {x : ℚ} (hx : x ≠ 0) {k : ℤ} (h : (2:ℚ) ^ k ≤ |x|) : k ≤ lg x := by
  have := (Int.zpow_le_iff_le_log (b := 2) (by norm_num) (x := k) (r := |x|) (abs_pos.mpr hx)).mp
    (by simpa using h)
  simpa [lg] using this

/-- a rounding of rationals to integers (round to nearest even, toward zero, …) -/
structure IntRound where
  r : ℚ → ℤ
  /-- maximal absolute error: 1/2 for roundings to nearest, 1 for directed ones -/
  δ : ℚ
  mono : ∀ {a b : ℚ}, a ≤ b → r a ≤ r b
  id_int : ∀ n : ℤ, r n = n
  neg : ∀ y, r (-y) = -r y
  err : ∀ y, |(r y : ℚ) - y| ≤ δ
  δ_le : δ ≤ 1

namespace IntRound
variable (ir : IntRound)
theorem δ_nonneg : 0 ≤ ir.δ := le_trans (abs_nonneg _) (ir.err 0)
theorem r_le {y : ℚ} {N : ℤ} (h : y ≤ N) : ir.r y ≤ N := ir.id_int N ▸ ir.mono h
theorem le_r {y : ℚ} {N : ℤ} (h : (N : ℚ) ≤ y) : N ≤ ir.r y := ir.id_int N ▸ ir.mono h
end IntRound

/-! ### binary floating point with `p` significant bits and smallest exponent `emin`
(numbers `m · 2^e`, `|m| < 2^p`, `e ≥ emin`; gradual underflow; no largest exponent) -/
section binary
variable (ir : IntRound) (p : ℕ) (emin : ℤ)

/-- exponent of the unit in the last place of the binade of `x` -/
def ex (x : ℚ) : ℤ := max (lg x - ((p:ℤ) - 1)) emin

/-- round `x` to `p` significant bits (or to a multiple of `2^emin`) -/
def brnd (x : ℚ) : ℚ := (ir.r (x / 2 ^ ex p emin x) : ℚ) * 2 ^ ex p emin x

/-- the representable numbers -/
def BF : Set ℚ := {x | ∃ m e : ℤ, emin ≤ e ∧ |m| < 2 ^ p ∧ x = (m:ℚ) * 2 ^ e}

variable {p emin}

theorem emin_le_ex (x : ℚ) : emin ≤ ex p emin x := le_max_right _ _
theorem lg_le_ex (x : ℚ) : lg x - ((p:ℤ) - 1) ≤ ex p emin x := le_max_left _ _
theorem ex_neg (x : ℚ) : ex p emin (-x) = ex p emin x := by simp [ex, lg]

theorem two_zpow_pos (e : ℤ) : (0:ℚ) < 2 ^ e := zpow_pos (by norm_num) e

theorem zpow_eq_int_mul {a k : ℤ} (h : a ≤ k) : (2:ℚ) ^ k = ((2 ^ (k - a).toNat : ℤ) : ℚ) * 2 ^ a := by
  have e : k = (k - a).toNat + a := by rw [Int.toNat_of_nonneg (sub_nonneg.mpr h), sub_add_cancel]
  conv_lhs => rw [e]
  rw [zpow_add₀ (by norm_num), zpow_natCast]; push_cast; rfl

theorem abs_intCast_lt {m : ℤ} (hm : |m| < 2 ^ p) : |(m : ℚ)| < 2 ^ p := by exact_mod_cast hm

/-- `|m| ≤ 2^p` is enough: `±2^p · 2^e = ±2^(p-1) · 2^(e+1)` -/
theorem BF_of_le (hp : 1 ≤ p) {m e : ℤ} (he : emin ≤ e) (hm : |m| ≤ 2 ^ p) : (m:ℚ) * 2 ^ e ∈ BF p emin := by
  rcases lt_or_eq_of_le hm with h | h
  · exact ⟨m, e, he, h, rfl⟩
  · obtain ⟨k, rfl⟩ : ∃ k, p = k + 1 := ⟨p - 1, (Nat.sub_add_cancel hp).symm⟩
    have h2 : (2:ℚ) ^ (e + 1) = 2 ^ e * 2 := by rw [zpow_add₀ (by norm_num)]; simp
    have hk : |(2:ℤ) ^ k| < 2 ^ (k + 1) := by
      rw [abs_of_pos (by positivity), pow_succ]; have : (0:ℤ) < 2 ^ k := by positivity
      linarith
    rcases abs_eq (by positivity : (0:ℤ) ≤ 2 ^ (k + 1)) |>.mp h with h' | h'
    · refine ⟨2 ^ k, e + 1, Int.le_add_one he, hk, ?_⟩
      rw [h', h2]; push_cast; ring
    · refine ⟨-2 ^ k, e + 1, Int.le_add_one he, by rwa [abs_neg], ?_⟩
      rw [h', h2]; push_cast; ring

theorem abs_scaled_lt (x : ℚ) : |x / 2 ^ ex p emin x| < 2 ^ p := by
  have h1 := abs_lt_lg x
  have h2 : lg x + 1 ≤ ex p emin x + p := by have := lg_le_ex (p := p) (emin := emin) x; omega
  have h3 : (2:ℚ) ^ (lg x + 1) ≤ 2 ^ (ex p emin x + p) := zpow_le_zpow_right₀ (by norm_num) h2
  rw [abs_div, abs_of_pos (two_zpow_pos _), div_lt_iff₀ (two_zpow_pos _)]
  calc |x| < 2 ^ (lg x + 1) := h1
    _ ≤ 2 ^ (ex p emin x + p) := h3
    _ = 2 ^ p * 2 ^ ex p emin x := by rw [zpow_add₀ (by norm_num), zpow_natCast]; ring

theorem brnd_mem (hp : 1 ≤ p) (x : ℚ) : brnd ir p emin x ∈ BF p emin := by
  apply BF_of_le hp (emin_le_ex x)
  have h := abs_lt.mp (abs_scaled_lt (p := p) (emin := emin) x)
  exact abs_le.mpr ⟨ir.le_r (by push_cast; exact h.1.le), ir.r_le (by push_cast; exact h.2.le)⟩

theorem scaled_int {x : ℚ} (hx : x ∈ BF p emin) : ∃ k : ℤ, x / 2 ^ ex p emin x = k := by
  obtain ⟨m, e, he, hm, rfl⟩ := hx
  by_cases h0 : (m:ℚ) * 2 ^ e = 0
  · exact ⟨0, by rw [h0]; simp⟩
  · have hlt : |(m:ℚ) * 2 ^ e| < (2:ℚ) ^ ((p:ℤ) + e) := by
      rw [abs_mul, abs_of_pos (two_zpow_pos e), zpow_add₀ (by norm_num), zpow_natCast]
      exact mul_lt_mul_of_pos_right (abs_intCast_lt hm) (two_zpow_pos e)
    have hl := lg_lt_of_abs_lt h0 hlt
    have hex : ex p emin ((m:ℚ) * 2 ^ e) ≤ e := max_le (by omega) he
    refine ⟨m * 2 ^ (e - ex p emin ((m:ℚ) * 2 ^ e)).toNat, ?_⟩
    rw [div_eq_iff (two_zpow_pos _).ne']
    conv_lhs => rw [zpow_eq_int_mul hex]
    push_cast; ring

theorem brnd_id {x : ℚ} (hx : x ∈ BF p emin) : brnd ir p emin x = x := by
  obtain ⟨k, hk⟩ := scaled_int hx
  unfold brnd
  rw [hk, ir.id_int, ← hk, div_mul_cancel₀ _ (two_zpow_pos _).ne']

theorem brnd_neg (x : ℚ) : brnd ir p emin (-x) = -brnd ir p emin x := by
  unfold brnd
  rw [ex_neg, neg_div, ir.neg]; push_cast; ring

theorem brnd_nonneg {x : ℚ} (h : 0 ≤ x) : 0 ≤ brnd ir p emin x :=
  mul_nonneg (Int.cast_nonneg (ir.le_r (by rw [Int.cast_zero]; exact div_nonneg h (two_zpow_pos _).le)))
    (two_zpow_pos _).le

theorem brnd_le_grid {x : ℚ} {N : ℤ} (h : x ≤ N * 2 ^ ex p emin x) : brnd ir p emin x ≤ N * 2 ^ ex p emin x :=
  mul_le_mul_of_nonneg_right (by exact_mod_cast ir.r_le ((div_le_iff₀ (two_zpow_pos _)).mpr h)) (two_zpow_pos _).le

theorem grid_le_brnd {x : ℚ} {N : ℤ} (h : N * 2 ^ ex p emin x ≤ x) : N * 2 ^ ex p emin x ≤ brnd ir p emin x :=
  mul_le_mul_of_nonneg_right (by exact_mod_cast ir.le_r ((le_div_iff₀ (two_zpow_pos _)).mpr h)) (two_zpow_pos _).le

theorem brnd_le_zpow {x : ℚ} {k : ℤ} (hk : ex p emin x ≤ k) (h : x ≤ 2 ^ k) : brnd ir p emin x ≤ 2 ^ k := by
  rw [zpow_eq_int_mul hk] at h ⊢; exact brnd_le_grid ir h

theorem zpow_le_brnd {x : ℚ} {k : ℤ} (hk : ex p emin x ≤ k) (h : 2 ^ k ≤ x) : 2 ^ k ≤ brnd ir p emin x := by
  rw [zpow_eq_int_mul hk] at h ⊢; exact grid_le_brnd ir h

theorem brnd_mono_pos (hp : 1 ≤ p) {x y : ℚ} (hx : 0 < x) (hxy : x ≤ y) :
    brnd ir p emin x ≤ brnd ir p emin y := by
  have hy : 0 < y := lt_of_lt_of_le hx hxy
  have hl : lg x ≤ lg y := Int.log_mono_right (abs_pos.mpr hx.ne') (by rwa [abs_of_pos hx, abs_of_pos hy])
  have he : ex p emin x ≤ ex p emin y := max_le_max (by omega) (le_refl _)
  rcases lt_or_eq_of_le he with h | h
  · -- different binades: the power of two between them separates the results
    have hk : lg x + 1 ≤ lg y ∧ ex p emin x ≤ lg y ∧ ex p emin y ≤ lg y := by unfold ex at h ⊢; omega
    have hB : x ≤ (2:ℚ) ^ lg y := by
      have := abs_lt_lg x
      rw [abs_of_pos hx] at this
      exact le_trans this.le (zpow_le_zpow_right₀ (by norm_num) hk.1)
    have hB' : (2:ℚ) ^ lg y ≤ y := by have := lg_le_abs hy.ne'; rwa [abs_of_pos hy] at this
    exact le_trans (brnd_le_zpow ir hk.2.1 hB) (zpow_le_brnd ir hk.2.2 hB')
  · unfold brnd
    rw [h]
    apply mul_le_mul_of_nonneg_right _ (two_zpow_pos _).le
    have : x / 2 ^ ex p emin y ≤ y / 2 ^ ex p emin y := div_le_div_of_nonneg_right hxy (two_zpow_pos _).le
    exact_mod_cast ir.mono this

theorem brnd_mono (hp : 1 ≤ p) : Monotone (brnd ir p emin) :=
  monotone_of_odd (brnd_neg ir) (fun _ => brnd_nonneg ir) fun _ _ => brnd_mono_pos ir hp

theorem brnd_abs_err (x : ℚ) : |brnd ir p emin x - x| ≤ ir.δ * 2 ^ ex p emin x := by
  have hpos := two_zpow_pos (ex p emin x)
  have e : brnd ir p emin x - x = ((ir.r (x / 2 ^ ex p emin x) : ℚ) - x / 2 ^ ex p emin x) * 2 ^ ex p emin x := by
    unfold brnd; rw [sub_mul, div_mul_cancel₀ _ hpos.ne']
  rw [e, abs_mul, abs_of_pos hpos]
  exact mul_le_mul_of_nonneg_right (ir.err _) hpos.le

theorem brnd_rel_err (hp : 1 ≤ p) {x : ℚ} (h : (2:ℚ) ^ (emin + p - 1) ≤ |x|) :
    |brnd ir p emin x - x| ≤ ir.δ / 2 ^ (p - 1) * |x| := by
  have hx : x ≠ 0 := fun h0 => absurd (two_zpow_pos _) (not_lt.mpr (by rwa [h0, abs_zero] at h))
  have hl := le_lg_of_le_abs hx h
  -- in the normal range the unit in the last place is `2^(lg x - (p-1)) ≤ |x| / 2^(p-1)`
  have hE : (2:ℚ) ^ ex p emin x = 2 ^ lg x / 2 ^ (p - 1) := by
    rw [show ex p emin x = lg x - ((p - 1 : ℕ) : ℤ) from max_eq_left (by omega) |>.trans (by omega),
      zpow_sub₀ (by norm_num), zpow_natCast]
  calc |brnd ir p emin x - x| ≤ ir.δ * 2 ^ ex p emin x := brnd_abs_err ir x
    _ ≤ ir.δ * (|x| / 2 ^ (p - 1)) := by
        rw [hE]; exact mul_le_mul_of_nonneg_left (div_le_div_of_nonneg_right (lg_le_abs hx) (by positivity)) ir.δ_nonneg
    _ = ir.δ / 2 ^ (p - 1) * |x| := by ring

theorem BF_multiple {x : ℚ} (hx : x ∈ BF p emin) : ∃ K : ℤ, x = (K:ℚ) * 2 ^ emin := by
  obtain ⟨m, e, he, _, rfl⟩ := hx
  exact ⟨m * 2 ^ (e - emin).toNat, by rw [zpow_eq_int_mul he]; push_cast; ring⟩

theorem BF_add_tiny {a b : ℚ} (ha : a ∈ BF p emin) (hb : b ∈ BF p emin)
    (h : |a + b| < (2:ℚ) ^ (emin + p - 1)) : a + b ∈ BF p emin := by
  obtain ⟨A, rfl⟩ := BF_multiple ha
  obtain ⟨B, rfl⟩ := BF_multiple hb
  refine ⟨A + B, emin, le_refl _, ?_, by push_cast; ring⟩
  have e : (A:ℚ) * 2 ^ emin + B * 2 ^ emin = ((A + B : ℤ) : ℚ) * 2 ^ emin := by push_cast; ring
  rw [e, abs_mul, abs_of_pos (two_zpow_pos _)] at h
  have h3 : (2:ℚ) ^ (emin + p - 1) ≤ 2 ^ p * 2 ^ emin := by
    rw [← zpow_natCast, ← zpow_add₀ (by norm_num)]
    exact zpow_le_zpow_right₀ (by norm_num) (by omega)
  have h4 : |((A + B : ℤ) : ℚ)| < 2 ^ p := lt_of_mul_lt_mul_right (lt_of_lt_of_le h h3) (two_zpow_pos emin).le
  rw [← Int.cast_abs] at h4
  exact_mod_cast h4

theorem BF_int (hp : 1 ≤ p) (he : emin ≤ 0) {n : ℤ} (h : |n| ≤ 2 ^ p) : (n:ℚ) ∈ BF p emin := by
  have := BF_of_le (emin := emin) hp (m := n) (e := 0) he h
  simpa using this

theorem BF_cases {x : ℚ} (hx : x ∈ BF p emin) :
    (∃ k : ℤ, x = k) ∨ ∃ m e : ℤ, emin ≤ e ∧ e < 0 ∧ |m| < 2 ^ p ∧ x = (m:ℚ) * 2 ^ e := by
  obtain ⟨m, e, he, hm, rfl⟩ := hx
  rcases le_or_gt 0 e with h | h
  · exact .inl ⟨m * 2 ^ (e - 0).toNat, by rw [zpow_eq_int_mul h]; push_cast; ring⟩
  · exact .inr ⟨m, e, he, h, hm, rfl⟩

theorem BF_floor (hp : 1 ≤ p) (he : emin ≤ 0) {x : ℚ} (hx : x ∈ BF p emin) (h0 : 0 ≤ x) :
    ((⌊x⌋ : ℤ) : ℚ) ∈ BF p emin := by
  rcases BF_cases hx with ⟨k, rfl⟩ | ⟨m, e, -, h, hm, rfl⟩
  · rwa [Int.floor_intCast]
  · -- `x < 2^p`, so its floor is an integer below `2^p`
    apply BF_int hp he
    have h1 : (2:ℚ) ^ e ≤ 1 := zpow_le_one_of_nonpos₀ (by norm_num) h.le
    have hx1 : (m:ℚ) * 2 ^ e < 2 ^ p :=
      calc (m:ℚ) * 2 ^ e ≤ |(m:ℚ)| * 2 ^ e := mul_le_mul_of_nonneg_right (le_abs_self _) (two_zpow_pos _).le
        _ ≤ |(m:ℚ)| * 1 := mul_le_mul_of_nonneg_left h1 (abs_nonneg _)
        _ < 2 ^ p := by rw [mul_one]; exact abs_intCast_lt hm
    rw [abs_of_nonneg (Int.floor_nonneg.mpr h0)]
    have : ((⌊(m:ℚ) * 2 ^ e⌋ : ℤ) : ℚ) ≤ ((2 ^ p : ℤ) : ℚ) := by
      push_cast; exact (Int.floor_le _).trans hx1.le
    exact_mod_cast this

theorem BF_fract (he : emin ≤ 0) {x : ℚ} (hx : x ∈ BF p emin) (h0 : 0 ≤ x) :
    x - ((⌊x⌋ : ℤ) : ℚ) ∈ BF p emin := by
  rcases BF_cases hx with ⟨k, rfl⟩ | ⟨m, e, hee, h, hm, hxe⟩
  · rw [Int.floor_intCast, sub_self]; exact ⟨0, 0, he, by positivity, by simp⟩
  · -- the integer part is a multiple of `2^e` as well: `x - ⌊x⌋ = (m - ⌊x⌋·2^(-e)) · 2^e`, with `0 ≤ m - ⌊x⌋·2^(-e) ≤ m`
    have hpos := two_zpow_pos e
    have e1 : ((2 ^ (0 - e).toNat : ℤ) : ℚ) * 2 ^ e = 1 := by rw [← zpow_eq_int_mul h.le, zpow_zero]
    have hK : x - ((⌊x⌋ : ℤ) : ℚ) = ((m - ⌊x⌋ * 2 ^ (0 - e).toNat : ℤ) : ℚ) * 2 ^ e := by
      rw [Int.cast_sub, Int.cast_mul, sub_mul, ← hxe, mul_assoc, e1, mul_one]
    have hK0 : 0 ≤ m - ⌊x⌋ * 2 ^ (0 - e).toNat := by
      have hfr0 : 0 ≤ x - ((⌊x⌋ : ℤ) : ℚ) := sub_nonneg.mpr (Int.floor_le x)
      rw [hK] at hfr0
      exact_mod_cast nonneg_of_mul_nonneg_left hfr0 hpos
    refine ⟨m - ⌊x⌋ * 2 ^ (0 - e).toNat, e, hee, ?_, hK⟩
    rw [abs_of_nonneg hK0]
    have : 0 ≤ ⌊x⌋ * 2 ^ (0 - e).toNat := mul_nonneg (Int.floor_nonneg.mpr h0) (by positivity)
    have : m ≤ |m| := le_abs_self m
    omega

end binary

/-- Binary floating point, `p ≥ 53` significant bits, gradual underflow at `2^emin`, unbounded exponent range
upwards, rounding by `ir`, is a `FloatModel`. -/
def FloatModel.binary (ir : IntRound) (p : ℕ) (emin : ℤ) (hp : 53 ≤ p) (he : emin ≤ 0) : FloatModel where
  rnd := brnd ir p emin
  F := BF p emin
  eps := ir.δ / 2 ^ (p - 1)
  tiny := 2 ^ (emin + p - 1)
  huge := 2 ^ 1023
  rnd_mem := brnd_mem ir (by omega)
  rnd_id := fun _ hx => brnd_id ir hx
  rnd_mono := brnd_mono ir (by omega)
  rnd_neg := brnd_neg ir
  eps_nonneg := div_nonneg ir.δ_nonneg (by positivity)
  eps_le_half := by
    have h2 : (2:ℚ) ^ 1 ≤ 2 ^ (p - 1) := pow_le_pow_right₀ (by norm_num) (by omega)
    rw [div_le_div_iff₀ (by positivity) (by norm_num)]
    have := ir.δ_le; have := ir.δ_nonneg
    nlinarith
  huge_ge := pow_le_pow_right₀ (by norm_num) (by norm_num)
  rel_err := fun _ h _ => brnd_rel_err ir (by omega) h
  add_tiny := fun _ _ ha hb h => BF_add_tiny ha hb h
  int_mem := fun n h => by
    apply BF_int (by omega) he
    have h1 : ((|n| : ℤ) : ℚ) ≤ ((2 ^ 53 : ℤ) : ℚ) := by push_cast; exact h
    have h2 : |n| ≤ 2 ^ 53 := by exact_mod_cast h1
    exact le_trans h2 (pow_le_pow_right₀ (by norm_num) hp)
  floor_mem := fun _ hx h0 => BF_floor (by omega) he hx h0
  fract_mem := fun _ hx h0 => BF_fract he hx h0


def rneInt (y : ℚ) : ℤ :=
  if y - ⌊y⌋ < 1 / 2 then ⌊y⌋
  else if 1 / 2 < y - ⌊y⌋ then ⌊y⌋ + 1
  else if ⌊y⌋ % 2 = 0 then ⌊y⌋ else ⌊y⌋ + 1

theorem abs_floor_sub (y : ℚ) : |(⌊y⌋ : ℚ) - y| = y - ⌊y⌋ := by
  rw [abs_sub_comm, abs_of_nonneg (sub_nonneg.mpr (Int.floor_le y))]

theorem abs_floor_succ_sub (y : ℚ) : |((⌊y⌋ + 1 : ℤ) : ℚ) - y| = 1 / 2 - (y - ⌊y⌋ - 1 / 2) := by
  rw [abs_of_nonneg (sub_nonneg.mpr (by exact_mod_cast (Int.lt_floor_add_one y).le))]
  push_cast; ring

/-- what `rneInt` is: an integer within `1/2` of `y`, and even if exactly `1/2` away.  Sign symmetry, monotonicity
and the identity on integers all follow from this and `nearest_even_unique`, without looking at the definition. -/
theorem rneInt_spec (y : ℚ) :
    |(rneInt y : ℚ) - y| ≤ 1 / 2 ∧ (|(rneInt y : ℚ) - y| = 1 / 2 → rneInt y % 2 = 0) := by
  unfold rneInt
  split_ifs with ha hb hc
  · rw [abs_floor_sub]
    exact ⟨ha.le, fun h => absurd h ha.ne⟩
  · rw [abs_floor_succ_sub]
    exact ⟨sub_le_self _ (sub_nonneg.mpr hb.le), fun h => absurd (sub_eq_zero.mp (sub_eq_self.mp h)) hb.ne'⟩
  · rw [abs_floor_sub]
    exact ⟨not_lt.mp hb, fun _ => hc⟩
  · rw [abs_floor_succ_sub]
    exact ⟨sub_le_self _ (sub_nonneg.mpr (not_lt.mp ha)), fun _ => by omega⟩

/-- Two different integers within `1/2` of `y` are one apart and both exactly `1/2` away, so not both even. -/
theorem nearest_even_unique {y : ℚ} {n m : ℤ} (hn : |(n : ℚ) - y| ≤ 1 / 2) (hm : |(m : ℚ) - y| ≤ 1 / 2)
    (en : |(n : ℚ) - y| = 1 / 2 → n % 2 = 0) (em : |(m : ℚ) - y| = 1 / 2 → m % 2 = 0) : n = m := by
  by_contra hne
  have h1 : |(n : ℚ) - m| ≤ |(n : ℚ) - y| + |(m : ℚ) - y| := by
    rw [abs_sub_comm (m : ℚ) y]; exact abs_sub_le _ _ _
  have h2 : (1 : ℚ) ≤ |(n : ℚ) - m| := by exact_mod_cast Int.one_le_abs (sub_ne_zero.mpr hne)
  have hn' := en (le_antisymm hn (by linarith only [h1, h2, hm]))
  have hm' := em (le_antisymm hm (by linarith only [h1, h2, hn]))
  have h3 : |n - m| ≤ 1 := by exact_mod_cast (show |(n : ℚ) - m| ≤ 1 by linarith only [h1, hn, hm])
  rw [abs_le] at h3
  omega

theorem rneInt_err (y : ℚ) : |(rneInt y : ℚ) - y| ≤ 1 / 2 := (rneInt_spec y).1

theorem rneInt_eq {y : ℚ} {n : ℤ} (h : |(n : ℚ) - y| ≤ 1 / 2) (he : |(n : ℚ) - y| = 1 / 2 → n % 2 = 0) :
    rneInt y = n :=
  nearest_even_unique (rneInt_err y) h (rneInt_spec y).2 he

theorem rneInt_int (n : ℤ) : rneInt n = n := rneInt_eq (by simp) (by simp)

theorem rneInt_neg (y : ℚ) : rneInt (-y) = -rneInt y := by
  have e : ((-rneInt y : ℤ) : ℚ) - -y = -((rneInt y : ℚ) - y) := by push_cast; ring
  refine rneInt_eq ?_ ?_
  · rw [e, abs_neg]; exact rneInt_err y
  · rw [e, abs_neg, Int.neg_emod_two]; exact (rneInt_spec y).2

theorem rneInt_mono {a b : ℚ} (h : a ≤ b) : rneInt a ≤ rneInt b := by
  rcases h.eq_or_lt with rfl | h
  · exact le_rfl
  · have ha := (abs_le.mp (rneInt_err a)).2
    have hb := (abs_le.mp (rneInt_err b)).1
    have : (rneInt a : ℚ) < rneInt b + 1 := by linarith only [ha, hb, h]
    have : rneInt a < rneInt b + 1 := by exact_mod_cast this
    omega

def rne : IntRound where
  r := rneInt
  δ := 1 / 2
  mono := rneInt_mono
  id_int := rneInt_int
  neg := rneInt_neg
  err := rneInt_err
  δ_le := by norm_num

/-- the value of `brnd rne` at `x`: the nearest multiple `n · 2^e` of the ulp `2^e` of `x`, the even one at a tie -/
theorem brnd_rne_eq {p : ℕ} {emin : ℤ} {x : ℚ} {e n : ℤ} (he : ex p emin x = e) (h : |(n : ℚ) - x / 2 ^ e| ≤ 1 / 2)
    (hev : |(n : ℚ) - x / 2 ^ e| = 1 / 2 → n % 2 = 0) : brnd rne p emin x = n * 2 ^ e := by
  show ((rneInt (x / 2 ^ ex p emin x) : ℤ) : ℚ) * 2 ^ ex p emin x = n * 2 ^ e
  rw [he, rneInt_eq h hev]


/-- Cut the range of a `FloatModel` at a representable bound `B ≥ huge`: numbers beyond `±B` are rounded to
`±B` (saturation).  No theorem of the rounding-abstract reading rounds a number above `huge`, so what happens
there (IEEE: overflow to `±∞`) is immaterial; saturation keeps `rnd` total, monotone and odd. -/
def FloatModel.clamp (fm : FloatModel) (B : ℚ) (hB : B ∈ fm.F) (hh : fm.huge ≤ B) (ht : fm.tiny ≤ B) :
    FloatModel :=
  have hB0 : 0 ≤ B := le_trans (le_trans (by positivity) fm.huge_ge) hh
  have hcl : ∀ y, y ∈ fm.F → max (-B) (min B y) ∈ fm.F ∧ |max (-B) (min B y)| ≤ B := by
    intro y hy
    rcases le_total y (-B) with h | h
    · have : max (-B) (min B y) = -B := by
        rw [min_eq_right (by linarith), max_eq_left h]
      rw [this, abs_neg, abs_of_nonneg hB0]; exact ⟨fm.neg_mem hB, le_refl _⟩
    · rcases le_total y B with h' | h'
      · have : max (-B) (min B y) = y := by rw [min_eq_right h', max_eq_right h]
        rw [this]; exact ⟨hy, abs_le.mpr ⟨h, h'⟩⟩
      · have : max (-B) (min B y) = B := by rw [min_eq_left h', max_eq_right (by linarith)]
        rw [this, abs_of_nonneg hB0]; exact ⟨hB, le_refl _⟩
  have hin : ∀ x, |x| ≤ B → max (-B) (min B (fm.rnd x)) = fm.rnd x := by
    intro x hx
    rw [abs_le] at hx
    have h1 := fm.rnd_le_of_le hB hx.2
    have h2 := fm.le_rnd_of_le (fm.neg_mem hB) hx.1
    rw [min_eq_right h1, max_eq_right h2]
  { rnd := fun x => max (-B) (min B (fm.rnd x))
    F := {x | x ∈ fm.F ∧ |x| ≤ B}
    eps := fm.eps
    tiny := fm.tiny
    huge := fm.huge
    rnd_mem := fun x => hcl _ (fm.rnd_mem x)
    rnd_id := fun x hx => by rw [hin x hx.2]; exact fm.rnd_id x hx.1
    rnd_mono := fun a b hab => max_le_max (le_refl _) (min_le_min (le_refl _) (fm.rnd_mono hab))
    rnd_neg := fun x => by
      rw [fm.rnd_neg]
      simp only [max_def, min_def]
      split_ifs <;> first | rfl | linarith
    eps_nonneg := fm.eps_nonneg
    eps_le_half := fm.eps_le_half
    huge_ge := fm.huge_ge
    rel_err := fun x h1 h2 => by rw [hin x (le_trans h2 hh)]; exact fm.rel_err x h1 h2
    add_tiny := fun a b ha hb h => ⟨fm.add_tiny a b ha.1 hb.1 h, le_trans h.le ht⟩
    int_mem := fun n h => ⟨fm.int_mem n h, le_trans h (le_trans (le_trans (by norm_num) fm.huge_ge) hh)⟩
    floor_mem := fun x hx h0 => ⟨fm.floor_mem x hx.1 h0, by
      have hf0 : (0:ℚ) ≤ ((⌊x⌋ : ℤ) : ℚ) := by exact_mod_cast Int.floor_nonneg.mpr h0
      rw [abs_of_nonneg hf0]
      exact le_trans (Int.floor_le x) (le_trans (le_abs_self x) hx.2)⟩
    fract_mem := fun x hx h0 => ⟨fm.fract_mem x hx.1 h0, by
      have h1 := Int.floor_le x
      have h2 := Int.lt_floor_add_one x
      rw [abs_of_nonneg (by linarith)]
      have : (1:ℚ) ≤ B := le_trans (le_trans (by norm_num) fm.huge_ge) hh
      linarith⟩ }


/-- the largest finite double, `(2^53 - 1) · 2^971` -/
def maxDouble : ℚ := (2 ^ 53 - 1) * 2 ^ 971

theorem maxDouble_ge : (2:ℚ) ^ 1023 ≤ maxDouble := by
  have e : (2:ℚ) ^ 1023 = 2 ^ 52 * 2 ^ 971 := by rw [← pow_add]
  rw [e]; unfold maxDouble
  exact mul_le_mul_of_nonneg_right (by norm_num) (by positivity)

/-- binary64 without an upper exponent bound -/
def FloatModel.binary64u : FloatModel := FloatModel.binary rne 53 (-1074) (le_refl _) (by norm_num)

theorem maxDouble_mem : maxDouble ∈ FloatModel.binary64u.F := by
  refine ⟨2 ^ 53 - 1, 971, by norm_num, by norm_num, ?_⟩
  unfold maxDouble
  rw [show ((971 : ℤ)) = ((971 : ℕ) : ℤ) by norm_num, zpow_natCast]
  push_cast; congr 1; norm_num

/-- **IEEE-754 binary64 with round-to-nearest-even is a `FloatModel`**: `F` = the finite doubles
(`m · 2^e`, `|m| < 2^53`, `e ≥ -1074`, magnitude at most `maxDouble`), `rnd` = RNE (saturating beyond
`maxDouble`), `eps = 2^-53`, `tiny = 2^-1022`, `huge = 2^1023`. -/
def FloatModel.binary64 : FloatModel :=
  FloatModel.binary64u.clamp maxDouble maxDouble_mem maxDouble_ge (by
    show (2:ℚ) ^ ((-1074 : ℤ) + (53 : ℕ) - 1) ≤ maxDouble
    have h1 : (2:ℚ) ^ ((-1074 : ℤ) + (53 : ℕ) - 1) ≤ 2 ^ (0:ℤ) :=
      zpow_le_zpow_right₀ (by norm_num) (by norm_num)
    have h2 : (1:ℚ) ≤ 2 ^ 1023 := one_le_pow₀ (by norm_num)
    rw [zpow_zero] at h1
    exact le_trans h1 (le_trans h2 maxDouble_ge))

theorem binary64_eps : FloatModel.binary64.eps = 1 / 2 ^ 53 := by
  show (1 / 2 : ℚ) / 2 ^ (53 - 1) = 1 / 2 ^ 53; norm_num
theorem binary64_tiny : FloatModel.binary64.tiny = 2 ^ (-1022 : ℤ) := by
  show (2:ℚ) ^ ((-1074 : ℤ) + (53 : ℕ) - 1) = 2 ^ (-1022 : ℤ); norm_num

theorem ex_eq {p : ℕ} {emin : ℤ} {x : ℚ} {k : ℤ} (h1 : (2:ℚ) ^ k ≤ |x|) (h2 : |x| < (2:ℚ) ^ (k + 1)) :
    ex p emin x = max (k - ((p:ℤ) - 1)) emin := by
  have hx : x ≠ 0 := by
    intro h0; rw [h0, abs_zero] at h1; exact absurd (zpow_pos (by norm_num) k) (not_lt.mpr h1)
  have := le_lg_of_le_abs hx h1
  have := lg_lt_of_abs_lt hx h2
  rw [ex, show lg x = k by omega]

/-- binary64 really rounds, and ties go to even: `fl(2^53 + 1) = 2^53`, `fl(2^53 + 3) = 2^53 + 4` -/
example : FloatModel.binary64u.rnd (2 ^ 53 + 1) = 2 ^ 53 ∧ FloatModel.binary64u.rnd (2 ^ 53 + 3) = 2 ^ 53 + 4 := by
  have e1 : ex 53 (-1074) (2 ^ 53 + 1) = 1 := ex_eq (k := 53) (by norm_num) (by norm_num)
  have e3 : ex 53 (-1074) (2 ^ 53 + 3) = 1 := ex_eq (k := 53) (by norm_num) (by norm_num)
  constructor
  · show brnd rne 53 (-1074) (2 ^ 53 + 1) = 2 ^ 53
    rw [brnd_rne_eq (n := 2 ^ 52) e1 (by norm_num [abs_le]) fun _ => by norm_num]
    norm_num
  · show brnd rne 53 (-1074) (2 ^ 53 + 3) = 2 ^ 53 + 4
    rw [brnd_rne_eq (n := 2 ^ 52 + 2) e3 (by norm_num [abs_le]) fun _ => by norm_num]
    norm_num

/-- membership test for doubles of moderate size: `x = m · 2^e` with `|m| < 2^53`, `e ≥ -1074`, `|x| ≤ 2^64` -/
theorem binary64_mem {x : ℚ} (m e : ℤ) (he : -1074 ≤ e) (hm : |m| < 2 ^ 53) (hx : x = (m:ℚ) * 2 ^ e)
    (hb : |x| ≤ 2 ^ 64) : x ∈ FloatModel.binary64.F :=
  ⟨⟨m, e, he, hm, hx⟩, le_trans hb (le_trans (pow_le_pow_right₀ (by norm_num) (by norm_num)) maxDouble_ge)⟩

end JF
