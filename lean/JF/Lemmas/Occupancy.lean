import JF.Model.Occupancy
import Mathlib.Data.List.Basic
import Mathlib.Data.List.Nodup
import Mathlib.Data.List.Count
/-!
Helper lemmas for C11: the insertion-ordered dictionary of `JF.Model.Occupancy` seen as a finite map.
-/
namespace JF.Occ

theorem setAt_apply (f : Cell → List UId) (c : Cell) (l : List UId) (c' : Cell) :
    setAt f c l c' = if c' = c then l else f c' := rfl

namespace Dict

@[simp] theorem get?_nil (c : Cell) : get? [] c = none := rfl

theorem get?_cons (k : Cell) (v : List UId) (t : Dict) (c : Cell) :
    get? ((k, v) :: t) c = if k = c then some v else get? t c := rfl

@[simp] theorem keys_nil : keys [] = [] := rfl
@[simp] theorem keys_cons (e : Cell × List UId) (t : Dict) : keys (e :: t) = e.1 :: keys t := rfl

theorem get?_eq_none_iff (d : Dict) (c : Cell) : d.get? c = none ↔ c ∉ d.keys := by
  induction d with
  | nil => simp
  | cons e t ih => obtain ⟨k, v⟩ := e; simp only [get?_cons, keys_cons, List.mem_cons]; grind

theorem get?_appendAt (d : Dict) (c : Cell) (u : UId) (c' : Cell) :
    (d.appendAt c u).get? c' = if c' = c then some ((d.get? c).getD [] ++ [u]) else d.get? c' := by
  induction d with
  | nil => simp only [appendAt, get?_cons, get?_nil, Option.getD_none, List.nil_append]; grind
  | cons e t ih => obtain ⟨k, v⟩ := e; simp only [appendAt]; split <;> simp only [get?_cons, ih] <;> grind

theorem keys_appendAt (d : Dict) (c : Cell) (u : UId) :
    (d.appendAt c u).keys = if c ∈ d.keys then d.keys else d.keys ++ [c] := by
  induction d with
  | nil => simp [appendAt]
  | cons e t ih =>
    obtain ⟨k, v⟩ := e
    simp only [appendAt]
    by_cases hk : k = c
    · simp [hk]
    · simp only [hk, if_false, keys_cons, ih, List.mem_cons]
      have : ¬ c = k := fun h => hk h.symm
      simp only [this, false_or]
      split <;> simp

theorem nodup_keys_appendAt (d : Dict) (c : Cell) (u : UId) (h : d.keys.Nodup) :
    (d.appendAt c u).keys.Nodup := by
  rw [keys_appendAt]
  split
  · exact h
  · rename_i hc
    exact List.Nodup.append h (by simp) (by simp [hc])

theorem keys_set (d : Dict) (c : Cell) (l : List UId) : (d.set c l).keys = d.keys := by
  induction d with
  | nil => rfl
  | cons e t ih =>
    obtain ⟨k, v⟩ := e
    simp only [set]
    split <;> simp [ih]

theorem get?_set (d : Dict) (c : Cell) (l : List UId) (c' : Cell) :
    (d.set c l).get? c' = if c' = c ∧ c ∈ d.keys then some l else d.get? c' := by
  induction d with
  | nil => simp [set]
  | cons e t ih => obtain ⟨k, v⟩ := e; simp only [set]; split <;> simp only [get?_cons, keys_cons, List.mem_cons, ih] <;> grind

theorem nodup_keys_del (d : Dict) (c : Cell) (h : d.keys.Nodup) : (d.del c).keys.Nodup :=
  h.sublist ((List.filter_sublist (l := d)).map _)

theorem get?_del (d : Dict) (c c' : Cell) :
    (d.del c).get? c' = if c' = c then none else d.get? c' := by
  induction d with
  | nil => simp [del]
  | cons e t ih =>
    obtain ⟨k, v⟩ := e
    simp only [del, List.filter_cons] at ih ⊢
    split <;> simp only [get?_cons, ih] <;> grind

theorem get?_of_mem (d : Dict) (h : d.keys.Nodup) {k : Cell} {l : List UId} (hm : (k, l) ∈ d) :
    d.get? k = some l := by
  induction d with
  | nil => simp at hm
  | cons e t ih =>
    obtain ⟨k', v⟩ := e
    simp only [keys_cons, List.nodup_cons] at h
    simp only [List.mem_cons, Prod.mk.injEq] at hm
    rcases hm with ⟨rfl, rfl⟩ | hm
    · simp [get?_cons]
    · have hk : k ∈ keys t := List.mem_map.mpr ⟨(k, l), hm, rfl⟩
      have : k' ≠ k := fun hh => h.1 (hh ▸ hk)
      simp only [get?_cons, this, if_false]
      exact ih h.2 hm

theorem mem_of_get? (d : Dict) {k : Cell} {l : List UId} (h : d.get? k = some l) : (k, l) ∈ d := by
  induction d with
  | nil => simp at h
  | cons e t ih => obtain ⟨k, v⟩ := e; simp only [get?_cons] at h; grind

/-- `yield_surplus` counted: if `u` occurs only under key `c0`, the flattened values contain it
as often as the list under `c0` does. -/
theorem count_values (d : Dict) (h : d.keys.Nodup) (u : UId) (c0 : Cell)
    (hz : ∀ k l, (k, l) ∈ d → k ≠ c0 → l.count u = 0) :
    d.values.count u = ((d.get? c0).getD []).count u := by
  induction d with
  | nil => simp [values]
  | cons e t ih =>
    obtain ⟨k, v⟩ := e
    simp only [keys_cons, List.nodup_cons] at h
    have ht := ih h.2 (fun k' l hm hk => hz k' l (List.mem_cons_of_mem _ hm) hk)
    simp only [values, List.map_cons, List.flatten_cons, List.count_append] at ht ⊢
    by_cases hk : k = c0
    · subst hk
      have hn : get? t k = none := (get?_eq_none_iff t k).mpr h.1
      simp only [get?_cons, if_true, Option.getD_some]
      rw [ht, hn]; simp
    · simp only [get?_cons, hk, if_false]
      rw [ht, hz k v (List.mem_cons_self ..) hk]; simp

end Dict
end JF.Occ
