import JF.Lemmas.KinematicsVec
/-!
List facts shared by the point-mass machine and the composite objects: the first moving unit of a list in which one designated
unit moves (`activeIdx`, `Composite.activeLeaf`), and a list rewritten at a list of indices by one function
(`Composite.sliceAt` is such a fold): entry `i` is rewritten as often as `i` occurs among the indices.
-/
namespace JF.Kin

theorem findIdx?_isMoving {us : List (PUnit ℚ)} {a : Nat} {ua : PUnit ℚ} {v : List ℚ} (ha : us[a]? = some ua)
    (hv : ua.vel = some v) (ho : ∀ k l, us[k]? = some l → k ≠ a → l.vel = none) : us.findIdx? isMoving = some a := by
  obtain ⟨hlt, rfl⟩ := List.getElem?_eq_some_iff.mp ha
  refine List.findIdx?_eq_some_iff_getElem.mpr ⟨hlt, by rw [isMoving, hv]; rfl, fun j hj => ?_⟩
  rw [isMoving, ho j _ (List.getElem?_eq_getElem (Nat.lt_trans hj hlt)) (Nat.ne_of_lt hj)]
  exact Bool.false_ne_true

theorem getElem?_foldl_modify {β : Type} (g : β → β) : ∀ (S : List Nat) (xs : List β) (i : Nat),
    (S.foldl (fun xs k => xs.modify k g) xs)[i]? = (xs[i]?).map g^[S.count i]
  | [], xs, i => by rw [List.count_nil, Function.iterate_zero, Option.map_id]; rfl
  | k :: S, xs, i => by
    rw [List.foldl_cons, getElem?_foldl_modify g S, List.getElem?_modify, List.count_cons]
    cases xs[i]? with
    | none => rfl
    | some x =>
      by_cases hki : k = i
      · subst hki; simp
      · simp [hki]

/-- what `g` does not change, the fold does not change -/
theorem foldl_modify_map {β γ : Type} (f : β → γ) (g : β → β) (hfg : ∀ x, f (g x) = f x) :
    ∀ (S : List Nat) (xs : List β), (S.foldl (fun xs i => xs.modify i g) xs).map f = xs.map f
  | [], _ => rfl
  | i :: S, xs => (foldl_modify_map f g hfg S (xs.modify i g)).trans (map_modify_of_eq f g hfg xs i)

end JF.Kin
