import JF.Lemmas.SystemInv3OccPos
/-!
The induction step of the joint invariant `Big3` (`JF/Lemmas/SystemRun3LoopDefs.lean`): the first leg (`first_step3`) and every
later leg (`big_step3`).  The premise `StaysInRecordedCell` of `Tr3L` comes from `old_active_stays3`; `Big3.stays` is its case of a
quiet commit.
-/
namespace JF.Sys3L
open JF JF.Act JF.Heap JF.Sched JF.Med JF.CW3 JF.C14 JF.Sys JF.Sys3 JF.C12 JF.Kin JF.Footprints3 JF.SysLeg
open JF.MediatorLoop hiding Run
open JF.Composite hiding pendOf

section
variable {env : Env ℚ} {geo : ∀ l, Geo (cwEnv env l)} {mw : ModeWiring} {S : TaggerIdx} {needs : HandlerId → Bool}

theorem hyp3_static (H : Hyp3L env mw S) : Med.Static (mwire mw.w S needs) :=
  static_of_wiringSound mw.w S needs H.sound H.start

theorem runInv3 (H : Hyp3L env mw S) {rs : RS (G3 env mw)} (h : Run mw.w (world3 env mw) (Tr3L env mw) S rs) :
    RunInv mw.w (world3 env mw) S rs :=
  Act.run_inv mw.w (world3 env mw) (Tr3 env mw) S H.sound H.start (footprintsSound_concrete3 env H.box mw H.supp) (liveIs3 env mw)
    (run_mono (fun _ _ _ htr => trRaw3_of_leafOnly H.leaf htr) h)

/-- C09's freshness for the cell-boundary tagger of cell system `l` says that its event IS pending while a relevant unit is active
on the cell level of `l` -/
theorem cb_exists3 {rs : RS (G3 env mw)} (inv : RunInv mw.w (world3 env mw) S rs) {l : Nat} (hl : l < mw.w.labels.length)
    {B : TaggerIdx} (hB : B < mw.w.n) (hBc : (mw.w.tagger B).cls = .cellBoundary) (hBl : isCBT mw.w l B = true)
    (hBa : aGet (absOf rs.act) B = true) {a : Nat} (hact : activeOn env l rs.g.1.cs = [a])
    (hrel : (env.oe l).relevant a = true) : ∃ hb, hb ∈ (getT rs.act B).running := by
  obtain ⟨hBk, hBlab⟩ := isCBT_kind hBl
  refine List.exists_mem_of_ne_nil _ (inv.pending_of_yield ⟨hB, by rw [hBk]; decide⟩ hBa rfl ?_)
  obtain ⟨h1, h2⟩ := rs.g.2.2 l hl
  have hact' : unitsOn env.base.nPer (env.oe l).level (CW2.flags rs.g.1.cs) = [a] := hact
  rw [hact'] at h1
  simp only [expectedActive, hrel, if_true] at h1
  rw [h1] at h2
  show yieldCls3 env B (mw.w.tagger B).cls (mw.w.tagger B).label rs.g.1.cs rs.g.1.occs ≠ []
  rw [hBc, hBlab]
  cases hx : (getOcc rs.g.1.occs l).activeCell with
  | none => rw [hx] at h2; simp at h2
  | some c0 => simp [yieldCls3, isCellCls, yieldCell, CW.wrapIds, CellTaggers.cellVetoTagger, tocc, h1, hx]

theorem cb_label (hs : Supported3 mw = true) {B : TaggerIdx} (hk : (mw.w.tagger B).kind = .cellBoundary) :
    ∃ l, (mw.w.tagger B).label = some l ∧ l < mw.w.labels.length := by
  rcases supported3_tagger hs B with h | ⟨_, h⟩
  · simp only [okT, Bool.and_eq_true, Bool.or_eq_true, Bool.not_eq_true'] at h
    rcases h.2 with h' | h'
    · rw [hk] at h'; simp at h'
    · cases hl : (mw.w.tagger B).label with
      | none => rw [hl] at h'; cases h'
      | some l => rw [hl] at h'; exact ⟨l, rfl, by simpa using h'⟩
  · rw [hk] at h; cases h

variable {cs : List (Committed XTime)} {cl : Committed XTime} {s : Sys3} {E : TaggerIdx} {tl : Time ℚ}

theorem Big3.medBig (big : Big3 env mw S needs cs cl s E tl) : MedBig mw.w S needs cs cl s.med s.mid E tl :=
  { big with }

theorem occs_step (big : Big3 env mw S needs cs cl s E tl) {o : Oracle XTime} {cm : Committed XTime} {s' : Sys3}
    (st : SysStep3 env geo mw S needs s o cm s') : OccsUpdated env mw.w.labels.length s.occs s'.occs s.cs := by
  have := st.occ1
  rw [if_pos big.started] at this
  exact this

/-- the activator-level machine of C09 makes the step that this leg's `get_event_handlers_to_run` is; the premise
`StaysInRecordedCell` of that `Tr3L` transition is `Big3.stays`, from the previous step of the induction -/
theorem mid_run3 (H : Hyp3L env mw S) (big : Big3 env mw S needs cs cl s E tl) (hgo : cl.stop = false)
    (ntl : TieFreeLeg3 mw (pendOf (fun _ => none) cs.dropLast) cl)
    {o : Oracle XTime} {cm : Committed XTime} {s' : Sys3} (st : SysStep3 env geo mw S needs s o cm s')
    (hupd : update mw.w.wires s.med.act.ts E o.yields = some (s'.mid, cm.created)) :
    ∃ hi' : Inv3 env mw ⟨s.cs, .leaf, s'.occs⟩,
      Run mw.w (world3 env mw) (Tr3L env mw) S ⟨s'.mid, s'.ids, ⟨_, hi'⟩⟩ := by
  obtain ⟨hi, hph⟩ := big.phase
  have hocc := occs_step big st
  have hi' : Inv3 env mw ⟨s.cs, .leaf, s'.occs⟩ :=
    ⟨big.invNext, consAll_after (s := ⟨s.csPrev, .leaf, s.occs⟩) (s' := ⟨s.cs, .leaf, s'.occs⟩) hi.2 hocc⟩
  refine ⟨hi', ?_⟩
  rw [st.ids']
  refine big.medBig.run_next hgo (g := ⟨⟨s.csPrev, .leaf, s.occs⟩, hi⟩)
    (hph.imp_left fun h => ⟨h.2.1, h.2.2.2⟩) (by rw [st.yields]; rfl) hupd fun hrunp => ?_
  obtain ⟨hEn, hEk, _⟩ := (runInv3 H hrunp).pending H.start (liveIs3 env mw).live (List.ne_nil_of_mem big.running)
  obtain ⟨e, hk, _, ⟨ha, _⟩, hcs⟩ := big.commit
  exact ⟨hEn, rfl, rfl, ⟨e, hk, not_start_kind H.supp hEn hEk hk, ha, hcs⟩, hocc,
    fun l hl haff => big.stays l hl haff (ntl E l big.owner hl haff)⟩

theorem pushed_facts3 (hs : Supported3 mw = true) {csg : List (CObj ℚ)} {o : Oracle XTime}
    {created : List (HandlerId × IdTuple)} (htl : Normalised tl)
    (hc : CandsOK3 env geo mw csg (.fin tl) o created) {h : HandlerId} {t : XTime}
    (hm : (h, t) ∈ created.map (fun q => (q.1, o.cand q.1))) :
    NormX t ∧ xcfg.lt t (.fin tl) = false ∧
    ∀ l, isCBH mw l h → ∃ τ, t = .fin τ ∧ Normalised τ ∧ Track env l csg tl τ := by
  obtain ⟨q, hq, hqe⟩ := List.mem_map.mp hm
  simp only [Prod.mk.injEq] at hqe
  obtain ⟨rfl, rfl⟩ := hqe
  obtain ⟨h1, h2⟩ := hc q hq
  have cbfacts : ∀ l, isCBH mw l q.1 → ∃ τ, o.cand q.1 = .fin τ ∧ Normalised τ ∧ Track env l csg tl τ ∧ val tl < val τ := by
    rintro l ⟨B, hB, hBl⟩
    obtain ⟨a, u, v, ts, hact, hu, hv, hts, hbox, hvok, hlast, hcand⟩ := h1 B l hB hBl
    have hte : tl = ts := by injection hlast
    subst hte
    have hpl : u.pos.length = env.base.L.length := ((inBox_iff _ _).mp hbox).1
    have hvl : v.length = env.base.L.length := (geo l).vlen v hvok
    refine ⟨_, hcand, add_normalised _ _ htl, ⟨a, u, v, tl, hact, hu, hv, hts, le_refl _, hpl, hvl, ?_⟩, ?_⟩
    · exact stayUntil_of_geo (geo l) hbox hvok
    · rw [add_val]; linarith [(geo l).pos u.pos v hbox hvok]
  by_cases hkq : kindOfH mw.w q.1 = .cellBoundary
  · -- a cell-boundary handler: its tagger names an internal state
    have hown : ∃ B, owner mw.w.wires q.1 = some B := by
      unfold kindOfH at hkq
      cases ho : owner mw.w.wires q.1 with
      | none => rw [ho] at hkq; cases hkq
      | some B => exact ⟨B, rfl⟩
    obtain ⟨B, hB⟩ := hown
    have hBk : (mw.w.tagger B).kind = .cellBoundary := by rw [← kindOfH_of_owner hB]; exact hkq
    obtain ⟨l0, hl0, _⟩ := cb_label hs hBk
    have hcbt : isCBT mw.w l0 B = true := by unfold isCBT; simp [hBk, hl0]
    obtain ⟨τ, hτ, hτn, _, hlt⟩ := cbfacts l0 ⟨B, hB, hcbt⟩
    refine ⟨by rw [hτ]; exact hτn, by rw [hτ, xlt_false_iff hτn htl]; exact le_of_lt hlt, fun l hl => ?_⟩
    obtain ⟨τ', h1', h2', h3', _⟩ := cbfacts l hl
    exact ⟨τ', h1', h2', h3'⟩
  · obtain ⟨hn, hlt⟩ := h2 hkq
    refine ⟨hn, hlt, ?_⟩
    rintro l ⟨B, hB, hBl⟩
    exact absurd (by rw [kindOfH_of_owner hB]; exact (isCBT_kind hBl).1) hkq

/-- the mediator's half of a leg after the first (`MedBig.next`), and what it says about the pending cell-boundary candidates:
minimality of the committed time `t'` puts them not before `t'`, hence strictly after it if there is no tie -/
theorem next3 (H : Hyp3L env mw S) (big : Big3 env mw S needs cs cl s E tl) (hgo : cl.stop = false)
    (ntl : TieFreeLeg3 mw (pendOf (fun _ => none) cs.dropLast) cl)
    {o : Oracle XTime} {cm : Committed XTime} {s' : Sys3} (st : SysStep3 env geo mw S needs s o cm s') {t' : Time ℚ}
    (ht' : cm.time = .fin t') :
    ∃ E', LegFacts mw.w S needs (pendOf (fun _ => none) cs) cl.time s.med o cm s'.med s'.mid E' ∧
      update mw.w.wires s.med.act.ts E o.yields = some (s'.mid, cm.created) ∧
      MedBig mw.w S needs (cs ++ [cm]) cm s'.med s'.mid E' t' ∧ val tl ≤ val t' ∧
      ∀ l, l < mw.w.labels.length → ∀ hb tb, isCBH mw l hb → pendPushed (pendOf (fun _ => none) cs) cm hb = some tb →
        ∃ τ, tb = .fin τ ∧ Normalised τ ∧ Track env l s.cs tl τ ∧
          (NoTie3 mw l (pendOf (fun _ => none) cs) cm → val t' < val τ) := by
  have hcands := st.cands
  rw [big.med.rel.last, big.time] at hcands
  obtain ⟨E', f, hupd, b', hle⟩ := big.medBig.next (hyp3_static H) st.leg st.mid' (fun q hq =>
    (pushed_facts3 (geo := geo) H.supp big.tnorm hcands (List.mem_map_of_mem (f := fun q => (q.1, o.cand q.1)) hq)).1) ht'
  refine ⟨E', f, hupd, b', hle, fun l hl hb tb hcb e => ?_⟩
  obtain ⟨τ, hτ, hτn, htrack⟩ : ∃ τ, tb = .fin τ ∧ Normalised τ ∧ Track env l s.cs tl τ := by
    rcases pushAll_some _ _ e with h1 | h1
    · exact big.cb l hl hgo ntl hb tb hcb h1
    · rw [f.pushed] at h1; exact (pushed_facts3 (geo := geo) H.supp big.tnorm hcands h1).2.2 l hcb
  exact ⟨τ, hτ, hτn, htrack, fun hnt => (f.commit_le (hτ ▸ e) hτn ht' b'.tnorm).2 (hnt hb hcb)⟩

theorem active_tracked3 (H : Hyp3L env mw S) {o : Oracle XTime} {cm : Committed XTime} {s' : Sys3} {p : Pend XTime} {lt : XTime}
    {E' : TaggerIdx} (f : LegFacts mw.w S needs p lt s.med o cm s'.med s'.mid E')
    {hi' : Inv3 env mw ⟨s.cs, .leaf, s'.occs⟩} (inv' : RunInv mw.w (world3 env mw) S ⟨s'.mid, s'.ids, ⟨_, hi'⟩⟩) {l : Nat}
    (hl : l < mw.w.labels.length) {t' : Time ℚ}
    (midcb : ∀ hb tb, isCBH mw l hb → pendPushed p cm hb = some tb →
      ∃ τ, tb = .fin τ ∧ Normalised τ ∧ Track env l s.cs tl τ ∧ (NoTie3 mw l p cm → val t' < val τ))
    {a : Nat} (hm : activeOn env l s.cs = [a]) (hrel : (env.oe l).relevant a = true) (hnt : NoTie3 mw l p cm) :
    ∃ τ, Track env l s.cs tl τ ∧ val t' < val τ := by
  obtain ⟨B, hB, hBc, hBl, _, hBr⟩ := cbWired3_spec H.cb hl
  obtain ⟨hb, hhb⟩ := cb_exists3 inv' hl hB hBc hBl (hBr _ inv'.reach) hm hrel
  obtain ⟨tb, htb⟩ := Option.isSome_iff_exists.mp ((f.mirr hb).mpr ⟨B, hhb⟩)
  obtain ⟨τ, _, _, htrack, hlt⟩ := midcb hb tb ⟨B, owner_of_running (poolsOK_wires mw.w) f.pmid hhb, hBl⟩ htb
  exact ⟨τ, htrack, hlt hnt⟩

/-- For every committed event (lifting, end of chain, … included) whose time is not the time of a pending cell-boundary candidate
of cell system `l`: the unit active on the level of `l` in the state the leg's candidates were computed on (`s.cs`) is, after the
commit (`s'.cs`), in the cell it was in.  Units at rest are not displaced: `composite_step_rest_fixed`; a moving one has a pending
cell-boundary candidate — C09's freshness —, which is not before the commit — minimality —, hence, no tie, strictly later, and until
then the unit stays in its cell — `Geo` —: `step_unit_pres`. -/
theorem old_active_stays3 (H : Hyp3L env mw S) (big : Big3 env mw S needs cs cl s E tl) (hgo : cl.stop = false)
    (ntl : TieFreeLeg3 mw (pendOf (fun _ => none) cs.dropLast) cl)
    {o : Oracle XTime} {cm : Committed XTime} {s' : Sys3} (st : SysStep3 env geo mw S needs s o cm s')
    {l : Nat} (hl : l < mw.w.labels.length) (hnt : NoTie3 mw l (pendOf (fun _ => none) cs) cm) :
    ∀ a, activeOn env l s.cs = [a] → (env.oe l).relevant a = true →
      (env.oe l).cellOf (posOn env.base.nPer (env.oe l).level s'.cs a) =
        (env.oe l).cellOf (posOn env.base.nPer (env.oe l).level s.cs a) := by
  obtain ⟨t', E'', ht'eq, hE'', hcom⟩ := st.ev
  obtain ⟨E', f, hupd, -, hle, midcb⟩ := next3 H big hgo ntl st ht'eq
  obtain ⟨hi', hrun'⟩ := mid_run3 H big hgo ntl st hupd
  obtain ⟨e', _, hte, ⟨ha', _⟩, hcs'⟩ := hcom
  intro a hm hrel
  cases hu : Sys2.unitAt s.cs (identOf env.base.nPer (env.oe l).level a) with
  | none =>
    have h2 := Sys3Occ.step_unit_isSome env.base.L s.cs e' ha' (identOf env.base.nPer (env.oe l).level a)
    rw [hu, ← hcs'] at h2
    have h3 : Sys2.unitAt s'.cs (identOf env.base.nPer (env.oe l).level a) = none := by
      cases h4 : Sys2.unitAt s'.cs (identOf env.base.nPer (env.oe l).level a) with
      | none => rfl
      | some _ => rw [h4] at h2; simp at h2
    rw [posOn_unitAt, posOn_unitAt, hu, h3]
  | some u =>
    cases hv : u.vel with
    | none =>
      obtain ⟨u', hu', hp⟩ := Sys3Occ.composite_step_rest_fixed env.base.L s.cs e' ha' hu hv
      rw [← hcs'] at hu'
      rw [posOn_unitAt, posOn_unitAt, hu, hu']
      simp [hp]
    | some v =>
      obtain ⟨τ, htrack, hlt⟩ := active_tracked3 H f (runInv3 H hrun') hl (midcb l hl) hm hrel hnt
      obtain ⟨a0, u0, v0, ts0, hact0, hu0, hv0, hts0', hle0, hpl, hvl, hst0⟩ := htrack
      have ha0 : a0 = a := by rw [hm] at hact0; simpa using hact0.symm
      subst ha0
      have hu0' : Sys2.unitAt s.cs (identOf env.base.nPer (env.oe l).level a0) = some u0 := hu0
      rw [hu] at hu0'
      cases hu0'
      obtain ⟨u', w, hu', hw, hpw⟩ := Sys3Occ.step_unit_pres env.base.L s.cs e' ha' hu
        (P := fun x => x.vel = some v0 ∧ ∃ ts, x.ts = some ts ∧ val ts ≤ val t' ∧ x.pos.length = env.base.L.length ∧
          v0.length = env.base.L.length ∧ (env.oe l).cellOf x.pos = (env.oe l).cellOf u.pos ∧
          StayUntil (cwEnv env l) x.pos v0 ts τ)
        ⟨hv0, ts0, hts0', le_trans hle0 hle, hpl, hvl, rfl, hst0⟩
        (by rw [hte]; exact fun x hx => track_timeSlice (env := env) (l := l) H.box.2 hlt x hx)
      rw [← hcs'] at hu'
      rw [posOn_unitAt, posOn_unitAt, hu, hu']
      simp only [Option.map_some, Option.getD_some]
      rw [hpw]
      exact hw.2.choose_spec.2.2.2.2.1


theorem big_step3 (H : Hyp3L env mw S) (big : Big3 env mw S needs cs cl s E tl) (hgo : cl.stop = false)
    (ntl : TieFreeLeg3 mw (pendOf (fun _ => none) cs.dropLast) cl)
    {o : Oracle XTime} {cm : Committed XTime} {s' : Sys3} (st : SysStep3 env geo mw S needs s o cm s') :
    ∃ E' tl', Big3 env mw S needs (cs ++ [cm]) cm s' E' tl' := by
  obtain ⟨t', E'', ht'eq, hE'', hcom⟩ := st.ev
  obtain ⟨E', f, hupd, b', hle, midcb⟩ := next3 H big hgo ntl st ht'eq
  obtain rfl : E'' = E' := Option.some.inj (hE''.symm.trans f.owner)
  obtain ⟨hi', hrun'⟩ := mid_run3 H big hgo ntl st hupd
  have inv' := runInv3 H hrun'
  have hocc := occs_step big st
  have ostays := fun l hl hnt => old_active_stays3 H big hgo ntl st (l := l) hl hnt
  have hpendE' : (getT s'.mid E'').running ≠ [] := List.ne_nil_of_mem f.running
  obtain ⟨hE'n, hE'k, _⟩ := inv'.pending H.start (liveIs3 env mw).live hpendE'
  have hcom0 := hcom
  obtain ⟨e', hk', _, ⟨ha', _⟩, hcs'⟩ := hcom
  have hms : modeStep .leaf e' = some .leaf :=
    modeStep_leafOnly (leafOnly_hmode H.leaf hE'n) hk' (not_start_kind H.supp hE'n hE'k hk')
  have hinv' : CW2.Inv env.base ⟨s'.cs, .leaf⟩ := by
    rw [hcs']; exact CW2.inv_step (s := ⟨s.cs, .leaf⟩) H.box hi'.1 hms ha'
  clear hcs' ha' hk' hms
  obtain ⟨med', cs', occs', ids', csPrev', mid'⟩ := s'
  obtain rfl : csPrev' = s.cs := st.prev
  refine ⟨E'', t', { b' with
    phase := ⟨hi', Or.inr hrun'⟩, commit := hcom0, invNext := hinv', mirror := ?_, stays := ?_, cb := ?_ }⟩
  · -- mirror
    intro _ l hl a hm hrel
    obtain ⟨a0, hm0, hu0⟩ := occAfter_some (hocc l hl)
    have hm0' : activeOn env l s.cs = [a0] := hm0
    have : a0 = a := by rw [hm] at hm0'; simpa using hm0'.symm
    subst this
    exact CW.update_activeCell hu0 hrel
  · -- stays: the premise `StaysInRecordedCell` of `Tr3L`, here for a quiet commit (a time slice) from `old_active_stays3`
    intro l hl haff hnt
    rw [List.dropLast_concat] at hnt
    intro a hm hrel
    obtain ⟨S0, hS0⟩ := quiet_commit H.supp (ident_false_of_cell_false haff) hcom0
    have hS0' : cs' = sliceAt Ops.rat env.base.L t' S0 s.cs := hS0
    have hm' : activeOn env l s.cs = [a] := by
      have : CW2.flags cs' = CW2.flags s.cs := by rw [hS0']; exact flags_sliceAt _ _ _ _
      unfold activeOn; rw [← this]; exact hm
    obtain ⟨a0, hm0, hu0⟩ := occAfter_some (hocc l hl)
    have hm0' : activeOn env l s.cs = [a0] := hm0
    have : a0 = a := by rw [hm'] at hm0'; simpa using hm0'.symm
    subst this
    rw [CW.update_activeCell hu0 hrel]
    exact congrArg some (ostays l hl hnt a0 hm' hrel).symm
  · -- the pending cell-boundary candidates after the trash
    intro l hl hstop hntc hb tb hcbh e
    rw [List.dropLast_concat] at hntc
    rw [pendOf_snoc] at e
    obtain ⟨hnt, e'⟩ := pendAfter_some e
    · obtain ⟨τ, hτ, hτn, htrack, hlt⟩ := midcb l hl hb tb hcbh e'
      have hend := not_endOfRun_of_go f.owner f.stopEq hstop
      obtain ⟨B, hoB, hBl⟩ := hcbh
      obtain ⟨T, hT⟩ := (f.mirr hb).mp (by rw [e']; rfl)
      have hTB : T = B := by
        have := owner_of_running (poolsOK_wires mw.w) f.pmid hT
        rw [hoB] at this; exact (Option.some.inj this).symm
      subst hTB
      have hTn : T < mw.w.n := by rw [← mw.w.wires_length]; exact owner_lt hoB
      obtain ⟨B0, hB0, hB0c, _, hB0u, hB0r⟩ := cbWired3_spec H.cb hl
      have hTB0 : T = B0 := hB0u T hTn hBl
      subst hTB0
      have haff : affects (mw.w.tagger E'') (.cell l) = false := by
        cases hne : affects (mw.w.tagger E'') (.cell l) with
        | false => rfl
        | true =>
          exfalso
          apply hnt
          have hin : T ∈ (mw.w.tagger E'').trashes := by
            cases hid : affects (mw.w.tagger E'') .ident with
            | true =>
              exact trashes_cb_of_ident (rs := ⟨mid', ids', ⟨_, hi'⟩⟩) H.sound H.start (liveIs3 env mw) inv' hpendE' hend hid hB0
                hB0c (isCBT_kind hBl).1 (hB0r _ inv'.reach)
            | false =>
              have := hB0u E'' hE'n (isCBT_of_affects hid hne)
              subst this
              exact (C09Pools.wiringSound_parts H.sound H.start).1.self_trash _ hE'n
          rw [f.trashed]
          exact (trashLoop_out_mem _ _ hb).mpr ⟨T, by rw [(getW_wires mw.w E'').2.1]; exact hin, hT⟩
      obtain ⟨S0, hS0⟩ := quiet_commit H.supp (ident_false_of_cell_false haff) hcom0
      have hS0' : cs' = sliceAt Ops.rat env.base.L t' S0 s.cs := hS0
      refine ⟨τ, hτ, hτn, ?_⟩
      rw [hS0']
      exact track_quiet H.box.2 htrack hle (hlt (hntc E'' l f.owner hl haff)) S0

end

section first
variable {env : Env ℚ} {geo : ∀ l, Geo (cwEnv env l)} {mw : ModeWiring} {S : TaggerIdx} {needs : HandlerId → Bool}

theorem first_step3 (H : Hyp3L env mw S) {s : Sys3} (hi : Init3 env mw s) {o : Oracle XTime} {cm : Committed XTime} {s' : Sys3}
    (st : SysStep3 env geo mw S needs s o cm s') :
    ∃ E' tl', Big3 env mw S needs ([] ++ [cm]) cm s' E' tl' := by
  obtain ⟨hSn, hSk, _⟩ := start_spec H.start
  obtain ⟨t', E'', ht'eq, hE'', hcom⟩ := st.ev
  obtain ⟨f, hfirst, hkS, b'⟩ := MedBig.first (hyp3_static H) H.start hi.med st.leg st.mid'
    (fun q hq hk => ((st.cands q hq).2 (by rw [hk]; decide)).1) ht'eq
  obtain rfl : E'' = S := Option.some.inj (hE''.symm.trans f.owner)
  have hocc : s'.occs = s.occs := by
    have := st.occ1
    rw [show s.med.act = ⟨false, initAct mw.w.wires⟩ by rw [hi.med]; rfl] at this
    simpa using this
  have hcom0 := hcom
  obtain ⟨e, hk, _, ⟨ha, hsm⟩, hcs⟩ := hcom
  have hstart : ∃ b, mw.hmode E'' = .start b := by
    have hag := supported3_agree H.supp hSn
    rw [hSk] at hag
    revert hag
    cases mw.hmode E'' <;> simp [kindAgrees]
  obtain ⟨b, hb⟩ := hstart
  rw [hb] at hk
  simp only [kindsOf, List.mem_singleton] at hk
  obtain ⟨i, P, v, rfl⟩ : ∃ i P v, e = .start i P v := by cases e <;> simp [CW2.evKind] at hk; exact ⟨_, _, _, rfl⟩
  have hsm := hsm i P v rfl
  obtain ⟨med', cs', occs', ids', csPrev', mid'⟩ := s'
  obtain rfl : csPrev' = s.cs := st.prev
  obtain rfl : cs' = _ := hcs
  obtain rfl : occs' = s.occs := hocc
  have hi0 : Inv3 env mw ⟨s.cs, .leaf, s.occs⟩ := ⟨CW2.inv_rest hi.good hi.unif hi.rest .leaf, hi.cons⟩
  have hy : (fun T => (world3 env mw).yieldOf T ⟨_, hi0⟩) = o.yields := by rw [st.yields]; rfl
  exact ⟨E'', t',
    { b' with
      phase := ⟨hi0, Or.inl ⟨rfl, rfl, hi.rest, s.ids, cm.created, by rw [hy]; exact hfirst, st.ids'⟩⟩
      commit := hcom0
      invNext := CW2.inv_start H.box hi.good hi.unif hi.rest ha hsm
      mirror := fun h2 => absurd h2 (by simp)
      stays := fun l _ haff _ => by simp [affects, hSk] at haff
      cb := fun l _ _ _ hb tb hcbh e => by
        obtain ⟨B, hoB, hBl⟩ := hcbh
        rw [pendOf_snoc] at e
        have h1 := hkS hb (Option.isSome_iff_exists.2 ⟨tb, (pendAfter_some e).2⟩)
        rw [kindOfH_of_owner hoB, (isCBT_kind hBl).1] at h1
        cases h1 }⟩

end first

end JF.Sys3L
