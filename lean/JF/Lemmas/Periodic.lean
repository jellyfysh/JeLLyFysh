import JF.Model.Periodic
import JF.Lemmas.PyArith
import Mathlib.Algebra.Order.Floor.Ring
import Mathlib.Data.Rat.Floor
import Mathlib.Tactic.Linarith
import Mathlib.Tactic.Ring
import Mathlib.Tactic.FieldSimp
/-!
Helper lemmas for C15: C `fmod` in the exact reading, by the sign of the quotient; `mapM` in `Option` element by element;
Python indexing (`pyGet`); closed forms (`zipWith` / `map` of the scalar mechanism, any scalar type) of the list functions
of the two box classes: what `separation_vector`, `correct_position`, `correct_separation` return.
-/
namespace JF.Periodic
open JF

theorem fmod_rat_nonneg {x L : ℚ} (h : 0 ≤ x / L) : Ops.rat.fmod x L = x - L * ⌊x / L⌋ := by
  simp [Ops.rat, trunc_nonneg h]

theorem fmod_rat_neg {x L : ℚ} (h : x / L < 0) : Ops.rat.fmod x L = x - L * ⌈x / L⌉ := by
  simp [Ops.rat, trunc_neg h]

theorem mapM_eq_some_forall₂ {β γ : Type} (f : β → Option γ) : ∀ (l : List β) (r : List γ),
    l.mapM f = some r ↔ List.Forall₂ (fun a b => f a = some b) l r
  | [], r => by
      rw [List.mapM_nil, List.forall₂_nil_left_iff]
      exact ⟨fun h => (Option.some.inj h).symm, fun h => h ▸ rfl⟩
  | a :: l, r => by
      rw [List.mapM_cons, List.forall₂_cons_left_iff]
      constructor
      · intro h
        cases hfa : f a with
        | none => rw [hfa] at h; cases h
        | some b =>
          cases hl : l.mapM f with
          | none => rw [hfa, hl] at h; cases h
          | some bs =>
            rw [hfa, hl] at h
            exact ⟨b, bs, rfl, (mapM_eq_some_forall₂ f l bs).mp hl, (Option.some.inj h).symm⟩
      · rintro ⟨b, bs, hb, hbs, rfl⟩
        rw [hb, (mapM_eq_some_forall₂ f l bs).mpr hbs]
        rfl

theorem mapM_eq_some_iff {β γ : Type} (f : β → Option γ) (l : List β) (r : List γ) :
    l.mapM f = some r ↔ r.length = l.length ∧ ∀ j (h : j < l.length) (h' : j < r.length), f l[j] = some r[j] := by
  rw [mapM_eq_some_forall₂, List.forall₂_iff_get, eq_comm]
  rfl


theorem pyGet_natCast {β : Type} (l : List β) (j : Nat) : pyGet l (j : Int) = l[j]? := by
  simp [pyGet]

theorem pyGet_replicate {β : Type} {n : Nat} {a : β} {i : Int} (h1 : -(n : Int) ≤ i) (h2 : i < n) :
    pyGet (List.replicate n a) i = some a := by
  unfold pyGet
  by_cases h : 0 ≤ i
  · have : i.toNat < n := by omega
    simp [h, this]
  · have h3 : (-i).toNat ≤ n := by omega
    have h4 : n - (-i).toNat < n := by omega
    simp [h, h3, h4]

theorem pyGet_none {β : Type} {l : List β} {i : Int} (h : (l.length : Int) ≤ i ∨ i < -(l.length : Int)) :
    pyGet l i = none := by
  unfold pyGet
  by_cases h0 : 0 ≤ i
  · have : (l.length : Int) ≤ i := by omega
    simp [h0, this]
  · have : ¬ ((-i).toNat ≤ l.length) := by omega
    simp [h0, this]

theorem pyGet_mem {β : Type} {l : List β} {i : Int} {a : β} (h : pyGet l i = some a) : a ∈ l := by
  unfold pyGet at h
  split at h
  · exact List.mem_of_getElem? h
  · split at h
    · exact List.mem_of_getElem? h
    · cases h

section
variable {α : Type} [Sub α]

theorem sub_opt_eq_some (ref tgt : List α) (j : Nat) (v : α) :
    (do let t ← tgt[j]?; let r ← ref[j]?; pure (t - r) : Option α) = some v ↔
      ∃ (ht : j < tgt.length) (hr : j < ref.length), v = tgt[j] - ref[j] := by
  by_cases ht : j < tgt.length
  · by_cases hr : j < ref.length
    · simp [ht, hr, eq_comm]
    · simp [ht, hr]
  · simp [ht]

/-- `[target[i] - reference[i] for i in range(dimension)]` -/
theorem rawSeparation_spec (dim : Nat) (ref tgt s : List α) :
    rawSeparation dim ref tgt = some s ↔
      s.length = dim ∧ ∀ j (_ : j < dim) (hs : j < s.length),
        ∃ (ht : j < tgt.length) (hr : j < ref.length), s[j] = tgt[j] - ref[j] := by
  unfold rawSeparation
  rw [mapM_eq_some_iff]
  simp only [List.length_range, List.getElem_range, sub_opt_eq_some]

/-- closed form, any scalar type: the entry-wise difference of the first `dim` entries -/
theorem rawSeparation_eq {dim : Nat} {ref tgt : List α} (hr : dim ≤ ref.length) (ht : dim ≤ tgt.length) :
    rawSeparation dim ref tgt = some (List.zipWith (fun r t => t - r) (ref.take dim) (tgt.take dim)) := by
  rw [rawSeparation_spec]
  exact ⟨by simp [hr, ht], fun j hj hs => ⟨by omega, by omega, by simp⟩⟩

theorem rawSeparation_none {dim : Nat} {ref tgt : List α} (h : ref.length < dim ∨ tgt.length < dim) :
    rawSeparation dim ref tgt = none := by
  rw [Option.eq_none_iff_forall_ne_some]
  intro s hs
  rw [rawSeparation_spec] at hs
  obtain ⟨hl, hs⟩ := hs
  rcases h with h | h
  · obtain ⟨_, hr, _⟩ := hs ref.length h (by omega); omega
  · obtain ⟨ht, _, _⟩ := hs tgt.length h (by omega); omega

end

section
variable {α : Type} [Add α] [LT α] [DecidableLT α] [BEq α]

theorem cuboid_correctPosition_eq (o : Ops α) (c : Cuboid α) (p : List α) (h : p.length ≤ c.Ls.length) :
    c.correctPosition o p = some (List.zipWith (fun x L => wrap o x L) p c.Ls) := by
  unfold Cuboid.correctPosition
  rw [mapM_eq_some_iff]
  refine ⟨by simp [h], ?_⟩
  intro j hj hj'
  simp only [List.length_zipIdx] at hj
  simp [Cuboid.correctPositionEntry, pyGet_natCast, List.getElem?_eq_getElem (hj.trans_le h)]

theorem cuboid_correctPosition_none (o : Ops α) (c : Cuboid α) (p : List α) (h : c.Ls.length < p.length) :
    c.correctPosition o p = none := by
  rw [Option.eq_none_iff_forall_ne_some]
  intro r hr
  unfold Cuboid.correctPosition at hr
  rw [mapM_eq_some_iff] at hr
  obtain ⟨hl, hr⟩ := hr
  have := hr c.Ls.length (by simpa using h) (by simpa [hl] using h)
  simp [Cuboid.correctPositionEntry, pyGet_natCast] at this

end

section
variable {α : Type} [Add α] [Sub α] [LT α] [DecidableLT α] [BEq α]

theorem cuboid_correctSeparation_eq (o : Ops α) (c : Cuboid α) (s : List α) (h : s.length ≤ c.Ls.length)
    (h' : s.length ≤ c.halves.length) :
    c.correctSeparation o s = some (List.zipWith (fun x Lh => wrapSep o x Lh.1 Lh.2) s (c.Ls.zip c.halves)) := by
  unfold Cuboid.correctSeparation
  rw [mapM_eq_some_iff]
  refine ⟨by simp [h, h'], ?_⟩
  intro j hj hj'
  simp only [List.length_zipIdx] at hj
  simp [Cuboid.correctSeparationEntry, pyGet_natCast, List.getElem?_eq_getElem (hj.trans_le h),
    List.getElem?_eq_getElem (hj.trans_le h')]

theorem cuboid_correctSeparation_none (o : Ops α) (c : Cuboid α) (s : List α)
    (h : c.Ls.length < s.length ∨ c.halves.length < s.length) :
    c.correctSeparation o s = none := by
  rw [Option.eq_none_iff_forall_ne_some]
  intro r hr
  unfold Cuboid.correctSeparation at hr
  rw [mapM_eq_some_iff] at hr
  obtain ⟨hl, hr⟩ := hr
  rcases h with h | h
  · have := hr c.Ls.length (by simpa using h) (by simpa [hl] using h)
    simp [Cuboid.correctSeparationEntry, pyGet_natCast] at this
  · have := hr c.halves.length (by simpa using h) (by simpa [hl] using h)
    simp [Cuboid.correctSeparationEntry, pyGet_natCast] at this

end
section
variable {α : Type} [Add α] [LT α] [DecidableLT α] [BEq α]

theorem cubic_correctPosition_eq (o : Ops α) (c : Cubic α) (p : List α) :
    c.correctPosition o p = p.map fun x => wrap o x c.L :=
  List.ext_getElem (by simp [Cubic.correctPosition]) fun j _ _ => by
    simp [Cubic.correctPosition, Cubic.correctPositionEntry]

variable [Sub α]

theorem cubic_correctSeparation_eq (o : Ops α) (c : Cubic α) (s : List α) :
    c.correctSeparation o s = s.map fun x => wrapSep o x c.L c.half :=
  List.ext_getElem (by simp [Cubic.correctSeparation]) fun j _ _ => by
    simp [Cubic.correctSeparation, Cubic.correctSeparationEntry]

/-- `separation_vector` of the cubic class on positions with at least `dimension` entries, any scalar type -/
theorem cubic_separationVector_eq (o : Ops α) (c : Cubic α) {ref tgt : List α} (hr : c.dim ≤ ref.length)
    (ht : c.dim ≤ tgt.length) :
    c.separationVector o ref tgt =
      some (List.zipWith (fun r t => wrapSep o (t - r) c.L c.half) (ref.take c.dim) (tgt.take c.dim)) := by
  rw [Cubic.separationVector, rawSeparation_eq hr ht, Option.map_some, cubic_correctSeparation_eq, List.map_zipWith]

/-- the same for the cuboid class -/
theorem cuboid_separationVector_eq (o : Ops α) (c : Cuboid α) {ref tgt : List α} (hr : c.dim ≤ ref.length)
    (ht : c.dim ≤ tgt.length) (hL : c.dim ≤ c.Ls.length) (hh : c.dim ≤ c.halves.length) :
    c.separationVector o ref tgt =
      some (List.zipWith (fun x Lh => wrapSep o x Lh.1 Lh.2)
        (List.zipWith (fun r t => t - r) (ref.take c.dim) (tgt.take c.dim)) (c.Ls.zip c.halves)) := by
  have hl : (List.zipWith (fun r t => t - r) (ref.take c.dim) (tgt.take c.dim)).length = c.dim := by simp [hr, ht]
  rw [Cuboid.separationVector, rawSeparation_eq hr ht, Option.bind_some,
    cuboid_correctSeparation_eq _ _ _ (hl.trans_le hL) (hl.trans_le hh)]

end
end JF.Periodic
