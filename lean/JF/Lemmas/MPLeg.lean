import JF.Lemmas.MPLoop
/-!
# C20 helper lemmas 3: one whole leg — sending, receive loop, commit, trash loop — preserves the boundary invariant

`BInv` holds after each phase, for the handlers running at that moment: `running` before the leg, `running ∪ created` after the receive loop
(`legRecv_ok`) and at commit time, `(running ∪ created) ∖ trash` after the trash loop (`legEnd_ok`).
-/
namespace JF.MP

/-- boundary invariant of the whole system; `running` = `_running_event_handlers` of the activator -/
def BInv (running : Nat → Bool) (s : St) : Prop := ∀ h, (s h).boundary (running h) = true

theorem boundary_iff (x : HS) (r : Bool) : x.boundary r = true ↔
    x.coh = true ∧ x.stage ≠ .timeStarted ∧ (r = true → x.stage = .idle → x.stored ≠ none) ∧
      (r = false → x.stage = .idle ∧ x.stored = none) := by
  cases r
  · simp [HS.boundary, and_assoc]
  · simp only [HS.boundary, if_true, Bool.and_eq_true, decide_eq_true_eq, and_assoc, true_implies]
    constructor
    · rintro ⟨a, b, c⟩; exact ⟨a, b, c, by simp⟩
    · rintro ⟨a, b, c, -⟩; exact ⟨a, b, c⟩

theorem sendAll_ok (n : Nat) (created : List Nat) :
    ∀ {s : St}, created.Nodup →
      (∀ h ∈ created, (s h).coh = true ∧ (s h).stage = .idle ∧ (s h).stored = none) →
      ∃ s1, sendAll n s created = .ok s1 ∧
        (∀ h ∈ created, (s1 h).stage = .timeStarted ∧ (s1 h).coh = true ∧ (s1 h).tag = n ∧ (s1 h).stored = none) ∧
        (∀ h, h ∉ created → s1 h = s h) := by
  induction created with
  | nil => intro s _ _; exact ⟨s, rfl, by simp, fun _ _ => rfl⟩
  | cons a l ih =>
    intro s hn hp
    rw [List.nodup_cons] at hn
    obtain ⟨h1, h2, h3⟩ := hp a (by simp)
    obtain ⟨y, hy, hys, hyc, hyt, hyst⟩ := send_ok (s a) n h1 h2 h3
    obtain ⟨s1, hs1, hA, hB⟩ := ih (s := upd s a y) hn.2 (by
      intro h hh
      have hne : h ≠ a := by intro e; subst e; exact hn.1 hh
      rw [upd_other _ _ hne]
      exact hp h (by simp [hh]))
    refine ⟨s1, by simp [sendAll, hy, hs1], ?_, ?_⟩
    · intro h hh
      rcases List.mem_cons.1 hh with e | e
      · subst e
        rw [hB h hn.1, upd_same]
        exact ⟨hys, hyc, hyt, hyst⟩
      · exact hA h e
    · intro h hh
      have h1 : h ≠ a := by intro e; subst e; exact hh (by simp)
      have h2 : h ∉ l := by intro e; exact hh (by simp [e])
      rw [hB h h2, upd_other _ _ h1]

theorem nodup_map_pair {l : List Nat} (n : Nat) (h : l.Nodup) : (l.map fun h => (h, n)).Nodup := by
  induction l with
  | nil => simp
  | cons a l ih =>
    rw [List.nodup_cons] at h
    simp only [List.map_cons, List.nodup_cons, List.mem_map, Prod.mk.injEq, and_true, exists_eq_right]
    exact ⟨h.1, ih h.2⟩

theorem lookup_of_mem {n h : Nat} : ∀ (l : List (Nat × Nat)), (∀ p ∈ l, p.2 = n) → (h, n) ∈ l → l.lookup h = some n := by
  intro l
  induction l with
  | nil => intro _ hm; cases hm
  | cons a l ih =>
    intro hp hm
    obtain ⟨a1, a2⟩ := a
    have ha2 : a2 = n := hp (a1, a2) (by simp)
    subst ha2
    by_cases e : h = a1
    · subst e; simp [List.lookup]
    · have hm' : (h, a2) ∈ l := by
        rcases List.mem_cons.1 hm with e' | e'
        · exact absurd (congrArg Prod.fst e') e
        · exact e'
      have : (h == a1) = false := by simpa using e
      rw [List.lookup_cons, this]
      exact ih (fun p hp' => hp p (by simp [hp'])) hm'

/-- after the receive loop every candidate time of the leg is in `received_event_times`: the pushes are exactly the
handlers the activator returned, in that order -/
theorem pushAll_ok {n : Nat} {recvd : List (Nat × Nat)} (htag : ∀ p ∈ recvd, p.2 = n) :
    ∀ (created : List Nat), (∀ h ∈ created, (h, n) ∈ recvd) → pushAll recvd created = .ok (created.map fun h => (h, n)) := by
  intro created
  induction created with
  | nil => intro _; rfl
  | cons a l ih =>
    intro hm
    have h1 : recvd.reverse.lookup a = some n :=
      lookup_of_mem recvd.reverse (fun p hp => htag p (List.mem_reverse.1 hp)) (List.mem_reverse.2 (hm a (by simp)))
    simp [pushAll, h1, ih (fun h hh => hm h (by simp [hh]))]

theorem BInv.set {r : Nat → Bool} {s : St} (hB : BInv r s) {c : Nat} {y : HS} (hy : y.boundary (r c) = true) :
    BInv r (upd s c y) := by
  intro h
  by_cases e : h = c
  · rw [e, upd_same]; exact hy
  · rw [upd_other _ _ e]; exact hB h

/-- `_running_event_handlers` after the leg -/
def running' (running : Nat → Bool) (created trash : List Nat) : Nat → Bool :=
  fun h => (running h || decide (h ∈ created)) && !decide (h ∈ trash)

/-- leg of the last `send_event_time` after the leg -/
def last' (last : Nat → Nat) (created : List Nat) (n : Nat) : Nat → Nat :=
  fun h => if h ∈ created then n else last h

/-- **first half of a leg** under the boundary invariant, the activator protocol and a legitimate adversary: after the receive
loop the boundary invariant holds again, with the handlers handed out in this leg counted as running -/
theorem legRecv_ok (c : Cfg) (n : Nat) {running : Nat → Bool} {last : Nat → Nat} {s : St} {created : List Nat}
    (waits : List (List Nat)) (hB : BInv running s) (hlast : ∀ h, (s h).tag = last h) (hn : created.Nodup)
    (hfresh : ∀ h ∈ created, running h = false) (hl : legLegit c n s created waits = true) :
    (legRecv c n s created waits = .error .starved ∧ waits.length < 2 * created.length) ∨
    ∃ L rest, legRecv c n s created waits = .ok (L, created.map (fun h => (h, n)), rest) ∧
      BInv (fun h => running h || decide (h ∈ created)) L.st ∧ (∀ h, (L.st h).tag = last' last created n h) ∧
      rest.length ≤ waits.length ∧ waits.length - rest.length ≤ 2 * created.length := by
  obtain ⟨s1, hs1, hA, hF⟩ := sendAll_ok n created (s := s) hn (by
    intro h hh
    have := (boundary_iff _ _).1 (hB h)
    exact ⟨this.1, (this.2.2.2 (hfresh h hh)).1, (this.2.2.2 (hfresh h hh)).2⟩)
  have hI : LInv n created s1 { st := s1 } := by
    refine ⟨hn, ?_, fun h hh => (hA h hh).2.2.1, fun _ _ => rfl, by simp, by simp, ?_, by simp, by simp, ?_, ?_⟩
    · intro h
      by_cases hh : h ∈ created
      · exact (hA h hh).2.1
      · show (s1 h).coh = true
        rw [hF h hh]; exact ((boundary_iff _ _).1 (hB h)).1
    · show 0 + tcount created s1 = created.length
      rw [Nat.zero_add, tcount, wsum_const (c := 1) (fun k hk => by simp [tsInd, (hA k hk).1]), Nat.one_mul]
    · intro h hh hst; exact absurd (hA h hh).1 hst
    · intro h hh hst
      have : (s1 h).stage = .timeStarted := (hA h hh).1
      have hst' : (s1 h).stage = .idle := hst
      rw [this] at hst'; cases hst'
  have hmu : mu created { st := s1 } = 2 * created.length :=
    wsum_const (fun k hk => by simp [wt, (hA k hk).1])
  have hl' : legit c created { st := s1 } waits = true := by
    simpa [legLegit, hs1] using hl
  rcases recvLoop_ok c waits hI hl' with ⟨h1, h2⟩ | ⟨L, rest, h1, h2, h3, h4, h5⟩
  · left; exact ⟨by simp [legRecv, hs1, h1], by omega⟩
  · right
    have ht : tcount created L.st = 0 := by have := h2.cnt; omega
    have hnt : ∀ h ∈ created, (L.st h).stage ≠ .timeStarted := by
      intro h hh e
      have := wsum_eq_zero ht h hh
      simp [tsInd, e] at this
    have htimes : ∀ h ∈ created, (h, n) ∈ L.recvd := fun h hh => h2.push2 h hh (hnt h hh)
    have htag : ∀ p ∈ L.recvd, p.2 = n := fun p hp => (h2.push1 p hp).1
    refine ⟨L, rest, by simp [legRecv, hs1, h1, pushAll_ok htag created htimes], fun h => ?_, fun h => ?_, h4, by omega⟩
    · by_cases hh : h ∈ created
      · rw [boundary_iff]
        exact ⟨h2.coh h, hnt h hh, fun _ => h2.stor h hh, fun hr => by simp [hh] at hr⟩
      · rw [h2.frame h hh, hF h hh]; simpa [hh] using hB h
    · unfold last'
      split
      · rename_i hh; exact h2.tag h hh
      · rename_i hh; rw [h2.frame h hh, hF h hh]; exact hlast h

theorem trashAll_ok (tr : List Nat) : ∀ {r : Nat → Bool} {s : St}, BInv r s →
    ∃ s' ds, trashAll s tr = .ok (s', ds) ∧ BInv (fun h => r h && !decide (h ∈ tr)) s' ∧ ∀ h, (s' h).tag = (s h).tag := by
  induction tr with
  | nil => intro r s hB; exact ⟨s, [], rfl, by simpa using hB, fun _ => rfl⟩
  | cons a l ih =>
    intro r s hB
    have ba := (boundary_iff _ _).1 (hB a)
    obtain ⟨y, d, hy, hys, hyc, hyt, hyst⟩ := trash_ok (s a) ba.1 ba.2.1
    have hB1 : BInv (fun h => r h && !decide (h = a)) (upd s a y) := by
      intro h
      by_cases e : h = a
      · subst e; rw [upd_same, boundary_iff]; simp [hyc, hys, hyst]
      · rw [upd_other _ _ e]; simpa [e] using hB h
    obtain ⟨s', ds, hs', hB', htag⟩ := ih hB1
    refine ⟨s', if d then a :: ds else ds, by simp [trashAll, hy, hs'], ?_, fun h => ?_⟩
    · have : (fun h => r h && !decide (h ∈ a :: l)) = fun h => (r h && !decide (h = a)) && !decide (h ∈ l) := by
        funext h; simp [Bool.and_assoc]
      rw [this]; exact hB'
    · rw [htag h]
      by_cases e : h = a
      · subst e; rw [upd_same]; exact hyt
      · rw [upd_other _ _ e]

theorem BInv.quiescent {running : Nat → Bool} {s : St} (hB : BInv running s) {h : Nat} (hs : (s h).stage ≠ .outStarted) :
    (s h).quiescent = true := by
  have hb := (boundary_iff _ _).1 (hB h)
  have hc := ((coh_iff _).1 hb.1).1
  simp only [HS.quiescent, decide_eq_true_eq]
  cases hst : (s h).stage with
  | timeStarted => exact absurd hst hb.2.1
  | outStarted => exact absurd hst hs
  | idle => rw [hst] at hc; exact hc
  | suspended => rw [hst] at hc; exact ⟨Or.inr hc.1, hc.2⟩

theorem BInv.quiescent_of_not_running {running : Nat → Bool} {s : St} (hB : BInv running s) {h : Nat}
    (hr : running h = false) : (s h).quiescent = true :=
  hB.quiescent (by rw [(((boundary_iff _ _).1 (hB h)).2.2.2 hr).1]; simp)

/-- **second half of a leg**, from any state with the boundary invariant: the commit block succeeds on every running handler
with the out-state computed from the in-state its worker holds, and the trash loop re-establishes the invariant -/
theorem legEnd_ok {r : Nat → Bool} {s : St} (hB : BInv r s) {chosen : Nat} (hrun : r chosen = true) (trash : List Nat) :
    ∃ p y s3 ds, (s chosen).commit = .ok ((s chosen).tag, p, y) ∧ trashAll (upd s chosen y) trash = .ok (s3, ds) ∧
      BInv (fun h => r h && !decide (h ∈ trash)) s3 ∧ ∀ h, (s3 h).tag = (s h).tag := by
  have hb := (boundary_iff _ _).1 (hB chosen)
  obtain ⟨p, y, hy, hys, hyc, hyt, hyst⟩ := commit_ok _ hb.1 hb.2.1 (hb.2.2.1 hrun)
  obtain ⟨s3, ds, hs3, hB3, htag3⟩ := trashAll_ok trash (hB.set (c := chosen) (y := y) (by
    rw [boundary_iff]; exact ⟨hyc, by simp [hys], fun _ _ => by simp [hyst], fun hr => by simp [hrun] at hr⟩))
  refine ⟨p, y, s3, ds, hy, hs3, hB3, fun h => ?_⟩
  rw [htag3 h]
  by_cases e : h = chosen
  · rw [e, upd_same]; exact hyt
  · rw [upd_other _ _ e]

end JF.MP
