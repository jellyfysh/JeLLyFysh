import JF.Model.Walker
import JF.Lemmas.PyArith
import Mathlib.Algebra.BigOperators.Group.List.Basic
import Mathlib.Algebra.Order.BigOperators.Group.List
import Mathlib.Tactic.Linarith
import Mathlib.Tactic.Ring
import Mathlib.Tactic.FieldSimp
import Mathlib.Tactic.NormNum
/-!
Helper lemmas for C18: the exact reading (`Ops.rat`) of `Walker.__init__/_build_table`.
-/
namespace JF.Walker

/-! ### Python's compensated `sum` is the sum -/

theorem sumStep_rat (f x : ℚ) : sumStep Ops.rat (f, 0) x = (f + x, 0) := by
  simp only [sumStep]
  split <;> (refine Prod.ext rfl ?_; simp only; ring)

theorem foldl_sumStep_rat (l : List ℚ) (f : ℚ) : l.foldl (sumStep Ops.rat) (f, 0) = (f + l.sum, 0) := by
  induction l generalizing f with
  | nil => simp
  | cons x xs ih => simp only [List.foldl_cons, sumStep_rat, ih, List.sum_cons]; ring_nf

theorem pysum_rat (l : List ℚ) : pysum Ops.rat l = l.sum := by
  cases l with
  | nil => simp [pysum]
  | cons x xs =>
    simp only [pysum, rat_ofInt, Int.cast_zero, foldl_sumStep_rat, List.sum_cons]
    simp


/-- sum of the rates on a stack -/
def sumRates (l : List (Item ℚ)) : ℚ := (l.map (·.rate)).sum

/-- the rate an item identifier currently carries on a stack -/
def rateOf (i : Nat) (l : List (Item ℚ)) : ℚ := (l.map fun it => if it.item = i then it.rate else 0).sum

/-- the length of the draw interval `(0, mean]` on which a row returns item `i` -/
def contrib (i : Nat) : Row ℚ → ℚ
  | .pair s l => (if s.item = i then s.rate else 0) + (if l.item = i then l.rate else 0)
  | .single x => if x.item = i then x.rate else 0

def contribRows (i : Nat) (rows : List (Row ℚ)) : ℚ := (rows.map (contrib i)).sum

/-- well-formed row of a table with mean rate `m` -/
def RowOK (m : ℚ) : Row ℚ → Prop
  | .pair s l => 0 ≤ s.rate ∧ s.rate ≤ m ∧ l.rate = m - s.rate ∧ s.item ≠ l.item
  | .single x => x.rate = m

@[simp] theorem sumRates_nil : sumRates [] = 0 := rfl
@[simp] theorem sumRates_cons (a : Item ℚ) (l) : sumRates (a :: l) = a.rate + sumRates l := by
  simp [sumRates]
@[simp] theorem rateOf_nil (i) : rateOf i [] = 0 := rfl
@[simp] theorem rateOf_cons (i) (a : Item ℚ) (l) :
    rateOf i (a :: l) = (if a.item = i then a.rate else 0) + rateOf i l := by
  simp [rateOf]
@[simp] theorem contribRows_nil (i) : contribRows i [] = 0 := rfl
@[simp] theorem contribRows_cons (i) (r : Row ℚ) (l) : contribRows i (r :: l) = contrib i r + contribRows i l := by
  simp [contribRows]
theorem contribRows_append (i) (a b : List (Row ℚ)) : contribRows i (a ++ b) = contribRows i a + contribRows i b := by
  simp [contribRows]
theorem sumRates_append (a b : List (Item ℚ)) : sumRates (a ++ b) = sumRates a + sumRates b := by
  simp [sumRates]
theorem rateOf_append (i) (a b : List (Item ℚ)) : rateOf i (a ++ b) = rateOf i a + rateOf i b := by
  simp [rateOf]
theorem rateOf_perm (i : Nat) {a b : List (Item ℚ)} (h : a.Perm b) : rateOf i a = rateOf i b :=
  (h.map _).sum_eq


/-- the stacks after an iteration that popped `s` and `l`: what is left of the large item goes back on one of them -/
def restack (m : ℚ) (s l : Item ℚ) (S L : List (Item ℚ)) : List (Item ℚ) × List (Item ℚ) :=
  if l.rate - (m - s.rate) < m then (⟨l.item, l.rate - (m - s.rate)⟩ :: S, L)
  else (S, ⟨l.item, l.rate - (m - s.rate)⟩ :: L)

theorem restack_perm (m : ℚ) (s l : Item ℚ) (S L : List (Item ℚ)) :
    ((restack m s l S L).1 ++ (restack m s l S L).2).Perm (⟨l.item, l.rate - (m - s.rate)⟩ :: (S ++ L)) := by
  unfold restack
  split
  · exact List.Perm.refl _
  · exact List.perm_middle

theorem pairLoop_step (m : ℚ) (fuel : Nat) (s : Item ℚ) (S : List (Item ℚ)) (l : Item ℚ) (L : List (Item ℚ)) :
    pairLoop m (fuel + 1) (s :: S) (l :: L) =
      (Row.pair s ⟨l.item, m - s.rate⟩ :: (pairLoop m fuel (restack m s l S L).1 (restack m s l S L).2).1,
        (pairLoop m fuel (restack m s l S L).1 (restack m s l S L).2).2) := by
  simp only [pairLoop, restack]
  split <;> rfl

theorem pairLoop_nil_left (m : ℚ) (fuel : Nat) (L : List (Item ℚ)) : pairLoop m fuel [] L = ([], [], L) := by
  cases fuel <;> simp [pairLoop]

theorem pairLoop_nil_right (m : ℚ) (fuel : Nat) (S : List (Item ℚ)) : pairLoop m fuel S [] = ([], S, []) := by
  cases fuel <;> cases S <;> simp [pairLoop]

/-- a property `P` of (rows, small, large) triples that holds when the loop stops and is preserved by
one iteration backwards holds for the loop's result -/
theorem pairLoop_induct (m : ℚ)
    (P : List (Item ℚ) → List (Item ℚ) → List (Row ℚ) × List (Item ℚ) × List (Item ℚ) → Prop)
    (stop : ∀ S L, P S L ([], S, L))
    (step : ∀ s S l L out, P (restack m s l S L).1 (restack m s l S L).2 out →
      P (s :: S) (l :: L) (Row.pair s ⟨l.item, m - s.rate⟩ :: out.1, out.2))
    (fuel : Nat) (S L : List (Item ℚ)) : P S L (pairLoop m fuel S L) := by
  induction fuel generalizing S L with
  | zero => exact stop S L
  | succ f ih =>
    cases S with
    | nil => rw [pairLoop_nil_left]; exact stop [] L
    | cons s S =>
      cases L with
      | nil => rw [pairLoop_nil_right]; exact stop (s :: S) []
      | cons l L => rw [pairLoop_step]; exact step s S l L _ (ih _ _)

/-- conservation: a quantity `g` per item on the stacks plus `ρ` per row written whose total one iteration leaves
unchanged.  Instances: the number of entries, the excess over the mean, the rate carried by an identifier. -/
theorem pairLoop_conserve {A : Type} [AddCommMonoid A] (m : ℚ) (g : Item ℚ → A) (ρ : Row ℚ → A)
    (hstep : ∀ s l : Item ℚ, ρ (.pair s ⟨l.item, m - s.rate⟩) + g ⟨l.item, l.rate - (m - s.rate)⟩ = g s + g l)
    (fuel : Nat) (S L : List (Item ℚ)) :
    ((pairLoop m fuel S L).1.map ρ).sum + (((pairLoop m fuel S L).2.1 ++ (pairLoop m fuel S L).2.2).map g).sum
      = ((S ++ L).map g).sum := by
  refine pairLoop_induct m (fun S L out => (out.1.map ρ).sum + ((out.2.1 ++ out.2.2).map g).sum = ((S ++ L).map g).sum)
    (fun S L => by simp) ?_ fuel S L
  intro s S l L out ih
  rw [List.map_cons, List.sum_cons, add_assoc, ih, ((restack_perm m s l S L).map g).sum_eq, List.map_cons,
    List.sum_cons, ← add_assoc, hstep, List.cons_append, List.map_cons, List.sum_cons,
    (List.perm_middle.map g).sum_eq, List.map_cons, List.sum_cons, add_assoc]

theorem pairLoop_len (m : ℚ) (fuel : Nat) (S L : List (Item ℚ)) :
    (pairLoop m fuel S L).1.length + ((pairLoop m fuel S L).2.1.length + (pairLoop m fuel S L).2.2.length)
      = S.length + L.length := by
  simpa only [List.map_const', List.sum_replicate, nsmul_eq_mul, Nat.cast_id, mul_one, List.length_append] using
    pairLoop_conserve (A := ℕ) m (fun _ => 1) (fun _ => 1) (fun _ _ => rfl) fuel S L

theorem pairLoop_mass (m : ℚ) (i : Nat) (fuel : Nat) (S L : List (Item ℚ)) :
    contribRows i (pairLoop m fuel S L).1 + rateOf i ((pairLoop m fuel S L).2.1 ++ (pairLoop m fuel S L).2.2)
      = rateOf i (S ++ L) := by
  refine pairLoop_conserve m (fun it => if it.item = i then it.rate else 0) (contrib i) (fun s l => ?_) fuel S L
  simp only [contrib]
  by_cases h : l.item = i
  · simp only [h, if_true]; ring
  · simp only [h, if_false, add_zero]

/-- loop invariant: rates on the small stack lie in `[0, mean]`, rates on the large stack are at least the mean,
no identifier occurs twice -/
def StackInv (m : ℚ) (S L : List (Item ℚ)) : Prop :=
  (∀ s ∈ S, 0 ≤ s.rate ∧ s.rate ≤ m) ∧ (∀ l ∈ L, m ≤ l.rate) ∧ ((S ++ L).map (·.item)).Nodup

theorem StackInv.step {m : ℚ} {s l : Item ℚ} {S L : List (Item ℚ)} (h : StackInv m (s :: S) (l :: L)) :
    RowOK m (.pair s ⟨l.item, m - s.rate⟩) ∧ StackInv m (restack m s l S L).1 (restack m s l S L).2 := by
  obtain ⟨hS, hL, hd⟩ := h
  obtain ⟨⟨h0, hm⟩, hS'⟩ := List.forall_mem_cons.mp hS
  obtain ⟨hl, hL'⟩ := List.forall_mem_cons.mp hL
  rw [List.cons_append, List.map_cons, List.nodup_cons] at hd
  have hd' : ((⟨l.item, l.rate - (m - s.rate)⟩ :: (S ++ L) : List (Item ℚ)).map (·.item)).Nodup :=
    ((List.perm_middle (a := l) (l₁ := S) (l₂ := L)).map _).nodup_iff.mp hd.2
  refine ⟨⟨h0, hm, rfl, fun e => hd.1 (List.mem_map.mpr ⟨l, List.mem_append_right _ List.mem_cons_self, e.symm⟩)⟩, ?_⟩
  unfold restack
  split
  · rename_i hlt
    exact ⟨List.forall_mem_cons.mpr ⟨⟨by linarith, hlt.le⟩, hS'⟩, hL', hd'⟩
  · rename_i hge
    exact ⟨hS', List.forall_mem_cons.mpr ⟨not_lt.mp hge, hL'⟩, (List.perm_middle.map _).nodup_iff.mpr hd'⟩

theorem pairLoop_inv (m : ℚ) (fuel : Nat) (S L : List (Item ℚ)) (h : StackInv m S L) :
    StackInv m (pairLoop m fuel S L).2.1 (pairLoop m fuel S L).2.2 ∧ ∀ row ∈ (pairLoop m fuel S L).1, RowOK m row := by
  refine pairLoop_induct m (fun S L out => StackInv m S L → StackInv m out.2.1 out.2.2 ∧ ∀ row ∈ out.1, RowOK m row)
    (fun S L h => ⟨h, fun _ hr => absurd hr List.not_mem_nil⟩) ?_ fuel S L h
  intro s S l L out ih h
  obtain ⟨hinv, hrows⟩ := ih h.step.2
  exact ⟨hinv, List.forall_mem_cons.mpr ⟨h.step.1, hrows⟩⟩

/-- termination: every iteration takes one item off the stacks, so fuel `|small| + |large|` is enough -/
theorem pairLoop_done (m : ℚ) (fuel : Nat) (S L : List (Item ℚ)) (h : S.length + L.length ≤ fuel) :
    ((pairLoop m fuel S L).2.1 = [] ∨ (pairLoop m fuel S L).2.2 = []) ∧
      ∀ k, pairLoop m (fuel + k) S L = pairLoop m fuel S L := by
  induction fuel generalizing S L with
  | zero =>
    obtain rfl : S = [] := List.eq_nil_of_length_eq_zero (by omega)
    exact ⟨Or.inl rfl, fun k => by rw [pairLoop_nil_left, pairLoop_nil_left]⟩
  | succ f ih =>
    cases S with
    | nil => exact ⟨Or.inl (by rw [pairLoop_nil_left]), fun k => by rw [pairLoop_nil_left, pairLoop_nil_left]⟩
    | cons s S =>
      cases L with
      | nil => exact ⟨Or.inr (by rw [pairLoop_nil_right]), fun k => by rw [pairLoop_nil_right, pairLoop_nil_right]⟩
      | cons l L =>
        have hlen := (restack_perm m s l S L).length_eq
        simp only [List.length_cons, List.length_append] at h hlen
        obtain ⟨hdone, hfuel⟩ := ih (restack m s l S L).1 (restack m s l S L).2 (by omega)
        refine ⟨by rw [pairLoop_step]; exact hdone, fun k => ?_⟩
        rw [Nat.add_right_comm, pairLoop_step, pairLoop_step, hfuel]


theorem rate_eq_of_excess_sum_zero {m : ℚ} {l : List (Item ℚ)}
    (h : (∀ x ∈ l, m ≤ x.rate) ∨ (∀ x ∈ l, x.rate ≤ m)) (hs : (l.map fun it => it.rate - m).sum = 0) :
    ∀ x ∈ l, x.rate = m := by
  intro x hx
  refine sub_eq_zero.mp ?_
  rcases h with h | h
  · exact List.all_zero_of_le_zero_le_of_sum_eq_zero
      (List.forall_mem_map.mpr fun y hy => sub_nonneg.mpr (h y hy)) hs (List.mem_map_of_mem hx)
  · -- the same in the dual order
    exact List.all_zero_of_le_zero_le_of_sum_eq_zero (M := ℚᵒᵈ)
      (List.forall_mem_map.mpr fun y hy => sub_nonpos.mpr (h y hy)) hs (List.mem_map_of_mem hx)

/-- **left-overs are exact**: the total excess over `m` is conserved; at exit one stack is empty and the excesses
on the other have one sign, so each is zero -/
theorem pairLoop_leftovers (m : ℚ) (fuel : Nat) (S L : List (Item ℚ)) (hinv : StackInv m S L)
    (hfuel : S.length + L.length ≤ fuel) (hsum : ((S ++ L).map fun it => it.rate - m).sum = 0) :
    ((pairLoop m fuel S L).2.1 = [] ∨ (pairLoop m fuel S L).2.2 = []) ∧
      (∀ x ∈ (pairLoop m fuel S L).2.1, x.rate = m) ∧ (∀ x ∈ (pairLoop m fuel S L).2.2, x.rate = m) := by
  have hdone := (pairLoop_done m fuel S L hfuel).1
  obtain ⟨⟨hS, hL, -⟩, -⟩ := pairLoop_inv m fuel S L hinv
  have hex := pairLoop_conserve m (fun it => it.rate - m) (fun _ => 0) (fun s l => by ring) fuel S L
  rw [hsum, List.map_const', List.sum_replicate, nsmul_zero, zero_add] at hex
  refine ⟨hdone, ?_⟩
  rcases hdone with h | h
  · rw [h] at hex ⊢
    exact ⟨fun x hx => absurd hx List.not_mem_nil, rate_eq_of_excess_sum_zero (Or.inl hL) hex⟩
  · rw [h, List.append_nil] at hex
    rw [h]
    exact ⟨rate_eq_of_excess_sum_zero (Or.inr fun x hx => (hS x hx).2) hex, fun x hx => absurd hx List.not_mem_nil⟩

/-- the assertion of the left-over loops holds and each left-over becomes a one-entry row -/
theorem leftover_rat (m : ℚ) (hm : 0 < m) (l : List (Item ℚ)) (h : ∀ x ∈ l, x.rate = m) :
    leftover Ops.rat m l = .ok (l.map fun it => Row.single ⟨it.item, m⟩) := by
  induction l with
  | nil => simp [leftover]
  | cons a l ih =>
    obtain ⟨ha, htail⟩ := List.forall_mem_cons.mp h
    have hq : a.rate / m = 1 := by rw [ha]; exact div_self hm.ne'
    simp only [leftover, rat_ofInt, Int.cast_zero, beq_iff_eq, hm.ne', if_false, hq, eps6, Int.cast_one, Int.cast_ofNat,
      ih htail, List.map_cons]
    norm_num

theorem contribRows_singles (i : Nat) (m : ℚ) (l : List (Item ℚ)) (h : ∀ x ∈ l, x.rate = m) :
    contribRows i (l.map fun it => Row.single ⟨it.item, m⟩) = rateOf i l := by
  induction l with
  | nil => simp
  | cons a l ih =>
    simp only [List.map_cons, contribRows_cons, contrib, rateOf_cons, ih (List.forall_mem_cons.mp h).2,
      h a List.mem_cons_self]


theorem mkItems_item (k : Nat) (rates : List ℚ) : (mkItems k rates).map (·.item) = List.range' k rates.length := by
  induction rates generalizing k with
  | nil => simp [mkItems]
  | cons r rs ih => simp [mkItems, ih, List.range'_succ]

theorem mkItems_rate (k : Nat) (rates : List ℚ) : (mkItems k rates).map (·.rate) = rates := by
  induction rates generalizing k with
  | nil => simp [mkItems]
  | cons r rs ih => simp [mkItems, ih]

theorem mkItems_rateOf (k i : Nat) (rates : List ℚ) :
    rateOf i (mkItems k rates) = if k ≤ i then rates.getD (i - k) 0 else 0 := by
  induction rates generalizing k with
  | nil => simp [mkItems]
  | cons r rs ih =>
    simp only [mkItems, rateOf_cons, ih]
    by_cases h1 : k = i
    · subst h1; simp
    · by_cases h2 : k ≤ i
      · have h3 : k + 1 ≤ i := by omega
        have h4 : i - k = (i - (k + 1)) + 1 := by omega
        simp only [h1, h2, h3, if_true, if_false, zero_add]
        rw [h4, List.getD_cons_succ]
      · have h3 : ¬ k + 1 ≤ i := by omega
        simp [h1, h2, h3]

theorem split_perm (m : ℚ) (items : List (Item ℚ)) : (smallOf m items ++ largeOf m items).Perm items :=
  ((List.reverse_perm _).append (List.reverse_perm _)).trans
    (List.perm_append_comm.trans (List.filter_append_perm (fun it : Item ℚ => decide (m < it.rate)) items))

theorem sum_map_sub_const (l : List ℚ) (m : ℚ) : (l.map fun r => r - m).sum = l.sum - l.length * m := by
  induction l with
  | nil => simp
  | cons a l ih => simp only [List.map_cons, List.sum_cons, ih, List.length_cons, Nat.cast_succ]; ring


/-- what `Walker.__init__` establishes (exact reading) -/
structure BuildSpec (rates : List ℚ) (t : Table ℚ) : Prop where
  total : t.total = rates.sum
  mean : t.mean = rates.sum / rates.length
  len : t.rows.length = rates.length
  rows : ∀ row ∈ t.rows, RowOK t.mean row
  mass : ∀ i, contribRows i t.rows = rates.getD i 0

theorem split_spec (rates : List ℚ) (hne : rates ≠ []) (h0 : ∀ r ∈ rates, 0 ≤ r) (m : ℚ)
    (hm : m = rates.sum / rates.length) :
    StackInv m (smallOf m (mkItems 0 rates)) (largeOf m (mkItems 0 rates)) ∧
    (smallOf m (mkItems 0 rates)).length + (largeOf m (mkItems 0 rates)).length = rates.length ∧
    ((smallOf m (mkItems 0 rates) ++ largeOf m (mkItems 0 rates)).map fun it => it.rate - m).sum = 0 := by
  have hperm := split_perm m (mkItems 0 rates)
  have hn : (rates.length : ℚ) ≠ 0 := by exact_mod_cast (List.length_pos_iff.mpr hne).ne'
  refine ⟨⟨fun s hs => ?_, fun l hl => ?_, ?_⟩, ?_, ?_⟩
  · simp only [smallOf, List.mem_reverse, List.mem_filter, Bool.not_eq_true', decide_eq_false_iff_not, not_lt] at hs
    exact ⟨h0 _ (mkItems_rate 0 rates ▸ List.mem_map_of_mem hs.1), hs.2⟩
  · simp only [largeOf, List.mem_reverse, List.mem_filter, decide_eq_true_eq] at hl
    exact hl.2.le
  · rw [(hperm.map _).nodup_iff, mkItems_item]; exact List.nodup_range'
  · rw [← List.length_append, hperm.length_eq, ← List.length_map (·.rate), mkItems_rate]
  · rw [(hperm.map _).sum_eq, show (fun it : Item ℚ => it.rate - m) = (fun r => r - m) ∘ (·.rate) from rfl,
      ← List.map_map, mkItems_rate, sum_map_sub_const, hm, mul_div_cancel₀ _ hn, sub_self]

theorem build_rat (rates : List ℚ) (hne : rates ≠ []) (h0 : ∀ r ∈ rates, 0 ≤ r) (hpos : 0 < rates.sum) :
    ∃ t, build Ops.rat rates = .ok t ∧ BuildSpec rates t := by
  obtain ⟨r, rs, rfl⟩ := List.exists_cons_of_ne_nil hne
  generalize hR : r :: rs = rates at *
  have hnpos : (0:ℚ) < rates.length := by exact_mod_cast List.length_pos_iff.mpr hne
  obtain ⟨hinv, hlen, hsum⟩ := split_spec rates hne h0 _ rfl
  obtain ⟨-, hS, hL⟩ := pairLoop_leftovers _ rates.length _ _ hinv hlen.le hsum
  have hl := pairLoop_len (rates.sum / rates.length) rates.length _ _ ▸ hlen
  have hrows := (pairLoop_inv _ rates.length _ _ hinv).2
  set m : ℚ := rates.sum / rates.length with hm
  have hmpos : 0 < m := div_pos hpos hnpos
  set items := mkItems 0 rates with hitems
  set out := pairLoop m rates.length (smallOf m items) (largeOf m items) with hout
  have hb : build Ops.rat rates = .ok ⟨rates.sum, m, out.1 ++ (out.2.1.map fun it => Row.single ⟨it.item, m⟩)
      ++ (out.2.2.map fun it => Row.single ⟨it.item, m⟩)⟩ := by
    rw [← hR]
    simp only [build]
    rw [hR]
    simp only [pysum_rat, rat_ofInt]
    simp only [Int.cast_natCast, ← hm, ← hitems, ← hout, leftover_rat m hmpos _ hS, leftover_rat m hmpos _ hL]
    rw [if_neg]
    simpa using h0
  refine ⟨_, hb, ⟨rfl, rfl, ?_, ?_, ?_⟩⟩
  · simp only [List.length_append, List.length_map]; omega
  · intro row hrow
    simp only [List.mem_append, List.mem_map] at hrow
    rcases hrow with (hrow | ⟨it, _, rfl⟩) | ⟨it, _, rfl⟩
    · exact hrows row hrow
    · rfl
    · rfl
  · intro i
    rw [contribRows_append, contribRows_append, contribRows_singles i m _ hS, contribRows_singles i m _ hL, add_assoc,
      ← rateOf_append, pairLoop_mass, rateOf_perm i (split_perm m items), mkItems_rateOf]
    simp

end JF.Walker
