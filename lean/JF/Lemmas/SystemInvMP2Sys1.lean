import JF.Lemmas.SystemInvMP2Generic
import JF.Lemmas.SystemRunStep
/-!
The composed coulomb_atoms system (`JF.Sys`, `JF/Lemmas/SystemRunStep.lean`) as an instance `T1` of `JF.SysGen.CSys`: `X1` = `Sys`
without its mediator state, `RStep1` = `SysStep` without `leg` (field for field, `occNext` unfolded), `T1.Init` = `Init`.
`reach1_of` / `reach1_to`: the runs `Sys.Reach` ARE the runs `T1.ReachS` (both directions, no hypothesis).
-/
namespace JF.SystemInvMP
open JF JF.Act JF.Heap JF.Sched JF.Med JF.CW JF.C14 JF.MediatorLoop JF.Kin JF.Sys JF.SysGen

structure X1 where
  us : List (PUnit ℚ)
  occ : Occ.State
  ids : HandlerId → IdTuple
  usPrev : List (PUnit ℚ)
  mid : Act

def X1.toSys (x : X1) (m : SM) : Sys := ⟨m, x.us, x.occ, x.ids, x.usPrev, x.mid⟩
def xOf1 (s : Sys) : X1 := ⟨s.us, s.occ, s.ids, s.usPrev, s.mid⟩

section defs
variable (env : Env ℚ) (geo : Geo env) (c : Wiring) (S : TaggerIdx) (needs : HandlerId → Bool)

structure RStep1 (e : MedState Unit) (last : XTime) (x : X1) (o : Oracle XTime) (cm : Committed XTime) (x' : X1) : Prop where
  occ1 : (if e.act.started then occAfter env (hasOccOf c) x.occ x.us else some x.occ) = some x'.occ
  yields : o.yields = fun T => yieldCls env (c.tagger T).cls ⟨x.us, x'.occ⟩
  cands : CandsOK env geo c x.us last o cm.created
  ev : ∃ t, cm.time = .fin t ∧ Commits env geo (kindOfH c cm.handler) t x.us x'.us
  ids' : x'.ids = assign x.ids cm.created
  prev : x'.usPrev = x.us
  mid' : x'.mid = midAct (mwire c S needs) e o

def T1 : CSys :=
  ⟨X1, mwire c S needs, fun x => Init env c (x.toSys (MedState.init (specI xcfg) c.wires)), RStep1 env geo c S needs⟩

end defs

variable {env : Env ℚ} {geo : Geo env} {c : Wiring} {S : TaggerIdx} {needs : HandlerId → Bool}

theorem rstep1_of {s s' : Sys} {o : Oracle XTime} {cm : Committed XTime} (hstep : SysStep env geo c S needs s o cm s') :
    RStep1 env geo c S needs (eraseS s.med) s.med.sched.last (xOf1 s) o cm (xOf1 s') :=
  ⟨hstep.occ1, hstep.yields, hstep.cands, hstep.ev, hstep.ids', hstep.prev, hstep.mid'⟩

theorem reach1_of {os : List (Oracle XTime)} {cs : List (Committed XTime)} {s : Sys}
    (hr : Sys.Reach env geo c S needs os cs s) : (T1 env geo c S needs).ReachS os cs s.med (xOf1 s) := by
  induction hr with
  | init s h =>
    exact CSys.Reach.init (T := T1 env geo c S needs) (I := specI xcfg) s.med (xOf1 s) h.med
      (show Init env c _ from { h with med := rfl })
  | step _ hgo hstep ih =>
    exact CSys.Reach.step (T := T1 env geo c S needs) ih hgo hstep.leg (rstep1_of hstep)

theorem reach1_to {os : List (Oracle XTime)} {cs : List (Committed XTime)} {m : SM}
    {x : (T1 env geo c S needs).X} (hr : (T1 env geo c S needs).ReachS os cs m x) :
    Sys.Reach env geo c S needs os cs (X1.toSys x m) := by
  induction hr with
  | init m x hm h => subst hm; exact .init _ h
  | step _ hgo hleg hw ih =>
    have hw' : RStep1 env geo c S needs _ _ _ _ _ _ := hw
    exact .step ih hgo ⟨hw'.occ1, hw'.yields, hleg, hw'.cands, hw'.ev, hw'.ids', hw'.prev, hw'.mid'⟩

end JF.SystemInvMP
