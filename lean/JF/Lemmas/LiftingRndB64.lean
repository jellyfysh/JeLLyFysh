import JF.Lemmas.RoundedBinary
import Mathlib.Tactic.NormNum
/-!
The rationals of the witness of the outside-first fall-through finding of C05, which `JF/Props/C05Float.lean` runs in
`R binary64` (IEEE-754 binary64, round to nearest even, `JF/Lemmas/RoundedBinary.lean`): `x55 = 3·2^-55`, for which
`fl(1 + x55) = 1` while `fl(1 + 2·x55) = 1 + 2^-52`, and `e52 = 2^-52`; `x55` and `2·x55` are doubles.
-/
namespace JF.Lifting

/-- `1.5·2^-54`, three eighths of an ulp of `1.0` -/
def x55 : ℚ := 3 / 2 ^ 55
/-- the ulp of `1.0` -/
def e52 : ℚ := 1 / 2 ^ 52

theorem x55_mem : x55 ∈ FloatModel.binary64.F :=
  binary64_mem 3 (-55) (by norm_num) (by norm_num) (by rw [x55, zpow_neg]; norm_num) (by norm_num [x55])
theorem x55x_mem : x55 + x55 ∈ FloatModel.binary64.F :=
  binary64_mem 3 (-54) (by norm_num) (by norm_num) (by rw [x55, zpow_neg]; norm_num) (by norm_num [x55])

end JF.Lifting
