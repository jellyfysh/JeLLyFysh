import JF.Model.Time
import Mathlib.Algebra.Order.Floor.Ring
import Mathlib.Data.Rat.Floor
import Mathlib.Tactic.Linarith
import Mathlib.Tactic.Ring
import Mathlib.Tactic.Push
/-!
Helper lemmas: CPython float `divmod`/`%` in the exact reading (`Ops.rat`).
-/
namespace JF
theorem trunc_nonneg {x : ℚ} (h : 0 ≤ x) : Rat.trunc x = ⌊x⌋ := by
  unfold Rat.trunc; simp [h]; rfl
theorem trunc_neg {x : ℚ} (h : x < 0) : Rat.trunc x = ⌈x⌉ := by
  unfold Rat.trunc; simp [not_le.mpr h, Int.ceil]; rfl

theorem trunc_eq_floor_or (q : ℚ) : Rat.trunc q = ⌊q⌋ ∨ Rat.trunc q = ⌊q⌋ + 1 := by
  rcases le_or_gt 0 q with h | h
  · exact .inl (trunc_nonneg h)
  · rw [trunc_neg h]
    have := Int.floor_le_ceil q; have := Int.ceil_le_floor_add_one q; omega

theorem fmod1 (x : ℚ) : Ops.rat.fmod x (Ops.rat.ofInt 1) = if 0 ≤ x then x - ⌊x⌋ else x - ⌈x⌉ := by
  simp only [Ops.rat]
  split
  · next h => simp [trunc_nonneg h]
  · next h => simp [trunc_neg (not_le.mp h)]

@[simp] theorem ratfloor_eq (y : ℚ) : y.floor = ⌊y⌋ := rfl
@[simp] theorem rat_isInf (x : ℚ) : Ops.rat.isInf x = false := rfl
@[simp] theorem rat_ofInt (n : ℤ) : Ops.rat.ofInt n = (n : ℚ) := rfl
@[simp] theorem rat_floor (x : ℚ) : Ops.rat.floor x = (⌊x⌋ : ℚ) := rfl
@[simp] theorem rat_zeroLike (x : ℚ) : Ops.rat.zeroLike x = 0 := rfl
@[simp] theorem rat_toInt (x : ℚ) : Ops.rat.toInt x = Rat.trunc x := by rfl

/-- `if (mod) … else mod = copysign(0.0, wx)`: in the exact reading the zero branch returns `mod` as well -/
theorem ite_bne_zero (a : ℚ) : (if (a != 0) = true then a else 0) = a := by
  by_cases h : a = 0 <;> simp [h]

theorem fl_int (n : ℤ) :
    (if ((n:ℚ) != 0) = true then (if (1:ℚ) / 2 < (n:ℚ) - ((⌊(n:ℚ)⌋ : ℤ) : ℚ) then ((⌊(n:ℚ)⌋ : ℤ) : ℚ) + 1 else ((⌊(n:ℚ)⌋ : ℤ) : ℚ)) else 0) = (n:ℚ) := by
  simp only [Int.floor_intCast, sub_self]
  norm_num
  intro h; simp [h]

/-- CPython's `divmod(x, 1.0)` is `(floor x, x - floor x)` in exact arithmetic: `fmod` truncates, and when that is
one above the floor (`mod < 0`) the sign test adds the divisor back and takes one off the quotient. -/
theorem pydivmod1_rat (x : ℚ) : pydivmod1 Ops.rat x = ((⌊x⌋ : ℚ), x - ⌊x⌋) := by
  have h0 : ¬ (x - (⌊x⌋ : ℚ) < 0) := not_lt.mpr (sub_nonneg.mpr (Int.floor_le x))
  have h1 : x - ((⌊x⌋ : ℚ) + 1) < 0 := sub_neg.mpr (Int.lt_floor_add_one x)
  have hm : Ops.rat.fmod x 1 = x - (Rat.trunc x : ℤ) := by simp [Ops.rat]
  simp only [pydivmod1, rat_ofInt, rat_floor, rat_zeroLike, Int.cast_one, Int.cast_zero, Int.cast_ofNat, div_one,
    hm, sub_sub_cancel, show ¬ ((1:ℚ) < 0) by norm_num, decide_false]
  rcases trunc_eq_floor_or x with ht | ht
  · rw [ht]
    simp only [h0, decide_false, bne_self_eq_false, Bool.and_false, Bool.false_eq_true, if_false, fl_int, ite_bne_zero]
  · have hb : (x - ((⌊x⌋ : ℚ) + 1) != 0) = true := by simpa using h1.ne
    rw [ht, Int.cast_add, Int.cast_one]
    simp only [h1, hb, decide_true, Bool.false_bne, Bool.and_true, if_true, add_sub_cancel_right, fl_int, sub_add]

theorem sub_mul_floor_nonneg {x y : ℚ} (hy : 0 < y) : 0 ≤ x - y * ⌊x / y⌋ := by
  rw [mul_comm]; exact Int.sub_floor_div_mul_nonneg x hy

theorem sub_mul_floor_lt {x y : ℚ} (hy : 0 < y) : x - y * ⌊x / y⌋ < y := by
  rw [mul_comm]; exact Int.sub_floor_div_mul_lt x hy

/-- Python's float `%` in the exact reading, positive modulus: `x - y * floor (x / y)`.  `fmod` truncates the quotient;
when that is one above the floor the remainder is negative and the sign test adds `y` back. -/
theorem pymod_rat_pos (x y : ℚ) (hy : 0 < y) : pymod Ops.rat x y = x - y * ⌊x / y⌋ := by
  have h0 := sub_mul_floor_nonneg (x := x) hy
  have h1 := sub_mul_floor_lt (x := x) hy
  have hy' : ¬ y < 0 := not_lt.mpr hy.le
  have hm : Ops.rat.fmod x y = x - y * (Rat.trunc (x / y) : ℤ) := rfl
  unfold pymod
  simp only [hm, rat_ofInt, rat_zeroLike, Int.cast_zero]
  rcases trunc_eq_floor_or (x / y) with ht | ht
  · rw [ht]
    simp only [hy', not_lt.mpr h0, decide_false, bne_self_eq_false, Bool.false_eq_true, if_false, ite_bne_zero]
  · have e : x - y * ((⌊x / y⌋ + 1 : ℤ) : ℚ) = (x - y * ⌊x / y⌋) - y := by push_cast; ring
    have hlt : x - y * ⌊x / y⌋ - y < 0 := sub_neg.mpr h1
    rw [ht, e]
    simp [hlt.ne, hy', hlt]

theorem pymod_rat_nonneg (x y : ℚ) (hy : 0 < y) : 0 ≤ pymod Ops.rat x y := by
  rw [pymod_rat_pos x y hy]; exact sub_mul_floor_nonneg hy

theorem pymod_rat_lt (x y : ℚ) (hy : 0 < y) : pymod Ops.rat x y < y := by
  rw [pymod_rat_pos x y hy]; exact sub_mul_floor_lt hy

/-! ### `pywrap`: the repaired `correct_position_entry` (`r = x % L; r if r != L else 0.0`) -/

/-- whenever the modulo is not (`==`-)equal to the modulus, `pywrap` is the plain modulo; any scalar type -/
theorem pywrap_eq_pymod_of_ne {α : Type} [Add α] [LT α] [DecidableLT α] [BEq α] (o : Ops α) (x L : α)
    (h : (pymod o x L != L) = true) : pywrap o x L = pymod o x L := by
  simp [pywrap, h]

theorem pywrap_eq_zero_of_eq {α : Type} [Add α] [LT α] [DecidableLT α] [BEq α] (o : Ops α) (x L : α)
    (h : (pymod o x L != L) = false) : pywrap o x L = o.ofInt 0 := by
  simp [pywrap, h]

/-- in the exact reading the extra branch is dead (`x % L < L`): the mathematical floor-mod -/
theorem pywrap_rat_pos (x y : ℚ) (hy : 0 < y) : pywrap Ops.rat x y = x - y * ⌊x / y⌋ := by
  have hne : (pymod Ops.rat x y != y) = true := by
    simpa using (pymod_rat_lt x y hy).ne
  rw [pywrap_eq_pymod_of_ne _ _ _ hne, pymod_rat_pos x y hy]

theorem pywrap_rat_eq_pymod (x y : ℚ) (hy : 0 < y) : pywrap Ops.rat x y = pymod Ops.rat x y := by
  rw [pywrap_rat_pos x y hy, pymod_rat_pos x y hy]

/-- Python's `x % L` over ANY scalar type whose `+` rounds the exact sum with `rnd`, whose comparisons are those of the
exact values and whose `fmod` is exact (`RQ R`, `R fm`): the exact result, rounded ONCE — the branch `m + L` rounds, `m`
is representable, zero is zero. -/
theorem pymod_val {α : Type} [Add α] [LT α] [DecidableLT α] [BEq α] (o : Ops α) (val : α → ℚ) (rnd : ℚ → ℚ)
    (hadd : ∀ a b, val (a + b) = rnd (val a + val b)) (hlt : ∀ a b, a < b ↔ val a < val b)
    (hbne : ∀ a b, (a != b) = (val a != val b)) (hof : ∀ n, val (o.ofInt n) = n) (hzl : ∀ y, val (o.zeroLike y) = 0)
    (hfm : ∀ x y, val (o.fmod x y) = Ops.rat.fmod (val x) (val y))
    (x L : α) (h0 : rnd 0 = 0) (hm : rnd (Ops.rat.fmod (val x) (val L)) = Ops.rat.fmod (val x) (val L)) :
    val (pymod o x L) = rnd (pymod Ops.rat (val x) (val L)) := by
  unfold pymod
  simp only [hbne, hlt, hof, hfm, rat_ofInt, rat_zeroLike, Int.cast_zero]
  split_ifs
  · rw [hadd, hfm]
  · rw [hfm, hm]
  · rw [hzl, h0]

theorem pywrap_rat_nonneg (x y : ℚ) (hy : 0 < y) : 0 ≤ pywrap Ops.rat x y := by
  rw [pywrap_rat_eq_pymod x y hy]; exact pymod_rat_nonneg x y hy

theorem pywrap_rat_lt (x y : ℚ) (hy : 0 < y) : pywrap Ops.rat x y < y := by
  rw [pywrap_rat_eq_pymod x y hy]; exact pymod_rat_lt x y hy

end JF
