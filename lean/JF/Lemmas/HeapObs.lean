import JF.Lemmas.HeapPickle
/-!
Observational content of the model of `heap.c`: every function of `heap.c` reads only the *live part*
of the array (indices `1 … length - 1`), the key of the sentinel at index 0 and the spare slot `length`
(which it writes before it reads it, or which holds an entry that was live a moment ago).  Hence two
blocks that agree on the live part — but may have different allocated sizes and different garbage beyond
`length` — are transformed into two blocks that again agree on the live part, with equal results.
-/
namespace JF.Heap
variable {κ : Type} {cfg : Cfg κ}

/-- the simulation relation of all loops: `a` and `b` cannot be told apart through `length` and the entries at the
indices in `P`; every index `< n` is inside both allocated blocks.  Nothing is said about the fault flags: that neither
side faults is `Inv`, and the loops are compared for the fuel that suffices. -/
structure Sim (cfg : Cfg κ) (n : Nat) (P : Nat → Prop) (a b : CHeap κ) : Prop where
  len : a.length = b.length
  sa : n ≤ a.mem.size
  sb : n ≤ b.mem.size
  eq : ∀ i, P i → get cfg a i = get cfg b i

section
variable {n : Nat} {P Q : Nat → Prop} {a b : CHeap κ}

theorem Sim.mono (h : Sim cfg n P a b) (hq : ∀ i, Q i → P i) : Sim cfg n Q a b :=
  ⟨h.len, h.sa, h.sb, fun i hi => h.eq i (hq i hi)⟩

theorem Sim.chkA (h : Sim cfg n P a b) {i : Nat} (hi : i < n) : chk a i = a :=
  chk_of_lt a (Nat.lt_of_lt_of_le hi h.sa)
theorem Sim.chkB (h : Sim cfg n P a b) {i : Nat} (hi : i < n) : chk b i = b :=
  chk_of_lt b (Nat.lt_of_lt_of_le hi h.sb)

theorem Sim.set (h : Sim cfg n P a b) {i : Nat} (hi : i < n) (e : Entry κ)
    (hq : ∀ j, Q j → j ≠ i → P j) : Sim cfg n Q (set a i e) (set b i e) := by
  have ha : i < a.mem.size := Nat.lt_of_lt_of_le hi h.sa
  have hb : i < b.mem.size := Nat.lt_of_lt_of_le hi h.sb
  refine ⟨by simp [h.len], by simp; exact h.sa, by simp; exact h.sb, fun j hj => ?_⟩
  rw [get_set_lt a j e ha, get_set_lt b j e hb]
  by_cases hji : j = i
  · simp only [hji, if_true]
  · simp only [hji, if_false]; exact h.eq j (hq j hj hji)

theorem Sim.withLen (h : Sim cfg n P a b) (k : Nat) :
    Sim cfg n P ({ a with length := k } : CHeap κ) ({ b with length := k } : CHeap κ) :=
  ⟨rfl, h.sa, h.sb, fun i hi => h.eq i hi⟩

/-- the removal step keeps the agreement on the old live part: the old last entry is still at its index in both -/
theorem Sim.dropAt (h : Sim cfg n (fun j => 1 ≤ j ∧ j < a.length) a b) {i : Nat} (h1 : 1 ≤ i) (hi : i < a.length)
    (han : a.length ≤ n) : Sim cfg n (fun j => 1 ≤ j ∧ j < a.length) (dropAt cfg a i) (dropAt cfg b i) := by
  unfold Heap.dropAt
  rw [← h.len, ← h.eq (a.length - 1) ⟨Nat.le_sub_one_of_lt (Nat.lt_of_le_of_lt h1 hi), pred_lt hi⟩]
  exact (h.withLen _).set (Nat.lt_of_lt_of_le hi han) _ (fun j hj _ => hj)
end

theorem root_short (dead : Nat → Nat → Bool) (hp : CHeap κ) (h : hp.length ≤ 1) :
    root cfg dead hp = (hp, nullEntry cfg) := by
  have : ¬ hp.length > 1 := Nat.not_lt.2 h
  simp only [root, rootLoop_done dead _ this, this, if_false]

theorem deleteEvents_short (hp : CHeap κ) (h : Nat) (hl : hp.length ≤ 1) : deleteEvents cfg hp h = hp := by
  have h1 : ¬ 1 < hp.length := Nat.not_lt.2 hl
  have h2 : delScan cfg h hp.length hp 1 = hp := delScan_done h _ h1
  have h3 : hp.length / 2 = 0 := Nat.div_eq_of_lt (Nat.lt_succ_of_le hl)
  simp only [deleteEvents, h2, h3, heapify]

theorem pick_congr {a b : CHeap κ} (hl : a.length = b.length) {pos : Nat} (h1 : 1 ≤ pos) (hpl : pos < a.length)
    (he : ∀ i, 1 ≤ i → i ≤ a.length → get cfg a i = get cfg b i) : pick cfg a pos = pick cfg b pos := by
  have h2 : 1 ≤ pos * 2 := Nat.le_trans h1 (Nat.le_mul_of_pos_right pos (by decide))
  have hL : get cfg b a.length = get cfg a a.length :=
    (he _ (Nat.le_of_lt (Nat.lt_of_le_of_lt h1 hpl)) (Nat.le_refl _)).symm
  unfold pick
  simp only [← hl, hL]
  by_cases c1 : pos * 2 < a.length
  · have e1 : get cfg b (pos * 2) = get cfg a (pos * 2) := (he _ h2 (Nat.le_of_lt c1)).symm
    by_cases c2 : pos * 2 + 1 < a.length
    · have e2 : get cfg b (pos * 2 + 1) = get cfg a (pos * 2 + 1) :=
        (he _ (Nat.le_succ_of_le h2) (Nat.le_of_lt c2)).symm
      simp only [e1, e2]
      split <;> simp only [e1, hL]
    · simp only [c2, decide_false, Bool.false_and, Bool.false_eq_true, if_false, e1]
  · have c2 : ¬ pos * 2 + 1 < a.length := fun h => c1 (Nat.lt_of_succ_lt h)
    simp only [c1, c2, decide_false, Bool.false_and, Bool.false_eq_true, if_false]

theorem bubbleDownLoop_sim (o : StrictWeak cfg) (n L : Nat) (hLn : L < n) :
    ∀ fuel (a b : CHeap κ) pos, L ≤ pos + fuel → 1 ≤ pos → a.length = L →
      Sim cfg n (fun i => 1 ≤ i ∧ i ≤ L) a b →
      Sim cfg n (fun i => 1 ≤ i ∧ i ≤ L) (bubbleDownLoop cfg fuel a pos) (bubbleDownLoop cfg fuel b pos) := by
  intro fuel
  induction fuel with
  | zero =>
    intro a b pos hf _ haL h
    have hpa : ¬ pos < a.length := by rw [haL]; exact Nat.not_lt.2 hf
    rw [bubbleDownLoop_done 0 hpa, bubbleDownLoop_done 0 (h.len ▸ hpa)]
    exact h
  | succ fuel ih =>
    intro a b pos hf hp1 haL h
    by_cases hpa : pos < a.length
    · have hpb : pos < b.length := by rw [← h.len]; exact hpa
      have hcm : pick cfg b pos = pick cfg a pos :=
        (pick_congr h.len hp1 hpa (fun i h1 h2 => h.eq i ⟨h1, by rw [← haL]; exact h2⟩)).symm
      have ca : chk a a.length = a := h.chkA (by rw [haL]; exact hLn)
      have cb : chk b b.length = b := h.chkB (by rw [← h.len, haL]; exact hLn)
      simp only [bubbleDownLoop, hpa, hpb, if_true, ca, cb, hcm]
      obtain ⟨hcase, _⟩ := pick_spec o a pos rfl
      generalize pick cfg a pos = cmp at hcase
      rw [haL] at hcase hpa
      obtain ⟨hc1, hcL, hpc⟩ : 1 ≤ cmp ∧ cmp ≤ L ∧ pos < cmp := by omega
      rw [← h.eq cmp ⟨hc1, hcL⟩]
      exact ih _ _ cmp (fuel_step hf hpc) hc1 (by rw [length_set]; exact haL) (h.set (Nat.lt_trans hpa hLn) _ (fun j hj _ => hj))
    · rw [bubbleDownLoop_done _ hpa, bubbleDownLoop_done _ (h.len ▸ hpa)]
      exact h

theorem bubbleDown_sim (o : StrictWeak cfg) {n L : Nat} (hLn : L < n) {a b : CHeap κ} {pos : Nat}
    (hp1 : 1 ≤ pos) (haL : a.length = L) (h : Sim cfg n (fun i => 1 ≤ i ∧ i ≤ L) a b) :
    Sim cfg n (fun i => 1 ≤ i ∧ i ≤ L) (bubbleDown cfg a pos) (bubbleDown cfg b pos) := by
  unfold bubbleDown
  rw [← h.len]
  exact bubbleDownLoop_sim o n L hLn _ a b pos (haL ▸ Nat.le_add_left _ _) hp1 haL h

theorem rootLoop_sim (o : StrictWeak cfg) (dead : Nat → Nat → Bool) (n : Nat) :
    ∀ fuel (a b : CHeap κ), a.length ≤ fuel + 1 → a.length ≤ n →
      Sim cfg n (fun i => 1 ≤ i ∧ i < a.length) a b →
      Sim cfg n (fun i => 1 ≤ i ∧ i < (rootLoop cfg dead fuel a).length)
        (rootLoop cfg dead fuel a) (rootLoop cfg dead fuel b) := by
  intro fuel
  induction fuel with
  | zero =>
    intro a b hf _ h
    rw [rootLoop_done dead 0 (Nat.not_lt.2 hf), rootLoop_done dead 0 (h.len ▸ Nat.not_lt.2 hf)]
    exact h
  | succ fuel ih =>
    intro a b hf han h
    by_cases hl : 1 < a.length
    · have e1 : get cfg b 1 = get cfg a 1 := (h.eq 1 ⟨Nat.le_refl _, hl⟩).symm
      rw [rootLoop_succ dead fuel hl (Nat.le_trans han h.sa),
        rootLoop_succ dead fuel (h.len ▸ hl) (h.len ▸ Nat.le_trans han h.sb), e1]
      cases hd : dead (get cfg a 1).h (get cfg a 1).c with
      | false => simp only [Bool.false_eq_true, if_false]; exact h
      | true =>
        simp only [if_true]
        have h3 := bubbleDown_sim o (Nat.lt_of_lt_of_le (pred_lt hl) han) (Nat.le_refl 1) (dropAt_length a 1)
          ((h.dropAt (Nat.le_refl 1) hl han).mono fun i hi => ⟨hi.1, Nat.lt_of_le_of_lt hi.2 (pred_lt hl)⟩)
        have hl3 : (bubbleDown cfg (dropAt cfg a 1) 1).length = a.length - 1 := by
          rw [bubbleDown_length, dropAt_length]
        refine ih _ _ (hl3 ▸ Nat.sub_le_of_le_add hf) (hl3 ▸ Nat.le_trans (Nat.sub_le _ _) han) (h3.mono ?_)
        intro i hi; rw [hl3] at hi; exact ⟨hi.1, Nat.le_of_lt hi.2⟩
    · rw [rootLoop_done dead _ hl, rootLoop_done dead _ (h.len ▸ hl)]
      exact h

theorem delScan_sim (h : Nat) (n : Nat) :
    ∀ fuel (a b : CHeap κ) cur, a.length ≤ cur + fuel → 1 ≤ cur → a.length ≤ n →
      Sim cfg n (fun i => 1 ≤ i ∧ i < a.length) a b →
      Sim cfg n (fun i => 1 ≤ i ∧ i < (delScan cfg h fuel a cur).length)
        (delScan cfg h fuel a cur) (delScan cfg h fuel b cur) := by
  intro fuel
  induction fuel with
  | zero =>
    intro a b cur hf _ _ s
    rw [delScan_done h 0 (cur := cur) (Nat.not_lt.2 hf), delScan_done h 0 (cur := cur) (s.len ▸ Nat.not_lt.2 hf)]
    exact s
  | succ fuel ih =>
    intro a b cur hf hc1 han s
    by_cases hcl : cur < a.length
    · have e1 : get cfg b cur = get cfg a cur := (s.eq cur ⟨hc1, hcl⟩).symm
      rw [delScan_succ h fuel hcl (Nat.le_trans han s.sa),
        delScan_succ h fuel (s.len ▸ hcl) (s.len ▸ Nat.le_trans han s.sb), e1]
      by_cases hh : (get cfg a cur).h = h
      · rw [if_pos hh, if_pos hh]
        refine ih _ _ cur (by rw [dropAt_length]; exact Nat.sub_le_of_le_add hf) hc1
          (by rw [dropAt_length]; exact Nat.le_trans (Nat.sub_le _ _) han) ((s.dropAt hc1 hcl han).mono fun i hi => ?_)
        rw [dropAt_length] at hi; exact ⟨hi.1, Nat.lt_of_lt_of_le hi.2 (Nat.sub_le _ _)⟩
      · rw [if_neg hh, if_neg hh]
        exact ih _ _ (cur + 1) (fuel_step hf (Nat.lt_succ_self cur)) (Nat.le_succ_of_le hc1) han s
    · rw [delScan_done h _ hcl, delScan_done h _ (s.len ▸ hcl)]
      exact s

theorem heapify_sim (o : StrictWeak cfg) (n L : Nat) (hLn : L < n) :
    ∀ idx (a b : CHeap κ), a.length = L → idx ≤ L / 2 →
      Sim cfg n (fun i => 1 ≤ i ∧ i < L) a b →
      Sim cfg n (fun i => 1 ≤ i ∧ i < L) (heapify cfg idx a) (heapify cfg idx b) := by
  intro idx
  induction idx with
  | zero => intro a b _ _ s; exact s
  | succ idx ih =>
    intro a b haL hidx s
    have hbL : b.length = L := by rw [← s.len]; exact haL
    have hiL : idx + 1 < L := by omega
    have hin : idx + 1 < n := Nat.lt_trans hiL hLn
    have e1 : get cfg b (idx + 1) = get cfg a (idx + 1) := (s.eq _ ⟨Nat.le_add_left 1 idx, hiL⟩).symm
    simp only [heapify, s.chkA hin, s.chkB hin, e1, haL, hbL]
    have s2 : Sim cfg n (fun i => 1 ≤ i ∧ i ≤ L) (set a L (get cfg a (idx + 1))) (set b L (get cfg a (idx + 1))) :=
      s.set hLn _ (fun j hj hne => ⟨hj.1, Nat.lt_of_le_of_ne hj.2 hne⟩)
    have s3 := bubbleDown_sim o hLn (Nat.le_add_left 1 idx) (by rw [length_set]; exact haL) s2
    refine ih _ _ (by rw [bubbleDown_length, length_set]; exact haL) (Nat.le_of_succ_le hidx) (s3.mono ?_)
    intro i hi; exact ⟨hi.1, Nat.le_of_lt hi.2⟩

/-- the bubble-up loop: hole at `pos`; the only index below 1 it reads is the sentinel, and of that only the key -/
theorem insertLoop_sim (o : StrictWeak cfg) (k : κ) (n p : Nat) (hpn : p < n) :
    ∀ fuel (a b : CHeap κ) pos, pos < fuel → 1 ≤ pos → pos ≤ p →
      (get cfg a 0).key = cfg.bot → (get cfg b 0).key = cfg.bot →
      Sim cfg n (fun i => 1 ≤ i ∧ i ≤ p ∧ i ≠ pos) a b →
      (insertLoop cfg k fuel a pos).2 = (insertLoop cfg k fuel b pos).2 ∧
      1 ≤ (insertLoop cfg k fuel a pos).2 ∧ (insertLoop cfg k fuel a pos).2 ≤ p ∧
      Sim cfg n (fun i => 1 ≤ i ∧ i ≤ p ∧ i ≠ (insertLoop cfg k fuel a pos).2)
        (insertLoop cfg k fuel a pos).1 (insertLoop cfg k fuel b pos).1 := by
  intro fuel
  induction fuel with
  | zero =>
    intro a b pos hf
    exact absurd hf (Nat.not_lt_zero _)
  | succ fuel ih =>
    intro a b pos hf h1 hp za zb s
    have hparp : pos / 2 ≤ p := Nat.le_trans (Nat.div_le_self _ _) hp
    have hpar : pos / 2 < n := Nat.lt_of_le_of_lt hparp hpn
    have hposn : pos < n := Nat.lt_of_le_of_lt hp hpn
    have ek : (get cfg b (pos / 2)).key = (get cfg a (pos / 2)).key := by
      by_cases h0 : pos / 2 = 0
      · rw [h0, za, zb]
      · rw [s.eq (pos / 2) ⟨Nat.pos_of_ne_zero h0, hparp, half_ne h1⟩]
    simp only [insertLoop, s.chkA hpar, s.chkB hpar, ek]
    cases hlt : cfg.lt k (get cfg a (pos / 2)).key with
    | false => simp only [Bool.false_eq_true, if_false]; exact ⟨trivial, h1, hp, s⟩
    | true =>
      simp only [if_true]
      have hpar1 : 1 ≤ pos / 2 := by
        rcases Nat.eq_zero_or_pos (pos / 2) with h0 | h0
        · rw [h0, za, o.bot_min] at hlt; cases hlt
        · exact h0
      rw [← s.eq (pos / 2) ⟨hpar1, hparp, half_ne h1⟩]
      have z : ∀ (x : CHeap κ), pos < x.mem.size →
          get cfg (set x pos (get cfg a (pos / 2))) 0 = get cfg x 0 := by
        intro x hx; rw [get_set_lt x 0 _ hx]; simp only [Nat.ne_of_lt h1, if_false]
      exact ih _ _ (pos / 2) (Nat.lt_of_lt_of_le (Nat.div_lt_self h1 (by decide)) (Nat.le_of_lt_succ hf)) hpar1 hparp
        (by rw [z a (Nat.lt_of_lt_of_le hposn s.sa)]; exact za)
        (by rw [z b (Nat.lt_of_lt_of_le hposn s.sb)]; exact zb)
        (s.set hposn _ (fun j hj hne => ⟨hj.1, hj.2.1, hne⟩))

/-- same live part of two blocks that satisfy `Inv`: the same `length` — where the never-allocated block
(`length = 0, size = 0`) counts as the block that holds just the sentinel (`length = 1`) — and the same entries at the
indices `1 … length - 1`.  Nothing is said about the allocated sizes, the memory at indices `≥ length` and the handler and
counter of the sentinel. -/
structure HeapEq (cfg : Cfg κ) (a b : CHeap κ) : Prop where
  inva : Inv cfg a
  invb : Inv cfg b
  len : max a.length 1 = max b.length 1
  ent : ∀ i, 1 ≤ i → i < a.length → get cfg a i = get cfg b i

/-- `insert` does not look beyond the live part, whether or not either block is reallocated -/
theorem insert_live (o : StrictWeak cfg) {a b : CHeap κ} (E : HeapEq cfg a b) (k : κ) (h c : Nat) :
    HeapEq cfg (insert cfg a k h c) (insert cfg b k h c) := by
  have Ia := (insert_spec o k h c E.inva).1
  have Ib := (insert_spec o k h c E.invb).1
  have Pa := prep_spec E.inva.1
  have Pb := prep_spec E.invb.1
  revert Ia Ib
  rw [insert_eq, insert_eq]
  generalize (prep cfg a).1 = a1 at Pa ⊢
  generalize hpa : (prep cfg a).2 = p at Pa ⊢
  generalize (prep cfg b).1 = b1 at Pb ⊢
  generalize hpb : (prep cfg b).2 = p' at Pb ⊢
  have hpp : p' = p := Pb.pdef.trans (E.len.symm.trans Pa.pdef.symm)
  subst hpp
  have hpl : ∀ i, 1 ≤ i → i < p' → i < a.length := by
    intro i h1 hi; have := Pa.pdef; omega
  have s : Sim cfg (p' + 2) (fun i => 1 ≤ i ∧ i ≤ p' ∧ i ≠ p') a1 b1 := by
    refine ⟨by rw [Pa.len, Pb.len], Pa.sz, Pb.sz, fun i hi => ?_⟩
    have hip : i < p' := Nat.lt_of_le_of_ne hi.2.1 hi.2.2
    rw [Pa.same i hi.1 hip, Pb.same i hi.1 hip]
    exact E.ent i hi.1 (hpl i hi.1 hip)
  obtain ⟨e2, q1, qp, s2⟩ := insertLoop_sim o k (p' + 2) p' (Nat.lt_succ_of_lt (Nat.lt_succ_self p')) (p' + 1) a1 b1 p' (Nat.lt_succ_self p') Pa.p1 (Nat.le_refl _)
    Pa.bot Pb.bot s
  have la : (insertLoop cfg k (p' + 1) a1 p').1.length = p' + 1 := by rw [insertLoop_length, Pa.len]
  generalize insertLoop cfg k (p' + 1) a1 p' = ra at e2 q1 qp s2 la
  generalize insertLoop cfg k (p' + 1) b1 p' = rb at e2 s2
  rw [← e2]
  have s3 : Sim cfg (p' + 2) (fun i => 1 ≤ i ∧ i ≤ p') (set ra.1 ra.2 ⟨k, h, c⟩) (set rb.1 ra.2 ⟨k, h, c⟩) :=
    s2.set (Nat.lt_succ_of_le (Nat.le_succ_of_le qp)) _ (fun j hj hne => ⟨hj.1, hj.2, hne⟩)
  refine fun Ia Ib => ⟨Ia, Ib, by rw [s3.len], fun i h1 hi => s3.eq i ⟨h1, ?_⟩⟩
  rw [length_set, la] at hi; exact Nat.le_of_lt_succ hi

theorem live_lt {m n i : Nat} (hl : max m 1 = max n 1) (h1 : 1 ≤ i) (hi : i < m) : i < n := by omega

theorem HeapEq.cases {a b : CHeap κ} (E : HeapEq cfg a b) :
    (a.length ≤ 1 ∧ b.length ≤ 1) ∨ (1 < a.length ∧ Sim cfg (a.length + 1) (fun i => 1 ≤ i ∧ i < a.length) a b) := by
  obtain ⟨⟨⟨_, ha⟩, _⟩, ⟨⟨_, hb⟩, _⟩, hl, he⟩ := E
  by_cases h2 : 1 < a.length
  · have hl' : a.length = b.length := by omega
    refine Or.inr ⟨h2, hl', ?_, ?_, fun i hi => he i hi.1 hi.2⟩
    · rcases ha with ha | ha <;> omega
    · rcases hb with hb | hb <;> omega
  · exact Or.inl (by omega)

theorem root_live (o : StrictWeak cfg) (dead : Nat → Nat → Bool) {a b : CHeap κ} (E : HeapEq cfg a b) :
    HeapEq cfg (root cfg dead a).1 (root cfg dead b).1 ∧ (root cfg dead a).2 = (root cfg dead b).2 := by
  have Ia := (root_spec o dead E.inva).1.inv
  have Ib := (root_spec o dead E.invb).1.inv
  rcases E.cases with ⟨h1, h1'⟩ | ⟨h2, h⟩
  · rw [root_short dead a h1, root_short dead b h1']
    exact ⟨E, rfl⟩
  · have R := rootLoop_sim o dead _ a.length a b (Nat.le_succ _) (Nat.le_succ _) h
    revert Ia Ib
    unfold root
    rw [← h.len]
    generalize rootLoop cfg dead a.length a = ra at R
    generalize rootLoop cfg dead a.length b = rb at R
    have h1n : 1 < a.length + 1 := Nat.lt_succ_of_lt h2
    by_cases hl : ra.length > 1
    · rw [if_pos hl, if_pos (R.len ▸ hl), R.chkA h1n, R.chkB h1n]
      exact fun Ia Ib => ⟨⟨Ia, Ib, by rw [R.len], fun i h1 hi => R.eq i ⟨h1, hi⟩⟩, R.eq 1 ⟨Nat.le_refl _, hl⟩⟩
    · rw [if_neg hl, if_neg (R.len ▸ hl)]
      exact fun Ia Ib => ⟨⟨Ia, Ib, by rw [R.len], fun i h1 hi => R.eq i ⟨h1, hi⟩⟩, rfl⟩

theorem deleteEvents_live (o : StrictWeak cfg) (h : Nat) {a b : CHeap κ} (E : HeapEq cfg a b) :
    HeapEq cfg (deleteEvents cfg a h) (deleteEvents cfg b h) := by
  have Ia := (deleteEvents_spec o h E.inva).1
  have Ib := (deleteEvents_spec o h E.invb).1
  rcases E.cases with ⟨h1, h1'⟩ | ⟨h2, s⟩
  · rw [deleteEvents_short a h h1, deleteEvents_short b h h1']
    exact E
  · have S := delScan_sim (cfg := cfg) h _ a.length a b 1 (Nat.le_add_left _ _) (Nat.le_refl _) (Nat.le_succ _) s
    have hlen := delScan_length_le (cfg := cfg) h a.length a 1
    revert Ia Ib
    unfold deleteEvents
    rw [← s.len]
    generalize delScan cfg h a.length a 1 = ra at S hlen
    generalize delScan cfg h a.length b 1 = rb at S
    dsimp only
    rw [← S.len]
    have H := heapify_sim o _ ra.length (Nat.lt_succ_of_le hlen) _ ra rb rfl (Nat.le_refl _) S
    exact fun Ia Ib => ⟨Ia, Ib, by rw [H.len], fun i h1 hi => H.eq i ⟨h1, by rw [heapify_length] at hi; exact hi⟩⟩

end JF.Heap
