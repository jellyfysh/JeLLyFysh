import JF.Lemmas.CompositeInv
import JF.Lemmas.KinematicsList
/-!
For C12: the global state (list of composite objects), `sliceAt` (object `i` is time-sliced as often as `i` occurs in the
in-state, `sliceAt_getElem?`), and generic facts used by the per-event lemmas of `JF/Lemmas/CompositeSteps.lean`.
-/
namespace JF.Composite
open JF JF.Kin
variable {d : Nat} {L : List ℚ} {cs : List (CObj ℚ)} {t : Time ℚ} {ls : List (PUnit ℚ)}

def AllGood (d : Nat) (L : List ℚ) (cs : List (CObj ℚ)) : Prop := ∀ c ∈ cs, Good d L c

/-- all leaves of the object carry the time stamp `t` if they move -/
def LS (t : Time ℚ) (c : CObj ℚ) : Prop := ∀ l ∈ c.leaves, Sliced t l

theorem getElem?_modify_ne {β : Type} (f : β → β) (xs : List β) {i j : Nat} (h : i ≠ j) : (xs.modify i f)[j]? = xs[j]? :=
  List.getElem?_modify_ne f xs h

theorem getElem?_modify_self {β : Type} (f : β → β) (xs : List β) (i : Nat) : (xs.modify i f)[i]? = (xs[i]?).map f :=
  List.getElem?_modify_eq f i xs

theorem modify_eq_self {β : Type} (g : β → β) (xs : List β) (j : Nat) (h : ∀ x, xs[j]? = some x → g x = x) :
    xs.modify j g = xs := by
  refine List.ext_getElem? fun i => ?_
  rw [List.getElem?_modify]
  cases hx : xs[i]? with
  | none => rfl
  | some x =>
    by_cases hji : j = i
    · subst hji; exact congrArg some ((if_pos rfl).trans (h x hx))
    · exact congrArg some (if_neg hji)

theorem leafOf_eq_some {i j : Nat} {a : PUnit ℚ} :
    leafOf cs i j = some a ↔ ∃ c, cs[i]? = some c ∧ c.leaves[j]? = some a := by
  unfold leafOf
  cases cs[i]? with
  | none => exact ⟨fun h => (nomatch h), fun ⟨_, h, _⟩ => (nomatch h)⟩
  | some c => exact ⟨fun h => ⟨c, rfl, h⟩, fun ⟨_, h, ha⟩ => Option.some.inj h ▸ ha⟩

theorem allGood_modify (h : AllGood d L cs) (i : Nat) (f : CObj ℚ → CObj ℚ)
    (hf : ∀ c, cs[i]? = some c → Good d L (f c)) : AllGood d L (cs.modify i f) :=
  forall_mem_modify f cs i h hf

theorem AllGood.get (h : AllGood d L cs) {i : Nat} {c : CObj ℚ}
    (hc : cs[i]? = some c) : Good d L c := h c (List.mem_of_getElem? hc)

theorem sliceAt_cons (L : List ℚ) (t : Time ℚ) (i : Nat) (S : List Nat) (cs : List (CObj ℚ)) :
    sliceAt Ops.rat L t (i :: S) cs = sliceAt Ops.rat L t S (cs.modify i (sliceComp Ops.rat L t)) := rfl

theorem sliceAt_getElem? (L : List ℚ) (t : Time ℚ) (S : List Nat) (cs : List (CObj ℚ)) (i : Nat) :
    (sliceAt Ops.rat L t S cs)[i]? = (cs[i]?).map (sliceComp Ops.rat L t)^[S.count i] :=
  getElem?_foldl_modify _ S cs i

theorem sliceAt_spec (hL : BoxOK d L) (t : Time ℚ) (S : List Nat) (h : AllGood d L cs) :
    AllGood d L (sliceAt Ops.rat L t S cs) ∧ ∀ i ∈ S, ∀ c, (sliceAt Ops.rat L t S cs)[i]? = some c → LS t c := by
  have key : ∀ i c, (sliceAt Ops.rat L t S cs)[i]? = some c → ∃ c0, cs[i]? = some c0 ∧ c = (sliceComp Ops.rat L t)^[S.count i] c0 :=
    fun i c hc => by rw [sliceAt_getElem?] at hc; obtain ⟨c0, h0, rfl⟩ := Option.map_eq_some_iff.mp hc; exact ⟨c0, h0, rfl⟩
  have good : ∀ {c0}, Good d L c0 → ∀ n, Good d L ((sliceComp Ops.rat L t)^[n] c0) :=
    fun h0 => Function.Iterate.rec (Good d L) h0 fun c hc => (sliceComp_good hL t hc).1
  refine ⟨fun c hc => ?_, fun i hi c hc => ?_⟩
  · obtain ⟨i, hi⟩ := List.getElem?_of_mem hc
    obtain ⟨c0, h0, rfl⟩ := key i c hi
    exact good (h.get h0) _
  · obtain ⟨c0, h0, rfl⟩ := key i c hc
    -- `i ∈ S`: the object was sliced at least once, and the last slice stamps its moving leaves with `t`
    obtain ⟨n, hn⟩ := Nat.exists_eq_succ_of_ne_zero (List.count_pos_iff.mpr hi).ne'
    rw [hn, Function.iterate_succ_apply']
    exact (sliceComp_good hL t (good (h.get h0) n)).2

theorem setCoord_getD (p : List ℚ) (d : Nat) : setCoord p d (p.getD d 0) = p := by
  rw [setCoord_eq_set]
  by_cases hd : d < p.length
  · rw [← List.getElem_eq_getD (h := hd), List.set_getElem_self]
  · exact List.set_eq_of_length_le (Nat.le_of_not_lt hd)

theorem setLeaves_get : ∀ (ups : List (Upd ℚ)) (ls : List (PUnit ℚ)) (k : Nat) (l : PUnit ℚ),
    (setLeaves ls ups)[k]? = some l →
    (k ∉ ups.map (·.leaf) ∧ ls[k]? = some l) ∨ (∃ u ∈ ups, u.leaf = k ∧ l.vel = u.vel)
  | [], ls, k, l, h => Or.inl ⟨by simp, h⟩
  | u :: ups, ls, k, l, h => by
    rw [setLeaves_cons] at h
    rcases setLeaves_get ups _ k l h with ⟨hn, hk⟩ | ⟨u', hu', e1, e2⟩
    · by_cases hku : u.leaf = k
      · right
        refine ⟨u, by simp, hku, ?_⟩
        subst hku
        rw [getElem?_modify_self] at hk
        cases h0 : ls[u.leaf]? with
        | none => simp [h0] at hk
        | some l0 =>
          simp only [h0, Option.map_some, Option.some.injEq] at hk
          subst hk; rfl
      · left
        rw [getElem?_modify_ne _ _ hku] at hk
        refine ⟨?_, hk⟩
        simp only [List.map_cons, List.mem_cons, not_or]
        exact ⟨fun e => hku e.symm, hn⟩
    · right; exact ⟨u', by simp [hu'], e1, e2⟩

theorem sh_setLeaves {v : List ℚ} (hv : NZ v) {ups : List (Upd ℚ)}
    (hls : ∀ j l, ls[j]? = some l → j ∉ ups.map (·.leaf) → l.vel = none ∨ l.vel = some v)
    (hups : ∀ u ∈ ups, u.vel = none ∨ u.vel = some v) : Sh (setLeaves ls ups) :=
  ⟨v, hv, fun l hl => by
    obtain ⟨k, hk⟩ := List.getElem?_of_mem hl
    rcases setLeaves_get ups ls k l hk with ⟨hn, h0⟩ | ⟨u, hu, _, e⟩
    · exact hls k l h0 hn
    · rw [e]; exact hups u hu⟩

theorem setLeaves_getElem?_of_not_mem : ∀ (ups : List (Upd ℚ)) (ls : List (PUnit ℚ)) (j : Nat),
    j ∉ ups.map (·.leaf) → (setLeaves ls ups)[j]? = ls[j]?
  | [], ls, j, _ => rfl
  | u :: ups, ls, j, h => by
    simp only [List.map_cons, List.mem_cons, not_or] at h
    rw [setLeaves_cons, setLeaves_getElem?_of_not_mem ups _ j h.2, getElem?_modify_ne _ _ (fun e => h.1 e.symm)]

theorem updsOK_map (ks : List Nat) (mk : Nat → Upd ℚ)
    (hleaf : ∀ k, (mk k).leaf = k) (hnd : ks.Nodup)
    (hok : ∀ k ∈ ks, ∃ l, ls[k]? = some l ∧ UOK d t l (mk k)) :
    UpdsOK d t ls (ks.map mk) := by
  refine ⟨?_, ?_⟩
  · have : (ks.map mk).map (·.leaf) = ks := by
      rw [List.map_map]
      conv_rhs => rw [← List.map_id ks]
      exact List.map_congr_left (fun k _ => hleaf k)
    rw [this]; exact hnd
  · intro u hu
    obtain ⟨k, hk, rfl⟩ := List.mem_map.mp hu
    rw [hleaf k]
    exact hok k hk

theorem zipIdx_map_fst {β γ : Type} (g : β → γ) (l : List β) (n : Nat) : (l.zipIdx n).map (fun p => g p.1) = l.map g :=
  List.map_map.symm.trans (congrArg (List.map g) (List.zipIdx_map_fst n l))

end JF.Composite
