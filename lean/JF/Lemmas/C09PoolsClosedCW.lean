import JF.Props.C10Closed
import JF.Lemmas.C09PoolsCfg
import JF.Lemmas.C09PoolsClosedAct
/-!
C09, last clause (no `TagActivatorError`), coulomb_atoms world (`JF.CW`, `JF.Sys`) — the pieces of `no_pool_exhausted_closed`:

* `init_cap`, `occNext_cap`: `_maximum_number_occupants` never changes (`CW.init_fields`, `CW.update_cap`, `JF/Lemmas/OccFields.lean`);
* `Fits`: how a generated `PoolCfg` describes the environment / state of a run (number of point masses, cell system, occupant
  limit, number of charged point masses) — invariants of `SysStep` (`fits_step`);
* `next_movers` (beside `SystemInv.occInv_next`, `C10Closed.inGrid_of_inBox`): the joint invariant of `JF/Props/SystemInv.lean` read for
  the state the NEXT leg's taggers will yield on (`⟨s.us, occ'⟩`, `occ'` the occupancy after the next `update`), i.e. BEFORE that leg
  is known to succeed;
* `yield_le_demandBound`: on such a state every tagger of the wiring yields at most `demandBound pc T` in-states.
-/
namespace JF.C09Pools
open JF JF.Act JF.Heap JF.Sched JF.Med JF.CW JF.C14 JF.MediatorLoop JF.Kin JF.Sys JF.SystemInv JF.CellTaggers JF.C10C11 JF.C10Closed

theorem init_cap (cap : Int) (units : List Occ.UnitIn) : (Occ.init cap units).cap = cap :=
  (init_fields cap units).1

theorem occNext_cap {env : Env ℚ} {hasOcc : Bool} {s : Sys} {occ' : Occ.State} (h : occNext env hasOcc s = some occ') :
    occ'.cap = s.occ.cap := by
  unfold occNext at h
  split at h
  · cases hasOcc
    · cases h; rfl
    · obtain ⟨_, _, hu⟩ := occAfter_some h
      exact update_cap hu
  · cases h; rfl

/-- **how the generated data of a configuration (`JF/Gen/Pools.lean`) describe the environment and the state of a run**: the
configuration consists of point masses (`nPer = 1`), `nRoots` of them; if the activator has an internal state, its cell system, its
occupant limit and the number of point masses that pass its charge filter are the generated ones.  All of this is fixed by the
initial state and the environment (`fits_step`). -/
structure Fits (pc : PoolCfg) (env : Env ℚ) (s : Sys) : Prop where
  nPer : pc.nPer = 1
  nRoots : s.us.length = pc.nRoots
  occ : hasOccOf pc.w = true → ∃ o, pc.occs[0]? = some o ∧ o.grid = env.grid ∧ o.cap = s.occ.cap ∧
    o.nRel = (relUnits env s.us.length).length

section
variable {env : Env ℚ} {geo : Geo env} {c : Wiring} {S : TaggerIdx} {needs : HandlerId → Bool}

theorem sysStep_length (ho : env.o = Ops.rat) {s s' : Sys} {o : Oracle XTime} {cm : Committed XTime}
    (st : SysStep env geo c S needs s o cm s') : s'.us.length = s.us.length := by
  obtain ⟨t, _, hc⟩ := st.ev
  exact commits_length ho hc

theorem Fits.congr {pc : PoolCfg} {s s' : Sys} (hl : s'.us.length = s.us.length) (hc : s'.occ.cap = s.occ.cap)
    (h : Fits pc env s) : Fits pc env s' := by
  refine ⟨h.nPer, by rw [hl]; exact h.nRoots, fun hO => ?_⟩
  obtain ⟨o', h1, h2, h3, h4⟩ := h.occ hO
  exact ⟨o', h1, h2, by rw [hc]; exact h3, by rw [hl]; exact h4⟩

theorem fits_step {pc : PoolCfg} (ho : env.o = Ops.rat) {s s' : Sys} {o : Oracle XTime} {cm : Committed XTime}
    (st : SysStep env geo pc.w S needs s o cm s') (h : Fits pc env s) : Fits pc env s' :=
  h.congr (sysStep_length ho st) (occNext_cap st.occ1)

/-- `Fits` speaks about quantities no leg changes -/
theorem fits_step_back {pc : PoolCfg} (ho : env.o = Ops.rat) {s s' : Sys} {o : Oracle XTime} {cm : Committed XTime}
    (st : SysStep env geo pc.w S needs s o cm s') (h : Fits pc env s') : Fits pc env s :=
  h.congr (sysStep_length ho st).symm (occNext_cap st.occ1).symm

theorem fits_reach {pc : PoolCfg} (ho : env.o = Ops.rat) {os : List (Oracle XTime)} {cs : List (Committed XTime)} {s : Sys}
    (hr : Reach env geo pc.w S needs os cs s) :
    ∃ s0, Init env pc.w s0 ∧ (Fits pc env s0 → Fits pc env s) := by
  induction hr with
  | init s h => exact ⟨s, h, id⟩
  | step prev _ hstep ih =>
    obtain ⟨s0, h0, hf⟩ := ih
    exact ⟨s0, h0, fun h => fits_step ho hstep (hf h)⟩

/-- at most one point mass moves after every leg (C07's chain invariant, from the joint invariant) -/
theorem next_movers (H : Hyp env c S) {os : List (Oracle XTime)} {cs : List (Committed XTime)} {s : Sys}
    (hr : Reach env geo c S needs os cs s) (nt : TieFree c cs) : (movers s.us).length ≤ 1 := by
  rcases joint_inv H hr nt with ⟨_, hi⟩ | ⟨cs0, cl, E, tl, a, pos, v, ts, _, big⟩
  · rw [movers_rest hi.rest]; simp
  · rw [big.kin.movers]; simp

end

/-- **the demand of every tagger of a coulomb_atoms wiring on a state with at most one moving point mass whose occupancy satisfies
C11's invariant is at most `demandBound`** — this is the hypothesis `hy` of `shipped_no_pool_exhausted_partial`, discharged -/
theorem yield_le_demandBound (pc : PoolCfg) (env : Env ℚ) (hsup : Supported pc.w = true) (us : List (PUnit ℚ))
    (occ' : Occ.State) (hnPer : pc.nPer = 1) (hn : us.length = pc.nRoots) (hm : (movers us).length ≤ 1)
    (hcell : hasOccOf pc.w = true → (∃ o, pc.occs[0]? = some o ∧ o.grid = env.grid ∧ o.cap = occ'.cap ∧
        o.nRel = (relUnits env us.length).length) ∧
      C11.OccInv (relW env us) (cellW env us) occ' ∧ InGrid env.grid (relUnits env us.length) (cellW env us))
    (T : TaggerIdx) : (yieldCls env (pc.w.tagger T).cls ⟨us, occ'⟩).length ≤ demandBound pc T := by
  have hcr : cellReading (pc.w.tagger T).cls = true →
      ∃ o, pc.occOf T = some o ∧ o.grid = env.grid ∧ o.cap = occ'.cap ∧ o.nRel = (relUnits env us.length).length ∧
        C11.OccInv (relW env us) (cellW env us) occ' ∧ InGrid env.grid (relUnits env us.length) (cellW env us) := by
    intro hc
    rcases supported_tagger hsup T with hok | ⟨hu, _⟩
    · unfold okT at hok
      simp only [Bool.and_eq_true, Bool.or_eq_true, Bool.not_eq_true', hc, Bool.true_eq_false, false_or, beq_iff_eq] at hok
      obtain ⟨⟨⟨_, _⟩, hlab, hnl⟩, _⟩ := hok
      have hO : hasOccOf pc.w = true := by
        unfold hasOccOf
        cases hl : pc.w.labels with
        | nil => rw [hl] at hnl; simp at hnl
        | cons _ _ => rfl
      obtain ⟨⟨o, h1, h2, h3, h4⟩, h5, h6⟩ := hcell hO
      refine ⟨o, ?_, h2, h3, h4, h5, h6⟩
      unfold PoolCfg.occOf
      rw [hlab]; exact h1
    · rw [hu] at hc; cases hc
  unfold demandBound
  cases hcls : (pc.w.tagger T).cls with
  | noInState | activeGlobalState | activeRootUnit | unknown => simp [yieldCls]
  | cellBoundary => exact cw_cellBoundary env _
  | cellVeto => exact cw_cellVeto env _
  | factorTypeMap =>
    simp only [hnPer, beq_self_eq_true, if_true]
    rw [← hn]
    exact cw_factorTypeMap_one_chain env ⟨us, occ'⟩ hm
  | excludedCells =>
    obtain ⟨o, h1, h2, h3, h4, h5, h6⟩ := hcr (by rw [hcls]; rfl)
    simp only [h1, h2, h3, h4]
    exact (cw_cell_demands env ⟨us, occ'⟩ h5 _ (isRelevantList_relUnits env us) h6).1
  | cellBounding =>
    obtain ⟨o, h1, h2, h3, h4, h5, h6⟩ := hcr (by rw [hcls]; rfl)
    simp only [h1, h2, h4]
    exact (cw_cell_demands env ⟨us, occ'⟩ h5 _ (isRelevantList_relUnits env us) h6).2.1
  | surplusCells =>
    obtain ⟨o, h1, h2, h3, h4, h5, h6⟩ := hcr (by rw [hcls]; rfl)
    simp only [h1, h4]
    exact (cw_cell_demands env ⟨us, occ'⟩ h5 _ (isRelevantList_relUnits env us) h6).2.2

end JF.C09Pools
