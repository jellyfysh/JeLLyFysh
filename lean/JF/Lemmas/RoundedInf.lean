import JF.Num.Rounded
/-!
# The rounding-abstract scalar layer WITH the non-finite IEEE values

`R fm` (`JF/Num/Rounded.lean`) is the carrier of the FINITE values of a `FloatModel`.  `jellyfysh/base/time.py`
also computes with `math.inf` (`from math import inf as float_inf`, the module-level `inf = Time(float_inf, float_inf)`,
the `isinf` branches of `from_float` and `__add__`), and what it computes from `inf` can be `-inf` (`t - inf`) and
NaN (`inf - inf`, `divmod(inf, 1.0)`).  `RX fm` is the carrier that has them:

    RX fm  =  fin x (x : R fm)  |  pinf  |  ninf  |  nan

with the IEEE-754 rules for `+ - * /`, comparisons and `==` on the non-finite values (NaN is unordered and unequal to
everything including itself; `inf - inf`, `0 * inf`, `inf / inf` are NaN), and `Ops.roundedX fm : Ops (RX fm)` with the
C library rules for `floor` and `fmod` (`floor(±inf) = ±inf`, `fmod(±inf, y) = nan`, `fmod(x, ±inf) = x`), `isInf` true
exactly on `pinf`/`ninf` (`math.isinf(nan)` is `False`).

On `fin` everything is DEFINITIONALLY the finite operation (`fin a + fin b = fin (a + b)` by `rfl`, …): `fin` is a
homomorphism of scalar layers, which is what transfers the finite theorems (`pydivmod1_fin` below).

Outside the model, as in `R fm`: overflow of a finite operation to `±inf` (`FloatModel.binary64` saturates, and no theorem
rounds a number above `huge`), signed zeros, NaN payloads.  Where Python RAISES instead of returning an IEEE value
(`x / 0.0`, `x % 0.0`: `ZeroDivisionError`; `int(inf)`: `OverflowError`) the entry is a convention that no model reaches
(`time.py` divides only by the literal `1.0`, inside `divmod`): `fin a / fin 0 = fin (a / 0)` as in `R fm`,
`fmod (fin a) (fin 0) = fin (fmod a 0)` as in `R fm`, `toInt` of a non-finite value is `0`.

Proof-side file (imports Mathlib through `Rounded`; never linked into a driver).
-/
namespace JF

/-- finite representable values, `+inf`, `-inf`, NaN -/
inductive RX (fm : FloatModel) : Type
  | fin (x : R fm)
  | pinf
  | ninf
  | nan

namespace RX
variable {fm : FloatModel}
open R

/-- IEEE negation: exact sign flip -/
def neg : RX fm → RX fm
  | fin a => fin (-a)
  | pinf => ninf
  | ninf => pinf
  | nan => nan

/-- IEEE addition: `inf + (-inf)` is NaN, NaN propagates, an infinity absorbs every finite value -/
def add : RX fm → RX fm → RX fm
  | fin a, fin b => fin (a + b)
  | fin _, pinf => pinf
  | fin _, ninf => ninf
  | fin _, nan => nan
  | pinf, fin _ => pinf
  | pinf, pinf => pinf
  | pinf, ninf => nan
  | pinf, nan => nan
  | ninf, fin _ => ninf
  | ninf, pinf => nan
  | ninf, ninf => ninf
  | ninf, nan => nan
  | nan, _ => nan

/-- IEEE subtraction: `inf - inf` is NaN -/
def sub : RX fm → RX fm → RX fm
  | fin a, fin b => fin (a - b)
  | fin _, pinf => ninf
  | fin _, ninf => pinf
  | fin _, nan => nan
  | pinf, fin _ => pinf
  | pinf, pinf => nan
  | pinf, ninf => pinf
  | pinf, nan => nan
  | ninf, fin _ => ninf
  | ninf, pinf => ninf
  | ninf, ninf => nan
  | ninf, nan => nan
  | nan, _ => nan

/-- the infinity with the sign of a non-zero finite factor, NaN for a zero factor (`0 * inf`) -/
def infTimes (a : R fm) (positive : Bool) : RX fm :=
  if toQ a = 0 then nan else if (0 < toQ a) = positive then pinf else ninf

def mul : RX fm → RX fm → RX fm
  | fin a, fin b => fin (a * b)
  | fin a, pinf => infTimes a true
  | fin a, ninf => infTimes a false
  | fin _, nan => nan
  | pinf, fin b => infTimes b true
  | pinf, pinf => pinf
  | pinf, ninf => ninf
  | pinf, nan => nan
  | ninf, fin b => infTimes b false
  | ninf, pinf => ninf
  | ninf, ninf => pinf
  | ninf, nan => nan
  | nan, _ => nan

/-- IEEE division; `finite / ±inf = 0`, `inf / inf` is NaN; a zero divisor is a convention (see the header) -/
def div : RX fm → RX fm → RX fm
  | fin a, fin b => fin (a / b)
  | fin _, pinf => fin (ofQ 0)
  | fin _, ninf => fin (ofQ 0)
  | fin _, nan => nan
  | pinf, fin b => if 0 ≤ toQ b then pinf else ninf
  | pinf, _ => nan
  | ninf, fin b => if 0 ≤ toQ b then ninf else pinf
  | ninf, _ => nan
  | nan, _ => nan

/-- IEEE `<`: NaN is unordered -/
def ltb : RX fm → RX fm → Bool
  | fin a, fin b => decide (a < b)
  | fin _, pinf => true
  | fin _, ninf => false
  | fin _, nan => false
  | pinf, _ => false
  | ninf, fin _ => true
  | ninf, pinf => true
  | ninf, ninf => false
  | ninf, nan => false
  | nan, _ => false

def leb : RX fm → RX fm → Bool
  | fin a, fin b => decide (a ≤ b)
  | fin _, pinf => true
  | fin _, ninf => false
  | fin _, nan => false
  | pinf, fin _ => false
  | pinf, pinf => true
  | pinf, ninf => false
  | pinf, nan => false
  | ninf, fin _ => true
  | ninf, pinf => true
  | ninf, ninf => true
  | ninf, nan => false
  | nan, _ => false

/-- IEEE `==`: NaN is not equal to itself -/
def beq : RX fm → RX fm → Bool
  | fin a, fin b => a == b
  | fin _, _ => false
  | pinf, pinf => true
  | pinf, _ => false
  | ninf, ninf => true
  | ninf, _ => false
  | nan, _ => false

instance : Add (RX fm) := ⟨add⟩
instance : Sub (RX fm) := ⟨sub⟩
instance : Mul (RX fm) := ⟨mul⟩
instance : Div (RX fm) := ⟨div⟩
instance : Neg (RX fm) := ⟨neg⟩
instance : LT (RX fm) := ⟨fun a b => ltb a b = true⟩
instance : LE (RX fm) := ⟨fun a b => leb a b = true⟩
instance : DecidableLT (RX fm) := fun a b => inferInstanceAs (Decidable (ltb a b = true))
instance : DecidableLE (RX fm) := fun a b => inferInstanceAs (Decidable (leb a b = true))
instance : BEq (RX fm) := ⟨beq⟩

theorem lt_def (a b : RX fm) : a < b ↔ ltb a b = true := Iff.rfl
theorem le_def (a b : RX fm) : a ≤ b ↔ leb a b = true := Iff.rfl
/-- for EVERY decidability instance (simp rewrites the proposition under `decide` and leaves the instance behind) -/
@[simp] theorem decide_lt (a b : RX fm) [inst : Decidable (a < b)] : @decide (a < b) inst = ltb a b := by
  cases h : ltb a b
  · exact decide_eq_false (by rw [lt_def, h]; simp)
  · exact decide_eq_true (by rw [lt_def, h])
@[simp] theorem decide_le (a b : RX fm) [inst : Decidable (a ≤ b)] : @decide (a ≤ b) inst = leb a b := by
  cases h : leb a b
  · exact decide_eq_false (by rw [le_def, h]; simp)
  · exact decide_eq_true (by rw [le_def, h])
@[simp] theorem beq_def (a b : RX fm) : (a == b) = beq a b := rfl
@[simp] theorem bne_def (a b : RX fm) : (a != b) = !(beq a b) := rfl
theorem add_def (a b : RX fm) : a + b = add a b := rfl
theorem sub_def (a b : RX fm) : a - b = sub a b := rfl
theorem mul_def (a b : RX fm) : a * b = mul a b := rfl
theorem div_def (a b : RX fm) : a / b = div a b := rfl
theorem neg_def (a : RX fm) : -a = neg a := rfl


@[simp] theorem fin_add (a b : R fm) : (fin a + fin b : RX fm) = fin (a + b) := rfl
@[simp] theorem fin_sub (a b : R fm) : (fin a - fin b : RX fm) = fin (a - b) := rfl
@[simp] theorem fin_mul (a b : R fm) : (fin a * fin b : RX fm) = fin (a * b) := rfl
@[simp] theorem fin_div (a b : R fm) : (fin a / fin b : RX fm) = fin (a / b) := rfl
@[simp] theorem fin_neg (a : R fm) : (-(fin a) : RX fm) = fin (-a) := rfl
@[simp] theorem ltb_fin (a b : R fm) : ltb (fin a : RX fm) (fin b) = decide (a < b) := rfl
@[simp] theorem leb_fin (a b : R fm) : leb (fin a : RX fm) (fin b) = decide (a ≤ b) := rfl
@[simp] theorem beq_fin (a b : R fm) : beq (fin a : RX fm) (fin b) = (a == b) := rfl
theorem fin_lt (a b : R fm) : (fin a : RX fm) < fin b ↔ a < b := by rw [lt_def, ltb_fin, decide_eq_true_eq]
theorem fin_le (a b : R fm) : (fin a : RX fm) ≤ fin b ↔ a ≤ b := by rw [le_def, leb_fin, decide_eq_true_eq]

def isNaN : RX fm → Bool
  | nan => true
  | _ => false

end RX

open R in
/-- The scalar operations over `RX fm`: the finite ones of `Ops.rounded fm` on `fin`, the C library's values on the rest
(`floor(±inf) = ±inf`, `floor(nan) = nan`; `fmod(±inf, y) = nan`, `fmod(x, ±inf) = x` for finite `x`, NaN propagates;
`math.isinf` is true exactly on `±inf`, in particular FALSE on NaN). -/
def Ops.roundedX (fm : FloatModel) : Ops (RX fm) where
  ofInt n := .fin ((Ops.rounded fm).ofInt n)
  floor
    | .fin a => .fin ((Ops.rounded fm).floor a)
    | .pinf => .pinf
    | .ninf => .ninf
    | .nan => .nan
  fmod
    | .fin a, .fin b => .fin ((Ops.rounded fm).fmod a b)
    | .fin a, .pinf => .fin a
    | .fin a, .ninf => .fin a
    | .fin _, .nan => .nan
    | .pinf, _ => .nan
    | .ninf, _ => .nan
    | .nan, _ => .nan
  toInt
    | .fin a => (Ops.rounded fm).toInt a
    | _ => 0
  isInf
    | .pinf => true
    | .ninf => true
    | _ => false
  zeroLike
    | .fin a => .fin ((Ops.rounded fm).zeroLike a)
    | _ => .fin (ofQ 0)
  sqrt
    | .fin a => .fin ((Ops.rounded fm).sqrt a)
    | .pinf => .pinf
    | _ => .nan

namespace RX
variable {fm : FloatModel}
open R

@[simp] theorem X_ofInt (n : ℤ) : (Ops.roundedX fm).ofInt n = fin ((Ops.rounded fm).ofInt n) := rfl
@[simp] theorem X_floor_fin (a : R fm) : (Ops.roundedX fm).floor (fin a) = fin ((Ops.rounded fm).floor a) := rfl
@[simp] theorem X_floor_pinf : (Ops.roundedX fm).floor pinf = pinf := rfl
@[simp] theorem X_floor_nan : (Ops.roundedX fm).floor nan = nan := rfl
@[simp] theorem X_fmod_fin (a b : R fm) :
    (Ops.roundedX fm).fmod (fin a) (fin b) = fin ((Ops.rounded fm).fmod a b) := rfl
@[simp] theorem X_fmod_pinf (y : RX fm) : (Ops.roundedX fm).fmod pinf y = nan := rfl
@[simp] theorem X_fmod_ninf (y : RX fm) : (Ops.roundedX fm).fmod ninf y = nan := rfl
@[simp] theorem X_fmod_nan (y : RX fm) : (Ops.roundedX fm).fmod nan y = nan := rfl
@[simp] theorem X_isInf_fin (a : R fm) : (Ops.roundedX fm).isInf (fin a) = false := rfl
@[simp] theorem X_isInf_pinf : (Ops.roundedX fm).isInf (pinf : RX fm) = true := rfl
@[simp] theorem X_isInf_ninf : (Ops.roundedX fm).isInf (ninf : RX fm) = true := rfl
@[simp] theorem X_isInf_nan : (Ops.roundedX fm).isInf (nan : RX fm) = false := rfl
@[simp] theorem X_zeroLike_fin (a : R fm) :
    (Ops.roundedX fm).zeroLike (fin a) = fin ((Ops.rounded fm).zeroLike a) := rfl
@[simp] theorem X_toInt_fin (a : R fm) : (Ops.roundedX fm).toInt (fin a) = (Ops.rounded fm).toInt a := by rfl

/-- `divmod(x, 1.0)` of a finite `x` is computed inside the finite values, by the finite operations: EVERY step of
`float_divmod` commutes with `fin` (no hypothesis on `x`: representable or not, of either sign). -/
theorem pydivmod1_fin (x : R fm) :
    pydivmod1 (Ops.roundedX fm) (fin x)
      = (fin (pydivmod1 (Ops.rounded fm) x).1, fin (pydivmod1 (Ops.rounded fm) x).2) := by
  have hite : ∀ (c : Prop) [Decidable c] (a b : R fm),
      (if c then (fin a : RX fm) else fin b) = fin (if c then a else b) :=
    fun c _ a b => by split_ifs <;> rfl
  simp only [pydivmod1, X_ofInt, X_fmod_fin, fin_sub, fin_div, fin_add, bne, RX.beq_def, beq_fin, fin_lt,
    hite, X_floor_fin, X_zeroLike_fin]

/-- `divmod(±inf, 1.0) = divmod(nan, 1.0) = (nan, nan)`: `fmod` is NaN (`h` holds by `rfl` for these), then `(x - nan) / 1.0`
is NaN, both are "true", neither sign test fires, `floor(nan)` is NaN. -/
theorem pydivmod1_of_fmod_nan (x : RX fm) (h : (Ops.roundedX fm).fmod x ((Ops.roundedX fm).ofInt 1) = nan) :
    pydivmod1 (Ops.roundedX fm) x = (nan, nan) := by
  have hs : x - nan = nan := by cases x <;> rfl
  simp only [pydivmod1, h, hs]
  simp [div_def, div, add_def, add, sub_def, sub, beq]

end RX
end JF
