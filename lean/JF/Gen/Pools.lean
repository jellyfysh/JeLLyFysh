/- GENERATED by harness/translate_pools.py from the .ini files of the tree under verification — do not edit. -/
import JF.Lemmas.C09PoolsCfg
import JF.Gen.Wirings
namespace JF.C09Pools.Gen
open JF.Act JF.Act.Gen JF.C09Pools

/-- `config_files/2018_JCP_149_064113/coulomb_atoms/cell_bounded.ini` -/
def pool_coulomb_atoms_cell_bounded : PoolCfg := {
  w := cfg_coulomb_atoms_cell_bounded
  nRoots := 2, nPer := 1
  factorFile := ""
  ftype := ["", "", "", "", "", "", "", ""]
  sel := [0, 0, 2, 0, 2, 2, 2, 2]
  occs := [{ level := 1, grid := ⟨[3, 5, 7], 1⟩, cap := 1, nRel := 2 }] }

/-- `config_files/2018_JCP_149_064113/coulomb_atoms/cell_veto.ini` -/
def pool_coulomb_atoms_cell_veto : PoolCfg := {
  w := cfg_coulomb_atoms_cell_veto
  nRoots := 2, nPer := 1
  factorFile := ""
  ftype := ["", "", "", "", "", "", "", ""]
  sel := [0, 0, 2, 0, 2, 2, 2, 2]
  occs := [{ level := 1, grid := ⟨[3, 5, 7], 1⟩, cap := 1, nRel := 2 }] }

/-- `config_files/2018_JCP_149_064113/coulomb_atoms/power_bounded.ini` -/
def pool_coulomb_atoms_power_bounded : PoolCfg := {
  w := cfg_coulomb_atoms_power_bounded
  nRoots := 2, nPer := 1
  factorFile := "factor_set_coulomb_atoms.txt"
  ftype := ["Coulomb", "", "", "", ""]
  sel := [0, 2, 2, 2, 2]
  occs := [] }

/-- `config_files/2018_JCP_149_064113/coulomb_atoms/power_bounded_dump.ini` -/
def pool_coulomb_atoms_power_bounded_dump : PoolCfg := {
  w := cfg_coulomb_atoms_power_bounded_dump
  nRoots := 2, nPer := 1
  factorFile := "factor_set_coulomb_atoms.txt"
  ftype := ["Coulomb", "", "", "", "", ""]
  sel := [0, 2, 2, 2, 2, 2]
  occs := [] }

/-- `config_files/2018_JCP_149_064113/dipoles/atom_factors.ini` -/
def pool_dipoles_atom_factors : PoolCfg := {
  w := cfg_dipoles_atom_factors
  nRoots := 2, nPer := 2
  factorFile := "factor_set_dipoles_atomic.txt"
  ftype := ["Coulomb", "Harmonic", "Repulsive", "", "", "", ""]
  sel := [0, 0, 0, 2, 2, 2, 2]
  occs := [] }

/-- `config_files/2018_JCP_149_064113/dipoles/cell_bounded.ini` -/
def pool_dipoles_cell_bounded : PoolCfg := {
  w := cfg_dipoles_cell_bounded
  nRoots := 2, nPer := 2
  factorFile := "factor_set_dipoles_dipole.txt"
  ftype := ["", "", "", "", "Harmonic", "Repulsive", "", "", "", ""]
  sel := [0, 0, 0, 2, 0, 0, 2, 2, 2, 2]
  occs := [{ level := 1, grid := ⟨[3, 5, 7], 1⟩, cap := 1, nRel := 2 }] }

/-- `config_files/2018_JCP_149_064113/dipoles/cell_veto.ini` -/
def pool_dipoles_cell_veto : PoolCfg := {
  w := cfg_dipoles_cell_veto
  nRoots := 2, nPer := 2
  factorFile := "factor_set_dipoles_dipole.txt"
  ftype := ["", "", "", "", "Harmonic", "Repulsive", "", "", "", ""]
  sel := [0, 0, 0, 2, 0, 0, 2, 2, 2, 2]
  occs := [{ level := 1, grid := ⟨[3, 5, 7], 1⟩, cap := 1, nRel := 2 }] }

/-- `config_files/2018_JCP_149_064113/dipoles/dipole_factors_inside_first.ini` -/
def pool_dipoles_dipole_factors_inside_first : PoolCfg := {
  w := cfg_dipoles_dipole_factors_inside_first
  nRoots := 2, nPer := 2
  factorFile := "factor_set_dipoles_dipole.txt"
  ftype := ["Coulomb", "Harmonic", "Repulsive", "", "", "", ""]
  sel := [0, 0, 0, 2, 2, 2, 2]
  occs := [] }

/-- `config_files/2018_JCP_149_064113/dipoles/dipole_factors_outside_first.ini` -/
def pool_dipoles_dipole_factors_outside_first : PoolCfg := {
  w := cfg_dipoles_dipole_factors_outside_first
  nRoots := 2, nPer := 2
  factorFile := "factor_set_dipoles_dipole.txt"
  ftype := ["Coulomb", "Harmonic", "Repulsive", "", "", "", ""]
  sel := [0, 0, 0, 2, 2, 2, 2]
  occs := [] }

/-- `config_files/2018_JCP_149_064113/dipoles/dipole_factors_ratio.ini` -/
def pool_dipoles_dipole_factors_ratio : PoolCfg := {
  w := cfg_dipoles_dipole_factors_ratio
  nRoots := 2, nPer := 2
  factorFile := "factor_set_dipoles_dipole.txt"
  ftype := ["Coulomb", "Harmonic", "Repulsive", "", "", "", ""]
  sel := [0, 0, 0, 2, 2, 2, 2]
  occs := [] }

/-- `config_files/2018_JCP_149_064113/dipoles/dipole_motion.ini` -/
def pool_dipoles_dipole_motion : PoolCfg := {
  w := cfg_dipoles_dipole_motion
  nRoots := 2, nPer := 2
  factorFile := "factor_set_dipoles_dipole.txt"
  ftype := ["Harmonic", "Coulomb", "Repulsive", "Coulomb", "Repulsive", "", "", "", "", "", ""]
  sel := [0, 0, 0, 1, 1, 2, 2, 2, 2, 2, 2]
  occs := [] }

/-- `config_files/2018_JCP_149_064113/water/coulomb_cell_veto_lj_cell_veto.ini` -/
def pool_water_coulomb_cell_veto_lj_cell_veto : PoolCfg := {
  w := cfg_water_coulomb_cell_veto_lj_cell_veto
  nRoots := 2, nPer := 3
  factorFile := "factor_set_water.txt"
  ftype := ["Harmonic", "Bending", "", "", "", "", "", "", "", "", "", "", "", ""]
  sel := [0, 0, 2, 0, 0, 0, 2, 0, 0, 0, 2, 2, 2, 2]
  occs := [{ level := 2, grid := ⟨[6, 6, 6], 2⟩, cap := 1, nRel := 2 },
    { level := 1, grid := ⟨[6, 6, 6], 2⟩, cap := 1, nRel := 2 }] }

/-- `config_files/2018_JCP_149_064113/water/coulomb_cell_veto_lj_inverted.ini` -/
def pool_water_coulomb_cell_veto_lj_inverted : PoolCfg := {
  w := cfg_water_coulomb_cell_veto_lj_inverted
  nRoots := 2, nPer := 3
  factorFile := "factor_set_water.txt"
  ftype := ["Harmonic", "Bending", "LennardJones", "", "", "", "", "", "", "", ""]
  sel := [0, 0, 0, 2, 0, 0, 0, 2, 2, 2, 2]
  occs := [{ level := 1, grid := ⟨[6, 6, 6], 2⟩, cap := 1, nRel := 2 }] }

/-- `config_files/2018_JCP_149_064113/water/coulomb_power_bounded_lj_cell_bounded.ini` -/
def pool_water_coulomb_power_bounded_lj_cell_bounded : PoolCfg := {
  w := cfg_water_coulomb_power_bounded_lj_cell_bounded
  nRoots := 2, nPer := 3
  factorFile := "factor_set_water.txt"
  ftype := ["Coulomb", "Harmonic", "Bending", "", "", "", "", "", "", "", ""]
  sel := [0, 0, 0, 2, 0, 0, 0, 2, 2, 2, 2]
  occs := [{ level := 2, grid := ⟨[6, 6, 6], 1⟩, cap := 1, nRel := 2 }] }

/-- `config_files/2018_JCP_149_064113/water/coulomb_power_bounded_lj_inverted.ini` -/
def pool_water_coulomb_power_bounded_lj_inverted : PoolCfg := {
  w := cfg_water_coulomb_power_bounded_lj_inverted
  nRoots := 2, nPer := 3
  factorFile := "factor_set_water_atomic.txt"
  ftype := ["Coulomb", "Harmonic", "Bending", "LennardJones", "", "", "", ""]
  sel := [0, 0, 0, 0, 2, 2, 2, 2]
  occs := [] }

/-- `config_files/2018_JCP_149_064113/water/single_molecule.ini` -/
def pool_water_single_molecule : PoolCfg := {
  w := cfg_water_single_molecule
  nRoots := 1, nPer := 3
  factorFile := "factor_set_water.txt"
  ftype := ["Harmonic", "Bending", "", "", "", ""]
  sel := [0, 0, 2, 2, 2, 2]
  occs := [] }

/-- `config_files/hard_disk_dipoles/hard_disk_dipoles.ini` -/
def pool_hard_disk_dipoles_hard_disk_dipoles : PoolCfg := {
  w := cfg_hard_disk_dipoles_hard_disk_dipoles
  nRoots := 81, nPer := 2
  factorFile := "factor_set_hard_disk_dipoles.txt"
  ftype := ["Sphere", "Dipole", "", "", "", ""]
  sel := [0, 0, 2, 2, 2, 2]
  occs := [] }

/-- `config_files/hard_disk_dipoles/hard_disk_dipoles_cells.ini` -/
def pool_hard_disk_dipoles_hard_disk_dipoles_cells : PoolCfg := {
  w := cfg_hard_disk_dipoles_hard_disk_dipoles_cells
  nRoots := 81, nPer := 2
  factorFile := "factor_set_hard_disk_dipoles.txt"
  ftype := ["", "Dipole", "", "", "", "", ""]
  sel := [0, 0, 2, 2, 2, 2, 2]
  occs := [{ level := 2, grid := ⟨[13, 13], 1⟩, cap := -1, nRel := 162 }] }

/-- `config_files/hard_disk_dipoles/single_hard_disk_dipole.ini` -/
def pool_hard_disk_dipoles_single_hard_disk_dipole : PoolCfg := {
  w := cfg_hard_disk_dipoles_single_hard_disk_dipole
  nRoots := 1, nPer := 2
  factorFile := "factor_set_hard_disk_dipoles.txt"
  ftype := ["Dipole", "", "", "", ""]
  sel := [0, 2, 2, 2, 2]
  occs := [] }

def allPools : List PoolCfg := [pool_coulomb_atoms_cell_bounded, pool_coulomb_atoms_cell_veto, pool_coulomb_atoms_power_bounded, pool_coulomb_atoms_power_bounded_dump, pool_dipoles_atom_factors, pool_dipoles_cell_bounded, pool_dipoles_cell_veto, pool_dipoles_dipole_factors_inside_first, pool_dipoles_dipole_factors_outside_first, pool_dipoles_dipole_factors_ratio, pool_dipoles_dipole_motion, pool_water_coulomb_cell_veto_lj_cell_veto, pool_water_coulomb_cell_veto_lj_inverted, pool_water_coulomb_power_bounded_lj_cell_bounded, pool_water_coulomb_power_bounded_lj_inverted, pool_water_single_molecule, pool_hard_disk_dipoles_hard_disk_dipoles, pool_hard_disk_dipoles_hard_disk_dipoles_cells, pool_hard_disk_dipoles_single_hard_disk_dipole]

/-- row `i` (the number in the comment): the taggers of configuration `i` of `allPools` whose pool is below the demand bound
(tagger index, pool, bound) -/
def shortfallsTable : List (List (TaggerIdx × Nat × Nat)) := [
  /-  0 -/ [],
  /-  1 -/ [],
  /-  2 -/ [],
  /-  3 -/ [],
  /-  4 -/ [],
  /-  5 -/ [],
  /-  6 -/ [],
  /-  7 -/ [],
  /-  8 -/ [],
  /-  9 -/ [],
  /- 10 -/ [],
  /- 11 -/ [],
  /- 12 -/ [],
  /- 13 -/ [],
  /- 14 -/ [],
  /- 15 -/ [],
  /- 16 -/ [],
  /- 17 -/ [(0, 15, 161)],
  /- 18 -/ []]

end JF.C09Pools.Gen
