import JF.Model.EndOfChain
import JF.Lemmas.Kinematics
import JF.Props.C14
import Mathlib.Tactic.LinearCombination
/-!
# C07 (continued) — the end-of-chain handlers keep the speed and fire at the chain time

`JF.Props.C07` proves the chain invariant under the admissibility hypothesis that an end-of-chain event installs a
velocity of the same squared norm. This file discharges that hypothesis for the two shipped end-of-chain handlers
(`newVelocityPeriodic`: exactly; `newVelocitySequential`: in exact arithmetic whenever
`cos² + sin² = 1`), and shows that the candidate time of an end-of-chain event is the last end-of-chain time plus the
chain time (exact reading). In binary64 the rotation preserves the speed only up to rounding; the run-level oracle of
`./check C07` measures the drift (tolerance 1e-10 relative).
-/
namespace JF.C07
open JF JF.EndOfChain JF.C14

def nsq (v : List ℚ) : ℚ := (v.map (fun x => x * x)).sum

theorem nsq_unitAt (dim k : Nat) (x : ℚ) (hk : k < dim) : nsq (unitAt Ops.rat dim k x) = x * x := by
  unfold nsq unitAt
  -- only the entry at `k` contributes, and `k` occurs once in `List.range dim`
  rw [List.map_map, List.sum_map_eq_nsmul_single k _ fun i hi _ => ?_, List.count_range, if_pos hk, one_nsmul]
  · simp
  · simp [hi, rat_ofInt]

theorem nsq_cons (c : ℚ) (cs : List ℚ) : nsq (c :: cs) = c * c + nsq cs := rfl

theorem nonZeroIdx_cons_zero (cs : List ℚ) (off : Nat) :
    nonZeroIdx Ops.rat (0 :: cs) off = nonZeroIdx Ops.rat cs (off + 1) := by
  simp [nonZeroIdx]

theorem nonZeroIdx_cons_ne {c : ℚ} (hc : c ≠ 0) (cs : List ℚ) (off : Nat) :
    nonZeroIdx Ops.rat (c :: cs) off = off :: nonZeroIdx Ops.rat cs (off + 1) := by
  simp [nonZeroIdx, hc]

theorem nsq_of_nonZeroIdx_nil : ∀ (v : List ℚ) (off : Nat), nonZeroIdx Ops.rat v off = [] → nsq v = 0
  | [], _, _ => rfl
  | c :: cs, off, h => by
    by_cases hc : c = 0
    · subst hc
      rw [nonZeroIdx_cons_zero] at h
      rw [nsq_cons, nsq_of_nonZeroIdx_nil cs _ h, mul_zero, add_zero]
    · rw [nonZeroIdx_cons_ne hc] at h; cases h

theorem nsq_of_nonZeroIdx_single : ∀ (v : List ℚ) (off d : Nat), nonZeroIdx Ops.rat v off = [d] →
    off ≤ d ∧ nsq v = v.getD (d - off) 0 * v.getD (d - off) 0
  | [], _, _, h => by cases h
  | c :: cs, off, d, h => by
    by_cases hc : c = 0
    · subst hc
      rw [nonZeroIdx_cons_zero] at h
      obtain ⟨h1, h2⟩ := nsq_of_nonZeroIdx_single cs (off + 1) d h
      rw [show d - off = (d - (off + 1)) + 1 by omega, List.getD_cons_succ, nsq_cons, h2, mul_zero, zero_add]
      exact ⟨by omega, rfl⟩
    · rw [nonZeroIdx_cons_ne hc] at h
      injection h with h1 h2
      subst h1
      rw [Nat.sub_self, List.getD_cons_zero, nsq_cons, nsq_of_nonZeroIdx_nil cs _ h2, add_zero]
      exact ⟨le_refl _, rfl⟩

/-- **Periodic direction**: the new velocity has the squared norm of the old one and the dimension of the box. (It is
`unitAt`, with a single non-zero component, which is what `newVelocityPeriodic` asks of its input at the next end of
chain; that is not part of the statement.) -/
theorem periodic_keeps_speed (dim : Nat) (hd : 0 < dim) (v w : List ℚ)
    (h : newVelocityPeriodic Ops.rat dim v = .ok w) : nsq w = nsq v ∧ w.length = dim := by
  unfold newVelocityPeriodic at h
  split at h
  · next d hnz =>
    injection h with h
    subst h
    refine ⟨?_, by simp [unitAt]⟩
    rw [nsq_unitAt dim _ _ (Nat.mod_lt _ hd), (nsq_of_nonZeroIdx_single v 0 d hnz).2]; rfl
  · cases h

/-- **Sequential direction**: a rotation keeps the squared norm (exact arithmetic, `cos² + sin² = 1`). -/
theorem sequential_keeps_speed (c s : ℚ) (hcs : c * c + s * s = 1) (v w : List ℚ)
    (h : newVelocitySequential c s v = .ok w) : nsq w = nsq v ∧ w.length = 2 := by
  unfold newVelocitySequential at h
  match v, h with
  | [v0, v1], h =>
    injection h with h
    subst h
    refine ⟨?_, rfl⟩
    simp only [nsq, List.map_cons, List.map_nil, List.sum_cons, List.sum_nil]
    linear_combination (v0 * v0 + v1 * v1) * hcs

/-- **Chain time**: the candidate time of the end-of-chain event is the time of the last end-of-chain event plus the
chain time, whatever happened in between (exact reading), and it is normalised. -/
theorem eventTime_val (last cur t : Time ℚ) (chain : ℚ) (hc : Normalised cur)
    (h : eventTime Ops.rat last cur chain = .ok t) : val t = val last + chain ∧ Normalised t := by
  unfold eventTime newChainTime at h
  split at h
  · next d hd =>
    injection h with h
    subst h
    simp only at hd
    split at hd
    · cases hd
    · injection hd with hd
      subst hd
      refine ⟨?_, add_normalised _ _ hc⟩
      rw [add_val, sub_exact]; ring
  · cases h

/-- non-vacuity -/
example : newVelocityPeriodic Ops.rat 3 [0, 0, 5] = .ok [5, 0, 0] := by decide +kernel
example : newVelocitySequential (3/5 : ℚ) (4/5) [1, 0] = .ok [3/5, 4/5] := by decide +kernel
example : ((3:ℚ)/5) * (3/5) + (4/5) * (4/5) = 1 := by norm_num
example : (eventTime Ops.rat ⟨2, 1/4⟩ ⟨2, 3/4⟩ (3/4)).toOption.map (fun t => (t.q, t.r)) = some (3, 0) := by decide +kernel

end JF.C07
