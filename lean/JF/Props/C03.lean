import JF.Lemmas.DerivReal
import JF.Lemmas.DerivEwald
import JF.Lemmas.DerivBend
import Mathlib.MeasureTheory.Integral.IntervalIntegral.FundThmCalculus
/-!
# C03 — Reported event rates are the directional derivative of the model energy

Exact reading (`DOps.real`, Mathlib's real functions, `erfc` a parameter) of the SAME definitions that the
driver runs in binary64 against the real classes and the compiled C.

Sign convention throughout: separation = target − active, the ACTIVE unit moves with velocity `v`, so the
separation at time `t` is `s − t·v` (`V3.subSmul`), and the reported value is `d/dt U(s − t·v)` at `t = 0`.

Proved for all inputs in the stated domains:
* `ip_`, `lj_`, `dep_`, `bound_`, `bend_derivative_correct`: the class's `derivative` returns `.ok val` with
  `HasDerivAt (fun t => U (s − t v)) val 0`, `val` in closed form (linear in speed and charge product), for every
  constructible parameter set, every standard velocity (exactly these are accepted: `derivative_rejects_nonstandard`)
  and every separation except the origin (`ZeroDivisionError`: `ip_svd_origin`); the three bending values sum to zero
  on every input on which the routine returns (`bend_derivative_sum_zero`);
* Ewald routine: `ewaldC_eq` (the loops with the three trigonometric recurrences and their reset pattern compute the
  plain octant sum), `ewaldC_odd_x`, `fourier_part_periodic`, `ewaldC_homogeneous`.

PARTIAL (named so): `ewald_deriv_partial`, `merged_derivative_partial` — the routine's value is the derivative of the
TRUNCATED Ewald energy (integer ball / octant cut-offs as in the C code, `erfc` any function with the right
derivative).  The clause "derivative of the fully converged lattice sum, independent of the splitting parameter,
periodic in the box" is a truncation-error statement about an infinite conditionally convergent sum; it is NOT
proved here (it is probed numerically by the oracle of `harness/props/c03.py` for the shipped parameter sets inside
the minimum-image cube).  Also not proved: that the per-direction truncated energies `E_trunc ∘ perm_d` are one and the
same function of the separation (the `i = 0` Fourier modes are dropped per direction); rounding error of the binary64
reading (covered by the correspondence run only).
-/
namespace JF.C03
open JF JF.Deriv Real

variable (e : ℝ → ℝ)

/-! ## energies (written from the class docstrings) -/

/-- `U = c_i c_j k / |r|^p` -/
noncomputable def ipEnergy (power k cc : ℝ) (s : V3 ℝ) : ℝ := cc * k / (√(s.nsq)) ^ power

/-- `U = c_i c_j k / |r|` (the bound of the merged-image Coulomb potential) -/
noncomputable def boundEnergy (pp : ℝ) (s : V3 ℝ) : ℝ := pp / √(s.nsq)

/-! ## direction `d` is handled by rotating component `d` to the front -/

theorem perm_x {α : Type} (v : V3 α) (d : Nat) : (v.perm d).x = v.get d := by
  unfold V3.perm V3.get; split <;> rfl

theorem perm_nsq (s : V3 ℝ) (d : ℕ) : (s.perm d).nsq = s.nsq := by
  unfold V3.perm V3.nsq; split <;> ring

theorem ip_make_ok {power k : ℝ} (hk : k ≠ 0) (hp : 0 < power) :
    IP.make (DOps.real e) power k = .ok ⟨power, k, power + 2⟩ := by
  simp [IP.make, hk, hp]

theorem ip_make_inv {power k : ℝ} {p : IP ℝ} (h : IP.make (DOps.real e) power k = .ok p) :
    k ≠ 0 ∧ 0 < power ∧ p = ⟨power, k, power + 2⟩ := by
  unfold IP.make at h
  split_ifs at h with h1 h2
  simp only [real_ofInt, Int.cast_zero, beq_iff_eq, Bool.not_eq_true', decide_eq_false_iff_not, not_not] at h1 h2
  exact ⟨h1, h2, by simpa using h.symm⟩

/-- value of `InversePowerPotential.standard_velocity_derivative` away from the origin -/
theorem ip_svd_eq (p : IP ℝ) (d : ℕ) (s : V3 ℝ) (c1 c2 : ℝ) (hs : s.nsq ≠ 0) :
    p.svd (DOps.real e) d s c1 c2
      = .ok (p.power * s.get d / (√(s.nsq)) ^ p.powerPlusTwo * p.prefactor * c1 * c2) := by
  have hn := V3.norm_pos hs
  have hden : (√(s.nsq)) ^ p.powerPlusTwo ≠ 0 := (Real.rpow_pos_of_pos hn _).ne'
  simp [IP.svd, norm_real, pyPow_real, pyDiv_real e _ _ hden, bind, Except.bind, pure, Except.pure]

/-- at the origin the routine raises `ZeroDivisionError` (for a positive power) -/
theorem ip_svd_origin (p : IP ℝ) (d : ℕ) (c1 c2 : ℝ) (hp : p.powerPlusTwo ≠ 0) :
    p.svd (DOps.real e) d ⟨0, 0, 0⟩ c1 c2 = .error "ZeroDivisionError" := by
  simp [IP.svd, norm_real, pyPow_real, V3.nsq, Real.zero_rpow hp, pyDiv_real_zero, bind, Except.bind]

/-- **C03 for the inverse power potential, space derivative**: the routine's value is the derivative of
`U(s − x e_d)` at `x = 0`. -/
theorem ip_svd_hasDerivAt (power k : ℝ) (d : ℕ) (s : V3 ℝ) (c1 c2 : ℝ) (hs : s.nsq ≠ 0) :
    HasDerivAt (fun x => ipEnergy power k (c1 * c2) (s.moved d x))
      (power * s.get d / (√(s.nsq)) ^ (power + 2) * k * c1 * c2) 0 := by
  have hn := V3.norm_pos hs
  have hP : 0 < (√(s.nsq)) ^ power := Real.rpow_pos_of_pos hn _
  have hφ : HasDerivAt (fun r : ℝ => c1 * c2 * k / r ^ power) _ (√(s.nsq)) :=
    (hasDerivAt_const _ (c1 * c2 * k)).div (Real.hasDerivAt_rpow_const (Or.inl hn.ne')) hP.ne'
  refine (radial_hasDerivAt s d hs hφ).congr_deriv ?_
  rw [Real.rpow_add hn, Real.rpow_sub_one hn.ne', Real.rpow_two]
  generalize (√(s.nsq)) ^ power = R at hP ⊢
  generalize √(s.nsq) = r at hn ⊢
  field_simp
  ring

/-- **C03 for the inverse power potential, full statement**: for every constructible potential, every
standard velocity, every separation but the origin and every charge pair the class returns the time
derivative of the pair energy along the motion of the active unit (linear in speed and charge product). -/
theorem ip_derivative_correct {power k : ℝ} {p : IP ℝ} (hp : IP.make (DOps.real e) power k = .ok p)
    {v : V3 ℝ} {d : ℕ} {sp : ℝ} (hv : StdVel v d sp) (s : V3 ℝ) (c1 c2 : ℝ) (hs : s.nsq ≠ 0) :
    ∃ val, p.derivative (DOps.real e) v s c1 c2 = .ok val ∧
      val = power * s.get d / (√(s.nsq)) ^ (power + 2) * k * c1 * c2 * sp ∧
      HasDerivAt (fun t => ipEnergy power k (c1 * c2) (s.subSmul v t)) val 0 := by
  obtain ⟨_, _, rfl⟩ := ip_make_inv e hp
  have h := timeDerivative_hasDerivAt e (U := ipEnergy power k (c1 * c2))
    (svd := fun d => IP.svd (DOps.real e) ⟨power, k, power + 2⟩ d s c1 c2) hv
    (ip_svd_eq e ⟨power, k, power + 2⟩ d s c1 c2 hs) (ip_svd_hasDerivAt power k d s c1 c2 hs)
  exact ⟨_, h.1, rfl, h.2⟩

/-- non-vacuity: the Coulomb case `p = 1`, `k = 1`, unit speed along `y`, separation `(1, 2, 2)` (`|s| = 3`) -/
example : ∃ p, IP.make (DOps.real e) 1 1 = .ok p ∧ StdVel ⟨0, 1, 0⟩ 1 1 ∧ (⟨1, 2, 2⟩ : V3 ℝ).nsq ≠ 0 :=
  ⟨_, ip_make_ok e one_ne_zero one_pos, ⟨one_pos, Or.inr (Or.inl ⟨rfl, rfl⟩)⟩, by norm_num [V3.nsq]⟩

/-! ## the 1/r bound (C routine `derivative` of `inverse_power_coulomb_bounding_potential.c`) -/

theorem rpow_three_halves {q : ℝ} (hq : 0 ≤ q) : q ^ ((3 : ℝ) / 2) = √q ^ 3 := by
  rw [Real.sqrt_eq_rpow, ← Real.rpow_natCast, ← Real.rpow_mul hq]; norm_num

/-- value of the wrapper: the C routine on the rotated separation -/
theorem bound_svd_eq (p : Bound ℝ) (d : ℕ) (s : V3 ℝ) (c1 c2 : ℝ) :
    p.svd (DOps.real e) d s c1 c2 = p.prefactor * c1 * c2 * s.get d / √(s.nsq) ^ 3 := by
  have h := perm_nsq s d
  have hx := perm_x s d
  simp only [V3.nsq] at h
  simp only [Bound.svd, boundC, real_pow, real_ofInt]
  rw [h, hx, show ((3 : ℤ) : ℝ) / ((2 : ℤ) : ℝ) = (3 : ℝ) / 2 by norm_num]
  have := rpow_three_halves s.nsq_nonneg
  simp only [V3.nsq] at this
  rw [this]; rfl

theorem bound_svd_hasDerivAt (pp : ℝ) (d : ℕ) (s : V3 ℝ) (hs : s.nsq ≠ 0) :
    HasDerivAt (fun x => boundEnergy pp (s.moved d x)) (pp * s.get d / √(s.nsq) ^ 3) 0 := by
  have hn := V3.norm_pos hs
  have hφ : HasDerivAt (fun r : ℝ => pp / r) _ (√(s.nsq)) :=
    (hasDerivAt_const _ pp).div (hasDerivAt_id _) hn.ne'
  refine (radial_hasDerivAt s d hs hφ).congr_deriv ?_
  generalize √(s.nsq) = r
  ring

/-- **C03 for the 1/r bound**: the class returns the time derivative of `k c₁c₂/|s − t v|`. -/
theorem bound_derivative_correct (p : Bound ℝ) {v : V3 ℝ} {d : ℕ} {sp : ℝ} (hv : StdVel v d sp)
    (s : V3 ℝ) (c1 c2 : ℝ) (hs : s.nsq ≠ 0) :
    ∃ val, p.derivative (DOps.real e) v s c1 c2 = .ok val ∧
      val = p.prefactor * c1 * c2 * s.get d / √(s.nsq) ^ 3 * sp ∧
      HasDerivAt (fun t => boundEnergy (p.prefactor * c1 * c2) (s.subSmul v t)) val 0 := by
  have h := timeDerivative_hasDerivAt e (U := boundEnergy (p.prefactor * c1 * c2))
    (svd := fun d => .ok (p.svd (DOps.real e) d s c1 c2)) hv
    (by rw [bound_svd_eq]) (bound_svd_hasDerivAt (p.prefactor * c1 * c2) d s hs)
  exact ⟨_, h.1, rfl, h.2⟩

example : StdVel ⟨0, 0, 2⟩ 2 2 ∧ (⟨1, 2, 2⟩ : V3 ℝ).nsq ≠ 0 :=
  ⟨⟨two_pos, Or.inr (Or.inr ⟨rfl, rfl⟩)⟩, by norm_num [V3.nsq]⟩

/-- `U = k ((σ/|r|)^12 − (σ/|r|)^6)` -/
noncomputable def ljEnergy (k cl : ℝ) (s : V3 ℝ) : ℝ := k * ((cl / √(s.nsq)) ^ 12 - (cl / √(s.nsq)) ^ 6)

theorem mexicanHatInit_real (k r : ℝ) :
    mexicanHatInit (DOps.real e) k r = if 0 < k ∧ 0 < r then .ok () else .error "ConfigurationError" := by
  unfold mexicanHatInit
  by_cases hk0 : k = 0
  · simp [hk0]
  · by_cases hk : 0 < k <;> by_cases hr : 0 < r <;> simp [hk0, hk, hr]

theorem lj_make_inv {k cl : ℝ} {p : LJ ℝ} (h : LJ.make (DOps.real e) k cl = .ok p) :
    0 < k ∧ 0 < cl ∧ p = ⟨⟨6, -k * cl ^ 6, 6 + 2⟩, ⟨12, k * cl ^ 12, 12 + 2⟩⟩ := by
  have h2 : (0 : ℝ) < (2 : ℝ) ^ ((1 : ℝ) / 6) := Real.rpow_pos_of_pos two_pos _
  unfold LJ.make at h
  rw [mexicanHatInit_real] at h
  split_ifs at h with hc
  · obtain ⟨hk, hm⟩ := hc
    simp only [real_ofInt, real_pow, Int.cast_ofNat, Int.cast_one] at hm
    have hc : 0 < cl := pos_of_mul_pos_left hm h2.le
    have h6 : cl ^ 6 ≠ 0 := (pow_pos hc 6).ne'
    have h12 : cl ^ 12 ≠ 0 := (pow_pos hc 12).ne'
    have e6 : cl ^ (6 : ℝ) = cl ^ 6 := by exact_mod_cast Real.rpow_natCast cl 6
    have e12 : cl ^ (12 : ℝ) = cl ^ 12 := by exact_mod_cast Real.rpow_natCast cl 12
    simp [IP.make, pyPow_real, bind, Except.bind, hk.ne', e6, e12, h6, h12, pure, Except.pure] at h
    exact ⟨hk, hc, by rw [← h, neg_mul]⟩
  · simp [bind, Except.bind] at h

theorem lj_energy_split (k cl : ℝ) (s : V3 ℝ) :
    ljEnergy k cl s = ipEnergy 6 (-k * cl ^ 6) (1 * 1) s + ipEnergy 12 (k * cl ^ 12) (1 * 1) s := by
  have e6 : √(s.nsq) ^ (6 : ℝ) = √(s.nsq) ^ 6 := by exact_mod_cast Real.rpow_natCast _ 6
  have e12 : √(s.nsq) ^ (12 : ℝ) = √(s.nsq) ^ 12 := by exact_mod_cast Real.rpow_natCast _ 12
  unfold ljEnergy ipEnergy
  rw [e6, e12, div_pow, div_pow]
  ring

/-- **C03 for the Lennard-Jones potential** -/
theorem lj_derivative_correct {k cl : ℝ} {p : LJ ℝ} (hp : LJ.make (DOps.real e) k cl = .ok p)
    {v : V3 ℝ} {d : ℕ} {sp : ℝ} (hv : StdVel v d sp) (s : V3 ℝ) (hs : s.nsq ≠ 0) :
    ∃ val, p.derivative (DOps.real e) v s = .ok val ∧
      val = (6 * s.get d / √(s.nsq) ^ ((6 : ℝ) + 2) * (-k * cl ^ 6) * 1 * 1
              + 12 * s.get d / √(s.nsq) ^ ((12 : ℝ) + 2) * (k * cl ^ 12) * 1 * 1) * sp ∧
      HasDerivAt (fun t => ljEnergy k cl (s.subSmul v t)) val 0 := by
  obtain ⟨_, _, rfl⟩ := lj_make_inv e hp
  have hsvd : LJ.svd (DOps.real e) ⟨⟨6, -k * cl ^ 6, 6 + 2⟩, ⟨12, k * cl ^ 12, 12 + 2⟩⟩ d s
      = .ok (6 * s.get d / √(s.nsq) ^ ((6 : ℝ) + 2) * (-k * cl ^ 6) * 1 * 1
              + 12 * s.get d / √(s.nsq) ^ ((12 : ℝ) + 2) * (k * cl ^ 12) * 1 * 1) := by
    simp only [LJ.svd, ip_svd_eq e _ d s _ _ hs, bind, Except.bind, pure, Except.pure, real_ofInt, Int.cast_one]
  have hd := (ip_svd_hasDerivAt 6 (-k * cl ^ 6) d s 1 1 hs).add (ip_svd_hasDerivAt 12 (k * cl ^ 12) d s 1 1 hs)
  have hU : HasDerivAt (fun x => ljEnergy k cl (s.moved d x)) _ 0 :=
    hd.congr_of_eventuallyEq (Filter.Eventually.of_forall fun x => lj_energy_split k cl _)
  have h := timeDerivative_hasDerivAt e (U := ljEnergy k cl) (svd := fun d => LJ.svd (DOps.real e) _ d s) hv hsvd hU
  exact ⟨_, h.1, rfl, h.2⟩

example : ∃ p, LJ.make (DOps.real e) 1 1 = .ok p := by
  have h2 : (0 : ℝ) < (2 : ℝ) ^ ((1 : ℝ) / 6) := Real.rpow_pos_of_pos two_pos _
  refine ⟨⟨⟨6, -1, 6 + 2⟩, ⟨12, 1, 12 + 2⟩⟩, ?_⟩
  unfold LJ.make
  rw [mexicanHatInit_real, if_pos ⟨one_pos, by simpa using h2⟩]
  simp [IP.make, pyPow_real, bind, Except.bind, pure, Except.pure]

/-- `U = k (|r| − r₀)^p` -/
noncomputable def depEnergy (k r0 : ℝ) (power : ℤ) (s : V3 ℝ) : ℝ := k * (√(s.nsq) - r0) ^ power

theorem dep_make_inv {k r0 : ℝ} {power : ℤ} {p : DEP ℝ} (h : DEP.make (DOps.real e) r0 power k = .ok p) :
    0 < k ∧ 0 < r0 ∧ 0 < power ∧ power % 2 = 0 ∧ p = ⟨r0, power, k⟩ := by
  unfold DEP.make at h
  rw [mexicanHatInit_real] at h
  by_cases hc : 0 < k ∧ 0 < r0
  · rw [if_pos hc] at h
    simp only [bind, Except.bind] at h
    split_ifs at h with hq
    simp only [Bool.not_eq_true, Bool.not_eq_false', Bool.and_eq_true, decide_eq_true_eq, beq_iff_eq] at hq
    cases h
    exact ⟨hc.1, hc.2, hq.1, hq.2, rfl⟩
  · rw [if_neg hc] at h
    simp [bind, Except.bind] at h

theorem dep_svd_eq (p : DEP ℝ) (d : ℕ) (s : V3 ℝ) (hs : s.nsq ≠ 0) :
    p.svd (DOps.real e) d s
      = .ok ((-p.power : ℤ) * p.prefactor * (√(s.nsq) - p.eqSep) ^ (p.power - 1) * s.get d / √(s.nsq)) := by
  have hn := (V3.norm_pos hs).ne'
  simp only [DEP.svd, norm_real, pyPow_real, pyDiv_real e _ _ hn, bind, Except.bind, real_ofInt,
    Real.rpow_intCast]

theorem dep_svd_hasDerivAt (k r0 : ℝ) (power : ℤ) (hp : 0 < power) (d : ℕ) (s : V3 ℝ) (hs : s.nsq ≠ 0) :
    HasDerivAt (fun x => depEnergy k r0 power (s.moved d x))
      ((-power : ℤ) * k * (√(s.nsq) - r0) ^ (power - 1) * s.get d / √(s.nsq)) 0 := by
  have hn := V3.norm_pos hs
  have hφ : HasDerivAt (fun r : ℝ => k * (r - r0) ^ power) _ (√(s.nsq)) :=
    ((hasDerivAt_zpow power _ (Or.inr hp.le)).comp _ ((hasDerivAt_id _).sub_const r0)).const_mul k
  refine (radial_hasDerivAt s d hs hφ).congr_deriv ?_
  simp only [id]
  generalize (√(s.nsq) - r0) ^ (power - 1) = W
  generalize √(s.nsq) = r
  rw [Int.cast_neg]
  ring

/-- **C03 for the displaced even power potential** -/
theorem dep_derivative_correct {k r0 : ℝ} {power : ℤ} {p : DEP ℝ}
    (hp : DEP.make (DOps.real e) r0 power k = .ok p)
    {v : V3 ℝ} {d : ℕ} {sp : ℝ} (hv : StdVel v d sp) (s : V3 ℝ) (hs : s.nsq ≠ 0) :
    ∃ val, p.derivative (DOps.real e) v s = .ok val ∧
      val = (-power : ℤ) * k * (√(s.nsq) - r0) ^ (power - 1) * s.get d / √(s.nsq) * sp ∧
      HasDerivAt (fun t => depEnergy k r0 power (s.subSmul v t)) val 0 := by
  obtain ⟨_, _, hpos, _, rfl⟩ := dep_make_inv e hp
  have h := timeDerivative_hasDerivAt e (U := depEnergy k r0 power)
    (svd := fun d => DEP.svd (DOps.real e) ⟨r0, power, k⟩ d s) hv
    (dep_svd_eq e ⟨r0, power, k⟩ d s hs) (dep_svd_hasDerivAt k r0 power hpos d s hs)
  exact ⟨_, h.1, rfl, h.2⟩

example : ∃ p, DEP.make (DOps.real e) 1 2 1 = .ok p := by
  refine ⟨⟨1, 2, 1⟩, ?_⟩
  unfold DEP.make
  rw [mexicanHatInit_real, if_pos ⟨one_pos, one_pos⟩]
  simp [bind, Except.bind]

/-- the three per-unit derivatives of the bending potential sum to zero, for every input on which the routine
returns: the middle entry is computed as minus the sum of the other two -/
theorem bend_svd_sum_zero (p : Bend ℝ) (d : ℕ) (s1 s2 : V3 ℝ) (a b c : ℝ)
    (h : p.svd (DOps.real e) d s1 s2 = .ok (a, b, c)) : a + b + c = 0 := by
  unfold Bend.svd at h
  iterate 14 obtain ⟨_, -, h⟩ := of_bind_ok h
  cases h
  ring

theorem bend_derivative_sum_zero (p : Bend ℝ) (v s1 s2 : V3 ℝ) (a b c : ℝ)
    (h : p.derivative (DOps.real e) v s1 s2 = .ok (a, b, c)) : a + b + c = 0 := by
  unfold Bend.derivative at h
  simp only [bind, Except.bind, pure, Except.pure] at h
  split at h
  · cases h
  · split at h
    · cases h
    · rename_i r hr
      obtain ⟨a', b', c'⟩ := r
      simp only [Except.ok.injEq, Prod.mk.injEq] at h
      obtain ⟨rfl, rfl, rfl⟩ := h
      have := bend_svd_sum_zero e p _ s1 s2 a' b' c' hr
      rw [← add_mul, ← add_mul, this, zero_mul]

/-- in the exact reading the C routine `derivative` computes the plain sums
`Σ_{n ∈ ball(pc)} T_n(s) + Σ_{octant(fc)} A_ijk sin(iθx) cos(jθy) cos(kθz)`, `θ = 2π s / L`: after the register updates
and resets of the three trigonometric recurrences the registers hold `cos(kθ), sin(kθ)` (`JF.Deriv.fourierSum_spec`). -/
theorem ewaldC_eq (p : Ewald ℝ) (sx sy sz : ℝ) :
    ewaldC (DOps.real e) p sx sy sz
      = latSum p.pc (posTerm (DOps.real e) p sx sy sz)
        + octSum p.fc (octTerm p (p.twoPiOverL * sx) (p.twoPiOverL * sy) (p.twoPiOverL * sz)) := by
  have hD : deltas (DOps.real e) p sx sy sz = Dθ (p.twoPiOverL * sx) (p.twoPiOverL * sy) (p.twoPiOverL * sz) := rfl
  simp only [ewaldC, hD, fourierSum_spec, posSum_eq, real_ofInt, Int.cast_zero, zero_add]

/-- the TRUNCATED Ewald energy whose `x`-derivative the routine computes: the position-space sum over the integer
ball of radius `pc` and the Fourier sum over the octant `i ≥ 1, j, k ≥ 0, i²+j²+k² ≤ fc²` (the modes with `i = 0`
do not depend on `sx` and are left out; multiplicities 1/2/4 are inside `fourier_array`). -/
noncomputable def ewaldEnergyTrunc (p : Ewald ℝ) (sx sy sz : ℝ) : ℝ :=
  latSum p.pc (posEnergyTerm e p sx sy sz) + octSum p.fc (fourierEnergyTerm p sx sy sz)

/-- `s` is not a lattice point -/
def OffLattice (L sx sy sz : ℝ) : Prop := ∀ i j k : ℤ, (latVec L sx sy sz i j k).nsq ≠ 0

theorem construct_facts (fc pc : ℕ) (alpha L : ℝ) (hL : L ≠ 0) :
    let p := Ewald.construct (DOps.real e) fc pc alpha L
    p.twoAolRootPi = 2 * p.aol / √π ∧ p.aolSq = p.aol * p.aol ∧ p.twoPiOverL ≠ 0 ∧ p.L = L := by
  have hpi : √π ≠ 0 := (Real.sqrt_pos.mpr Real.pi_pos).ne'
  refine ⟨?_, ?_, ?_, rfl⟩
  · simp only [Ewald.construct, real_ofInt, real_sqrt, real_pi]; push_cast
    rw [mul_div_assoc, mul_div_assoc, div_div]
  · exact (div_mul_div_comm _ _ _ _).symm
  · simp only [Ewald.construct, real_ofInt, real_pi]; push_cast
    exact div_ne_zero (mul_ne_zero two_ne_zero Real.pi_ne_zero) hL

/-- PARTIAL with respect to the property (truncated sums, `erfc` abstract).  For the struct built by `construct_merged_image_coulomb_potential` (any cut-offs, any `alpha`, any box length
`L ≠ 0`), any function `erfc` with `erfc' y = −2/√π · exp(−y²)`, and any separation that is not a lattice point, the
value of the C routine `derivative` is the derivative of the truncated Ewald energy along the motion of the active
unit in `+x` (separation = target − active, so `sx ↦ sx − x`).  That the truncated energy is close to the converged
lattice sum `Σ_n 1/|s + nL|` (tin-foil) is not proved: see the head of the file. -/
theorem ewald_deriv_partial (fc pc : ℕ) (alpha L : ℝ) (hL : L ≠ 0)
    (he : ∀ y, HasDerivAt e (-(2 / √π) * Real.exp (-(y * y))) y)
    (sx sy sz : ℝ) (hs : OffLattice L sx sy sz) :
    HasDerivAt (fun x => ewaldEnergyTrunc e (Ewald.construct (DOps.real e) fc pc alpha L) (sx - x) sy sz)
      (ewaldC (DOps.real e) (Ewald.construct (DOps.real e) fc pc alpha L) sx sy sz) 0 := by
  obtain ⟨h1, h2, h3, h4⟩ := construct_facts e fc pc alpha L hL
  rw [ewaldC_eq]
  unfold ewaldEnergyTrunc
  refine HasDerivAt.add ?_ ?_
  · exact latSum_hasDerivAt _ (fun x i j k => posEnergyTerm e _ (sx - x) sy sz i j k) _ 0
      fun i j k => posTerm_hasDerivAt e _ h1 h2 he sx sy sz i j k (by rw [h4]; exact hs i j k)
  · exact octSum_hasDerivAt _ (fun x i j k => fourierEnergyTerm _ (sx - x) sy sz i j k) _ 0
      fun i0 j k => fourierTerm_hasDerivAt _ h3 sx sy sz (i0 + 1) j k (Nat.succ_ne_zero i0)

/-- non-vacuity of the hypothesis on `erfc`: the function `1 − 2/√π ∫₀^y exp(−t²) dt` (the complementary error
function itself) has the required derivative everywhere. -/
example : ∃ erfc : ℝ → ℝ, erfc 0 = 1 ∧ ∀ y, HasDerivAt erfc (-(2 / √π) * Real.exp (-(y * y))) y := by
  refine ⟨fun y => 1 + -(2 / √π) * ∫ t in (0 : ℝ)..y, Real.exp (-(t * t)), by simp, fun y => ?_⟩
  have hc : Continuous fun t : ℝ => Real.exp (-(t * t)) := by fun_prop
  exact (((hc.integral_hasStrictDerivAt 0 y).hasDerivAt).const_mul _).const_add 1

theorem perm_moved (s : V3 ℝ) (d : ℕ) (x : ℝ) :
    (s.moved d x).perm d = ⟨(s.perm d).x - x, (s.perm d).y, (s.perm d).z⟩ := by
  match d with
  | 0 => rfl
  | 1 => rfl
  | (n + 2) => rfl

theorem merged_make_inv {alpha k L : ℝ} {fc pc : ℤ} {m : Merged ℝ}
    (h : Merged.make (DOps.real e) alpha fc pc k L = .ok m) :
    k ≠ 0 ∧ 0 < alpha ∧ 0 ≤ fc ∧ 0 ≤ pc ∧
      m = ⟨k, Ewald.construct (DOps.real e) fc.toNat pc.toNat alpha L⟩ := by
  unfold Merged.make at h
  split_ifs at h with h1 h2 h3 h4
  simp only [real_ofInt, Int.cast_zero, beq_iff_eq] at h1 h2
  cases h
  exact ⟨h1, lt_of_not_ge h2, not_lt.mp h3, not_lt.mp h4, rfl⟩

/-- the truncated pair energy seen by direction `d`: `k c₁ c₂ · E_trunc(rotated separation)` -/
noncomputable def mergedEnergyTrunc (m : Merged ℝ) (d : ℕ) (c1 c2 : ℝ) (s : V3 ℝ) : ℝ :=
  m.prefactor * c1 * c2 * ewaldEnergyTrunc e m.pot (s.perm d).x (s.perm d).y (s.perm d).z

/-- **C03 for the merged-image Coulomb potential, PARTIAL** (truncated sums, abstract `erfc`; see
`ewald_deriv_partial`): for every constructible potential, standard velocity, charge pair and separation off the
lattice, `MergedImageCoulombPotential.derivative` returns the time derivative of `k c₁c₂ E_trunc` along the
motion of the active unit; direction `d` is reduced to the `x` routine by the cyclic rotation, the result is linear in
speed and charge product. -/
theorem merged_derivative_partial {alpha k L : ℝ} {fc pc : ℤ} {m : Merged ℝ}
    (hm : Merged.make (DOps.real e) alpha fc pc k L = .ok m) (hL : L ≠ 0)
    (he : ∀ y, HasDerivAt e (-(2 / √π) * Real.exp (-(y * y))) y)
    {v : V3 ℝ} {d : ℕ} {sp : ℝ} (hv : StdVel v d sp) (s : V3 ℝ) (c1 c2 : ℝ)
    (hs : OffLattice L (s.perm d).x (s.perm d).y (s.perm d).z) :
    ∃ val, m.derivative (DOps.real e) v s c1 c2 = .ok val ∧
      val = k * c1 * c2 * ewaldC (DOps.real e) m.pot (s.perm d).x (s.perm d).y (s.perm d).z * sp ∧
      HasDerivAt (fun t => mergedEnergyTrunc e m d c1 c2 (s.subSmul v t)) val 0 := by
  obtain ⟨_, _, _, _, rfl⟩ := merged_make_inv e hm
  have hU : HasDerivAt (fun x => mergedEnergyTrunc e
      ⟨k, Ewald.construct (DOps.real e) fc.toNat pc.toNat alpha L⟩ d c1 c2 (s.moved d x))
      (k * c1 * c2 * ewaldC (DOps.real e) (Ewald.construct (DOps.real e) fc.toNat pc.toNat alpha L)
        (s.perm d).x (s.perm d).y (s.perm d).z) 0 := by
    have := (ewald_deriv_partial e fc.toNat pc.toNat alpha L hL he _ _ _ hs).const_mul (k * c1 * c2)
    simpa only [mergedEnergyTrunc, perm_moved] using this
  have h := timeDerivative_hasDerivAt e
    (U := mergedEnergyTrunc e ⟨k, Ewald.construct (DOps.real e) fc.toNat pc.toNat alpha L⟩ d c1 c2)
    (svd := fun d' => .ok (Merged.svd (DOps.real e) ⟨k, Ewald.construct (DOps.real e) fc.toNat pc.toNat alpha L⟩ d' s c1 c2))
    hv rfl hU
  exact ⟨_, h.1, rfl, h.2⟩

/-- non-vacuity of the hypotheses: the shipped parameters, unit box, separation `(1/2, 0, 0)` -/
example : (∃ m, Merged.make (DOps.real e) 3.45 6 2 1 1 = .ok m) ∧ OffLattice 1 (1 / 2) 0 0 := by
  constructor
  · refine ⟨⟨1, Ewald.construct (DOps.real e) 6 2 3.45 1⟩, ?_⟩
    rw [Merged.make, real_ofInt, Int.cast_zero, if_neg (by simp), if_neg (by norm_num), if_neg (by decide),
      if_neg (by decide)]
    rfl
  · intro i j k
    have h : ((1 : ℝ) / 2 + i * 1) ≠ 0 := fun h0 => by
      have h2 : ((2 * i + 1 : ℤ) : ℝ) = 0 := by push_cast; linear_combination 2 * h0
      exact absurd (Int.cast_eq_zero.mp h2) (by omega)
    exact (add_pos_of_pos_of_nonneg (add_pos_of_pos_of_nonneg (mul_self_pos.mpr h) (mul_self_nonneg _))
      (mul_self_nonneg _)).ne'

/-- the routine's value is odd in the component along the direction of motion, for every struct (any cut-offs and
parameters): the integer ball is symmetric under `i ↦ −i` and the Fourier part is a sine series in `sx` -/
theorem ewaldC_odd_x (p : Ewald ℝ) (sx sy sz : ℝ) :
    ewaldC (DOps.real e) p (-sx) sy sz = -ewaldC (DOps.real e) p sx sy sz := by
  rw [ewaldC_eq, ewaldC_eq]
  have h1 : latSum p.pc (posTerm (DOps.real e) p (-sx) sy sz)
      = -latSum p.pc (posTerm (DOps.real e) p sx sy sz) := by
    rw [← latSum_neg_reflect]
    congr 1; funext i j k; exact posTerm_neg e p sx sy sz i j k
  have h2 : octSum p.fc (octTerm p (p.twoPiOverL * -sx) (p.twoPiOverL * sy) (p.twoPiOverL * sz))
      = -octSum p.fc (octTerm p (p.twoPiOverL * sx) (p.twoPiOverL * sy) (p.twoPiOverL * sz)) := by
    rw [← octSum_neg]
    congr 1; funext i j k; exact octTerm_neg p _ sx _ _ i j k
  rw [h1, h2]; ring

theorem ewaldC_zero_x (p : Ewald ℝ) (sy sz : ℝ) : ewaldC (DOps.real e) p 0 sy sz = 0 := by
  have := ewaldC_odd_x e p 0 sy sz
  rw [neg_zero] at this
  linarith

/-- **the Fourier part is periodic in the box** (all three directions, any integer number of boxes); the
truncated position-space part is not — its periodicity is a statement about the converged sum. -/
theorem fourier_part_periodic (fc pc : ℕ) (alpha L : ℝ) (hL : L ≠ 0) (sx sy sz : ℝ) (a b c : ℤ) :
    let p := Ewald.construct (DOps.real e) fc pc alpha L
    octSum p.fc (octTerm p (p.twoPiOverL * (sx + a * L)) (p.twoPiOverL * (sy + b * L)) (p.twoPiOverL * (sz + c * L)))
      = octSum p.fc (octTerm p (p.twoPiOverL * sx) (p.twoPiOverL * sy) (p.twoPiOverL * sz)) := by
  intro p
  have hw : ∀ (n : ℕ) (s : ℝ) (m : ℤ), (n : ℝ) * (p.twoPiOverL * (s + m * L))
      = n * (p.twoPiOverL * s) + ((n * m : ℤ) : ℝ) * (2 * π) := by
    intro n s m
    have h : p.twoPiOverL * L = 2 * π := by
      simp only [p, Ewald.construct, real_ofInt, real_pi]; push_cast; exact div_mul_cancel₀ _ hL
    push_cast
    linear_combination (n * m : ℝ) * h
  congr 1; funext i j k
  simp only [octTerm, hw, Real.sin_add_int_mul_two_pi, Real.cos_add_int_mul_two_pi]

/-- **homogeneity in the box length**: `derivative(s; L) = L⁻² · derivative(s/L; 1)` for the same `alpha` and
cut-offs — every box length reduces to the unit box. -/
theorem ewaldC_homogeneous (fc pc : ℕ) (alpha L : ℝ) (hL : 0 < L) (sx sy sz : ℝ) :
    ewaldC (DOps.real e) (Ewald.construct (DOps.real e) fc pc alpha L) sx sy sz
      = 1 / L ^ 2 * ewaldC (DOps.real e) (Ewald.construct (DOps.real e) fc pc alpha 1) (sx / L) (sy / L) (sz / L) := by
  have hL' := hL.ne'
  have h1 : alpha / 1 = L * (alpha / L) := by rw [div_one, mul_div_cancel₀ _ hL']
  have h2 : alpha * alpha / (1 * 1) = L ^ 2 * (alpha * alpha / (L * L)) := by
    rw [one_mul, div_one, sq, mul_div_cancel₀ _ (mul_ne_zero hL' hL')]
  have h3 : ∀ c r : ℝ, c * alpha / (1 * r) = L * (c * alpha / (L * r)) := fun c r => by
    rw [one_mul, ← mul_div_assoc, mul_div_mul_left _ _ hL']
  have h4 : ∀ s : ℝ, ((2 : ℤ) : ℝ) * π / L * s = ((2 : ℤ) : ℝ) * π / 1 * (s / L) := fun s => by
    rw [div_one, div_mul_eq_mul_div, mul_div_assoc]
  rw [ewaldC_eq, ewaldC_eq, mul_add, ← latSum_mul, ← octSum_mul]
  exact congrArg₂ (· + ·)
    (congrArg (latSum pc) (funext fun i => funext fun j => funext fun k =>
      posTerm_scale_of e _ _ L hL (mul_one L).symm h1 h2 (h3 _ _) sx sy sz i j k))
    (congrArg (octSum fc) (funext fun i => funext fun j => funext fun k =>
      octTerm_scale_of _ _ L h4 i j k (fourierCoeff_scale e alpha L i j k) sx sy sz))

theorem dCos_swap (s1 s2 : V3 ℝ) (d : ℕ) :
    s1.get d / √(s1.nsq) / √(s2.nsq) - cosAngle s1 s2 * s2.get d / √(s2.nsq) ^ 2 = dCos s2 s1 d := by
  simp only [dCos, cosAngle, V3.dot]; ring

/-- value of `BendingPotential.standard_velocity_derivative` for two non-zero, non-collinear separations -/
theorem bend_svd_eq (p : Bend ℝ) (d : ℕ) (s1 s2 : V3 ℝ) (h1 : s1.nsq ≠ 0) (h2 : s2.nsq ≠ 0)
    (hlo : -1 < cosAngle s1 s2) (hhi : cosAngle s1 s2 < 1) :
    let K := p.prefactor * (arccos (cosAngle s1 s2) - p.eqAngle) * (-1 / sin (arccos (cosAngle s1 s2)))
    p.svd (DOps.real e) d s1 s2
      = .ok (K * dCos s1 s2 d, -(K * dCos s1 s2 d) - K * dCos s2 s1 d, K * dCos s2 s1 d) := by
  intro K
  have hn1 := (V3.norm_pos h1).ne'
  have hn2 := (V3.norm_pos h2).ne'
  have hsin : sin (arccos (cosAngle s1 s2)) ≠ 0 := by
    rw [Real.sin_arccos]; exact (Real.sqrt_pos.mpr (by nlinarith)).ne'
  have hacos : pyAcos (DOps.real e) (cosAngle s1 s2) = .ok (arccos (cosAngle s1 s2)) := by
    simp only [pyAcos, real_ofInt, real_acos]; push_cast
    rw [if_neg (not_or.mpr ⟨not_lt.mpr hlo.le, not_lt.mpr hhi.le⟩)]
  have hsq : ∀ r : ℝ, pyPow (DOps.real e) r ((DOps.real e).ofInt 2) = .ok (r ^ 2) := fun r => by
    rw [pyPow_real, real_ofInt]; push_cast; rw [Real.rpow_two]
  -- every step of the routine succeeds
  unfold Bend.svd
  rw [pySum3_real]
  refine bind_of_ok (norm_real e s1) ?_
  refine bind_of_ok (norm_real e s2) ?_
  refine bind_of_ok (pyDiv_real e _ _ hn1) ?_
  refine bind_of_ok (pyDiv_real e _ _ hn2) ?_
  refine bind_of_ok hacos ?_
  refine bind_of_ok (pyDiv_real e _ _ hsin) ?_
  refine bind_of_ok (pyDiv_real e _ _ hn1) ?_
  refine bind_of_ok (pyDiv_real e _ _ hn2) ?_
  refine bind_of_ok (hsq _) ?_
  refine bind_of_ok (pyDiv_real e _ _ (pow_ne_zero 2 hn1)) ?_
  refine bind_of_ok (pyDiv_real e _ _ hn1) ?_
  refine bind_of_ok (pyDiv_real e _ _ hn2) ?_
  refine bind_of_ok (hsq _) ?_
  refine bind_of_ok (pyDiv_real e _ _ (pow_ne_zero 2 hn2)) ?_
  simp only [real_ofInt, real_sin, Int.reduceNeg, Int.cast_neg, Int.cast_one]
  rw [← dCos_swap s1 s2 d]
  rfl

def _root_.JF.Deriv.V3.addSmul (s v : V3 ℝ) (t : ℝ) : V3 ℝ := s.subSmul v (-t)

/-- **C03 for the bending potential**: for two non-zero, non-collinear separations `s₁ = r_i − r_j`, `s₂ = r_k − r_j`
and a standard velocity, the three reported values are the time derivatives of `k/2 (φ − φ₀)²` when unit `i`,
unit `j`, unit `k` respectively moves with that velocity; they sum to zero. -/
theorem bend_derivative_correct (p : Bend ℝ) {v : V3 ℝ} {d : ℕ} {sp : ℝ} (hv : StdVel v d sp) (s1 s2 : V3 ℝ)
    (h1 : s1.nsq ≠ 0) (h2 : s2.nsq ≠ 0) (hlo : -1 < cosAngle s1 s2) (hhi : cosAngle s1 s2 < 1) :
    ∃ a b c, p.derivative (DOps.real e) v s1 s2 = .ok (a, b, c) ∧ a + b + c = 0 ∧
      HasDerivAt (fun t => bendEnergy p.prefactor p.eqAngle (s1.addSmul v t) s2) a 0 ∧
      HasDerivAt (fun t => bendEnergy p.prefactor p.eqAngle (s1.subSmul v t) (s2.subSmul v t)) b 0 ∧
      HasDerivAt (fun t => bendEnergy p.prefactor p.eqAngle s1 (s2.addSmul v t)) c 0 := by
  have hsvd := bend_svd_eq e p d s1 s2 h1 h2 hlo hhi
  simp only at hsvd
  set K := p.prefactor * (arccos (cosAngle s1 s2) - p.eqAngle) * (-1 / sin (arccos (cosAngle s1 s2))) with hK
  refine ⟨K * dCos s1 s2 d * sp, (-(K * dCos s1 s2 d) - K * dCos s2 s1 d) * sp, K * dCos s2 s1 d * sp, ?_, by ring, ?_, ?_, ?_⟩
  · exact bind_of_ok (analyseVelocity_of_stdVel e hv) (bind_of_ok hsvd rfl)
  · have h := bendEnergy_hasDerivAt p.prefactor p.eqAngle s1 s2 d (-sp) 0 h1 h2 hlo hhi
    simp only [zero_mul, moved_zero] at h
    simp only [V3.addSmul, subSmul_of_stdVel hv, mul_neg, ← neg_mul]
    refine h.congr_deriv ?_
    rw [← hK]; ring
  · have h := bendEnergy_hasDerivAt p.prefactor p.eqAngle s1 s2 d sp sp h1 h2 hlo hhi
    simp only [subSmul_of_stdVel hv]
    refine h.congr_deriv ?_
    rw [← hK]; ring
  · have h := bendEnergy_hasDerivAt p.prefactor p.eqAngle s1 s2 d 0 (-sp) h1 h2 hlo hhi
    simp only [zero_mul, moved_zero] at h
    simp only [V3.addSmul, subSmul_of_stdVel hv, mul_neg, ← neg_mul]
    refine h.congr_deriv ?_
    rw [← hK]; ring

/-- non-vacuity: a right angle, `s₁ = (1,0,0)`, `s₂ = (0,1,0)` -/
example : (⟨1, 0, 0⟩ : V3 ℝ).nsq ≠ 0 ∧ (⟨0, 1, 0⟩ : V3 ℝ).nsq ≠ 0 ∧
    -1 < cosAngle ⟨1, 0, 0⟩ ⟨0, 1, 0⟩ ∧ cosAngle ⟨1, 0, 0⟩ ⟨0, 1, 0⟩ < 1 := by
  simp [V3.nsq, cosAngle, V3.dot]

/-- a velocity that is not standard is rejected, whatever the rest of the input -/
theorem derivative_rejects_nonstandard (v : V3 ℝ) (svd : ℕ → Res ℝ)
    (hv : ∀ d sp, ¬ StdVel v d sp) : timeDerivative (DOps.real e) v svd = .error "AssertionError" := by
  unfold timeDerivative
  cases h : analyseVelocity (DOps.real e) v with
  | error m =>
    have : m = "AssertionError" := by
      unfold analyseVelocity at h
      split at h
      · split_ifs at h; simpa using h.symm
      · simpa using h.symm
    simp [this, bind, Except.bind]
  | ok r => exact absurd (stdVel_of_analyseVelocity e (d := r.1) (sp := r.2) h) (hv _ _)

end JF.C03
