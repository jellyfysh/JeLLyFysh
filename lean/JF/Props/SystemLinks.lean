import JF.Props.C07
import JF.Props.C11
/-!
# Links between the per-mechanism models

The history properties are modelled mechanism by mechanism (scheduler, activator, kinematics, occupancy); where one of them
needs a fact that another one provides, the fact is a hypothesis of its theorem.  This file composes kinematics and occupancy.

`active_unit_stays_in_recorded_cell` (positive direction) and `active_unit_stays_in_recorded_cell_neg` (negative direction, for
representable coordinates, given the adjacency of the recorded extents) derive (exact reading) the history premise of C11's
`reach_inv` — "the active unit leaves its recorded cell only by a cell-boundary event" — from two hypotheses about the leg:
* `hb` (what C09, pending = fresh yield, provides): the cell-boundary candidate of the active unit is among the live candidates
  of the leg; its time is `time stamp + time to the boundary` (`JF.Occ.timeToBoundary`);
* `hleg` (C06/C07, `Kin.Leg`): the leg commits a minimal live candidate.
For the runs of the composed system, where C09 provides the pending candidate and
the scheduler minimality, the same fact is `c11_active_in_recorded_cell_closed` (`JF/Props/SystemInv.lean`), proved there directly.
-/
namespace JF.Links
open JF JF.Kin JF.Occ JF.C14 JF.C11

/-- the leg commits a minimal candidate (C06/C07); times are compared as rationals and added exactly (C14) -/
theorem commit_before_candidate {ts : Time ℚ} (hts : Normalised ts) {ttb : ℚ} {s s' : Time ℚ × List (Time ℚ)} (hleg : Leg s s')
    (hnorm : ∀ p ∈ s.2, Normalised p) (hb : Time.add Ops.rat ts ttb ∈ s.2) (hne : val s'.1 ≠ val ts + ttb) :
    val s'.1 - val ts < ttb := by
  cases hleg with
  | mk now m pending removed kept new hm hmin hperm hrem hnew =>
    have hle := hmin _ hb
    rw [le_iff _ _ (hnorm m hm) (add_normalised ts ttb hts), add_val] at hle
    have := lt_of_le_of_ne hle hne
    show val m - val ts < ttb
    linarith

/-- The active unit — time-sliced to the committed time by `_time_slice_unit` — is still in its recorded cell `i`, unless the
committed time is the crossing time itself (`hne`: then the committed event is the cell-boundary event, or ties with it: the tie
is excluded exactly as in C11). -/
theorem active_unit_stays_in_recorded_cell (g : Grid) (i : ℕ) (hi : i < g.n) (x v bMax : ℚ)
    (hx0 : g.cmin i ≤ x) (hx1 : x < g.cmin (i + 1)) (hv : 0 < v) (hpos : i + 1 = g.n → 0 < x)
    (ts : Time ℚ) (hts : Normalised ts)
    (s s' : Time ℚ × List (Time ℚ)) (hleg : Leg s s')
    (hnorm : ∀ p ∈ s.2, Normalised p)
    (hb : Time.add Ops.rat ts (timeToBoundary Ops.rat g.L x v (g.cmin ((i + 1) % g.n)) bMax).1 ∈ s.2)
    (hge : val ts ≤ val s'.1)
    (hne : val s'.1 ≠ val ts + (timeToBoundary Ops.rat g.L x v (g.cmin ((i + 1) % g.n)) bMax).1) :
    g.idx (pywrap Ops.rat (x + v * Time.sub s'.1 ts) g.L) = i := by
  rw [sub_exact]
  exact stays_in_cell_pos g i hi x v bMax hx0 hx1 hv hpos _ (by linarith) (commit_before_candidate hts hleg hnorm hb hne)

/-- The same for motion in the negative direction: the cell-boundary handler aims at the lower neighbour's recorded
`cell_max`; with the adjacency of the recorded extents (`hgap`: no representable scalar between that `cell_max` and the lower
edge of cell `i`, C16 part D `cells_abut` / `last_cell_reaches_top`) every *representable* time-sliced coordinate at a committed
time before the crossing is still in the recorded cell (`JF.C11.stays_in_cell_neg`). -/
theorem active_unit_stays_in_recorded_cell_neg (g : Grid) (i : ℕ) (hi : i < g.n) (hn2 : 2 ≤ g.n) (x v bMin cmaxPrev : ℚ)
    (hx0 : g.cmin i ≤ x) (hx1 : x < g.cmin (i + 1)) (hv : v < 0)
    (hc0 : g.cmin ((i + g.n - 1) % g.n) ≤ cmaxPrev) (hc1 : cmaxPrev < g.cmin ((i + g.n - 1) % g.n + 1))
    (F : ℚ → Prop) (hgap : ∀ y, F y → cmaxPrev < y → g.cmin ((i + g.n - 1) % g.n + 1) ≤ y)
    (ts : Time ℚ) (hts : Normalised ts)
    (s s' : Time ℚ × List (Time ℚ)) (hleg : Leg s s')
    (hnorm : ∀ p ∈ s.2, Normalised p)
    (hb : Time.add Ops.rat ts (timeToBoundary Ops.rat g.L x v bMin cmaxPrev).1 ∈ s.2)
    (hge : val ts ≤ val s'.1)
    (hne : val s'.1 ≠ val ts + (timeToBoundary Ops.rat g.L x v bMin cmaxPrev).1)
    (hF : F (pywrap Ops.rat (x + v * Time.sub s'.1 ts) g.L)) :
    g.idx (pywrap Ops.rat (x + v * Time.sub s'.1 ts) g.L) = i := by
  rw [sub_exact] at hF ⊢
  exact stays_in_cell_neg g i hi hn2 x v bMin cmaxPrev hx0 hx1 hv hc0 hc1 F hgap _ (by linarith)
    (commit_before_candidate hts hleg hnorm hb hne) hF

end JF.Links

namespace JF.Links
open JF JF.Kin JF.Occ JF.C14 JF.C11

/-- non-vacuity: the 3-cell grid of C11's examples, the active unit at `x = 5/6` in the last cell moving with `v = 2` (it will
cross the periodic boundary at `τ = 1/12`), time stamp `(3, 1/4)`; the live candidates are a sampling event at `(3, 7/24)` and the
cell-boundary candidate; the leg commits the sampling event: the unit, time-sliced to it, is still in cell 2. -/
example : exGrid.idx (pywrap Ops.rat (5 / 6 + 2 * Time.sub (⟨3, 7 / 24⟩ : Time ℚ) ⟨3, 1 / 4⟩) exGrid.L) = 2 := by
  have httb : (timeToBoundary Ops.rat exGrid.L (5 / 6) 2 (exGrid.cmin ((2 + 1) % exGrid.n)) 0).1 = 1 / 12 := by
    norm_num [timeToBoundary, Grid.L, Grid.cmin, exGrid]
  have nts : Normalised (⟨3, 1 / 4⟩ : Time ℚ) := ⟨⟨3, by norm_num⟩, by norm_num, by norm_num⟩
  have nsamp : Normalised (⟨3, 7 / 24⟩ : Time ℚ) := ⟨⟨3, by norm_num⟩, by norm_num, by norm_num⟩
  obtain ⟨tb, htb⟩ : ∃ tb, tb = Time.add Ops.rat (⟨3, 1 / 4⟩ : Time ℚ)
      (timeToBoundary Ops.rat exGrid.L (5 / 6) 2 (exGrid.cmin ((2 + 1) % exGrid.n)) 0).1 := ⟨_, rfl⟩
  have ntb : Normalised tb := by rw [htb]; exact add_normalised _ _ nts
  have vtb : val tb = 3 + 1 / 4 + 1 / 12 := by
    rw [htb, add_val, httb]; norm_num [val]
  have hleg : Leg ((⟨3, 1 / 4⟩ : Time ℚ), [⟨3, 7 / 24⟩, tb]) (⟨3, 7 / 24⟩, [tb] ++ []) := by
    refine Leg.mk _ _ _ [⟨3, 7 / 24⟩] [tb] [] (List.mem_cons_self ..) ?_ (List.Perm.refl _) (List.mem_cons_self ..) ?_
    · intro p hp
      rcases List.mem_cons.mp hp with rfl | hp
      · exact (le_iff _ _ nsamp nsamp).mpr le_rfl
      · rcases List.mem_cons.mp hp with rfl | hp
        · rw [le_iff _ _ nsamp ntb, vtb]; norm_num [val]
        · cases hp
    · intro c hc; cases hc
  have hn : ∀ p ∈ [(⟨3, 7 / 24⟩ : Time ℚ), tb], Normalised p := by
    intro p hp
    rcases List.mem_cons.mp hp with rfl | hp
    · exact nsamp
    · rcases List.mem_cons.mp hp with rfl | hp
      · exact ntb
      · cases hp
  have hmem : Time.add Ops.rat (⟨3, 1 / 4⟩ : Time ℚ)
      (timeToBoundary Ops.rat exGrid.L (5 / 6) 2 (exGrid.cmin ((2 + 1) % exGrid.n)) 0).1 ∈ [(⟨3, 7 / 24⟩ : Time ℚ), tb] := by
    rw [← htb]; exact List.mem_cons_of_mem _ (List.mem_cons_self ..)
  have key := active_unit_stays_in_recorded_cell exGrid 2 (by decide) (5 / 6) 2 0
    (by norm_num [Grid.cmin, exGrid]) (by norm_num [Grid.cmin, exGrid]) (by norm_num) (by intro; norm_num)
    ⟨3, 1 / 4⟩ nts ((⟨3, 1 / 4⟩ : Time ℚ), [⟨3, 7 / 24⟩, tb]) (⟨3, 7 / 24⟩, [tb] ++ []) hleg hn hmem
    (by norm_num [val]) (by rw [httb]; norm_num [val])
  exact key

end JF.Links
