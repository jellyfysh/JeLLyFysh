import JF.Model.Output
import JF.Lemmas.OutputPairs
import JF.Lemmas.OutputGeom
import Mathlib.Analysis.SpecialFunctions.Sqrt
import Mathlib.Tactic.Linarith
import Mathlib.Tactic.Ring
/-!
# What the observable output handlers write (C01 "observables written by a run", C17 "what is written")

Theorems about the model `JF/Model/Output.lean` of `SeparationOutputHandler`, `BondLengthAndAngleOutputHandler`,
`OxygenOxygenSeparationOutputHandler` (and the writer state of all four handlers).

* §1 (every scalar type, hence also binary64): what is written is `x ** 0.5` / `math.acos` applied to the squared / cosine
  variant, line by line, same files, same exception (`separations_factor`, `oxygenOxygen_factor`, `angle_eq`, `cosArg_eq`);
  a `write` appends to the files and never touches what earlier calls wrote (`write_files`, `appendLines_getElem?`).
* §2 the pair loop: every unordered pair of leaves of two DIFFERENT root nodes appears exactly once, no intra-object pair
  appears, for any number of roots and leaves (`pairs_tagged`, `pairs_exactly_once`); file index `|i − j| < nodes per root`.
* §3 exact reading over `ℚ` (squared separations; `Real.sqrt` for the bound on the written value): closed form of everything
  written (`separationsSq_eq`, `bondSq_eq`, `oxygenOxygenSq_eq`), invariance under moving every leaf to a congruent position
  (translation of the whole configuration modulo the box, shift of single particles by lattice vectors), symmetry in the two
  arguments, `|component| ≤ L/2`, written value `≤ √d · L/2`; bonds: the same invariances, swapping the hydrogens swaps the
  lengths and keeps the angle, Cauchy–Schwarz and `cos ∈ [-1, 1]` for non-degenerate bonds.

`polarization` and the rounding-abstract reading of what is written: `JF/Props/OutputFloat.lean`.
-/
namespace JF.Output
open JF JF.Periodic JF.C15
set_option linter.unusedSectionVars false

/-! ## 1. structure, for every scalar -/

section generic
variable {α : Type} [Add α] [Sub α] [Mul α] [Div α] [Neg α] [LT α] [DecidableLT α] [LE α] [DecidableLE α] [BEq α]

/-- apply `f` to the values of a printed line -/
def mapLine (f : α → α) (l : Line α) : Line α := (l.1, l.2.map f)

/-- **the separation handler writes `(squared separation) ** 0.5`, line for line, into the same files, and raises the same
exception** — in every reading of the scalar (binary64 included) -/
theorem separations_factor (oo : OOps α) (st : Setting α) (state : List (Root α)) :
    separations oo st state =
      ((separationsSq oo.ops st state).1.map (mapLine oo.powHalf), (separationsSq oo.ops st state).2) := by
  unfold separations separationsSq separationsWith
  apply collect_map
  intro p _
  unfold sepEntryWith
  cases st.box.sepVec oo.ops p.1.pos p.2.pos with
  | none => rfl
  | some v => by_cases h : identDistance st.levels p.1.ident p.2.ident < st.perRoot <;> simp [h, mapLine]

theorem oxygenOxygen_factor (oo : OOps α) (st : Setting α) (state : List (Root α)) :
    oxygenOxygen oo st state =
      ((oxygenOxygenSq oo.ops st state).1.map (mapLine oo.powHalf), (oxygenOxygenSq oo.ops st state).2) := by
  unfold oxygenOxygen oxygenOxygenSq oxygenOxygenWith
  by_cases h : (state.all fun r => r.children.length == 3) = true
  · simp only [h, Bool.not_true, Bool.false_eq_true, if_false]
    apply collect_map
    intro p _
    unfold ooEntryWith
    cases st.box.sepVec oo.ops p.1.pos p.2.pos with
    | none => rfl
    | some v => simp [mapLine]
  · simp [h]

/-- `angle_between_two_vectors` is `math.acos` of the cosine argument -/
theorem angle_eq (oo : OOps α) (v w : List α) : angle oo v w = (cosArg oo v w).bind oo.acos := rfl

/-- the cosine argument, when no exception is raised, is `dot / norm(v) / norm(w)` with `norm = (Σ c²) ** 0.5` -/
theorem cosArg_eq (oo : OOps α) (v w : List α) (c : α) (h : cosArg oo v w = .ok c) :
    ∃ d, dot oo.ops v w = .ok d ∧ c = d / oo.powHalf (normSq oo.ops v) / oo.powHalf (normSq oo.ops w) := by
  unfold cosArg at h
  cases hd : dot oo.ops v w with
  | error e => rw [hd] at h; cases h
  | ok d =>
    rw [hd] at h
    refine ⟨d, rfl, ?_⟩
    simp only [pyDiv, norm, bind, Except.bind] at h
    by_cases h1 : (oo.powHalf (normSq oo.ops v) == oo.ops.ofInt 0) = true
    · simp [h1] at h
    · by_cases h2 : (oo.powHalf (normSq oo.ops w) == oo.ops.ofInt 0) = true
      · simp [h1, h2] at h
      · simp only [h1, h2, if_false, Bool.false_eq_true] at h
        cases h; rfl

/-- a `write` increments the counter, appends the printed lines and changes nothing else -/
theorem write_files (oo : OOps α) (st : Setting α) (h : Handler α) (state : List (Root α)) :
    (h.write oo st state).1.files = appendLines h.files (observe oo st h.kind state).1 ∧
      (h.write oo st state).1.counter = h.counter + 1 ∧ (h.write oo st state).1.kind = h.kind ∧
      (h.write oo st state).2.1 = (observe oo st h.kind state).2 := ⟨rfl, rfl, rfl, rfl⟩

/-- file `k` after printing the lines `ls` is file `k` before, followed by exactly the lines addressed to file `k`, in order:
what earlier calls wrote is never changed, and a line addressed to a file that does not exist is the only way to lose one
(excluded in the model by the `IndexError` outcome of the loop body) -/
theorem appendLines_getElem? (files : List (List (FLine α))) (ls : List (Line α)) (k : Nat) :
    (appendLines files ls)[k]? =
      files[k]?.map fun f => f ++ ((ls.filter fun l => l.1 == k).map fun l => FLine.vals l.2) := by
  unfold appendLines
  induction ls generalizing files with
  | nil => cases h : files[k]? <;> simp [h]
  | cons l ls ih =>
    rw [List.foldl_cons, ih]
    by_cases hk : l.1 = k
    · subst hk
      simp only [List.getElem?_modify, if_true, beq_self_eq_true, List.filter_cons_of_pos, List.map_cons]
      cases files[l.1]? <;> simp
    · have : (l.1 == k) = false := by simpa using hk
      simp only [List.getElem?_modify, hk, if_false, List.filter_cons, this, Bool.false_eq_true]
      cases files[k]? <;> simp

end generic

/-! ## 2. the pair loop -/

/-- the pairs of the separation handler, each leaf tagged with its address (root index, leaf index): the untagged projection
is the loop of the handler, the address projection is the pair list of the bare addresses — position `n` of what is written
belongs to address pair `n` -/
theorem pairs_tagged {α : Type} (state : List (Root α)) :
    crossPairs (state.map Root.leaves) =
        (crossPairs (tagged (state.map Root.leaves))).map (Prod.map Prod.snd Prod.snd) ∧
      (crossPairs (tagged (state.map Root.leaves))).map (Prod.map Prod.fst Prod.fst) =
        crossPairs (addrs (state.map fun r => r.leaves.length)) := by
  constructor
  · rw [← crossPairs_map, tagged_snd]
  · rw [← crossPairs_map, tagged_fst, List.map_map]; rfl

/-- **every unordered pair of leaves of two different composite objects appears exactly once (in one of its two orders) and
no pair of leaves of the same object appears**, for any number of root nodes with any numbers of leaves -/
theorem pairs_exactly_once {α : Type} (state : List (Root α)) (i a j b : Nat)
    (hi : ∃ r, state[i]? = some r ∧ a < r.leaves.length) (hj : ∃ r, state[j]? = some r ∧ b < r.leaves.length) :
    let P := crossPairs (addrs (state.map fun r => r.leaves.length))
    P.count ((i, a), (j, b)) + P.count ((j, b), (i, a)) = if i = j then 0 else 1 := by
  intro P
  have mem : ∀ i a, (∃ r, state[i]? = some r ∧ a < r.leaves.length) →
      (i, a) ∈ (addrs (state.map fun r => r.leaves.length)).flatten := by
    rintro i a ⟨r, hr, ha⟩
    exact mem_addrs_flatten.mpr ⟨r.leaves.length, by simp [hr], ha⟩
  exact crossPairs_addrs_count _ (i, a) (j, b) (mem i a hi) (mem j b hj)

/-- non-vacuity: three root nodes with 2, 1 and 3 leaves: 2·1 + 2·3 + 1·3 = 11 lines, pair ((0,1),(2,0)) once,
its mirror image never, an intra-object pair never -/
example : (crossPairs (addrs [2, 1, 3])).length = 11 ∧ (crossPairs (addrs [2, 1, 3])).count ((0, 1), (2, 0)) = 1 ∧
    (crossPairs (addrs [2, 1, 3])).count ((2, 0), (0, 1)) = 0 ∧ (crossPairs (addrs [2, 1, 3])).count ((2, 0), (2, 1)) = 0 := by
  decide

/-- the file index is `|i − j|` of the leaf identifiers and addresses an existing file when the identifiers are child
indices `0 ≤ · < nodes per root` -/
theorem identDistance_lt (levels n : Nat) (a b : Int) (hl : 1 < levels) (ha : 0 ≤ a ∧ a < n) (hb : 0 ≤ b ∧ b < n) :
    (identDistance levels a b : Int) = |a - b| ∧ identDistance levels a b < n := by
  unfold identDistance
  rw [if_pos hl]
  constructor
  · exact Int.natCast_natAbs _
  · omega

/-- with one node level everything goes to file 0 -/
theorem identDistance_one_level (levels : Nat) (a b : Int) (hl : levels ≤ 1) : identDistance levels a b = 0 := by
  unfold identDistance
  rw [if_neg (by omega)]

/-! ## 3. exact reading -/

/-- the leaf `f`-image of a root node (its own unit and its children), so that `(r.mapLeaf f).leaves = r.leaves.map f` -/
def Root.mapLeaf {α : Type} (f : Leaf α → Leaf α) (r : Root α) : Root α :=
  ⟨(f r.self).ident, (f r.self).pos, (f r.self).charge, r.children.map f⟩

theorem Root.leaves_mapLeaf {α : Type} (f : Leaf α → Leaf α) (r : Root α) : (r.mapLeaf f).leaves = r.leaves.map f := by
  unfold Root.leaves Root.mapLeaf
  cases hc : r.children with
  | nil => simp [Root.self]
  | cons c cs => simp

/-- `f` moves the leaf `l` to a position that is component-wise congruent, modulo the box lengths, to its position translated
by the vector `t` (the SAME `t` for every leaf: a translation of the whole configuration; `t = 0`: a lattice shift), and
keeps its identifier -/
def CongrMove (Ls t : List ℚ) (f : Leaf ℚ → Leaf ℚ) (l : Leaf ℚ) : Prop :=
  (f l).ident = l.ident ∧ ∃ (h : (f l).pos.length = l.pos.length),
    ∀ j (hj : j < Ls.length) (hl : j < l.pos.length) (ht : j < t.length),
      Congr Ls[j] (l.pos[j] + t[j]) ((f l).pos[j]'(by omega))

section exact
variable {st : Setting ℚ} {Ls : List ℚ}

/-- **closed form of what the separation handler writes** (squared, exact reading): for a well-formed box, positions with
`dimension` entries and identifier distances that address existing files, one line per pair of the pair loop, in that order:
the file index `|i − j|` and the exact squared nearest-image separation; no exception -/
theorem separationsSq_eq (hb : BoxOK st.box Ls) (state : List (Root ℚ))
    (hs : ∀ r ∈ state, ∀ l ∈ r.leaves, l.pos.length = Ls.length)
    (hk : ∀ p ∈ crossPairs (state.map Root.leaves), identDistance st.levels p.1.ident p.2.ident < st.perRoot) :
    separationsSq Ops.rat st state =
      ((crossPairs (state.map Root.leaves)).map fun p =>
        (identDistance st.levels p.1.ident p.2.ident, [sepSq Ls p.1.pos p.2.pos]), none) := by
  have hpos := forall_crossPairs (P := fun l : Leaf ℚ => l.pos.length = Ls.length) (List.forall_mem_map.mpr hs)
  unfold separationsSq separationsWith
  refine collect_single _ _ _ fun p hp => ?_
  unfold sepEntryWith
  simp only [sepVec_eq hb (hpos p hp).1 (hpos p hp).2, if_pos (hk p hp), normSq_rat, id, sepSq]

/-- the hypothesis on the file indices holds when the leaf identifiers are the child indices `0 ≤ · < nodes per root`
(two levels), or with one node level and at least one file -/
theorem fileIndex_ok (state : List (Root ℚ))
    (h : (st.levels ≤ 1 ∧ 0 < st.perRoot) ∨
      (1 < st.levels ∧ ∀ r ∈ state, ∀ l ∈ r.leaves, 0 ≤ l.ident ∧ l.ident < st.perRoot)) :
    ∀ p ∈ crossPairs (state.map Root.leaves), identDistance st.levels p.1.ident p.2.ident < st.perRoot := by
  intro p hp
  rcases h with ⟨h1, h2⟩ | ⟨h1, h2⟩
  · rw [identDistance_one_level _ _ _ h1]; exact h2
  · obtain ⟨m1, m2⟩ := forall_crossPairs (P := fun l : Leaf ℚ => 0 ≤ l.ident ∧ l.ident < st.perRoot)
      (List.forall_mem_map.mpr h2) p hp
    exact (identDistance_lt _ _ _ _ h1 m1 m2).2

/-- two leaves moved by `CongrMove`s with the same translation keep their separation vector -/
theorem sepSpec_move (hpos : ∀ L ∈ Ls, 0 < L) {t : List ℚ} (ht : t.length = Ls.length) {f : Leaf ℚ → Leaf ℚ} {x y : Leaf ℚ}
    (hx : x.pos.length = Ls.length) (hy : y.pos.length = Ls.length) (mx : CongrMove Ls t f x) (my : CongrMove Ls t f y) :
    sepSpec Ls (f x).pos (f y).pos = sepSpec Ls x.pos y.pos := by
  obtain ⟨-, len1, c1⟩ := mx
  obtain ⟨-, len2, c2⟩ := my
  refine (sepSpec_congr_diff hpos hx hy (len1.trans hx) (len2.trans hy) fun j h => ?_).symm
  have := (c2 j h (hy ▸ h) (ht ▸ h)).sub (c1 j h (hx ▸ h) (ht ▸ h))
  rwa [add_sub_add_right_eq_sub] at this

set_option linter.unusedVariables false in
/-- **invariance of everything the separation handler writes**: moving every leaf to a position congruent modulo the box
(translating the whole configuration by any vector and wrapping it back into the box; shifting any single particle by a
lattice vector; any mixture) changes no file index and no written squared separation (nor, `hk` not being needed, the place
of an `IndexError` from a missing file) -/
theorem separationsSq_invariant (hb : BoxOK st.box Ls) (state : List (Root ℚ)) (f : Leaf ℚ → Leaf ℚ)
    (t : List ℚ) (ht : t.length = Ls.length)
    (hs : ∀ r ∈ state, ∀ l ∈ r.leaves, l.pos.length = Ls.length)
    (hk : ∀ p ∈ crossPairs (state.map Root.leaves), identDistance st.levels p.1.ident p.2.ident < st.perRoot)
    (hf : ∀ r ∈ state, ∀ l ∈ r.leaves, CongrMove Ls t f l) :
    separationsSq Ops.rat st (state.map (Root.mapLeaf f)) = separationsSq Ops.rat st state := by
  have hleaves : (state.map (Root.mapLeaf f)).map Root.leaves = (state.map Root.leaves).map (List.map f) := by
    simp [List.map_map, Function.comp_def, Root.leaves_mapLeaf]
  have hmem := forall_crossPairs (P := fun l : Leaf ℚ => l.pos.length = Ls.length ∧ CongrMove Ls t f l)
    (List.forall_mem_map.mpr fun r hr l hl => ⟨hs r hr l hl, hf r hr l hl⟩)
  unfold separationsSq separationsWith
  rw [hleaves, crossPairs_map]
  -- the loop body gives the same line for the moved pair: same identifiers, same separation vector
  refine collect_map_congr _ _ _ _ fun q hq => ?_
  obtain ⟨⟨l1, m1⟩, ⟨l2, m2⟩⟩ := hmem q hq
  unfold sepEntryWith
  simp only [Prod.map_fst, Prod.map_snd, m1.1, m2.1, sepVec_eq hb l1 l2,
    sepVec_eq hb (m1.2.1.trans l1) (m2.2.1.trans l2), sepSpec_move hb.pos ht l1 l2 m1 m2]

/-- translating a position by the vector `t` and wrapping every coordinate back into the box (`correct_position`) is such a
move: **translation of the whole configuration by any vector (mod the box)** -/
theorem congrMove_translate (hpos : ∀ L ∈ Ls, 0 < L) (t : List ℚ) (ht : t.length = Ls.length) (l : Leaf ℚ)
    (hl : l.pos.length = Ls.length) :
    CongrMove Ls t (fun l => { l with pos := List.zipWith (fun L x => wrap Ops.rat x L) Ls (List.zipWith (· + ·) l.pos t) }) l := by
  refine ⟨rfl, by simp [hl, ht], ?_⟩
  intro j hj hlj htj
  simp only [List.getElem_zipWith]
  exact wrap_congr (hpos _ (List.getElem_mem hj))

/-- **shifting a particle by a lattice vector** `(n₁ L₁, …, n_d L_d)` is such a move with translation zero; a map that shifts
some leaves by (different) lattice vectors and leaves the others alone satisfies `CongrMove Ls 0 f` at every leaf -/
theorem congrMove_latticeShift (f : Leaf ℚ → Leaf ℚ) (l : Leaf ℚ) (ns : List ℤ) (hn : ns.length = Ls.length)
    (hl : l.pos.length = Ls.length) (hi : (f l).ident = l.ident)
    (hp : (f l).pos = List.zipWith (· + ·) l.pos (List.zipWith (fun (n : ℤ) L => (n : ℚ) * L) ns Ls)) :
    CongrMove Ls (List.replicate Ls.length 0) f l := by
  refine ⟨hi, by rw [hp, List.length_zipWith, List.length_zipWith, hl, hn, min_self, min_self], ?_⟩
  intro j hj hlj htj
  simp only [hp, List.getElem_zipWith, List.getElem_replicate]
  exact ⟨-ns[j]'(hn ▸ hj), by rw [Int.cast_neg]; ring⟩

theorem congrMove_id (t0 : List ℚ) (h0 : ∀ x ∈ t0, x = 0) (l : Leaf ℚ) : CongrMove Ls t0 id l := by
  refine ⟨rfl, rfl, ?_⟩
  intro j hj hlj htj
  exact ⟨0, by simp [h0 _ (List.getElem_mem htj)]⟩


set_option linter.unusedVariables false in
/-- **symmetry**: the written squared separation does not depend on the order of the two arguments of `separation_vector`
(the two length hypotheses are not needed: both orders truncate alike) -/
theorem sepSq_comm (hb : BoxOK st.box Ls) (a b : List ℚ) (ha : a.length = Ls.length) (hb' : b.length = Ls.length) :
    sepSq Ls a b = sepSq Ls b a := sepSq_symm hb.pos a b

/-- **each component of the separation has magnitude at most half the box length** -/
theorem sepSpec_component_le (hb : BoxOK st.box Ls) (a b : List ℚ) (ha : a.length = Ls.length) (hb' : b.length = Ls.length)
    (j : Nat) (h : j < (sepSpec Ls a b).length) (hj : j < Ls.length) : |(sepSpec Ls a b)[j]| ≤ Ls[j] / 2 := by
  rw [sepSpec_getElem ha hb' j hj]
  exact wrapSep_abs_le (hb.pos _ (List.getElem_mem hj))

theorem sepSq_bound (hb : BoxOK st.box Ls) (a b : List ℚ) : sepSq Ls a b ≤ (Ls.map fun L => (L / 2) * (L / 2)).sum :=
  sepSq_le hb.pos

/-- either box class: the exact written value `√(sepSq)` is at most half the diagonal of the box -/
theorem written_le_half_diagonal (hb : BoxOK st.box Ls) (a b : List ℚ) :
    Real.sqrt ((sepSq Ls a b : ℚ) : ℝ) ≤ Real.sqrt (((Ls.map fun L => (L / 2) * (L / 2)).sum : ℚ) : ℝ) :=
  Real.sqrt_le_sqrt (Rat.cast_le.mpr (sepSq_bound hb a b))

/-- cubic box of side `L` in `d` dimensions: the exact written value `√(sepSq)` is at most `√d · L/2` -/
theorem written_le_sqrt_d_half_L {c : Cubic ℚ} {d : ℤ} {L : ℚ} (hc : Cubic.init Ops.rat d L = .ok c) (a b : List ℚ) :
    Real.sqrt ((sepSq (List.replicate d.toNat L) a b : ℚ) : ℝ) ≤ Real.sqrt (d.toNat : ℝ) * ((L : ℝ) / 2) := by
  have h := written_le_half_diagonal (st := ⟨.cubic c, 0, 0⟩) (BoxOK.cubic d L c hc) a b
  have hLR : (0 : ℝ) ≤ (L : ℝ) / 2 := div_nonneg (Rat.cast_nonneg.mpr (cubic_init_iff.mp hc).2.1.le) zero_le_two
  rw [List.map_replicate, List.sum_replicate, nsmul_eq_mul] at h
  rw [← Real.sqrt_mul_self hLR, ← Real.sqrt_mul (Nat.cast_nonneg _)]
  exact_mod_cast h

/-! ### `BondLengthAndAngleOutputHandler`, `OxygenOxygenSeparationOutputHandler` -/

/-- the three lines of one water molecule in the exact reading: the two squared O–H lengths (file 0) and the dot product of the
two bond vectors (file 1; the cosine is `dot / √len₁² / √len₂²`) -/
def bondLines (Ls : List ℚ) (r : Root ℚ) : List (Line ℚ) :=
  match r.children with
  | [h1, ox, h2] => [(0, [sepSq Ls ox.pos h1.pos]), (0, [sepSq Ls ox.pos h2.pos]),
                     (1, [dotQ (sepSpec Ls ox.pos h1.pos) (sepSpec Ls ox.pos h2.pos)])]
  | _ => []

/-- **closed form of what the bond handler writes** (exact reading): molecule after molecule, never an exception, when every
root node has three children with `dimension` coordinates -/
theorem bondSq_eq (hb : BoxOK st.box Ls) (state : List (Root ℚ))
    (hw : ∀ r ∈ state, r.children.length = 3 ∧ ∀ c ∈ r.children, c.pos.length = Ls.length) :
    bondSq Ops.rat st state = (state.flatMap (bondLines Ls), none) := by
  unfold bondSq
  refine collect_eq _ _ _ fun r hr => ?_
  obtain ⟨h3, hp⟩ := hw r hr
  obtain ⟨h1, ox, h2, hc⟩ := List.length_eq_three.mp h3
  unfold bondEntryWith bondLines
  rw [hc] at hp ⊢
  have p1 := hp h1 (by simp)
  have p2 := hp ox (by simp)
  have p3 := hp h2 (by simp)
  simp only [sepVec_eq hb p2 p1, sepVec_eq hb p2 p3, normSq_rat, id,
    dot_rat _ _ ((sepSpec_length p2 p1).trans (sepSpec_length p2 p3).symm), sepSq, dotQ]
  rfl

/-- exchange the two hydrogens of a molecule -/
def Root.swapH {α : Type} (r : Root α) : Root α :=
  { r with children := match r.children with
                       | [h1, ox, h2] => [h2, ox, h1]
                       | c => c }

/-- **swapping the two hydrogens swaps the two lengths and leaves the angle (its cosine: the dot product) unchanged** -/
theorem bondLines_swapH (r : Root ℚ) (l1 l2 a : Line ℚ) (h : bondLines Ls r = [l1, l2, a]) :
    bondLines Ls r.swapH = [l2, l1, a] := by
  unfold bondLines Root.swapH at *
  rcases hc : r.children with _ | ⟨h1, _ | ⟨ox, _ | ⟨h2, _ | ⟨x, xs⟩⟩⟩⟩ <;> rw [hc] at h <;> simp at h
  obtain ⟨rfl, rfl, rfl⟩ := h
  simp [dotQ_comm]

/-- **the bond lengths and the angle are invariant under the same moves** (translation of the whole configuration modulo the
box, lattice shifts of single atoms) -/
theorem bondLines_invariant (hb : BoxOK st.box Ls) (r : Root ℚ) (f : Leaf ℚ → Leaf ℚ) (t : List ℚ) (ht : t.length = Ls.length)
    (hp : ∀ c ∈ r.children, c.pos.length = Ls.length) (hf : ∀ c ∈ r.children, CongrMove Ls t f c) :
    bondLines Ls (r.mapLeaf f) = bondLines Ls r := by
  unfold bondLines Root.mapLeaf
  rcases hc : r.children with _ | ⟨h1, _ | ⟨ox, _ | ⟨h2, _ | ⟨x, xs⟩⟩⟩⟩ <;> simp
  rw [hc] at hp hf
  have m1 := sepSpec_move hb.pos ht (hp ox (by simp)) (hp h1 (by simp)) (hf ox (by simp)) (hf h1 (by simp))
  have m2 := sepSpec_move hb.pos ht (hp ox (by simp)) (hp h2 (by simp)) (hf ox (by simp)) (hf h2 (by simp))
  simp [sepSq, m1, m2]

/-- **Cauchy–Schwarz**: `dot² ≤ len₁² · len₂²` for the two bond vectors, and so **the cosine `dot / r₁ / r₂` of the angle lies in
`[-1, 1]` for non-degenerate bonds** (`r₁, r₂ > 0` the bond lengths; in the exact reading `math.acos` never raises) -/
theorem bond_cos_in_range (o h1 h2 : List ℚ) :
    let d := dotQ (sepSpec Ls o h1) (sepSpec Ls o h2)
    d * d ≤ sepSq Ls o h1 * sepSq Ls o h2 ∧
      (0 < sepSq Ls o h1 → 0 < sepSq Ls o h2 →
        -1 ≤ (d : ℝ) / Real.sqrt (sepSq Ls o h1 : ℚ) / Real.sqrt (sepSq Ls o h2 : ℚ) ∧
          (d : ℝ) / Real.sqrt (sepSq Ls o h1 : ℚ) / Real.sqrt (sepSq Ls o h2 : ℚ) ≤ 1) := by
  intro d
  have hcs : d * d ≤ sepSq Ls o h1 * sepSq Ls o h2 := dotQ_sq_le _ _
  refine ⟨hcs, fun p1 p2 => ?_⟩
  have q1 : (0 : ℝ) < ((sepSq Ls o h1 : ℚ) : ℝ) := Rat.cast_pos.mpr p1
  have q2 : (0 : ℝ) < ((sepSq Ls o h2 : ℚ) : ℝ) := Rat.cast_pos.mpr p2
  have hp := mul_pos (Real.sqrt_pos.mpr q1) (Real.sqrt_pos.mpr q2)
  -- `|d| ≤ √(len₁² · len₂²) = r₁ r₂`
  rw [div_div, ← abs_le, abs_div, abs_of_pos hp, div_le_one hp, ← Real.sqrt_mul q1.le]
  exact Real.abs_le_sqrt (by rw [sq]; exact_mod_cast hcs)

/-- **closed form of what the oxygen–oxygen handler writes** (squared, exact): the pairs `i < j` of the second children -/
theorem oxygenOxygenSq_eq (hb : BoxOK st.box Ls) (state : List (Root ℚ))
    (hw : ∀ r ∈ state, r.children.length = 3 ∧ ∀ c ∈ r.children, c.pos.length = Ls.length) :
    oxygenOxygenSq Ops.rat st state =
      ((crossPairs ((state.filterMap fun r => r.children[1]?).map fun x => [x])).map fun p =>
        (0, [sepSq Ls p.1.pos p.2.pos]), none) := by
  unfold oxygenOxygenSq oxygenOxygenWith
  have hall : (state.all fun r => r.children.length == 3) = true := by
    rw [List.all_eq_true]; intro r hr; simpa using (hw r hr).1
  simp only [hall, Bool.not_true, Bool.false_eq_true, if_false]
  have hpos := forall_crossPairs (P := fun l : Leaf ℚ => l.pos.length = Ls.length)
    (gs := (state.filterMap fun r => r.children[1]?).map fun x => [x]) (List.forall_mem_map.mpr fun x hx y hy => by
      obtain ⟨r, hr, hx⟩ := List.mem_filterMap.mp hx
      rw [List.mem_singleton.mp hy]
      exact (hw r hr).2 _ (List.mem_of_getElem? hx))
  refine collect_single _ _ _ fun p hp => ?_
  unfold ooEntryWith
  simp only [sepVec_eq hb (hpos p hp).1 (hpos p hp).2, normSq_rat, id, sepSq]

theorem mem_oxygen_pairs {β : Type} (l : List β) (a b : β) :
    (a, b) ∈ crossPairs (l.map fun x => [x]) ↔ ∃ i j : Nat, i < j ∧ l[i]? = some a ∧ l[j]? = some b := by
  rw [mem_crossPairs]
  constructor
  · rintro ⟨i, j, hij, g, h, hg, hh, ha, hb⟩
    simp only [List.getElem?_map, Option.map_eq_some_iff] at hg hh
    obtain ⟨x, hx, rfl⟩ := hg
    obtain ⟨y, hy, rfl⟩ := hh
    simp only [List.mem_singleton] at ha hb
    subst ha hb
    exact ⟨i, j, hij, hx, hy⟩
  · rintro ⟨i, j, hij, hx, hy⟩
    exact ⟨i, j, hij, [a], [b], by rw [List.getElem?_map, hx]; rfl, by rw [List.getElem?_map, hy]; rfl,
      List.mem_singleton_self a, List.mem_singleton_self b⟩


/-- a cubic box of side 5/2 in three dimensions and a cuboid box are well-formed boxes -/
example : BoxOK (.cubic ⟨3, 5 / 2, (5 / 2) / 2⟩) (List.replicate (3 : ℤ).toNat (5 / 2)) :=
  BoxOK.cubic 3 (5 / 2) _ (cubic_init_iff.mpr ⟨by decide, by decide +kernel, rfl⟩)
example : BoxOK (.cuboid ⟨3, [1, 5 / 2, 7], [1, 5 / 2, 7].map (· / 2)⟩) [1, 5 / 2, 7] :=
  BoxOK.cuboid 3 [1, 5 / 2, 7] _ (cuboid_init_iff.mpr ⟨by decide, rfl, by decide +kernel, rfl⟩)

/-- two dipoles in a 2-d box of side 1: the hypotheses of `separationsSq_eq` hold (positions with two coordinates, identifiers
0 and 1 with two nodes per root), the handler writes four lines into files 0, 1, 1, 0, and a half-box separation
(0.1 → 0.6) is written as `(1/2)²` -/
example :
    let st : Setting ℚ := ⟨.cubic ⟨2, 1, 1 / 2⟩, 2, 2⟩
    let state : List (Root ℚ) := [⟨0, [1/5, 1/5], none, [⟨0, [1/10, 1/5], none⟩, ⟨1, [3/10, 1/5], none⟩]⟩,
                                  ⟨1, [7/10, 4/5], none, [⟨0, [3/5, 1/5], none⟩, ⟨1, [4/5, 9/10], none⟩]⟩]
    (∀ r ∈ state, ∀ l ∈ r.leaves, l.pos.length = 2) ∧
      (∀ p ∈ crossPairs (state.map Root.leaves), identDistance st.levels p.1.ident p.2.ident < st.perRoot) ∧
      (crossPairs (state.map Root.leaves)).map (fun p => identDistance st.levels p.1.ident p.2.ident) = [0, 1, 1, 0] := by
  intro st state
  refine ⟨by decide, by decide, by decide⟩

end exact

end JF.Output
