import JF.Props.C10
import JF.Props.C11
import JF.Lemmas.C10C11
/-!
# C10 ⟵ C11: the occupancy invariant C10 assumes is the one C11 proves

`JF/Props/C10.lean` proves "the three cell-based event families cover each other relevant unit exactly once" under the hypothesis
`JF.C10.OccInv` on an occupancy state given as data, and leaves open that `SingleActiveCellOccupancy` establishes it.
`JF/Props/C11.lean` proves its own mirror invariant `JF.C11.OccInv` for the branch-for-branch model of that class, at every state
of every history satisfying `JF.C11.Reach`.  This module derives the former from the latter:

* `toTaggerOcc` (in `JF/Lemmas/C10C11.lean`; equal to the concrete world's `CW.tocc` by `tocc_eq`) converts C11's state into C10's;
* `occInv_of_c11`: C11's invariant implies C10's for the converted state; `reach_occInv`: at every reachable state;
* `cell_partition_total_of_c11`: both variants of the partition (or no in-state at all) for every state with C11's invariant;
  `reach_cell_partition_total`, `reach_cell_targets_nodup`, `reach_cell_target_exactly_one_family`: C10's theorems at every
  reachable state, with no occupancy hypothesis left.

## Where the two invariants differ, and the bridging facts
1. *Per cell vs global.*  C11: `recCount s u c ∈ {0, 1}` for every unit and cell.  C10: the stored identifiers (occupants of all
   cells in `yield_cells()` order, then surplus) are a permutation of `relevant.erase a`.  Bridge: `storedIds_perm` (sum of the
   per-cell counts over the cells of the grid, with C11's `recorded_exactly_once` and `not_recorded`).
2. *Cells.*  C11's cells are abstract numbers, C10's are identifier tuples of a grid, enumerated by `allCells`.  The conversion uses
   the position in that enumeration (as `CW.tocc` does); `map_idxOf_self` turns "all cells of the grid" into "cell numbers below
   `numCells g`".  **Hypothesis `InGrid`**: the cell number of every relevant unit is below `numCells g`
   (`position_to_cell` returns a cell of the cell system — C16's statement about the real `position_to_cell`; C11's model takes the
   cell numbers as inputs and cannot know the grid).  It is needed — see the last `example` — and only for the *current* cells; on
   runs of the composed mediator loop it holds by `JF.C10Closed.inGrid_closed` (`JF/Props/C10Closed.lean`).
3. *Relevant units.*  C11 has a predicate `rel`, C10 a duplicate-free list.  `IsRelevantList rel relevant` names the relation; it
   is no extra premise: every history has such a list (`reach_relevant_list_exists`; for `initialize` on `units` it is
   `relevantOf units`, `isRelevantList_relevantOf`).
4. *Active unit.*  C10's invariant needs an active unit; C11's allows none (after `initialize`, or when the active unit fails the
   charge filter).  Then no cell-based in-state exists at all (`no_active_no_instates`, no premise needed);
   `reach_cell_partition_total` states both cases.  The active unit's relevance (C10's `active_relevant`) and the validity of its
   cell (`cell_valid`) come from C11's `active` clause and `InGrid`.
5. *Identifiers.*  Unit `u` ↦ `(u,)` (`wrap`), injective; `map_erase_wrap` moves `erase` through it.
-/
namespace JF.C10C11
open JF JF.CellTaggers

/-- **C11's invariant implies C10's.**  For every occupancy state satisfying `JF.C11.OccInv` (for *any* world `rel`, `cellOf`) that
records an active unit `a`, every enumeration `relevant` of the relevant units and every grid containing their cells, the converted
state satisfies `JF.C10.OccInv` for the relevant identifiers, the active identifier `(a,)` and the cell of the grid with the recorded
number `cellOf a` (= `_active_cell`). -/
theorem occInv_of_c11 {rel : UId → Bool} {cellOf : UId → JF.Occ.Cell} {s : JF.Occ.State}
    (h : C11.OccInv rel cellOf s) (g : Grid) (relevant : List UId) (hnd : relevant.Nodup)
    (hmem : ∀ u, u ∈ relevant ↔ rel u = true) (hgrid : ∀ u ∈ relevant, cellOf u < numCells g)
    {a : UId} (ha : s.activeId = some a) :
    C10.OccInv g (toTaggerOcc g s) (idents relevant) (CW.cellAt g (cellOf a)) (wrap a) := by
  have hact : s.activeCell = some (cellOf a) ∧ rel a = true := by
    rcases h.active with ⟨hn, _⟩ | ⟨a', ha', hc, hr⟩
    · rw [hn] at ha; cases ha
    · rw [ha'] at ha; cases ha; exact ⟨hc, hr⟩
  have harel : a ∈ relevant := (hmem a).mpr hact.2
  refine ⟨?_, cellAt_valid g (hgrid a harel), hnd.map wrap_injective, List.mem_map_of_mem harel, ?_⟩
  · simp [toTaggerOcc, ha, hact.1, wrap]
  · rw [stored_toTaggerOcc, idents, idents, ← map_erase_wrap]
    exact (storedIds_perm h g relevant hnd hmem hgrid ha).map wrap


/-- **C11's history premise, by name**: `s` is the state of the occupancy after `initialize` on a duplicate-free list of units and
any number of `update`s, `cellOf` the current cell of every unit, where between two calls only a *continuing* active unit changed
its cell and every `update` was handed the true relevance and the true cell of the new active unit (`JF.C11.Reach`). -/
abbrev HistoryPremise (rel : UId → Bool) (s : JF.Occ.State) (cellOf : UId → JF.Occ.Cell) : Prop := C11.Reach rel s cellOf

/-- `relevant` lists the units that pass the charge filter, each once -/
structure IsRelevantList (rel : UId → Bool) (relevant : List UId) : Prop where
  nodup : relevant.Nodup
  mem : ∀ u, u ∈ relevant ↔ rel u = true

/-- **the hypothesis on the world**: the current cell of every relevant unit is a cell of the grid (a statement about the world
`cellOf` = `position_to_cell ∘ position`, not about the occupancy; decidable for a concrete list) -/
def InGrid (g : Grid) (relevant : List UId) (cellOf : UId → JF.Occ.Cell) : Prop := ∀ u ∈ relevant, cellOf u < numCells g

instance (g : Grid) (relevant : List UId) (cellOf : UId → JF.Occ.Cell) : Decidable (InGrid g relevant cellOf) := by
  unfold InGrid; infer_instance

/-- the relevant units of the list handed to `initialize` -/
def relevantOf (units : List JF.Occ.UnitIn) : List UId := (units.filter (·.relevant)).map (·.id)

theorem isRelevantList_relevantOf (units : List JF.Occ.UnitIn) (hnd : (units.map (·.id)).Nodup) :
    IsRelevantList (C11.relOf units) (relevantOf units) := by
  constructor
  · exact hnd.sublist ((List.filter_sublist (l := units)).map _)
  · intro u
    simp only [relevantOf, C11.relOf, List.mem_map, List.mem_filter, List.any_eq_true, Bool.and_eq_true, beq_iff_eq]
    constructor
    · rintro ⟨x, ⟨hx, hr⟩, rfl⟩; exact ⟨x, hx, rfl, hr⟩
    · rintro ⟨x, hx, rfl, hr⟩; exact ⟨x, ⟨hx, hr⟩, rfl⟩

/-- the list of relevant units is not an extra premise: every history has one -/
theorem reach_relevant_list_exists {rel : UId → Bool} {s : JF.Occ.State} {cellOf : UId → JF.Occ.Cell}
    (h : HistoryPremise rel s cellOf) : ∃ relevant, IsRelevantList rel relevant := by
  induction h with
  | init cap units hnd hrel => exact ⟨relevantOf units, hrel ▸ isRelevantList_relevantOf units hnd⟩
  | step _ _ _ _ _ _ _ _ ih => exact ih

/-- **C10's occupancy hypothesis holds at every reachable occupancy of C11** that records an active unit -/
theorem reach_occInv {rel : UId → Bool} {s : JF.Occ.State} {cellOf : UId → JF.Occ.Cell}
    (h : HistoryPremise rel s cellOf) (g : Grid) {relevant : List UId} (hl : IsRelevantList rel relevant)
    (hg : InGrid g relevant cellOf) {a : UId} (ha : s.activeId = some a) :
    C10.OccInv g (toTaggerOcc g s) (idents relevant) (CW.cellAt g (cellOf a)) (wrap a) :=
  occInv_of_c11 (C11.reach_inv h) g relevant hl.nodup hl.mem hg ha


section corollaries
variable {rel : UId → Bool} {s : JF.Occ.State} {cellOf : UId → JF.Occ.Cell}

/-- nobody is treated twice, and the active unit is not its own target -/
theorem reach_cell_targets_nodup (h : HistoryPremise rel s cellOf) (g : Grid) {relevant : List UId}
    (hl : IsRelevantList rel relevant) (hg : InGrid g relevant cellOf) {a : UId} (ha : s.activeId = some a) :
    let t := toTaggerOcc g s
    (targetsVeto g t ++ targetsExcluded g t ++ targetsSurplus t).Nodup ∧
    (targetsBounding g t ++ targetsExcluded g t ++ targetsSurplus t).Nodup ∧
    wrap a ∉ targetsVeto g t ++ targetsExcluded g t ++ targetsSurplus t ∧
    wrap a ∉ targetsBounding g t ++ targetsExcluded g t ++ targetsSurplus t :=
  C10.cell_targets_nodup g _ _ _ _ (reach_occInv h g hl hg ha)

/-- every other relevant unit: its multiplicities in the three families add up to one -/
theorem reach_cell_target_exactly_one_family (h : HistoryPremise rel s cellOf) (g : Grid) {relevant : List UId}
    (hl : IsRelevantList rel relevant) (hg : InGrid g relevant cellOf) {a : UId} (ha : s.activeId = some a)
    (u : UId) (hu : rel u = true) (hua : u ≠ a) :
    let t := toTaggerOcc g s
    (targetsVeto g t).count (wrap u) + (targetsExcluded g t).count (wrap u) + (targetsSurplus t).count (wrap u) = 1 ∧
    (targetsBounding g t).count (wrap u) + (targetsExcluded g t).count (wrap u) + (targetsSurplus t).count (wrap u) = 1 :=
  C10.cell_target_exactly_one_family g _ _ _ _ (reach_occInv h g hl hg ha) (wrap u)
    (List.mem_map_of_mem ((hl.mem u).mpr hu)) (fun e => hua (wrap_injective e))

/-- no recorded active unit (C11 allows it): no cell-based in-state, whatever the state -/
theorem no_active_no_instates (g : Grid) (ha : s.activeId = none) :
    let t := toTaggerOcc g s
    cellVetoTagger t = [] ∧ cellBoundingTagger g t = [] ∧ excludedCellsTagger g t = [] ∧
    surplusCellsTagger t = [] ∧ vetoTargets g t = [] := by
  refine C10.no_active_no_instates g _ ?_
  simp only [toTaggerOcc, ha]
  split <;> simp_all

/-- **both cases in one statement**, for every state satisfying C11's invariant (whatever establishes it: `C11.reach_inv`, or the joint
invariants of the composed systems in `JF/Props/C10Closed.lean`, `SystemInv3Occ.lean`), with the permutation written on unit numbers
(`idents (relevant.erase a)`): either nothing is yielded, or the recorded pair is the active unit with the cell of its position, the
active unit is relevant, and both variants partition the other relevant units -/
theorem cell_partition_total_of_c11 (h : C11.OccInv rel cellOf s) (g : Grid) {relevant : List UId}
    (hl : IsRelevantList rel relevant) (hg : InGrid g relevant cellOf) :
    let t := toTaggerOcc g s
    match s.activeId with
    | none => cellVetoTagger t = [] ∧ cellBoundingTagger g t = [] ∧ excludedCellsTagger g t = [] ∧
        surplusCellsTagger t = [] ∧ vetoTargets g t = []
    | some a =>
        t.active = some (CW.cellAt g (cellOf a), wrap a) ∧ rel a = true ∧
        (targetsVeto g t ++ targetsExcluded g t ++ targetsSurplus t).Perm (idents (relevant.erase a)) ∧
        (targetsBounding g t ++ targetsExcluded g t ++ targetsSurplus t).Perm (idents (relevant.erase a)) := by
  intro t
  cases ha : s.activeId with
  | none => exact no_active_no_instates g ha
  | some a =>
    have inv := occInv_of_c11 h g relevant hl.nodup hl.mem hg ha
    refine ⟨inv.active, (C11.active_recorded h ha).2, ?_, ?_⟩
    · rw [idents, map_erase_wrap]; exact C10.cell_partition_veto g _ _ _ _ inv
    · rw [idents, map_erase_wrap]; exact C10.cell_partition_bounding g _ _ _ _ inv

/-- `cell_partition_total_of_c11` at every reachable occupancy of C11 -/
theorem reach_cell_partition_total (h : HistoryPremise rel s cellOf) (g : Grid) {relevant : List UId}
    (hl : IsRelevantList rel relevant) (hg : InGrid g relevant cellOf) :
    let t := toTaggerOcc g s
    match s.activeId with
    | none => cellVetoTagger t = [] ∧ cellBoundingTagger g t = [] ∧ excludedCellsTagger g t = [] ∧
        surplusCellsTagger t = [] ∧ vetoTargets g t = []
    | some a =>
        t.active = some (CW.cellAt g (cellOf a), wrap a) ∧ rel a = true ∧
        (targetsVeto g t ++ targetsExcluded g t ++ targetsSurplus t).Perm (idents (relevant.erase a)) ∧
        (targetsBounding g t ++ targetsExcluded g t ++ targetsSurplus t).Perm (idents (relevant.erase a)) :=
  cell_partition_total_of_c11 (C11.reach_inv h) g hl hg

end corollaries


section Example
open JF.Occ

/-- a 3 x 4 periodic grid with one neighbour layer (12 cells; cell `[i, j]` has index `i + 3 j`) -/
def exGrid : Grid := ⟨[3, 4], 1⟩
/-- six units, unit 4 irrelevant (zero charge), cap 1: units 0 and 1 share cell `[0, 0]`, so unit 1 is surplus -/
def exUnits : List UnitIn := [⟨0, true, 0⟩, ⟨1, true, 0⟩, ⟨2, true, 3⟩, ⟨3, true, 8⟩, ⟨4, false, 5⟩, ⟨5, true, 10⟩]
def ex0 : State := Occ.init 1 exUnits
/-- unit 2 (cell `[0, 1]`) becomes active -/
def ex1 : State := C11.upd! ex0 ⟨2, true, 3⟩
/-- it crosses into cell `[1, 1]` (same identifier) -/
def ex2 : State := C11.upd! ex1 ⟨2, true, 4⟩
/-- lifting to unit 0, an occupant of the cell `[0, 0]` that also has a surplus unit; unit 2 is re-inserted under `[1, 1]` -/
def ex3 : State := C11.upd! ex2 ⟨0, true, 0⟩
def exCell0 : UId → Occ.Cell := C11.cellOfUnits exUnits
def exCell1 : UId → Occ.Cell := fun u => if u = 2 then 4 else exCell0 u

theorem ex_reach2 : HistoryPremise (C11.relOf exUnits) ex2 exCell1 := by
  have r0 : C11.Reach (C11.relOf exUnits) ex0 exCell0 := .init 1 exUnits (by decide) rfl
  have r1 : C11.Reach (C11.relOf exUnits) ex1 exCell0 :=
    .step (s := ex0) ⟨2, true, 3⟩ exCell0 ex1 r0 (by decide) (by decide) (fun _ _ => rfl) (by rfl)
  exact .step (s := ex1) ⟨2, true, 4⟩ exCell1 ex2 r1 (by decide) (by decide)
    (by intro u hu; simp only [exCell1]; split
        · rename_i h; subst h; exact absurd ⟨rfl, by decide⟩ hu
        · rfl) (by rfl)

theorem ex_reach3 : HistoryPremise (C11.relOf exUnits) ex3 exCell1 :=
  .step (s := ex2) ⟨0, true, 0⟩ exCell1 ex3 ex_reach2 (by decide) (by decide) (fun _ _ => rfl) (by rfl)

/-- **non-vacuity.**  The hypotheses of the corollaries hold for a concrete history (six units, one irrelevant, one surplus;
`initialize`, then three `update`s: activation, cell crossing, lifting) … -/
example : HistoryPremise (C11.relOf exUnits) ex2 exCell1 ∧ HistoryPremise (C11.relOf exUnits) ex3 exCell1 ∧
    IsRelevantList (C11.relOf exUnits) (relevantOf exUnits) ∧ relevantOf exUnits = [0, 1, 2, 3, 5] ∧
    InGrid exGrid (relevantOf exUnits) exCell1 ∧ ex2.activeId = some 2 ∧ ex3.activeId = some 0 :=
  ⟨ex_reach2, ex_reach3, isRelevantList_relevantOf exUnits (by decide), by decide, by decide, by decide, by decide⟩

/-- … and what they conclude is what evaluation shows: after two `update`s (active unit 2 in cell `[1, 1]`) and after three
(active unit 0 in cell `[0, 0]`) all three families are non-empty and together are the other four relevant units. -/
example :
    (toTaggerOcc exGrid ex2).active = some ([1, 1], [2]) ∧
    targetsVeto exGrid (toTaggerOcc exGrid ex2) = [[5]] ∧ targetsBounding exGrid (toTaggerOcc exGrid ex2) = [[5]] ∧
    targetsExcluded exGrid (toTaggerOcc exGrid ex2) = [[0], [3]] ∧ targetsSurplus (toTaggerOcc exGrid ex2) = [[1]] ∧
    (idents (relevantOf exUnits)).erase (wrap 2) = [[0], [1], [3], [5]] ∧
    (toTaggerOcc exGrid ex3).active = some ([0, 0], [0]) ∧
    targetsVeto exGrid (toTaggerOcc exGrid ex3) = [[3]] ∧ targetsBounding exGrid (toTaggerOcc exGrid ex3) = [[3]] ∧
    targetsExcluded exGrid (toTaggerOcc exGrid ex3) = [[5], [2]] ∧ targetsSurplus (toTaggerOcc exGrid ex3) = [[1]] ∧
    (idents (relevantOf exUnits)).erase (wrap 0) = [[1], [2], [3], [5]] := by decide +kernel

example : (targetsVeto exGrid (toTaggerOcc exGrid ex3) ++ targetsExcluded exGrid (toTaggerOcc exGrid ex3) ++
      targetsSurplus (toTaggerOcc exGrid ex3)).Perm ((idents (relevantOf exUnits)).erase (wrap 0)) :=
  C10.cell_partition_veto _ _ _ _ _
    (reach_occInv ex_reach3 exGrid (isRelevantList_relevantOf exUnits (by decide)) (by decide) (by decide))

/-- **`InGrid` is needed.**  C11's cells are abstract numbers; a history whose unit 1 sits in "cell 5" of a two-cell grid satisfies
C11's premise and invariant, but the taggers (which enumerate the cells of the grid) never see unit 1: C10's invariant fails. -/
example : ∃ s cellOf, HistoryPremise (C11.relOf [⟨0, true, 0⟩, ⟨1, true, 5⟩]) s cellOf ∧ s.activeId = some 0 ∧
    ¬ InGrid ⟨[2], 0⟩ [0, 1] cellOf ∧
    ∀ ac, ¬ C10.OccInv ⟨[2], 0⟩ (toTaggerOcc ⟨[2], 0⟩ s) (idents [0, 1]) ac (wrap 0) := by
  refine ⟨C11.upd! (Occ.init 1 [⟨0, true, 0⟩, ⟨1, true, 5⟩]) ⟨0, true, 0⟩, C11.cellOfUnits [⟨0, true, 0⟩, ⟨1, true, 5⟩],
    ?_, by decide, by decide, ?_⟩
  · exact .step (s := Occ.init 1 [⟨0, true, 0⟩, ⟨1, true, 5⟩]) ⟨0, true, 0⟩ _ _ (.init 1 _ (by decide) rfl)
      (by decide) (by decide) (fun _ _ => rfl) (by rfl)
  · intro ac h
    have := h.stored_eq.length_eq
    revert this
    decide

end Example

end JF.C10C11
