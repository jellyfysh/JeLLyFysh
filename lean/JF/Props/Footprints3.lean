/-
The hypothesis `FootprintsSound` of C09's freshness theorem and of C08's clause-(h) link, discharged for the concrete world of
COMPOSITE OBJECTS WITH CELL-OCCUPANCY SYSTEMS: `dipoles/cell_bounded.ini`, `dipoles/cell_veto.ini`,
`water/coulomb_cell_veto_lj_cell_veto.ini` (TWO occupancies: oxygens on the leaf level, molecules on the root level),
`water/coulomb_cell_veto_lj_inverted.ini`, `water/coulomb_power_bounded_lj_cell_bounded.ini`,
`hard_disk_dipoles/hard_disk_dipoles_cells.ini` — and, since the world has any number (also zero) of internal states, every
configuration of the world of `JF/Props/Footprints2.lean` again.

Model: `JF/Model/ConcreteWorld3.lean` (namespace `JF.CW3`): the world of `Footprints2` (`Composite.step`, `yieldF`) × one `Occ.State`
(C11) per internal state at its `cell_level`, updated after every commit as `TagActivator._get_event_handlers_to_run_update` does, read
by the cell taggers of C10 (`CellTaggers`).  Lemmas: `JF/Lemmas/ConcreteWorld3.lean`.

The states carry `Inv3` (the `Inv` of `Footprints2` + consistency of every carried occupancy), preserved by every transition
(`tr3_invariant`).  Per shipped wiring with cells there is `supported3_*` (and `shipped_in_world`); `fresh_concrete3`,
`clause_h_concrete3` are applied once, in `Example`, a run of `dipoles/cell_bounded.ini` with two dipoles (non-vacuity).
FINDING about the table — `Finding.other_cell_boundary_needs_premise`: `affects (cellBoundary of system l') (.cell l) = false` for
`l ≠ l'` holds only under the C11 history premise `StaysInRecordedCell` of system `l`.

Hypotheses of THIS file: the premise `StaysInRecordedCell` inside `Tr3` (for sampling / dumping / end-of-run commits and for
cell-boundary commits of ANOTHER internal state; measured per commit by `harness/fpcorr3.py`) and the mode premise `modeStep` (all six
shipped cell wirings run in leaf mode only) — both discharged for the composed system in `JF/Props/SystemInv3Loop.lean`
(`staysInRecordedCell_closed3`, `tr3_premise_closed3`; `JF/Props/SystemInv3.lean` for runs of `Tr3L`); weak admissibility `AdmW`, exact
arithmetic, the modelling assumptions of the world.
-/
import JF.Lemmas.ConcreteWorld3
import JF.Props.C09
import JF.Props.C08
import JF.Props.ModeDiscipline
import JF.Gen.Wirings
import JF.Gen.WiringsSound
import JF.Gen.ModeWirings
import JF.Props.Footprints2
namespace JF.Footprints3
open JF JF.Act JF.CW3 JF.Composite JF.C12

/-- `.ident` / `.motion`, effect side: the commit of a tagger whose table entry `affects · .ident` is `false` (sampling, dumping, end of
run, cell boundary) leaves which units carry a velocity as it is -/
theorem ident_quiet3 {env : Env ℚ} {mw : ModeWiring} (hs : Supported3 mw = true) {E : TaggerIdx} {s s' : St3}
    (ha : affects (mw.w.tagger E) .ident = false) (h : TrRaw3 env mw E s s') : CW2.flags s'.cs = CW2.flags s.cs :=
  CW2.flags_eq_of_vels (CW2.vels_quiet_tr (fun _ _ => quiet_of_ident_false3 hs ha) h.1)

theorem tr3_invariant {env : Env ℚ} (hL : BoxOK env.base.d env.base.L) {mw : ModeWiring} {E : TaggerIdx} {s s' : St3}
    (hi : Inv3 env mw s) (h : TrRaw3 env mw E s s') : Inv3 env mw s' := trRaw3_inv hL hi h

/-- **the footprint tables are sound for the world of composite objects with cell-occupancy systems**: for every wiring of this world
(`Supported3`), if the effect footprint `affects (tagger E)` and the dependency footprint `reads (tagger T)` are disjoint, a commit by a
handler of `E` (`Tr3`: the `Composite.step` transition of `Footprints2`, then the activator's update of every internal state) does not change what
`T` yields, as far as C09's comparison for `T` sees it.  The states are those satisfying `Inv3` (established by the start-of-run
event from rest with freshly initialised occupancies: `inv3_start`, `consistent_init`); a commit carries the C11 history premise `StaysInRecordedCell` for every internal state whose active cell the
table declares untouched (see `Finding.other_cell_boundary_needs_premise`). -/
theorem footprintsSound_concrete3 (env : Env ℚ) (hL : BoxOK env.base.d env.base.L) (mw : ModeWiring) (hs : Supported3 mw = true) :
    FootprintsSound mw.w (world3 env mw) (Tr3 env mw) := by
  constructor
  rintro E T ⟨s, hi⟩ ⟨s', _⟩ htr hd
  show ((yieldCls3 env T (mw.w.tagger T).cls (mw.w.tagger T).label s'.cs s'.occs).map (CW2.viewOf (mw.w.tagger T))).Perm
    ((yieldCls3 env T (mw.w.tagger T).cls (mw.w.tagger T).label s.cs s.occs).map (CW2.viewOf (mw.w.tagger T)))
  replace htr : TrRaw3 env mw E s s' := htr
  unfold yieldCls3
  by_cases hcell : isCellCls (mw.w.tagger T).cls = true
  · -- the five cell taggers, on the internal state they name: all of them read `.ident`, so the active unit on the level is the same;
    -- excluded / cell-bounding / surplus also read `.cell l`, so the commit carries the premise
    obtain ⟨l, hlab, hl⟩ := supported3_label hs hcell
    have hfl := ident_quiet3 hs (JF.CW.ident_false_of_disjoint hd (reads_ident_of_cell hcell)) htr
    obtain ⟨a, hma, hu⟩ := occAfter_some (htr.2.1 l hl)
    simp only [hcell, if_true, hlab]
    rw [(hi.2 l hl).yieldCell_update (hfl ▸ hma) rfl hu fun hrd =>
      htr.2.2 l hl (JF.CW.cell_false_of_disjoint hl hd (reads_cell_of_cellReading hrd hlab)) a hma]
  · -- the four classes without internal state: the argument of `footprintsSound_concrete2`
    simp only [hcell]
    have hcnt := CW2.count_step hL hi.1 htr.1
    exact CW2.yield_untouched env.base T (mw.w.tagger T)
      (fun hr => ident_quiet3 hs (JF.CW.ident_false_of_disjoint hd hr) htr) (fun _ _ => hcnt)

/-! ## C09, the C08 link and the mode discipline at this world, without the `FootprintsSound` hypothesis -/

/-- **C09 for every run of a sound, supported configuration in the world of composite objects with cells**: after every commit, for
every tagger except the start-of-run tagger, the pending events are what the tagger generates from scratch for the current global
state and the current occupancies (identifier tuples for interaction-type taggers, their number for the others) -/
theorem fresh_concrete3 (env : Env ℚ) (hL : BoxOK env.base.d env.base.L) (mw : ModeWiring) (S : TaggerIdx)
    (sound : WiringSound mw.w = true) (hS : mw.w.start? = some S) (hs : Supported3 mw = true) {rs : RS (G3 env mw)}
    (h : Run mw.w (world3 env mw) (Tr3 env mw) S rs) : ∀ T, (world3 env mw).live T → Fresh (world3 env mw) rs T :=
  JF.C09.fresh_of_wiringSound mw.w (world3 env mw) (Tr3 env mw) S sound hS (footprintsSound_concrete3 env hL mw hs) (liveIs3 env mw) h

theorem clause_h_concrete3 (env : Env ℚ) (hL : BoxOK env.base.d env.base.L) (mw : ModeWiring) (S : TaggerIdx)
    (sound : WiringSound mw.w = true) (hS : mw.w.start? = some S) (hs : Supported3 mw = true) {rs : RS (G3 env mw)}
    (hrun : Run mw.w (world3 env mw) (Tr3 env mw) S rs) {E : TaggerIdx} (hE : (getT rs.act E).running ≠ [])
    (hend : (mw.w.tagger E).kind ≠ .endOfRun) (hm : affects (mw.w.tagger E) .motion = true) {T : TaggerIdx} (hT : T < mw.w.n)
    (hb : motionBound (mw.w.tagger T) = true) : T ∈ (getW mw.w.wires E).trashes ∨ (getT rs.act T).running = [] :=
  JF.C08.clause_h_of_wiringSound mw.w (world3 env mw) (Tr3 env mw) S sound hS (footprintsSound_concrete3 env hL mw hs)
    (liveIs3 env mw) hrun hE hend hm hT hb

theorem mode_concrete3 (env : Env ℚ) (hL : BoxOK env.base.d env.base.L) (mw : ModeWiring) (S : TaggerIdx) (hms : ModeSound mw = true)
    (sound : WiringSound mw.w = true) (hS : mw.w.start? = some S) (hs : Supported3 mw = true)
    {h : List (TaggerIdx × EvKind)} {cm : TaggerIdx → WMode} {rs : RS (G3 env mw)}
    (r : RunK mw (world3 env mw) (Tr3 env mw) S h cm rs) : ModeInv mw h cm rs :=
  modeStep_of_modeSound mw (world3 env mw) (Tr3 env mw) S hms sound hS (footprintsSound_concrete3 env hL mw hs) (liveIs3 env mw) r

/-! ## the shipped configurations of composite objects with cells live in this world -/

open JF.Act.Gen

/-- every shipped wiring passes the side condition (it is a condition on the WIRING only; the world models the configurations with two
node levels — the four coulomb_atoms wirings are one-level systems and live in the world of `JF/Props/Footprints.lean`).  The side
condition is not trivially true: a wiring whose cell tagger names no internal state fails it (`unsupported_example`). -/
theorem shipped_in_world : (allModeCfgs.filter Supported3).length = allModeCfgs.length := by decide +kernel

theorem supported3_of_shipped {mw : ModeWiring} (k : Nat) (h : allModeCfgs[k]? = some mw) : Supported3 mw = true :=
  List.length_filter_eq_length_iff.mp shipped_in_world mw (List.mem_of_getElem? h)

theorem supported3_dipoles_cell_bounded : Supported3 mcfg_dipoles_cell_bounded = true := supported3_of_shipped 5 rfl
theorem supported3_dipoles_cell_veto : Supported3 mcfg_dipoles_cell_veto = true := supported3_of_shipped 6 rfl
theorem supported3_water_cell_veto_lj_cell_veto : Supported3 mcfg_water_coulomb_cell_veto_lj_cell_veto = true := supported3_of_shipped 11 rfl
theorem supported3_water_cell_veto_lj_inverted : Supported3 mcfg_water_coulomb_cell_veto_lj_inverted = true := supported3_of_shipped 12 rfl
theorem supported3_water_power_bounded_lj_cell_bounded : Supported3 mcfg_water_coulomb_power_bounded_lj_cell_bounded = true := supported3_of_shipped 13 rfl
theorem supported3_hard_disk_dipoles_cells : Supported3 mcfg_hard_disk_dipoles_hard_disk_dipoles_cells = true := supported3_of_shipped 17 rfl

theorem unsupported_example : Supported3 ⟨⟨"x", ["occ"], [⟨"t", .cellVeto, "", .cellVeto, [0], [0], [], [], 1, none⟩]⟩, [.leafUnit]⟩ = false := by
  decide


/-! ## non-vacuity: a run of `dipoles/cell_bounded.ini` with two dipoles (exact reading)

The two dipoles of `JF/Props/C12.lean` in the unit square (`exC0`: centre (1/2, 1/2); `exC1`: centre (1/10, 1/5)), ONE occupancy on
the root level (`cell_level = 1`) over a 4 × 4 grid with one layer of nearby cells, `maximum_number_occupants = 1`.  The run: start of
run (point mass (0, 0) starts, speed 1; dipole 0 becomes the active unit of the occupancy, cell (2, 2)) — a sampling event at time
1/8 (premise: the centre of dipole 0, at x = 9/16, is still in its recorded cell) — the cell-boundary event of dipole 0 at time 1/2
(its centre reaches x = 3/4: recorded cell (3, 2)) — an accepted `harmonic` event (lifting (0, 0) → (0, 1) inside the molecule: same
active unit on the cell level) — the end of chain (point mass (1, 0) moves on: dipole 0 goes back into cell (3, 2), dipole 1 is taken
out of cell (0, 0)). -/

namespace Example

abbrev mw : ModeWiring := mcfg_dipoles_cell_bounded
abbrev cfg : Wiring := cfg_dipoles_cell_bounded

/-- the occupancy's environment: root level, 4 × 4 cells, index of cell (ix, iy) in `yield_cells()` order = ix + 4 iy -/
def oe : OccEnv ℚ :=
  { level := 1, grid := ⟨[4, 4], 1⟩
    cellOf := fun p => (Ops.rat.toInt (p.getD 0 0 * 4)).toNat + 4 * (Ops.rat.toInt (p.getD 1 0 * 4)).toNat
    relevant := fun _ => true }

def env : Env ℚ :=
  { base := Footprints2.envOf exL 2 "factor_set_dipoles_dipole.txt"
      ["CoulombCellBounding", "CoulombNearby", "CoulombSurplus", "CellBoundary", "Harmonic", "Repulsive", "Sampling", "EndOfChain",
       "EndOfRun", "StartOfRun"]
    occs := [oe] }

theorem box : BoxOK env.base.d env.base.L := exBox

theorem ex_uniform : CW2.Uniform env.base.nPer [exC0, exC1] := CW2.uniform_exC

/-- `SingleActiveCellOccupancy.initialize`: dipole 0 in cell (2, 2) = 10, dipole 1 in cell (0, 0) = 0 -/
def occ0 : Occ.State := Occ.init 1 [⟨0, true, 10⟩, ⟨1, true, 0⟩]

theorem occsUpd {occs : List Occ.State} {cs' : List (CObj ℚ)}
    (ho : (occAfter 2 oe (getOcc occs 0) cs').isSome = true) :
    OccsUpdated env mw.w.labels.length occs [(occAfter 2 oe (getOcc occs 0) cs').get ho] cs' := by
  intro l hl
  have : l = 0 := Nat.lt_one_iff.mp hl
  subst this
  exact (Option.some_get ho).symm

def g0 : G3 env mw := ⟨⟨[exC0, exC1], .leaf, [occ0]⟩, CW2.inv_rest ex_initial ex_uniform ex_rest .leaf, fun l hl => by
  have : l = 0 := Nat.lt_one_iff.mp hl
  subst this
  exact consistent_init _ _ _⟩

theorem start_ho : (occAfter 2 oe (getOcc g0.1.occs 0) (step Ops.rat isZ env.base.L g0.1.cs (.start 0 [0] [1, 0]))).isSome = true := by
  decide +kernel

/-- after the start-of-run event (`initial_active_identifier = 0, 0`) and the first update of the occupancy -/
def g1 : G3 env mw :=
  ⟨⟨step Ops.rat isZ env.base.L g0.1.cs (.start 0 [0] [1, 0]), .leaf, [(occAfter 2 oe (getOcc g0.1.occs 0) _).get start_ho]⟩,
    inv3_start (s := g0.1) (m := .leaf) box ex_initial ex_uniform ex_rest g0.2.2 JF.C12.ModeExample.start_admW (rfl : [0].length = 1) (occsUpd start_ho)⟩

def next (g : G3 env mw) (e : Composite.Ev ℚ) (m' : Composite.Mode) (hm : modeStep g.1.mode e = some m')
    (ha : AdmW env.base.d env.base.L g.1.cs e)
    (ho : (occAfter 2 oe (getOcc g.1.occs 0) (step Ops.rat isZ env.base.L g.1.cs e)).isSome = true) : G3 env mw :=
  ⟨⟨step Ops.rat isZ env.base.L g.1.cs e, m', [(occAfter 2 oe (getOcc g.1.occs 0) _).get ho]⟩,
    CW2.inv_step box g.2.1 hm ha, consAll_after (s' := ⟨_, m', _⟩) g.2.2 (occsUpd ho)⟩

theorem tr_next (E : TaggerIdx) (g : G3 env mw) (e : Composite.Ev ℚ) (m' : Composite.Mode) (hm : modeStep g.1.mode e = some m')
    (ha : AdmW env.base.d env.base.L g.1.cs e) (ho) (cm : WMode) (hk : CW2.evKind e ∈ kindsOf (mw.hmode E) cm)
    (hp : affects (mw.w.tagger E) (.cell 0) = false →
      StaysInRecordedCell 2 oe (getOcc g.1.occs 0) (step Ops.rat isZ env.base.L g.1.cs e)) :
    Tr3 env mw E g (next g e m' hm ha ho) := by
  refine ⟨⟨e, cm, hk, hm, ha, rfl⟩, occsUpd ho, fun l hl h => ?_⟩
  have : l = 0 := Nat.lt_one_iff.mp hl
  subst this
  exact hp h

def e2 : Composite.Ev ℚ := .keep ⟨0, 1/8⟩ [0]
def e3 : Composite.Ev ℚ := .snap ⟨0, 1/2⟩ [0] 0 none 0 (3/4)
def e4 : Composite.Ev ℚ := .exchange ⟨0, 5/8⟩ [0] 0 0 0 1
def e5 : Composite.Ev ℚ := .eocLeaf ⟨0, 3/4⟩ 0 1 1 0 [0, 1]

def g2 : G3 env mw := next g1 e2 .leaf rfl trivial (by decide +kernel)

theorem adm3 : AdmW env.base.d env.base.L g2.1.cs e3 := admW_of_check (by decide +kernel)

def g3 : G3 env mw := next g2 e3 .leaf rfl adm3 (by decide +kernel)

theorem adm4 : AdmW env.base.d env.base.L g3.1.cs e4 := admW_of_check (by decide +kernel)

def g4 : G3 env mw := next g3 e4 .leaf rfl adm4 (by decide +kernel)

theorem adm5 : AdmW env.base.d env.base.L g4.1.cs e5 := admW_of_check (by decide +kernel)

def g5 : G3 env mw := next g4 e5 .leaf rfl adm5 (by decide +kernel)

/-- the states are what the description says: the active unit on the cell level and its recorded cell along the run, and at the end
dipole 0 back in cell (3, 2) = 11 -/
example : [g1, g2, g3, g4, g5].map (fun g => ((getOcc g.1.occs 0).activeId, (getOcc g.1.occs 0).activeCell))
      = [(some 0, some 10), (some 0, some 10), (some 0, some 11), (some 0, some 11), (some 1, some 0)] ∧
    (getOcc g5.1.occs 0).occupants 11 = [0] ∧ (getOcc g5.1.occs 0).occupants 0 = [] ∧ (getOcc g1.1.occs 0).occupants 0 = [1] := by
  decide +kernel

/-- the sampling commit is an instance of `Tr3`, premise included: at its time the centre of dipole 0 is still in its recorded cell -/
theorem tr_sampling : Tr3 env mw 6 g1 g2 := by
  refine tr_next 6 g1 e2 .leaf rfl trivial _ .leaf (by decide) (fun _ a hm _ => ?_)
  have h0 : unitsOn 2 oe.level (CW2.flags (step Ops.rat isZ env.base.L g1.1.cs e2)) = [0] := by decide +kernel
  have : a = 0 := by
    have := h0.symm.trans hm
    simpa using this.symm
  subst this
  decide +kernel

theorem tr_cell_boundary : Tr3 env mw 3 g2 g3 :=
  tr_next 3 g2 e3 .leaf rfl adm3 _ .leaf (by decide) (fun h => absurd h (by decide))
theorem tr_harmonic : Tr3 env mw 4 g3 g4 :=
  tr_next 4 g3 e4 .leaf rfl adm4 _ .leaf (by decide) (fun h => absurd h (by decide))
theorem tr_end_of_chain : Tr3 env mw 7 g4 g5 :=
  tr_next 7 g4 e5 .leaf rfl adm5 _ .leaf (by decide) (fun h => absurd h (by decide))

abbrev W : World (G3 env mw) := world3 env mw

def s0 : Act := ((first cfg.wires (initAct cfg.wires) 9 (fun T => W.yieldOf T g0)).get (by decide +kernel)).1
def out0 : List (HandlerId × IdTuple) :=
  ((first cfg.wires (initAct cfg.wires) 9 (fun T => W.yieldOf T g0)).get (by decide +kernel)).2
def rs1 : RS (G3 env mw) := (commit cfg.wires W ⟨s0, assign (fun _ => none) out0, g0⟩ 9 g1).get (by decide +kernel)
def rs2 : RS (G3 env mw) := (commit cfg.wires W rs1 6 g2).get (by decide +kernel)      -- sampling
def rs3 : RS (G3 env mw) := (commit cfg.wires W rs2 3 g3).get (by decide +kernel)      -- cell boundary
def rs4 : RS (G3 env mw) := (commit cfg.wires W rs3 4 g4).get (by decide +kernel)      -- harmonic: lifting (0, 0) → (0, 1)
def rs5 : RS (G3 env mw) := (commit cfg.wires W rs4 7 g5).get (by decide +kernel)      -- end of chain: (1, 0) moves on

theorem commit1 : commit cfg.wires W ⟨s0, assign (fun _ => none) out0, g0⟩ 9 g1 = some rs1 := by simp [rs1]
theorem commit2 : commit cfg.wires W rs1 6 g2 = some rs2 := by simp [rs2]
theorem commit3 : commit cfg.wires W rs2 3 g3 = some rs3 := by simp [rs3]
theorem commit4 : commit cfg.wires W rs3 4 g4 = some rs4 := by simp [rs4]
theorem commit5 : commit cfg.wires W rs4 7 g5 = some rs5 := by simp [rs5]

theorem run1 : Run cfg W (Tr3 env mw) 9 rs1 :=
  .start (fun _ => none) g0 g1 s0 out0 rs1
    (Option.some_get (x := first cfg.wires (initAct cfg.wires) 9 (fun T => W.yieldOf T g0)) (by decide +kernel)).symm commit1

/-- as `JF.Footprints.Example.pending_of_run` -/
theorem pending_of_run {rs : RS (G3 env mw)} (r : Run cfg W (Tr3 env mw) 9 rs) {E : TaggerIdx} (hE : E < cfg.n)
    (hk : (cfg.tagger E).kind ≠ .startOfRun) {g} (hg : rs.g = g) (hy : W.yieldOf E g ≠ []) : (getT rs.act E).running ≠ [] :=
  run_pending cfg W (Tr3 env mw) 9 cfg_sound_dipoles_cell_bounded (by decide)
    (footprintsSound_concrete3 env box mw supported3_dipoles_cell_bounded) (liveIs3 env mw) r hE hk
    (aGet_of_reach_all (by decide +kernel) hE) hg hy

theorem run2 : Run cfg W (Tr3 env mw) 9 rs2 :=
  .step rs1 rs2 6 g2 run1
    (pending_of_run run1 (by decide) (by decide) (JF.CW.commit_g commit1) (by decide +kernel))
    (by decide) (JF.CW.commit_g commit1 ▸ tr_sampling) commit2
theorem run3 : Run cfg W (Tr3 env mw) 9 rs3 :=
  .step rs2 rs3 3 g3 run2
    (pending_of_run run2 (by decide) (by decide) (JF.CW.commit_g commit2) (by decide +kernel))
    (by decide) (JF.CW.commit_g commit2 ▸ tr_cell_boundary) commit3
theorem pending3 : (getT rs3.act 4).running ≠ [] :=
  pending_of_run run3 (by decide) (by decide) (JF.CW.commit_g commit3) (by decide +kernel)
theorem run4 : Run cfg W (Tr3 env mw) 9 rs4 :=
  .step rs3 rs4 4 g4 run3 pending3 (by decide) (JF.CW.commit_g commit3 ▸ tr_harmonic) commit4
theorem run5 : Run cfg W (Tr3 env mw) 9 rs5 :=
  .step rs4 rs5 7 g5 run4
    (pending_of_run run4 (by decide) (by decide) (JF.CW.commit_g commit4) (by decide +kernel))
    (by decide) (JF.CW.commit_g commit4 ▸ tr_end_of_chain) commit5

example : ∀ T, W.live T → Fresh W rs5 T :=
  fresh_concrete3 env box mw 9 cfg_sound_dipoles_cell_bounded (by decide) supported3_dipoles_cell_bounded run5

/-- `Fresh` speaks about non-empty pending lists here.  Before the end of chain (`rs4`: dipole 0 active in cell (3, 2), point mass (0, 1)
moving): the cell-bounding tagger's one pending event carries (dipole 0, dipole 1) — cell (0, 0) is not nearby (3, 2) —, the
excluded-cells and surplus taggers are idle, the cell-boundary tagger carries `((0,),)`, `harmonic` the bond of dipole 0.  Afterwards
(`rs5`: dipole 1 active in cell (0, 0), dipole 0 stored in cell (3, 2), not nearby): the cell-bounding tagger carries
(dipole 1, dipole 0), the cell-boundary tagger `((1,),)`, `harmonic` the bond of dipole 1. -/
example : (getT rs4.act 0).running.map rs4.ids = [some [[0], [1]]] ∧ (getT rs4.act 1).running = [] ∧ (getT rs4.act 2).running = [] ∧
    (getT rs4.act 3).running.map rs4.ids = [some [[0]]] ∧ (getT rs4.act 4).running.map rs4.ids = [some [[0, 0], [0, 1]]] ∧
    (getT rs5.act 0).running.map rs5.ids = [some [[1], [0]]] ∧ (getT rs5.act 1).running = [] ∧
    (getT rs5.act 3).running.map rs5.ids = [some [[1]]] ∧ (getT rs5.act 4).running.map rs5.ids = [some [[1, 0], [1, 1]]] := by
  decide +kernel

/-- clause (h) before the lifting is committed (`rs3`; the committing tagger `harmonic` changes motion) -/
example : 0 ∈ (getW cfg.wires 4).trashes ∨ (getT rs3.act 0).running = [] :=
  clause_h_concrete3 env box mw 9 cfg_sound_dipoles_cell_bounded (by decide) supported3_dipoles_cell_bounded
    run3 pending3 (by decide) (by decide) (by decide) (by decide)

end Example


/-! ## FINDING about the table: the cell-boundary event of ANOTHER internal state needs the history premise

`affects (cellBoundary handler of internal state l') (.cell l) = (l' == l)`: the table claims that a cell-boundary event of one
cell-occupancy system does not change the active cell of another one ("distinct systems track distinct tree levels").  For the concrete
world this is false without C11's history premise for system `l`, exactly as for sampling commits
(`JF.Footprints.Example.quiet_commit_needs_premise`): the commit time-slices the
whole active branch, and the update of system `l` recomputes its active cell from the new position of ITS active unit.

The wiring of `water/coulomb_cell_veto_lj_cell_veto.ini` (taggers 2 = `oxygen_cell_boundary` on internal state 0, 7 = `coulomb_nearby`,
an `ExcludedCellsTagger` on internal state 1) over the two dipoles of the run above with a leaf-level and a root-level occupancy on 4 cells
along x: point mass (0, 0) starts at x = 3/4 with speed 1, the centre of dipole 0 (x = 1/2, cell 2, speed 1/2) is the active unit of the
root-level system; dipole 1 sits in cell 0, not nearby.  A leaf-level cell-boundary event at time 1/2 (the point mass reaches x = 1/4
across the periodic boundary) finds the centre at x = 3/4 — cell 3, whose nearby cells include cell 0: `coulomb_nearby` yields nothing
before and (dipole 0, dipole 1) afterwards, although the table declares the pair disjoint.  In a run the root-level cell-boundary event
(time 1/2 as well here; earlier in general) is pending — which is the premise. -/

namespace Finding
open Example

abbrev mw2 : ModeWiring := mcfg_water_coulomb_cell_veto_lj_cell_veto
abbrev cfg2 : Wiring := cfg_water_coulomb_cell_veto_lj_cell_veto

def cellX : List ℚ → Nat := fun p => (Ops.rat.toInt (p.getD 0 0 * 4)).toNat
def oeLeaf : OccEnv ℚ := { level := 2, grid := ⟨[4, 1], 1⟩, cellOf := cellX, relevant := fun _ => true }
def oeRoot : OccEnv ℚ := { level := 1, grid := ⟨[4, 1], 1⟩, cellOf := cellX, relevant := fun _ => true }
def env2 : Env ℚ := { base := Example.env.base, occs := [oeLeaf, oeRoot] }

/-- `initialize` of both systems: point masses (0,0) (0,1) (1,0) (1,1) ↦ 0 1 2 3 in cells 3 1 1 3; dipoles 0 1 in cells 2 0 -/
def occL0 : Occ.State := Occ.init 1 [⟨0, true, 3⟩, ⟨1, true, 1⟩, ⟨2, true, 1⟩, ⟨3, true, 3⟩]
def occR0 : Occ.State := Occ.init 1 [⟨0, true, 2⟩, ⟨1, true, 0⟩]
def r0 : St3 := ⟨[exC0, exC1], .leaf, [occL0, occR0]⟩

def nextOccs (s : St3) (cs' : List (CObj ℚ)) (h0 : (occAfter 2 oeLeaf (getOcc s.occs 0) cs').isSome = true)
    (h1 : (occAfter 2 oeRoot (getOcc s.occs 1) cs').isSome = true) : List Occ.State :=
  [(occAfter 2 oeLeaf (getOcc s.occs 0) cs').get h0, (occAfter 2 oeRoot (getOcc s.occs 1) cs').get h1]

theorem occsUpd2 (s : St3) (cs' : List (CObj ℚ)) (h0) (h1) :
    OccsUpdated env2 mw2.w.labels.length s.occs (nextOccs s cs' h0 h1) cs' := by
  intro l hl
  have hl' : l < 2 := hl
  match l, hl' with
  | 0, _ => exact (Option.some_get h0).symm
  | 1, _ => exact (Option.some_get h1).symm

def cs1 : List (CObj ℚ) := step Ops.rat isZ env2.base.L r0.cs (.start 0 [0] [1, 0])
def d0 : St3 := ⟨cs1, .leaf, nextOccs r0 cs1 (by decide +kernel) (by decide +kernel)⟩
def eB : Composite.Ev ℚ := .snap ⟨0, 1/2⟩ [0] 0 (some 0) 0 (1/4)
def cs2 : List (CObj ℚ) := step Ops.rat isZ env2.base.L d0.cs eB
def d1 : St3 := ⟨cs2, .leaf, nextOccs d0 cs2 (by decide +kernel) (by decide +kernel)⟩

theorem d0_inv : Inv3 env2 mw2 d0 :=
  inv3_start (env := env2) (mw := mw2) (s := r0) (m := .leaf) box ex_initial ex_uniform ex_rest
    (fun l hl => by
      have hl' : l < 2 := hl
      match l, hl' with
      | 0, _ => exact consistent_init _ _ _
      | 1, _ => exact consistent_init _ _ _)
    JF.C12.ModeExample.start_admW (rfl : [0].length = 1) (occsUpd2 r0 cs1 _ _)

theorem admB : AdmW env2.base.d env2.base.L d0.cs eB := admW_of_check (by decide +kernel)

/-- **finding about the table**: without `StaysInRecordedCell` the entry `affects (cellBoundary of system 0) (.cell 1) = false` is wrong
for the concrete world — a state satisfying the invariant, a leaf-level cell-boundary commit (`snap` + update of both occupancies), a
tagger pair the tables declare disjoint (`oxygen_cell_boundary` → `coulomb_nearby`), and the yield changes -/
theorem other_cell_boundary_needs_premise :
    Inv3 env2 mw2 d0 ∧ TrNoPremise3 env2 mw2 2 d0 d1 ∧
    disjointFP cfg2 (cfg2.tagger 2) (cfg2.tagger 7) = true ∧ affects (cfg2.tagger 2) (.cell 1) = false ∧
    ¬ StaysInRecordedCell 2 oeRoot (getOcc d0.occs 1) d1.cs ∧
    yieldCls3 env2 7 (cfg2.tagger 7).cls (cfg2.tagger 7).label d0.cs d0.occs = [] ∧
    yieldCls3 env2 7 (cfg2.tagger 7).cls (cfg2.tagger 7).label d1.cs d1.occs = [some [[0], [1]]] ∧
    ¬ ((yieldCls3 env2 7 (cfg2.tagger 7).cls (cfg2.tagger 7).label d1.cs d1.occs).map (CW2.viewOf (cfg2.tagger 7))).Perm
        ((yieldCls3 env2 7 (cfg2.tagger 7).cls (cfg2.tagger 7).label d0.cs d0.occs).map (CW2.viewOf (cfg2.tagger 7))) := by
  refine ⟨d0_inv, ⟨⟨eB, .leaf, by decide, rfl, admB, rfl⟩, occsUpd2 d0 cs2 _ _⟩, by decide, by decide, ?_, by decide +kernel,
    by decide +kernel, fun h => absurd h.length_eq (by decide +kernel)⟩
  intro h
  have := h 0 (by decide +kernel) rfl
  revert this
  decide +kernel

end Finding

/-! ## the Python mirrors of `Occ.update` / `yieldCell` (`harness/fpcorr3.py`) are tied to the Lean definitions by a kernel-checked table

`harness/fpcorr3.py: SELF_TEST` holds the rows of this table; the module evaluates its mirrors (`occ_update`, `yield_cell`) on them and
compares (`fp3.self-test`).  One-dimensional grid of 7 cells, one layer, `maximum_number_occupants = 1`, root level: unit 0 becomes
active in cell 0 — moves to cell 1 — lifting to unit 1 (unit 0 goes to the surplus of the full cell 1) — an irrelevant unit becomes
active. -/

namespace PyTable

def oe7 : OccEnv ℚ := { level := 1, grid := ⟨[7], 1⟩, cellOf := fun _ => 0, relevant := fun _ => true }
def upd (s : Occ.State) (u : Nat) (rel : Bool) (c : Nat) : Occ.State :=
  match Occ.update s ⟨u, rel, c⟩ with
  | .ok s' => s'
  | .error _ => s
def s0 : Occ.State := Occ.init 1 [⟨0, true, 0⟩, ⟨1, true, 1⟩, ⟨2, true, 4⟩]
def s1 : Occ.State := upd s0 0 true 0
def s2 : Occ.State := upd s1 0 true 1
def s3 : Occ.State := upd s2 1 true 1
def s4 : Occ.State := upd s3 3 false 5

def ys (s : Occ.State) : List (List IdTuple) :=
  [TaggerClass.cellVeto, .cellBounding, .excludedCells, .surplusCells].map fun cls => yieldCell 1 oe7 cls s

theorem pyOccTable :
    [s1, s2, s3, s4].map (fun s => (List.range 7).map s.occupants) =
      [[[], [1], [], [], [2], [], []], [[], [1], [], [], [2], [], []], [[], [], [], [], [2], [], []], [[], [1], [], [], [2], [], []]] ∧
    [s1, s2, s3, s4].map (·.surplus) = [[], [], [(1, [0])], [(1, [0])]] ∧
    [s1, s2, s3, s4].map (fun s => (s.activeId, s.activeCell)) = [(some 0, some 0), (some 0, some 1), (some 1, some 1), (none, none)] ∧
    [s1, s2, s3, s4].map ys = [
      [[some [[0]]], [some [[0], [2]]], [some [[0], [1]]], []],
      [[some [[0]]], [some [[0], [2]]], [some [[0], [1]]], []],
      [[some [[1]]], [some [[1], [2]]], [], [some [[1], [0]]]],
      [[], [], [], []]] := by decide +kernel

end PyTable

end JF.Footprints3
