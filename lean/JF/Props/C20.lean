import JF.Model.MPMediator
import JF.Lemmas.MPLocal
import JF.Lemmas.MPLoop
import JF.Lemmas.MPLeg
import JF.Lemmas.MPRun
/-!
# C20 — Multi-process mediator commits the same events as the single-process mediator

Object of the theorems: the protocol model `JF/Model/MPMediator.lean` of
`jellyfysh/mediator/multi_process_mediator/multi_process_mediator.py` — one leg of `MultiProcessMediator.run`
(`JF.MP.leg` = `legRecv` ; `HS.commit` ; `trashAll`), the worker loop `run_in_process` (`HS.start`, `HS.cont`,
`HS.finish`), and the two mediators closed over the same rest of the application (`runMP`, `runSP`).
Values are abstracted to **tags**: a candidate time / out-state is identified by the handler and the leg in which the
in-state it was computed from was extracted (handler computations are deterministic functions of that in-state and
of the position in the handler's private random stream; out-state computations draw no random numbers — the
quantifier of the property).

All statements hold for every core count (in particular every `cores ≥ 2`: the pre-computation threshold
`0 < remaining < cores − 1` only decides *when* something is started ahead of time, never *what* is committed),
every set of handlers, every assignment of `send_out_state` arities and **every adversary**: the adversary is the
list of results of `connection.wait`, constrained only by the contract of `wait` without time-out (`waitOK`: a
non-empty list of distinct pipes of the leg that have something in flight).

Hypothesis: the activator protocol (`JF.MP.Protocol`; for one leg `hn hfresh hrun htr` of `stage_inv`): a handler is
returned by `get_event_handlers_to_run` only if it is not running; the handler returned by the scheduler is running;
the committed handler is in its own trash list; trashed handlers stop running.

Abstracted (exercised by the real runs of the check, not proved): the non-atomicity of the monkey-patched or-event,
OS pipes/semaphore/process reaping.

**Ties.** Nothing is assumed about equal candidate times: by `stage_inv` the pushes of a leg are the candidate times
of `created` in the order in which the activator returned the handlers (`pushAll`), the push sequence of the
single-process mediator, so `mp_refines_sp` holds for an arbitrary scheduler. The model is that of JeLLyFysh
from commit 93334e5 on (`known_findings/C20.json`, status "fixed"): the mediator collects the candidate times in
`received_event_times` and pushes them after the receive loop. Before that commit it called `push_event` inside the
receive loop, i.e. in the order in which the workers finished; the schedulers return the first-pushed of several
minimal events, so when two handlers started in the same leg reported the same candidate time (sampling interval =
end-of-run time; the sphere handler and the dipole handler of one pair of spheres in the shipped
`hard_disk_dipoles_cells.ini`) the committed handler depended on the arrival order. `runMPArrivalOrder` models that
earlier code; `tie_breaks_refinement` is the counterexample for it.
-/
namespace JF.C20
open JF.MP

/-- `_start_processes`: every handler idle, every worker blocked in its first `wait()`, pipes empty, `_out_states`
empty, nothing running: the boundary invariant holds -/
theorem init_inv : BInv (fun _ => false) (fun _ => {}) := by
  intro h; show ({} : HS).boundary false = true; decide

/-- **Variant.** `mu` = Σ over the handlers of the leg of: 2 if `event_time_started`, 1 if `out_state_started`,
1 if suspended and queued in `pipes_time_received`, else 0. One `for` loop over a legitimate `wait` result of
length `k ≥ 1` lowers it by at least `k` and raises no error. -/
theorem variant_decreases {n : Nat} {created : List Nat} {s0 : St} (c : Cfg) (w : List Nat) {L : Loop}
    (hI : LInv n created s0 L) (hw : waitOK created L.st w = true) :
    ∃ L', procWait c created.length L w = .ok L' ∧ LInv n created s0 L' ∧ mu created L' + w.length ≤ mu created L ∧
      1 ≤ w.length := by
  rw [waitOK_iff] at hw
  obtain ⟨L', h1, h2, h3, -⟩ := procWait_ok c w hI hw.2.1 hw.2.2
  refine ⟨L', h1, h2, h3, ?_⟩
  cases w with
  | nil => exact absurd rfl hw.1
  | cons _ _ => simp

/-- **The receive loop ends after at most `2 · len(created)` waits**, for every legitimate adversary: it raises
nothing ("already finished" never fires), `connection.wait` is never called with nothing in flight (no deadlock),
and the only way not to finish is that the adversary stops answering before `2 · len(created)` waits (unfair). -/
theorem leg_terminates (c : Cfg) (n : Nat) {running : Nat → Bool} {s : St} {created : List Nat}
    (waits : List (List Nat)) (hB : BInv running s) (hn : created.Nodup)
    (hfresh : ∀ h ∈ created, running h = false) (hl : legLegit c n s created waits = true) :
    (legRecv c n s created waits = .error .starved ∧ waits.length < 2 * created.length) ∨
    ∃ L ps rest, legRecv c n s created waits = .ok (L, ps, rest) ∧ rest.length ≤ waits.length ∧
      waits.length - rest.length ≤ 2 * created.length := by
  rcases legRecv_ok c n waits hB (fun _ => rfl) hn hfresh hl with h | ⟨L, rest, h1, -, -, h3, h4⟩
  · exact Or.inl h
  · exact Or.inr ⟨L, _, rest, h1, h3, h4⟩

theorem leg_terminates_fair (c : Cfg) (n : Nat) {running : Nat → Bool} {s : St} {created : List Nat}
    (waits : List (List Nat)) (hB : BInv running s) (hn : created.Nodup)
    (hfresh : ∀ h ∈ created, running h = false) (hl : legLegit c n s created waits = true)
    (hlen : 2 * created.length ≤ waits.length) :
    ∃ L ps rest, legRecv c n s created waits = .ok (L, ps, rest) := by
  rcases leg_terminates c n waits hB hn hfresh hl with ⟨-, h⟩ | ⟨L, ps, rest, h, -⟩
  · omega
  · exact ⟨L, ps, rest, h⟩

/-- **One leg preserves the boundary invariant and cannot fail.** Under the boundary invariant `BInv running s`
(`HS.boundary` for every handler), the activator protocol (`hn hfresh hrun htr`) and a legitimate adversary, the leg
* raises none of "Event Process not ready!", "… already finished …", `KeyError`, the `assert`, the worker's
  "Continue event is not allowed in idle state!", never blocks in `recv`/`wait` and never misreads a pipe — its only
  other outcome is `starved` (the adversary stopped before `2·len(created)` waits);
* re-establishes the invariant for `running' = (running ∪ created) \ trash`;
* commits the out-state tagged with the leg of the last start of the chosen handler;
* pushes exactly the candidate times of this leg, in the order in which the activator returned the handlers — the
  `push_event` sequence of the single-process mediator (the arrival order `o.loop.recvd` is irrelevant);
* leaves every worker that is not (still) running blocked with an empty pipe. -/
theorem stage_inv (c : Cfg) (n : Nat) {running : Nat → Bool} {last : Nat → Nat} {s : St} {created : List Nat}
    (waits : List (List Nat)) {chosen : Nat} {trash : List Nat}
    (hB : BInv running s) (hlast : ∀ h, (s h).tag = last h)
    (hn : created.Nodup) (hfresh : ∀ h ∈ created, running h = false)
    (hrun : running chosen = true ∨ chosen ∈ created) (htr : chosen ∈ trash)
    (hl : legLegit c n s created waits = true) :
    (leg c n s created waits chosen trash = .error .starved ∧ waits.length < 2 * created.length) ∨
    ∃ o, leg c n s created waits chosen trash = .ok o ∧
      BInv (running' running created trash) o.st ∧
      (∀ h, (o.st h).tag = last' last created n h) ∧
      o.tag = last' last created n chosen ∧
      o.pushes = (created.map fun h => (h, n)) ∧
      (∀ h, running' running created trash h = false → (o.st h).quiescent = true) ∧
      (∀ h, (o.st h).stage ≠ .outStarted → (o.st h).quiescent = true) := by
  rcases legRecv_ok c n waits hB hlast hn hfresh hl with ⟨h1, h2⟩ | ⟨L, rest, hL, hBL, htagL, -, -⟩
  · left; exact ⟨by simp [leg, h1], h2⟩
  · right
    obtain ⟨p, y, s3, ds, hcom, htrash, hB3, hlast3⟩ := legEnd_ok hBL (by simpa using hrun) trash
    exact ⟨⟨s3, upd L.st chosen y, L, created.map fun h => (h, n), rest.length, (L.st chosen).tag, p, ds⟩,
      by simp [leg, hL, hcom, htrash], hB3, fun h => (hlast3 h).trans (htagL h), htagL chosen, rfl,
      fun _ => hB3.quiescent_of_not_running, fun _ => hB3.quiescent⟩

/-- **Nothing computed for a handler survives its trashing**: at every leg boundary a handler that is not running
has no stored out-state and an empty pipe, and its worker is blocked; whatever is stored or in flight for a running
handler carries the tag of its last start. Hence an out-state pre-computed for an event that was trashed can never
be committed later. -/
theorem no_stale_out_state {running : Nat → Bool} {s : St} (hB : BInv running s) (h : Nat) :
    (running h = false → (s h).stored = none ∧ (s h).chan = [] ∧ (s h).quiescent = true) ∧
    (∀ t, (s h).stored = some t → t = (s h).tag) ∧
    (∀ m ∈ (s h).chan, m = .out (s h).tag) := by
  have hb := (boundary_iff _ _).1 (hB h)
  have hc := (coh_iff _).1 hb.1
  refine ⟨?_, fun t ht => (hc.2 t ht).2, ?_⟩
  · intro hr
    obtain ⟨h1, h2⟩ := hb.2.2.2 hr
    have h3 := hc.1
    rw [h1] at h3
    exact ⟨h2, h3.2, by simpa [HS.quiescent] using h3⟩
  · intro m hm
    have h1 := hc.1
    cases hst : (s h).stage with
    | idle => rw [hst] at h1; rw [h1.2] at hm; cases hm
    | suspended => rw [hst] at h1; rw [h1.2] at hm; cases hm
    | timeStarted => exact absurd hst hb.2.1
    | outStarted =>
      rw [hst] at h1
      rcases h1 with h1 | h1
      · rw [h1.2] at hm; cases hm
      · rw [h1.2] at hm; simpa using hm

/-- **The multi-process mediator refines the single-process mediator.** For every rest of the application `env`
obeying the activator/scheduler protocol, every core count, every arity assignment and every adversary (one list of
`wait` results per leg), from the initial state: the run of the multi-process mediator either commits exactly the
sequence of (handler, event time, out-state, global state after the commit) of the single-process mediator over the
same number of legs, or it stopped because the adversary broke the contract of `connection.wait` / stopped
answering. No other outcome exists: no `MediatorError`, no `KeyError`, no blocked `recv`, no deadlock.
Nothing is assumed about the scheduler: `env.choose` is an arbitrary function of its state and of the sequence of pushes.
Every sample is written by a mediating method as a function of the committed handler and the global state, so the
samples coincide as well. -/
theorem mp_refines_sp {G E T O : Type} (env : Env G E T O) (R : E → Nat → Bool) (P : Protocol env R) (cfg : Cfg)
    (advs : List (List (List Nat))) (g : G) (e : E) (hR : ∀ h, R e h = false) (hist : Nat → G) :
    runMP env cfg advs 0 g e (fun _ => {}) hist = .ok (runSP env advs.length 0 g e (fun _ => 0) hist) ∨
    AdvFail (runMP env cfg advs 0 g e (fun _ => {}) hist) := by
  have hB : BInv (R e) (fun _ => {}) := by
    have : R e = fun _ => false := funext hR
    rw [this]; exact init_inv
  exact runMP_refines env R P cfg advs 0 g e _ hist (fun _ => 0) hB (fun _ => rfl)

theorem mp_refines_sp_from {G E T O : Type} (env : Env G E T O) (R : E → Nat → Bool) (P : Protocol env R) (cfg : Cfg)
    (advs : List (List (List Nat))) (n : Nat) (g : G) (e : E) (s : St) (hist : Nat → G) (last : Nat → Nat)
    (hB : BInv (R e) s) (hlast : ∀ h, (s h).tag = last h) :
    runMP env cfg advs n g e s hist = .ok (runSP env advs.length n g e last hist) ∨
    AdvFail (runMP env cfg advs n g e s hist) :=
  runMP_refines env R P cfg advs n g e s hist last hB hlast

/-- **Workers at the end of a run.** The run ends (EndOfRun raised by a mediating method) after the trash loop of
some leg, i.e. in a boundary state. There no worker has raised (see `stage_inv`: "Continue event is not allowed in
idle state!" cannot fire), so every worker process is alive inside its loop and `post_run`'s
`is_alive → terminate → join` reaches each of them. Every worker is blocked in one of its two `wait()` calls with an
empty pipe (`JF.MP.BInv.quiescent`), *except* running handlers left in `out_state_started` by a pre-computation that was
neither used nor trashed. If the last committed handler trashes everything that runs (as the end-of-run tagger of the
shipped configurations does for every handler with a pre-computable out-state), there are none of those. -/
theorem all_quiescent_at_end {running : Nat → Bool} {s : St} (hB : BInv running s)
    (hnone : ∀ h, (s h).stage = .outStarted → running h = false) (h : Nat) : (s h).quiescent = true := by
  by_cases hst : (s h).stage = .outStarted
  · exact hB.quiescent_of_not_running (hnone h hst)
  · exact hB.quiescent hst

/-! ## Non-vacuity: a concrete leg with 4 handlers on 3 cores -/

/-- 3 cores, no handler takes `send_out_state` arguments -/
def exCfg : Cfg := ⟨3, fun _ => false⟩
/-- leg 7 from the initial state; the activator returns handlers 0 1 2 3 -/
def exCreated : List Nat := [0, 1, 2, 3]
/-- adversary: first the times of 2 0 1 arrive, in this order (after the third, `0 < 1 < 2`: handler 2, the head of
`pipes_time_received`, is started ahead of time), then the pre-computed out-state of 2 (which starts the
pre-computation of 0) together with the time of 3 -/
def exWaits : List (List Nat) := [[2, 0, 1], [2, 3]]

/-- the scheduler returns 3; its trash list contains 0 (pre-computation in flight: drained and discarded) and 2
(pre-computed out-state stored: deleted); 1 stays suspended -/
def exLeg : Except Err LegOut := leg exCfg 7 (fun _ => {}) exCreated exWaits 3 [3, 0, 2]

example : legLegit exCfg 7 (fun _ => {}) exCreated exWaits = true := by decide +kernel

example : (match exLeg with
    | .ok o => decide (
        o.loop.pre = [2, 0] ∧                                   -- two pre-computations were started
        o.loop.recvd = [(2, 7), (0, 7), (1, 7), (3, 7)] ∧       -- arrival order
        o.pushes = [(0, 7), (1, 7), (2, 7), (3, 7)] ∧           -- push order = order of `created`
        (o.atCommit 2).stored = some 7 ∧ (o.atCommit 0).stage = .outStarted ∧
        (o.atCommit 1).stage = .suspended ∧ (o.atCommit 3).stored = some 7 ∧
        o.tag = 7 ∧ o.path = .startedNow ∧
        o.discarded = [3, 0, 2] ∧                               -- 0 (in flight) and 2 (stored) thrown away, 3 = the committed one
        (o.st 2).stage = .idle ∧ (o.st 2).stored = none ∧ (o.st 0).stage = .idle ∧ (o.st 0).chan = [] ∧
        (o.st 1).stage = .suspended ∧ (o.st 3).stage = .idle ∧ o.waitsLeft = 0)
    | .error _ => false) = true := by decide +kernel

/-- next leg: only 0 and 2 are restarted, 1 is still suspended from leg 7 and is chosen now: its out-state carries
tag 7 (the leg of its last start), while the out-state of 2 pre-computed in leg 8 is committed in leg 9 -/
example : (match exLeg with
    | .ok o =>
      match leg exCfg 8 o.st [0, 2] [[2, 0]] 1 [1] with
      | .ok o2 =>
        decide (o2.tag = 7 ∧ o2.path = .startedNow ∧ o2.loop.pre = [2] ∧ (o2.st 2).stage = .outStarted ∧
                o2.pushes = [(0, 8), (2, 8)]) &&
        (match leg exCfg 9 o2.st [1] [[1]] 2 [2] with
         | .ok o3 => decide (o3.tag = 8 ∧ o3.path = .inFlight)
         | .error _ => false)
      | .error _ => false
    | .error _ => false) = true := by decide +kernel

/-- the error outcomes are reachable when the hypotheses are dropped: a handler that is not idle is returned by the
activator; a `wait` result lists a pipe with nothing in flight; the scheduler returns a handler that never ran -/
example : (match leg exCfg 1 (upd (fun _ => {}) 0 { stage := .suspended, pc := .suspended }) [0] [[0]] 0 [0] with
    | .error e => decide (e = .notReady) | _ => false) = true := by
  decide +kernel
example : (match leg ⟨2, fun _ => false⟩ 1 (fun _ => {}) [0, 1] [[0, 0]] 0 [0] with
    | .error e => decide (e = .alreadyFinished) | _ => false) = true := by
  decide +kernel
example : (match leg exCfg 1 (fun _ => {}) [0] [[0]] 5 [5] with | .error e => decide (e = .keyError) | _ => false) = true := by
  decide +kernel

/-- three handlers 0 1 2; `E` = the set of running handlers; the activator returns every handler that is not
running; the scheduler answers with a handler determined by the multiset of pushed times; only the committed handler
is trashed -/
def toyEnv : Env Nat (Nat → Bool) Nat Nat where
  activate := fun _ e => ([0, 1, 2].filter (fun h => !e h), fun h => e h || decide (h ∈ [0, 1, 2].filter (fun h => !e h)))
  timeOf := fun h n g => 2 * h + 2 * n + g
  outOf := fun h n g => h * n + g + 1
  choose := fun e l => ((l.map (·.2)).sum % 3, e)
  commit := fun g o => g + o
  trash := fun e c => ([c], fun h => e h && !decide (h ∈ [c]))

theorem toy_protocol : Protocol toyEnv (fun e h => e h) where
  act_nodup := by
    intro g e
    exact List.Nodup.sublist List.filter_sublist (by decide)
  act_fresh := by
    intro g e h hh
    simp only [toyEnv, List.mem_filter] at hh
    simpa using hh.2
  act_run := by intro g e h; rfl
  choose_run := by
    intro g e l
    show (e ((l.map (·.2)).sum % 3) || decide ((l.map (·.2)).sum % 3 ∈ [0, 1, 2].filter fun h => !e h)) = true
    have hk : (l.map (·.2)).sum % 3 ∈ [0, 1, 2] := by
      have : (l.map (·.2)).sum % 3 < 3 := Nat.mod_lt _ (by decide)
      simp only [List.mem_cons, List.not_mem_nil, or_false]; omega
    cases he : e ((l.map (·.2)).sum % 3) with
    | true => rfl
    | false => simp [List.mem_filter, hk, he]
  choose_keep := by intro e l h; rfl
  trash_self := by intro e c; simp [toyEnv]
  trash_run := by intro e c h; rfl

/-- six legs of the toy application on 3 cores under a legitimate adversary that delivers out of order (in leg 0 the
out-state of handler 2 is started ahead of time; it is committed in leg 2): the multi-process run commits what the
single-process run commits -/
example : ((runMP toyEnv exCfg [[[2, 0], [1]], [[0]], [[1]], [[2]], [[0]], [[1]]] 0 5 (fun _ => false) (fun _ => {})
        (fun _ => 0)).toOption.map fun l => l.map fun c => (c.handler, c.time, c.out, c.post)) =
    some ((runSP toyEnv 6 0 5 (fun _ => false) (fun _ => 0) (fun _ => 0)).map fun c => (c.handler, c.time, c.out, c.post)) := by
  decide +kernel

example : (runSP toyEnv 6 0 5 (fun _ => false) (fun _ => 0) (fun _ => 0)).map (·.handler) = [0, 1, 2, 0, 1, 1] := by
  decide +kernel

/-- `ListScheduler.get_succeeding_event` on the events of one leg: `min(events, key=time)` — the *first* minimal one -/
def firstMin : List (Nat × Nat) → Nat
  | [] => 0
  | (h, t) :: l => if l.all (fun p => decide (t ≤ p.2)) then h else firstMin l

/-- the toy application with a scheduler that breaks ties by push order, and handlers that all report the same
candidate time -/
def tieEnv : Env Nat (Nat → Bool) Nat Nat :=
  { toyEnv with timeOf := fun _ _ _ => 7, choose := fun e l => (firstMin l, e) }

/-- the tie is harmless for `runMP`: all candidate times equal, a scheduler that returns the first-pushed minimal
event, the times arrive in the order 2, 1, 0 — both mediators commit handler 0 -/
example :
    (runSP tieEnv 1 0 5 (fun _ => false) (fun _ => 0) (fun _ => 0)).map (·.handler) = [0] ∧
    ((runMP tieEnv exCfg [[[2, 1, 0]]] 0 5 (fun _ => false) (fun _ => {}) (fun _ => 0)).toOption.map
      fun l => l.map (·.handler)) = some [0] := by
  decide +kernel

/-- `MultiProcessMediator.run` as it was before commit 93334e5 — `push_event` inside the receive loop, i.e. the
scheduler sees the candidate times in arrival order (`L.recvd`). Not a model of the current code. -/
def runMPArrivalOrder {G E T O : Type} (env : Env G E T O) (cfg : Cfg) :
    List (List (List Nat)) → Nat → G → E → St → (Nat → G) → Except (Nat × Err) (List (Commit G T O))
  | [], _, _, _, _, _ => .ok []
  | ws :: rest, n, g, e, s, hist =>
    let (cr, e1) := env.activate g e
    let hist' : Nat → G := fun m => if m = n then g else hist m
    if legLegit cfg n s cr ws = false then .error (n, .adversary) else
    match legRecv cfg n s cr ws with
    | .error err => .error (n, err)
    | .ok (L, _, _) =>
      let (c, e2) := env.choose e1 (L.recvd.map fun p => (p.1, env.timeOf p.1 p.2 (hist' p.2)))
      match (L.st c).commit with
      | .error err => .error (n, err)
      | .ok (tag, _, y) =>
        let out := env.outOf c tag (hist' tag)
        let g' := env.commit g out
        let (tr, e3) := env.trash e2 c
        match trashAll (upd L.st c y) tr with
        | .error err => .error (n, err)
        | .ok (s3, _) =>
          match runMPArrivalOrder env cfg rest (n + 1) g' e3 s3 hist' with
          | .ok l => .ok (⟨c, env.timeOf c tag (hist' tag), out, g'⟩ :: l)
          | .error err => .error err

/-- **Counterexample for `runMPArrivalOrder`, not for the current mediator** (found on the real code before commit
93334e5, `known_findings/C20.json`): with equal candidate times in one leg, a scheduler that returns the first-pushed
minimal event, and an adversary that delivers the times in the order 2, 1, 0, it runs without any error and commits
handler 2 where the single-process mediator commits handler 0. -/
theorem tie_breaks_refinement :
    (runSP tieEnv 1 0 5 (fun _ => false) (fun _ => 0) (fun _ => 0)).map (·.handler) = [0] ∧
    ((runMPArrivalOrder tieEnv exCfg [[[2, 1, 0]]] 0 5 (fun _ => false) (fun _ => {}) (fun _ => 0)).toOption.map
      fun l => l.map (·.handler)) = some [2] := by
  decide +kernel

end JF.C20
