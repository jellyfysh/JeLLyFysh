import JF.Lemmas.SystemInv3OccRun
import JF.Props.SystemInv3Loop
import JF.Props.C10C11
/-!
# C11's full occupancy invariant for composite objects with cell systems along the mediator loop

For every run `Reach3From s0 os cs s` (= `Reach3` of `JF/Props/SystemInv3Loop.lean` with its initial state named: `reach3_from`,
`Reach3From.reach`) under `Hyp3L`, the strong no-tie hypothesis `TieFreeAll3 cs` (no commit of any tagger other than the cell-boundary
tagger of cell system `l` itself is at exactly the time of a pending cell-boundary candidate of `l`; it implies `TieFree3`) and
`OccInit3 s0` (the occupancies of the initial state satisfy `OccInv` for the initial positions — e.g. freshly initialised:
`Example.occInit3_example`), for every cell system `l`, at every leg: C11's `OccInv` for the state the leg worked on
(`c11_occinv_closed3` and its readings), and C10's partition for a root-level cell system (`cell_partition_total_closed3`).

Beyond `Big3` the induction (`occ_joint3`) needs: `Composite.step` of an admissible event of any of the nine kinds does not displace a
unit at rest (`JF.Sys3Occ.composite_step_rest_fixed`), and the unit that was active stays in its cell also at lifting commits
(`JF.Sys3L.old_active_stays3`).

Also assumed: `Geo` per cell system, what `SysStep3` assumes (`CandsOK3`, `Commits3`), and for `cell_partition_total_closed3`
`CellOfTotal3` (`position_to_cell` returns a cell of the grid for every position; C12's `Good` has no in-box clause, so it cannot be
derived from `InBox` the way `inGrid_closed` of `JF/Props/C10Closed.lean` does for coulomb_atoms).
-/
namespace JF.SystemInv3Occ
open JF JF.Act JF.Heap JF.Sched JF.Med JF.CW3 JF.C14 JF.Sys JF.Sys3 JF.Sys3L JF.C12 JF.Footprints3
  JF.Sys3Occ JF.Sys2 JF.SystemInv3Loop
open JF.MediatorLoop hiding Run
open JF.Composite hiding pendOf

section
variable {env : Env ℚ} {geo : ∀ l, Geo (cwEnv env l)} {mw : ModeWiring} {S : TaggerIdx} {needs : HandlerId → Bool}

/-- the occupancies of the initial state satisfy C11's `OccInv` for the initial positions (`SingleActiveCellOccupancy.initialize`:
`JF.C11.init_inv`) -/
def OccInit3 (env : Env ℚ) (mw : ModeWiring) (s0 : Sys3) : Prop :=
  ∀ l, l < mw.w.labels.length → C11.OccInv (relG env l s0.cs) (cellG env l s0.cs s0.cs) (getOcc s0.occs l)

/-- what the induction `occ_joint3` carries in addition to `Big3` -/
structure OccJ (env : Env ℚ) (mw : ModeWiring) (s0 : Sys3) (cs : List (Committed XTime)) (s : Sys3) : Prop where
  suPrev : SameUnits s0.cs s.csPrev
  su : SameUnits s0.cs s.cs
  occ : ∀ l, l < mw.w.labels.length → C11.OccInv (relG env l s0.cs) (cellG env l s0.cs s.csPrev) (getOcc s.occs l)
  stays : ∀ cl E, cs.getLast? = some cl → owner mw.w.wires cl.handler = some E → ∀ l, l < mw.w.labels.length →
    isCBT mw.w l E = false → ∀ a, activeOn env l s.csPrev = [a] → (env.oe l).relevant a = true →
      (env.oe l).cellOf (posOn env.base.nPer (env.oe l).level s.cs a) =
        (env.oe l).cellOf (posOn env.base.nPer (env.oe l).level s.csPrev a)

theorem ident_false_of_isCBT {l : Nat} {E : TaggerIdx} (h : isCBT mw.w l E = true) : affects (mw.w.tagger E) .ident = false := by
  have := (isCBT_kind h).1
  unfold affects; rw [this]

theorem occ_joint3 (H : Hyp3L env mw S) {s0 : Sys3} {os : List (Oracle XTime)} {cs : List (Committed XTime)} {s : Sys3}
    (hr : Reach3From env geo mw S needs s0 os cs s) (nta : TieFreeAll3 mw cs) (h0 : OccInit3 env mw s0) :
    OccJ env mw s0 cs s := by
  induction hr with
  | init hi =>
    refine ⟨by rw [hi.prev]; exact SameUnits.refl _, SameUnits.refl _, fun l hl => by rw [hi.prev]; exact h0 l hl, ?_⟩
    intro cl E hl; simp at hl
  | @step os cs s s' o cm prev hgo hstep ih =>
    obtain ⟨nta0, ntl⟩ := tieFreeAll3_snoc nta
    have ih0 := ih nta0
    have nt0 := tieFree3_of_all nta0
    obtain ⟨t', E', ht', hE', hcom⟩ := hstep.ev
    obtain ⟨e', hk', hte, ⟨ha', _⟩, hcs'⟩ := hcom
    have hsu' : SameUnits s0.cs s'.cs := by
      intro id
      rw [hcs', step_unit_isSome env.base.L s.cs e' ha' id]; exact ih0.su id
    rcases joint_inv3 H prev.reach nt0 with ⟨rfl, hi⟩ | ⟨cs1, cl, E, tl, rfl, big⟩
    · -- the first leg: no update of the internal states, nothing moved
      refine ⟨by rw [hstep.prev]; exact ih0.su, hsu', ?_, ?_⟩
      · intro l hl
        have hst : s.med.act.started = false := by rw [hi.med]; rfl
        have hocc := hstep.occ1
        rw [hst] at hocc
        simp only [Bool.false_eq_true, if_false] at hocc
        rw [hstep.prev, hocc, ← hi.prev]
        exact ih0.occ l hl
      · intro cl' E'' _ _ l _ _ a ha _
        exfalso
        rw [hstep.prev] at ha
        rcases activeOn_char (env := env) (CW2.inv_rest hi.good hi.unif hi.rest .leaf) l with ⟨h0', _⟩ | ⟨a1, x, _, hx, hxm, _⟩
        · rw [ha] at h0'; cases h0'
        · exact hxm (unitAt_rest hi.good hi.rest hx)
    · have hgo' : cl.stop = false := hgo cl (by simp)
      have ntl3 : TieFreeLeg3 mw (pendOf (fun _ => none) (cs1 ++ [cl]).dropLast) cl := by
        rw [List.dropLast_concat]; exact (tieFree3_snoc nt0).2
      refine ⟨by rw [hstep.prev]; exact ih0.su, hsu', ?_, ?_⟩
      · intro l hl
        rw [hstep.prev]
        have hocc := occs_step big hstep l hl
        obtain ⟨hi3, _⟩ := big.phase
        obtain ⟨e, hk, hte0, ⟨hadm, _⟩, hcs⟩ := big.commit
        refine occ_step3 (ih0.occ l hl) hi3.1 (hi3.2 l hl) big.invNext ih0.suPrev ih0.su ?_ ?_ hocc
        · intro id u hu hv
          rw [hcs]; exact composite_step_rest_fixed env.base.L s.csPrev e hadm hu hv
        · intro a ha hrel hne
          by_cases hcb : isCBT mw.w l E = true
          · exfalso
            apply hne
            obtain ⟨S0, hS0⟩ := quiet_commit H.supp (ident_false_of_isCBT hcb) big.commit
            unfold activeOn
            rw [hS0, flags_sliceAt]; exact ha
          · exact ih0.stays cl E (by simp) big.owner l hl (by simpa using hcb) a ha hrel
      · intro cl' E'' hl' hE'' l hl hncb a ha hrel
        have : cl' = cm := by simpa using hl'.symm
        subst this
        rw [hstep.prev] at ha ⊢
        exact old_active_stays3 H big hgo' ntl3 hstep hl (ntl E'' l hE'' hl hncb) a ha hrel

def cellL (env : Env ℚ) (l : Nat) (cs : List (CObj ℚ)) (u : Nat) : Nat :=
  (env.oe l).cellOf (posOn env.base.nPer (env.oe l).level cs u)

/-- C11's full invariant for every cell system at every leg of every run, its premise on how units move between two `update`s
(`hmove` of `JF.C11.update_inv`) being derived (`occ_step3`).  For the state the leg works on (`s.csPrev`; the occupancy
`getOcc s.occs l` just updated on it): `JF.C11.OccInv` — every relevant non-active unit on the cell level of `l` (composite objects
for `cell_level = 1`, point masses for `cell_level = 2`) is recorded exactly once, in the occupant or surplus list of the cell that
contains its position, nothing else is recorded, the active unit is in no list but recorded as the active unit of the cell
containing its position, no cell exceeds `maximum_number_occupants` — and no `update` ever raised. -/
theorem c11_occinv_closed3 (H : Hyp3L env mw S) {s0 : Sys3} {os : List (Oracle XTime)} {cs : List (Committed XTime)} {s : Sys3}
    (hr : Reach3From env geo mw S needs s0 os cs s) (nta : TieFreeAll3 mw cs) (h0 : OccInit3 env mw s0) {l : Nat}
    (hl : l < mw.w.labels.length) : C11.OccInv (relG env l s0.cs) (cellL env l s.csPrev) (getOcc s.occs l) := by
  refine JF.Sys.occInv_congr ((occ_joint3 H hr nta h0).occ l hl) ?_
  intro u hu
  unfold cellG cellL; rw [if_pos hu]

theorem same_units_closed3 (H : Hyp3L env mw S) {s0 : Sys3} {os : List (Oracle XTime)} {cs : List (Committed XTime)} {s : Sys3}
    (hr : Reach3From env geo mw S needs s0 os cs s) (nta : TieFreeAll3 mw cs) (h0 : OccInit3 env mw s0) :
    SameUnits s0.cs s.csPrev ∧ SameUnits s0.cs s.cs :=
  ⟨(occ_joint3 H hr nta h0).suPrev, (occ_joint3 H hr nta h0).su⟩

/-- at every commit that is not the cell-boundary event of `l`, liftings and ends of chain included -/
theorem old_active_stays_closed3 (H : Hyp3L env mw S) {s0 : Sys3} {os : List (Oracle XTime)} {cs : List (Committed XTime)}
    {s : Sys3} (hr : Reach3From env geo mw S needs s0 os cs s) (nta : TieFreeAll3 mw cs) (h0 : OccInit3 env mw s0)
    {cl : Committed XTime} {E : TaggerIdx} (hcl : cs.getLast? = some cl) (hE : owner mw.w.wires cl.handler = some E) {l : Nat}
    (hl : l < mw.w.labels.length) (hncb : isCBT mw.w l E = false) {a : Nat} (ha : activeOn env l s.csPrev = [a])
    (hrel : (env.oe l).relevant a = true) : cellL env l s.cs a = cellL env l s.csPrev a :=
  (occ_joint3 H hr nta h0).stays cl E hcl hE l hl hncb a ha hrel

theorem c11_recorded_exactly_once_closed3 (H : Hyp3L env mw S) {s0 : Sys3} {os : List (Oracle XTime)}
    {cs : List (Committed XTime)} {s : Sys3} (hr : Reach3From env geo mw S needs s0 os cs s) (nta : TieFreeAll3 mw cs)
    (h0 : OccInit3 env mw s0) {l : Nat} (hl : l < mw.w.labels.length) {u : Nat} (hu : relG env l s0.cs u = true)
    (ha : (getOcc s.occs l).activeId ≠ some u) :
    (Occ.getItem (getOcc s.occs l) (cellL env l s.csPrev u)).count u + (Occ.yieldSurplus (getOcc s.occs l)).count u = 1 ∧
    ∀ c, c ≠ cellL env l s.csPrev u → u ∉ Occ.getItem (getOcc s.occs l) c :=
  C11.recorded_exactly_once (c11_occinv_closed3 H hr nta h0 hl) hu ha

theorem c11_not_recorded_closed3 (H : Hyp3L env mw S) {s0 : Sys3} {os : List (Oracle XTime)}
    {cs : List (Committed XTime)} {s : Sys3} (hr : Reach3From env geo mw S needs s0 os cs s) (nta : TieFreeAll3 mw cs)
    (h0 : OccInit3 env mw s0) {l : Nat} (hl : l < mw.w.labels.length) {u : Nat}
    (hn : relG env l s0.cs u = false ∨ (getOcc s.occs l).activeId = some u) :
    (∀ c, u ∉ Occ.getItem (getOcc s.occs l) c) ∧ u ∉ Occ.yieldSurplus (getOcc s.occs l) :=
  C11.not_recorded (c11_occinv_closed3 H hr nta h0 hl) hn

theorem c11_active_recorded_closed3 (H : Hyp3L env mw S) {s0 : Sys3} {os : List (Oracle XTime)}
    {cs : List (Committed XTime)} {s : Sys3} (hr : Reach3From env geo mw S needs s0 os cs s) (nta : TieFreeAll3 mw cs)
    (h0 : OccInit3 env mw s0) {l : Nat} (hl : l < mw.w.labels.length) {a : Nat} (ha : (getOcc s.occs l).activeId = some a) :
    Occ.yieldActiveCells (getOcc s.occs l) = [(some (cellL env l s.csPrev a), some a)] ∧ relG env l s0.cs a = true ∧
    activeOn env l s.csPrev = [a] := by
  obtain ⟨h1, h2⟩ := C11.active_recorded (c11_occinv_closed3 H hr nta h0 hl) ha
  refine ⟨h1, h2, ?_⟩
  have hc := (c11_consistent_closed3 H hr.reach (tieFree3_of_all nta) hl).1
  rw [ha] at hc
  exact (expected_some hc.symm).1

theorem c11_cap_respected_closed3 (H : Hyp3L env mw S) {s0 : Sys3} {os : List (Oracle XTime)}
    {cs : List (Committed XTime)} {s : Sys3} (hr : Reach3From env geo mw S needs s0 os cs s) (nta : TieFreeAll3 mw cs)
    (h0 : OccInit3 env mw s0) {l : Nat} (hl : l < mw.w.labels.length) (hc : 0 < (getOcc s.occs l).cap) (c : Nat) :
    ((Occ.getItem (getOcc s.occs l) c).length : Int) ≤ (getOcc s.occs l).cap :=
  C11.cap_respected (c11_occinv_closed3 H hr nta h0 hl) hc c

theorem tieFreeAll3_take' {cs : List (Committed XTime)} (h : TieFreeAll3 mw cs) (k : Nat) : TieFreeAll3 mw (cs.take k) :=
  tieFreeAll3_take h k

theorem reach_leg3From {s0 : Sys3} {os : List (Oracle XTime)} {cs : List (Committed XTime)} {s : Sys3}
    (hr : Reach3From env geo mw S needs s0 os cs s) {k : Nat} {cm : Committed XTime} (hk : cs[k]? = some cm) :
    ∃ s1 os1, Reach3From env geo mw S needs s0 os1 (cs.take (k + 1)) s1 := by
  induction hr with
  | init h => simp at hk
  | @step os cs s s' o cm' prev hgo hstep ih =>
    by_cases hlt : k < cs.length
    · rw [List.getElem?_append_left hlt] at hk
      obtain ⟨s1, os1, h1⟩ := ih hk
      refine ⟨s1, os1, ?_⟩
      rw [List.take_append_of_le_length (by omega)]; exact h1
    · have hke : k = cs.length := by
        have := (List.getElem?_eq_some_iff.mp hk).1
        simp at this; omega
      subst hke
      refine ⟨s', os ++ [o], ?_⟩
      rw [List.take_of_length_le (by simp)]
      exact .step prev hgo hstep

/-- at every leg `k`, not only the last -/
theorem c11_occinv_every_leg3 (H : Hyp3L env mw S) {s0 : Sys3} {os : List (Oracle XTime)} {cs : List (Committed XTime)} {s : Sys3}
    (hr : Reach3From env geo mw S needs s0 os cs s) (nta : TieFreeAll3 mw cs) (h0 : OccInit3 env mw s0) {k : Nat}
    {cm : Committed XTime} (hk : cs[k]? = some cm) {l : Nat} (hl : l < mw.w.labels.length) :
    ∃ s1 os1, Reach3From env geo mw S needs s0 os1 (cs.take (k + 1)) s1 ∧
      C11.OccInv (relG env l s0.cs) (cellL env l s1.csPrev) (getOcc s1.occs l) := by
  obtain ⟨s1, os1, h1⟩ := reach_leg3From hr hk
  exact ⟨s1, os1, h1, c11_occinv_closed3 H h1 (tieFreeAll3_take nta _) h0 hl⟩

end

section
open JF.CellTaggers JF.C10C11
variable {env : Env ℚ} {geo : ∀ l, Geo (cwEnv env l)} {mw : ModeWiring} {S : TaggerIdx} {needs : HandlerId → Bool}

/-- `position_to_cell` returns a cell of the grid of cell system `l`, for every position -/
def CellOfTotal3 (env : Env ℚ) (l : Nat) : Prop := ∀ p, (env.oe l).cellOf p < numCells (env.oe l).grid

/-- the relevant composite objects (root-level units), as numbers -/
def relRoots (env : Env ℚ) (l : Nat) (n : Nat) : List Nat := (List.range n).filter (env.oe l).relevant

theorem mem_relRoots (hlev : (env.oe l).level = 1) (cs0 : List (CObj ℚ)) (u : Nat) :
    u ∈ relRoots env l cs0.length ↔ relG env l cs0 u = true := by
  unfold relRoots relG identL identOf
  simp only [hlev, beq_self_eq_true, if_true, unitAt, List.mem_filter, List.mem_range, Bool.and_eq_true]
  constructor
  · rintro ⟨h1, h2⟩
    exact ⟨by rw [List.getElem?_eq_getElem h1]; rfl, h2⟩
  · rintro ⟨h1, h2⟩
    refine ⟨?_, h2⟩
    by_contra hge
    rw [List.getElem?_eq_none (by omega)] at h1
    simp at h1

theorem tocc_root (hlev : (env.oe l).level = 1) (occ : Occ.State) :
    tocc env.base.nPer (env.oe l) occ = toTaggerOcc (env.oe l).grid occ := by
  unfold tocc toTaggerOcc identOf
  simp only [hlev, beq_self_eq_true, if_true]
  rfl

/-- C10's cell half for a root-level cell system (`cell_level = 1`) at every leg of every run.  Either the occupancy records no
active unit and no cell-based in-state exists, or the recorded unit `a` is the active composite object, it is relevant, the recorded
cell is the cell of its (root unit's) position, and both variants (cell-veto / cell-bounding + excluded + surplus) list the other
relevant composite objects, each exactly once. -/
theorem cell_partition_total_closed3 (H : Hyp3L env mw S) {s0 : Sys3} {os : List (Oracle XTime)} {cs : List (Committed XTime)}
    {s : Sys3} (hr : Reach3From env geo mw S needs s0 os cs s) (nta : TieFreeAll3 mw cs) (h0 : OccInit3 env mw s0) {l : Nat}
    (hl : l < mw.w.labels.length) (hlev : (env.oe l).level = 1) (hG : CellOfTotal3 env l) :
    let t := tocc env.base.nPer (env.oe l) (getOcc s.occs l)
    let g := (env.oe l).grid
    match (getOcc s.occs l).activeId with
    | none => cellVetoTagger t = [] ∧ cellBoundingTagger g t = [] ∧ excludedCellsTagger g t = [] ∧
        surplusCellsTagger t = [] ∧ vetoTargets g t = []
    | some a =>
        activeOn env l s.csPrev = [a] ∧ (env.oe l).relevant a = true ∧
        t.active = some (CW.cellAt g (cellL env l s.csPrev a), wrap a) ∧
        (targetsVeto g t ++ targetsExcluded g t ++ targetsSurplus t).Perm (idents ((relRoots env l s0.cs.length).erase a)) ∧
        (targetsBounding g t ++ targetsExcluded g t ++ targetsSurplus t).Perm (idents ((relRoots env l s0.cs.length).erase a)) := by
  intro t g
  have ht : t = toTaggerOcc g (getOcc s.occs l) := tocc_root hlev _
  have tot := cell_partition_total_of_c11 (c11_occinv_closed3 H hr nta h0 hl) g
    ⟨List.Nodup.filter _ List.nodup_range, mem_relRoots hlev s0.cs⟩ (fun u _ => hG _)
  rw [ht]
  cases ha : (getOcc s.occs l).activeId with
  | none => simp only [ha] at tot ⊢; exact tot
  | some a =>
    simp only [ha] at tot ⊢
    obtain ⟨_, hrelG, hact⟩ := c11_active_recorded_closed3 H hr nta h0 hl ha
    have hrel : (env.oe l).relevant a = true := by
      unfold relG at hrelG; simp only [Bool.and_eq_true] at hrelG; exact hrelG.2
    exact ⟨hact, hrel, tot.1, tot.2.2⟩

end

/-! ## The six shipped configurations of composite objects with cells (`hyp3L_*` of `JF/Props/SystemInv3Loop.lean`) -/

section
open JF.Act.Gen JF.CellTaggers JF.C10C11
variable {geo : ∀ env : Env ℚ, ∀ l, Geo (cwEnv env l)} {needs : HandlerId → Bool} {s0 s : Sys3} {os : List (Oracle XTime)}
  {cs : List (Committed XTime)}

/-- `dipoles/cell_bounded.ini`: composite objects, `cell_level = 1` -/
theorem c11_occinv_dipoles_cell_bounded (env : Env ℚ) (hL : BoxOK env.base.d env.base.L)
    (hr : Reach3From env (geo env) mcfg_dipoles_cell_bounded 9 needs s0 os cs s) (nta : TieFreeAll3 mcfg_dipoles_cell_bounded cs)
    (h0 : OccInit3 env mcfg_dipoles_cell_bounded s0) :
    C11.OccInv (relG env 0 s0.cs) (cellL env 0 s.csPrev) (getOcc s.occs 0) :=
  c11_occinv_closed3 (hyp3L_dipoles_cell_bounded env hL) hr nta h0 (by decide)

theorem c11_occinv_dipoles_cell_veto (env : Env ℚ) (hL : BoxOK env.base.d env.base.L)
    (hr : Reach3From env (geo env) mcfg_dipoles_cell_veto 9 needs s0 os cs s) (nta : TieFreeAll3 mcfg_dipoles_cell_veto cs)
    (h0 : OccInit3 env mcfg_dipoles_cell_veto s0) :
    C11.OccInv (relG env 0 s0.cs) (cellL env 0 s.csPrev) (getOcc s.occs 0) :=
  c11_occinv_closed3 (hyp3L_dipoles_cell_veto env hL) hr nta h0 (by decide)

/-- `water/coulomb_cell_veto_lj_cell_veto.ini`: both cell systems (`l = 0`: oxygens, level 2; `l = 1`: molecules, level 1) -/
theorem c11_occinv_water_cell_veto_lj_cell_veto (env : Env ℚ) (hL : BoxOK env.base.d env.base.L)
    (hr : Reach3From env (geo env) mcfg_water_coulomb_cell_veto_lj_cell_veto 13 needs s0 os cs s)
    (nta : TieFreeAll3 mcfg_water_coulomb_cell_veto_lj_cell_veto cs)
    (h0 : OccInit3 env mcfg_water_coulomb_cell_veto_lj_cell_veto s0) {l : Nat} (hl : l < 2) :
    C11.OccInv (relG env l s0.cs) (cellL env l s.csPrev) (getOcc s.occs l) :=
  c11_occinv_closed3 (hyp3L_water_cell_veto_lj_cell_veto env hL) hr nta h0 hl

theorem c11_occinv_water_cell_veto_lj_inverted (env : Env ℚ) (hL : BoxOK env.base.d env.base.L)
    (hr : Reach3From env (geo env) mcfg_water_coulomb_cell_veto_lj_inverted 10 needs s0 os cs s)
    (nta : TieFreeAll3 mcfg_water_coulomb_cell_veto_lj_inverted cs) (h0 : OccInit3 env mcfg_water_coulomb_cell_veto_lj_inverted s0) :
    C11.OccInv (relG env 0 s0.cs) (cellL env 0 s.csPrev) (getOcc s.occs 0) :=
  c11_occinv_closed3 (hyp3L_water_cell_veto_lj_inverted env hL) hr nta h0 (by decide)

/-- `water/coulomb_power_bounded_lj_cell_bounded.ini`: oxygens, `cell_level = 2`, charge filter -/
theorem c11_occinv_water_power_bounded_lj_cell_bounded (env : Env ℚ) (hL : BoxOK env.base.d env.base.L)
    (hr : Reach3From env (geo env) mcfg_water_coulomb_power_bounded_lj_cell_bounded 10 needs s0 os cs s)
    (nta : TieFreeAll3 mcfg_water_coulomb_power_bounded_lj_cell_bounded cs)
    (h0 : OccInit3 env mcfg_water_coulomb_power_bounded_lj_cell_bounded s0) :
    C11.OccInv (relG env 0 s0.cs) (cellL env 0 s.csPrev) (getOcc s.occs 0) :=
  c11_occinv_closed3 (hyp3L_water_power_bounded_lj_cell_bounded env hL) hr nta h0 (by decide)

/-- `hard_disk_dipoles/hard_disk_dipoles_cells.ini`: point masses, `cell_level = 2` -/
theorem c11_occinv_hard_disk_dipoles_cells (env : Env ℚ) (hL : BoxOK env.base.d env.base.L)
    (hr : Reach3From env (geo env) mcfg_hard_disk_dipoles_hard_disk_dipoles_cells 6 needs s0 os cs s)
    (nta : TieFreeAll3 mcfg_hard_disk_dipoles_hard_disk_dipoles_cells cs)
    (h0 : OccInit3 env mcfg_hard_disk_dipoles_hard_disk_dipoles_cells s0) :
    C11.OccInv (relG env 0 s0.cs) (cellL env 0 s.csPrev) (getOcc s.occs 0) :=
  c11_occinv_closed3 (hyp3L_hard_disk_dipoles_cells env hL) hr nta h0 (by decide)

theorem cell_partition_total_dipoles_cell_bounded (env : Env ℚ) (hL : BoxOK env.base.d env.base.L)
    (hr : Reach3From env (geo env) mcfg_dipoles_cell_bounded 9 needs s0 os cs s) (nta : TieFreeAll3 mcfg_dipoles_cell_bounded cs)
    (h0 : OccInit3 env mcfg_dipoles_cell_bounded s0) (hlev : (env.oe 0).level = 1) (hG : CellOfTotal3 env 0) :
    let t := tocc env.base.nPer (env.oe 0) (getOcc s.occs 0)
    let g := (env.oe 0).grid
    match (getOcc s.occs 0).activeId with
    | none => cellVetoTagger t = [] ∧ cellBoundingTagger g t = [] ∧ excludedCellsTagger g t = [] ∧
        surplusCellsTagger t = [] ∧ vetoTargets g t = []
    | some a =>
        activeOn env 0 s.csPrev = [a] ∧ (env.oe 0).relevant a = true ∧
        t.active = some (CW.cellAt g (cellL env 0 s.csPrev a), wrap a) ∧
        (targetsVeto g t ++ targetsExcluded g t ++ targetsSurplus t).Perm (idents ((relRoots env 0 s0.cs.length).erase a)) ∧
        (targetsBounding g t ++ targetsExcluded g t ++ targetsSurplus t).Perm (idents ((relRoots env 0 s0.cs.length).erase a)) :=
  cell_partition_total_closed3 (hyp3L_dipoles_cell_bounded env hL) hr nta h0 (by decide) hlev hG

theorem cell_partition_total_dipoles_cell_veto (env : Env ℚ) (hL : BoxOK env.base.d env.base.L)
    (hr : Reach3From env (geo env) mcfg_dipoles_cell_veto 9 needs s0 os cs s) (nta : TieFreeAll3 mcfg_dipoles_cell_veto cs)
    (h0 : OccInit3 env mcfg_dipoles_cell_veto s0) (hlev : (env.oe 0).level = 1) (hG : CellOfTotal3 env 0) :
    let t := tocc env.base.nPer (env.oe 0) (getOcc s.occs 0)
    let g := (env.oe 0).grid
    match (getOcc s.occs 0).activeId with
    | none => cellVetoTagger t = [] ∧ cellBoundingTagger g t = [] ∧ excludedCellsTagger g t = [] ∧
        surplusCellsTagger t = [] ∧ vetoTargets g t = []
    | some a =>
        activeOn env 0 s.csPrev = [a] ∧ (env.oe 0).relevant a = true ∧
        t.active = some (CW.cellAt g (cellL env 0 s.csPrev a), wrap a) ∧
        (targetsVeto g t ++ targetsExcluded g t ++ targetsSurplus t).Perm (idents ((relRoots env 0 s0.cs.length).erase a)) ∧
        (targetsBounding g t ++ targetsExcluded g t ++ targetsSurplus t).Perm (idents ((relRoots env 0 s0.cs.length).erase a)) :=
  cell_partition_total_closed3 (hyp3L_dipoles_cell_veto env hL) hr nta h0 (by decide) hlev hG

end

/-! ## Non-vacuity: the four-leg run of `dipoles/cell_bounded.ini` of `JF.SystemInv3Loop.Example`

start of run at 0 — sampling at 1/8 — the cell-boundary event of dipole 0 at 1/2 — the `harmonic` lifting (0, 0) → (0, 1) at 5/8.
Every hypothesis of the theorems of this module holds for it. -/

namespace Example
open JF.SystemInv3Loop.Example JF.C11 JF.CellTaggers JF.C10C11

theorem reach4F : Reach3From env geo mw 9 needs s0 os4 cs4c s4 :=
  have r1 := Reach3From.step (.init init0) (by simp) step1
  have r2 := r1.step (SysLeg.go_snoc rfl (congrArg Committed.stop leg1.1)) step2
  have r3 := r2.step (SysLeg.go_snoc rfl (congrArg Committed.stop leg2.1)) step3
  r3.step (SysLeg.go_snoc rfl (congrArg Committed.stop leg3.1)) step4

/-- `SingleActiveCellOccupancy.initialize` on the two dipoles (centres in cells (2, 2) = 10 and (0, 0) = 0) -/
theorem occInit3_example : OccInit3 env mw s0 := by
  intro l hl
  have : l = 0 := Nat.lt_one_iff.mp hl
  subst this
  have h := C11.init_inv 1 [⟨0, true, 10⟩, ⟨1, true, 0⟩] (by decide)
  have hrel : C11.relOf [⟨0, true, 10⟩, ⟨1, true, 0⟩] = relG env 0 s0.cs := by
    funext u
    rcases u with _ | _ | n
    · decide +kernel
    · decide +kernel
    · simp [C11.relOf, relG, identL, identOf, unitAt, env, oe, Env.oe, s0, Sys3.init]
  rw [hrel] at h
  refine JF.Sys.occInv_congr h ?_
  intro u hu
  rcases u with _ | _ | n
  · decide +kernel
  · decide +kernel
  · simp [relG, identL, identOf, unitAt, env, oe, Env.oe, s0, Sys3.init] at hu

/-- start of run, sampling (1/8) and the lifting (5/8) are not at the time of a pending cell-boundary candidate (1/2 resp. 1);
the third commit is the cell-boundary event of the cell system -/
theorem tieFreeAll4 : TieFreeAll3 mw cs4c := by
  intro k cm hk E l hE hl hncb hb hcb
  obtain rfl := cb_handler hcb
  obtain rfl : l = 0 := Nat.lt_one_iff.mp hl
  rcases noTie4 hk with h3 | h
  · rw [h3] at hE
    cases (show owner cfg.wires 3 = some 3 by decide).symm.trans hE
    exact absurd hncb (by decide)
  · exact h

theorem cellOfTotal : CellOfTotal3 env 0 := by
  intro p
  have h : ∀ x, (g4.idx x).toNat ≤ 3 := by
    intro x
    have : g4.idx x ≤ 3 := by
      unfold Grid.idx
      exact le_trans (min_le_right _ _) (by norm_num [g4])
    omega
  have hn : numCells (env.oe 0).grid = 16 := by decide
  rw [hn]
  show (g4.idx (p.getD 0 0)).toNat + 4 * (g4.idx (p.getD 1 0)).toNat < 16
  have h1 := h (p.getD 0 0)
  have h2 := h (p.getD 1 0)
  omega

/-- C11's full invariant in the middle of the fourth leg (after the cell-boundary event: dipole 0 is active in cell (3, 2) = 11,
dipole 1 is the occupant of cell 0) -/
example : C11.OccInv (relG env 0 s0.cs) (cellL env 0 s4.csPrev) (getOcc s4.occs 0) :=
  c11_occinv_closed3 hyp reach4F tieFreeAll4 occInit3_example (l := 0) (by decide)
example : (getOcc s4.occs 0).activeId = some 0 ∧ (getOcc s4.occs 0).activeCell = some 11 ∧
    Occ.getItem (getOcc s4.occs 0) 0 = [1] ∧ cellL env 0 s4.csPrev 0 = 11 ∧ cellL env 0 s4.csPrev 1 = 0 := by decide +kernel

/-- dipole 1 (relevant, not active) -/
example : (Occ.getItem (getOcc s4.occs 0) (cellL env 0 s4.csPrev 1)).count 1 + (Occ.yieldSurplus (getOcc s4.occs 0)).count 1 = 1 ∧
    ∀ c, c ≠ cellL env 0 s4.csPrev 1 → 1 ∉ Occ.getItem (getOcc s4.occs 0) c :=
  c11_recorded_exactly_once_closed3 hyp reach4F tieFreeAll4 occInit3_example (l := 0) (by decide) (u := 1) (by decide +kernel)
    (by decide +kernel)

/-- at the lifting commit of leg 4 (`harmonic`, tagger 4): the centre of dipole 0 — the old and new active composite
object — time-sliced to 5/8, is in the cell it was in -/
example : cellL env 0 s4.cs 0 = cellL env 0 s4.csPrev 0 :=
  old_active_stays_closed3 hyp reach4F tieFreeAll4 occInit3_example (cl := c4) (E := 4) List.getLast?_concat (by rw [leg4.1]; decide)
    (l := 0) (by decide) (by decide) (a := 0) (by decide +kernel) rfl

/-- C10's partition in the middle of the fourth leg: dipole 0 is the active composite object in cell (3, 2); the cell-bounding,
excluded and surplus targets together are dipole 1, once -/
example :
    let t := tocc env.base.nPer (env.oe 0) (getOcc s4.occs 0)
    let g := (env.oe 0).grid
    match (getOcc s4.occs 0).activeId with
    | none => cellVetoTagger t = [] ∧ cellBoundingTagger g t = [] ∧ excludedCellsTagger g t = [] ∧
        surplusCellsTagger t = [] ∧ vetoTargets g t = []
    | some a =>
        activeOn env 0 s4.csPrev = [a] ∧ (env.oe 0).relevant a = true ∧
        t.active = some (CW.cellAt g (cellL env 0 s4.csPrev a), wrap a) ∧
        (targetsVeto g t ++ targetsExcluded g t ++ targetsSurplus t).Perm (idents ((relRoots env 0 s0.cs.length).erase a)) ∧
        (targetsBounding g t ++ targetsExcluded g t ++ targetsSurplus t).Perm (idents ((relRoots env 0 s0.cs.length).erase a)) :=
  cell_partition_total_closed3 hyp reach4F tieFreeAll4 occInit3_example (l := 0) (by decide) rfl cellOfTotal
example : idents ((relRoots env 0 s0.cs.length).erase 0) = [[1]] := by decide +kernel

end Example

end JF.SystemInv3Occ
