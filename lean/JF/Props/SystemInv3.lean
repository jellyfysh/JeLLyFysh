/-
# The joint statement for composite objects with cells over runs of the activator model: `joint_inv3_partial`

For the leaf-only wirings (`Sys3.LeafOnly`, decidable; all six shipped configurations of composite objects with a cell system) the mode
premise of `Tr3` is vacuous (`JF/Lemmas/SystemRun3.lean`), so the runs of the activator model over the transition relation `Tr3L` —
`Composite.step` of a weakly admissible event of a kind of the committing tagger's handler class (the hypothesis `hkind` of
`JF/Props/ModeDiscipline.lean` as the definition of the step relation), the update of every internal state, the C11 history premise —
are runs over `Tr3`, and one application of C09's run induction (`JF.Act.run_inv`, through `fresh_concrete3`) together with the
invariant `Inv3` carried by the states gives at every commit of every run, jointly and with no `FootprintsSound` hypothesis and no
mode premise: C09's freshness for every live tagger; C12's `AllGood` / `RootConsistent` for every composite object and C07's
one-chain clause; C11's mirror in the form "every carried occupancy records exactly the active unit on its cell level (if relevant),
and a cell iff an identifier"; C08's clause (h); the mode of the activation flags is `leaf`.

**Frontier (why `_partial`).**  This is a statement about runs of the activator model (`JF.Act.Run`), not of the composed mediator
loop (`JF.Med.leg` with a scheduler and candidate times), and the history premise `StaysInRecordedCell` is still part of the step
relation `Tr3L`; C11 is claimed only in the consistency form.  The mediator loop, with that premise derived
(`staysInRecordedCell_closed3`) and with sorted commit times (`commit_times_sorted_closed3`, `no_sample_skipped3`), is
`JF/Props/SystemInv3Loop.lean`; C11's full `OccInv` is `c11_occinv_closed3` in `JF/Props/SystemInv3Occ.lean`.
-/
import JF.Lemmas.SystemRun3
import JF.Props.Footprints3
namespace JF.SystemInv3
open JF JF.Act JF.CW3 JF.Sys3 JF.Composite JF.C12 JF.Footprints3

structure Hyp3 (env : Env ℚ) (mw : ModeWiring) (S : TaggerIdx) : Prop where
  box : BoxOK env.base.d env.base.L
  sound : WiringSound mw.w = true
  start : mw.w.start? = some S
  supp : Supported3 mw = true
  leaf : LeafOnly mw = true

section
variable {env : Env ℚ} {mw : ModeWiring} {S : TaggerIdx}

theorem run3_of_run3L (H : Hyp3 env mw S) {rs : RS (G3 env mw)} (h : Run mw.w (world3 env mw) (Tr3L env mw) S rs) :
    Run mw.w (world3 env mw) (Tr3 env mw) S rs :=
  run_mono (fun _ _ _ htr => trRaw3_of_leafOnly H.leaf htr) h

/-- the joint statement at every commit of every run (partial: activator-level runs, history premise inside the step relation) -/
theorem joint_inv3_partial (H : Hyp3 env mw S) {rs : RS (G3 env mw)} (h : Run mw.w (world3 env mw) (Tr3L env mw) S rs) :
    (∀ T, (world3 env mw).live T → Fresh (world3 env mw) rs T)
    ∧ AllGood env.base.d env.base.L rs.g.1.cs ∧ (∀ c ∈ rs.g.1.cs, RootConsistent env.base.L c)
    ∧ CW2.Uniform env.base.nPer rs.g.1.cs
    ∧ (AllRest rs.g.1.cs ∨ ∃ sq, OneChainM rs.g.1.cs sq rs.g.1.mode)
    ∧ ConsAll env mw.w.labels.length rs.g.1
    ∧ mw.mode (absOf rs.act) = .leaf :=
  ⟨fresh_concrete3 env H.box mw S H.sound H.start H.supp (run3_of_run3L H h), rs.g.2.1.1,
    fun c hc => good_rootConsistent (rs.g.2.1.1 c hc), rs.g.2.1.2.1, rs.g.2.1.2.2, rs.g.2.2, leafOnly_mode H.leaf _⟩

theorem c09_fresh_closed3_partial (H : Hyp3 env mw S) {rs : RS (G3 env mw)} (h : Run mw.w (world3 env mw) (Tr3L env mw) S rs) :
    ∀ T, (world3 env mw).live T → Fresh (world3 env mw) rs T := (joint_inv3_partial H h).1

theorem c12_rootConsistent_closed3_partial (H : Hyp3 env mw S) {rs : RS (G3 env mw)}
    (h : Run mw.w (world3 env mw) (Tr3L env mw) S rs) :
    (∀ c ∈ rs.g.1.cs, RootConsistent env.base.L c) ∧ (AllRest rs.g.1.cs ∨ ∃ sq, OneChainM rs.g.1.cs sq rs.g.1.mode) :=
  ⟨(joint_inv3_partial H h).2.2.1, (joint_inv3_partial H h).2.2.2.2.1⟩

/-- C11 in the consistency form only, not the full `C11.OccInv` -/
theorem c11_consistent_closed3_partial (H : Hyp3 env mw S) {rs : RS (G3 env mw)}
    (h : Run mw.w (world3 env mw) (Tr3L env mw) S rs) {l : Nat} (hl : l < mw.w.labels.length) :
    ConsistentOcc (env.oe l).relevant (unitsOn env.base.nPer (env.oe l).level (CW2.flags rs.g.1.cs)) (getOcc rs.g.1.occs l) :=
  (joint_inv3_partial H h).2.2.2.2.2.1 l hl

theorem c08_closed3_partial (H : Hyp3 env mw S) {rs : RS (G3 env mw)} (h : Run mw.w (world3 env mw) (Tr3L env mw) S rs)
    {E : TaggerIdx} (hE : (getT rs.act E).running ≠ []) (hend : (mw.w.tagger E).kind ≠ .endOfRun)
    (hm : affects (mw.w.tagger E) .motion = true) {T : TaggerIdx} (hT : T < mw.w.n) (hb : motionBound (mw.w.tagger T) = true) :
    T ∈ (getW mw.w.wires E).trashes ∨ (getT rs.act T).running = [] :=
  clause_h_concrete3 env H.box mw S H.sound H.start H.supp (run3_of_run3L H h) hE hend hm hT hb

theorem mode_closed3 (H : Hyp3 env mw S) (σ : AState) : mw.mode σ = .leaf := leafOnly_mode H.leaf σ

end

/-! ## the six shipped configurations of composite objects with cells -/

open JF.Act.Gen

theorem leafOnly_shipped : LeafOnly mcfg_dipoles_cell_bounded = true ∧ LeafOnly mcfg_dipoles_cell_veto = true ∧
    LeafOnly mcfg_water_coulomb_cell_veto_lj_cell_veto = true ∧ LeafOnly mcfg_water_coulomb_cell_veto_lj_inverted = true ∧
    LeafOnly mcfg_water_coulomb_power_bounded_lj_cell_bounded = true ∧ LeafOnly mcfg_hard_disk_dipoles_hard_disk_dipoles_cells = true := by
  decide

/-- not trivially true: a configuration with mode switchers is not leaf-only -/
example : LeafOnly mcfg_dipoles_dipole_motion = false := by decide

theorem hyp3_dipoles_cell_bounded (env : Env ℚ) (hL : BoxOK env.base.d env.base.L) : Hyp3 env mcfg_dipoles_cell_bounded 9 :=
  ⟨hL, cfg_sound_dipoles_cell_bounded, by decide, supported3_dipoles_cell_bounded, by decide⟩
theorem hyp3_dipoles_cell_veto (env : Env ℚ) (hL : BoxOK env.base.d env.base.L) : Hyp3 env mcfg_dipoles_cell_veto 9 :=
  ⟨hL, cfg_sound_dipoles_cell_veto, by decide, supported3_dipoles_cell_veto, by decide⟩
theorem hyp3_water_cell_veto_lj_cell_veto (env : Env ℚ) (hL : BoxOK env.base.d env.base.L) :
    Hyp3 env mcfg_water_coulomb_cell_veto_lj_cell_veto 13 :=
  ⟨hL, cfg_sound_water_coulomb_cell_veto_lj_cell_veto, by decide, supported3_water_cell_veto_lj_cell_veto, by decide⟩
theorem hyp3_water_cell_veto_lj_inverted (env : Env ℚ) (hL : BoxOK env.base.d env.base.L) :
    Hyp3 env mcfg_water_coulomb_cell_veto_lj_inverted 10 :=
  ⟨hL, cfg_sound_water_coulomb_cell_veto_lj_inverted, by decide, supported3_water_cell_veto_lj_inverted, by decide⟩
theorem hyp3_water_power_bounded_lj_cell_bounded (env : Env ℚ) (hL : BoxOK env.base.d env.base.L) :
    Hyp3 env mcfg_water_coulomb_power_bounded_lj_cell_bounded 10 :=
  ⟨hL, cfg_sound_water_coulomb_power_bounded_lj_cell_bounded, by decide, supported3_water_power_bounded_lj_cell_bounded, by decide⟩
theorem hyp3_hard_disk_dipoles_cells (env : Env ℚ) (hL : BoxOK env.base.d env.base.L) :
    Hyp3 env mcfg_hard_disk_dipoles_hard_disk_dipoles_cells 6 :=
  ⟨hL, cfg_sound_hard_disk_dipoles_hard_disk_dipoles_cells, by decide, supported3_hard_disk_dipoles_cells, by decide⟩

/-! ## non-vacuity: the five-commit run of `Footprints3.Example` (`dipoles/cell_bounded.ini`, two dipoles) is a run over `Tr3L` -/

namespace Example
open JF.Footprints3.Example

theorem trL_next (E : TaggerIdx) (hE : E < mw.w.n) (g : G3 env mw) (hg : g.1.mode = .leaf) (e : Composite.Ev ℚ)
    (hm : modeStep g.1.mode e = some .leaf) (ha : AdmW env.base.d env.base.L g.1.cs e) (ho)
    (hk : CW2.evKind e ∈ kindsOf (mw.hmode E) .leaf) (hs : CW2.evKind e ≠ .start)
    (htr : Tr3 env mw E g (next g e .leaf hm ha ho)) : Tr3L env mw E g (next g e .leaf hm ha ho) :=
  ⟨hE, hg, rfl, ⟨e, hk, hs, ha, rfl⟩, htr.2.1, htr.2.2⟩

theorem runL5 : Run cfg W (Tr3L env mw) 9 rs5 := by
  -- the committing tagger of every step has a pending handler: one evaluation of the four activator states
  have hp : (getT rs1.act 6).running ≠ [] ∧ (getT rs2.act 3).running ≠ [] ∧ (getT rs3.act 4).running ≠ [] ∧
      (getT rs4.act 7).running ≠ [] := by decide +kernel
  have r1 : Run cfg W (Tr3L env mw) 9 rs1 :=
    .start (fun _ => none) g0 g1 s0 out0 rs1
      (Option.some_get (x := first cfg.wires (initAct cfg.wires) 9 (fun T => W.yieldOf T g0)) (by decide +kernel)).symm commit1
  have r2 : Run cfg W (Tr3L env mw) 9 rs2 :=
    .step rs1 rs2 6 g2 r1 hp.1 (by decide)
      (JF.CW.commit_g commit1 ▸ trL_next 6 (by decide) g1 rfl e2 rfl trivial _ (by decide) (by decide) tr_sampling) commit2
  have r3 : Run cfg W (Tr3L env mw) 9 rs3 :=
    .step rs2 rs3 3 g3 r2 hp.2.1 (by decide)
      (JF.CW.commit_g commit2 ▸ trL_next 3 (by decide) g2 rfl e3 rfl adm3 _ (by decide) (by decide) tr_cell_boundary) commit3
  have r4 : Run cfg W (Tr3L env mw) 9 rs4 :=
    .step rs3 rs4 4 g4 r3 hp.2.2.1 (by decide)
      (JF.CW.commit_g commit3 ▸ trL_next 4 (by decide) g3 rfl e4 rfl adm4 _ (by decide) (by decide) tr_harmonic) commit4
  exact .step rs4 rs5 7 g5 r4 hp.2.2.2 (by decide)
    (JF.CW.commit_g commit4 ▸ trL_next 7 (by decide) g4 rfl e5 rfl adm5 _ (by decide) (by decide) tr_end_of_chain) commit5

example := joint_inv3_partial (hyp3_dipoles_cell_bounded env box) runL5

/-- … and is about a state with a moving chain and a recorded active unit: dipole 1 active in cell (0, 0) -/
example : (getOcc rs5.g.1.occs 0).activeId = some 1 ∧ unitsOn 2 oe.level (CW2.flags rs5.g.1.cs) = [1] := by decide +kernel

end Example

end JF.SystemInv3
