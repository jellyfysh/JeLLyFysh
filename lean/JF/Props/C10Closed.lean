import JF.Props.SystemInv
import JF.Props.C10C11
import JF.Lemmas.C10Closed
/-!
# C10 closed on the joint invariant: the cell families partition the partners at EVERY leg of EVERY run

`JF/Props/C10.lean` + `JF/Props/C10C11.lean` prove "cell-veto / cell-bounding targets (non-nearby cells), excluded-cell targets (nearby
cells) and surplus targets together are the relevant units other than the active one, each exactly once" for an occupancy state in
isolation, under C11's `HistoryPremise` and `InGrid`.  `JF/Props/SystemInv.lean` proves C11's invariant at every leg of every run of
the composed mediator loop on the concrete coulomb_atoms world, the history premise derived.  This module composes the two.

**Setting**: a run `JF.Sys.Reach env geo c S needs os cs s` (legs `os`/`cs`, state `s` after the last leg; `⟨s.usPrev, s.occ⟩` is the
concrete state the last leg's taggers yielded on and its candidates were computed from), under `JF.Sys.Hyp env c S`
(`JF/Lemmas/SystemRunStep.lean`) and `hasOccOf c = true`.

**What is left as hypothesis** (everything else of C10C11 — `HistoryPremise`, `InGrid`, the list of relevant units, the active unit —
is derived):
* `TieFreeAll c cs` (the strong no-tie hypothesis of `JF/Props/SystemInv.lean`: no event other than the cell-boundary event itself is
  committed at exactly the time of a pending cell-boundary candidate) — it is what `c11_occinv_closed`, the corollary that gives C11's FULL `OccInv`, needs;
* `CellOfInGrid env`: `env.cellOf p < numCells env.grid` for every position in the box.  `CW.Env` carries the box lengths `L`, the cell
  system `grid` and `cellOf` as three unrelated fields; `GridBox env` (`JF/Lemmas/C10Closed.lean`) is the relation the real
  `CuboidCells` establishes between them (`position_to_cell` = flat index of the per-direction `_cell_identifier`s), and
  `GridBox.inGrid` proves `CellOfInGrid` from it with `JF.Sys.idx_spec`.  So **`InGrid` follows from `InBox`** (C07's part of the joint
  invariant, `box_closed`): `inGrid_closed`.
* for the statements about PENDING events: the decidable side condition `cellWired c S cls T` on the wiring (tagger `T` has class
  `cls`, its events are compared by identifier tuples, and it is activated in every reachable activation state) — `decide`d for the
  shipped wirings.

**Statements**, in three readings: of the state (`cell_partition_total_closed`: the recorded active unit IS the moving point
mass, and both variants partition the other relevant point masses); of what the taggers returned in a leg
(`yields_partition_every_leg`: `CW.yieldCls` = the oracle's `o.yields T` of that leg); of the events PENDING in the middle of a leg
(`pending_partition_every_leg`, with `c09_fresh_closed`: these handlers are exactly the ones with a pending candidate in the
scheduler's ghost dictionary).  `c10_closed_of_gridBox` packages them for an environment with a `GridBox`; the concrete 6-leg run
`JF.SystemInv.Example` is the non-vacuity witness (it also shows that `CellOfInGrid` cannot be dropped).

Not covered: legs whose candidates are `inf` are "pending" in the ghost dictionary although `heap.c` never stores them (a partner
covered by such an event has no finite event — C10 does not ask for one); the negative direction of motion and the exact-reading
restriction are SystemInv's; the pool size of the shipped wirings (`number_event_handlers = 1` for the cell-bounding tagger) bounds
the runs that exist (`Reach` has no leg on which the activator runs out of handlers), it is not a hypothesis here.
-/
namespace JF.C10Closed
open JF JF.Act JF.Heap JF.Sched JF.Med JF.CW JF.C14 JF.MediatorLoop JF.Kin JF.Sys JF.SystemInv JF.CellTaggers JF.C10C11

section
variable {env : Env ℚ} {geo : Geo env} {c : Wiring} {S : TaggerIdx} {needs : HandlerId → Bool}

theorem box_us_closed (H : Hyp env c S) {os : List (Oracle XTime)} {cs : List (Committed XTime)} {s : Sys}
    (hr : Reach env geo c S needs os cs s) (nt : TieFree c cs) : ∀ u ∈ s.us, InBox env.L u.pos := by
  rcases joint_inv H hr nt with ⟨_, hi⟩ | ⟨cs0, cl, E, tl, a, pos, v, ts, _, big⟩
  · exact hi.box
  · intro u hu
    obtain ⟨i, hi, rfl⟩ := List.getElem_of_mem hu
    exact (big.kin.2 i _ (List.getElem?_eq_getElem hi)).2.1

/-- **every point mass is in the box** in the state the last leg worked on and in the state after its commit (C07, from the joint
invariant) -/
theorem box_closed (H : Hyp env c S) {os : List (Oracle XTime)} {cs : List (Committed XTime)} {s : Sys}
    (hr : Reach env geo c S needs os cs s) (nt : TieFree c cs) :
    (∀ u ∈ s.usPrev, InBox env.L u.pos) ∧ (∀ u ∈ s.us, InBox env.L u.pos) := by
  refine ⟨?_, box_us_closed H hr nt⟩
  cases hr with
  | init s h => rw [h.prev]; exact h.box
  | step prev hgo hstep => rw [hstep.prev]; exact box_us_closed H prev (tieFree_snoc nt).1

/-- **the recorded active unit IS the moving point mass, and it is relevant** -/
theorem active_is_mover (H : Hyp env c S) {os : List (Oracle XTime)} {cs : List (Committed XTime)} {s : Sys}
    (hr : Reach env geo c S needs os cs s) (nt : TieFree c cs) (hO : hasOccOf c = true) {a : Nat}
    (ha : s.occ.activeId = some a) : movers s.usPrev = [a] ∧ env.relevant a = true ∧ a < s.usPrev.length := by
  have h1 : s.occ.activeId = expectedActive env (movers s.usPrev) := by
    rcases joint_inv H hr nt with ⟨_, hi⟩ | ⟨cs0, cl, E, tl, a, pos, v, ts, _, big⟩
    · rw [hi.occId, hi.prev, movers_rest hi.rest]; rfl
    · exact (big.phase.1 hO).1
  rw [ha] at h1
  obtain ⟨hm, hrel⟩ := CW3.expected_some (rel := env.relevant) h1.symm
  refine ⟨hm, hrel, ?_⟩
  have : a ∈ movers s.usPrev := by rw [hm]; simp
  exact List.mem_range.mp (List.mem_filter.mp this).1

/-- a recorded active unit exists only from the second leg on (the first leg does not update the internal state) -/
theorem two_le_of_active {os : List (Oracle XTime)} {cs : List (Committed XTime)} {s : Sys}
    (hr : Reach env geo c S needs os cs s) {a : Nat} (ha : s.occ.activeId = some a) : 2 ≤ cs.length := by
  cases hr with
  | init s h => rw [h.occId] at ha; cases ha
  | @step _ _ s0 _ _ _ prev hgo hstep =>
    cases prev with
    | init _ h =>
      -- the first leg does not update the internal state
      have hocc := hstep.occ1
      unfold occNext at hocc
      have hst : s0.med.act.started = false := by rw [h.med]; rfl
      rw [hst] at hocc
      simp only [Bool.false_eq_true, if_false, Option.some.injEq] at hocc
      rw [← hocc, h.occId] at ha; cases ha
    | step _ _ _ => simp

/-- the cell of every relevant point mass of a list of point masses in the box is a cell of the grid -/
theorem inGrid_of_inBox {env : Env ℚ} (hG : CellOfInGrid env) {us : List (PUnit ℚ)} (hbox : ∀ u ∈ us, InBox env.L u.pos) :
    InGrid env.grid (relUnits env us.length) (cellW env us) := by
  intro u hu
  have hr' := (mem_relUnits env us u).mp hu
  have hul : u < us.length := by
    unfold relW at hr'
    simp only [Bool.and_eq_true, decide_eq_true_eq] at hr'
    exact hr'.1
  unfold cellW
  rw [if_pos hr', List.getElem?_eq_getElem hul]
  exact hG _ (hbox _ (List.getElem_mem hul))

/-- **`InGrid` is a consequence**: the cell of every relevant point mass (in the state the leg works on) is a cell of the grid — from
`InBox` (C07, joint invariant) and `CellOfInGrid` (`GridBox.inGrid`: `idx_spec`) -/
theorem inGrid_closed (H : Hyp env c S) (hG : CellOfInGrid env) {os : List (Oracle XTime)} {cs : List (Committed XTime)}
    {s : Sys} (hr : Reach env geo c S needs os cs s) (nt : TieFree c cs) :
    InGrid env.grid (relUnits env s.usPrev.length) (cellW env s.usPrev) :=
  inGrid_of_inBox hG (box_closed H hr nt).1

theorem isRelevantList_relUnits (env : Env ℚ) (us : List (PUnit ℚ)) :
    IsRelevantList (relW env us) (relUnits env us.length) :=
  ⟨relUnits_nodup env _, mem_relUnits env us⟩

/-- **C10's occupancy hypothesis `JF.C10.OccInv` holds at every leg of every run** for the occupancy as the cell taggers read it
(`CW.tocc`), the relevant point masses, and the recorded active unit in the cell of its position -/
theorem c10_occInv_closed (H : Hyp env c S) (hG : CellOfInGrid env) {os : List (Oracle XTime)} {cs : List (Committed XTime)}
    {s : Sys} (hr : Reach env geo c S needs os cs s) (nta : TieFreeAll c cs) (hO : hasOccOf c = true) {a : Nat}
    (ha : s.occ.activeId = some a) :
    C10.OccInv env.grid (tocc env s.occ) (idents (relUnits env s.usPrev.length))
      (cellAt env.grid (cellW env s.usPrev a)) (wrap a) :=
  occInv_of_c11 (c11_occinv_closed H hr nta hO) env.grid _ (relUnits_nodup env _) (mem_relUnits env s.usPrev)
    (inGrid_closed H hG hr (tieFree_of_all nta)) ha

/-- nobody is treated twice, and the active unit is not its own target — at every leg of every run -/
theorem cell_targets_nodup_closed (H : Hyp env c S) (hG : CellOfInGrid env) {os : List (Oracle XTime)}
    {cs : List (Committed XTime)} {s : Sys} (hr : Reach env geo c S needs os cs s) (nta : TieFreeAll c cs)
    (hO : hasOccOf c = true) {a : Nat} (ha : s.occ.activeId = some a) :
    let t := tocc env s.occ
    (targetsVeto env.grid t ++ targetsExcluded env.grid t ++ targetsSurplus t).Nodup ∧
    (targetsBounding env.grid t ++ targetsExcluded env.grid t ++ targetsSurplus t).Nodup ∧
    wrap a ∉ targetsVeto env.grid t ++ targetsExcluded env.grid t ++ targetsSurplus t ∧
    wrap a ∉ targetsBounding env.grid t ++ targetsExcluded env.grid t ++ targetsSurplus t :=
  C10.cell_targets_nodup _ _ _ _ _ (c10_occInv_closed H hG hr nta hO ha)

/-- every other relevant point mass: its multiplicities in the three families add up to one — at every leg of every run -/
theorem cell_target_exactly_one_family_closed (H : Hyp env c S) (hG : CellOfInGrid env) {os : List (Oracle XTime)}
    {cs : List (Committed XTime)} {s : Sys} (hr : Reach env geo c S needs os cs s) (nta : TieFreeAll c cs)
    (hO : hasOccOf c = true) {a : Nat} (ha : s.occ.activeId = some a)
    (u : Nat) (hul : u < s.usPrev.length) (hu : env.relevant u = true) (hua : u ≠ a) :
    let t := tocc env s.occ
    (targetsVeto env.grid t).count (wrap u) + (targetsExcluded env.grid t).count (wrap u) + (targetsSurplus t).count (wrap u) = 1 ∧
    (targetsBounding env.grid t).count (wrap u) + (targetsExcluded env.grid t).count (wrap u) +
      (targetsSurplus t).count (wrap u) = 1 :=
  C10.cell_target_exactly_one_family _ _ _ _ _ (c10_occInv_closed H hG hr nta hO ha) (wrap u)
    (List.mem_map_of_mem ((mem_relUnits env s.usPrev u).mpr (by simp [relW, hul, hu])))
    (fun e => hua (wrap_injective e))

/-- **both cases in one statement, at every leg of every run**: either the occupancy records no active unit and no cell-based
in-state exists, or the recorded unit `a` is THE moving point mass, it is relevant, the recorded cell is the cell of its position, and
both variants partition the other relevant point masses -/
theorem cell_partition_total_closed (H : Hyp env c S) (hG : CellOfInGrid env) {os : List (Oracle XTime)}
    {cs : List (Committed XTime)} {s : Sys} (hr : Reach env geo c S needs os cs s) (nta : TieFreeAll c cs)
    (hO : hasOccOf c = true) :
    let t := tocc env s.occ
    match s.occ.activeId with
    | none => cellVetoTagger t = [] ∧ cellBoundingTagger env.grid t = [] ∧ excludedCellsTagger env.grid t = [] ∧
        surplusCellsTagger t = [] ∧ vetoTargets env.grid t = []
    | some a =>
        movers s.usPrev = [a] ∧ env.relevant a = true ∧
        t.active = some (cellAt env.grid (cellW env s.usPrev a), wrap a) ∧
        (targetsVeto env.grid t ++ targetsExcluded env.grid t ++ targetsSurplus t).Perm
          (idents ((relUnits env s.usPrev.length).erase a)) ∧
        (targetsBounding env.grid t ++ targetsExcluded env.grid t ++ targetsSurplus t).Perm
          (idents ((relUnits env s.usPrev.length).erase a)) := by
  have tot := cell_partition_total_of_c11 (c11_occinv_closed H hr nta hO) env.grid (isRelevantList_relUnits env s.usPrev)
    (inGrid_closed H hG hr (tieFree_of_all nta))
  intro t
  cases ha : s.occ.activeId with
  | none => simp only [ha] at tot; exact tot
  | some a =>
    simp only [ha] at tot
    obtain ⟨hm, hrel, _⟩ := active_is_mover H hr (tieFree_of_all nta) hO ha
    exact ⟨hm, hrel, tot.1, tot.2.2⟩

/-! ## the in-states the cell taggers of the concrete world yield ARE those families -/

/-- the partners: the relevant point masses other than the active one, as identifiers -/
def partners (env : Env ℚ) (s : Sys) (a : Nat) : List Ident := idents ((relUnits env s.usPrev.length).erase a)

/-- **C10's first sentence for the composed system (state of the last leg).**  On the concrete state `⟨s.usPrev, s.occ⟩` the last
leg's taggers yielded on: the targets of the in-states yielded by a cell-bounding tagger, an excluded-cells tagger and a surplus
tagger are together the relevant point masses other than the active one, each exactly once; a cell-veto tagger yields the one in-state
`((a,),)`, and the targets of its walker domain together with the other two families are again the partners, each once. -/
theorem yields_partition_closed (H : Hyp env c S) (hG : CellOfInGrid env) {os : List (Oracle XTime)}
    {cs : List (Committed XTime)} {s : Sys} (hr : Reach env geo c S needs os cs s) (nta : TieFreeAll c cs)
    (hO : hasOccOf c = true) {a : Nat} (ha : s.occ.activeId = some a) :
    let g : CState ℚ := ⟨s.usPrev, s.occ⟩
    (targetsOf (yieldCls env .cellBounding g) ++ targetsOf (yieldCls env .excludedCells g) ++
      targetsOf (yieldCls env .surplusCells g)).Perm (partners env s a) ∧
    yieldCls env .cellVeto g = [some [wrap a]] ∧
    (targetsVeto env.grid (tocc env s.occ) ++ targetsOf (yieldCls env .excludedCells g) ++
      targetsOf (yieldCls env .surplusCells g)).Perm (partners env s a) := by
  intro g
  have tot := cell_partition_total_closed H hG hr nta hO
  simp only [ha] at tot
  obtain ⟨_, _, hact, hv, hb⟩ := tot
  simp only [yieldCls, targetsOf_wrapIds]
  exact ⟨hb, by simp [cellVetoTagger, show (tocc env g.occ).active = _ from hact, wrapIds], hv⟩

theorem reach_prefix {os : List (Oracle XTime)} {cs : List (Committed XTime)} {s : Sys}
    (hr : Reach env geo c S needs os cs s) {k : Nat} {cm : Committed XTime} (hk : cs[k]? = some cm) :
    ∃ s0 s1 o, os[k]? = some o ∧ SysStep env geo c S needs s0 o cm s1 ∧
      Reach env geo c S needs (os.take k) (cs.take k) s0 ∧
      Reach env geo c S needs (os.take (k + 1)) (cs.take (k + 1)) s1 := by
  obtain ⟨s0, s1, o, ho, h0, hgo, hst⟩ := reach_leg hr hk
  refine ⟨s0, s1, o, ho, hst, h0, ?_⟩
  rw [List.take_add_one, List.take_add_one, ho, hk]
  exact Reach.step h0 hgo hst

theorem tieFreeAll_take {cs : List (Committed XTime)} (h : TieFreeAll c cs) (k : Nat) : TieFreeAll c (cs.take k) :=
  SysLeg.everyLeg_take
    (P := fun pre (cm : Committed XTime) => kindOfH c cm.handler ≠ .cellBoundary → NoTieAll c (pendOf (fun _ => none) pre) cm) h k

/-- **C10's first sentence at every leg of every run, about what the taggers returned in that leg.**  For leg `k` of a run with
oracle `o` (`o.yields T` = what `tagger.yield_identifiers_send_event_time` of tagger `T` returns in that leg) there is the state
`s1` after the leg such that the yields are the computed ones on `⟨s1.usPrev, s1.occ⟩`, and: if the occupancy records no active unit
every cell tagger yields nothing; otherwise, for the recorded (= moving, relevant) unit `a`, any cell-bounding tagger `Tb`,
excluded-cells tagger `Te`, surplus tagger `Ts` and cell-veto tagger `Tv` of the wiring: the targets of `o.yields Tb`, `o.yields Te`,
`o.yields Ts` are together the partners, each once; `o.yields Tv` is the single in-state `((a,),)` and the occupants of its walker
domain (`targetsVeto`) with the targets of `o.yields Te`, `o.yields Ts` are the partners, each once. -/
theorem yields_partition_every_leg (H : Hyp env c S) (hG : CellOfInGrid env) {os : List (Oracle XTime)}
    {cs : List (Committed XTime)} {s : Sys} (hr : Reach env geo c S needs os cs s) (nta : TieFreeAll c cs)
    (hO : hasOccOf c = true) {k : Nat} {cm : Committed XTime} (hk : cs[k]? = some cm) :
    ∃ (o : Oracle XTime) (s1 : Sys), os[k]? = some o ∧
      (∀ T, o.yields T = yieldCls env (c.tagger T).cls ⟨s1.usPrev, s1.occ⟩) ∧
      match s1.occ.activeId with
      | none => ∀ T, cellReading (c.tagger T).cls = true ∨ (c.tagger T).cls = .cellVeto → o.yields T = []
      | some a =>
        movers s1.usPrev = [a] ∧ env.relevant a = true ∧
        (∀ Tb Te Ts, (c.tagger Tb).cls = .cellBounding → (c.tagger Te).cls = .excludedCells →
          (c.tagger Ts).cls = .surplusCells →
          (targetsOf (o.yields Tb) ++ targetsOf (o.yields Te) ++ targetsOf (o.yields Ts)).Perm (partners env s1 a)) ∧
        (∀ Tv Te Ts, (c.tagger Tv).cls = .cellVeto → (c.tagger Te).cls = .excludedCells →
          (c.tagger Ts).cls = .surplusCells →
          o.yields Tv = [some [wrap a]] ∧
          (targetsVeto env.grid (tocc env s1.occ) ++ targetsOf (o.yields Te) ++ targetsOf (o.yields Ts)).Perm
            (partners env s1 a)) := by
  obtain ⟨s0, s1, o, ho, hst, _, hr1⟩ := reach_prefix hr hk
  have nta1 : TieFreeAll c (cs.take (k + 1)) := tieFreeAll_take nta _
  have hy : ∀ T, o.yields T = yieldCls env (c.tagger T).cls ⟨s1.usPrev, s1.occ⟩ := by
    intro T; rw [hst.yields, hst.prev]
  refine ⟨o, s1, ho, hy, ?_⟩
  cases ha : s1.occ.activeId with
  | none =>
    intro T hT
    obtain ⟨h1, h2, h3, h4, _⟩ := C10C11.no_active_no_instates (s := s1.occ) env.grid ha
    rw [hy T]
    rcases hT with hT | hT
    · cases hc : (c.tagger T).cls <;> rw [hc] at hT <;> simp [cellReading] at hT <;>
        simp only [yieldCls, tocc_eq, h2, h3, h4] <;> rfl
    · simp only [hT, yieldCls, tocc_eq, h1]; rfl
  | some a =>
    obtain ⟨hm, hrel, _⟩ := active_is_mover H hr1 (tieFree_of_all nta1) hO ha
    obtain ⟨p1, p2, p3⟩ := yields_partition_closed H hG hr1 nta1 hO ha
    refine ⟨hm, hrel, ?_, ?_⟩
    · intro Tb Te Ts hb he hs
      rw [hy Tb, hy Te, hy Ts, hb, he, hs]; exact p1
    · intro Tv Te Ts hv he hs
      rw [hy Tv, hy Te, hy Ts, hv, he, hs]; exact ⟨p2, p3⟩

/-! ### the events PENDING in the scheduler (with `c09_fresh_closed`) -/

/-- decidable side condition on the wiring for the statements about pending events: tagger `T` exists, has class `cls`, its pending
events are compared by their identifier tuples in C09 (handler kind interaction / cell veto / cell boundary), and it is activated
in every reachable activation state (as `cbWired` demands of the cell-boundary tagger) -/
def cellWired (c : Wiring) (S : TaggerIdx) (cls : TaggerClass) (T : TaggerIdx) : Bool :=
  decide (T < c.n) && decide ((c.tagger T).cls = cls) && idsView (c.tagger T) && (reach c S).all (fun σ => aGet σ T)

/-- the in-state identifiers of the pending events of tagger `T` in the middle of the last leg (`s.mid`: the activator's running
lists after `get_event_handlers_to_run`; `s.ids`: the identifiers each handler was handed out with) -/
def pendingIds (s : Sys) (T : TaggerIdx) : List IdTuple := (getT s.mid T).running.map s.ids

/-- **pending = yielded, for a cell tagger, at every leg but the first** (C09's `Fresh` read for an always-activated tagger
whose events are compared by identifier tuples): the in-states of the pending events of `T` are, as a multiset, what the tagger
yields from scratch on the concrete state of that leg -/
theorem pending_eq_yield (H : Hyp env c S) {os : List (Oracle XTime)} {cs : List (Committed XTime)} {s : Sys}
    (hr : Reach env geo c S needs os cs s) (nt : TieFree c cs) (h2 : 2 ≤ cs.length) {cls : TaggerClass} {T : TaggerIdx}
    (hT : cellWired c S cls T = true) : (pendingIds s T).Perm (yieldCls env cls ⟨s.usPrev, s.occ⟩) := by
  unfold cellWired at hT
  simp only [Bool.and_eq_true, decide_eq_true_eq, List.all_eq_true] at hT
  obtain ⟨⟨⟨hTn, hcls⟩, hview⟩, hact⟩ := hT
  obtain ⟨hc, hfresh, hrun⟩ := c09_fresh_closed H hr nt h2
  have hk : (c.tagger T).kind ≠ .startOfRun := by
    intro hk; unfold idsView at hview; rw [hk] at hview; cases hview
  have fr := hfresh T ⟨hTn, hk⟩
  have inv := runInv H hrun
  have ha : (getT s.mid T).activated = true := by
    have := hact _ inv.reach
    rwa [aGet_absOf] at this
  unfold Fresh at fr
  have hv : (world env c).view T = id := by
    funext x
    show viewOf (c.tagger T) x = x
    unfold viewOf; rw [hview]; rfl
  have hy : (world env c).yieldOf T ⟨⟨s.usPrev, s.occ⟩, hc⟩ = yieldCls env cls ⟨s.usPrev, s.occ⟩ := by
    show yieldCls env (c.tagger T).cls _ = _
    rw [hcls]
  simp only [hv, yieldEff, ha, if_true, hy, List.map_id, id_eq] at fr
  exact fr

/-- **every partner has exactly one pending pair coverage (cell-bounding variant), at every leg of every run.**  In the middle of
the last leg the targets of the in-states of the PENDING events of a cell-bounding tagger, an excluded-cells tagger and a surplus
tagger are together the relevant point masses other than the active one, each exactly once. -/
theorem pending_partition_closed (H : Hyp env c S) (hG : CellOfInGrid env) {os : List (Oracle XTime)}
    {cs : List (Committed XTime)} {s : Sys} (hr : Reach env geo c S needs os cs s) (nta : TieFreeAll c cs)
    (hO : hasOccOf c = true) {a : Nat} (ha : s.occ.activeId = some a) {Tb Te Ts : TaggerIdx}
    (hb : cellWired c S .cellBounding Tb = true) (he : cellWired c S .excludedCells Te = true)
    (hs : cellWired c S .surplusCells Ts = true) :
    (targetsOf (pendingIds s Tb) ++ targetsOf (pendingIds s Te) ++ targetsOf (pendingIds s Ts)).Perm (partners env s a) := by
  have nt := tieFree_of_all nta
  have h2 := two_le_of_active hr ha
  have p := (yields_partition_closed H hG hr nta hO ha).1
  exact (((targetsOf_perm (pending_eq_yield H hr nt h2 hb)).append (targetsOf_perm (pending_eq_yield H hr nt h2 he))).append
    (targetsOf_perm (pending_eq_yield H hr nt h2 hs))).trans p

/-- **… (cell-veto variant).**  Exactly one cell-veto event is pending, its in-state is the active unit alone; the occupants of the
cells its walker can sample (translated to the active cell), the targets of the pending excluded-cells events and the targets of the
pending surplus events are together the partners, each exactly once. -/
theorem pending_veto_partition_closed (H : Hyp env c S) (hG : CellOfInGrid env) {os : List (Oracle XTime)}
    {cs : List (Committed XTime)} {s : Sys} (hr : Reach env geo c S needs os cs s) (nta : TieFreeAll c cs)
    (hO : hasOccOf c = true) {a : Nat} (ha : s.occ.activeId = some a) {Tv Te Ts : TaggerIdx}
    (hv : cellWired c S .cellVeto Tv = true) (he : cellWired c S .excludedCells Te = true)
    (hs : cellWired c S .surplusCells Ts = true) :
    pendingIds s Tv = [some [wrap a]] ∧
    (targetsVeto env.grid (tocc env s.occ) ++ targetsOf (pendingIds s Te) ++ targetsOf (pendingIds s Ts)).Perm
      (partners env s a) := by
  have nt := tieFree_of_all nta
  have h2 := two_le_of_active hr ha
  obtain ⟨_, p2, p3⟩ := yields_partition_closed H hG hr nta hO ha
  constructor
  · have := pending_eq_yield H hr nt h2 hv
    rw [p2] at this
    exact List.perm_singleton.mp this
  · exact (((List.Perm.refl _).append (targetsOf_perm (pending_eq_yield H hr nt h2 he))).append
      (targetsOf_perm (pending_eq_yield H hr nt h2 hs))).trans p3

/-- the count form: every other relevant point mass is the target of exactly one pending event of the three taggers in total, the
active unit of none -/
theorem pending_exactly_one_closed (H : Hyp env c S) (hG : CellOfInGrid env) {os : List (Oracle XTime)}
    {cs : List (Committed XTime)} {s : Sys} (hr : Reach env geo c S needs os cs s) (nta : TieFreeAll c cs)
    (hO : hasOccOf c = true) {a : Nat} (ha : s.occ.activeId = some a) {Tb Te Ts : TaggerIdx}
    (hb : cellWired c S .cellBounding Tb = true) (he : cellWired c S .excludedCells Te = true)
    (hs : cellWired c S .surplusCells Ts = true) :
    (∀ u, u < s.usPrev.length → env.relevant u = true → u ≠ a →
      (targetsOf (pendingIds s Tb)).count (wrap u) + (targetsOf (pendingIds s Te)).count (wrap u) +
        (targetsOf (pendingIds s Ts)).count (wrap u) = 1) ∧
    (targetsOf (pendingIds s Tb)).count (wrap a) + (targetsOf (pendingIds s Te)).count (wrap a) +
        (targetsOf (pendingIds s Ts)).count (wrap a) = 0 := by
  have p := pending_partition_closed H hG hr nta hO ha hb he hs
  have hnd : (partners env s a).Nodup := ((relUnits_nodup env _).erase a).map wrap_injective
  constructor
  · intro u hul hu hua
    have hm : wrap u ∈ partners env s a := List.mem_map_of_mem
      ((List.mem_erase_of_ne hua).mpr ((mem_relUnits env s.usPrev u).mpr (by simp [relW, hul, hu])))
    exact (C10.count_of_perm_nodup p hnd _).trans (if_pos hm)
  · refine (C10.count_of_perm_nodup p hnd _).trans (if_neg fun hmem => ?_)
    obtain ⟨x, hx, hxa⟩ := List.mem_map.mp hmem
    rw [wrap_injective hxa] at hx
    exact ((List.Nodup.mem_erase_iff (relUnits_nodup env _)).mp hx).1 rfl

/-- **at every leg `k ≥ 1` of every run**: there is the state `s1` after the leg such that (1) a handler has a pending candidate in
the scheduler's ghost dictionary in the middle of the leg (`pendPushed`: after the pushes of the leg, before its trash; a candidate
`inf` counts as pending although `heap.c` never stores it) iff it is a running handler of some tagger in `s1.mid`; (2) if the
occupancy records an active unit `a`, the pending events of any cell-bounding / excluded-cells / surplus taggers cover the partners
exactly once, and with a cell-veto tagger instead of the cell-bounding one: one pending cell-veto event `((a,),)` whose walker domain,
with the other two families, covers the partners exactly once. -/
theorem pending_partition_every_leg (H : Hyp env c S) (hG : CellOfInGrid env) {os : List (Oracle XTime)}
    {cs : List (Committed XTime)} {s : Sys} (hr : Reach env geo c S needs os cs s) (nta : TieFreeAll c cs)
    (hO : hasOccOf c = true) {k : Nat} {cm : Committed XTime} (hk : cs[k + 1]? = some cm) :
    ∃ s1 : Sys,
      (∀ x, (pendPushed (pendOf (fun _ => none) (cs.take (k + 1))) cm x).isSome ↔ ∃ T, x ∈ (getT s1.mid T).running) ∧
      ∀ a, s1.occ.activeId = some a →
        (∀ Tb Te Ts, cellWired c S .cellBounding Tb = true → cellWired c S .excludedCells Te = true →
          cellWired c S .surplusCells Ts = true →
          (targetsOf (pendingIds s1 Tb) ++ targetsOf (pendingIds s1 Te) ++ targetsOf (pendingIds s1 Ts)).Perm
            (partners env s1 a)) ∧
        (∀ Tv Te Ts, cellWired c S .cellVeto Tv = true → cellWired c S .excludedCells Te = true →
          cellWired c S .surplusCells Ts = true →
          pendingIds s1 Tv = [some [wrap a]] ∧
          (targetsVeto env.grid (tocc env s1.occ) ++ targetsOf (pendingIds s1 Te) ++ targetsOf (pendingIds s1 Ts)).Perm
            (partners env s1 a)) := by
  obtain ⟨s0, s1, o, _, hst, hr0, hr1⟩ := reach_prefix hr hk
  have nta1 : TieFreeAll c (cs.take (k + 1 + 1)) := tieFreeAll_take nta _
  refine ⟨s1, ?_, fun a ha => ⟨fun Tb Te Ts hb he hs => pending_partition_closed H hG hr1 nta1 hO ha hb he hs,
    fun Tv Te Ts hv he hs => pending_veto_partition_closed H hG hr1 nta1 hO ha hv he hs⟩⟩
  have hklt : k + 1 < cs.length := (List.getElem?_eq_some_iff.mp hk).1
  rcases joint_inv H hr0 (tieFree_take (tieFree_of_all nta) _) with ⟨he, _⟩ | ⟨cs0, cl, E, tl, a, pos, v, ts, he, big⟩
  · have h0 : (cs.take (k + 1)).length = 0 := by rw [he]; rfl
    rw [List.length_take, Nat.min_eq_left (Nat.le_of_lt hklt)] at h0; omega
  · obtain ⟨_, f⟩ := Med.leg_facts (specLaws xcfg_strictWeak) (hyp_static H) big.med hst.leg
    rw [hst.mid']; exact f.mirr

/-! ### with the geometry spelled out: `GridBox` -/

/-- **the whole statement with no abstract geometry hypothesis**: environment with a `GridBox` of at least two cells per direction,
the positive-direction geometry `axisGeoPos` built from it.  At every leg of every run with a recorded active unit `a`: `a` is the
moving point mass and relevant; the active cell the taggers see is the cell of its position; cell-veto (resp. cell-bounding) targets,
excluded-cell targets and surplus targets partition the other relevant point masses; and so do the targets of the PENDING events of
any three always-activated taggers of these classes.  Remaining hypotheses: `Hyp` (decidable per wiring), `TieFreeAll`. -/
theorem c10_closed_of_gridBox (B : GridBox env) (hn2 : ∀ g ∈ B.grids, 2 ≤ g.n) (H : Hyp env c S)
    {os : List (Oracle XTime)} {cs : List (Committed XTime)} {s : Sys}
    (hr : Reach env (axisGeoPos (B.toAxisBox hn2)) c S needs os cs s) (nta : TieFreeAll c cs) (hO : hasOccOf c = true)
    {a : Nat} (ha : s.occ.activeId = some a) :
    let t := tocc env s.occ
    movers s.usPrev = [a] ∧ env.relevant a = true ∧
    t.active = some (cellIds B.grids (((s.usPrev[a]?).map (·.pos)).getD []), wrap a) ∧
    (targetsVeto env.grid t ++ targetsExcluded env.grid t ++ targetsSurplus t).Perm (partners env s a) ∧
    (targetsBounding env.grid t ++ targetsExcluded env.grid t ++ targetsSurplus t).Perm (partners env s a) ∧
    (∀ Tb Te Ts, cellWired c S .cellBounding Tb = true → cellWired c S .excludedCells Te = true →
      cellWired c S .surplusCells Ts = true →
      (targetsOf (pendingIds s Tb) ++ targetsOf (pendingIds s Te) ++ targetsOf (pendingIds s Ts)).Perm (partners env s a)) ∧
    (∀ Tv Te Ts, cellWired c S .cellVeto Tv = true → cellWired c S .excludedCells Te = true →
      cellWired c S .surplusCells Ts = true →
      pendingIds s Tv = [some [wrap a]] ∧
      (targetsVeto env.grid t ++ targetsOf (pendingIds s Te) ++ targetsOf (pendingIds s Ts)).Perm (partners env s a)) := by
  intro t
  have hG := B.inGrid
  have tot := cell_partition_total_closed H hG hr nta hO
  simp only [ha] at tot
  obtain ⟨hm, hrel, hact, hv, hb⟩ := tot
  refine ⟨hm, hrel, ?_, hv, hb, fun Tb Te Ts h1 h2 h3 => pending_partition_closed H hG hr nta hO ha h1 h2 h3,
    fun Tv Te Ts h1 h2 h3 => pending_veto_partition_closed H hG hr nta hO ha h1 h2 h3⟩
  -- the recorded cell is the cell with `position_to_cell`'s identifiers of the active unit's position
  have nt := tieFree_of_all nta
  obtain ⟨_, _, hal⟩ := active_is_mover H hr nt hO ha
  have hr' : relW env s.usPrev a = true := by simp [relW, hal, hrel]
  rw [hact, cellW, if_pos hr', List.getElem?_eq_getElem hal]
  exact congrArg (fun x => some (x, wrap a)) (B.cellAt_cellOf ((box_closed H hr nt).1 _ (List.getElem_mem hal)))

end

/-! ## the shipped coulomb_atoms wirings that have cells (side conditions by `decide`) -/

open JF.Act.Gen JF.Footprints

/-- `coulomb_atoms/cell_bounded.ini`: tagger 0 `coulomb_cell_bounding`, 1 `coulomb_nearby` (excluded cells), 3 `coulomb_surplus` -/
theorem cellWired_cell_bounded :
    cellWired cfg_coulomb_atoms_cell_bounded 7 .cellBounding 0 = true ∧
    cellWired cfg_coulomb_atoms_cell_bounded 7 .excludedCells 1 = true ∧
    cellWired cfg_coulomb_atoms_cell_bounded 7 .surplusCells 3 = true := by decide +kernel

/-- `coulomb_atoms/cell_veto.ini`: tagger 0 `coulomb_cell_veto`, 1 `coulomb_nearby` (excluded cells), 3 `coulomb_surplus` -/
theorem cellWired_cell_veto :
    cellWired cfg_coulomb_atoms_cell_veto 7 .cellVeto 0 = true ∧
    cellWired cfg_coulomb_atoms_cell_veto 7 .excludedCells 1 = true ∧
    cellWired cfg_coulomb_atoms_cell_veto 7 .surplusCells 3 = true := by decide +kernel

/-- the side condition is not trivially true: a tagger of another class, a count-only handler kind, or a tagger that some
reachable activation state deactivates fails it -/
example : cellWired cfg_coulomb_atoms_cell_bounded 7 .cellBounding 1 = false ∧
    cellWired cfg_coulomb_atoms_cell_bounded 7 .noInState 4 = false := by decide +kernel

/-- the two power-bounded wirings have no cells: nothing to state -/
example : hasOccOf cfg_coulomb_atoms_power_bounded = false ∧ hasOccOf cfg_coulomb_atoms_power_bounded_dump = false := by decide

section
variable {env : Env ℚ} {geo : Geo env} {needs : HandlerId → Bool}

/-- **C10 (cell half) for every leg of every run of `coulomb_atoms/cell_bounded.ini`** in the composed system (any geometry
instance, any number of point masses, any cell grid with `CellOfInGrid`): state form -/
theorem cell_partition_total_cell_bounded (ho : env.o = Ops.rat) (hG : CellOfInGrid env)
    {os : List (Oracle XTime)} {cs : List (Committed XTime)} {s : Sys}
    (hr : Reach env geo cfg_coulomb_atoms_cell_bounded 7 needs os cs s)
    (nta : TieFreeAll cfg_coulomb_atoms_cell_bounded cs) :
    let t := tocc env s.occ
    match s.occ.activeId with
    | none => cellVetoTagger t = [] ∧ cellBoundingTagger env.grid t = [] ∧ excludedCellsTagger env.grid t = [] ∧
        surplusCellsTagger t = [] ∧ vetoTargets env.grid t = []
    | some a =>
        movers s.usPrev = [a] ∧ env.relevant a = true ∧
        t.active = some (cellAt env.grid (cellW env s.usPrev a), wrap a) ∧
        (targetsVeto env.grid t ++ targetsExcluded env.grid t ++ targetsSurplus t).Perm
          (idents ((relUnits env s.usPrev.length).erase a)) ∧
        (targetsBounding env.grid t ++ targetsExcluded env.grid t ++ targetsSurplus t).Perm
          (idents ((relUnits env s.usPrev.length).erase a)) :=
  cell_partition_total_closed (hyp_cell_bounded env ho) hG hr nta rfl

theorem cell_partition_total_cell_veto (ho : env.o = Ops.rat) (hG : CellOfInGrid env)
    {os : List (Oracle XTime)} {cs : List (Committed XTime)} {s : Sys}
    (hr : Reach env geo cfg_coulomb_atoms_cell_veto 7 needs os cs s)
    (nta : TieFreeAll cfg_coulomb_atoms_cell_veto cs) :
    let t := tocc env s.occ
    match s.occ.activeId with
    | none => cellVetoTagger t = [] ∧ cellBoundingTagger env.grid t = [] ∧ excludedCellsTagger env.grid t = [] ∧
        surplusCellsTagger t = [] ∧ vetoTargets env.grid t = []
    | some a =>
        movers s.usPrev = [a] ∧ env.relevant a = true ∧
        t.active = some (cellAt env.grid (cellW env s.usPrev a), wrap a) ∧
        (targetsVeto env.grid t ++ targetsExcluded env.grid t ++ targetsSurplus t).Perm
          (idents ((relUnits env s.usPrev.length).erase a)) ∧
        (targetsBounding env.grid t ++ targetsExcluded env.grid t ++ targetsSurplus t).Perm
          (idents ((relUnits env s.usPrev.length).erase a)) :=
  cell_partition_total_closed (hyp_cell_veto env ho) hG hr nta rfl

/-- **`cell_bounded.ini`, every leg, what the three taggers returned**: while a unit `a` is recorded as active, the targets of
the in-states yielded by `coulomb_cell_bounding` (0), `coulomb_nearby` (1) and `coulomb_surplus` (3) are the partners, each once -/
theorem yields_partition_cell_bounded (ho : env.o = Ops.rat) (hG : CellOfInGrid env)
    {os : List (Oracle XTime)} {cs : List (Committed XTime)} {s : Sys}
    (hr : Reach env geo cfg_coulomb_atoms_cell_bounded 7 needs os cs s)
    (nta : TieFreeAll cfg_coulomb_atoms_cell_bounded cs) {k : Nat} {cm : Committed XTime} (hk : cs[k]? = some cm) :
    ∃ (o : Oracle XTime) (s1 : Sys), os[k]? = some o ∧
      (∀ T, o.yields T = yieldCls env (cfg_coulomb_atoms_cell_bounded.tagger T).cls ⟨s1.usPrev, s1.occ⟩) ∧
      ∀ a, s1.occ.activeId = some a →
        (targetsOf (o.yields 0) ++ targetsOf (o.yields 1) ++ targetsOf (o.yields 3)).Perm (partners env s1 a) := by
  obtain ⟨o, s1, ho', hy, h⟩ := yields_partition_every_leg (hyp_cell_bounded env ho) hG hr nta rfl hk
  refine ⟨o, s1, ho', hy, fun a ha => ?_⟩
  simp only [ha] at h
  exact h.2.2.1 0 1 3 rfl rfl rfl

/-- **`cell_veto.ini`, every leg**: `coulomb_cell_veto` (0) yields the one in-state `((a,),)`; the occupants of its walker domain
and the targets of the in-states yielded by `coulomb_nearby` (1) and `coulomb_surplus` (3) are the partners, each once -/
theorem yields_partition_cell_veto (ho : env.o = Ops.rat) (hG : CellOfInGrid env)
    {os : List (Oracle XTime)} {cs : List (Committed XTime)} {s : Sys}
    (hr : Reach env geo cfg_coulomb_atoms_cell_veto 7 needs os cs s)
    (nta : TieFreeAll cfg_coulomb_atoms_cell_veto cs) {k : Nat} {cm : Committed XTime} (hk : cs[k]? = some cm) :
    ∃ (o : Oracle XTime) (s1 : Sys), os[k]? = some o ∧
      (∀ T, o.yields T = yieldCls env (cfg_coulomb_atoms_cell_veto.tagger T).cls ⟨s1.usPrev, s1.occ⟩) ∧
      ∀ a, s1.occ.activeId = some a →
        o.yields 0 = [some [wrap a]] ∧
        (targetsVeto env.grid (tocc env s1.occ) ++ targetsOf (o.yields 1) ++ targetsOf (o.yields 3)).Perm
          (partners env s1 a) := by
  obtain ⟨o, s1, ho', hy, h⟩ := yields_partition_every_leg (hyp_cell_veto env ho) hG hr nta rfl hk
  refine ⟨o, s1, ho', hy, fun a ha => ?_⟩
  simp only [ha] at h
  exact h.2.2.2 0 1 3 rfl rfl rfl

/-- **`cell_bounded.ini`: every partner has exactly one pending pair event** (targets of the pending `coulomb_cell_bounding`,
`coulomb_nearby`, `coulomb_surplus` events = the partners, each once), in the middle of every leg with a recorded active unit -/
theorem pending_partition_cell_bounded (ho : env.o = Ops.rat) (hG : CellOfInGrid env)
    {os : List (Oracle XTime)} {cs : List (Committed XTime)} {s : Sys}
    (hr : Reach env geo cfg_coulomb_atoms_cell_bounded 7 needs os cs s)
    (nta : TieFreeAll cfg_coulomb_atoms_cell_bounded cs) {a : Nat} (ha : s.occ.activeId = some a) :
    (targetsOf (pendingIds s 0) ++ targetsOf (pendingIds s 1) ++ targetsOf (pendingIds s 3)).Perm (partners env s a) :=
  pending_partition_closed (hyp_cell_bounded env ho) hG hr nta rfl ha cellWired_cell_bounded.1 cellWired_cell_bounded.2.1
    cellWired_cell_bounded.2.2

/-- **`cell_veto.ini`: one pending cell-veto event `((a,),)`; every partner is covered exactly once** by its walker domain, the
pending `coulomb_nearby` events and the pending `coulomb_surplus` events -/
theorem pending_partition_cell_veto (ho : env.o = Ops.rat) (hG : CellOfInGrid env)
    {os : List (Oracle XTime)} {cs : List (Committed XTime)} {s : Sys}
    (hr : Reach env geo cfg_coulomb_atoms_cell_veto 7 needs os cs s)
    (nta : TieFreeAll cfg_coulomb_atoms_cell_veto cs) {a : Nat} (ha : s.occ.activeId = some a) :
    pendingIds s 0 = [some [wrap a]] ∧
    (targetsVeto env.grid (tocc env s.occ) ++ targetsOf (pendingIds s 1) ++ targetsOf (pendingIds s 3)).Perm
      (partners env s a) :=
  pending_veto_partition_closed (hyp_cell_veto env ho) hG hr nta rfl ha cellWired_cell_veto.1 cellWired_cell_veto.2.1
    cellWired_cell_veto.2.2

end

/-! ## non-vacuity: SystemInv's concrete 6-leg run of `coulomb_atoms/cell_bounded.ini`

`JF.SystemInv.Example`: box of length 1, seven cells, one layer of nearby cells, occupant cap 1, units 0, 1, 2 at 1/14, 3/14, 9/14
(cells 0, 1, 4), all relevant.  Legs: start of run — sampling — cell boundary (unit 0 enters cell 1) — `coulomb_nearby` (0, 1) accepted
(lifting 0 → 1) — sampling — `coulomb_surplus` (1, 0) accepted.  In the middle of leg 4 (`s4`) unit 0 is active in cell 1: unit 1 is an
occupant of the same (nearby) cell, unit 2 of the non-nearby cell 4.  In the middle of legs 5 and 6 (`s5`, `s6`) unit 1 is active in
cell 1: unit 0 is a surplus unit of cell 1, unit 2 an occupant of cell 4.  All three families occur along the run. -/

namespace Example
open JF.SystemInv.Example

/-- the geometry fields of SystemInv's example environment fit together: `GridBox` -/
def gbox : GridBox env where
  grids := [g7]
  hL := rfl
  hn := rfl
  hcellOf := by
    intro p hp
    have hl : p.length = 1 := ((inBox_iff _ _).mp hp).1
    obtain ⟨x, rfl⟩ := List.length_eq_one_iff.mp hl
    show (g7.idx x).toNat = flatIdx [7] [(g7.idx x).toNat]
    simp [flatIdx]

/-- `InGrid` holds for the example: derived from the `GridBox`, not assumed -/
theorem inGrid : CellOfInGrid env := gbox.inGrid

/-- … and the geometry of the run IS the positive-direction geometry of this `GridBox` -/
theorem hn2 : ∀ g ∈ gbox.grids, 2 ≤ g.n := by intro g hg; simp [gbox] at hg; subst hg; decide
example : gbox.toAxisBox hn2 = box := rfl
example : axisGeoPos (gbox.toAxisBox hn2) = geo := rfl

/-- the active unit recorded in the middle of leg 6 and of leg 4 -/
theorem active6 : s6.occ.activeId = some 1 := by decide +kernel
theorem active4 : s4.occ.activeId = some 0 := by decide +kernel

/-- every hypothesis of the theorems of this module holds for the run: `Hyp`, `CellOfInGrid`, `Reach`, `TieFreeAll`, an occupancy,
a recorded active unit, the side condition on the three cell taggers -/
example : Hyp env cfg 7 ∧ CellOfInGrid env ∧ Reach env geo cfg 7 needs os6 cs6 s6 ∧ TieFreeAll cfg cs6 ∧ hasOccOf cfg = true ∧
    s6.occ.activeId = some 1 ∧ s4.occ.activeId = some 0 ∧
    cellWired cfg 7 .cellBounding 0 = true ∧ cellWired cfg 7 .excludedCells 1 = true ∧ cellWired cfg 7 .surplusCells 3 = true :=
  ⟨hyp, inGrid, reach6, tieFreeAll6, rfl, active6, active4, cellWired_cell_bounded.1,
    cellWired_cell_bounded.2.1, cellWired_cell_bounded.2.2⟩

theorem tieFreeAll4 : TieFreeAll cfg cs4 := tieFreeAll_take tieFreeAll6 4

/-- on the run: C10's occupancy invariant and the partition in the middle of leg 6 and of leg 4 -/
example : C10.OccInv env.grid (tocc env s6.occ) (idents (relUnits env s6.usPrev.length))
    (cellAt env.grid (cellW env s6.usPrev 1)) (wrap 1) :=
  c10_occInv_closed hyp inGrid reach6 tieFreeAll6 rfl active6
example : (targetsBounding env.grid (tocc env s4.occ) ++ targetsExcluded env.grid (tocc env s4.occ) ++
    targetsSurplus (tocc env s4.occ)).Perm ((idents (relUnits env s4.usPrev.length)).erase (wrap 0)) :=
  C10.cell_partition_bounding _ _ _ _ _ (c10_occInv_closed hyp inGrid reach4 tieFreeAll4 rfl active4)
/-- what the statements speak about, evaluated: leg 4 — bounding target 2, excluded (nearby) target 1; leg 6 — bounding target 2,
surplus target 0; the partners are the two other units -/
example : targetsBounding env.grid (tocc env s4.occ) = [[2]] ∧ targetsExcluded env.grid (tocc env s4.occ) = [[1]] ∧
    targetsSurplus (tocc env s4.occ) = [] ∧ partners env s4 0 = [[1], [2]] ∧
    targetsBounding env.grid (tocc env s6.occ) = [[2]] ∧ targetsExcluded env.grid (tocc env s6.occ) = [] ∧
    targetsSurplus (tocc env s6.occ) = [[0]] ∧ partners env s6 1 = [[0], [2]] ∧
    targetsVeto env.grid (tocc env s6.occ) = [[2]] := by decide +kernel

/-- leg 6 (index 5): what the three taggers returned covers the partners of unit 1 exactly once -/
example : ∃ (o : Oracle XTime) (s1 : Sys), os6[5]? = some o ∧
    (∀ T, o.yields T = yieldCls env (cfg.tagger T).cls ⟨s1.usPrev, s1.occ⟩) ∧
    ∀ a, s1.occ.activeId = some a →
      (targetsOf (o.yields 0) ++ targetsOf (o.yields 1) ++ targetsOf (o.yields 3)).Perm (partners env s1 a) :=
  yields_partition_cell_bounded rfl inGrid reach6 tieFreeAll6 (k := 5) (cm := c6) (by simp [cs6])

/-- the pending events in the middle of leg 6 and of leg 4: every partner is covered by exactly one of them -/
example : (targetsOf (pendingIds s6 0) ++ targetsOf (pendingIds s6 1) ++ targetsOf (pendingIds s6 3)).Perm (partners env s6 1) :=
  pending_partition_cell_bounded rfl inGrid reach6 tieFreeAll6 active6
example : (targetsOf (pendingIds s4 0) ++ targetsOf (pendingIds s4 1) ++ targetsOf (pendingIds s4 3)).Perm (partners env s4 0) :=
  pending_partition_cell_bounded rfl inGrid reach4 tieFreeAll4 active4
example : pendingIds s6 0 = [some [[1], [2]]] ∧ pendingIds s6 1 = [] ∧ pendingIds s6 3 = [some [[1], [0]]] ∧
    pendingIds s4 0 = [some [[0], [2]]] ∧ pendingIds s4 1 = [some [[0], [1]]] ∧ pendingIds s4 3 = [] := by decide +kernel
example : (∀ u, u < s6.usPrev.length → env.relevant u = true → u ≠ 1 →
      (targetsOf (pendingIds s6 0)).count (wrap u) + (targetsOf (pendingIds s6 1)).count (wrap u) +
        (targetsOf (pendingIds s6 3)).count (wrap u) = 1) ∧
    (targetsOf (pendingIds s6 0)).count (wrap 1) + (targetsOf (pendingIds s6 1)).count (wrap 1) +
        (targetsOf (pendingIds s6 3)).count (wrap 1) = 0 :=
  pending_exactly_one_closed hyp inGrid reach6 tieFreeAll6 rfl active6 cellWired_cell_bounded.1
    cellWired_cell_bounded.2.1 cellWired_cell_bounded.2.2

/-- the headline statement applies to the run (no abstract geometry: `GridBox`, `axisGeoPos`) -/
example : movers s6.usPrev = [1] ∧ (tocc env s6.occ).active = some ([1], [1]) := by
  have h := c10_closed_of_gridBox gbox hn2 hyp (needs := needs) reach6 tieFreeAll6 rfl active6
  refine ⟨h.1, ?_⟩
  rw [h.2.2.1]
  decide +kernel

/-- **`CellOfInGrid` is needed** (as `InGrid` in C10C11): with the same run data but a cell system of TWO cells in `env.grid`
(`cellOf` still the seven-cell index), unit 2 sits in "cell 4" of a two-cell grid — the taggers never see it, the partition fails -/
example : ¬ CellOfInGrid { env with grid := ⟨[2], 0⟩ } := by
  intro h
  have := h [9/14] (by norm_num [InBox, env, C11.Grid.L, g7])
  revert this
  show ¬ ((g7.idx (9/14)).toNat < numCells ⟨[2], 0⟩)
  have : g7.idx (9/14) = 4 := by
    refine C11.Grid.idx_eq g7 (i := 4) (by decide) ?_ ?_ <;> norm_num [C11.Grid.cmin, g7]
  rw [this]; decide

end Example

end JF.C10Closed
