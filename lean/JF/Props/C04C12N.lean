import JF.Props.C04C12
/-!
# The theorems of `JF/Props/C04C12.lean` for composite objects with THREE leaf units (water, leaf weights 1/3)

Exact reading (`α = ℚ`).  **Scope (why the names end in `_partial`).**  `C04C12.sendRoot_pair`, `C04C12.momentum_pass`
and `C04C12.rootConsistent_pair` hold for every `C04C12.Pair`, with any number of leaf units; here they are written out
at `pair_tri`, two objects of THREE leaf units each: branches
`[active, target]` (`inSt3`) or `[target, active]` (`inSt3R`), identifiers `[a]`, `[a,j]` and `[b]`, `[b,j]` with
arbitrary `a ≠ b`, root weight `1`, leaf weights `1/3`; everything else is arbitrary.
-/
namespace JF.C04C12N
open JF JF.Thin JF.C04C12

/-- a three-leaf composite object as a branch: root `[i]` (weight 1), leaf units `[i,0]`, `[i,1]`, `[i,2]` (weights 1/3) -/
def tri (i : Nat) (rp p0 p1 p2 : List ℚ) (q0 q1 q2 : ℚ) (vel : Option (List ℚ)) (tr t0 t1 t2 : Option (Time ℚ)) :
    CNode ℚ :=
  ⟨⟨[i], rp, 0, vel, tr⟩, 1,
    [(⟨[i, 0], p0, q0, vel, t0⟩, 1/3), (⟨[i, 1], p1, q1, vel, t1⟩, 1/3), (⟨[i, 2], p2, q2, vel, t2⟩, 1/3)]⟩

/-- the in-state: object `a` moves as a whole with `v` (time stamps `sr`, `s0`, `s1`, `s2`), object `b` is at rest -/
def inSt3 (a b : Nat) (v ra a0 a1 a2 rb b0 b1 b2 : List ℚ) (qa0 qa1 qa2 qb0 qb1 qb2 : ℚ) (sr s0 s1 s2 : Time ℚ) :
    List (CNode ℚ) :=
  [tri a ra a0 a1 a2 qa0 qa1 qa2 (some v) (some sr) (some s0) (some s1) (some s2),
   tri b rb b0 b1 b2 qb0 qb1 qb2 none none none none none]

/-- the in-state for the other branch order, `[target, active]` -/
def inSt3R (a b : Nat) (v ra a0 a1 a2 rb b0 b1 b2 : List ℚ) (qa0 qa1 qa2 qb0 qb1 qb2 : ℚ) (sr s0 s1 s2 : Time ℚ) :
    List (CNode ℚ) :=
  [tri b rb b0 b1 b2 qb0 qb1 qb2 none none none none none,
   tri a ra a0 a1 a2 qa0 qa1 qa2 (some v) (some sr) (some s0) (some s1) (some s2)]

theorem inSt3_wellformed (a b : Nat) (v ra a0 a1 a2 rb b0 b1 b2 : List ℚ) (qa0 qa1 qa2 qb0 qb1 qb2 : ℚ)
    (sr s0 s1 s2 : Time ℚ) :
    WeightsOK (inSt3 a b v ra a0 a1 a2 rb b0 b1 b2 qa0 qa1 qa2 qb0 qb1 qb2 sr s0 s1 s2)
      ∧ MovesWith v (tri a ra a0 a1 a2 qa0 qa1 qa2 (some v) (some sr) (some s0) (some s1) (some s2))
      ∧ AtRest (tri b rb b0 b1 b2 qb0 qb1 qb2 none none none none none) := by
  have hsum : (1 / 3 + (1 / 3 + (1 / 3 + 0)) : ℚ) = 1 := by norm_num
  have hmem : ∀ {x y z w : LUnit ℚ × ℚ}, w ∈ [x, y, z] → w = x ∨ w = y ∨ w = z := fun h => by simpa using h
  refine ⟨fun r hr => ?_, ⟨rfl, fun cw hcw => ?_⟩, ⟨rfl, fun cw hcw => ?_⟩⟩
  · rcases List.mem_pair.mp hr with rfl | rfl <;> exact ⟨rfl, hsum⟩
  · rcases hmem hcw with rfl | rfl | rfl <;> rfl
  · rcases hmem hcw with rfl | rfl | rfl <;> rfl

theorem pair_tri {a b : Nat} (hab : a ≠ b) {v ra a0 a1 a2 rb b0 b1 b2 : List ℚ} {qa0 qa1 qa2 qb0 qb1 qb2 : ℚ}
    {sr s0 s1 s2 : Time ℚ} :
    Pair v a b 3 (tri a ra a0 a1 a2 qa0 qa1 qa2 (some v) (some sr) (some s0) (some s1) (some s2))
      (tri b rb b0 b1 b2 qb0 qb1 qb2 none none none none none) :=
  have ⟨hw, hm, hr⟩ := inSt3_wellformed a b v ra a0 a1 a2 rb b0 b1 b2 qa0 qa1 qa2 qb0 qb1 qb2 sr s0 s1 s2
  ⟨hab, by decide, ⟨rfl, rfl⟩, ⟨rfl, rfl⟩, hw _ (.head _), hw _ (.tail _ (.head _)), hm, hr⟩

theorem stopped_tri (c : Consts ℚ) (hL : 0 < c.L) (et s : Time ℚ) (i : Nat) (rp p0 p1 p2 v : List ℚ) (q0 q1 q2 : ℚ)
    (t0 t1 t2 : Option (Time ℚ)) :
    stopped c et v (tri i (sl c et s rp v) p0 p1 p2 q0 q1 q2 (some v) (some et) t0 t1 t2)
      = tri i (sl c et s rp v) p0 p1 p2 q0 q1 q2 none none none none none := by
  simp [stopped, tri, sl_sl c hL]

/-- **shape of the confirmed out-state, two three-leaf objects, branch order `[target, active]`** (`sendRoot_pair` and
`momentum_pass` written out): every unit of the formerly active object at rest at its time-sliced position, every unit
of the target object moving with `v` and stamped with the event time at its old position; the weighted velocity sums
over both objects (leaf level and root level) are conserved. -/
theorem passComposite_shape3_rev_partial (c : Consts ℚ) (ht : 0 < c.tiny) (hL : 0 < c.L) (kind : Nat) (uc : Bool)
    (et sr s0 s1 s2 : Time ℚ) (a b : Nat) (hab : a ≠ b) (v ra a0 a1 a2 rb b0 b1 b2 : List ℚ)
    (qa0 qa1 qa2 qb0 qb1 qb2 : ℚ) (ist : List (CNode ℚ)) (bds qs : List ℚ) (dr : Draw ℚ) {st' w cs ins u}
    (h : sendRoot Ops.rat c kind uc et ist (inSt3R a b v ra a0 a1 a2 rb b0 b1 b2 qa0 qa1 qa2 qb0 qb1 qb2 sr s0 s1 s2)
          bds qs dr = .out st' true w cs ins u) :
    st' = [tri b rb b0 b1 b2 qb0 qb1 qb2 (some v) (some et) (some et) (some et) (some et),
           tri a (sl c et sr ra v) (sl c et s0 a0 v) (sl c et s1 a1 v) (sl c et s2 a2 v) qa0 qa1 qa2
             none none none none none]
      ∧ velocities st' = [some v, some v, some v, some v, none, none, none, none]
      ∧ (∀ k, leafMomentum st' k
            = leafMomentum (inSt3R a b v ra a0 a1 a2 rb b0 b1 b2 qa0 qa1 qa2 qb0 qb1 qb2 sr s0 s1 s2) k)
      ∧ (∀ k, rootMomentum st' k
            = rootMomentum (inSt3R a b v ra a0 a1 a2 rb b0 b1 b2 qa0 qa1 qa2 qb0 qb1 qb2 sr s0 s1 s2) k) := by
  have hp := @pair_tri a b hab v ra a0 a1 a2 rb b0 b1 b2 qa0 qa1 qa2 qb0 qb1 qb2 sr s0 s1 s2
  have h2 := (sendRoot_pair c ht kind uc et ist bds qs dr hp).2 h
  have hm' := fun k => momentum_pass c et (hp.slice c et).1 k
  rw [← h2] at hm'
  rw [show sliceNode c et (tri a ra a0 a1 a2 qa0 qa1 qa2 (some v) (some sr) (some s0) (some s1) (some s2))
      = tri a (sl c et sr ra v) (sl c et s0 a0 v) (sl c et s1 a1 v) (sl c et s2 a2 v) qa0 qa1 qa2 (some v) (some et)
          (some et) (some et) (some et) from rfl, stopped_tri c hL] at h2
  exact ⟨h2, by rw [h2]; rfl, fun k => (hm' k).2.2.1, fun k => (hm' k).2.2.2⟩

/-- **`RootConsistent` after a confirmed root-mode event on two three-leaf objects**: if the in-state (read as two
composite objects of `JF.Composite`) satisfies C12's invariant `Good`, every object of the confirmed out-state satisfies
`C12.RootConsistent`. -/
theorem rootConsistent_after_confirmed3_partial (c : Consts ℚ) (ht : 0 < c.tiny) (hL : 0 < c.L) (kind : Nat)
    (uc : Bool) (et sr s0 s1 s2 : Time ℚ) (a b : Nat) (hab : a ≠ b) (d : Nat) (v ra a0 a1 a2 rb b0 b1 b2 : List ℚ)
    (hv : v.length = d) (hra : ra.length = d) (ha0 : a0.length = d) (ha1 : a1.length = d) (ha2 : a2.length = d)
    (qa0 qa1 qa2 qb0 qb1 qb2 : ℚ)
    (hG : Composite.AllGood d (List.replicate d c.L)
      ((inSt3 a b v ra a0 a1 a2 rb b0 b1 b2 qa0 qa1 qa2 qb0 qb1 qb2 sr s0 s1 s2).map toObj))
    (ist : List (CNode ℚ)) (bds qs : List ℚ) (dr : Draw ℚ) {st' w cs ins u}
    (h : sendRoot Ops.rat c kind uc et ist (inSt3 a b v ra a0 a1 a2 rb b0 b1 b2 qa0 qa1 qa2 qb0 qb1 qb2 sr s0 s1 s2)
          bds qs dr = .out st' true w cs ins u) :
    ∀ o ∈ st'.map toObj, C12.RootConsistent (List.replicate d c.L) o := by
  have hsc : ∀ cw ∈ (tri a ra a0 a1 a2 qa0 qa1 qa2 (some v) (some sr) (some s0) (some s1) (some s2)).children,
      Sliceable d cw.1 := fun cw hcw => by
    simp only [tri, List.mem_cons, List.not_mem_nil, or_false] at hcw
    rcases hcw with rfl | rfl | rfl
    · exact .inr ⟨v, s0, rfl, rfl, hv, ha0⟩
    · exact .inr ⟨v, s1, rfl, rfl, hv, ha1⟩
    · exact .inr ⟨v, s2, rfl, rfl, hv, ha2⟩
  exact (rootConsistent_pair c ht hL kind uc et ist bds qs dr
    (pair_tri hab) ⟨.inr ⟨v, sr, rfl, rfl, hv, hra⟩, hsc⟩).1 hG h

/-! ### non-vacuity: two three-leaf objects (object 0 moving with `[1,0,0]`, object 3 at rest), constants of `C04.exC` -/

/-- the hypothesis `h` of `rootConsistent_after_confirmed3_partial` is met (kind 8: no thinning, always confirmed) … -/
example : C04.confirmed? (sendRoot Ops.rat C04.exC 8 false ⟨5, 1/2⟩ []
    (inSt3 0 3 [1, 0, 0] [15/100, 2/10, 3/10] [1/10, 2/10, 3/10] [2/10, 2/10, 3/10] [15/100, 25/100, 3/10]
        [6/10, 7/10, 3/10] [6/10, 7/10, 3/10] [7/10, 7/10, 3/10] [65/100, 75/100, 3/10]
        1 (-1) 0 1 (-1) 0 ⟨5, 1/4⟩ ⟨5, 1/4⟩ ⟨5, 1/4⟩ ⟨5, 1/4⟩) [] [] (.value 0)) = some true := by decide +kernel

/-- … and of `passComposite_shape3_rev_partial` -/
example : C04.confirmed? (sendRoot Ops.rat C04.exC 8 false ⟨5, 1/2⟩ []
    (inSt3R 3 0 [1, 0, 0] [6/10, 7/10, 3/10] [6/10, 7/10, 3/10] [7/10, 7/10, 3/10] [65/100, 75/100, 3/10]
        [15/100, 2/10, 3/10] [1/10, 2/10, 3/10] [2/10, 2/10, 3/10] [15/100, 25/100, 3/10]
        1 (-1) 0 1 (-1) 0 ⟨5, 1/4⟩ ⟨5, 1/4⟩ ⟨5, 1/4⟩ ⟨5, 1/4⟩) [] [] (.value 0)) = some true := by decide +kernel

/-- the out-state evaluated by the kernel, independently of the proofs above: object 0 at rest at `x + 1/4`, object 3
moving with `[1,0,0]` stamped `5 + 1/2` -/
example : flat (outOf (sendRoot Ops.rat C04.exC 8 false ⟨5, 1/2⟩ []
    (inSt3 0 3 [1, 0, 0] [15/100, 2/10, 3/10] [1/10, 2/10, 3/10] [2/10, 2/10, 3/10] [15/100, 25/100, 3/10]
        [6/10, 7/10, 3/10] [6/10, 7/10, 3/10] [7/10, 7/10, 3/10] [65/100, 75/100, 3/10]
        1 (-1) 0 1 (-1) 0 ⟨5, 1/4⟩ ⟨5, 1/4⟩ ⟨5, 1/4⟩ ⟨5, 1/4⟩) [] [] (.value 0)))
    = flat [tri 0 [40/100, 2/10, 3/10] [35/100, 2/10, 3/10] [45/100, 2/10, 3/10] [40/100, 25/100, 3/10] 1 (-1) 0
              none none none none none,
            tri 3 [6/10, 7/10, 3/10] [6/10, 7/10, 3/10] [7/10, 7/10, 3/10] [65/100, 75/100, 3/10] 1 (-1) 0
              (some [1, 0, 0]) (some ⟨5, 1/2⟩) (some ⟨5, 1/2⟩) (some ⟨5, 1/2⟩) (some ⟨5, 1/2⟩)] := by decide +kernel

end JF.C04C12N
