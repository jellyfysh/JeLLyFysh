import JF.Lemmas.OutputFloatPol
import JF.Lemmas.OutputFloatAsm
import JF.Lemmas.RoundedBinary
/-!
# Output handlers, continued: the polarization handler, and what is written in floats

`JF/Props/Output.lean` has the exact reading of the separation, bond and oxygen-oxygen handlers; here are the polarization
handler and the rounding-abstract reading of the written separation.

## 1. `PolarizationOutputHandler.write` (exact reading, `ℚ`)
`/repo/jellyfysh/input_output_handler/output_handler/polarization_output_handler.py`; model `JF.Output.polarization`.
* `polarization_eq` / `polarization_neutral`: closed form `Σ_i q_i · r_i` (positions unwrapped relative to the composite
  object) `= Σ_i q_i · (nearest-image separation root → leaf)` for neutral molecules;
* `polarization_invariant`: moving every unit to a congruent position (translation of the whole configuration modulo the box,
  lattice shifts of single particles, of the root unit included) changes nothing;
* `polarization_perm_molecules`, `polarization_perm_leaves`; `polarization_linear` (linear in the charges);
* `polarization_dipole`, `dipole_nearest_image` (`q ·` nearest-image separation of the two charges WHEN the difference of
  the two unwrapped positions lies in the window `[-L/2, L/2)`), `dipole_not_nearest_image` (otherwise it fails: for an
  extended dipole the handler does not write `q ·` nearest-image separation);
* assertion outcomes: `polRoot_assertion`, `polRoot_typeError`, `polarization_error`.

## 2. rounding-abstract reading of `vectors.norm(separation_vector(a, b))` (every `FloatModel`; cubic box)
What the separation handler, the oxygen-oxygen handler and the bond handler (bond LENGTHS) print (`sepEntry_written`).
Every `+ − *` rounds with `fm.rnd` where the Python code performs it; C `fmod` is exact (hypothesis `CompOK.hm`: its result is
representable); CPython's compensated `sum` and libm's `pow(x, 0.5)` enter with their relative errors `δs`, `δp` as
PARAMETERS (hypotheses `NormOK.sum`, `NormOK.pow`), as `C05Float` does for `sum`.
* `written_err_partial`: `lo · (D − η) ≤ written ≤ up · (D + η)` and `written ≤ up · √d · L/2`, with `D` the exact
  nearest-image distance, `η = √d · 9/2 · eps · L` (an ABSOLUTE error: no relative-error bound holds for separations
  small against the box, see `compSep_err`), `up/lo = (1 ± δp)(1 ± δs)(1 ± eps)`.
  `_partial`: `δs` is a parameter, not a proved multiple of `eps`; cubic box only; positions inside the closed box.
* `written_symm_partial`: the two argument orders differ by at most `(up − lo) · D + (up + lo) · η`.
* `float_symmetry_fails`: in binary64 the two orders do differ (kernel evaluation on the squared norms).
* `normOK_example`: the hypotheses are met in binary64 (`L = 4`, `a = 1`, `b = 2`).
Not covered: invariance of the rounded value under translation; the cuboid box.
-/
namespace JF.OutputFloat
open JF JF.Periodic JF.C15 JF.Output


section polarization
variable {st : Setting ℚ} {Ls : List ℚ}

/-- **closed form of the written vector**: `Σ_i q_i · r_i` over all point masses, `r_i` the position of the leaf closest to
its root unit (`yield_closest_leaf_unit_positions`); never an exception for well-formed neutral molecules -/
theorem polarization_eq (hb : BoxOK st.box Ls) (state : List (Root ℚ)) (h : ∀ r ∈ state, RootOK Ls r) :
    polarization Ops.rat st state = .ok (polSpec Ls state) := by
  unfold polarization
  rw [hb.dim, replicate_zero, foldRoots hb state _ h]
  simp only [zero_add, polSpec]

/-- … and, the molecules being neutral, the root positions drop out: `Σ_i q_i · (nearest-image separation root → leaf)` -/
theorem polarization_neutral (hb : BoxOK st.box Ls) (state : List (Root ℚ)) (h : ∀ r ∈ state, RootOK Ls r) :
    polarization Ops.rat st state = .ok (polSpecRel Ls state) := by
  rw [polarization_eq hb state h, polSpec_eq_rel state h]

theorem rootOK_mapLeaf (r : Root ℚ) (ok : RootOK Ls r) (f : Leaf ℚ → Leaf ℚ) (t : List ℚ)
    (hq : ∀ l ∈ r.children, (f l).charge = l.charge)
    (hf : CongrMove Ls t f r.self ∧ ∀ l ∈ r.children, CongrMove Ls t f l) : RootOK Ls (r.mapLeaf f) := by
  obtain ⟨-, hl, -⟩ := hf.1
  refine ⟨hl.trans ok.pos, by simpa [Root.mapLeaf] using ok.ne, fun l hl => ?_, ?_⟩
  · obtain ⟨l0, hl0, rfl⟩ := List.mem_map.mp hl
    obtain ⟨-, hlen, -⟩ := hf.2 l0 hl0
    rw [hlen, hq l0 hl0]
    exact ok.leaf l0 hl0
  · show ((r.children.map f).map chargeOf).sum = 0
    rw [List.map_map, ← ok.neutral]
    exact congrArg List.sum (List.map_congr_left fun l hl => by simp [chargeOf, hq l hl])

/-- **invariance**: moving every unit (root units and leaves) to a position congruent modulo the box to its position
translated by one common vector `t` — translation of the whole configuration by any vector with every coordinate wrapped
back into the box (`Output.congrMove_translate`), lattice shifts of single particles (`t = 0`,
`Output.congrMove_latticeShift`), any mixture — does not change the written polarization (charges kept) -/
theorem polarization_invariant (hb : BoxOK st.box Ls) (state : List (Root ℚ)) (h : ∀ r ∈ state, RootOK Ls r)
    (f : Leaf ℚ → Leaf ℚ) (t : List ℚ) (ht : t.length = Ls.length)
    (hq : ∀ r ∈ state, ∀ l ∈ r.children, (f l).charge = l.charge)
    (hf : ∀ r ∈ state, CongrMove Ls t f r.self ∧ ∀ l ∈ r.children, CongrMove Ls t f l) :
    polarization Ops.rat st (state.map (Root.mapLeaf f)) = polarization Ops.rat st state := by
  have h' : ∀ r ∈ state.map (Root.mapLeaf f), RootOK Ls r :=
    List.forall_mem_map.mpr fun r hr => rootOK_mapLeaf r (h r hr) f t (hq r hr) (hf r hr)
  rw [polarization_neutral hb _ h', polarization_neutral hb _ h]
  congr 1
  unfold polSpecRel
  refine List.map_congr_left fun j _ => ?_
  rw [List.map_map]
  refine congrArg List.sum (List.map_congr_left fun r hr => ?_)
  show (((r.children.map f).map fun l => relTerm Ls (r.mapLeaf f) l j).sum) = _
  rw [List.map_map]
  refine congrArg List.sum (List.map_congr_left fun l hl => ?_)
  -- same charge, same separation vector root → leaf
  have m := sepSpec_move hb.pos ht (x := r.self) (y := l) (h r hr).pos ((h r hr).leaf l hl).1 (hf r hr).1 ((hf r hr).2 l hl)
  simp only [Function.comp, relTerm, chargeOf, hq r hr l hl]
  show _ * (sepSpec Ls (f r.self).pos (f l).pos).getD j 0 = _ * (sepSpec Ls r.self.pos l.pos).getD j 0
  rw [m]

/-- **permuting the molecules** does not change the written vector -/
theorem polarization_perm_molecules (hb : BoxOK st.box Ls) (state state' : List (Root ℚ)) (h : ∀ r ∈ state, RootOK Ls r)
    (hp : state'.Perm state) : polarization Ops.rat st state' = polarization Ops.rat st state := by
  rw [polarization_eq hb state h, polarization_eq hb state' (fun r hr => h r (hp.mem_iff.mp hr))]
  congr 1
  unfold polSpec
  apply List.map_congr_left
  intro j _
  exact (hp.map _).sum_eq

/-- **permuting the leaves inside molecules** (same root unit, children in any order) does not change the written vector -/
theorem polarization_perm_leaves (hb : BoxOK st.box Ls) (state state' : List (Root ℚ)) (h : ∀ r ∈ state, RootOK Ls r)
    (hp : List.Forall₂ (fun r' r => r'.pos = r.pos ∧ r'.children.Perm r.children) state' state) :
    polarization Ops.rat st state' = polarization Ops.rat st state := by
  have key : (∀ r ∈ state', RootOK Ls r) ∧ polSpec Ls state' = polSpec Ls state := by
    unfold polSpec
    induction hp with
    | nil => exact ⟨by simp, rfl⟩
    | @cons r' r s' s hr _ ih =>
      obtain ⟨ih1, ih2⟩ := ih fun x hx => h x (List.mem_cons_of_mem _ hx)
      have ok := h r List.mem_cons_self
      have ok' : RootOK Ls r' :=
        ⟨hr.1 ▸ ok.pos, fun hn => ok.ne (List.Perm.nil_eq (hn ▸ hr.2)).symm, fun l hl => ok.leaf l (hr.2.mem_iff.mp hl),
          (hr.2.map _).sum_eq.trans ok.neutral⟩
      refine ⟨List.forall_mem_cons.mpr ⟨ok', ih1⟩, List.map_congr_left fun j hj => ?_⟩
      -- the terms of a molecule depend on the root unit only through its position
      have e : ∀ l, leafTerm Ls r' l j = leafTerm Ls r l j := fun l => by unfold leafTerm closest; rw [hr.1]
      simp only [List.map_cons, List.sum_cons, List.map_eq_map_iff.mp ih2 j hj, e, (hr.2.map _).sum_eq]
  rw [polarization_eq hb state h, polarization_eq hb state' key.1, key.2]

/-- the same molecules with the charge of leaf `k` of molecule `i` (identifiers) set to `g i k` -/
def reCharge (g : Int → Int → ℚ) (state : List (Root ℚ)) : List (Root ℚ) :=
  state.map fun r => { r with children := r.children.map fun l => { l with charge := some (g r.ident l.ident) } }

/-- positions of `dimension` entries, at least one child per molecule -/
def ShapeOK (Ls : List ℚ) (state : List (Root ℚ)) : Prop :=
  ∀ r ∈ state, r.pos.length = Ls.length ∧ r.children ≠ [] ∧ ∀ l ∈ r.children, l.pos.length = Ls.length

/-- the charge assignment makes every molecule neutral -/
def Neutral (g : Int → Int → ℚ) (state : List (Root ℚ)) : Prop :=
  ∀ r ∈ state, (r.children.map fun l => g r.ident l.ident).sum = 0

theorem rootOK_reCharge {g : Int → Int → ℚ} {state : List (Root ℚ)} (hs : ShapeOK Ls state) (hn : Neutral g state) :
    ∀ r ∈ reCharge g state, RootOK Ls r := by
  intro r hr
  obtain ⟨r0, hr0, rfl⟩ := List.mem_map.mp hr
  obtain ⟨h1, h2, h3⟩ := hs r0 hr0
  refine ⟨h1, by simpa using h2, ?_, ?_⟩
  · intro l hl
    obtain ⟨l0, hl0, rfl⟩ := List.mem_map.mp hl
    exact ⟨h3 l0 hl0, _, rfl⟩
  · simp only [List.map_map]
    rw [← hn r0 hr0]
    congr 1

theorem polSpec_reCharge (g : Int → Int → ℚ) (state : List (Root ℚ)) :
    polSpec Ls (reCharge g state) = (List.range Ls.length).map fun j =>
      (state.map fun r => (r.children.map fun l => g r.ident l.ident * (closest Ls r l).getD j 0).sum).sum := by
  unfold polSpec reCharge
  simp only [List.map_map, Function.comp_def, leafTerm, chargeOf, closest, Option.getD_some]

/-- **linear in the charges**: for two neutral charge assignments `g`, `h` of the same molecules and numbers `a`, `b`, the
vector written for the charges `a·g + b·h` is `a ·` (the vector written for `g`) `+ b ·` (the vector written for `h`) -/
theorem polarization_linear (hb : BoxOK st.box Ls) (state : List (Root ℚ)) (hs : ShapeOK Ls state)
    (g h : Int → Int → ℚ) (hg : Neutral g state) (hh : Neutral h state) (a b : ℚ) :
    ∃ P Q, polarization Ops.rat st (reCharge g state) = .ok P ∧ polarization Ops.rat st (reCharge h state) = .ok Q ∧
      polarization Ops.rat st (reCharge (fun i k => a * g i k + b * h i k) state) =
        .ok (List.zipWith (fun x y => a * x + b * y) P Q) := by
  have hc : Neutral (fun i k => a * g i k + b * h i k) state := by
    intro r hr
    rw [List.sum_map_add, List.sum_map_mul_left, List.sum_map_mul_left, hg r hr, hh r hr]; ring
  refine ⟨_, _, polarization_eq hb _ (rootOK_reCharge hs hg), polarization_eq hb _ (rootOK_reCharge hs hh), ?_⟩
  rw [polarization_eq hb _ (rootOK_reCharge hs hc)]
  congr 1
  -- sums are linear, twice: over the leaves of a molecule and over the molecules
  simp only [polSpec_reCharge, List.zipWith_map_left, List.zipWith_map_right, List.zipWith_self, add_mul, mul_assoc,
    List.sum_map_add, List.sum_map_mul_left]

theorem sepSpec_getD {a b : List ℚ} (ha : a.length = Ls.length) (hb' : b.length = Ls.length) (j : Nat) (hj : j < Ls.length) :
    (sepSpec Ls a b).getD j 0 = wrapSep Ops.rat (b.getD j 0 - a.getD j 0) (Ls.getD j 0) (Ls.getD j 0 / 2) := by
  simp only [List.getD_eq_getElem?_getD]
  rw [List.getElem?_eq_getElem (by rw [sepSpec_length ha hb']; exact hj), List.getElem?_eq_getElem (hb' ▸ hj),
    List.getElem?_eq_getElem (ha ▸ hj), List.getElem?_eq_getElem hj]
  exact sepSpec_getElem ha hb' j hj

/-- **a neutral dipole** (children with charges `q`, `-q`): the written vector is `q · (r₊ − r₋)`, the difference of the two
unwrapped positions (each the image closest to the root unit) -/
theorem polarization_dipole (hb : BoxOK st.box Ls) (r : Root ℚ) (lp lm : Leaf ℚ) (q : ℚ) (hc : r.children = [lp, lm])
    (hp : lp.charge = some q) (hm : lm.charge = some (-q)) (hr : r.pos.length = Ls.length)
    (hlp : lp.pos.length = Ls.length) (hlm : lm.pos.length = Ls.length) :
    polarization Ops.rat st [r] = .ok ((List.range Ls.length).map fun j =>
      q * ((sepSpec Ls r.pos lp.pos).getD j 0 - (sepSpec Ls r.pos lm.pos).getD j 0)) := by
  have ok : RootOK Ls r := by
    refine ⟨hr, by simp [hc], ?_, ?_⟩
    · intro l hl
      rw [hc] at hl
      rcases List.mem_cons.mp hl with rfl | hl
      · exact ⟨hlp, _, hp⟩
      · rw [List.mem_singleton] at hl; subst hl; exact ⟨hlm, _, hm⟩
    · simp [hc, chargeOf, hp, hm]
  rw [polarization_neutral hb [r] (by simpa using ok)]
  congr 1
  unfold polSpecRel
  apply List.map_congr_left
  intro j _
  simp only [List.map_cons, List.map_nil, List.sum_cons, List.sum_nil, hc, relTerm, chargeOf, hp, hm, Option.getD_some]
  ring

/-- … and `r₊ − r₋` **is the nearest-image separation of the two charges** (from the negative to the positive one) in every
component in which it lies in the window `[-L/2, L/2)` — e.g. when both leaves are closer than a quarter box to the root
unit -/
theorem dipole_nearest_image (hpos : ∀ L ∈ Ls, 0 < L) (rp lp lm : List ℚ) (hr : rp.length = Ls.length)
    (hlp : lp.length = Ls.length) (hlm : lm.length = Ls.length) (j : Nat) (hj : j < Ls.length)
    (hw : -(Ls.getD j 0 / 2) ≤ (sepSpec Ls rp lp).getD j 0 - (sepSpec Ls rp lm).getD j 0 ∧
      (sepSpec Ls rp lp).getD j 0 - (sepSpec Ls rp lm).getD j 0 < Ls.getD j 0 / 2) :
    (sepSpec Ls rp lp).getD j 0 - (sepSpec Ls rp lm).getD j 0 = (sepSpec Ls lm lp).getD j 0 := by
  have hL : 0 < Ls.getD j 0 := by
    rw [List.getD_eq_getElem?_getD, List.getElem?_eq_getElem hj]; exact hpos _ (List.getElem_mem hj)
  rw [sepSpec_getD hlm hlp j hj]
  rw [sepSpec_getD hr hlp j hj, sepSpec_getD hr hlm j hj] at hw ⊢
  have := (wrapSep_congr (s := lp.getD j 0 - rp.getD j 0) hL).sub (wrapSep_congr (s := lm.getD j 0 - rp.getD j 0) hL)
  rw [sub_sub_sub_cancel_right] at this
  exact wrapSep_unique hL hw.1 hw.2 this

/-- **the written vector is not `q ·` (nearest-image separation of the two charges) for an extended dipole**: box `L = 1`
(one dimension), root unit at `0`, charges `+1` at `2/5` and `-1` at `3/5`: the unwrapped positions are `2/5` and `-2/5`,
the handler writes `4/5`, the nearest-image separation of the two charges is `-1/5` -/
theorem dipole_not_nearest_image :
    (sepSpec [1] [0] [2/5]).getD 0 0 - (sepSpec [1] [0] [3/5]).getD 0 0 = 4 / 5 ∧ (sepSpec [1] [3/5] [2/5]).getD 0 0 = -(1 / 5) := by
  decide +kernel

/-- **a molecule whose charges do not sum to zero raises the handler's `AssertionError`** (whatever was accumulated) -/
theorem polRoot_assertion (r : Root ℚ) (pol : List ℚ) (hq : ∀ l ∈ r.children, ∃ q, l.charge = some q)
    (hn : (r.children.map chargeOf).sum ≠ 0) : polRoot Ops.rat st r pol = .error "err:AssertionError" := by
  unfold polRoot
  have hs := JF.Lifting.pySum_exact Ops.rat rfl (r.children.map chargeOf)
  rw [mapM_charge hq]
  simp [hs, hn]

/-- a child whose `charge` is `None` raises `TypeError` (from the `sum` inside the `assert`) -/
theorem polRoot_typeError (r : Root ℚ) (pol : List ℚ) (hq : ∃ l ∈ r.children, l.charge = none) :
    polRoot Ops.rat st r pol = .error "err:TypeError" := by
  unfold polRoot
  rw [mapM_charge_none hq]

/-- **nothing is written when a molecule fails**: the molecules before it being fine, the `write` ends with the exception of
the first failing molecule (with `polRoot_assertion`: the first non-neutral molecule gives `AssertionError`) -/
theorem polarization_error (hb : BoxOK st.box Ls) (pre post : List (Root ℚ)) (r : Root ℚ) (e : String)
    (hpre : ∀ r ∈ pre, RootOK Ls r) (he : ∀ pol, polRoot Ops.rat st r pol = .error e) :
    polarization Ops.rat st (pre ++ r :: post) = .error e ∧
      polarizationOut Ops.rat st (pre ++ r :: post) = ([], some e) := by
  have : polarization Ops.rat st (pre ++ r :: post) = .error e := by
    unfold polarization
    rw [hb.dim, replicate_zero]
    exact foldRoots_error hb pre post r e hpre he _
  exact ⟨this, by unfold polarizationOut; rw [this]⟩

/-! ### non-vacuity -/

/-- a water-like molecule (charges `-2, 1, 1`) and a dipole in a 2-d box of side 1, one leaf across the boundary: the
hypotheses `RootOK` hold; a non-neutral molecule meets those of `polRoot_assertion` -/
example :
    RootOK [1, 1] ⟨0, [1/10, 1/2], none, [⟨0, [1/20, 1/2], some 1⟩, ⟨1, [1/10, 11/20], some (-2)⟩, ⟨2, [19/20, 1/2], some 1⟩]⟩ ∧
    RootOK [1, 1] ⟨1, [1/2, 1/2], none, [⟨0, [2/5, 1/2], some (1/3)⟩, ⟨1, [3/5, 1/2], some (-(1/3))⟩]⟩ := by
  refine ⟨⟨rfl, List.cons_ne_nil _ _, ?_, by decide +kernel⟩, ⟨rfl, List.cons_ne_nil _ _, ?_, by decide +kernel⟩⟩ <;>
  · intro l hl
    simp only [List.mem_cons, List.not_mem_nil, or_false] at hl
    rcases hl with rfl | rfl | rfl <;> exact ⟨rfl, _, rfl⟩

example : let r : Root ℚ := ⟨0, [0], none, [⟨0, [0], some 1⟩, ⟨1, [1/2], some (-(1/2))⟩]⟩
    (∀ l ∈ r.children, ∃ q, l.charge = some q) ∧ (r.children.map chargeOf).sum ≠ 0 := by
  intro r
  refine ⟨?_, by decide +kernel⟩
  intro l hl
  simp only [r, List.mem_cons, List.not_mem_nil, or_false] at hl
  rcases hl with rfl | rfl <;> exact ⟨_, rfl⟩

end polarization

/-! ## 2. rounding-abstract reading of the written separation -/

section rounding
open JF.R JF.Lifting
variable {fm : FloatModel}

/-- the scalar record of the handlers over `R fm`, `pow(x, 0.5)` a parameter -/
def oopsR (fm : FloatModel) (pw : R fm → R fm) : OOps (R fm) := ⟨Ops.rounded fm, pw, fun x => .ok x⟩

/-- **the written value** `vectors.norm(setting.periodic_boundaries.separation_vector(a, b))`, cubic box, over `R fm` -/
def written (fm : FloatModel) (pw : R fm → R fm) (c : Cubic (R fm)) (a b : List (R fm)) : Option (R fm) :=
  (c.separationVector (Ops.rounded fm) a b).map (Output.norm (oopsR fm pw))

/-- this IS what the separation handler prints for a pair of leaves (and, with the same `written`, what the oxygen-oxygen
handler and the bond handler print as lengths: their loop bodies apply the same `root (normSq o v)` to `sepVec`) -/
theorem sepEntry_written (pw : R fm → R fm) (st : Setting (R fm)) (c : Cubic (R fm)) (hbox : st.box = .cubic c)
    (p : Leaf (R fm) × Leaf (R fm)) (hk : identDistance st.levels p.1.ident p.2.ident < st.perRoot) :
    sepEntryWith (Ops.rounded fm) pw st p =
      match written fm pw c p.1.pos p.2.pos with
      | none => ([], some "err:IndexError")
      | some w => ([(identDistance st.levels p.1.ident p.2.ident, [w])], none) := by
  unfold sepEntryWith written
  rw [hbox]
  simp only [Box.sepVec]
  cases c.separationVector (Ops.rounded fm) p.1.pos p.2.pos with
  | none => rfl
  | some v => simp [hk, oopsR, Output.norm]

def compList (fm : FloatModel) (c : Cubic (R fm)) (a b : List (R fm)) : List (R fm) :=
  List.zipWith (fun x y => compSep fm x y c.L c.half) a b

/-- the hypotheses: per dimension `CompOK` (representable coordinates inside the closed box, representable `L` and `L/2`,
no overflow, exact `fmod`), no under/overflow in the squares, relative error `δs` of the compensated `sum` on the squares
and `δp` of `pow(·, 0.5)` on the computed squared norm -/
structure NormOK (fm : FloatModel) (pw : R fm → R fm) (c : Cubic (R fm)) (a b : List (R fm)) (δs δp : ℚ) : Prop where
  L0 : 0 < toQ c.L
  h0 : 0 ≤ toQ c.half
  box : BoxCompOK fm c a b
  sq : SqOK fm (compList fm c a b)
  sum : SumOK fm ((compList fm c a b).map fun x => x * x) δs
  pow : |((toQ (pw (normSq (Ops.rounded fm) (compList fm c a b))) : ℚ) : ℝ) -
            Real.sqrt ((toQ (normSq (Ops.rounded fm) (compList fm c a b)) : ℚ) : ℝ)| ≤
          (δp : ℝ) * Real.sqrt ((toQ (normSq (Ops.rounded fm) (compList fm c a b)) : ℚ) : ℝ)
  δs0 : 0 ≤ δs
  δs1 : δs ≤ 1
  δp0 : 0 ≤ δp
  δp1 : δp ≤ 1

noncomputable def upF (fm : FloatModel) (δs δp : ℚ) : ℝ := (1 + (δp : ℝ)) * (((1 + δs) * (1 + fm.eps) : ℚ) : ℝ)
noncomputable def loF (fm : FloatModel) (δs δp : ℚ) : ℝ := (1 - (δp : ℝ)) * (((1 - δs) * (1 - fm.eps) : ℚ) : ℝ)

/-- the exact nearest-image distance of the two (representable) positions -/
noncomputable def exactDist (c : Cubic (R fm)) (a b : List (R fm)) : ℝ :=
  Real.sqrt ((sepSq (List.replicate c.dim (toQ c.L)) (a.map toQ) (b.map toQ) : ℚ) : ℝ)

/-- the absolute error of the computed vector: `√d · 9/2 · eps · L` -/
noncomputable def etaF (fm : FloatModel) (c : Cubic (R fm)) : ℝ :=
  Real.sqrt (c.dim : ℝ) * ((9 / 2 * (fm.eps * toQ c.L) : ℚ) : ℝ)

/-- the step through the compensated `sum` and `pow(x, 0.5)`: the computed squared norm `X` lies between `lo ≤ 1` and
`up ≥ 1` times the exact `N`, the root has relative error `δp`, and `m ≤ √N ≤ M` -/
theorem written_of_bounds {w m M : ℝ} {X N lo up δp : ℚ} (hlo0 : 0 ≤ lo) (hlo1 : lo ≤ 1) (hup : 1 ≤ up)
    (hX1 : lo * N ≤ X) (hX2 : X ≤ up * N) (hδ0 : 0 ≤ δp) (hδ1 : δp ≤ 1)
    (hw : |w - Real.sqrt (X : ℝ)| ≤ (δp : ℝ) * Real.sqrt (X : ℝ)) (hm : m ≤ Real.sqrt (N : ℝ))
    (hM : Real.sqrt (N : ℝ) ≤ M) :
    (1 - (δp : ℝ)) * ((lo : ℚ) : ℝ) * m ≤ w ∧ w ≤ (1 + (δp : ℝ)) * ((up : ℚ) : ℝ) * M := by
  have hlo0R : (0 : ℝ) ≤ lo := Rat.cast_nonneg.mpr hlo0
  have hlo1R : (lo : ℝ) ≤ 1 := (Rat.cast_le.mpr hlo1).trans_eq Rat.cast_one
  have hupR : (1 : ℝ) ≤ up := Rat.cast_one.symm.trans_le (Rat.cast_le.mpr hup)
  have hδ0R : (0 : ℝ) ≤ δp := Rat.cast_nonneg.mpr hδ0
  have hδ1R : (δp : ℝ) ≤ 1 := (Rat.cast_le.mpr hδ1).trans_eq Rat.cast_one
  have hX1R : (lo : ℝ) * N ≤ X := by exact_mod_cast hX1
  have hX2R : (X : ℝ) ≤ up * N := by exact_mod_cast hX2
  have hw' := abs_le.mp hw
  have l1 : (lo : ℝ) * m ≤ Real.sqrt (X : ℝ) :=
    calc (lo : ℝ) * m ≤ lo * Real.sqrt (N : ℝ) := mul_le_mul_of_nonneg_left hm hlo0R
      _ ≤ Real.sqrt lo * Real.sqrt (N : ℝ) :=
        mul_le_mul_of_nonneg_right (Real.le_sqrt_self_iff.mpr hlo1R) (Real.sqrt_nonneg _)
      _ = Real.sqrt (lo * N) := (Real.sqrt_mul hlo0R _).symm
      _ ≤ Real.sqrt (X : ℝ) := Real.sqrt_le_sqrt hX1R
  have l2 : Real.sqrt (X : ℝ) ≤ up * M :=
    calc Real.sqrt (X : ℝ) ≤ Real.sqrt (up * N) := Real.sqrt_le_sqrt hX2R
      _ = Real.sqrt up * Real.sqrt (N : ℝ) := Real.sqrt_mul (zero_le_one.trans hupR) _
      _ ≤ up * M :=
        mul_le_mul (Real.sqrt_le_self_iff.mpr (Or.inr hupR)) hM (Real.sqrt_nonneg _) (zero_le_one.trans hupR)
  rw [mul_assoc, mul_assoc]
  exact ⟨(mul_le_mul_of_nonneg_left l1 (sub_nonneg.mpr hδ1R)).trans (by linarith only [hw'.1]),
    le_trans (by linarith only [hw'.2]) (mul_le_mul_of_nonneg_left l2 (add_nonneg zero_le_one hδ0R))⟩

/-- **the written value against the exact nearest-image distance `D`, for every `FloatModel`**:
`lo · (D − η) ≤ written ≤ up · (D + η)`, `η = √d · 9/2 · eps · L`, `up/lo = (1 ± δp)(1 ± δs)(1 ± eps)`;
and **`written ≤ up · √d · L/2`**.  `_partial`: the error `δs` of the compensated `sum` is a parameter (not derived from
`eps`), cubic box, positions inside the closed box `[0, L]^d` -/
theorem written_err_partial {pw : R fm → R fm} {c : Cubic (R fm)} {a b : List (R fm)} {δs δp : ℚ}
    (ok : NormOK fm pw c a b δs δp) :
    ∃ w, written fm pw c a b = some w ∧
      loF fm δs δp * (exactDist c a b - etaF fm c) ≤ ((toQ w : ℚ) : ℝ) ∧
      ((toQ w : ℚ) : ℝ) ≤ upF fm δs δp * (exactDist c a b + etaF fm c) ∧
      ((toQ w : ℚ) : ℝ) ≤ upF fm δs δp * (Real.sqrt (c.dim : ℝ) * ((toQ c.half : ℚ) : ℝ)) := by
  refine ⟨pw (normSq (Ops.rounded fm) (compList fm c a b)), ?_, ?_⟩
  · unfold written
    rw [cubic_sepVec_R c a b ok.box.1 ok.box.2.1]; rfl
  have he : 0 ≤ 1 - fm.eps := sub_nonneg.mpr (fm.eps_le_half.trans (by norm_num))
  have hlo0 : 0 ≤ (1 - δs) * (1 - fm.eps) := mul_nonneg (sub_nonneg.mpr ok.δs1) he
  have hlo1 : (1 - δs) * (1 - fm.eps) ≤ 1 := mul_le_one₀ (sub_le_self 1 ok.δs0) he (sub_le_self 1 fm.eps_nonneg)
  have hup : 1 ≤ (1 + δs) * (1 + fm.eps) :=
    one_le_mul_of_one_le_of_one_le (le_add_of_nonneg_right ok.δs0) (le_add_of_nonneg_right fm.eps_nonneg)
  -- the computed squared norm against the exact squared norm of the computed vector, that vector against the exact one
  obtain ⟨n1, n2⟩ := normSq_bounds (compList fm c a b) ok.sq δs ok.δs0 ok.δs1 ok.sum
  obtain ⟨p1, p2, p3⟩ := compVec_norm ok.box ok.L0 ok.h0
  have w := fun {M} (hM : _ ≤ M) => written_of_bounds hlo0 hlo1 hup n1 n2 ok.δp0 ok.δp1 ok.pow p1 hM
  exact ⟨(w p2).1, (w p2).2, (w p3).2⟩

/-- **symmetric in the two arguments up to that error**: `|written(a, b) − written(b, a)| ≤ (up − lo) · D + (up + lo) · η`
(`_partial` for the same reasons as `written_err_partial`) -/
theorem written_symm_partial {pw : R fm → R fm} {c : Cubic (R fm)} {a b : List (R fm)} {δs δp : ℚ}
    (ok1 : NormOK fm pw c a b δs δp) (ok2 : NormOK fm pw c b a δs δp) :
    ∃ w1 w2, written fm pw c a b = some w1 ∧ written fm pw c b a = some w2 ∧
      |((toQ w1 : ℚ) : ℝ) - ((toQ w2 : ℚ) : ℝ)| ≤
        (upF fm δs δp - loF fm δs δp) * exactDist c a b + (upF fm δs δp + loF fm δs δp) * etaF fm c := by
  obtain ⟨w1, e1, l1, u1, -⟩ := written_err_partial ok1
  obtain ⟨w2, e2, l2, u2, -⟩ := written_err_partial ok2
  refine ⟨w1, w2, e1, e2, ?_⟩
  have hD : exactDist c b a = exactDist c a b := by
    unfold exactDist
    rw [sepSq_symm (Ls := List.replicate c.dim (toQ c.L)) fun L hL => List.eq_of_mem_replicate hL ▸ ok1.L0]
  rw [hD] at l2 u2
  rw [abs_le]
  exact ⟨by linarith only [l1, u2], by linarith only [u1, l2]⟩

/-- binary64 (`FloatModel.binary64`, `eps = 2^-53`): the same statements hold, with `η = √d · 9/2 · 2^-53 · L` -/
theorem written_err_binary64_partial {pw : R FloatModel.binary64 → R FloatModel.binary64}
    {c : Cubic (R FloatModel.binary64)} {a b : List (R FloatModel.binary64)} {δs δp : ℚ}
    (ok : NormOK FloatModel.binary64 pw c a b δs δp) :
    ∃ w, written FloatModel.binary64 pw c a b = some w ∧
      loF FloatModel.binary64 δs δp * (exactDist c a b - etaF FloatModel.binary64 c) ≤ ((toQ w : ℚ) : ℝ) ∧
      ((toQ w : ℚ) : ℝ) ≤ upF FloatModel.binary64 δs δp * (exactDist c a b + etaF FloatModel.binary64 c) ∧
      ((toQ w : ℚ) : ℝ) ≤ upF FloatModel.binary64 δs δp * (Real.sqrt (c.dim : ℝ) * ((toQ c.half : ℚ) : ℝ)) :=
  written_err_partial ok

theorem etaF_binary64 (c : Cubic (R FloatModel.binary64)) :
    etaF FloatModel.binary64 c = Real.sqrt (c.dim : ℝ) * ((9 / 2 * (1 / 2 ^ 53 * toQ c.L) : ℚ) : ℝ) := by
  unfold etaF; rw [binary64_eps]

/-! ### the edge: in binary64 the two argument orders do NOT give the same bits -/

/-- **symmetry fails bit for bit**: box `L = 1.0` in one dimension, `a = 0x1.132d8f91b7584p-3`, `b = 0x1.b1e2d5b3584f8p-1`:
the squared norm of `separation_vector(a, b)` and of `separation_vector(b, a)` differ by four ulps (the window
`[-L/2, L/2)` is not symmetric and `s + L/2` rounds differently for `s` and `-s`); evaluated by the kernel on native
binary64 with the model's own `separation_vector` and `norm_sq` (`pow` is opaque, hence the squared norms) -/
theorem float_symmetry_fails :
    (match Cubic.init Ops.floatK 1 1.0 with
     | .ok c =>
       ((c.separationVector Ops.floatK [Float.ofBits 4594009002368267652] [Float.ofBits 4605808224069059832]).map
          fun v => (normSq Ops.floatK v).toBits) == some 4590596858677632955 &&
       ((c.separationVector Ops.floatK [Float.ofBits 4605808224069059832] [Float.ofBits 4594009002368267652]).map
          fun v => (normSq Ops.floatK v).toBits) == some 4590596858677632959
     | .error _ => false) = true := by decide +kernel

/-! ### non-vacuity (binary64) -/

abbrev b64 := FloatModel.binary64

theorem rndI (n : ℤ) (h : |(n:ℚ)| ≤ 2 ^ 53 := by norm_num) : b64.rnd (n : ℚ) = n := b64.rnd_int n h

theorem rnd_one : b64.rnd 1 = 1 := by simpa using rndI 1

theorem nv_comp : toQ (compSep b64 (ofQ 1) (ofQ 2) (ofQ 4) (ofQ 2)) = 1 ∧
    CompOK b64 (ofQ 1) (ofQ 2) (ofQ 4) (ofQ 2) := by
  have r3 : b64.rnd 3 = 3 := by simpa using rndI 3
  have m2 : (2 : ℚ) ∈ b64.F := by simpa using b64.int_mem 2 (by norm_num)
  have m3 : (3 : ℚ) ∈ b64.F := by simpa using b64.int_mem 3 (by norm_num)
  have m4 : (4 : ℚ) ∈ b64.F := by simpa using b64.int_mem 4 (by norm_num)
  -- `(2 ⊖ 1) ⊕ 2 = 3`, `3 % 4 = 3` without rounding, `3 ⊖ 2 = 1`
  have s2 : toQ (((ofQ 2 : R b64) - ofQ 1) + ofQ 2) = 3 := by
    show b64.rnd (b64.rnd (2 - 1) + 2) = 3
    rw [show (2 : ℚ) - 1 = 1 by norm_num, rnd_one, show (1 : ℚ) + 2 = 3 by norm_num, r3]
  have hm : Ops.rat.fmod (toQ (((ofQ 2 : R b64) - ofQ 1) + ofQ 2)) (toQ (ofQ 4 : R b64)) ∈ b64.F := by
    rw [s2, toQ_ofQ, show Ops.rat.fmod 3 4 = 3 by decide +kernel]; exact m3
  have p3 : pymod Ops.rat 3 4 = 3 := by decide +kernel
  refine ⟨?_, ⟨by show (0 : ℚ) < 4; norm_num, by show (2 : ℚ) = 4 / 2; norm_num, b64.one_mem, m2, m4, m2,
    zero_le_one, by show (1 : ℚ) ≤ 4; norm_num, zero_le_two, by show (2 : ℚ) ≤ 4; norm_num, ?_, hm⟩⟩
  · rw [compSep_toQ, pymod_rounded _ _ hm, s2, toQ_ofQ, p3, r3, toQ_ofQ, show (3 : ℚ) - 2 = 1 by norm_num, rnd_one]
  · show 2 * (4 : ℚ) ≤ b64.huge
    exact le_trans (by norm_num) b64.huge_ge

/-- non-vacuity of `NormOK` (hence of `written_err_binary64_partial`, `written_symm_partial`): binary64, box `L = 4` in one
dimension, `a = 1`, `b = 2`; the computed component is `1`, `sum` and `pow` are exact on it (`δs = δp = 0`) -/
theorem normOK_example : NormOK b64 (fun _ => ofQ 1) ⟨1, ofQ 4, ofQ 2⟩ [ofQ 1] [ofQ 2] 0 0 := by
  obtain ⟨hv, hc⟩ := nv_comp
  have hl : compList b64 ⟨1, ofQ 4, ofQ 2⟩ [ofQ 1] [ofQ 2] = [compSep b64 (ofQ 1) (ofQ 2) (ofQ 4) (ofQ 2)] := rfl
  have hsum : toQ (pySum (Ops.rounded b64) [compSep b64 (ofQ 1) (ofQ 2) (ofQ 4) (ofQ 2) * compSep b64 (ofQ 1) (ofQ 2) (ofQ 4) (ofQ 2)]) = 1 := by
    simp [pySum, neumaier, hv, rnd_one]
  refine ⟨by show (0 : ℚ) < 4; norm_num, show (0 : ℚ) ≤ 2 from zero_le_two, ⟨rfl, rfl, ?_⟩, ?_, ?_, ?_, le_refl _,
    zero_le_one, le_refl _, zero_le_one⟩
  · intro j ha hb
    obtain rfl : j = 0 := Nat.lt_one_iff.mp ha
    exact hc
  · rw [hl]
    intro x hx
    rw [List.mem_singleton] at hx
    subst hx
    right
    rw [hv, binary64_tiny]
    constructor
    · rw [one_mul]; exact zpow_le_one_of_nonpos₀ one_le_two (by norm_num)
    · exact le_trans (by norm_num) b64.huge_ge
  · rw [hl]
    unfold SumOK
    simp only [List.map_cons, List.map_nil, hsum, List.sum_cons, List.sum_nil, toQ_mul, hv]
    norm_num [rnd_one]
  · rw [hl]
    unfold normSq
    simp only [List.map_cons, List.map_nil, hsum, toQ_ofQ, Rat.cast_one, Real.sqrt_one, sub_self, abs_zero,
      Rat.cast_zero, zero_mul, le_refl]

end rounding

end JF.OutputFloat
