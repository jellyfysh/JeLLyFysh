/-!
# C19 — A dumped run resumes to exactly the run that was never interrupted

The mediator (with everything it owns: state handler, activator, event handlers, random stream) is a deterministic client of
the scheduler: it only ever pushes, trashes and asks for the succeeding event, and what it does next is a function of what
it was told so far. Pickling copies every ordinary attribute; the one component that is *rebuilt* rather than copied is the
C heap inside the heap scheduler (`HeapScheduler.__getstate__/__setstate__`). So "resume = uninterrupted" reduces to:
a deterministic client cannot tell two observationally equal schedulers apart. That reduction is proved here, for every
client and every scheduler implementation; observational equality of the rebuilt heap is `pickle_obsEq` in
`JF/Props/C19Heap.lean`, and `JF/Props/C19Loop.lean` has the statement for the composed mediator loop.
-/
namespace JF.C19

/-- what a client can ask of a scheduler -/
inductive Op (T H : Type) where
  | push (t : T) (h : H)
  | trash (h : H)
  | get

/-- what it gets back (`none` from `get` = `SchedulerError`) -/
inductive Out (H : Type) where
  | unit
  | got (h : Option H)
deriving DecidableEq

/-- a scheduler implementation: a state space with one transition function -/
structure Sched (S T H : Type) where
  apply : S → Op T H → Out H × S

variable {S S' T H R : Type}

/-- the outputs of a fixed operation sequence -/
def outputs (I : Sched S T H) : S → List (Op T H) → List (Out H)
  | _, [] => []
  | s, op :: ops => (I.apply s op).1 :: outputs I (I.apply s op).2 ops

/-- observational equality of two scheduler states (possibly of two different implementations):
every operation sequence produces the same outputs -/
def ObsEq (I : Sched S T H) (J : Sched S' T H) (a : S) (b : S') : Prop :=
  ∀ ops, outputs I a ops = outputs J b ops

theorem ObsEq.step {I : Sched S T H} {J : Sched S' T H} {a : S} {b : S'} (h : ObsEq I J a b) (op : Op T H) :
    (I.apply a op).1 = (J.apply b op).1 ∧ ObsEq I J (I.apply a op).2 (J.apply b op).2 := by
  constructor
  · have := h [op]; simpa [outputs] using this
  · intro ops
    have := h (op :: ops)
    simp only [outputs, List.cons.injEq] at this
    exact this.2

theorem ObsEq.of_step {I : Sched S T H} {J : Sched S' T H} (Q : S → S' → Prop)
    (step : ∀ a b op, Q a b → (I.apply a op).1 = (J.apply b op).1 ∧ Q (I.apply a op).2 (J.apply b op).2)
    {a : S} {b : S'} (q : Q a b) : ObsEq I J a b := by
  intro ops
  induction ops generalizing a b with
  | nil => rfl
  | cons op ops ih =>
    obtain ⟨e, q'⟩ := step a b op q
    simp only [outputs]
    rw [e, ih q']

/-- a deterministic client: its own state `R` (global state, activator, handlers, random stream …), the next scheduler
operation it issues, and how it digests the answer -/
structure Client (R T H : Type) where
  next : R → Op T H
  feed : R → Out H → R

/-- the client running against a scheduler for `n` operations: the answers it sees and its final state -/
def runClient (I : Sched S T H) (c : Client R T H) : Nat → R → S → List (Out H) × R
  | 0, r, _ => ([], r)
  | n + 1, r, s =>
    let res := I.apply s (c.next r)
    let rest := runClient I c n (c.feed r res.1) res.2
    (res.1 :: rest.1, rest.2)

/-- **Resume = uninterrupted.** Started from the same client state on two observationally equal scheduler states, a
deterministic client sees the same answers for ever and ends in the same state — for every client, every number of
steps and every pair of scheduler implementations. -/
theorem resume_same (I : Sched S T H) (J : Sched S' T H) (c : Client R T H) (n : Nat) (r : R) (a : S) (b : S')
    (h : ObsEq I J a b) : runClient I c n r a = runClient J c n r b := by
  induction n generalizing r a b with
  | zero => rfl
  | succ n ih =>
    obtain ⟨h1, h2⟩ := h.step (c.next r)
    simp only [runClient]
    rw [h1, ih (c.feed r (J.apply b (c.next r)).1) _ _ h2]

/-- the identity on scheduler states is a valid "pickle" (the list scheduler's) -/
theorem ObsEq.refl (I : Sched S T H) (a : S) : ObsEq I I a a := fun _ => rfl
theorem ObsEq.symm {I : Sched S T H} {J : Sched S' T H} {a : S} {b : S'} (h : ObsEq I J a b) : ObsEq J I b a :=
  fun ops => (h ops).symm

/-- non-vacuity: two different implementations of a one-slot scheduler (state `Option H` vs. a list holding at most one
handler) are observationally equal from their empty states, hence indistinguishable by any client -/
def slotA : Sched (Option Nat) Nat Nat where
  apply s
    | .push _ h => (.unit, some h)
    | .trash _ => (.unit, none)
    | .get => (.got s, s)
def slotB : Sched (List Nat) Nat Nat where
  apply s
    | .push _ h => (.unit, [h])
    | .trash _ => (.unit, [])
    | .get => (.got s.head?, s)

theorem slots_obsEq : ∀ (a : Option Nat) (b : List Nat), b.head? = a → b.length ≤ 1 → ObsEq slotA slotB a b := by
  intro a b hab _
  refine ObsEq.of_step (fun a b => b.head? = a) (fun a b op hab => ?_) hab
  cases op with
  | push t h => exact ⟨rfl, rfl⟩
  | trash h => exact ⟨rfl, rfl⟩
  | get => exact ⟨congrArg Out.got hab.symm, hab⟩

example (c : Client Nat Nat Nat) (n r : Nat) : runClient slotA c n r none = runClient slotB c n r [] :=
  resume_same slotA slotB c n r none [] (slots_obsEq none [] rfl (by simp))

end JF.C19
