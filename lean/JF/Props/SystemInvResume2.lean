import JF.Lemmas.SystemInvMP2Sys2
import JF.Lemmas.SystemInvMP2Sys3
import JF.Lemmas.SystemInvResume2Generic
import JF.Lemmas.C09PoolsClosed2Run
/-!
# The joint invariant of the composed system of composite objects without cells along dumped-and-resumed runs

What `JF/Props/SystemInvResume.lean` does for the coulomb_atoms world, for `JF.Sys2.Reach2` (`JF/Props/SystemInv2.lean`): the generic
transport `JF/Lemmas/SystemInvResume2Generic.lean` for the system `T2` of `JF/Lemmas/SystemInvMP2Sys2.lean`.

**What is modelled** (C19's model of dump/resume).  `ReachD2 W ss cs mH x`: the composed system with the heap scheduler
`heapI xcfg W` — one leg = `leg (mwire mw.w S needs) (heapI xcfg W) m o = .ok (m', cm)` and `RStep2 (eraseS m) m.sched.last x o cm x'`,
i.e. field for field `JF.Sys2.SysStep2` with the heap scheduler (`x : X2` = composite objects `cs` and the ghost fields `ids`, `csPrev`,
`mid`, `cmode`) — dumped and resumed any number of times at any leg boundaries: a dump replaces the mediator state `m` by
`dumpH xcfg m` (scheduler pickled and rebuilt: `HSched.pickle`), everything else — activator bookkeeping, preceding handler, and the
world and ghost fields `x` — is restored as it was (trusted base "`dill` is the identity on ordinary objects").

The no-tie hypothesis `NoTies` is needed only to go from the heap instance to the spec instance in which `joint_inv2` is stated; this
world has no `TieFree` hypothesis of its own.  Not covered (as in `JF/Props/SystemInvResume.lean`): the list scheduler, time ties among
pending events, `dill` on everything but the C heap (trusted), runs that leave the loop with an exception.

Composite objects with cell systems (`JF.Sys3L`, `JF/Props/SystemInv3Loop.lean`): namespace `JF.SystemInvResume2.Cells` at the end of
this file — the same transport for the instance `T3` of `JF/Lemmas/SystemInvMP2Sys3.lean`, with `Hyp3L`, `TieFree3` and `NoTies`;
non-vacuity on the four-leg run of `dipoles/cell_bounded.ini` of `JF.SystemInv3Loop.Example`.  Not transported:
`c11_occinv_closed3` (`JF/Props/SystemInv3Occ.lean`) — it is stated for the runs `Reach3From s0` (`JF/Lemmas/SystemInv3OccRun.lean`)
with a hypothesis `OccInit3` on the initial state `s0`, which `CSys.ReachD` does not expose.
-/
namespace JF.SystemInvResume2
open JF JF.Act JF.Sched JF.Med JF.CW2 JF.C14 JF.Sys JF.Sys2 JF.C12 JF.SystemInv2 JF.SysGen
  JF.SystemInvMP2
open JF.MediatorLoop hiding Run
open JF.Heap hiding Inv
open JF.Composite hiding pendOf
open JF.C19Loop (Step oraclesOf dumpH StRel runLegsE)
open JF.SystemInvResume (notDump)

section
variable {env : Env ℚ} {mw : ModeWiring} {S : TaggerIdx} {needs : HandlerId → Bool} {W : Nat}

abbrev ReachD2 (env : Env ℚ) (mw : ModeWiring) (S : TaggerIdx) (needs : HandlerId → Bool) (W : Nat) (ss : List (Step XTime))
    (cs : List (Committed XTime)) (mH : MedState (HSched XTime)) (x : X2) : Prop :=
  (T2 env mw S needs).ReachD W ss cs mH x

variable {ss : List (Step XTime)} {cs : List (Committed XTime)} {mH : MedState (HSched XTime)} {x : X2}

/-- heap → spec: a dumped-and-resumed run without time ties among the finite pending candidate times has a
spec-level twin `Reach2` with the same commits, world, ghost fields, activator state and preceding handler -/
theorem reachD2_reach2 (H : Hyp2 env mw S) (hW : 0 < W) (hr : ReachD2 env mw S needs W ss cs mH x)
    (ntH : NoTies xcfg xcfg.finite (fun _ => none) cs) :
    ∃ m : SM, Reach2 env mw S needs (oraclesOf ss) cs (x.toSys m) ∧ m.act = mH.act ∧ m.preceding = mH.preceding := by
  obtain ⟨m, hreach, ha, hp⟩ := reachD_reach (T := T2 env mw S needs) (hyp2_static H) hW hr ntH
  exact ⟨m, reach2_to hreach, ha, hp⟩

/-- resume = uninterrupted, leg for leg (no tie hypothesis) -/
theorem resumed_is_uninterrupted2 (H : Hyp2 env mw S) (hW : 0 < W) (hr : ReachD2 env mw S needs W ss cs mH x) :
    ∃ m' : MedState (HSched XTime), ReachD2 env mw S needs W (ss.filter notDump) cs m' x ∧ StRel (LiveEq xcfg) m' mH :=
  resumed_is_uninterrupted (T := T2 env mw S needs) (hyp2_static H) hW hr

/-- the commits of a dumped-and-resumed run are exactly the commits of the uninterrupted mediator loop with the heap scheduler on
the oracle values of its legs (no tie hypothesis) -/
theorem resumed_commits_uninterrupted2 (H : Hyp2 env mw S) (hW : 0 < W) (hr : ReachD2 env mw S needs W ss cs mH x) :
    (runLegsE (mwire mw.w S needs) (heapI xcfg W) (MedState.init (heapI xcfg W) (mwire mw.w S needs).w) (oraclesOf ss)).1 = cs :=
  resumed_commits_uninterrupted (T := T2 env mw S needs) (hyp2_static H) hW hr

/-! ## the joint invariant and its corollaries along dumped-and-resumed runs -/

/-- the joint invariant holds after every leg of every dumped-and-resumed run (for the spec-level twin of the mediator) -/
theorem joint_inv2_resumed (H : Hyp2 env mw S) (hW : 0 < W) (hr : ReachD2 env mw S needs W ss cs mH x)
    (ntH : NoTies xcfg xcfg.finite (fun _ => none) cs) :
    ∃ m : SM, m.act = mH.act ∧ m.preceding = mH.preceding ∧ JInv2 env mw S needs cs (x.toSys m) := by
  obtain ⟨m, hreach, ha, hp⟩ := reachD2_reach2 H hW hr ntH
  exact ⟨m, ha, hp, joint_inv2 H hreach⟩

theorem c09_fresh_closed2_resumed (H : Hyp2 env mw S) (hW : 0 < W) (hr : ReachD2 env mw S needs W ss cs mH x)
    (ntH : NoTies xcfg xcfg.finite (fun _ => none) cs) (h2 : 2 ≤ cs.length) :
    ∃ hi : Inv env ⟨x.csPrev, ofW (mw.mode (absOf x.mid))⟩,
      (∀ T, (world2 env mw).live T → Fresh (world2 env mw) ⟨x.mid, x.ids, ⟨_, hi⟩⟩ T) ∧
      Act.Run mw.w (world2 env mw) (Tr2 env mw) S ⟨x.mid, x.ids, ⟨_, hi⟩⟩ := by
  obtain ⟨m, hreach, _, _⟩ := reachD2_reach2 H hW hr ntH
  exact c09_fresh_closed2 H hreach h2

theorem c09_fresh_every_leg2_resumed (H : Hyp2 env mw S) (hW : 0 < W) (hr : ReachD2 env mw S needs W ss cs mH x)
    (ntH : NoTies xcfg xcfg.finite (fun _ => none) cs) {k : Nat} {cm : Committed XTime} (hk : cs[k + 1]? = some cm) :
    ∃ (s1 : Sys2) (hi : Inv env ⟨s1.csPrev, ofW (mw.mode (absOf s1.mid))⟩),
      (∀ T, (world2 env mw).live T → Fresh (world2 env mw) ⟨s1.mid, s1.ids, ⟨_, hi⟩⟩ T) ∧
      (∀ y, (pendPushed (pendOf (fun _ => none) (cs.take (k + 1))) cm y).isSome ↔ ∃ T, y ∈ (getT s1.mid T).running) := by
  obtain ⟨m, hreach, _, _⟩ := reachD2_reach2 H hW hr ntH
  exact c09_fresh_every_leg2 H hreach hk

theorem mode_premise_closed2_resumed (H : Hyp2 env mw S) (hW : 0 < W) (hr : ReachD2 env mw S needs W ss cs mH x)
    (ntH : NoTies xcfg xcfg.finite (fun _ => none) cs) (h2 : 2 ≤ cs.length) {cl : Committed XTime}
    (hl : cs.getLast? = some cl) (hgo : cl.stop = false) :
    ∃ E, owner mw.w.wires cl.handler = some E ∧
      TrRaw2 env mw E ⟨x.csPrev, ofW (mw.mode (absOf x.mid))⟩ ⟨x.cs, ofW (mw.mode (aStep mw.w (absOf x.mid) E))⟩ := by
  obtain ⟨m, hreach, _, _⟩ := reachD2_reach2 H hW hr ntH
  exact mode_premise_closed2 H hreach h2 hl hgo

theorem c12_rootConsistent_closed2_resumed (H : Hyp2 env mw S) (hW : 0 < W) (hr : ReachD2 env mw S needs W ss cs mH x)
    (ntH : NoTies xcfg xcfg.finite (fun _ => none) cs) :
    AllGood env.d env.L x.cs ∧ Uniform env.nPer x.cs ∧ ∀ c ∈ x.cs, RootConsistent env.L c := by
  obtain ⟨m, hreach, _, _⟩ := reachD2_reach2 H hW hr ntH
  exact c12_rootConsistent_closed2 H hreach

theorem c07_one_chain_closed2_resumed (H : Hyp2 env mw S) (hW : 0 < W) (hr : ReachD2 env mw S needs W ss cs mH x)
    (ntH : NoTies xcfg xcfg.finite (fun _ => none) cs) {cl : Committed XTime} (hl : cs.getLast? = some cl) :
    ∃ E sq m, owner mw.w.wires cl.handler = some E ∧ OneChainM x.cs sq m ∧ OneChain x.cs sq ∧
      (cl.stop = false → m = ofW (mw.mode (aStep mw.w (absOf x.mid) E))) := by
  obtain ⟨m, hreach, _, _⟩ := reachD2_reach2 H hW hr ntH
  exact c07_one_chain_closed2 H hreach hl

theorem c08_closed2_resumed (H : Hyp2 env mw S) (hW : 0 < W) (hr : ReachD2 env mw S needs W ss cs mH x)
    (ntH : NoTies xcfg xcfg.finite (fun _ => none) cs) {cl : Committed XTime} (hl : cs.getLast? = some cl) :
    ∃ (hi : Inv env ⟨x.csPrev, ofW (mw.mode (absOf x.mid))⟩) (born : HandlerId → CW2.G env),
      C08.Reach8 mw.w.wires (world2 env mw) (motion2 env mw) S ⟨⟨x.mid, x.ids, ⟨_, hi⟩⟩, born⟩ ∧
      C08.Current (motion2 env mw) ⟨⟨x.mid, x.ids, ⟨_, hi⟩⟩, born⟩ ∧
      ∀ E, owner mw.w.wires cl.handler = some E → motionBound (mw.w.tagger E) = true →
        ∀ u ∈ (motion2 env mw).units (x.ids cl.handler),
          SameMotion2 env.d env.L (born cl.handler).1.cs x.csPrev u := by
  obtain ⟨m, hreach, _, _⟩ := reachD2_reach2 H hW hr ntH
  exact c08_closed2 H hreach hl

theorem c08_stale_trashed_closed2_resumed (H : Hyp2 env mw S) (hW : 0 < W) (hr : ReachD2 env mw S needs W ss cs mH x)
    (ntH : NoTies xcfg xcfg.finite (fun _ => none) cs) {k j : Nat} {ck cj : Committed XTime}
    (hk : cs[k]? = some ck) {E : TaggerIdx} (hE : owner mw.w.wires ck.handler = some E)
    (hm : affects (mw.w.tagger E) .motion = true) {h : HandlerId} {T : TaggerIdx} (hT : owner mw.w.wires h = some T)
    (hb : motionBound (mw.w.tagger T) = true)
    (hp : (pendPushed (pendOf (fun _ => none) (cs.take k)) ck h).isSome) :
    h ∈ ck.trashed ∧
    (k < j → cs[j]? = some cj → cj.handler = h →
      ∃ (i : Nat) (ci : Committed XTime), k < i ∧ i ≤ j ∧ cs[i]? = some ci ∧ h ∈ ci.created.map Prod.fst) := by
  obtain ⟨m, hreach, _, _⟩ := reachD2_reach2 H hW hr ntH
  exact c08_stale_trashed_closed2 H hreach hk hE hm hT hb hp

theorem candOK_closed2_resumed (H : Hyp2 env mw S) (hW : 0 < W) (hr : ReachD2 env mw S needs W ss cs mH x)
    (ntH : NoTies xcfg xcfg.finite (fun _ => none) cs) : MediatorLoop.Legs (CandOK xcfg) (fun _ => none) xcfg.bot cs := by
  obtain ⟨m, hreach, _, _⟩ := reachD2_reach2 H hW hr ntH
  exact candOK_closed2 H hreach

theorem commit_times_sorted_closed2_resumed (H : Hyp2 env mw S) (hW : 0 < W) (hr : ReachD2 env mw S needs W ss cs mH x)
    (ntH : NoTies xcfg xcfg.finite (fun _ => none) cs) : cs.Pairwise (fun a b => xcfg.lt b.time a.time = false) := by
  obtain ⟨m, hreach, _, _⟩ := reachD2_reach2 H hW hr ntH
  exact commit_times_sorted_closed2 H hreach

theorem no_sample_skipped2_resumed (H : Hyp2 env mw S) (hW : 0 < W) (hr : ReachD2 env mw S needs W ss cs mH x)
    (ntH : NoTies xcfg xcfg.finite (fun _ => none) cs) {k : Nat} {cm : Committed XTime} (hk : cs[k]? = some cm)
    {hs : HandlerId} {ts : XTime} (hkind : kindOfH mw.w hs = .sampling)
    (hp : pendPushed (pendOf (fun _ => none) (cs.take k)) cm hs = some ts) (hfin : xcfg.finite ts = true) :
    xcfg.lt ts cm.time = false ∧ (cm.handler = hs → cm.time = ts) := by
  obtain ⟨m, hreach, _, _⟩ := reachD2_reach2 H hW hr ntH
  exact no_sample_skipped2 H hreach hk hkind hp hfin

/-! ## non-vacuity: every spec-level run without ties, with dumps inserted anywhere, is a dumped-and-resumed run -/

/-- spec → heap.  Any run `Reach2` without time ties, with dump/resume round trips inserted at any leg boundaries (`ss` arbitrary
with `oraclesOf ss = os`), is a dumped-and-resumed run `ReachD2` with the same commits and the same world and ghost fields -/
theorem reach2_reachD2 (H : Hyp2 env mw S) (hW : 0 < W) (ss : List (Step XTime)) {s : Sys2}
    (hr : Reach2 env mw S needs (oraclesOf ss) cs s) (ntH : NoTies xcfg xcfg.finite (fun _ => none) cs) :
    ∃ mH : MedState (HSched XTime), ReachD2 env mw S needs W ss cs mH (xOf s) ∧ mH.act = s.med.act ∧
      mH.preceding = s.med.preceding :=
  reach_reachD (T := T2 env mw S needs) (hyp2_static H) hW ss (reach2_of hr) ntH

end

/-! ## non-vacuity on the concrete seven-leg run of `dipole_motion.ini` -/

namespace Example
open JF.C09Pools.Closed2.Example

/-- counter range of a C `unsigned int` -/
abbrev W32 : Nat := 4294967296

/-- `NoTies` holds for the seven commits (0, 1/4, 1/2, 3/4, 1, 5/4, 3/2): at no `get_succeeding_event` do two finite
pending candidate times coincide -/
theorem noTies7 : NoTies xcfg xcfg.finite (fun _ => none) cs7c :=
  noTies_of_check _ _ [] (fun h t e => by cases e) (by decide +kernel)

/-- the seven legs with dumps before the first leg, after legs 1, 3 (twice in a row), 4 and 7 -/
def steps7 : List (Step XTime) :=
  [.dump, .leg (mkO s0.cs cand1), .dump, .leg (mkO s1.cs cand2), .leg (mkO s2.cs cand3), .dump, .dump,
   .leg (mkO s3.cs cand4), .dump, .leg (mkO s4.cs cand5), .leg (mkO s5.cs cand6), .leg (mkO s6.cs cand7), .dump]

theorem dumped7 : ∃ mH : MedState (HSched XTime), ReachD2 env mw 10 needs W32 steps7 cs7c mH (xOf s7) ∧
    mH.act = s7.med.act ∧ mH.preceding = s7.med.preceding :=
  reach2_reachD2 hyp (by decide) steps7 (show Reach2 env mw 10 needs (oraclesOf steps7) cs7c s7 from reach7) noTies7

example : ∃ (mH : MedState (HSched XTime)) (m : SM), m.act = mH.act ∧ m.preceding = mH.preceding ∧
    JInv2 env mw 10 needs cs7c ((xOf s7).toSys m) := by
  obtain ⟨mH, hD, _, _⟩ := dumped7
  obtain ⟨m, h1, h2, h3⟩ := joint_inv2_resumed hyp (by decide) hD noTies7
  exact ⟨mH, m, h1, h2, h3⟩

example : ∃ hi : Inv env ⟨s7.csPrev, ofW (mw.mode (absOf s7.mid))⟩,
    ∀ T, (world2 env mw).live T → Fresh (world2 env mw) ⟨s7.mid, s7.ids, ⟨_, hi⟩⟩ T := by
  obtain ⟨mH, hD, _, _⟩ := dumped7
  obtain ⟨hi, h, _⟩ := c09_fresh_closed2_resumed hyp (by decide) hD noTies7 (by decide)
  exact ⟨hi, h⟩

example : AllGood env.d env.L s7.cs ∧ Uniform env.nPer s7.cs ∧ ∀ c ∈ s7.cs, RootConsistent env.L c := by
  obtain ⟨mH, hD, _, _⟩ := dumped7
  exact c12_rootConsistent_closed2_resumed hyp (by decide) hD noTies7

example : cs7c.Pairwise (fun a b => xcfg.lt b.time a.time = false) := by
  obtain ⟨mH, hD, _, _⟩ := dumped7
  exact commit_times_sorted_closed2_resumed hyp (by decide) hD noTies7

example : ∃ mH m' : MedState (HSched XTime), ReachD2 env mw 10 needs W32 (steps7.filter notDump) cs7c m' (xOf s7) ∧
    StRel (LiveEq xcfg) m' mH := by
  obtain ⟨mH, hD, _, _⟩ := dumped7
  obtain ⟨m', h1, h2⟩ := resumed_is_uninterrupted2 hyp (by decide) hD
  exact ⟨mH, m', h1, h2⟩

example : (runLegsE M (heapI xcfg W32) (MedState.init (heapI xcfg W32) M.w) os7).1 = cs7c := by
  obtain ⟨mH, hD, _, _⟩ := dumped7
  exact resumed_commits_uninterrupted2 hyp (by decide) hD

end Example

end JF.SystemInvResume2

/-! # Composite objects with cell systems (`JF.Sys3L`) -/

namespace JF.SystemInvResume2.Cells
open JF JF.Act JF.Heap JF.Sched JF.Med JF.CW3 JF.C14 JF.Sys JF.Sys3 JF.Sys3L JF.C12 JF.Footprints3
  JF.SystemInv3Loop JF.SysGen JF.SystemInvMP2
open JF.MediatorLoop hiding Run
open JF.Composite hiding pendOf
open JF.C19Loop (Step oraclesOf dumpH StRel runLegsE)
open JF.SystemInvResume (notDump)

section
variable {env : Env ℚ} {geo : ∀ l, Geo (cwEnv env l)} {mw : ModeWiring} {S : TaggerIdx} {needs : HandlerId → Bool} {W : Nat}

/-- as `ReachD2`, with `RStep3` (field for field `SysStep3`); at a dump the composite objects, the occupancies and the ghost
fields `x : X3` stay as they are -/
abbrev ReachD3 (env : Env ℚ) (geo : ∀ l, Geo (cwEnv env l)) (mw : ModeWiring) (S : TaggerIdx) (needs : HandlerId → Bool) (W : Nat)
    (ss : List (Step XTime)) (cs : List (Committed XTime)) (mH : MedState (HSched XTime)) (x : X3) : Prop :=
  (T3 env geo mw S needs).ReachD W ss cs mH x

variable {ss : List (Step XTime)} {cs : List (Committed XTime)} {mH : MedState (HSched XTime)} {x : X3}

theorem reachD3_reach3 (H : Hyp3L env mw S) (hW : 0 < W) (hr : ReachD3 env geo mw S needs W ss cs mH x)
    (ntH : NoTies xcfg xcfg.finite (fun _ => none) cs) :
    ∃ m : SM, Reach3 env geo mw S needs (oraclesOf ss) cs (x.toSys m) ∧ m.act = mH.act ∧ m.preceding = mH.preceding := by
  obtain ⟨m, hreach, ha, hp⟩ := reachD_reach (T := T3 env geo mw S needs) (hyp3_static H) hW hr ntH
  exact ⟨m, reach3_to hreach, ha, hp⟩

theorem resumed_is_uninterrupted3 (H : Hyp3L env mw S) (hW : 0 < W) (hr : ReachD3 env geo mw S needs W ss cs mH x) :
    ∃ m' : MedState (HSched XTime), ReachD3 env geo mw S needs W (ss.filter notDump) cs m' x ∧ StRel (LiveEq xcfg) m' mH :=
  resumed_is_uninterrupted (T := T3 env geo mw S needs) (hyp3_static H) hW hr

theorem resumed_commits_uninterrupted3 (H : Hyp3L env mw S) (hW : 0 < W) (hr : ReachD3 env geo mw S needs W ss cs mH x) :
    (runLegsE (mwire mw.w S needs) (heapI xcfg W) (MedState.init (heapI xcfg W) (mwire mw.w S needs).w) (oraclesOf ss)).1 = cs :=
  resumed_commits_uninterrupted (T := T3 env geo mw S needs) (hyp3_static H) hW hr

theorem joint_inv3_resumed (H : Hyp3L env mw S) (hW : 0 < W) (hr : ReachD3 env geo mw S needs W ss cs mH x)
    (ntH : NoTies xcfg xcfg.finite (fun _ => none) cs) (nt : TieFree3 mw cs) :
    ∃ m : SM, m.act = mH.act ∧ m.preceding = mH.preceding ∧ JInv3 env mw S needs cs (x.toSys m) := by
  obtain ⟨m, hreach, ha, hp⟩ := reachD3_reach3 H hW hr ntH
  exact ⟨m, ha, hp, joint_inv3 H hreach nt⟩

theorem c09_fresh_closed3_resumed (H : Hyp3L env mw S) (hW : 0 < W) (hr : ReachD3 env geo mw S needs W ss cs mH x)
    (ntH : NoTies xcfg xcfg.finite (fun _ => none) cs) (nt : TieFree3 mw cs) (h2 : 2 ≤ cs.length) :
    ∃ hi : Inv3 env mw ⟨x.csPrev, .leaf, x.occs⟩,
      (∀ T, (world3 env mw).live T → Fresh (world3 env mw) ⟨x.mid, x.ids, ⟨_, hi⟩⟩ T) ∧
      Act.Run mw.w (world3 env mw) (Tr3 env mw) S ⟨x.mid, x.ids, ⟨_, hi⟩⟩ := by
  obtain ⟨m, hreach, _, _⟩ := reachD3_reach3 H hW hr ntH
  exact c09_fresh_closed3 H hreach nt h2

theorem c12_rootConsistent_closed3_resumed (H : Hyp3L env mw S) (hW : 0 < W) (hr : ReachD3 env geo mw S needs W ss cs mH x)
    (ntH : NoTies xcfg xcfg.finite (fun _ => none) cs) (nt : TieFree3 mw cs) :
    AllGood env.base.d env.base.L x.cs ∧ CW2.Uniform env.base.nPer x.cs ∧ (∀ c ∈ x.cs, RootConsistent env.base.L c) ∧
      (AllRest x.cs ∨ ∃ sq, OneChainM x.cs sq .leaf) := by
  obtain ⟨m, hreach, _, _⟩ := reachD3_reach3 H hW hr ntH
  exact c12_rootConsistent_closed3 H hreach nt

theorem staysInRecordedCell_closed3_resumed (H : Hyp3L env mw S) (hW : 0 < W) (hr : ReachD3 env geo mw S needs W ss cs mH x)
    (ntH : NoTies xcfg xcfg.finite (fun _ => none) cs) (nt : TieFree3 mw cs) {cl : Committed XTime}
    (hl : cs.getLast? = some cl) {E : TaggerIdx} (hE : owner mw.w.wires cl.handler = some E) {lab : Nat}
    (hlab : lab < mw.w.labels.length) (haff : affects (mw.w.tagger E) (.cell lab) = false) :
    StaysInRecordedCell env.base.nPer (env.oe lab) (getOcc x.occs lab) x.cs := by
  obtain ⟨m, hreach, _, _⟩ := reachD3_reach3 H hW hr ntH
  exact staysInRecordedCell_closed3 H hreach nt hl hE hlab haff

theorem c11_consistent_closed3_resumed (H : Hyp3L env mw S) (hW : 0 < W) (hr : ReachD3 env geo mw S needs W ss cs mH x)
    (ntH : NoTies xcfg xcfg.finite (fun _ => none) cs) (nt : TieFree3 mw cs) {lab : Nat} (hlab : lab < mw.w.labels.length) :
    ConsistentOcc (env.oe lab).relevant (unitsOn env.base.nPer (env.oe lab).level (CW2.flags x.csPrev)) (getOcc x.occs lab) := by
  obtain ⟨m, hreach, _, _⟩ := reachD3_reach3 H hW hr ntH
  exact c11_consistent_closed3 H hreach nt hlab

theorem commit_times_sorted_closed3_resumed (H : Hyp3L env mw S) (hW : 0 < W) (hr : ReachD3 env geo mw S needs W ss cs mH x)
    (ntH : NoTies xcfg xcfg.finite (fun _ => none) cs) (nt : TieFree3 mw cs) :
    cs.Pairwise (fun a b => xcfg.lt b.time a.time = false) := by
  obtain ⟨m, hreach, _, _⟩ := reachD3_reach3 H hW hr ntH
  exact commit_times_sorted_closed3 H hreach nt

theorem no_sample_skipped3_resumed (H : Hyp3L env mw S) (hW : 0 < W) (hr : ReachD3 env geo mw S needs W ss cs mH x)
    (ntH : NoTies xcfg xcfg.finite (fun _ => none) cs) {k : Nat} {cm : Committed XTime} (hk : cs[k]? = some cm)
    {hs : HandlerId} {ts : XTime} (hkind : kindOfH mw.w hs = .sampling)
    (hp : pendPushed (pendOf (fun _ => none) (cs.take k)) cm hs = some ts) (hfin : xcfg.finite ts = true) :
    xcfg.lt ts cm.time = false ∧ (cm.handler = hs → cm.time = ts) := by
  obtain ⟨m, hreach, _, _⟩ := reachD3_reach3 H hW hr ntH
  exact no_sample_skipped3 H hreach hk hkind hp hfin

theorem reach3_reachD3 (H : Hyp3L env mw S) (hW : 0 < W) (ss : List (Step XTime)) {s : Sys3}
    (hr : Reach3 env geo mw S needs (oraclesOf ss) cs s) (ntH : NoTies xcfg xcfg.finite (fun _ => none) cs) :
    ∃ mH : MedState (HSched XTime), ReachD3 env geo mw S needs W ss cs mH (xOf3 s) ∧ mH.act = s.med.act ∧
      mH.preceding = s.med.preceding :=
  reach_reachD (T := T3 env geo mw S needs) (hyp3_static H) hW ss (reach3_of hr) ntH

end

/-! ## non-vacuity on the four-leg run of `dipoles/cell_bounded.ini` -/

namespace Example
open JF.SystemInv3Loop.Example

abbrev W32 : Nat := 4294967296

/-- `NoTies` holds for the four commits (0, 1/8, 1/2, 5/8) -/
theorem noTies4 : NoTies xcfg xcfg.finite (fun _ => none) cs4c :=
  noTies_of_check _ _ [] (fun h t e => by cases e) (by rw [cs4c_eq]; decide +kernel)

/-- the four legs with dumps before the first leg, after legs 1, 2 (twice) and 4 -/
def steps4 : List (Step XTime) :=
  [.dump, .leg (mkO s0.cs [occ0] cand1), .dump, .leg (mkO s1.cs occs1 cand2), .dump, .dump, .leg (mkO s2.cs occs2 cand3),
   .leg (mkO s3.cs occs3 cand4), .dump]

theorem dumped4 : ∃ mH : MedState (HSched XTime), ReachD3 env geo mw 9 needs W32 steps4 cs4c mH (xOf3 s4) ∧
    mH.act = s4.med.act ∧ mH.preceding = s4.med.preceding :=
  reach3_reachD3 hyp (by decide) steps4 (show Reach3 env geo mw 9 needs (oraclesOf steps4) cs4c s4 from reach4) noTies4

example : ∃ (mH : MedState (HSched XTime)) (m : SM), m.act = mH.act ∧ m.preceding = mH.preceding ∧
    JInv3 env mw 9 needs cs4c ((xOf3 s4).toSys m) := by
  obtain ⟨mH, hD, _, _⟩ := dumped4
  obtain ⟨m, h1, h2, h3⟩ := joint_inv3_resumed hyp (by decide) hD noTies4 tieFree4
  exact ⟨mH, m, h1, h2, h3⟩

example : ∃ hi : Inv3 env mw ⟨s4.csPrev, .leaf, s4.occs⟩,
    ∀ T, (world3 env mw).live T → Fresh (world3 env mw) ⟨s4.mid, s4.ids, ⟨_, hi⟩⟩ T := by
  obtain ⟨mH, hD, _, _⟩ := dumped4
  obtain ⟨hi, h, _⟩ := c09_fresh_closed3_resumed hyp (by decide) hD noTies4 tieFree4 (by decide)
  exact ⟨hi, h⟩

example : cs4c.Pairwise (fun a b => xcfg.lt b.time a.time = false) := by
  obtain ⟨mH, hD, _, _⟩ := dumped4
  exact commit_times_sorted_closed3_resumed hyp (by decide) hD noTies4 tieFree4

example : ∃ mH m' : MedState (HSched XTime), ReachD3 env geo mw 9 needs W32 (steps4.filter notDump) cs4c m' (xOf3 s4) ∧
    StRel (LiveEq xcfg) m' mH := by
  obtain ⟨mH, hD, _, _⟩ := dumped4
  obtain ⟨m', h1, h2⟩ := resumed_is_uninterrupted3 hyp (by decide) hD
  exact ⟨mH, m', h1, h2⟩

end Example

end JF.SystemInvResume2.Cells
