/-
The hypothesis `FootprintsSound` of C09's freshness theorem and of C08's clause-(h) link, discharged for a concrete world of point
masses: the shipped coulomb_atoms configurations.

Model: `JF/Model/ConcreteWorld.lean` (namespace `JF.CW`): point masses (`Kin.step`, C07) + one carried `SingleActiveCellOccupancy`
(`Occ.update`, C11) + the yields of the tagger classes (`CellTaggers`, C10) + handler kind ↦ event kind.  Lemmas:
`JF/Lemmas/ConcreteWorld.lean`.  Everything here holds for an ARBITRARY scalar type (exact or binary64 reading): positions enter the
yields only through `Env.cellOf`.  `Example` is a run of `cell_bounded.ini` with three point masses (non-vacuity).

FINDING about the tables — `Example.quiet_commit_needs_premise`: `affects (sampling|dumping|endOfRun) (.cell l) = false` holds only
under the C11 history premise `StaysInRecordedCell`, which is therefore part of `Tr` for those kinds.

Hypotheses of THIS file: that premise (discharged for the composed system by `staysInRecordedCell_closed` and `c09_fresh_closed` in
`JF/Props/SystemInv.lean`; its geometric core is `JF.Links.active_unit_stays_in_recorded_cell`), and the modelling assumptions of the
world (point masses, one pair-factor type).
-/
import JF.Lemmas.ConcreteWorld
import JF.Props.C09
import JF.Props.C08
import JF.Gen.Wirings
import JF.Gen.WiringsSound
namespace JF.Footprints
open JF JF.Act JF.CW

section
variable {α : Type} [Add α] [Sub α] [Mul α] [LT α] [DecidableLT α] [BEq α]

/-- **the footprint tables are sound for the concrete world**: for every wiring of this world (`Supported`), if the effect
footprint `affects (tagger E)` and the dependency footprint `reads (tagger T)` are disjoint, a commit by a handler of `E`
(`Tr`: the `Kin.step` of an event of `E`'s kind, then the activator's occupancy update) does not change what `T` yields, as far
as C09's comparison for `T` sees it.  The states are the consistent ones (`CW.G`; consistency is preserved by every raw
transition: `CW.trRaw_consistent`), and a commit of a sampling / dumping / end-of-run event carries the C11 history premise
`StaysInRecordedCell` (see `Example.quiet_commit_needs_premise` below: without it the table entry `affects · (.cell l) = false` is wrong). -/
theorem footprintsSound_concrete (env : Env α) (c : Wiring) (hs : Supported c = true) :
    FootprintsSound c (world env c) (Tr env c) := by
  constructor
  rintro E T ⟨g, hgc⟩ ⟨g', _⟩ ⟨hstep, hocc, hprem⟩ hd
  show ((yieldCls env (c.tagger T).cls g').map (viewOf (c.tagger T))).Perm
    ((yieldCls env (c.tagger T).cls g).map (viewOf (c.tagger T)))
  simp only [] at hstep hocc hprem
  generalize hO : hasOccOf c = hasOcc at hgc hocc hprem
  -- a commit that does not affect `.ident` keeps the active units
  have quiet_ident : reads (c.tagger T) .ident = true →
      movers g'.us = movers g.us ∧ g'.us.length = g.us.length :=
    fun hr => movers_of_identQuiet (identQuiet_of_affects (ident_false_of_disjoint hd hr)) hstep
  rcases supported_tagger hs T with hT | ⟨hTc, _⟩
  case inr => rw [hTc]; exact List.Perm.refl _
  by_cases hcell : CW3.isCellCls (c.tagger T).cls = true
  · -- the five cell taggers read `.ident`: the active unit is the same, and `update` for it leaves their yield alone
    -- (`JF/Lemmas/OccLeg.lean`), for the three that read the cell lists under the premise
    obtain ⟨hm, _⟩ := quiet_ident (CW3.reads_ident_of_cell hcell)
    rw [yieldCls_cell env hcell, yieldCls_cell env hcell]
    cases hasOcc with
    | false =>
      simp only [occAfter, Bool.false_eq_true, if_false, Option.some.injEq] at hocc
      rw [hocc]
    | true =>
      -- a commit disjoint from a tagger that reads the cell lists is a sampling / dumping / end-of-run commit: it carries the premise
      have hq : cellReading (c.tagger T).cls = true → quietKind (c.tagger E).kind = true := by
        intro hcr
        have hlab : (c.tagger T).label = some 0 ∧ c.labels.length = 1 := by
          simp [okT, hcr] at hT
          exact hT.1.2
        rcases identQuiet_of_affects (ident_false_of_disjoint hd (CW3.reads_ident_of_cell hcell)) with h | h
        · exact h
        · -- the cell-boundary handler of a supported wiring belongs to occupancy 0, whose active cell it affects
          have hc0 := cell_false_of_disjoint (l := 0) (by omega) hd (CW3.reads_cell_of_cellReading hcr hlab.1)
          rcases supported_tagger hs E with hE | ⟨_, hEk⟩
          · simp [okT, h] at hE
            simp [affects, h, hE] at hc0
          · rw [h] at hEk; cases hEk
      obtain ⟨a, hma, hu⟩ := occAfter_some hocc
      rw [(Consistent.occ hgc).yieldCell_update (hm.symm.trans hma) rfl hu fun hcr => hprem rfl (hq hcr) a hma]
  cases hcls : (c.tagger T).cls with
  | noInState | unknown | activeRootUnit => exact List.Perm.refl _
  | activeGlobalState =>
    by_cases hv : idsView (c.tagger T) = true
    · obtain ⟨hm, _⟩ := quiet_ident (by simp [reads, hcls, hv])
      simp only [yieldCls, hm]; exact List.Perm.refl _
    · simp [yieldCls, viewOf, hv]
  | factorTypeMap =>
    obtain ⟨hm, hl⟩ := quiet_ident (by simp [reads, hcls])
    simp only [yieldCls, hm, hl]; exact List.Perm.refl _
  | cellBoundary | cellVeto | cellBounding | excludedCells | surplusCells => simp [CW3.isCellCls, hcls] at hcell

end

/-! ## C09 and the C08 link at the concrete world, without the `FootprintsSound` hypothesis -/

section
variable {α : Type} [Add α] [Sub α] [Mul α] [LT α] [DecidableLT α] [BEq α]

/-- **C09 for every run of a sound, supported configuration in the concrete world**: after every commit, for every tagger except
the start-of-run tagger, the pending events are what the tagger generates from scratch for the current global state of point
masses and the current occupancy (identifier tuples for interaction-type taggers, their number for the others) -/
theorem fresh_concrete (env : Env α) (c : Wiring) (S : TaggerIdx) (sound : WiringSound c = true) (hS : c.start? = some S)
    (hs : Supported c = true) {rs : RS (G env c)} (h : Run c (world env c) (Tr env c) S rs) :
    ∀ T, (world env c).live T → Fresh (world env c) rs T :=
  JF.C09.fresh_of_wiringSound c (world env c) (Tr env c) S sound hS (footprintsSound_concrete env c hs) (liveIs env c) h

/-- **clause (h) of C08 at every step of every run in the concrete world**: when a motion-changing event is about to be
committed, every interaction / cell-veto tagger is in its trash list or has nothing pending -/
theorem clause_h_concrete (env : Env α) (c : Wiring) (S : TaggerIdx) (sound : WiringSound c = true) (hS : c.start? = some S)
    (hs : Supported c = true) {rs : RS (G env c)} (hrun : Run c (world env c) (Tr env c) S rs) {E : TaggerIdx}
    (hE : (getT rs.act E).running ≠ []) (hend : (c.tagger E).kind ≠ .endOfRun) (hm : affects (c.tagger E) .motion = true)
    {T : TaggerIdx} (hT : T < c.n) (hb : motionBound (c.tagger T) = true) :
    T ∈ (getW c.wires E).trashes ∨ (getT rs.act T).running = [] :=
  JF.C08.clause_h_of_wiringSound c (world env c) (Tr env c) S sound hS (footprintsSound_concrete env c hs) (liveIs env c)
    hrun hE hend hm hT hb

end

/-! ## the shipped coulomb_atoms configurations live in this world -/

open JF.Act.Gen

theorem supported_cell_bounded : Supported cfg_coulomb_atoms_cell_bounded = true := by decide +kernel
theorem supported_cell_veto : Supported cfg_coulomb_atoms_cell_veto = true := by decide +kernel
theorem supported_power_bounded : Supported cfg_coulomb_atoms_power_bounded = true := by decide +kernel
theorem supported_power_bounded_dump : Supported cfg_coulomb_atoms_power_bounded_dump = true := by decide +kernel

/-- the side condition is not trivially true: a configuration with composite objects is outside this world -/
example : Supported cfg_dipoles_dipole_motion = false := by decide +kernel

section
variable {α : Type} [Add α] [Sub α] [Mul α] [LT α] [DecidableLT α] [BEq α]

/-- C09 for `coulomb_atoms/cell_bounded.ini`, any number of point masses, any cell grid, any scalar type -/
theorem fresh_cell_bounded (env : Env α) {rs : RS (G env cfg_coulomb_atoms_cell_bounded)}
    (h : Run cfg_coulomb_atoms_cell_bounded (world env _) (Tr env _) 7 rs) :
    ∀ T, (world env cfg_coulomb_atoms_cell_bounded).live T → Fresh (world env _) rs T :=
  fresh_concrete env _ 7 cfg_sound_coulomb_atoms_cell_bounded (by decide) supported_cell_bounded h

theorem fresh_cell_veto (env : Env α) {rs : RS (G env cfg_coulomb_atoms_cell_veto)}
    (h : Run cfg_coulomb_atoms_cell_veto (world env _) (Tr env _) 7 rs) :
    ∀ T, (world env cfg_coulomb_atoms_cell_veto).live T → Fresh (world env _) rs T :=
  fresh_concrete env _ 7 cfg_sound_coulomb_atoms_cell_veto (by decide) supported_cell_veto h

/-- `coulomb_atoms/power_bounded.ini` has no occupancy: the carried one is never updated -/
theorem fresh_power_bounded (env : Env α) {rs : RS (G env cfg_coulomb_atoms_power_bounded)}
    (h : Run cfg_coulomb_atoms_power_bounded (world env _) (Tr env _) 3 rs) :
    ∀ T, (world env cfg_coulomb_atoms_power_bounded).live T → Fresh (world env _) rs T :=
  fresh_concrete env _ 3 cfg_sound_coulomb_atoms_power_bounded (by decide) supported_power_bounded h

theorem fresh_power_bounded_dump (env : Env α) {rs : RS (G env cfg_coulomb_atoms_power_bounded_dump)}
    (h : Run cfg_coulomb_atoms_power_bounded_dump (world env _) (Tr env _) 4 rs) :
    ∀ T, (world env cfg_coulomb_atoms_power_bounded_dump).live T → Fresh (world env _) rs T :=
  fresh_concrete env _ 4 cfg_sound_coulomb_atoms_power_bounded_dump (by decide) supported_power_bounded_dump h

end

/-! ## non-vacuity: a run of `coulomb_atoms/cell_bounded.ini` with three point masses (exact reading)

One-dimensional box of length 1 with 7 cells (one layer of nearby cells), `maximum_number_occupants = 1`, every unit relevant.
Units 0, 1, 2 at 1/14, 3/14, 9/14 (cells 0, 1, 4).  The run: start of run (unit 0 starts moving, speed 1) — a sampling event — a
cell-boundary event (unit 0 enters cell 1, which already holds unit 1) — an accepted `coulomb_nearby` event (lifting 0 → 1; unit 0
goes to the surplus of cell 1). -/

namespace Example

abbrev cfg : Wiring := cfg_coulomb_atoms_cell_bounded

def env : Env Rat :=
  { o := Ops.rat, L := [1], grid := ⟨[7], 1⟩
    cellOf := fun p => (Ops.rat.toInt (p.headD 0 * 7)).toNat
    relevant := fun _ => true }

def next (g : CState Rat) (ev : Kin.Ev Rat)
    (h : (occAfter env (hasOccOf cfg) g.occ (Kin.step env.o env.L g.us ev)).isSome = true) : CState Rat :=
  ⟨Kin.step env.o env.L g.us ev, (occAfter env (hasOccOf cfg) g.occ (Kin.step env.o env.L g.us ev)).get h⟩

theorem next_occ (g : CState Rat) (ev : Kin.Ev Rat) (h) :
    occAfter env (hasOccOf cfg) g.occ (next g ev h).us = some (next g ev h).occ := by
  simp [next]

/-- `SingleActiveCellOccupancy.initialize` on the three units -/
def c0 : CState Rat :=
  ⟨[⟨[1/14], none, none⟩, ⟨[3/14], none, none⟩, ⟨[9/14], none, none⟩], Occ.init 1 [⟨0, true, 0⟩, ⟨1, true, 1⟩, ⟨2, true, 4⟩]⟩
def c1 : CState Rat := next c0 (.start ⟨0, 0⟩ 0 [1]) (by decide +kernel)
def c2 : CState Rat := next c1 (.keep ⟨0, 1/28⟩) (by decide +kernel)
def c3 : CState Rat := next c2 (.snap ⟨0, 1/14⟩ 0 (1/7)) (by decide +kernel)
def c4 : CState Rat := next c3 (.lift ⟨0, 3/28⟩ 1) (by decide +kernel)

def g0 : G env cfg := ⟨c0, consistent_at_rest env _ _ 1 _ (by decide +kernel)⟩
def g1 : G env cfg := ⟨c1, consistent_after g0.2 (next_occ ..)⟩
def g2 : G env cfg := ⟨c2, consistent_after g1.2 (next_occ ..)⟩
def g3 : G env cfg := ⟨c3, consistent_after g2.2 (next_occ ..)⟩
def g4 : G env cfg := ⟨c4, consistent_after g3.2 (next_occ ..)⟩

/-- the states are what the description says: after the lifting unit 1 is active in cell 1, unit 0 sits in the surplus of cell 1 -/
example : movers c4.us = [1] ∧ c4.occ.activeCell = some 1 ∧ c4.occ.surplus = [(1, [0])] ∧ c4.occ.occupants 4 = [2] := by
  decide +kernel

abbrev W : World (G env cfg) := world env cfg

def s0 : Act := ((first cfg.wires (initAct cfg.wires) 7 (fun T => W.yieldOf T g0)).get (by decide +kernel)).1
def out0 : List (HandlerId × IdTuple) :=
  ((first cfg.wires (initAct cfg.wires) 7 (fun T => W.yieldOf T g0)).get (by decide +kernel)).2
def rs1 : RS (G env cfg) := (commit cfg.wires W ⟨s0, assign (fun _ => none) out0, g0⟩ 7 g1).get (by decide +kernel)
def rs2 : RS (G env cfg) := (commit cfg.wires W rs1 4 g2).get (by decide +kernel)      -- sampling
def rs3 : RS (G env cfg) := (commit cfg.wires W rs2 2 g3).get (by decide +kernel)      -- cell boundary
def rs4 : RS (G env cfg) := (commit cfg.wires W rs3 1 g4).get (by decide +kernel)      -- coulomb_nearby: lifting 0 → 1

/-- the sampling commit is an instance of `Tr`, premise included: at its time unit 0 is still in its recorded cell 0 -/
theorem tr_sampling : Tr env cfg 4 g1 g2 := by
  refine ⟨Or.inl ⟨.keep ⟨0, 1/28⟩, rfl, rfl⟩, next_occ .., fun _ _ a hm _ => ?_⟩
  have h0 : movers c2.us = [0] := by decide +kernel
  have : a = 0 := by
    have := h0.symm.trans hm
    simpa using this.symm
  subst this
  show c1.occ.activeCell = some (unitIn env c2.us 0).cell
  decide +kernel

theorem tr_cell_boundary : Tr env cfg 2 g2 g3 :=
  ⟨Or.inl ⟨.snap ⟨0, 1/14⟩ 0 (1/7), rfl, rfl⟩, next_occ .., fun _ h => absurd h (by decide)⟩

theorem tr_lift : Tr env cfg 1 g3 g4 :=
  ⟨Or.inl ⟨.lift ⟨0, 3/28⟩ 1, rfl, rfl⟩, next_occ .., fun _ h => absurd h (by decide)⟩

theorem commit1 : commit cfg.wires W ⟨s0, assign (fun _ => none) out0, g0⟩ 7 g1 = some rs1 := by simp [rs1]
theorem commit2 : commit cfg.wires W rs1 4 g2 = some rs2 := by simp [rs2]
theorem commit3 : commit cfg.wires W rs2 2 g3 = some rs3 := by simp [rs3]
theorem commit4 : commit cfg.wires W rs3 1 g4 = some rs4 := by simp [rs4]

theorem run1 : Run cfg W (Tr env cfg) 7 rs1 :=
  .start (fun _ => none) g0 g1 s0 out0 rs1
    (Option.some_get (x := first cfg.wires (initAct cfg.wires) 7 (fun T => W.yieldOf T g0)) (by decide +kernel)).symm commit1

/-- The committing tagger of each step has a pending handler.  Not by evaluating the activator state: no tagger of this wiring is
ever deactivated, and C09 for the run so far says that an activated tagger has as many pending handlers as it yields in-states on
the current global state. -/
theorem pending_of_run {rs : RS (G env cfg)} (r : Run cfg W (Tr env cfg) 7 rs) {E : TaggerIdx} (hE : E < cfg.n)
    (hk : (cfg.tagger E).kind ≠ .startOfRun) {g} (hg : rs.g = g) (hy : W.yieldOf E g ≠ []) : (getT rs.act E).running ≠ [] :=
  run_pending cfg W (Tr env cfg) 7 cfg_sound_coulomb_atoms_cell_bounded (by decide)
    (footprintsSound_concrete env cfg supported_cell_bounded) (liveIs env cfg) r hE hk
    (aGet_of_reach_all (by decide +kernel) hE) hg hy

theorem run2 : Run cfg W (Tr env cfg) 7 rs2 :=
  .step rs1 rs2 4 g2 run1
    (pending_of_run run1 (by decide) (by decide) (commit_g commit1) (by decide +kernel))
    (by decide) (commit_g commit1 ▸ tr_sampling) commit2

theorem run3 : Run cfg W (Tr env cfg) 7 rs3 :=
  .step rs2 rs3 2 g3 run2
    (pending_of_run run2 (by decide) (by decide) (commit_g commit2) (by decide +kernel))
    (by decide) (commit_g commit2 ▸ tr_cell_boundary) commit3

theorem pending3 : (getT rs3.act 1).running ≠ [] :=
  pending_of_run run3 (by decide) (by decide) (commit_g commit3) (by decide +kernel)

theorem run4 : Run cfg W (Tr env cfg) 7 rs4 :=
  .step rs3 rs4 1 g4 run3 pending3 (by decide) (commit_g commit3 ▸ tr_lift) commit4

example : ∀ T, W.live T → Fresh W rs4 T := fresh_cell_bounded env run4

/-- `Fresh` speaks about non-empty pending lists here: the surplus tagger's one pending event carries the factor (1, 0), the
cell-bounding tagger's the tuple (1, 2) of the active unit and the occupant of the far cell 4, the cell-boundary tagger's `(1,)` -/
example : (getT rs4.act 3).running.map rs4.ids = [some [[1], [0]]] ∧ (getT rs4.act 0).running.map rs4.ids = [some [[1], [2]]]
    ∧ (getT rs4.act 2).running.map rs4.ids = [some [[1]]] ∧ (getT rs4.act 1).running = [] := by decide +kernel

/-- clause (h) before the lifting is committed (`rs3`; the committing tagger `coulomb_nearby` changes motion) -/
example : 0 ∈ (getW cfg.wires 1).trashes ∨ (getT rs3.act 0).running = [] :=
  clause_h_concrete env cfg 7 cfg_sound_coulomb_atoms_cell_bounded (by decide) supported_cell_bounded
    run3 pending3 (by decide) (by decide) (by decide) (by decide)

/-! ### the premise of the quiet commits is needed

Two units: unit 0 active in cell 0 (x = 1/14, velocity 1 since time 0), unit 1 at rest at 1/2 (cell 3, not nearby cell 0).  A
sampling event at time 2/7 time-slices unit 0 to 5/14 (cell 2); `update` then records cell 2, and cell 3 is nearby cell 2: the
cell-bounding tagger yields one tuple before and none afterwards (the excluded-cells tagger none before and one afterwards), although
`affects sampling (.cell 0) = false` declares the pair disjoint.  In a run this does not happen because the cell-boundary event of
unit 0 (time 1/14) is pending and earlier — which is the premise. -/

def d0 : CState Rat :=
  ⟨[⟨[1/14], some [1], some ⟨0, 0⟩⟩, ⟨[1/2], none, none⟩],
   { cap := 1, occupants := fun c => if c = 3 then [1] else [], surplus := [], activeId := some 0, activeCell := some 0 }⟩
def d1 : CState Rat := next d0 (.keep ⟨0, 2/7⟩) (by decide +kernel)

/-- **finding about the table**: without `StaysInRecordedCell` the entry `affects (sampling | dumping | endOfRun) (.cell l) = false`
is wrong for the concrete world — a consistent state, a sampling commit (`keep` + occupancy update), a tagger pair the tables
declare disjoint (`sampling` → `coulomb_cell_bounding`), and the yield changes -/
theorem quiet_commit_needs_premise :
    Consistent env (hasOccOf cfg) d0 ∧ TrNoPremise env (hasOccOf cfg) (cfg.tagger 4).kind d0 d1 ∧
    disjointFP cfg (cfg.tagger 4) (cfg.tagger 0) = true ∧ ¬ StaysInRecordedCell env d0.occ d1.us ∧
    yieldCls env (cfg.tagger 0).cls d0 = [some [[0], [1]]] ∧ yieldCls env (cfg.tagger 0).cls d1 = [] ∧
    yieldCls env (cfg.tagger 1).cls d0 = [] ∧ yieldCls env (cfg.tagger 1).cls d1 = [some [[0], [1]]] ∧
    ¬ ((yieldCls env (cfg.tagger 0).cls d1).map (viewOf (cfg.tagger 0))).Perm
        ((yieldCls env (cfg.tagger 0).cls d0).map (viewOf (cfg.tagger 0))) := by
  refine ⟨by decide +kernel, ⟨Or.inl ⟨.keep ⟨0, 2/7⟩, rfl, rfl⟩, next_occ ..⟩, by decide, ?_, by decide +kernel, by decide +kernel,
    by decide +kernel, by decide +kernel, fun h => absurd h.length_eq (by decide +kernel)⟩
  intro h
  have := h 0 (by decide +kernel) rfl
  revert this
  decide +kernel

end Example

end JF.Footprints
