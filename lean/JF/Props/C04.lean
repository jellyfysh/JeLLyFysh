import JF.Model.Thinning
import Mathlib.MeasureTheory.Measure.Lebesgue.Basic
import Mathlib.Tactic.Linarith
import Mathlib.Tactic.Ring
import Mathlib.Tactic.Positivity
import Mathlib.Tactic.FieldSimp
import Mathlib.Algebra.Order.Field.Basic
import Mathlib.Order.Interval.Set.Basic
import Mathlib.Algebra.BigOperators.Group.List.Basic
/-!
# C04 — Thinning is sound: the bounding rate dominates and acceptance is the exact ratio

Theorems about the model `JF.Model.Thinning` (the model is tied to /repo by the correspondence run of
`harness/props/c04.py`, bit for bit, for the handlers that confirm events against a bounding rate, kinds 1–8).

* Part A (kernel, exact reading `α = ℚ`): the draws the comparisons of the handlers accept form the interval
  `[0, max(0,q)/b)`, of Lebesgue measure `max(0,q)/b` in the real reading; the summed bound dominates.
* Part B (handlers of kinds 1–6, **every scalar type and every `Ops`**, so also binary64): `send_out_state` confirms
  exactly when the kernel comparison says so, an unconfirmed event returns the proposal state unchanged (all velocities,
  time stamps, positions, identifiers), the warning is a flag and never changes the outcome.
* Part C (exact reading): A and B combined: with a dominating bound, P(confirm) = max(0,q)/b.
* Parts D, E: the scaled 1/r bound: "every charge sign, every separation of the minimum-image cube, every direction"
  reduces to the hypothesis `Dominates` on the positive half for unit charges; combined with C (hence `_partial`).
* Part F: the derivatives `_fill_lifting` hands to the lifting scheme sum to zero.
* Part G: what a confirmed event between two atoms does.
* Part H: B, C and E again for the root-unit-active handlers (kinds 7, 8).

`Dominates` itself (a supremum of a transcendental ratio with margin 1e-4) is a HYPOTHESIS: it is not proved
here; the check searches for a failing input numerically on the compiled C routines.
-/
namespace JF.C04
open JF JF.Thin MeasureTheory

/-! ## Part A — the decision kernel, exact reading -/

@[simp] theorem rat0 : Ops.rat.ofInt 0 = (0:ℚ) := Int.cast_zero
theorem confirmLeaf_iff (q d : ℚ) : confirmLeaf Ops.rat q d = true ↔ 0 < q ∧ d < q := by
  simp only [confirmLeaf, rat0, Bool.and_eq_true, decide_eq_true_eq]
theorem confirmComposite_iff (e d : ℚ) : confirmComposite e d = true ↔ d < e := by
  simp only [confirmComposite, Bool.not_eq_true', decide_eq_false_iff_not, not_le]
theorem pymax0_eq (x : ℚ) : pymax0 Ops.rat x = max 0 x := by
  unfold pymax0; rw [rat0]
  split
  · next h => exact (max_eq_right h.le).symm
  · next h => exact (max_eq_left (not_lt.mp h)).symm
theorem pyUniform_rat (b r : ℚ) : pyUniform (Ops.rat.ofInt 0) b r = b * r := by
  rw [pyUniform, rat0, zero_add, sub_zero]
theorem warns_iff (b q : ℚ) : warns Ops.rat b q = true ↔ 0 < q ∧ b < q := by
  simp only [warns, rat0, Bool.and_eq_true, decide_eq_true_eq]
theorem warns_false_of_le (b q : ℚ) (h : q ≤ b) : warns Ops.rat b q = false :=
  Bool.eq_false_iff.mpr fun hw => absurd ((warns_iff b q).mp hw).2 (not_lt.mpr h)
theorem warns_false_of_nonpos (b q : ℚ) (h : q ≤ 0) : warns Ops.rat b q = false :=
  Bool.eq_false_iff.mpr fun hw => absurd ((warns_iff b q).mp hw).1 (not_lt.mpr h)
theorem confirmLeaf_false_of_nonpos (q d : ℚ) (h : q ≤ 0) : confirmLeaf Ops.rat q d = false :=
  Bool.eq_false_iff.mpr fun hc => absurd ((confirmLeaf_iff q d).mp hc).1 (not_lt.mpr h)

theorem lt_max0_iff {K : Type} [LinearOrder K] [Zero K] (q d : K) (hd : 0 ≤ d) : d < max 0 q ↔ 0 < q ∧ d < q := by
  rw [lt_max_iff, or_iff_right (not_lt.mpr hd)]
  exact ⟨fun h => ⟨lt_of_le_of_lt hd h, h⟩, And.right⟩

/-- for non-negative draws the two ways the handlers write the comparison accept the same draws:
exactly those below `max 0 q` -/
theorem accept_iff_lt_max (q d : ℚ) (hd : 0 ≤ d) :
    (confirmLeaf Ops.rat q d = true ↔ d < max 0 q) ∧
    (confirmComposite (pymax0 Ops.rat q) d = true ↔ d < max 0 q) := by
  rw [confirmLeaf_iff, confirmComposite_iff, pymax0_eq]
  exact ⟨(lt_max0_iff q d hd).symm, Iff.rfl⟩

theorem accept_unit_iff (b q r : ℚ) (hb : 0 < b) (hr : 0 ≤ r) :
    confirmLeaf Ops.rat q (pyUniform (Ops.rat.ofInt 0) b r) = true ↔ r < max 0 q / b := by
  rw [pyUniform_rat, (accept_iff_lt_max q (b * r) (mul_nonneg hb.le hr)).1, lt_div_iff₀ hb, mul_comm]

theorem accept_Ico {K : Type} [Preorder K] [Zero K] [One K] (t : K) (ht : t ≤ 1) (P : K → Prop)
    (hP : ∀ r, 0 ≤ r → (P r ↔ r < t)) : {r : K | 0 ≤ r ∧ r < 1 ∧ P r} = Set.Ico 0 t := by
  ext r
  constructor
  · rintro ⟨h0, _, h⟩
    exact ⟨h0, (hP r h0).mp h⟩
  · rintro ⟨h0, h⟩
    exact ⟨h0, lt_of_lt_of_le h ht, (hP r h0).mpr h⟩

theorem accept_set (b q : ℚ) (hb : 0 < b) (hq : q ≤ b) :
    {r : ℚ | 0 ≤ r ∧ r < 1 ∧ confirmLeaf Ops.rat q (pyUniform (Ops.rat.ofInt 0) b r) = true}
      = Set.Ico 0 (max 0 q / b) ∧ 0 ≤ max 0 q / b ∧ max 0 q / b ≤ 1 :=
  have h1 : max 0 q / b ≤ 1 := (div_le_one hb).mpr (max_le hb.le hq)
  ⟨accept_Ico _ h1 _ fun r hr => accept_unit_iff b q r hb hr, div_nonneg (le_max_left _ _) hb.le, h1⟩

theorem thinned_rate (b q : ℚ) (hb : 0 < b) : b * (max 0 q / b) = max 0 q :=
  mul_div_cancel₀ _ hb.ne'

theorem summedBound_eq (bds : List ℚ) : summedBound Ops.rat bds = (bds.map (max 0)).sum := by
  rw [List.sum_eq_foldl, List.foldl_map]
  simp only [summedBound, pymax0_eq, rat0]

theorem factorDerivative_eq (qs : List ℚ) : factorDerivative Ops.rat qs = qs.sum := by
  rw [List.sum_eq_foldl, factorDerivative, rat0]

theorem sum_max0_nonneg (bds : List ℚ) : 0 ≤ (bds.map (max 0)).sum :=
  List.sum_nonneg (List.forall_mem_map.2 fun b _ => le_max_left 0 b)

/-- hence `uniform(0.0, bound)` is a draw from `[0, bound]` -/
theorem summedBound_nonneg (bds : List ℚ) : 0 ≤ summedBound Ops.rat bds := by
  rw [summedBound_eq]
  exact sum_max0_nonneg bds

/-- the summed bound dominates already when every pairwise true derivative is below the *positive part* of its
pairwise bound (a negative pairwise bound contributes `0` to the sum) -/
theorem summed_dominates' (qs bds : List ℚ) (h : List.Forall₂ (fun q b => q ≤ max 0 b) qs bds) :
    max 0 qs.sum ≤ (bds.map (max 0)).sum :=
  max_le (sum_max0_nonneg bds) (List.Forall₂.sum_le_sum (List.forall₂_map_right_iff.mpr h))

theorem summed_dominates (qs bds : List ℚ) (h : List.Forall₂ (· ≤ ·) qs bds) :
    pymax0 Ops.rat (factorDerivative Ops.rat qs) ≤ summedBound Ops.rat bds := by
  rw [pymax0_eq, summedBound_eq, factorDerivative_eq]
  exact summed_dominates' qs bds (h.imp fun q b hqb => hqb.trans (le_max_right 0 b))

/-! ### the probability statement proper (real reading, Lebesgue measure on `random()` ∈ [0,1)) -/

/-- an `Ops ℝ` for the real reading (only the literal `ofInt` is used by the comparisons) -/
noncomputable def Ops.real0 : Ops ℝ where
  ofInt n := (n : ℝ)
  floor x := (⌊x⌋ : ℝ)
  fmod x _ := x
  toInt x := ⌊x⌋
  isInf _ := false
  zeroLike _ := 0
  sqrt x := x

theorem volume_accept (t : ℝ) (ht : t ≤ 1) (P : ℝ → Prop) (hP : ∀ r, 0 ≤ r → (P r ↔ r < t)) :
    volume {r : ℝ | r ∈ Set.Ico (0:ℝ) 1 ∧ P r} = ENNReal.ofReal t := by
  rw [show {r : ℝ | r ∈ Set.Ico (0:ℝ) 1 ∧ P r} = {r | 0 ≤ r ∧ r < 1 ∧ P r} from Set.ext fun r => and_assoc,
    accept_Ico t ht P hP, Real.volume_Ico, sub_zero]

/-- **The acceptance probability is exactly the ratio.**  Real reading of the comparison the handlers make
(`α = ℝ`, any `Ops ℝ` whose literal `0` is `0`): if `random()` is uniform on `[0,1)` (Lebesgue measure), the set of
values for which `random.uniform(0, b) < q` confirms the event has measure `max(0,q)/b`, for every bound `b > 0`
that dominates `q`. -/
theorem accept_probability (o : Ops ℝ) (ho : o.ofInt 0 = 0) (b q : ℝ) (hb : 0 < b) (hq : q ≤ b) :
    volume {r : ℝ | r ∈ Set.Ico (0:ℝ) 1 ∧ confirmLeaf o q (pyUniform (o.ofInt 0) b r) = true}
      = ENNReal.ofReal (max 0 q / b) := by
  refine volume_accept _ ((div_le_one hb).mpr (max_le hb.le hq)) _ fun r hr => ?_
  simp only [confirmLeaf, pyUniform, ho, zero_add, sub_zero, Bool.and_eq_true, decide_eq_true_eq]
  rw [← lt_max0_iff q (b * r) (mul_nonneg hb.le hr), lt_div_iff₀ hb, mul_comm]

/-- the same for the comparison of the composite-object handlers, `event_rate <= uniform(0.0, B)` rejects, with
`event_rate = max(0.0, Σ q_i)` -/
theorem accept_probability_composite (o : Ops ℝ) (ho : o.ofInt 0 = 0) (B fd : ℝ) (hB : 0 < B)
    (hE : max 0 fd ≤ B) :
    volume {r : ℝ | r ∈ Set.Ico (0:ℝ) 1 ∧ confirmComposite (pymax0 o fd) (pyUniform (o.ofInt 0) B r) = true}
      = ENNReal.ofReal (max 0 fd / B) := by
  have hmax : pymax0 o fd = max 0 fd := by
    unfold pymax0; rw [ho]
    split
    · next h => exact (max_eq_right h.le).symm
    · next h => exact (max_eq_left (not_lt.mp h)).symm
  refine volume_accept _ ((div_le_one hB).mpr hE) _ fun r _ => ?_
  simp only [confirmComposite, pyUniform, ho, zero_add, sub_zero, hmax, Bool.not_eq_true', decide_eq_false_iff_not,
    not_le]
  rw [lt_div_iff₀ hB, mul_comm]

/-! ## Part B — the handlers, for every scalar type (in particular binary64) -/

section generic
variable {α : Type}

/-- no proposal: the cell-veto handler found the target cell empty -/
def noProposal (vk kind : Nat) (target : Option (CNode α)) : Prop := kind = vk ∧ target = none

/-- the common head of `send_out_state` of kinds 1–6: the cell-veto handler (kind `vk`) returns the in-state when
there is no target, the cell-bounding handler (kind `gk`) returns `None` when its guard fails; otherwise the rest of
the method decides the proposal -/
theorem out_of_guards (vk gk kind : Nat) (target : Option (CNode α)) (g : Bool) (st : List (CNode α)) (body : Res α)
    {st' cf w cs ins u}
    (h : (if (kind == vk && target.isNone) = true then .out st false false [] [] none
          else if (kind == gk && !g) = true then .invalid else body) = Res.out st' cf w cs ins u) :
    (noProposal vk kind target → cf = false ∧ st' = st ∧ u = none) ∧
    (¬ noProposal vk kind target → body = .out st' cf w cs ins u) := by
  by_cases hk : (kind == vk && target.isNone) = true
  · rw [if_pos hk] at h
    cases h
    rw [Bool.and_eq_true, beq_iff_eq, Option.isNone_iff_eq_none] at hk
    exact ⟨fun _ => ⟨rfl, rfl, rfl⟩, fun hn => absurd hk hn⟩
  · rw [if_neg hk] at h
    rw [Bool.and_eq_true, beq_iff_eq, Option.isNone_iff_eq_none] at hk
    refine ⟨fun hn => absurd hn hk, fun _ => ?_⟩
    by_cases hg : (kind == gk && !g) = true
    · rw [if_pos hg] at h
      cases h
    · rwa [if_neg hg] at h

variable [Add α] [Sub α] [Mul α] [Neg α] [LT α] [DecidableLT α] [BEq α]

section leaf

theorem calcLeaf_spec (o : Ops α) (c : Consts α) (et : Time α) (st : List (CNode α)) (ai : Nat) (b q draw : α)
    (calls : List (Call α)) {st' cf w cs ins u}
    (h : calcLeaf o c et st ai b q draw calls = .out st' cf w cs ins u) :
    cf = confirmLeaf o q draw ∧ (cf = false → st' = st) ∧ w = warns o b q ∧ ins = []
      ∧ (u = if o.ofInt 0 < q then some b else none) := by
  unfold calcLeaf at h
  by_cases hl : ((leafRefs st).length != 2) = true
  · rw [if_pos hl] at h
    cases h
  rw [if_neg hl] at h
  by_cases hq : o.ofInt 0 < q
  · rw [if_pos hq] at h ⊢
    by_cases hd : draw < q
    · rw [if_pos hd] at h
      split at h
      · split at h
        · cases h
          exact ⟨by simp only [confirmLeaf, hq, hd, decide_true, Bool.and_self], nofun, rfl, rfl, rfl⟩
        · cases h
      · cases h
    · rw [if_neg hd] at h
      cases h
      exact ⟨by simp only [confirmLeaf, hd, decide_false, Bool.and_false], fun _ => rfl, rfl, rfl, rfl⟩
  · rw [if_neg hq] at h
    cases h
    exact ⟨by simp only [confirmLeaf, hq, decide_false, Bool.false_and], fun _ => rfl,
      by simp only [warns, hq, decide_false, Bool.false_and], rfl, (if_neg hq).symm⟩

variable [Div α]

theorem sendLeaf_spec (o : Ops α) (c : Consts α) (kind : Nat) (uc : Bool) (et : Time α) (st : List (CNode α))
    (target : Option (CNode α)) (g : Bool) (b q : α) (dr : Draw α) {st' cf w cs ins u}
    (h : sendLeaf o c kind uc et st target g b q dr = .out st' cf w cs ins u) :
    (noProposal 3 kind target → cf = false ∧ st' = st ∧ u = none) ∧
    (¬ noProposal 3 kind target →
        cf = confirmLeaf o q (dr.get o b) ∧ (cf = false → st' = proposalState 3 kind st target)
        ∧ w = warns o b q ∧ (u = if o.ofInt 0 < q then some b else none)) := by
  unfold sendLeaf at h
  split at h
  · cases h
  obtain ⟨h1, h2⟩ := out_of_guards _ _ _ _ _ _ _ h
  refine ⟨h1, fun hp => ?_⟩
  have hb := h2 hp
  dsimp only at hb
  split at hb
  · obtain ⟨e1, e2, e3, _, e5⟩ := calcLeaf_spec _ _ _ _ _ _ _ _ _ hb
    exact ⟨e1, e2, e3, e5⟩
  · cases hb

end leaf

variable [LE α] [DecidableLE α]

theorem calcComposite_spec (o : Ops α) (c : Consts α) (kind : Nat) (et : Time α) (st : List (CNode α)) (ai : Nat)
    (au : LUnit α) (locals targets : List (LUnit α)) (bound fd draw : α) (qs : List α) (pairs : List (List α))
    (nextId : List Nat) (calls flCalls : List (Call α)) {st' cf w cs ins u}
    (h : calcComposite o c kind et st ai au locals targets bound fd draw qs pairs nextId calls flCalls
          = .out st' cf w cs ins u) :
    cf = confirmComposite (pymax0 o fd) draw ∧ (cf = false → st' = st ∧ ins = [])
      ∧ w = warns o bound (pymax0 o fd) ∧ u = some bound ∧ (kind ≠ 4 → o.ofInt 0 ≤ bound) := by
  unfold calcComposite at h
  dsimp only at h
  by_cases hg : (kind != 4 && !(decide (o.ofInt 0 ≤ bound))) = true
  · rw [if_pos hg] at h
    cases h
  rw [if_neg hg] at h
  have hb : kind ≠ 4 → o.ofInt 0 ≤ bound := fun hk => by
    by_contra hb'
    exact hg (by rw [Bool.and_eq_true, bne_iff_ne, Bool.not_eq_true', decide_eq_false_iff_not]; exact ⟨hk, hb'⟩)
  by_cases hc : (!confirmComposite (pymax0 o fd) draw) = true
  · rw [if_pos hc] at h
    cases h
    exact ⟨((Bool.not_eq_true' _).mp hc).symm, fun _ => ⟨rfl, rfl⟩, rfl, rfl, hb⟩
  · rw [if_neg hc] at h
    rw [Bool.not_eq_true', Bool.not_eq_false] at hc
    rw [hc]
    split at h
    · split at h
      · cases h
        exact ⟨rfl, nofun, rfl, rfl, hb⟩
      · cases h
    · cases h

variable [Div α]

theorem sendComposite_spec (o : Ops α) (c : Consts α) (kind : Nat) (uc : Bool) (et : Time α) (st : List (CNode α))
    (target : Option (CNode α)) (g : Bool) (b : α) (bds qs : List α) (pairs : List (List α)) (dr : Draw α)
    (nextId : List Nat) {st' cf w cs ins u}
    (h : sendComposite o c kind uc et st target g b bds qs pairs dr nextId = .out st' cf w cs ins u) :
    (noProposal 6 kind target → cf = false ∧ st' = st ∧ u = none) ∧
    (¬ noProposal 6 kind target →
        cf = confirmComposite (pymax0 o (factorDerivative o qs)) (dr.get o (compositeBound o kind b bds))
        ∧ (cf = false → st' = proposalState 6 kind st target ∧ ins = [])
        ∧ w = warns o (compositeBound o kind b bds) (pymax0 o (factorDerivative o qs))
        ∧ u = some (compositeBound o kind b bds)
        ∧ (kind ≠ 4 → o.ofInt 0 ≤ compositeBound o kind b bds)) := by
  unfold sendComposite at h
  split at h
  · cases h
  obtain ⟨h1, h2⟩ := out_of_guards _ _ _ _ _ _ _ h
  refine ⟨h1, fun hp => ?_⟩
  have hb := h2 hp
  dsimp only at hb
  split at hb
  · exact calcComposite_spec _ _ _ _ _ _ _ _ _ _ _ _ _ _ _ _ _ hb
  · cases hb

end generic

/-! ## Part C — handlers in the exact reading: the acceptance probability is the exact ratio -/

theorem draw_unit_rat (b r : ℚ) : (Draw.unit r).get Ops.rat b = b * r :=
  pyUniform_rat b r

/-- **Two-leaf-unit handlers (kinds 1–3).**  A proposal with bounding rate `b > 0` and true derivative `q ≤ b`,
decided with `random() = r ∈ [0,1)`:
the event is confirmed iff `r < max(0,q)/b` (so with probability exactly `max(0,q)/b ∈ [0,1]`), an unconfirmed
event returns the proposal state unchanged, and no warning is logged. -/
theorem leaf_thinning_exact (c : Consts ℚ) (kind : Nat) (uc : Bool) (et : Time ℚ) (st : List (CNode ℚ))
    (target : Option (CNode ℚ)) (g : Bool) (b q r : ℚ) (hb : 0 < b) (hq : q ≤ b) (hr : 0 ≤ r)
    (hp : ¬ noProposal 3 kind target) {st' cf w cs ins u}
    (h : sendLeaf Ops.rat c kind uc et st target g b q (.unit r) = .out st' cf w cs ins u) :
    (cf = true ↔ r < max 0 q / b) ∧ (cf = false → st' = proposalState 3 kind st target) ∧ w = false
      ∧ 0 ≤ max 0 q / b ∧ max 0 q / b ≤ 1 := by
  obtain ⟨h1, h2, h3, _⟩ := (sendLeaf_spec _ _ _ _ _ _ _ _ _ _ _ h).2 hp
  refine ⟨?_, h2, ?_, div_nonneg (le_max_left _ _) hb.le, ?_⟩
  · rw [h1]; exact accept_unit_iff b q r hb hr
  · rw [h3]; exact warns_false_of_le b q hq
  · rw [div_le_one hb]; exact max_le hb.le hq

/-- a two-leaf proposal whose true derivative is not positive is never confirmed (and draws no uniform number),
whatever the bound and the draw -/
theorem leaf_nonpos_rejected (c : Consts ℚ) (kind : Nat) (uc : Bool) (et : Time ℚ) (st : List (CNode ℚ))
    (target : Option (CNode ℚ)) (g : Bool) (b q : ℚ) (dr : Draw ℚ) (hq : q ≤ 0) {st' cf w cs ins u}
    (h : sendLeaf Ops.rat c kind uc et st target g b q dr = .out st' cf w cs ins u) :
    cf = false ∧ u = none := by
  have hs := sendLeaf_spec _ _ _ _ _ _ _ _ _ _ _ h
  by_cases hp : noProposal 3 kind target
  · exact ⟨(hs.1 hp).1, (hs.1 hp).2.2⟩
  · obtain ⟨h1, _, _, h4⟩ := hs.2 hp
    refine ⟨?_, ?_⟩
    · rw [h1]; exact confirmLeaf_false_of_nonpos q _ hq
    · rw [h4, rat0, if_neg (not_lt.mpr hq)]

/-- **Composite-object handlers (kinds 4–6).**  With bounding rate `B > 0` (`Σ max(0,b_i)` for kind 4, the cell
bound for kinds 5, 6) and true event rate `E = max(0, Σ q_i) ≤ B`: confirmed iff `r < E/B`; an unconfirmed event
returns the proposal state unchanged and leaves the lifting scheme untouched; no warning. -/
theorem composite_thinning_exact (c : Consts ℚ) (kind : Nat) (uc : Bool) (et : Time ℚ) (st : List (CNode ℚ))
    (target : Option (CNode ℚ)) (g : Bool) (b : ℚ) (bds qs : List ℚ) (pairs : List (List ℚ)) (r : ℚ)
    (nextId : List Nat) (hB : 0 < compositeBound Ops.rat kind b bds)
    (hE : max 0 qs.sum ≤ compositeBound Ops.rat kind b bds)
    (hp : ¬ noProposal 6 kind target) {st' cf w cs ins u}
    (h : sendComposite Ops.rat c kind uc et st target g b bds qs pairs (.unit r) nextId = .out st' cf w cs ins u) :
    (cf = true ↔ r < max 0 qs.sum / compositeBound Ops.rat kind b bds)
      ∧ (cf = false → st' = proposalState 6 kind st target ∧ ins = []) ∧ w = false
      ∧ 0 ≤ max 0 qs.sum / compositeBound Ops.rat kind b bds
      ∧ max 0 qs.sum / compositeBound Ops.rat kind b bds ≤ 1 := by
  obtain ⟨h1, h2, h3, _, _⟩ := (sendComposite_spec _ _ _ _ _ _ _ _ _ _ _ _ _ _ h).2 hp
  rw [pymax0_eq, factorDerivative_eq] at h1 h3
  refine ⟨?_, h2, ?_, div_nonneg (le_max_left _ _) hB.le, (div_le_one hB).mpr hE⟩
  · rw [h1, confirmComposite_iff, draw_unit_rat, lt_div_iff₀ hB, mul_comm]
  · rw [h3]; exact warns_false_of_le _ _ hE

/-- for the summed handler (kind 4) the hypothesis `E ≤ B` of `composite_thinning_exact` follows from pairwise
domination `q_i ≤ b_i` -/
theorem summed_bound_hyp (b : ℚ) (qs bds : List ℚ) (h : List.Forall₂ (· ≤ ·) qs bds) :
    max 0 qs.sum ≤ compositeBound Ops.rat 4 b bds := by
  have := summed_dominates qs bds h
  rwa [pymax0_eq, factorDerivative_eq] at this

/-- zero true rate: a composite proposal with `Σ q_i ≤ 0` is never confirmed when the bound is non-negative
(in particular when the bound is `0`: `0 <= uniform(0, 0)`) -/
theorem composite_zero_rate_rejected (c : Consts ℚ) (kind : Nat) (uc : Bool) (et : Time ℚ) (st : List (CNode ℚ))
    (target : Option (CNode ℚ)) (g : Bool) (b : ℚ) (bds qs : List ℚ) (pairs : List (List ℚ)) (r : ℚ)
    (nextId : List Nat) (hB : 0 ≤ compositeBound Ops.rat kind b bds) (hE : qs.sum ≤ 0) (hr : 0 ≤ r)
    {st' cf w cs ins u}
    (h : sendComposite Ops.rat c kind uc et st target g b bds qs pairs (.unit r) nextId = .out st' cf w cs ins u) :
    cf = false := by
  have hs := sendComposite_spec _ _ _ _ _ _ _ _ _ _ _ _ _ _ h
  by_cases hp : noProposal 6 kind target
  · exact (hs.1 hp).1
  · obtain ⟨h1, _⟩ := hs.2 hp
    rw [pymax0_eq, factorDerivative_eq, max_eq_left hE] at h1
    rw [h1, draw_unit_rat]
    exact Bool.eq_false_iff.mpr fun hc => absurd ((confirmComposite_iff _ _).mp hc) (not_lt.mpr (mul_nonneg hB hr))

/-! ## Part D — the scaled 1/r bound and the hypothesis on the positive half -/

/-- `|s|²` -/
def nsq (s : ℚ × ℚ × ℚ) : ℚ := s.1 * s.1 + s.2.1 * s.2.1 + s.2.2 * s.2.2

/-- mirror image in the direction of motion -/
def mirror (s : ℚ × ℚ × ℚ) : ℚ × ℚ × ℚ := (-s.1, s.2.1, s.2.2)

/-- the minimum-image cube of a box of length `L` (closed: the boundary planes are included) -/
def inCube (L : ℚ) (s : ℚ × ℚ × ℚ) : Prop := |s.1| ≤ L / 2 ∧ |s.2.1| ≤ L / 2 ∧ |s.2.2| ≤ L / 2

/-- **Hypothesis of the domination claim** (not provable here; searched numerically by the check):
`D` is the derivative along `+x` of the true pair potential for unit charges.  On the half `s_x > 0` of the cube
it is non-negative and at most the bound `k s_x / |s|³`; it is odd under the mirror `s_x ↦ -s_x`. -/
structure Dominates (pow32 : ℚ → ℚ) (k L : ℚ) (D : ℚ × ℚ × ℚ → ℚ) : Prop where
  odd : ∀ s, D (mirror s) = - D s
  nonneg : ∀ s, inCube L s → 0 < s.1 → 0 ≤ D s
  le : ∀ s, inCube L s → 0 < s.1 → D s ≤ k * s.1 / pow32 (nsq s)

theorem nsq_mirror (s : ℚ × ℚ × ℚ) : nsq (mirror s) = nsq s := by simp only [nsq, mirror, neg_mul_neg]

theorem inCube_mirror {L : ℚ} {s : ℚ × ℚ × ℚ} (h : inCube L s) : inCube L (mirror s) :=
  ⟨(abs_neg s.1).trans_le h.1, h.2.1, h.2.2⟩

theorem nsq_pos_of_ne {s : ℚ × ℚ × ℚ} (h : s.1 ≠ 0) : 0 < nsq s :=
  add_pos_of_pos_of_nonneg (add_pos_of_pos_of_nonneg (mul_self_pos.mpr h) (mul_self_nonneg _)) (mul_self_nonneg _)

theorem boundDerivC_eq (pow32 : ℚ → ℚ) (pp : ℚ) (s : ℚ × ℚ × ℚ) :
    boundDerivC pow32 pp s.1 s.2.1 s.2.2 = pp * s.1 / pow32 (nsq s) := rfl

theorem bound_pos_iff (pow32 : ℚ → ℚ) (hpow : ∀ x, 0 < x → 0 < pow32 x) (k c : ℚ) (hk : 0 < k)
    (s : ℚ × ℚ × ℚ) (hs : 0 < nsq s) :
    0 < boundDerivC pow32 (k * c) s.1 s.2.1 s.2.2 ↔ 0 < c * s.1 := by
  rw [boundDerivC_eq, div_pos_iff_of_pos_right (hpow _ hs), mul_assoc, mul_pos_iff_of_pos_left hk]

theorem boundDerivC_mirror (pow32 : ℚ → ℚ) (k c : ℚ) (s : ℚ × ℚ × ℚ) :
    boundDerivC pow32 (k * -c) (mirror s).1 (mirror s).2.1 (mirror s).2.2
      = boundDerivC pow32 (k * c) s.1 s.2.1 s.2.2 := by
  rw [boundDerivC_eq, boundDerivC_eq, nsq_mirror, show (mirror s).1 = -s.1 from rfl, mul_neg, mul_neg, neg_mul,
    neg_neg]

theorem max0_le_max0 {q b : ℚ} (h : 0 < q → 0 < b ∧ q ≤ b) : max 0 q ≤ max 0 b := by
  rcases le_or_gt q 0 with hq | hq
  · rw [max_eq_left hq]; exact le_max_left _ _
  · exact max_le_max_left 0 (h hq).2

/-! ### all three directions: the C routine is called with the separation rotated so that the direction of
motion comes first -/

theorem nsq_perm3 (d : Nat) (s : ℚ × ℚ × ℚ) : nsq (perm3 d s) = nsq s := by
  unfold perm3 nsq
  split
  · rfl
  · exact (add_rotate _ _ _).symm
  · exact add_rotate _ _ _

theorem inCube_perm3 {L : ℚ} (d : Nat) {s : ℚ × ℚ × ℚ} (h : inCube L s) : inCube L (perm3 d s) := by
  obtain ⟨h1, h2, h3⟩ := h
  unfold perm3 inCube
  split
  · exact ⟨h1, h2, h3⟩
  · exact ⟨h2, h3, h1⟩
  · exact ⟨h3, h1, h2⟩

/-- `InversePowerCoulombBoundingPotential.derivative` for a motion along `+d` with speed `v` is the `x`-routine
on the rotated separation, times the speed -/
theorem boundDeriv_eq (pow32 : ℚ → ℚ) (k c1 c2 : ℚ) (d : Nat) (s : ℚ × ℚ × ℚ) (v : ℚ) :
    boundDeriv pow32 k c1 c2 d s v
      = boundDerivC pow32 (k * (c1 * c2)) (perm3 d s).1 (perm3 d s).2.1 (perm3 d s).2.2 * v := by
  simp only [boundDeriv, mul_assoc]

section
variable {pow32 : ℚ → ℚ} (hpow : ∀ x, 0 < x → 0 < pow32 x) {k L : ℚ} (hk : 0 < k) {D : ℚ × ℚ × ℚ → ℚ}
  (hD : Dominates pow32 k L D)
include hpow hk hD

/-- the positive half `s_x > 0`, where `Dominates` speaks directly -/
theorem rate_dominated_pos (c : ℚ) (s : ℚ × ℚ × ℚ) (hs : inCube L s) (hx : 0 < s.1) (hq : 0 < c * D s) :
    0 < boundDerivC pow32 (k * c) s.1 s.2.1 s.2.2 ∧ c * D s ≤ boundDerivC pow32 (k * c) s.1 s.2.1 s.2.2 := by
  have hc : 0 < c := pos_of_mul_pos_left hq (hD.nonneg s hs hx)
  rw [boundDerivC_eq, mul_comm k c, mul_assoc, mul_div_assoc]
  exact ⟨mul_pos hc (div_pos (mul_pos hk hx) (hpow _ (nsq_pos_of_ne hx.ne'))),
    mul_le_mul_of_nonneg_left (hD.le s hs hx) hc.le⟩

/-- **Domination for every charge product and every separation of the cube**, from the hypothesis on the
positive half: with true derivative `q = c·D(s)` and bounding derivative `b = (k·c)·s_x/|s|³`
(`c = c₁c₂` of either sign), the bounding event rate `max 0 b` is at least the true event rate `max 0 q`,
and wherever the true rate is positive the bound is positive and `q ≤ b` (so the acceptance ratio `q/b ≤ 1`). -/
theorem rate_dominated (c : ℚ) (s : ℚ × ℚ × ℚ) (hs : inCube L s) :
    let q := c * D s
    let b := boundDerivC pow32 (k * c) s.1 s.2.1 s.2.2
    max 0 q ≤ max 0 b ∧ (0 < q → 0 < b ∧ q ≤ b) := by
  intro q b
  have key : 0 < q → 0 < b ∧ q ≤ b := by
    intro hq
    rcases lt_trichotomy s.1 0 with hx | hx | hx
    · -- negative half: the mirror image with the opposite charge product has the same `q` and `b`
      have hm := rate_dominated_pos hpow hk hD (-c) (mirror s) (inCube_mirror hs) (neg_pos.mpr hx)
      rw [boundDerivC_mirror, hD.odd, neg_mul_neg] at hm
      exact hm hq
    · -- on the symmetry plane the true derivative vanishes
      have hm : mirror s = s := Prod.ext (by rw [show (mirror s).1 = -s.1 from rfl, hx, neg_zero]) rfl
      have h := hD.odd s
      rw [hm] at h
      rw [show q = c * D s from rfl, self_eq_neg.mp h, mul_zero] at hq
      exact absurd hq (lt_irrefl 0)
    · exact rate_dominated_pos hpow hk hD c s hs hx hq
  exact ⟨max0_le_max0 key, key⟩

/-- **domination in every direction, for every charge pair and speed**: with the true derivative along `+d`
being `c₁c₂·D(rotated s)·v` (which is how `MergedImageCoulombPotential.derivative` calls its `x`-routine) -/
theorem rate_dominated_dir (c1 c2 v : ℚ) (hv : 0 < v) (d : Nat) (s : ℚ × ℚ × ℚ) (hs : inCube L s) :
    let q := c1 * c2 * D (perm3 d s) * v
    let b := boundDeriv pow32 k c1 c2 d s v
    max 0 q ≤ max 0 b ∧ (0 < q → 0 < b ∧ q ≤ b) := by
  intro q b
  obtain ⟨_, h2⟩ := rate_dominated hpow hk hD (c1 * c2) (perm3 d s) (inCube_perm3 d hs)
  have key : 0 < q → 0 < b ∧ q ≤ b := by
    intro hq
    obtain ⟨hb0, hle⟩ := h2 (pos_of_mul_pos_left hq hv.le)
    rw [show b = _ from boundDeriv_eq pow32 k c1 c2 d s v]
    exact ⟨mul_pos hb0 hv, mul_le_mul_of_nonneg_right hle hv.le⟩
  exact ⟨max0_le_max0 key, key⟩

end

/-- non-vacuity of `Dominates`: a "true" potential that is 2/3 of the bound (with `pow32 x = x²`, `k = 3/2`) -/
theorem exDominates : Dominates (fun x => x * x) (3/2) 1 (fun s => s.1 / (nsq s * nsq s)) where
  odd s := by simp only [nsq_mirror]; exact neg_div _ _
  nonneg s _ hx := div_nonneg hx.le (mul_self_nonneg _)
  le s _ hx := div_le_div_of_nonneg_right (le_mul_of_one_le_left hx.le (by norm_num)) (mul_self_nonneg _)

/-! ## Part E — the property for the model: handlers + 1/r bound under `Dominates`

`leaf_one_over_r_sound_partial` and `summed_one_over_r_sound_partial` are the statement of C04 for the model,
**except** that the domination of the shipped bound (prefactor 1.5837) over the actual merged-image (Ewald) derivative
is a hypothesis (`Dominates`) and not a theorem: hence the suffix `_partial`.  What is missing is exactly `Dominates pow32 1.5837 L D` for `D` = the derivative computed
by `merged_image_coulomb_potential.c` and `pow32 x = x^(3/2)`. -/

/-- the true derivative as the handlers obtain it from `MergedImageCoulombPotential.derivative` (prefactor 1):
`c₁ c₂ · D(rotated separation) · speed` -/
def trueDeriv (D : ℚ × ℚ × ℚ → ℚ) (c1 c2 : ℚ) (d : Nat) (s : ℚ × ℚ × ℚ) (v : ℚ) : ℚ :=
  c1 * c2 * D (perm3 d s) * v

/-- **C04 for the two-leaf-unit handlers with the 1/r bound**, under `Dominates`: for every charge pair (both signs),
every separation of the minimum-image cube, every direction and speed, every `random()` value `r ≥ 0`:
no warning; an unconfirmed event returns the proposal state unchanged; the event is confirmed iff the true
derivative `q` is positive and `r < q/b`; and then `0 < b`, `q/b ≤ 1`. -/
theorem leaf_one_over_r_sound_partial (pow32 : ℚ → ℚ) (hpow : ∀ x, 0 < x → 0 < pow32 x) (k L : ℚ) (hk : 0 < k)
    (D : ℚ × ℚ × ℚ → ℚ) (hD : Dominates pow32 k L D)
    (c : Consts ℚ) (kind : Nat) (uc : Bool) (et : Time ℚ) (st : List (CNode ℚ)) (target : Option (CNode ℚ)) (g : Bool)
    (c1 c2 v : ℚ) (hv : 0 < v) (d : Nat) (s : ℚ × ℚ × ℚ) (hs : inCube L s) (r : ℚ) (hr : 0 ≤ r)
    (hp : ¬ noProposal 3 kind target) {st' cf w cs ins u}
    (h : sendLeaf Ops.rat c kind uc et st target g (boundDeriv pow32 k c1 c2 d s v) (trueDeriv D c1 c2 d s v)
          (.unit r) = .out st' cf w cs ins u) :
    w = false ∧ (cf = false → st' = proposalState 3 kind st target)
      ∧ (cf = true ↔ 0 < trueDeriv D c1 c2 d s v ∧ r < trueDeriv D c1 c2 d s v / boundDeriv pow32 k c1 c2 d s v)
      ∧ (0 < trueDeriv D c1 c2 d s v →
          0 < boundDeriv pow32 k c1 c2 d s v ∧ trueDeriv D c1 c2 d s v / boundDeriv pow32 k c1 c2 d s v ≤ 1) := by
  have hdom := (rate_dominated_dir hpow hk hD c1 c2 v hv d s hs).2
  change 0 < trueDeriv D c1 c2 d s v → _ at hdom
  have hspec := (sendLeaf_spec _ _ _ _ _ _ _ _ _ _ _ h).2 hp
  rcases le_or_gt (trueDeriv D c1 c2 d s v) 0 with hq | hq
  · have hcf := (leaf_nonpos_rejected _ _ _ _ _ _ _ _ _ _ hq h).1
    refine ⟨?_, hspec.2.1, ?_, fun h0 => absurd h0 (not_lt.mpr hq)⟩
    · rw [hspec.2.2.1]; exact warns_false_of_nonpos _ _ hq
    · rw [hcf]; exact iff_of_false Bool.false_ne_true fun h0 => absurd h0.1 (not_lt.mpr hq)
  · obtain ⟨hb, hle⟩ := hdom hq
    obtain ⟨h1, h2, h3, _, h5⟩ := leaf_thinning_exact c kind uc et st target g (boundDeriv pow32 k c1 c2 d s v)
      (trueDeriv D c1 c2 d s v) r hb hle hr hp h
    rw [max_eq_right hq.le] at h1 h5
    exact ⟨h3, h2, h1.trans (and_iff_right hq).symm, fun _ => ⟨hb, h5⟩⟩

/-- for a list of pairs that all move along `+d` with the same speed, given by the two charges and the separation
of each: every true derivative is below the positive part of its 1/r bound, hence the summed bounding rate dominates
the true rate -/
theorem one_over_r_rate_le (pow32 : ℚ → ℚ) (hpow : ∀ x, 0 < x → 0 < pow32 x) (k L : ℚ) (hk : 0 < k)
    (D : ℚ × ℚ × ℚ → ℚ) (hD : Dominates pow32 k L D) (v : ℚ) (hv : 0 < v) (d : Nat)
    {ι : Type} (l : List ι) (c1 c2 : ι → ℚ) (sep : ι → ℚ × ℚ × ℚ) (hs : ∀ x ∈ l, inCube L (sep x)) :
    max 0 (l.map fun x => trueDeriv D (c1 x) (c2 x) d (sep x) v).sum
      ≤ summedBound Ops.rat (l.map fun x => boundDeriv pow32 k (c1 x) (c2 x) d (sep x) v) := by
  refine (summed_dominates' _ _ ?_).trans_eq (summedBound_eq _).symm
  exact List.forall₂_map_left_iff.mpr (List.forall₂_map_right_iff.mpr (List.forall₂_same.mpr fun x hx =>
    le_trans (le_max_right _ _) (rate_dominated_dir hpow hk hD (c1 x) (c2 x) v hv d (sep x) (hs x hx)).1))

theorem lt_iff_lt_div {B E : ℚ} (r : ℚ) (hE : 0 < E) (hEB : E ≤ B) : B * r < E ↔ r < E / B := by
  rw [lt_div_iff₀ (hE.trans_le hEB), mul_comm]

/-- **C04 for the summed composite-object handler (kind 4) with the 1/r bound**, under `Dominates`: `tg` lists the
target leaf units as (charge, separation from the active unit); the active unit has charge `ca`.  The summed bounding
rate `B = Σ max(0, b_i)` dominates the true rate `E = max(0, Σ q_i)`; no warning; an unconfirmed event changes
nothing; the event is confirmed iff `0 < E` and `r < E/B`. -/
theorem summed_one_over_r_sound_partial (pow32 : ℚ → ℚ) (hpow : ∀ x, 0 < x → 0 < pow32 x) (k L : ℚ) (hk : 0 < k)
    (D : ℚ × ℚ × ℚ → ℚ) (hD : Dominates pow32 k L D)
    (c : Consts ℚ) (uc : Bool) (et : Time ℚ) (st : List (CNode ℚ)) (target : Option (CNode ℚ)) (g : Bool) (b0 : ℚ)
    (ca v : ℚ) (hv : 0 < v) (d : Nat) (tg : List (ℚ × (ℚ × ℚ × ℚ))) (hs : ∀ x ∈ tg, inCube L x.2)
    (pairs : List (List ℚ)) (r : ℚ) (hr : 0 ≤ r) (nextId : List Nat) {st' cf w cs ins u}
    (h : sendComposite Ops.rat c 4 uc et st target g b0
          (tg.map fun x => boundDeriv pow32 k ca x.1 d x.2 v) (tg.map fun x => trueDeriv D ca x.1 d x.2 v)
          pairs (.unit r) nextId = .out st' cf w cs ins u) :
    let B := summedBound Ops.rat (tg.map fun x => boundDeriv pow32 k ca x.1 d x.2 v)
    let E := max 0 (tg.map fun x => trueDeriv D ca x.1 d x.2 v).sum
    E ≤ B ∧ w = false ∧ (cf = false → st' = st ∧ ins = []) ∧ (cf = true ↔ 0 < E ∧ r < E / B) := by
  intro B E
  have hEB : E ≤ B := one_over_r_rate_le pow32 hpow k L hk D hD v hv d tg (fun _ => ca) (·.1) (·.2) hs
  have hp : ¬ noProposal 6 4 target := fun hn => absurd hn.1 (by decide)
  have hps : proposalState 6 4 st target = st := by
    unfold proposalState; cases target <;> rfl
  obtain ⟨h1, h2, h3, _, _⟩ := (sendComposite_spec _ _ _ _ _ _ _ _ _ _ _ _ _ _ h).2 hp
  rw [pymax0_eq, factorDerivative_eq, show compositeBound Ops.rat 4 b0 _ = B from if_pos rfl] at h1 h3
  rw [hps] at h2
  refine ⟨hEB, ?_, h2, ?_⟩
  · rw [h3]; exact warns_false_of_le _ _ hEB
  · rw [h1, confirmComposite_iff, draw_unit_rat]
    constructor
    · intro hlt
      have hE : 0 < E := lt_of_le_of_lt (mul_nonneg (summedBound_nonneg _) hr) hlt
      exact ⟨hE, (lt_iff_lt_div r hE hEB).mp hlt⟩
    · exact fun hh => (lt_iff_lt_div r hh.1 hEB).mpr hh.2

/-! ## Part F — `_fill_lifting` (exact reading): the derivative table handed to the lifting scheme sums to zero -/

theorem sum_zipWith_sub (ts row : List ℚ) (h : row.length = ts.length) :
    (List.zipWith (fun t p => t - p) ts row).sum = ts.sum - row.sum := by
  induction ts generalizing row with
  | nil => rw [List.zipWith_nil_left, List.length_eq_zero_iff.mp h, sub_self, List.sum_nil]
  | cons t ts ih => cases row with
    | nil => exact absurd h (Nat.succ_ne_zero _).symm
    | cons p ps =>
      rw [List.zipWith_cons_cons, List.sum_cons, List.sum_cons, List.sum_cons, ih ps (Nat.succ.inj h)]
      exact sub_add_sub_comm _ _ _ _

/-- the step of `_fill_lifting`'s double loop as `fillLifting Ops.rat` writes it (reducible, so that it is recognised
in the unfolded `fillLifting`) -/
abbrev flStep (A : ℚ) (acc : List ℚ × List ℚ) (lp : (List Nat × Bool) × List ℚ) : List ℚ × List ℚ :=
  if lp.1.2 then (acc.1 ++ [A], acc.2)
  else (acc.1 ++ [lp.2.foldl (fun s p => s + p) (Ops.rat.ofInt 0)], List.zipWith (fun t p => t - p) acc.2 lp.2)

/-- one step of the double loop: an active local unit contributes `A`; a non-active one contributes its row sum
and takes the row off the target entries -/
theorem flStep_sum (A : ℚ) (acc : List ℚ × List ℚ) (lp : (List Nat × Bool) × List ℚ) (h : lp.2.length = acc.2.length) :
    (flStep A acc lp).1.sum + (flStep A acc lp).2.sum = acc.1.sum + acc.2.sum + (if lp.1.2 then A else 0)
      ∧ (flStep A acc lp).1.length = acc.1.length + 1 ∧ (flStep A acc lp).2.length = acc.2.length := by
  unfold flStep
  split
  · refine ⟨?_, List.length_append, rfl⟩
    rw [List.sum_append, List.sum_singleton]
    exact add_right_comm _ _ _
  · refine ⟨?_, List.length_append, ?_⟩
    · rw [List.sum_append, List.sum_singleton, rat0, ← List.sum_eq_foldl, sum_zipWith_sub _ _ h, add_zero,
        add_add_sub_cancel]
    · rw [List.length_zipWith, h, min_self]

theorem flStep_fold (A : ℚ) (l : List ((List Nat × Bool) × List ℚ)) (acc : List ℚ × List ℚ)
    (hrows : ∀ lp ∈ l, lp.2.length = acc.2.length) :
    (l.foldl (flStep A) acc).1.sum + (l.foldl (flStep A) acc).2.sum
        = acc.1.sum + acc.2.sum + ((l.filter (fun lp => lp.1.2)).length : ℚ) * A
      ∧ (l.foldl (flStep A) acc).1.length = acc.1.length + l.length
      ∧ (l.foldl (flStep A) acc).2.length = acc.2.length := by
  induction l generalizing acc with
  | nil => exact ⟨by rw [List.filter_nil, List.length_nil, Nat.cast_zero, zero_mul, add_zero]; rfl, rfl, rfl⟩
  | cons lp l ih =>
    obtain ⟨s1, s2, s3⟩ := flStep_sum A acc lp (hrows lp List.mem_cons_self)
    obtain ⟨h1, h2, h3⟩ := ih (flStep A acc lp) fun x hx => by rw [s3]; exact hrows x (List.mem_cons_of_mem _ hx)
    rw [List.foldl_cons]
    refine ⟨?_, ?_, h3.trans s3⟩
    · rw [h1, s1, List.filter_cons]
      split
      · rw [List.length_cons, Nat.cast_succ, add_one_mul, add_assoc, add_comm A]
      · rw [add_zero]
    · rw [h2, s2, List.length_cons, Nat.add_assoc, Nat.add_comm 1]

theorem filter_zip_length (locals : List (List Nat × Bool)) (pairs : List (List ℚ)) (h : pairs.length = locals.length) :
    ((locals.zip pairs).filter (fun lp => lp.1.2)).length = (locals.filter (·.2)).length :=
  calc ((locals.zip pairs).filter (fun lp => lp.1.2)).length
      = (((locals.zip pairs).filter ((·.2) ∘ Prod.fst)).map Prod.fst).length := (List.length_map _).symm
    _ = (((locals.zip pairs).map Prod.fst).filter (·.2)).length := by rw [List.filter_map]
    _ = (locals.filter (·.2)).length := by rw [List.map_fst_zip h.ge]

/-- **sum of the derivative table**: the derivatives `_fill_lifting` inserts into the lifting scheme add up to
(number of active local units)·`activeDeriv` + Σ target derivatives — the pairwise terms between non-active local
units and target units cancel. -/
theorem fillLifting_sum (locals : List (List Nat × Bool)) (targets : List (List Nat)) (A : ℚ) (tds : List ℚ)
    (pairs : List (List ℚ)) (hp : pairs.length = locals.length) (hrows : ∀ row ∈ pairs, row.length = tds.length)
    (ht : targets.length = tds.length) :
    ((fillLifting Ops.rat locals targets A tds pairs).map (·.1)).sum
      = ((locals.filter (·.2)).length : ℚ) * A + tds.sum := by
  obtain ⟨h1, h2, h3⟩ := flStep_fold A (locals.zip pairs) ([], tds)
    (fun lp hlp => hrows lp.2 (List.of_mem_zip hlp).2)
  unfold fillLifting
  dsimp only at h1 ⊢
  generalize List.foldl (flStep A) ([], tds) (locals.zip pairs) = r at h1 h2 h3 ⊢
  have e1 : (((locals.zip r.1).map fun (x : (List Nat × Bool) × ℚ) => (x.2, x.1.1, x.1.2)).map (·.1)) = r.1 := by
    rw [List.map_map]
    exact List.map_snd_zip (by rw [h2, List.length_zip, hp, min_self]; exact (Nat.zero_add _).le)
  have e2 : (((targets.zip r.2).map fun (x : List Nat × ℚ) => (x.2, x.1, false)).map (·.1)) = r.2 := by
    rw [List.map_map]
    exact List.map_snd_zip (by rw [h3, ht])
  have hsum : r.1.sum + r.2.sum = ((locals.filter (·.2)).length : ℚ) * A + tds.sum := by
    rw [h1, filter_zip_length locals pairs hp, List.sum_nil, zero_add, add_comm]
  split
  · rw [List.map_append, List.sum_append, e1, e2]; exact hsum
  · rw [List.map_append, List.sum_append, e1, e2, add_comm]; exact hsum

theorem targetDerivs_sum (qs : List ℚ) : (targetDerivs Ops.rat qs).sum = - qs.sum := by
  unfold targetDerivs
  simp only [rat0, zero_sub]
  exact (List.sum_neg qs).symm

/-- the derivative table **sums to zero** for the table the composite handlers build: one active local unit carrying the
factor derivative `Σ q_i`, target entries starting from `0 - q_i` -/
theorem fillLifting_sum_zero (locals : List (List Nat × Bool)) (targets : List (List Nat)) (qs : List ℚ)
    (pairs : List (List ℚ)) (hone : (locals.filter (·.2)).length = 1) (hp : pairs.length = locals.length)
    (hrows : ∀ row ∈ pairs, row.length = qs.length) (ht : targets.length = qs.length) :
    ((fillLifting Ops.rat locals targets (factorDerivative Ops.rat qs) (targetDerivs Ops.rat qs) pairs).map (·.1)).sum
      = 0 := by
  have hl : (targetDerivs Ops.rat qs).length = qs.length := List.length_map _
  rw [fillLifting_sum _ _ _ _ _ hp (fun row hr => by rw [hl]; exact hrows row hr) (by rw [hl]; exact ht), hone,
    factorDerivative_eq, targetDerivs_sum, Nat.cast_one, one_mul, add_neg_cancel]

/-! ## Part G — what a confirmed event does (atoms), for every scalar type -/

section
variable {α : Type} [Add α] [Sub α] [Mul α] [Neg α] [LT α] [DecidableLT α] [BEq α]

theorem commitUnit_nil (o : Ops α) (c : Consts α) (et : Time α) (u : LUnit α) : commitUnit o c et [] u = u := rfl

end

section generic
variable {α : Type} [Add α] [Sub α] [Mul α] [Div α] [Neg α] [LT α] [DecidableLT α] [LE α] [DecidableLE α] [BEq α]

omit [Div α] [LE α] [DecidableLE α] in
/-- **a confirmed event between two atoms** (leaf units that are their own root nodes): the velocity and the time
stamp of the active unit move to the target unit, the active unit becomes inactive, nothing else changes
(no parent velocities to keep consistent). -/
theorem exchange_atoms (o : Ops α) (c : Consts α) (et : Time α) (st st' : List (CNode α)) (i j : Nat)
    (h : exchange o c et st (i, none) (j, none) = some st') :
    ∃ au tu v, getLeaf st (i, none) = some au ∧ getLeaf st (j, none) = some tu ∧ au.vel = some v ∧ tu.vel = none ∧
      st' = setLeaf (setLeaf st (j, none) { tu with vel := some v, ts := au.ts }) (i, none)
              { au with vel := none, ts := none } := by
  simp only [exchange] at h
  split at h
  · next au tu hau htu =>
    split at h
    · cases h
    · next v hv =>
      split at h
      · cases h
      · next htv =>
        refine ⟨au, tu, v, hau, htu, hv, Option.not_isSome_iff_eq_none.mp htv, ?_⟩
        simp only [commitUnit_nil] at h
        rw [← Option.some.inj h]
        -- nothing is registered for atoms: the commit pass rebuilds every node as it is
        apply List.map_id''
        intro r
        rw [List.map_id'' (fun cw => rfl)]
  · cases h

end generic

/-! ## Non-vacuity: concrete proposals (kernel-evaluated on the exact reading of the model) that meet the
hypotheses of the theorems above, one confirmed and one rejected each -/

def confirmed? {α : Type} : Res α → Option Bool
  | .out _ cf _ _ _ _ => some cf
  | _ => none

theorem exists_out_of_confirmed? {α : Type} {r : Res α} {cf : Bool} (h : confirmed? r = some cf) :
    ∃ st' w cs ins u, r = .out st' cf w cs ins u := by
  cases r with
  | out st' cf' w cs ins u => cases h; exact ⟨_, _, _, _, _, rfl⟩
  | err t => cases h
  | invalid => cases h

def exA : CNode ℚ := ⟨⟨[0], [1/10, 2/10, 3/10], 1, some [1, 0, 0], some ⟨5, 1/4⟩⟩, 1, []⟩
def exB : CNode ℚ := ⟨⟨[1], [6/10, 2/10, 9/10], -1, none, none⟩, 1, []⟩
def exC : Consts ℚ := ⟨1, 1/10^13⟩

example : confirmed? (sendLeaf Ops.rat exC 1 true ⟨5, 1/4⟩ [exA, exB] none true 2 1 (.unit (1/4))) = some true := by
  decide +kernel
example : confirmed? (sendLeaf Ops.rat exC 1 true ⟨5, 1/4⟩ [exA, exB] none true 2 1 (.unit (3/4))) = some false := by
  decide +kernel

/-- two dipoles `(0,·)` (active leaf `(0,1)`) and `(3,·)` -/
def dipA : CNode ℚ :=
  ⟨⟨[0], [1/10, 2/10, 3/10], 0, some [1/2, 0, 0], some ⟨5, 1/4⟩⟩, 1,
   [(⟨[0, 0], [1/10, 2/10, 3/10], 1, none, none⟩, 1/2),
    (⟨[0, 1], [2/10, 2/10, 3/10], -1, some [1, 0, 0], some ⟨5, 1/4⟩⟩, 1/2)]⟩
def dipB : CNode ℚ :=
  ⟨⟨[3], [6/10, 7/10, 3/10], 0, none, none⟩, 1,
   [(⟨[3, 0], [6/10, 7/10, 3/10], 1, none, none⟩, 1/2),
    (⟨[3, 1], [7/10, 7/10, 3/10], -1, none, none⟩, 1/2)]⟩

-- kind 4: bounds (2, -1) -> Σ max(0,·) = 2; true derivatives (3/2, -1) -> rate 1/2; r = 1/8 < 1/4: confirmed
example : confirmed? (sendComposite Ops.rat ⟨1, 1/10^13⟩ 4 true ⟨5, 1/4⟩ [dipB, dipA] none true 0 [2, -1] [3/2, -1]
    [[1/3, -1/5], [0, 0]] (.unit (1/8)) [3, 1]) = some true := by decide +kernel
example : confirmed? (sendComposite Ops.rat ⟨1, 1/10^13⟩ 4 true ⟨5, 1/4⟩ [dipB, dipA] none true 0 [2, -1] [3/2, -1]
    [[1/3, -1/5], [0, 0]] (.unit (1/2)) [3, 1]) = some false := by decide +kernel
example : List.Forall₂ (· ≤ ·) [(3/2 : ℚ), -1] [2, -1] := by decide +kernel

/-- the hypotheses of `leaf_thinning_exact` are met by the confirmed atom example (`b = 2`, `q = 1`, `r = 1/4`) -/
example : ∃ st' w cs ins u, sendLeaf Ops.rat exC 1 true ⟨5, 1/4⟩ [exA, exB] none true 2 1 (.unit (1/4))
    = .out st' true w cs ins u := exists_out_of_confirmed? (by decide +kernel)

/-- … and those of `composite_thinning_exact` / `summed_bound_hyp` by the dipole example -/
example : ∃ st' w cs ins u, sendComposite Ops.rat ⟨1, 1/10^13⟩ 4 true ⟨5, 1/4⟩ [dipB, dipA] none true 0 [2, -1]
    [3/2, -1] [[1/3, -1/5], [0, 0]] (.unit (1/8)) [3, 1] = .out st' true w cs ins u :=
  exists_out_of_confirmed? (by decide +kernel)
example : (0:ℚ) < compositeBound Ops.rat 4 0 [2, -1] ∧ max 0 ([3/2, -1] : List ℚ).sum ≤ compositeBound Ops.rat 4 0 [2, -1] := by
  decide +kernel
example := accept_set 2 1 (by decide +kernel) (by decide +kernel)
example := accept_probability Ops.real0 (by simp [Ops.real0]) 2 1 (by norm_num) (by norm_num)

/-- `leaf_one_over_r_sound_partial` applies to a concrete confirmed proposal: separation `(1/4, 1/4, 0)`, unit charges,
`D`, `pow32`, `k` of `exDominates`: `q = 16`, `b = 24`, `r = 1/2 < 2/3` -/
example : ∃ st' w cs ins u, sendLeaf Ops.rat exC 1 true ⟨5, 1/4⟩ [exA, exB] none true
    (boundDeriv (fun x => x * x) (3/2) 1 1 0 (1/4, 1/4, 0) 1)
    (trueDeriv (fun s => s.1 / (nsq s * nsq s)) 1 1 0 (1/4, 1/4, 0) 1) (.unit (1/2)) = .out st' true w cs ins u :=
  exists_out_of_confirmed? (by decide +kernel)
example : inCube 1 ((1/4, 1/4, 0) : ℚ × ℚ × ℚ) := by
  unfold inCube; decide +kernel

/-- `fillLifting_sum_zero` on the dipole example's table -/
example := fillLifting_sum_zero [([0, 0], false), ([0, 1], true)] [[3, 0], [3, 1]] [3/2, -1] [[1/3, -1/5], [0, 0]]
  rfl rfl (by decide) rfl

/-! ### binary64 boundary facts (kernel-evaluated on the float reading the driver runs) -/

/-- a draw equal to the true rate is rejected by both ways of writing the comparison -/
example : confirmLeaf Ops.float 0.5 0.5 = false ∧ confirmComposite (pymax0 Ops.float 0.5) 0.5 = false := by
  decide +kernel
/-- zero true rate (`±0.0`), draw `0.0` (e.g. `uniform(0.0, 0.0)`): rejected -/
example : confirmLeaf Ops.float 0.0 0.0 = false ∧ confirmComposite (pymax0 Ops.float (-0.0)) 0.0 = false
    ∧ confirmComposite (pymax0 Ops.float (-1.5)) (pyUniform (Ops.float.ofInt 0) 0.0 0.75) = false := by
  decide +kernel
/-- the smallest draw `0.0` confirms every positive rate, however small -/
example : confirmLeaf Ops.float 5e-324 0.0 = true ∧ confirmComposite (pymax0 Ops.float 5e-324) 0.0 = true := by
  decide +kernel

/-- `exchange_atoms` applies: the two-atom example state admits the exchange -/
example : (exchange Ops.rat exC ⟨5, 1/4⟩ [exA, exB] (0, none) (1, none)).isSome = true := by decide +kernel

/-! ## Part H — the root-unit-active handlers (kinds 7, 8): a whole composite object moves

`RootUnitActiveTwoCompositeObjectSummedBoundingPotentialEventHandler` (kind 7) thins: its bounding rate is
`Σ max(0, b_ij)` and its true rate `max(0, Σ q_ij)`, both over ALL (active leaf `i`, target leaf `j`) pairs.
`RootUnitActiveTwoLeafUnitEventHandler` (kind 8) does not thin (directly invertible potential; model: `sendRoot … 8`
always passes the velocity), so C04 makes no statement about it beyond "it never draws a uniform number". -/

section
variable {α : Type} [Add α] [Sub α] [Mul α] [LT α] [DecidableLT α] [BEq α]

theorem timeSliceUnit_vel (o : Ops α) (c : Consts α) (et : Time α) (u : LUnit α) :
    (timeSliceUnit o c et u).vel = u.vel := by
  unfold timeSliceUnit
  split
  · rfl
  · rfl

theorem timeSliceState_velocities (o : Ops α) (c : Consts α) (et : Time α) (st : List (CNode α)) :
    velocities (timeSliceState o c et st) = velocities st := by
  unfold velocities timeSliceState
  rw [List.flatMap_map]
  refine List.flatMap_congr fun r _ => ?_
  simp only [timeSliceUnit_vel, List.map_map, Function.comp_def]

end

section generic
variable {α : Type} [Add α] [Sub α] [Mul α] [Div α] [Neg α] [LT α] [DecidableLT α] [LE α] [DecidableLE α] [BEq α]

omit [LE α] [DecidableLE α] in
/-- **kind 7, every scalar type (in particular binary64)**: `send_out_state` confirms exactly when the two-leaf
style comparison `factor_derivative > 0 and uniform(0, bound) < factor_derivative` holds, with
`bound = Σ max(0.0, b_ij)` and `factor_derivative = Σ q_ij` over all pairs; an unconfirmed event returns the
time-sliced branches (all velocities as handed in); the warning is a flag; a uniform number is drawn exactly when
the factor derivative is positive, from `[0, bound]`. -/
theorem sendRoot_spec (o : Ops α) (c : Consts α) (kind : Nat) (hk : kind ≠ 8) (uc : Bool) (et : Time α)
    (ist branches : List (CNode α)) (bds qs : List α) (dr : Draw α) {st' cf w cs ins u}
    (h : sendRoot o c kind uc et ist branches bds qs dr = .out st' cf w cs ins u) :
    cf = confirmLeaf o (factorDerivative o qs) (dr.get o (summedBound o bds))
      ∧ (cf = false → st' = timeSliceState o c et branches ∧ velocities st' = velocities branches)
      ∧ w = warns o (summedBound o bds) (factorDerivative o qs) ∧ ins = []
      ∧ (u = if o.ofInt 0 < factorDerivative o qs then some (summedBound o bds) else none) := by
  unfold sendRoot at h
  dsimp only at h
  rw [if_neg fun h8 => hk (beq_iff_eq.mp h8)] at h
  split at h
  · cases h
  by_cases hq : o.ofInt 0 < factorDerivative o qs
  · rw [if_pos hq] at h ⊢
    by_cases hd : dr.get o (summedBound o bds) < factorDerivative o qs
    · rw [if_pos hd] at h
      split at h
      · cases h
        exact ⟨by simp only [confirmLeaf, hq, hd, decide_true, Bool.and_self], nofun, rfl, rfl, rfl⟩
      · cases h
    · rw [if_neg hd] at h
      cases h
      exact ⟨by simp only [confirmLeaf, hd, decide_false, Bool.and_false],
        fun _ => ⟨rfl, timeSliceState_velocities _ _ _ _⟩, rfl, rfl, rfl⟩
  · rw [if_neg hq] at h ⊢
    cases h
    exact ⟨by simp only [confirmLeaf, hq, decide_false, Bool.false_and],
      fun _ => ⟨rfl, timeSliceState_velocities _ _ _ _⟩, rfl, rfl, rfl⟩

omit [LE α] [DecidableLE α] in
/-- kind 8 never thins: whenever it returns an out-state, the event is confirmed and no uniform number is drawn -/
theorem sendRoot_invertible (o : Ops α) (c : Consts α) (uc : Bool) (et : Time α)
    (ist branches : List (CNode α)) (bds qs : List α) (dr : Draw α) {st' cf w cs ins u}
    (h : sendRoot o c 8 uc et ist branches bds qs dr = .out st' cf w cs ins u) :
    cf = true ∧ w = false ∧ u = none ∧ cs = [] := by
  unfold sendRoot at h
  dsimp only at h
  rw [if_pos (by decide)] at h
  split at h
  · cases h
    exact ⟨rfl, rfl, rfl, rfl⟩
  · cases h

end generic

/-- **Kind 7 in the exact reading**: with bounding rate `B = Σ max(0, b_ij) > 0` and true rate
`E = max(0, Σ q_ij) ≤ B` (sums over all pairs), decided with `random() = r ≥ 0`: confirmed iff `r < E/B`, i.e. with
probability exactly `E/B ∈ [0,1]`; an unconfirmed event leaves every velocity unchanged; no warning. -/
theorem root_thinning_exact (c : Consts ℚ) (kind : Nat) (hk : kind ≠ 8) (uc : Bool) (et : Time ℚ)
    (ist branches : List (CNode ℚ)) (bds qs : List ℚ) (r : ℚ) (hB : 0 < summedBound Ops.rat bds)
    (hE : max 0 qs.sum ≤ summedBound Ops.rat bds) (hr : 0 ≤ r) {st' cf w cs ins u}
    (h : sendRoot Ops.rat c kind uc et ist branches bds qs (.unit r) = .out st' cf w cs ins u) :
    (cf = true ↔ r < max 0 qs.sum / summedBound Ops.rat bds)
      ∧ (cf = false → st' = timeSliceState Ops.rat c et branches ∧ velocities st' = velocities branches)
      ∧ w = false ∧ 0 ≤ max 0 qs.sum / summedBound Ops.rat bds ∧ max 0 qs.sum / summedBound Ops.rat bds ≤ 1 := by
  obtain ⟨h1, h2, h3, _, _⟩ := sendRoot_spec _ _ _ hk _ _ _ _ _ _ _ h
  rw [factorDerivative_eq] at h1 h3
  refine ⟨?_, h2, ?_, div_nonneg (le_max_left _ _) hB.le, (div_le_one hB).mpr hE⟩
  · rw [h1]; exact accept_unit_iff _ _ r hB hr
  · rw [h3]; exact warns_false_of_le _ _ (le_trans (le_max_right _ _) hE)

/-- zero true rate: if the sum of ALL pairwise true derivatives is not positive the event is never confirmed and no
uniform number is drawn — whatever the bounds of the single pairs, whatever the draw -/
theorem root_zero_rate_rejected (c : Consts ℚ) (kind : Nat) (hk : kind ≠ 8) (uc : Bool) (et : Time ℚ)
    (ist branches : List (CNode ℚ)) (bds qs : List ℚ) (dr : Draw ℚ) (hq : qs.sum ≤ 0) {st' cf w cs ins u}
    (h : sendRoot Ops.rat c kind uc et ist branches bds qs dr = .out st' cf w cs ins u) :
    cf = false ∧ u = none ∧ velocities st' = velocities branches := by
  obtain ⟨h1, h2, _, _, h5⟩ := sendRoot_spec _ _ _ hk _ _ _ _ _ _ _ h
  rw [factorDerivative_eq] at h1 h5
  have hcf : cf = false := by rw [h1]; exact confirmLeaf_false_of_nonpos _ _ hq
  refine ⟨hcf, ?_, (h2 hcf).2⟩
  rw [h5, rat0, if_neg (not_lt.mpr hq)]

/-! ### the rates of the double loop: a table `q i j`, `b i j` (active leaf `i`, target leaf `j`) -/

/-- **the thinned rate of the root-active sum**: if every pair's true derivative is at most the positive part of
the pair's bound, then `E = max(0, Σ_i Σ_j q_ij)` is at most `B = Σ_i Σ_j max(0, b_ij)` (the two numbers the handler
accumulates in its double loop), and proposing at rate `B` and confirming with probability `E/B ∈ [0,1]` gives the
rate `E`. -/
theorem root_thinned_rate (qss bss : List (List ℚ))
    (h : List.Forall₂ (List.Forall₂ fun q b => q ≤ max 0 b) qss bss) :
    let B := summedBound Ops.rat bss.flatten
    let E := max 0 (factorDerivative Ops.rat qss.flatten)
    E = max 0 (qss.map List.sum).sum ∧ B = (bss.map fun row => (row.map (max 0)).sum).sum ∧ E ≤ B
      ∧ (0 < B → B * (E / B) = E ∧ 0 ≤ E / B ∧ E / B ≤ 1) := by
  intro B E
  have hEB : E ≤ B := by
    have := summed_dominates' _ _ (List.rel_flatten h)
    simpa only [E, B, summedBound_eq, factorDerivative_eq] using this
  refine ⟨?_, ?_, hEB, fun hB =>
    ⟨mul_div_cancel₀ E hB.ne', div_nonneg (le_max_left _ _) hB.le, (div_le_one hB).mpr hEB⟩⟩
  · simp only [E, factorDerivative_eq, List.sum_flatten]
  · simp only [B, summedBound_eq, List.map_flatten, List.sum_flatten, List.map_map, Function.comp_def]

/-- the two-leaf style comparison, read as a ratio test against `E = max(0, fd)` (also for `B = 0`) -/
theorem confirm_iff_ratio (B fd r : ℚ) (hEB : max 0 fd ≤ B) :
    (0 < fd ∧ B * r < fd) ↔ (0 < max 0 fd ∧ r < max 0 fd / B) := by
  rcases le_or_gt fd 0 with h | h
  · rw [max_eq_left h]
    exact iff_of_false (fun h' => absurd h'.1 (not_lt.mpr h)) (fun h' => lt_irrefl _ h'.1)
  · rw [max_eq_right h.le] at hEB ⊢
    exact and_congr_right fun _ => lt_iff_lt_div r h hEB

/-- **C04 for the root-unit-active summed handler (kind 7) with the 1/r bound**, under `Dominates` (hence
`_partial`, as in Part E).  `pr` lists ALL (active leaf, target leaf) pairs in loop order as (active charge, target charge, separation); charges
of either sign.  The summed bounding rate dominates the true rate `E = max(0, Σ_all pairs q)`; no warning; an
unconfirmed event leaves all velocities unchanged; the event is confirmed iff `0 < E` and `r < E/B`. -/
theorem root_one_over_r_sound_partial (pow32 : ℚ → ℚ) (hpow : ∀ x, 0 < x → 0 < pow32 x) (k L : ℚ) (hk : 0 < k)
    (D : ℚ × ℚ × ℚ → ℚ) (hD : Dominates pow32 k L D)
    (c : Consts ℚ) (uc : Bool) (et : Time ℚ) (ist branches : List (CNode ℚ))
    (v : ℚ) (hv : 0 < v) (d : Nat) (pr : List (ℚ × ℚ × (ℚ × ℚ × ℚ))) (hs : ∀ x ∈ pr, inCube L x.2.2)
    (r : ℚ) {st' cf w cs ins u}
    (h : sendRoot Ops.rat c 7 uc et ist branches
          (pr.map fun x => boundDeriv pow32 k x.1 x.2.1 d x.2.2 v) (pr.map fun x => trueDeriv D x.1 x.2.1 d x.2.2 v)
          (.unit r) = .out st' cf w cs ins u) :
    let B := summedBound Ops.rat (pr.map fun x => boundDeriv pow32 k x.1 x.2.1 d x.2.2 v)
    let E := max 0 (pr.map fun x => trueDeriv D x.1 x.2.1 d x.2.2 v).sum
    E ≤ B ∧ w = false ∧ (cf = false → velocities st' = velocities branches) ∧ (cf = true ↔ 0 < E ∧ r < E / B) := by
  intro B E
  have hEB : E ≤ B := one_over_r_rate_le pow32 hpow k L hk D hD v hv d pr (·.1) (·.2.1) (·.2.2) hs
  obtain ⟨h1, h2, h3, _, _⟩ := sendRoot_spec _ _ 7 (by decide) _ _ _ _ _ _ _ h
  rw [factorDerivative_eq] at h1 h3
  refine ⟨hEB, ?_, fun hc => (h2 hc).2, ?_⟩
  · rw [h3]; exact warns_false_of_le _ _ (le_trans (le_max_right _ _) hEB)
  · rw [h1, confirmLeaf_iff, draw_unit_rat]
    exact confirm_iff_ratio B _ r hEB

/-! ### non-vacuity: two dipoles, the whole dipole `(0,·)` moves; event time `5 + 1/2` -/

def dipAct : CNode ℚ :=
  ⟨⟨[0], [15/100, 2/10, 3/10], 0, some [1, 0, 0], some ⟨5, 1/4⟩⟩, 1,
   [(⟨[0, 0], [1/10, 2/10, 3/10], 1, some [1, 0, 0], some ⟨5, 1/4⟩⟩, 1/2),
    (⟨[0, 1], [2/10, 2/10, 3/10], -1, some [1, 0, 0], some ⟨5, 1/4⟩⟩, 1/2)]⟩

-- pairs (0,0)-(3,0), (0,0)-(3,1), (0,1)-(3,0), (0,1)-(3,1): bounds (2, -1, -1/2, 1) -> B = 3; true derivatives
-- (3/2, -1, -1/4, 1/2) -> Σ = 3/4 (the pair with bound -1 <= 0 has true derivative -1 < 0: dropping it, and the pair
-- (-1/2, -1/4), would give 2 instead).  r = 1/8: 3/8 < 3/4 confirmed;  r = 1/2: 3/2 >= 3/4 rejected
-- (a rate of 2 would have confirmed it).
example : confirmed? (sendRoot Ops.rat exC 7 true ⟨5, 1/2⟩ (timeSliceState Ops.rat exC ⟨5, 1/2⟩ [dipB, dipAct])
    [dipAct, dipB] [2, -1, -1/2, 1] [3/2, -1, -1/4, 1/2] (.unit (1/8))) = some true := by decide +kernel
example : confirmed? (sendRoot Ops.rat exC 7 true ⟨5, 1/2⟩ (timeSliceState Ops.rat exC ⟨5, 1/2⟩ [dipB, dipAct])
    [dipAct, dipB] [2, -1, -1/2, 1] [3/2, -1, -1/4, 1/2] (.unit (1/2))) = some false := by decide +kernel

/-- the hypotheses of `root_thinning_exact` are met by the example (`B = 3`, `E = 3/4`) … -/
example : ∃ st' w cs ins u, sendRoot Ops.rat exC 7 true ⟨5, 1/2⟩ (timeSliceState Ops.rat exC ⟨5, 1/2⟩ [dipB, dipAct])
    [dipAct, dipB] [2, -1, -1/2, 1] [3/2, -1, -1/4, 1/2] (.unit (1/8)) = .out st' true w cs ins u :=
  exists_out_of_confirmed? (by decide +kernel)
example : (0:ℚ) < summedBound Ops.rat [2, -1, -1/2, 1]
    ∧ max 0 ([3/2, -1, -1/4, 1/2] : List ℚ).sum ≤ summedBound Ops.rat [2, -1, -1/2, 1] := by decide +kernel
/-- … and those of `root_thinned_rate` by its 2×2 table -/
example : List.Forall₂ (List.Forall₂ fun (q b : ℚ) => q ≤ max 0 b) [[3/2, -1], [-1/4, 1/2]] [[2, -1], [-1/2, 1]] := by
  decide +kernel

/-- what the confirmed event does: the velocity of the whole dipole `(0,·)` (root and both leaves) moves to the
whole dipole `(3,·)` (both leaves get `[1,0,0]`, the root `1/2·[1,0,0] + 1/2·[1,0,0]`) -/
example : (match sendRoot Ops.rat exC 7 true ⟨5, 1/2⟩ (timeSliceState Ops.rat exC ⟨5, 1/2⟩ [dipB, dipAct])
    [dipAct, dipB] [2, -1, -1/2, 1] [3/2, -1, -1/4, 1/2] (.unit (1/8)) with
    | .out st' _ _ _ _ _ => velocities st'
    | _ => []) = [none, none, none, some [1, 0, 0], some [1, 0, 0], some [1, 0, 0]] := by decide +kernel
/-- the unconfirmed one leaves all velocities as they were -/
example : (match sendRoot Ops.rat exC 7 true ⟨5, 1/2⟩ (timeSliceState Ops.rat exC ⟨5, 1/2⟩ [dipB, dipAct])
    [dipAct, dipB] [2, -1, -1/2, 1] [3/2, -1, -1/4, 1/2] (.unit (1/2)) with
    | .out st' _ _ _ _ _ => velocities st'
    | _ => []) = velocities [dipAct, dipB] := by decide +kernel
/-- kind 8 (no thinning) passes the velocity without any rate -/
example : confirmed? (sendRoot Ops.rat exC 8 false ⟨5, 1/2⟩ [] [dipAct, dipB] [] [] (.value 0)) = some true := by
  decide +kernel

end JF.C04
