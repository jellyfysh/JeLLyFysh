import JF.Lemmas.StoreRefine
import JF.Lemmas.StoreRefineCor
import JF.Props.C13
/-!
# C13 as one refinement theorem: the reference-level store refines a pure value map

* Reference-level model: `JF/Model/Store.lean` (`Sess`, `Op`, `step`, `run`: explicit heap, references,
  copies) of `TreeStateHandler` / `TreePhysicalState` / `TreeLiftingState`.
* Specification: `JF/Lemmas/StoreRefineSpec.lean` (`Spec`, `Spec.step`, `Spec.run`: **no heap, no
  reference**; the global state is a map identifier ↦ values, a held branch is a list of values).
* Abstraction map `abs : Sess α → Spec α`: read every reference through the heap.

`refines_functional`: after any history (`C13.Reach`), for every further operation list that obeys the
discipline, `abs ∘ run = Spec.run ∘ abs` and the traces of outcome tokens (including the error
outcomes) are equal.  The C13 statements are facts about the value map (where they are almost
definitional) carried over by this one theorem: `isolation`, `insert_readback`, `between_commits`,
`active_extraction`.

## What `Spec.Disciplined` excludes, and why it has to

`Spec.Disciplined S op` constrains only the three **in-place** mutations
`unit.position[i] = x` (`setPos`), `unit.velocity[i] = x` (`setVel`), `unit.time_stamp.update(..)`
(`tsUpdate`): the held branch `b` they go through must not carry the ghost flag `false`
(`disciplined_iff`: on the reference level, `s.live[b]? = some L → L.iso = true`).
Everything else is allowed: extractions, commits (of any held branch, also of alias branches, also
repeatedly), the three re-binding mutations (`unit.position = [..]`, `unit.velocity = [..] / None`,
`unit.time_stamp = Time(..) / None`) through *any* held branch, in-place mutations through isolated
branches, and every call that ends in an exception.

The flag is `false` in exactly two cases.  In both the real code shares mutable objects between the
client's branch and the global state, which no map of values can express, so the exclusion is necessary
(`undisciplined_global_differs`, `undisciplined_inserted_differs`):
  (a) branches handed out by `extract_global_state` (`Op.global`): it calls
      `_construct_cnode_with_all_children_cnodes` with the default
      `copy_method = lambda object_to_copy: object_to_copy`: the `Unit`/`Node` wrappers are new, but
      `position`, `velocity` and `time_stamp` are **the stored list / `Time` objects themselves**
      ("When constructing the units, the positions, velocities, and time stamps are not copied.");
  (b) branches handed to `insert_into_global_state` (`Op.insert`) since their extraction: it does
      `self._physical_state.set(identifier, cnode.value.position)` (`node.value.position = position`)
      and `self._lifting_state.set(identifier, velocity, time_stamp)`
      (`self._lifting_dictionary[identifier] = (velocity, time_stamp)`): it **stores the references** of
      the client's objects, so after the commit the client's branch aliases the global state.
Only `extract_from_global_state` / `extract_active_global_state` copy (`copy(position)`,
`copy(velocity)`, `copy(time_stamp)`).  The property C13 speaks of in-states (extracted copies) up to
their commit; that is the discipline.
-/
namespace JF.C13Refine
open JF JF.Store JF.C13

variable {α : Type}

def outcomes (s : Sess α) : List (Op α) → List Outcome
  | [] => []
  | op :: ops => (step s op).2 :: outcomes (step s op).1 ops

theorem reach_run {s : Sess α} (hr : Reach s) (ops : List (Op α)) : Reach (run s ops) := by
  induction ops generalizing s with
  | nil => exact hr
  | cons op ops ih => exact ih (reach_step hr op)

/-- what the discipline says on the reference level: an in-place mutation goes through a live branch
that was extracted (`extract_from_global_state` / `extract_active_global_state`) and not handed to
`insert_into_global_state` since — or through no live branch at all (client error, nothing happens) -/
theorem disciplined_iff (s : Sess α) (op : Op α) :
    Spec.Disciplined (abs s) op ↔ ∀ b, op.inPlace = some b → ∀ L, s.live[b]? = some L → L.iso = true := by
  simp only [Spec.Disciplined]
  cases op.inPlace with
  | none => simp
  | some b =>
    simp only [Store.abs, List.getElem?_map, Option.map_map, Option.some.injEq, forall_eq']
    cases s.live[b]? with
    | none => simp
    | some L => cases h : L.iso <;> simp [h]

/-- The refinement holds from every state that satisfies the simulation invariant `Sim` (`Inv` and `LiftMirror`). -/
theorem run_refines : ∀ (ops : List (Op α)) {s : Sess α}, Sim s → Spec.DisciplinedRun (Store.abs s) ops →
    Store.abs (run s ops) = (Spec.run (Store.abs s) ops).1 ∧ outcomes s ops = (Spec.run (Store.abs s) ops).2
  | [], _, _, _ => ⟨rfl, rfl⟩
  | op :: ops, s, G, hd => by
    have h := step_refines G.inv G.mirror op hd.1
    obtain ⟨i1, i2⟩ := run_refines ops (G.step op) (by have := hd.2; rwa [h] at this)
    simp only [run, outcomes, Spec.run, h, i1, i2, and_self]

/-- After any history `s0` (any tree, any settings, any earlier operations,
disciplined or not), for every operation list that obeys the discipline: running the reference-level
store and reading the result through the heap is running the purely functional specification on the
values, and the two traces of outcome tokens are equal. -/
theorem refines_functional {s0 : Sess α} (hr : Reach s0) (ops : List (Op α))
    (hd : Spec.DisciplinedRun (abs s0) ops) :
    abs (run s0 ops) = (Spec.run (abs s0) ops).1 ∧ outcomes s0 ops = (Spec.run (abs s0) ops).2 :=
  run_refines ops (reach_sim hr) hd

/-! ### the observables of the reference-level store are functions of `abs` -/

theorem readAt_abs (s : Sess α) (id : Ident) : readAt s.g s.h id = Spec.unitAt (abs s).g id :=
  (unitAt_absG s.g s.h id).symm

theorem readGlobal_abs (s : Sess α) : readGlobal s.g s.h = Spec.snapshot (abs s).g := by
  rw [readGlobal_eq]
  simp [Spec.snapshot, Store.abs, absG]

theorem held_abs (s : Sess α) (j : Nat) :
    (abs s).held[j]? = (s.live[j]?).map fun L => (readBranch s.h L.b, L.iso) := by
  simp [Store.abs]

section necessity

/-- two dipoles in one dimension (C13's example tree) -/
abbrev tree : Sess ℚ := C13.exInit

def posOf (v : UVal ℚ) : List ℚ := match v.pos with | some (.vec l) => l | _ => []

/-- positions per root: root, then children -/
def globalPos (S : Spec ℚ) : List (List (List ℚ)) := (Spec.snapshot S.g).map (·.map posOf)

/-- (a) `extract_global_state`, then `unit.position[0] = 7` through leaf `(0,0)` of the branch it handed out -/
def badGlobal : List (Op ℚ) := [.global, .setPos 0 1 0 7]

/-- (b) extract leaf `(0,1)`, commit it, then `unit.position[0] = 7` through the committed branch -/
def badInserted : List (Op ℚ) := [.extract [0, 1], .insert [(0, 0)], .setPos 0 1 0 7]

example : ¬ Spec.DisciplinedRun (abs tree) badGlobal := by decide +kernel
example : ¬ Spec.DisciplinedRun (abs tree) badInserted := by decide +kernel

/-- **Necessity (a).**  Mutating in place an object handed out by `extract_global_state` changes the
global state of the reference-level model (as it does in the real `TreeStateHandler`): leaf `(0,0)` is
at `7` afterwards.  In the value map only the held value changes: the leaf stays at `0`.  So without the
discipline `abs ∘ run ≠ Spec.run ∘ abs`, although all outcome tokens agree. -/
theorem undisciplined_global_differs :
    globalPos (abs (run tree badGlobal)) = [[[5], [7], [1]], [[6], [2], [3]]] ∧
    globalPos (Spec.run (abs tree) badGlobal).1 = [[[5], [0], [1]], [[6], [2], [3]]] ∧
    abs (run tree badGlobal) ≠ (Spec.run (abs tree) badGlobal).1 ∧
    outcomes tree badGlobal = (Spec.run (abs tree) badGlobal).2 := by
  have h1 : globalPos (abs (run tree badGlobal)) = [[[5], [7], [1]], [[6], [2], [3]]] := by decide +kernel
  have h2 : globalPos (Spec.run (abs tree) badGlobal).1 = [[[5], [0], [1]], [[6], [2], [3]]] := by decide +kernel
  refine ⟨h1, h2, fun h => ?_, by decide +kernel⟩
  rw [h, h2] at h1
  revert h1
  decide +kernel

/-- **Necessity (b).**  The committed branch aliases the global state afterwards: mutating it in place
moves leaf `(0,1)` of the global state to `7` in the reference-level model (and in the real code), not
in the value map. -/
theorem undisciplined_inserted_differs :
    globalPos (abs (run tree badInserted)) = [[[5], [0], [7]], [[6], [2], [3]]] ∧
    globalPos (Spec.run (abs tree) badInserted).1 = [[[5], [0], [1]], [[6], [2], [3]]] ∧
    abs (run tree badInserted) ≠ (Spec.run (abs tree) badInserted).1 := by
  have h1 : globalPos (abs (run tree badInserted)) = [[[5], [0], [7]], [[6], [2], [3]]] := by decide +kernel
  have h2 : globalPos (Spec.run (abs tree) badInserted).1 = [[[5], [0], [1]], [[6], [2], [3]]] := by decide +kernel
  refine ⟨h1, h2, fun h => ?_⟩
  rw [h, h2] at h1
  revert h1
  decide +kernel

/-- the difference is observable by the client through the interface alone: a later extraction of
the leaf reads `7` from the store and `0` from the value map -/
example :
    ((abs (run tree (badGlobal ++ [.extract [0, 0]]))).held.getLast?.map fun L => L.1.map posOf) = some [[5], [7]] ∧
    ((Spec.run (abs tree) (badGlobal ++ [.extract [0, 0]])).1.held.getLast?.map fun L => L.1.map posOf) = some [[5], [0]] := by
  decide +kernel

/-- re-binding mutations through the same alias branch are harmless (and allowed by the discipline) -/
example : Spec.DisciplinedRun (abs tree) [.global, .newPos 0 1 [7], .newVel 0 0 (some [1]), .newTs 0 0 none] := by
  decide +kernel

end necessity

theorem spec_isolation (S : Spec α) {op : Op α} {b : Nat} (ht : op.target = some b) :
    (Spec.step S op).1.g = S.g ∧ (∀ j : Nat, j ≠ b → (Spec.step S op).1.held[j]? = S.held[j]?) ∧
    Spec.AgreeOff b (Spec.step S op).1 S :=
  let A := Spec.step_mutation_agreeOff S ht
  ⟨A.g, A.other, A⟩

/-- **Isolation, on the reference-level store.**  After any history, let `op` be a mutation (in place
or re-binding) of a position, velocity or time stamp through live branch `b`, obeying the discipline
(for an in-place mutation: `b` was extracted and not yet inserted).  Compare the futures with and
without `op` under any disciplined history `ops` that does not hand `b` to `insert`: the global state
reads the same (`readAt_abs`, `readGlobal_abs`), every other live branch reads the same (`held_abs`),
and every outcome token is the same, except those of further mutations of `b` itself. -/
theorem isolation {s : Sess α} (hr : Reach s) (op : Op α) {b : Nat} (ht : op.target = some b)
    (hd : Spec.Disciplined (abs s) op) (ops : List (Op α)) (hni : ∀ o ∈ ops, ¬ o.Inserts b)
    (hds : Spec.DisciplinedRun (abs s) ops) :
    (abs (run (step s op).1 ops)).g = (abs (run s ops)).g ∧
    (∀ j : Nat, j ≠ b → (abs (run (step s op).1 ops)).held[j]? = (abs (run s ops)).held[j]?) ∧
    ∀ (k : Nat) (o : Op α), ops[k]? = some o → o.target ≠ some b →
      (outcomes (step s op).1 ops)[k]? = (outcomes s ops)[k]? := by
  have G := reach_sim hr
  have r1 : Store.abs (step s op).1 = (Spec.step (Store.abs s) op).1 :=
    (congrArg (·.1) (step_refines G.inv G.mirror op hd)).symm
  have A := Spec.step_mutation_agreeOff (Store.abs s) ht
  obtain ⟨f1, t1⟩ := run_refines ops (G.step op) (r1 ▸ (Spec.disciplinedRun_agreeOff ops A hni).2 hds)
  obtain ⟨f2, t2⟩ := run_refines ops G hds
  rw [f1, f2, t1, t2, r1]
  have R := Spec.run_agreeOff ops A hni
  exact ⟨R.1.g, R.1.other, R.2⟩

/-- Insert read-back on the specification.  Should an identifier occur twice in `bs`, the last unit
counts; `Spec.over u o`: position, velocity and time stamp of the committed `u`, charge and weight stay
those of the node `o`. -/
theorem spec_insert_readback {S : Spec α} {sel : List (Nat × Nat)} {bs : List (List (UVal α))}
    (hp : sel.mapM (Spec.pick S.held) = some bs) (hok : (Spec.step S (.insert sel)).2 = none) :
    (∀ id, (∀ w ∈ bs.flatten, w.id ≠ id) →
      Spec.unitAt (Spec.step S (.insert sel)).1.g id = Spec.unitAt S.g id) ∧
    (∀ pre u post, bs.flatten = pre ++ u :: post → (∀ w ∈ post, w.id ≠ u.id) →
      ∃ o us, Spec.unitAt S.g u.id = some o ∧
        Spec.unitAt (Spec.step S (.insert sel)).1.g u.id = some (Spec.over u o) ∧
        Spec.step (Spec.step S (.insert sel)).1 (.extract u.id) =
          (⟨(Spec.step S (.insert sel)).1.g, (Spec.step S (.insert sel)).1.held ++ [(us, true)]⟩, none) ∧
        Spec.over u o ∈ us ∧ us = Spec.branch (Spec.step S (.insert sel)).1.g u.id) := by
  simp only [Spec.step, hp] at hok ⊢
  have hins : Spec.insertUnits S.g bs.flatten = ((Spec.insertUnits S.g bs.flatten).1, none) := by
    rw [← hok]
  refine ⟨fun id hn => Spec.unitAt_insertUnits_other hins hn, ?_⟩
  intro pre u post hsplit hn
  rw [hsplit] at hins
  obtain ⟨o, ho, hnew⟩ := Spec.unitAt_insertUnits_last hins hn
  rw [← hsplit] at hnew
  have hs : (Spec.unitAt (Spec.insertUnits S.g bs.flatten).1 u.id).isSome = true := by rw [hnew]; rfl
  have hex := Spec.extract_ok_of_isSome hs
  obtain ⟨_, v, hv, hmem⟩ := Spec.extract_reads hex
  rw [hnew, Option.some.injEq] at hv
  subst hv
  exact ⟨o, _, ho, hnew, by simp only [hex], hmem, rfl⟩

/-- **Insert read-back, on the reference-level store.**  After any history, a successful
`insert_into_global_state` of live branches whose *values* (read through the heap) are `bs`: afterwards
the global state reads, under the identifier of every committed unit, exactly the committed values,
extracting that identifier succeeds and the new live branch contains exactly these values; every
identifier not in `bs` reads what it read before. -/
theorem insert_readback {s : Sess α} (hr : Reach s) {sel : List (Nat × Nat)} {bs : List (List (UVal α))}
    (hp : sel.mapM (Spec.pick (abs s).held) = some bs) (hok : (step s (.insert sel)).2 = none) :
    (∀ id, (∀ w ∈ bs.flatten, w.id ≠ id) →
      readAt (step s (.insert sel)).1.g (step s (.insert sel)).1.h id = readAt s.g s.h id) ∧
    (∀ pre u post, bs.flatten = pre ++ u :: post → (∀ w ∈ post, w.id ≠ u.id) →
      ∃ o us, readAt s.g s.h u.id = some o ∧
        readAt (step s (.insert sel)).1.g (step s (.insert sel)).1.h u.id = some (Spec.over u o) ∧
        (step (step s (.insert sel)).1 (.extract u.id)).2 = none ∧
        (abs (step (step s (.insert sel)).1 (.extract u.id)).1).held =
          (abs (step s (.insert sel)).1).held ++ [(us, true)] ∧
        Spec.over u o ∈ us) := by
  have G := reach_sim hr
  have R := step_refines G.inv G.mirror (.insert sel) (Spec.disciplined_of_not_inPlace _ rfl)
  have r1 : Store.abs (step s (.insert sel)).1 = (Spec.step (Store.abs s) (.insert sel)).1 := (congrArg (·.1) R).symm
  obtain ⟨c1, c2⟩ := spec_insert_readback hp (by rw [R]; exact hok)
  simp only [readAt_abs, r1]
  refine ⟨c1, ?_⟩
  intro pre u post hsplit hn
  obtain ⟨o, us, ho, hnew, hstep, hmem, _⟩ := c2 pre u post hsplit hn
  have G' := G.step (.insert sel)
  have E := step_refines G'.inv G'.mirror (.extract u.id) (Spec.disciplined_of_not_inPlace _ rfl)
  rw [r1, hstep] at E
  exact ⟨o, us, ho, hnew, (congrArg (·.2) E).symm, by rw [← congrArg (·.1.held) E], hmem⟩

theorem spec_step_only_insert_changes_g (S : Spec α) (op : Op α) (hi : op.isInsert = false) :
    (Spec.step S op).1.g = S.g := Spec.step_g_of_not_insert S op hi

/-- **Between two commits.**  After any history, a disciplined history without `insert`
leaves the global state as it reads: every identifier (`readAt`) and the snapshot of
`extract_global_state` (`readGlobal`). -/
theorem between_commits {s : Sess α} (hr : Reach s) (ops : List (Op α)) (hni : ∀ op ∈ ops, op.isInsert = false)
    (hd : Spec.DisciplinedRun (abs s) ops) :
    (abs (run s ops)).g = (abs s).g ∧
    (∀ id, readAt (run s ops).g (run s ops).h id = readAt s.g s.h id) ∧
    readGlobal (run s ops).g (run s ops).h = readGlobal s.g s.h := by
  have hg : (abs (run s ops)).g = (abs s).g := by
    rw [(refines_functional hr ops hd).1]; exact Spec.run_g_of_no_insert ops _ hni
  exact ⟨hg, fun id => by rw [readAt_abs, readAt_abs, hg], by rw [readGlobal_abs, readGlobal_abs, hg]⟩

/-- **Active extraction, on the specification**: a successful `extract_active_global_state` leaves the
global part unchanged and hands out, flagged as isolated copies, exactly the branches `Spec.branch g id` (current
values) of the independent active identifiers `Spec.independent g` (sorted by key).  Which identifiers
these are: `Spec.mem_independent` (two levels: an active composite object itself if all its point
masses are active, otherwise its active point masses), `Spec.mem_independent_one` (one level: every
active unit). -/
theorem spec_active {S : Spec α} (hok : (Spec.step S .active).2 = none) :
    (Spec.step S .active).1.g = S.g ∧
    ∃ sorted : List (List (UVal α)), sorted.Perm ((Spec.independent S.g).map (Spec.branch S.g)) ∧
      sorted = ((Spec.independent S.g).map (Spec.branch S.g)).mergeSort (fun a b => lexLe (Spec.key a) (Spec.key b)) ∧
      (Spec.step S .active).1.held = S.held ++ sorted.map (·, true) := by
  simp only [Spec.step] at hok ⊢
  cases h : (Spec.independent S.g).mapM (Spec.extract S.g) with
  | error e => simp [h] at hok
  | ok bs =>
    rw [Spec.mapM_extract_ok h]
    exact ⟨rfl, _, List.mergeSort_perm _ _, rfl, rfl⟩

/-- which identifiers `Spec.independent` holds, at two levels and (next) at one -/
theorem spec_active_rule {g : Spec.Global α} (hlv : g.levels = 2) (id : Ident) :
    id ∈ Spec.independent g ↔ ∃ r, Spec.active g [r] ∧
      ((id = [r] ∧ ∀ i, i < g.perRoot → Spec.active g [r, i]) ∨
       ((¬ ∀ i, i < g.perRoot → Spec.active g [r, i]) ∧ ∃ i, i < g.perRoot ∧ id = [r, i] ∧ Spec.active g [r, i])) :=
  Spec.mem_independent hlv id

theorem spec_active_rule_one_level {g : Spec.Global α} (h1 : g.levels = 1) (id : Ident) :
    id ∈ Spec.independent g ↔ Spec.active g id := Spec.mem_independent_one h1 id

/-- **Active extraction, on the reference-level store**: after any history, a successful
`extract_active_global_state` does not change what the global state reads, and the new live branches read (through the heap) exactly
the current values of the branches of the independent active identifiers of the lifting state — which
are those of the specification (`Spec.independent (abs s).g`, characterised by `spec_active_rule`). -/
theorem active_extraction {s : Sess α} (hr : Reach s) (hok : (step s .active).2 = none) :
    (abs (step s .active).1).g = (abs s).g ∧
    Spec.independent (abs s).g = s.g.lift.independent ∧
    ∃ sorted : List (List (UVal α)),
      sorted.Perm (s.g.lift.independent.map (Spec.branch (abs s).g)) ∧
      (abs (step s .active).1).held = (abs s).held ++ sorted.map (·, true) := by
  have G := reach_sim hr
  have R := step_refines G.inv G.mirror .active (Spec.disciplined_of_not_inPlace _ rfl)
  obtain ⟨hg, sorted, hperm, _, hheld⟩ := spec_active (S := Store.abs s) (by rw [R]; exact hok)
  have hind : Spec.independent (Store.abs s).g = s.g.lift.independent := independent_absG s.g s.h G.mirror
  rw [R] at hg hheld
  exact ⟨hg, hind, sorted, hind ▸ hperm, hheld⟩

/-! ## Non-vacuity: both sides evaluated on a concrete two-level tree -/

section examples

deriving instance DecidableEq for JF.Store.Obj
deriving instance DecidableEq for JF.Store.UVal
deriving instance DecidableEq for JF.Store.Spec.Node
deriving instance DecidableEq for JF.Store.Spec.Global
deriving instance DecidableEq for JF.Store.Spec

/-- A disciplined history on the two-dipole tree, 14 operations: extract leaf `(0,1)` (branch 0: root 0
and the leaf); give leaf and root a velocity and a time stamp; move the leaf in place; commit; extract
the active part (branch 1); extract the whole of root 0 (branch 2); `extract_global_state` (branches 3,
4); an extraction that raises `IndexError`; an in-place time-stamp update through the isolated
branch 2; a client error (no branch 9); an in-place velocity write to a unit without velocity
(`TypeError`). -/
def goodOps : List (Op ℚ) :=
  [.extract [0, 1], .newVel 0 1 (some [1]), .newTs 0 1 (some (0, 4)), .newVel 0 0 (some [8]),
   .newTs 0 0 (some (0, 4)), .setPos 0 1 0 7, .insert [(0, 0)], .active, .extract [0], .global,
   .extract [2], .tsUpdate 2 0 3 0, .setPos 9 0 0 1, .setVel 2 1 0 5]

theorem tree_reach : Reach tree := ⟨inferInstance, Ops.rat, 2, 2, _, [], rfl⟩

/-- the hypothesis of `refines_functional` is met … -/
theorem goodOps_disciplined : Spec.DisciplinedRun (abs tree) goodOps := by decide +kernel

/-- … and both sides of its conclusion, evaluated independently, agree: the final states … -/
example : abs (run tree goodOps) = (Spec.run (abs tree) goodOps).1 := by decide +kernel

/-- … and the traces, which are not trivial -/
example : outcomes tree goodOps =
      [none, none, none, none, none, none, none, none, none, none, some .index, none, some .key, some .type] ∧
    (Spec.run (abs tree) goodOps).2 =
      [none, none, none, none, none, none, none, none, none, none, some .index, none, some .key, some .type] := by
  decide +kernel

/-- the final state is not trivial either: the commit moved leaf `(0,1)` to `7`, five branches are
held, the active extraction handed out the leaf's branch `[(0,), (0,1)]` -/
example : globalPos (abs (run tree goodOps)) = [[[5], [0], [7]], [[6], [2], [3]]] ∧
    (abs (run tree goodOps)).held.map (fun L => (L.1.map (·.id), L.2)) =
      [([[0], [0, 1]], false), ([[0], [0, 1]], true), ([[0], [0, 0], [0, 1]], true),
       ([[0], [0, 0], [0, 1]], false), ([[1], [1, 0], [1, 1]], false)] := by
  decide +kernel

example : abs (run tree goodOps) = (Spec.run (abs tree) goodOps).1 :=
  (refines_functional tree_reach goodOps goodOps_disciplined).1

/-- a reachable state with history: after the commit and the extractions (first ten operations) -/
def mid : Sess ℚ := run tree (goodOps.take 10)

theorem mid_reach : Reach mid := reach_run tree_reach _

/-- `isolation`: branch 2 of `mid` is an isolated copy of the whole composite object 0; an in-place
mutation through it obeys the discipline and succeeds; a later history that commits *another* branch,
extracts and looks at the global state does not hand branch 2 to `insert` and is disciplined -/
example : (Op.setPos 2 2 0 (9 : ℚ)).target = some 2 ∧ Spec.Disciplined (abs mid) (.setPos 2 2 0 9) ∧
    (step mid (.setPos 2 2 0 9)).2 = none ∧
    (∀ o ∈ ([.insert [(1, 0)], .extract [0], .global, .active, .setPos 2 2 0 1] : List (Op ℚ)), ¬ o.Inserts 2) ∧
    Spec.DisciplinedRun (abs mid) [.insert [(1, 0)], .extract [0], .global, .active, .setPos 2 2 0 1] := by
  refine ⟨rfl, by decide +kernel, by decide +kernel, by decide, by decide +kernel⟩

/-- … and the mutation is not a no-op: the held value changes (so "nothing else changes" says something) -/
example : ((abs (step mid (.setPos 2 2 0 9)).1).held[2]?.map fun L => L.1.map posOf) = some [[5], [0], [9]] ∧
    ((abs mid).held[2]?.map fun L => L.1.map posOf) = some [[5], [0], [7]] := by decide +kernel

/-- `insert_readback`: the commit in `goodOps` is a successful insert of a two-unit branch whose
values carry a velocity, a time stamp and the moved position -/
example : ∃ bs, [(0, 0)].mapM (Spec.pick (abs (run tree (goodOps.take 6))).held) = some bs ∧
    (step (run tree (goodOps.take 6)) (.insert [(0, 0)])).2 = none ∧
    bs.flatten.map (fun u => (u.id, posOf u, u.vel.isSome)) = [([0], [5], true), ([0, 1], [7], true)] :=
  ⟨_, rfl, by decide +kernel, by decide +kernel⟩

/-- `between_commits`: a disciplined history without `insert`, with extractions, in-place and
re-binding mutations of isolated branches and re-binding mutations of an alias branch -/
example : (∀ op ∈ ([.extract [1, 0], .setPos 2 2 0 9, .newVel 1 1 none, .tsUpdate 2 0 3 0, .newPos 3 0 [4],
      .global, .active] : List (Op ℚ)), op.isInsert = false) ∧
    Spec.DisciplinedRun (abs mid) [.extract [1, 0], .setPos 2 2 0 9, .newVel 1 1 none, .tsUpdate 2 0 3 0,
      .newPos 3 0 [4], .global, .active] := by
  refine ⟨by decide, by decide +kernel⟩

/-- `active_extraction` / `spec_active_rule`: in `mid` the active extraction succeeds, the system has
two levels, root 0 is active and exactly one of its two point masses is -/
example : (step mid .active).2 = none ∧ (abs mid).g.levels = 2 ∧ Spec.independent (abs mid).g = [[0, 1]] ∧
    Spec.active (abs mid).g [0] ∧ Spec.active (abs mid).g [0, 1] ∧ ¬ Spec.active (abs mid).g [0, 0] := by
  refine ⟨by decide +kernel, by decide +kernel, by decide +kernel, ?_, ?_, ?_⟩ <;>
    simp only [Spec.active] <;> decide +kernel

end examples

end JF.C13Refine
