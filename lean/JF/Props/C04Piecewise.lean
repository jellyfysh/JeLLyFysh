import JF.Model.PiecewiseBounding
import JF.Lemmas.PiecewiseSteps
import JF.Props.C04
import Mathlib.Tactic.Linarith
import Mathlib.Tactic.Ring
import Mathlib.Tactic.FieldSimp
import Mathlib.Tactic.NormNum
import Mathlib.Algebra.Order.Field.Basic
/-!
# C04 for the piecewise-constant bounding family

Theorems about the model `JF.Model.PiecewiseBounding` of

* `EventHandlerWithPiecewiseConstantBoundingPotential._displacement_from_piecewise_constant_bounding_potential`,
* `TwoLeafUnitEventHandlerWithPiecewiseConstantBoundingPotential`,
* `FixedSeparationsEventHandlerWithPiecewiseConstantBoundingPotential`

(tied to /repo by the correspondence run of `harness/c04_piecewise.py`: sequences of candidates on one real handler
object, bit for bit).  A handler object is the state machine `step` / `after` over its calls.

* Part A — **cache discipline**: after every successful `send_event_time`, for every history of the object, the cache
  `_bounding_event_rate` is `some b` exactly when the candidate is a genuine proposal (`0 < b ∧ E / b < max_displacement`,
  `b = max(q_now, q_ahead) + offset`) and `none` exactly when it is a relocation by `max_displacement`; the value does not
  depend on the past of the object; a cached rate is positive (the `assert … >= 0.0` of the fixed-separations class
  never fires).
* Part B — **decision kernel** (every scalar type, then exact reading): confirmed ⇔ cache = some b ∧ 0 < q ∧ draw < q;
  relocation and rejection return the stored state unchanged (every velocity, time stamp, position); a relocation is
  never confirmed whatever was cached before; acceptance probability `max(0,q)/b` as Lebesgue measure.
* Parts C, D — **soundness of the local bound, conditional**: under the named hypothesis `LocalBound` the proposal rate
  dominates the true rate on the whole stretch `[0, max_displacement]`, and proposals × acceptance = `max(0, q(x))`
  pointwise.  The integral form (survival of the composed process to distance `x` is `exp(-β ∫₀ˣ max(0,q))`) is NOT
  proved: see `stretch_sound_partial`.
-/
namespace JF.C04P
open JF JF.Thin JF.Pcb MeasureTheory
open JF.C04 hiding trueDeriv

/-! ## Part A — the three branches and the cache, exact reading -/

theorem pymax_eq (a b : ℚ) : pymax a b = max a b := by
  unfold pymax
  split
  · next h => exact (max_eq_right h.le).symm
  · next h => exact (max_eq_left (not_lt.mp h)).symm

theorem boundRate_eq (q1 q2 off : ℚ) : boundRate q1 q2 off = max q1 q2 + off := by
  rw [boundRate, pymax_eq]

/-- a candidate is a *genuine proposal* when the locally constant rate is positive and the proposed distance lies
before `max_displacement` -/
def Proposal (q1 q2 off dmax E : ℚ) : Prop := 0 < max q1 q2 + off ∧ E / (max q1 q2 + off) < dmax

instance (q1 q2 off dmax E : ℚ) : Decidable (Proposal q1 q2 off dmax E) := by unfold Proposal; infer_instance

theorem displacement_eq (q1 q2 off dmax E : ℚ) :
    displacement Ops.rat q1 q2 off dmax E =
      (if Proposal q1 q2 off dmax E then (E / (max q1 q2 + off), some (max q1 q2 + off)) else (dmax, none)) := by
  rw [displacement_eq_ite, boundRate_eq, rat0]
  by_cases h : Proposal q1 q2 off dmax E
  · rw [if_pos h, if_pos ⟨not_le.mpr h.1, h.2⟩]
  · rw [if_neg h, if_neg fun h' => h ⟨not_le.mp h'.1, h'.2⟩]

theorem cache_some_iff (q1 q2 off dmax E b : ℚ) :
    (displacement Ops.rat q1 q2 off dmax E).2 = some b ↔ b = max q1 q2 + off ∧ 0 < b ∧ E / b < dmax := by
  rw [displacement_eq]
  split
  · next h =>
    constructor
    · intro hb; cases hb; exact ⟨rfl, h⟩
    · rintro ⟨rfl, _⟩; rfl
  · next h =>
    constructor
    · intro hb; cases hb
    · rintro ⟨rfl, hp⟩; exact absurd hp h

theorem cache_none_iff (q1 q2 off dmax E : ℚ) :
    (displacement Ops.rat q1 q2 off dmax E).2 = none ↔ ¬ Proposal q1 q2 off dmax E := by
  rw [displacement_eq]
  split
  · next h => exact iff_of_false nofun (not_not_intro h)
  · next h => exact iff_of_true rfl h

theorem displacement_fst (q1 q2 off dmax E : ℚ) :
    (displacement Ops.rat q1 q2 off dmax E).1 =
      (if Proposal q1 q2 off dmax E then E / (max q1 q2 + off) else dmax) := by
  rw [displacement_eq]
  exact apply_ite Prod.fst _ _ _

/-- **Cache discipline, for every history of one handler object** (exact reading).  Whatever calls `hs` the object has seen
since any state `h0` (in particular since its construction), if the next `send_event_time` succeeds then, with `q1`, `q2`
the two derivatives it picked: the cache holds `b` iff `b = max(q1,q2) + offset`, `0 < b` and `E/b < max_displacement`; the
cache is empty iff the candidate is a relocation; the returned (= stored) time is the active unit's time stamp plus `E/b`
respectively plus `max_displacement`. -/
theorem cache_discipline (p : Params ℚ) (h0 : HState ℚ) (hs : List (Step ℚ)) (s : List (CNode ℚ)) (E : ℚ)
    (d1 d2 : Deriv ℚ) {h' : HState ℚ} {t : Time ℚ} {calls : List (PCall ℚ)}
    (hstep : step Ops.rat p (after Ops.rat p h0 hs) (.evt s E d1 d2) = (h', .time t calls)) :
    ∃ q1 q2 au ts, d1.pick h'.ai = .ok q1 ∧ d2.pick h'.ai = .ok q2 ∧
      activeIndex s = some h'.ai ∧ (leafUnits s)[h'.ai]? = some au ∧ au.ts = some ts ∧
      (∀ b, h'.cache = some b ↔ b = max q1 q2 + p.offset ∧ 0 < b ∧ E / b < p.dmax) ∧
      (h'.cache = none ↔ ¬ Proposal q1 q2 p.offset p.dmax E) ∧
      t = Time.add Ops.rat ts (if Proposal q1 q2 p.offset p.dmax E then E / (max q1 q2 + p.offset) else p.dmax) ∧
      h'.et = some t ∧ h'.st = some (sliceState Ops.rat p t s) := by
  obtain ⟨q1, q2, au, ts, _, _, hai, hau, hts, hp1, hp2, hc, ht, het, hst, _⟩ := evt_spec _ _ _ _ _ _ _ hstep
  refine ⟨q1, q2, au, ts, hp1, hp2, hai, hau, hts, fun b => ?_, ?_, ?_, het, hst⟩
  · rw [hc]; exact cache_some_iff _ _ _ _ _ _
  · rw [hc]; exact cache_none_iff _ _ _ _ _
  · rw [ht, displacement_fst]

/-- **the cache is a function of the last `send_event_time` alone**: two objects with arbitrary different pasts that are
asked for the same candidate end with the same cache, time and stored state -/
theorem cache_history_free (p : Params ℚ) (h0 h0' : HState ℚ) (hs hs' : List (Step ℚ)) (s : List (CNode ℚ)) (E : ℚ)
    (d1 d2 : Deriv ℚ) :
    step Ops.rat p (after Ops.rat p h0 hs) (.evt s E d1 d2) = step Ops.rat p (after Ops.rat p h0' hs') (.evt s E d1 d2) ∨
    (∃ e, (step Ops.rat p (after Ops.rat p h0 hs) (.evt s E d1 d2)).2 = .err e ∧
          (step Ops.rat p (after Ops.rat p h0' hs') (.evt s E d1 d2)).2 = .err e) :=
  step_evt_state_free _ _ _ _ _ _ _ _

/-- for every history since the construction of the object a cached rate is positive
(so `uniform(0, b)` is a draw from a proper interval and `assert bounding_event_rate >= 0.0` cannot fire) -/
theorem cached_rate_positive (p : Params ℚ) (hs : List (Step ℚ)) (b : ℚ)
    (hb : (after Ops.rat p HState.init hs).cache = some b) : 0 < b := by
  have := cacheInv_after Ops.rat p HState.init hs (cacheInv_init Ops.rat) b hb
  rw [rat0] at this
  exact not_le.mp this

/-! ## Part B — the decision kernel -/

/-- **relocation ⇒ nothing happens, whatever was cached before** (every scalar type): if `send_event_time` produced a
relocation (`cache = none` after it — by Part A: iff the candidate is not a genuine proposal), the following
`send_out_state` asks neither the potential nor the random number generator, confirms nothing and returns the stored,
time-sliced in-state.  This is the statement a stale cache violates. -/
theorem relocation_never_confirmed {α : Type} [Add α] [Sub α] [Mul α] [Div α] [Neg α] [LT α] [DecidableLT α] [LE α]
    [DecidableLE α] [BEq α] (o : Ops α) (p : Params α) (h : HState α) (s : List (CNode α)) (E : α) (d1 d2 : Deriv α)
    {h1 : HState α} {t : Time α} {calls : List (PCall α)}
    (hevt : step o p h (.evt s E d1 d2) = (h1, .time t calls)) (hnone : h1.cache = none)
    (d : Deriv α) (dr : Draw α) (nid : List Nat) {h2 : HState α} {r : Out α}
    (hout : step o p h1 (.out d dr nid) = (h2, .out r)) :
    r = Out.idle (sliceState o p t s) [] ∧ h2 = h1 := by
  obtain ⟨_, _, _, _, _, _, _, _, _, _, _, _, _, _, hst, _⟩ := evt_spec _ _ _ _ _ _ _ hevt
  obtain ⟨h2eq, st, et, hst', _, hspec⟩ := out_spec _ _ _ _ _ _ hout
  rw [hst] at hst'
  cases hst'
  have hr := hspec.1 hnone
  refine ⟨hr, ?_⟩
  rw [h2eq, hr]
  cases h1
  cases hst
  rfl

/-- in the exact reading, in terms of the inputs: not a genuine proposal ⇒ never confirmed, state unchanged -/
theorem relocation_never_confirmed_exact (p : Params ℚ) (h0 : HState ℚ) (hs : List (Step ℚ)) (s : List (CNode ℚ)) (E : ℚ)
    (d1 d2 : Deriv ℚ) {h1 : HState ℚ} {t : Time ℚ} {calls : List (PCall ℚ)}
    (hevt : step Ops.rat p (after Ops.rat p h0 hs) (.evt s E d1 d2) = (h1, .time t calls))
    (q1 q2 : ℚ) (hp1 : d1.pick h1.ai = .ok q1) (hp2 : d2.pick h1.ai = .ok q2) (hrel : ¬ Proposal q1 q2 p.offset p.dmax E)
    (d : Deriv ℚ) (dr : Draw ℚ) (nid : List Nat) {h2 : HState ℚ} {r : Out ℚ}
    (hout : step Ops.rat p h1 (.out d dr nid) = (h2, .out r)) :
    r.confirmed = false ∧ r.st = sliceState Ops.rat p t s ∧ r.uni = none ∧ r.calls = [] := by
  obtain ⟨q1', q2', _, _, hp1', hp2', _, _, _, _, hnone, _⟩ := cache_discipline p h0 hs s E d1 d2 hevt
  rw [hp1] at hp1'; rw [hp2] at hp2'
  cases hp1'; cases hp2'
  obtain ⟨hr, _⟩ := relocation_never_confirmed _ _ _ _ _ _ _ hevt (hnone.mpr hrel) d dr nid hout
  rw [hr]; exact ⟨rfl, rfl, rfl, rfl⟩

/-- **confirmed ⇔ cache = some b ∧ 0 < q ∧ draw < q** (every scalar type); unconfirmed ⇒ the stored state is returned
unchanged and the lifting scheme is not filled -/
theorem confirmed_iff {α : Type} [Add α] [Sub α] [Mul α] [Div α] [Neg α] [LT α] [DecidableLT α] [LE α]
    [DecidableLE α] [BEq α] (o : Ops α) (p : Params α) (h : HState α) (d : Deriv α) (dr : Draw α) (nid : List Nat)
    {h' : HState α} {r : Out α} (hs : step o p h (.out d dr nid) = (h', .out r)) :
    (r.confirmed = true ↔
      ∃ b q, h.cache = some b ∧ Pcb.trueDeriv p h.ai d = some q ∧ o.ofInt 0 < q ∧ dr.get o b < q) ∧
    (r.confirmed = false → h.st = some r.st ∧ r.inserts = []) ∧
    h'.cache = h.cache ∧ h'.et = h.et ∧ h'.ai = h.ai := by
  obtain ⟨rfl, st, et, hst, _, hnone, hsome⟩ := out_spec _ _ _ _ _ _ hs
  cases hc : h.cache with
  | none =>
    rw [hnone hc]
    exact ⟨⟨nofun, fun ⟨_, _, hb, _⟩ => nomatch hb⟩, fun _ => ⟨hst, rfl⟩, rfl, rfl, rfl⟩
  | some b =>
    obtain ⟨q, hq, hcf, hun, _⟩ := hsome b hc
    refine ⟨?_, fun hf => ⟨by rw [(hun hf).1, hst], (hun hf).2⟩, rfl, rfl, rfl⟩
    simp only [hcf, confirmLeaf, Bool.and_eq_true, decide_eq_true_eq]
    constructor
    · intro hh; exact ⟨b, q, rfl, hq, hh⟩
    · rintro ⟨b', q', hb', hq', hh⟩
      cases hb'; cases hq.symm.trans hq'
      exact hh

/-- every velocity of the stored state, in state order -/
def velocities {α : Type} (st : List (CNode α)) : List (Option (List α)) :=
  st.flatMap fun c => c.unit.vel :: c.children.map (·.1.vel)

/-- **relocation and rejection leave every velocity unchanged** (every scalar type) -/
theorem unconfirmed_velocities {α : Type} [Add α] [Sub α] [Mul α] [Div α] [Neg α] [LT α] [DecidableLT α] [LE α]
    [DecidableLE α] [BEq α] (o : Ops α) (p : Params α) (h : HState α) (d : Deriv α) (dr : Draw α) (nid : List Nat)
    {h' : HState α} {r : Out α} (hs : step o p h (.out d dr nid) = (h', .out r)) (hcf : r.confirmed = false) :
    h.st.map velocities = some (velocities r.st) ∧ h' = h := by
  obtain ⟨_, hun, _⟩ := confirmed_iff o p h d dr nid hs
  obtain ⟨hst, _⟩ := hun hcf
  obtain ⟨h2eq, _⟩ := out_spec _ _ _ _ _ _ hs
  refine ⟨by rw [hst]; rfl, ?_⟩
  rw [h2eq, ← hst]

/-- **Exact reading: the accepting draws.**  A proposal with cached rate `b` (positive by Part A) whose true derivative at
the proposed point is `q ≤ b`, decided with `random() = u ≥ 0`: confirmed iff `u < max(0,q)/b ∈ [0,1]`; no warning. -/
theorem pcb_thinning_exact (p : Params ℚ) (h : HState ℚ) (d : Deriv ℚ) (u : ℚ) (nid : List Nat) {h' : HState ℚ} {r : Out ℚ}
    (hs : step Ops.rat p h (.out d (.unit u) nid) = (h', .out r)) (b q : ℚ) (hc : h.cache = some b) (hb : 0 < b)
    (hq : trueDeriv p h.ai d = some q) (hle : q ≤ b) (hu : 0 ≤ u) :
    (r.confirmed = true ↔ u < max 0 q / b) ∧ 0 ≤ max 0 q / b ∧ max 0 q / b ≤ 1 ∧ r.warned = false ∧
      (r.confirmed = false → h.st = some r.st) := by
  obtain ⟨_, st, et, hst, _, hspec⟩ := out_spec _ _ _ _ _ _ hs
  obtain ⟨q', hq', hcf, hun, hw, _⟩ := hspec.2 b hc
  rw [hq] at hq'; cases hq'
  refine ⟨?_, (accept_set b q hb hle).2.1, (accept_set b q hb hle).2.2, ?_, fun hf => by rw [(hun hf).1, hst]⟩
  · rw [hcf]; exact accept_unit_iff b q u hb hu
  · rw [hw]; exact warns_false_of_le _ _ hle

/-- the accepting values of `random()` form the interval `[0, max(0,q)/b)` of length `max(0,q)/b` (`JF.C04.accept_set`,
which is about exactly the comparison `out_spec` shows the two classes make) -/
theorem pcb_accept_set (b q : ℚ) (hb : 0 < b) (hq : q ≤ b) :
    {u : ℚ | 0 ≤ u ∧ u < 1 ∧ confirmLeaf Ops.rat q ((Draw.unit u).get Ops.rat b) = true} = Set.Ico 0 (max 0 q / b) :=
  (accept_set b q hb hq).1

/-- **acceptance probability as Lebesgue measure** (real reading of the comparison; `out_spec` holds for every scalar
type, so also for `ℝ`): for `random()` uniform on `[0,1)` the confirming values have measure `max(0,q)/b` -/
theorem pcb_accept_probability (o : Ops ℝ) (ho : o.ofInt 0 = 0) (b q : ℝ) (hb : 0 < b) (hq : q ≤ b) :
    volume {u : ℝ | u ∈ Set.Ico (0:ℝ) 1 ∧ confirmLeaf o q ((Draw.unit u).get o b) = true}
      = ENNReal.ofReal (max 0 q / b) :=
  accept_probability o ho b q hb hq

/-! ## Part C — the thinning identity -/

/-- proposals at rate `β·b`, each confirmed with probability `max(0,q)/b`: events at rate `β·max(0,q)`, whatever `b` -/
theorem pcb_thinned_rate (β b q : ℚ) (hb : 0 < b) : (β * b) * (max 0 q / b) = β * max 0 q := by
  rw [Rat.mul_assoc, Rat.mul_comm b, Rat.div_mul_cancel hb.ne']

/-! ## Part D — soundness of the local bound (conditional) -/

/-- **The hypothesis the configured `offset` has to guarantee**: along the stretch of length `dmax` ahead of the active
unit (`q x` = true derivative with the active unit displaced by `x`), the derivative never exceeds the larger of its two
end-point values by more than `offset`. -/
structure LocalBound (q : ℚ → ℚ) (offset dmax : ℚ) : Prop where
  le : ∀ x, 0 ≤ x → x ≤ dmax → q x ≤ max (q 0) (q dmax) + offset

/-- under `LocalBound` the locally constant rate dominates the true event rate on the whole closed stretch; where it is
not positive the true rate vanishes on the whole stretch -/
theorem stretch_dominates (q : ℚ → ℚ) (off dmax : ℚ) (hL : LocalBound q off dmax) :
    (0 < max (q 0) (q dmax) + off → ∀ x, 0 ≤ x → x ≤ dmax → max 0 (q x) ≤ max (q 0) (q dmax) + off) ∧
    (max (q 0) (q dmax) + off ≤ 0 → ∀ x, 0 ≤ x → x ≤ dmax → max 0 (q x) = 0) := by
  refine ⟨fun hb x h0 h1 => max_le hb.le (hL.le x h0 h1), fun hb x h0 h1 => ?_⟩
  exact max_eq_left (le_trans (hL.le x h0 h1) hb)

/-- **One stretch of the piecewise-constant construction is sound, pointwise.**
`q x` is the true derivative `x` ahead, `E ≥ 0` the exponential budget, `(x₀, c) = displacement (q 0) (q dmax) offset dmax E`
what the handler computes.  Under `LocalBound`:

* `c = some b` (genuine proposal): `b = max(q 0, q dmax) + offset > 0`, the proposed point `x₀ = E/b` lies in `[0, dmax)`,
  `b` dominates `max(0, q y)` on all of `[0, dmax]`, for every `y ≤ dmax` the proposal lies before `y` iff `E < b·y` (the
  proposal process has constant rate `b`: with `P(E > e) = exp(-βe)` that is `P(no proposal before y) = exp(-β b y)`), the
  proposal is confirmed iff `u < max(0, q x₀)/b ∈ [0,1]`, and rate × acceptance = `β·max(0, q x₀)`;
* `c = none` (relocation): `x₀ = dmax`, and either the true rate vanishes on the whole stretch (`b ≤ 0`) or `b > 0`
  dominates and no proposal falls on the stretch (`b·dmax ≤ E`, which has probability `exp(-β b dmax)`): the process is
  restarted at `dmax` with the budget's memorylessness.

**What is missing** (hence `_partial`): the integral statement that the composed process (proposals, rejections and
relocations, each restarting the construction) has survival `exp(-β ∫₀ˣ max(0, q))` to distance `x`.  That needs the
exponential law of `E` and an integral/renewal argument in measure theory and is not formalised; the pointwise identities
above are its integrand. -/
theorem stretch_sound_partial (q : ℚ → ℚ) (off dmax β E : ℚ) (hE : 0 ≤ E)
    (hL : LocalBound q off dmax) :
    (∀ b, (displacement Ops.rat (q 0) (q dmax) off dmax E).2 = some b →
        b = max (q 0) (q dmax) + off ∧ 0 < b ∧
        (displacement Ops.rat (q 0) (q dmax) off dmax E).1 = E / b ∧ 0 ≤ E / b ∧ E / b < dmax ∧
        (∀ y, 0 ≤ y → y ≤ dmax → max 0 (q y) ≤ b) ∧
        (∀ y, E / b < y ↔ E < b * y) ∧
        0 ≤ max 0 (q (E / b)) / b ∧ max 0 (q (E / b)) / b ≤ 1 ∧
        (∀ u, 0 ≤ u → (confirmLeaf Ops.rat (q (E / b)) ((Draw.unit u).get Ops.rat b) = true ↔ u < max 0 (q (E / b)) / b)) ∧
        (β * b) * (max 0 (q (E / b)) / b) = β * max 0 (q (E / b))) ∧
    ((displacement Ops.rat (q 0) (q dmax) off dmax E).2 = none →
        (displacement Ops.rat (q 0) (q dmax) off dmax E).1 = dmax ∧
        ((max (q 0) (q dmax) + off ≤ 0 ∧ ∀ y, 0 ≤ y → y ≤ dmax → max 0 (q y) = 0) ∨
         (0 < max (q 0) (q dmax) + off ∧ (max (q 0) (q dmax) + off) * dmax ≤ E ∧
            ∀ y, 0 ≤ y → y ≤ dmax → max 0 (q y) ≤ max (q 0) (q dmax) + off))) := by
  have hdom := stretch_dominates q off dmax hL
  constructor
  · intro b hb
    obtain ⟨hbe, hb0, hlt⟩ := (cache_some_iff _ _ _ _ _ _).mp hb
    have hx0 : 0 ≤ E / b := Rat.div_nonneg hE hb0.le
    have hacc := (accept_set b (q (E / b)) hb0 ((hL.le _ hx0 hlt.le).trans_eq hbe.symm)).2
    refine ⟨hbe, hb0, ?_, hx0, hlt, ?_, fun y => ?_, hacc.1, hacc.2, fun u hu => accept_unit_iff _ _ u hb0 hu,
      pcb_thinned_rate _ _ _ hb0⟩
    · rw [displacement_fst, if_pos ⟨hbe ▸ hb0, hbe ▸ hlt⟩, hbe]
    · rw [hbe]; exact hdom.1 (hbe ▸ hb0)
    · rw [Rat.div_lt_iff hb0, Rat.mul_comm]
  · intro hn
    have hrel := (cache_none_iff _ _ _ _ _).mp hn
    refine ⟨by rw [displacement_fst, if_neg hrel], ?_⟩
    unfold Proposal at hrel
    rcases le_or_gt (max (q 0) (q dmax) + off) 0 with hb | hb
    · exact Or.inl ⟨hb, hdom.2 hb⟩
    · refine Or.inr ⟨hb, ?_, hdom.1 hb⟩
      have : ¬ E / (max (q 0) (q dmax) + off) < dmax := fun h => hrel ⟨hb, h⟩
      rw [Rat.div_lt_iff hb, Rat.mul_comm] at this
      exact not_lt.mp this

/-! ## Non-vacuity -/

/-- an increasing and a decreasing derivative satisfy `LocalBound` without offset -/
example : LocalBound (fun x => x) 0 1 := ⟨fun _ _ h1 => (le_max_of_le_right h1).trans (add_zero _).ge⟩
example : LocalBound (fun x => 1 - 2 * x) 0 1 := ⟨fun _ h0 _ =>
  (le_max_of_le_left (sub_le_sub_left (mul_le_mul_of_nonneg_left h0 zero_le_two) 1)).trans (add_zero _).ge⟩

/-- a derivative with an interior maximum (`x(1-x)` on `[0,1]`, both end values `0`) needs the offset: `1/4` suffices … -/
theorem exLocalBound : LocalBound (fun x => x * (1 - x)) (1/4) 1 := ⟨fun x _ _ => by
  have h : x * (1 - x) ≤ 1/4 := sub_nonneg.mp ((sq_nonneg (x - 1/2)).trans_eq (by ring))
  exact h.trans (le_add_of_nonneg_left (le_max_of_le_left (zero_mul _).ge))⟩

/-- … and offset `0` does not: `LocalBound` is a genuine hypothesis (at `x = 1/2` the derivative is `1/4 > 0 = bound`) -/
theorem exLocalBound_fails : ¬ LocalBound (fun x => x * (1 - x)) 0 1 := fun h =>
  absurd (h.le (1/2) (by decide +kernel) (by decide +kernel)) (by decide +kernel)

/-- the three branches on concrete numbers: a proposal, a relocation because the budget is too large, a relocation because
the rate is not positive, and the closed end `E/b = max_displacement` (relocation: the test is strict) -/
example : displacement Ops.rat 1 2 (1/2) 1 1 = (2/5, some (5/2)) := by decide +kernel
example : displacement Ops.rat 1 2 (1/2) 1 3 = (1, none) := by decide +kernel
example : displacement Ops.rat (-1) (-2) (1/2) 1 3 = (1, none) := by decide +kernel
example : displacement Ops.rat 1 2 (1/2) 1 (5/2) = (1, none) := by decide +kernel
example : displacement Ops.rat 0 0 0 1 0 = (1, none) := by decide +kernel

example := stretch_sound_partial (fun x => x * (1 - x)) (1/4) 1 1 (1/8) (by norm_num) exLocalBound
example : (displacement Ops.rat ((fun x : ℚ => x * (1 - x)) 0) ((fun x : ℚ => x * (1 - x)) 1) (1/4) 1 (1/8)).2 = some (1/4) := by
  decide +kernel
example := pcb_accept_set (5/2) 1 (by norm_num) (by norm_num)
example := pcb_accept_probability Ops.real0 (by simp [Ops.real0]) (5/2) 1 (by norm_num) (by norm_num)

/-! ### the state machine on a concrete handler object (the hypotheses of Parts A and B are satisfiable) -/

def isTime {α : Type} : Reply α → Bool
  | .time _ _ => true
  | _ => false

def confirmedOf {α : Type} : Reply α → Option Bool
  | .out r => some r.confirmed
  | _ => none

theorem exists_time_of_isTime {α : Type} {x : HState α × Reply α} (h : isTime x.2 = true) :
    ∃ h' t calls, x = (h', .time t calls) := by
  obtain ⟨h', r⟩ := x
  cases r with
  | time t calls => exact ⟨h', t, calls, rfl⟩
  | err _ => cases h
  | out _ => cases h

theorem exists_out_of_confirmedOf {α : Type} {x : HState α × Reply α} {cf : Bool} (h : confirmedOf x.2 = some cf) :
    ∃ h' r, x = (h', .out r) ∧ r.confirmed = cf := by
  obtain ⟨h', r⟩ := x
  cases r with
  | out r => exact ⟨h', r, rfl, Option.some.inj h⟩
  | err _ => cases h
  | time _ _ => cases h

/-- a two-leaf handler with charges: offset 1/2, max_displacement 1/5, box 1 -/
def exP : Params ℚ := ⟨.twoLeaf, 1, 3, 1/10^13, 1/2, 1/5, true, 2, []⟩
/-- a fixed-separations handler (bending: separations 1,0,1,2) -/
def exF : Params ℚ := ⟨.fixedSep, 1, 3, 1/10^13, 1/2, 1/5, false, 0, [1, 0, 1, 2]⟩
def exD : CNode ℚ := ⟨⟨[2], [3/10, 7/10, 1/10], 1, none, none⟩, 1, []⟩

/-- a proposal: `b = max(1,2) + 1/2 = 5/2`, `E/b = 1/10 < 1/5` -/
def exProp : Step ℚ := .evt [exA, exB] (1/4) (.scalar 1) (.scalar 2)
/-- a relocation: `E/b = 2/5 ≥ 1/5` -/
def exReloc : Step ℚ := .evt [exA, exB] 1 (.scalar 1) (.scalar 2)

example : isTime (step Ops.rat exP HState.init exProp).2 = true := by decide +kernel
example : (after Ops.rat exP HState.init [exProp]).cache = some (5/2) := by decide +kernel
example : (after Ops.rat exP HState.init [exProp, exReloc]).cache = none := by decide +kernel
example : (after Ops.rat exP HState.init [exReloc, exProp]).cache = some (5/2) := by decide +kernel
/-- the hypothesis of `cache_discipline` / `evt_spec` on a concrete history -/
example : ∃ h' t calls, step Ops.rat exP (after Ops.rat exP HState.init [exProp, exReloc]) exProp = (h', .time t calls) :=
  exists_time_of_isTime (by decide +kernel)
/-- proposal, true derivative `1 ≤ 5/2`: `u = 1/4 < 2/5` confirms, `u = 3/4` does not -/
example : confirmedOf (step Ops.rat exP (after Ops.rat exP HState.init [exProp]) (.out (.scalar 1) (.unit (1/4)) [])).2 = some true := by
  decide +kernel
example : confirmedOf (step Ops.rat exP (after Ops.rat exP HState.init [exProp]) (.out (.scalar 1) (.unit (3/4)) [])).2 = some false := by
  decide +kernel
/-- proposal → relocation → `send_out_state` with a large true derivative and the draw `0`: not confirmed
(the sequence on which a stale cache confirms) -/
example : confirmedOf (step Ops.rat exP (after Ops.rat exP HState.init [exProp, exReloc]) (.out (.scalar 2) (.unit 0) [])).2 = some false := by
  decide +kernel
/-- the fixed-separations class: proposal with the derivative sequence of three units, confirmed, lifted to unit `[2]` -/
example : confirmedOf (step Ops.rat exF
    (after Ops.rat exF HState.init [.evt [exA, exB, exD] (1/4) (.tuple [1, -3, 2]) (.tuple [2, 1, -3])])
    (.out (.tuple [1, -3/2, 1/2]) (.unit (1/4)) [2])).2 = some true := by decide +kernel
example : confirmedOf (step Ops.rat exF
    (after Ops.rat exF HState.init [.evt [exA, exB, exD] (1/4) (.tuple [1, -3, 2]) (.tuple [2, 1, -3])])
    (.out (.tuple [1, -3/2, 1/2]) (.unit (3/4)) [2])).2 = some false := by decide +kernel

/-! ### binary64 reading of the three branches (kernel-evaluated): the strict test at `max_displacement` and the closed
test at zero -/
example : (displacement Ops.float 0.1 0.2 0.1 0.2 0.03).2.isSome = true := by decide +kernel
example : (displacement Ops.float 0.125 0.25 0.25 0.25 0.125).2.isSome = false := by decide +kernel   -- E/b == max_displacement exactly
example : (displacement Ops.float 0.125 0.25 0.25 0.25 0.12499999999999999).2.isSome = true := by decide +kernel   -- one ulp below
example : (displacement Ops.float (-0.1) (-0.2) 0.1 0.5 0.15).2.isSome = false := by decide +kernel  -- b == 0.0

end JF.C04P
