import JF.Props.C12Chain
import JF.Lemmas.ActivatorWiring
import JF.Model.ModeWiring
import JF.Gen.Wirings
import JF.Gen.WiringsSound
import JF.Gen.ModeWirings
/-!
# The mode discipline of `C12Chain` derived from the wiring (activator tag state)

`JF/Props/C12Chain.lean` assumes, for every event of a history, `modeStep m e = some m'`: the sequence of event KINDS follows the
ghost leaf/root mode.  Here that is proved (`modeStep_of_modeSound`; composed with `C12Chain`: `modeStep_chain`,
`run_rootConsistent_chain_of_modeSound`, `run_chain_clause_of_modeSound`) for the runs of the activator model (`JF.Act.Run`,
`JF/Lemmas/ActivatorWiring.lean`) of every wiring that passes the decidable check `ModeSound` (`JF/Model/ModeWiring.lean`), and
`ModeSound` holds (`all_composite_modeSound`, by `decide +kernel`) for every shipped configuration the translator classifies as
composite (dipoles/*, water/*, hard_disk_dipoles/*), `dipoles/dipole_motion.ini` being the one that switches.

`kindsOf : HMode → WMode → List EvKind` is the map "event-handler class ↦ composite event kinds it can commit"; the handler class
of every tagger (`HMode`) is read by the translator from the class hierarchy under `jellyfysh/event_handler/` and from the options
`aim_mode` / `initial_active_identifier` (`JF/Gen/ModeWirings.lean`).

What remains a hypothesis here (measured on every recorded run by `harness/modecorr.py`): `hkind` of `RunK` — a handler commits an
event of a kind of its class — and the hypotheses of `run_inv` (`FootprintsSound`, `LiveIs`).  For the world of composite objects
`FootprintsSound` is proved in `JF/Props/Footprints2.lean`, and in the composed loop `hkind` is how the step relation is defined
(`SysStep2`, `JF/Lemmas/SystemRun2Step.lean`).
-/

namespace JF.Act

theorem kRun_append (m : WMode) (ks : List EvKind) (k : EvKind) :
    kRun m (ks ++ [k]) = (kRun m ks).bind (fun m1 => kStep m1 k) := by
  induction ks generalizing m with
  | nil =>
    simp only [List.nil_append, kRun, Option.bind_some]
    cases kStep m k <;> rfl
  | cons a ks ih =>
    simp only [List.cons_append, kRun]
    cases kStep m a with
    | none => rfl
    | some m1 => exact ih m1

theorem kRun_cons_some {m m' : WMode} {k : EvKind} {ks : List EvKind} (h : kRun m (k :: ks) = some m') :
    ∃ m1, kStep m k = some m1 ∧ kRun m1 ks = some m' := by
  simp only [kRun] at h
  split at h
  · cases h
  · next m1 hk => exact ⟨m1, hk, h⟩

theorem kindsOf_cm {h : HMode} {cm m : WMode} (hp : isPoly h = true → cm = m) : kindsOf h cm = kindsOf h m := by
  cases h with
  | endOfChain => rw [hp rfl]
  | switcher b => cases b <;> cases cm <;> cases m <;> rfl
  | _ => cases cm <;> cases m <;> rfl

theorem mem_kindsOf_of_not_poly {h : HMode} (hp : isPoly h = false) {k : EvKind} {m cm : WMode} (hk : k ∈ kindsOf h m) :
    k ∈ kindsOf h cm :=
  kindsOf_cm (cm := cm) (m := m) (fun hp' => absurd hp' (by rw [hp]; exact Bool.false_ne_true)) ▸ hk

structure ModeFacts (mw : ModeWiring) (S : TaggerIdx) (m₀ : WMode) : Prop where
  startMode : mw.startMode = m₀
  agree : ∀ T, T < mw.w.n → kindAgrees (mw.w.tagger T).kind (mw.hmode T) = true
  start : modeOf mw m₀ (startState mw.w S) = m₀
  commit : ∀ σ ∈ reach mw.w S, ∀ E, E < mw.w.n → canCommit mw.w σ E = true → commitOK mw m₀ σ E = true

theorem modeFacts_of_modeSound {mw : ModeWiring} {S : TaggerIdx} (h : ModeSound mw = true) (hS : mw.w.start? = some S) :
    ∃ m₀, ModeFacts mw S m₀ := by
  unfold ModeSound at h
  rw [hS] at h
  simp only [] at h
  cases hm : startModeOf (mw.hmode S) with
  | none => rw [hm] at h; simp at h
  | some m₀ =>
    rw [hm] at h
    simp only [Bool.and_eq_true, beq_iff_eq] at h
    obtain ⟨⟨⟨_, hagree⟩, hstart⟩, hviol⟩ := h
    refine ⟨m₀, ?_, ?_, hstart, ?_⟩
    · unfold ModeWiring.startMode; rw [hS]; simp only []; rw [hm]; rfl
    · intro T hT
      exact List.all_eq_true.mp hagree T (List.mem_range.mpr hT)
    · intro σ hσ E hE hcan
      by_contra hc
      have : (σ, E) ∈ modeViolations mw m₀ (reach mw.w S) :=
        List.mem_flatMap.mpr ⟨σ, hσ, List.mem_map.mpr
          ⟨E, List.mem_filter.mpr ⟨List.mem_filter.mpr ⟨List.mem_range.mpr hE, hcan⟩, by simpa using hc⟩, rfl⟩⟩
      rw [List.isEmpty_iff.mp hviol] at this
      cases this

theorem commitOK_spec {mw : ModeWiring} {m₀ : WMode} {σ : AState} {E : TaggerIdx} (h : commitOK mw m₀ σ E = true) :
    (∀ k ∈ kindsOf (mw.hmode E) (modeOf mw m₀ σ), kStep (modeOf mw m₀ σ) k = some (modeOf mw m₀ (aStep mw.w σ E))) ∧
    (modeOf mw m₀ (aStep mw.w σ E) = modeOf mw m₀ σ ∨
      ∀ T, T < mw.w.n → isPoly (mw.hmode T) = true → aGet σ T = true → T ∈ (mw.w.tagger E).trashes) := by
  unfold commitOK at h
  simp only [Bool.and_eq_true, Bool.or_eq_true, beq_iff_eq] at h
  obtain ⟨h1, h2⟩ := h
  refine ⟨fun k hk => by simpa using List.all_eq_true.mp h1 k hk, ?_⟩
  rcases h2 with h2 | h2
  · exact Or.inl h2
  · right
    intro T hT hp ha
    have := List.all_eq_true.mp h2 T (List.mem_range.mpr hT)
    simp only [hp, ha, Bool.and_self, Bool.not_true, Bool.false_or] at this
    exact List.contains_iff_mem.mp this

/-- `Run` (`JF/Lemmas/ActivatorWiring.lean`) with the history of the run after the start — the committing taggers and the kinds of
the composite events they committed — and the ghost `cm`: for every tagger, the mode of the activation state in which the candidate
times of its pending handlers were requested (the state after the commit that created them).

`hkind`: the committed event is of a kind the handler class of the committing tagger can commit (`kindsOf`).  The end of chain is one
class for both modes, which draws a point mass or a composite object when its candidate time is requested: the leaf variant if that
was in a leaf-mode activation state (`cm`), the root variant if in a root-mode one. -/
inductive RunK {G : Type} (mw : ModeWiring) (W : World G) (Tr : TaggerIdx → G → G → Prop) (S : TaggerIdx) :
    List (TaggerIdx × EvKind) → (TaggerIdx → WMode) → RS G → Prop where
  | start (ids0 : HandlerId → IdTuple) (g0 g1 : G) (s0 : Act) (out : List (HandlerId × IdTuple)) (rs1 : RS G)
      (hfirst : first mw.w.wires (initAct mw.w.wires) S (fun T => W.yieldOf T g0) = some (s0, out))
      (hcommit : commit mw.w.wires W ⟨s0, assign ids0 out, g0⟩ S g1 = some rs1) :
      RunK mw W Tr S [] (fun _ => mw.mode (absOf rs1.act)) rs1
  | step (h : List (TaggerIdx × EvKind)) (cm : TaggerIdx → WMode) (rs rs' : RS G) (E : TaggerIdx) (g' : G) (k : EvKind)
      (prev : RunK mw W Tr S h cm rs)
      (hpending : (getT rs.act E).running ≠ []) (hend : (mw.w.tagger E).kind ≠ .endOfRun)
      (htr : Tr E rs.g g') (hcommit : commit mw.w.wires W rs E g' = some rs')
      (hkind : k ∈ kindsOf (mw.hmode E) (cm E)) :
      RunK mw W Tr S (h ++ [(E, k)])
        (fun T => if T ∈ (mw.w.tagger E).creates then mw.mode (absOf rs'.act) else cm T) rs'

theorem RunK.toRun {G : Type} {mw : ModeWiring} {W : World G} {Tr : TaggerIdx → G → G → Prop} {S : TaggerIdx}
    {h : List (TaggerIdx × EvKind)} {cm : TaggerIdx → WMode} {rs : RS G} (r : RunK mw W Tr S h cm rs) :
    Run mw.w W Tr S rs := by
  induction r with
  | start ids0 g0 g1 s0 out rs1 hfirst hcommit => exact .start ids0 g0 g1 s0 out rs1 hfirst hcommit
  | step h cm rs rs' E g' k _ hpending hend htr hcommit _ ih => exact .step rs rs' E g' ih hpending hend htr hcommit

theorem RunK.absOf_eq {G : Type} {mw : ModeWiring} {W : World G} {Tr : TaggerIdx → G → G → Prop} {S : TaggerIdx}
    {h : List (TaggerIdx × EvKind)} {cm : TaggerIdx → WMode} {rs : RS G} (r : RunK mw W Tr S h cm rs) :
    absOf rs.act = (h.map (·.1)).foldl (aStep mw.w) (startState mw.w S) := by
  induction r with
  | start ids0 g0 g1 s0 out rs1 hfirst hcommit => exact absOf_of_start hfirst hcommit
  | step h cm rs rs' E g' k _ _ _ _ hcommit _ ih =>
    rw [absOf_commit mw.w hcommit, ih, List.map_append, List.foldl_append]; rfl

/-- C09 read backwards along a run of a sound wiring: a tagger (not the start-of-run tagger) that the history leaves activated and
that yields something on the current global state has a pending handler -/
theorem RunK.pending {G : Type} {mw : ModeWiring} {W : World G} {Tr : TaggerIdx → G → G → Prop} {S : TaggerIdx}
    (sound : WiringSound mw.w = true) (hS : mw.w.start? = some S) (fps : FootprintsSound mw.w W Tr) (hlive : LiveIs mw.w W)
    {h : List (TaggerIdx × EvKind)} {cm : TaggerIdx → WMode} {rs : RS G} (r : RunK mw W Tr S h cm rs) {E : TaggerIdx}
    (hE : E < mw.w.n) (hk : (mw.w.tagger E).kind ≠ .startOfRun)
    (ha : aGet ((h.map (·.1)).foldl (aStep mw.w) (startState mw.w S)) E = true) {g : G} (hg : rs.g = g)
    (hy : W.yieldOf E g ≠ []) : (getT rs.act E).running ≠ [] :=
  (run_inv mw.w W Tr S sound hS fps hlive r.toRun).pending_of_yield (hlive.live E hE hk)
    (by rw [r.absOf_eq]; exact ha) hg hy

def kindsOfHist (h : List (TaggerIdx × EvKind)) : List EvKind := h.map (·.2)

structure ModeInv {G : Type} (mw : ModeWiring) (h : List (TaggerIdx × EvKind)) (cm : TaggerIdx → WMode) (rs : RS G) : Prop where
  chain : kRun mw.startMode (kindsOfHist h) = some (mw.mode (absOf rs.act))
  /-- every pending candidate of a mode-polymorphic tagger (end of chain) was requested in the present mode -/
  poly : ∀ T, isPoly (mw.hmode T) = true → (getT rs.act T).running ≠ [] → cm T = mw.mode (absOf rs.act)

/-- the step of the mode discipline: in a state of a run, a kind that the handler class of a tagger with a pending handler commits — in
the mode at the request of its candidate time — leads from the mode read off the activation flags to the mode read off the flags
after the commit -/
theorem ModeInv.kStep_next {G : Type} {mw : ModeWiring} {W : World G} {S : TaggerIdx} {h : List (TaggerIdx × EvKind)}
    {cm : TaggerIdx → WMode} {rs : RS G} (inv : ModeInv mw h cm rs) (ri : RunInv mw.w W S rs) (hms : ModeSound mw = true)
    (hS : mw.w.start? = some S) (hlive : LiveIs mw.w W) {E : TaggerIdx} (hpend : (getT rs.act E).running ≠ [])
    (hend : (mw.w.tagger E).kind ≠ .endOfRun) {k : EvKind} (hk : k ∈ kindsOf (mw.hmode E) (cm E)) :
    kStep (mw.mode (absOf rs.act)) k = some (mw.mode (aStep mw.w (absOf rs.act) E)) := by
  obtain ⟨m₀, hsm, _, _, hcommitOK⟩ := modeFacts_of_modeSound hms hS
  have hmode : ∀ σ, mw.mode σ = modeOf mw m₀ σ := fun σ => by unfold ModeWiring.mode; rw [hsm]
  obtain ⟨hEn, _, hcan⟩ := ri.canCommit_pending hS hlive.live hpend hend
  have hcmE : kindsOf (mw.hmode E) (cm E) = kindsOf (mw.hmode E) (modeOf mw m₀ (absOf rs.act)) :=
    kindsOf_cm (fun hp => by rw [inv.poly E hp hpend, hmode])
  rw [hmode, hmode]
  exact (commitOK_spec (hcommitOK _ ri.reach E hEn hcan)).1 k (hcmE ▸ hk)

/-- **The mode discipline from the wiring** (C12).  Along every run of the activator model of a wiring with `ModeSound` and
`WiringSound`: the kinds of the committed events follow the mode protocol (`kRun` = `modeStep` on kinds) from the mode the
start-of-run handler creates, the mode reached is the one read off the activation flags (`mw.mode`), and no pending end-of-chain
candidate stems from another mode. -/
theorem modeStep_of_modeSound {G : Type} (mw : ModeWiring) (W : World G) (Tr : TaggerIdx → G → G → Prop) (S : TaggerIdx)
    (hms : ModeSound mw = true) (sound : WiringSound mw.w = true) (hS : mw.w.start? = some S)
    (fps : FootprintsSound mw.w W Tr) (hlive : LiveIs mw.w W)
    {h : List (TaggerIdx × EvKind)} {cm : TaggerIdx → WMode} {rs : RS G} (r : RunK mw W Tr S h cm rs) :
    ModeInv mw h cm rs := by
  obtain ⟨m₀, hsm, _, hstart, hcommitOK⟩ := modeFacts_of_modeSound hms hS
  have hmode : ∀ σ, mw.mode σ = modeOf mw m₀ σ := fun σ => by unfold ModeWiring.mode; rw [hsm]
  induction r with
  | start ids0 g0 g1 s0 out rs1 hfirst hcommit =>
    refine ⟨?_, fun _ _ _ => rfl⟩
    show kRun mw.startMode [] = _
    rw [kRun, hmode, absOf_of_start hfirst hcommit, hstart, hsm]
  | step h cm rs rs' E g' k prev hpending hend htr hcommit hkind ih =>
    have ri := run_inv mw.w W Tr S sound hS fps hlive prev.toRun
    obtain ⟨hEn, _, hcan⟩ := ri.canCommit_pending hS hlive.live hpending hend
    have hk2 := (commitOK_spec (hcommitOK _ ri.reach E hEn hcan)).2
    have habs : absOf rs'.act = aStep mw.w (absOf rs.act) E := absOf_commit mw.w hcommit
    refine ⟨?_, ?_⟩
    · unfold kindsOfHist
      rw [List.map_append, List.map_cons, List.map_nil]
      have := ih.chain
      unfold kindsOfHist at this
      rw [kRun_append, this, Option.bind_some, habs]
      exact ih.kStep_next ri hms hS hlive hpending hend hkind
    · intro T hp hrun
      by_cases hc : T ∈ (mw.w.tagger E).creates
      · simp only [hc, if_true]
      · simp only [hc, if_false]
        have hc' : T ∉ (getW mw.w.wires E).creates := by rw [(getW_wires mw.w E).1]; exact hc
        rw [running_after_commit hc' hcommit] at hrun
        obtain ⟨hnt, hrun0⟩ := not_or.mp (mt kept_eq_nil.mpr hrun)
        obtain ⟨hTn, _, hTa⟩ := ri.pending hS hlive.live hrun0
        rw [ih.poly T hp hrun0, hmode, hmode, habs]
        rcases hk2 with hk2 | hk2
        · exact hk2.symm
        · exfalso
          apply hnt
          rw [(getW_wires mw.w E).2.1]
          exact hk2 T hTn hp hTa

theorem kRun_take (m : WMode) (ks : List EvKind) (m' : WMode) (h : kRun m ks = some m') (n : Nat) :
    ∃ m1, kRun m (ks.take n) = some m1 := by
  induction ks generalizing m n with
  | nil => exact ⟨m, by simp [kRun]⟩
  | cons a ks ih =>
    cases n with
    | zero => exact ⟨m, by simp [kRun]⟩
    | succ n =>
      obtain ⟨m1, hk, h⟩ := kRun_cons_some h
      obtain ⟨m2, h2⟩ := ih m1 h n
      exact ⟨m2, by simp [List.take_succ_cons, kRun, hk, h2]⟩

end JF.Act

namespace JF.C12
open JF JF.Composite JF.Act

def kindOf : Composite.Ev ℚ → EvKind
  | .keep _ _ => .keep
  | .snap _ _ _ _ _ _ => .snap
  | .exchange _ _ _ _ _ _ => .exchange
  | .pass _ _ _ _ => .pass
  | .eocLeaf _ _ _ _ _ _ => .eocLeaf
  | .eocRoot _ _ _ _ => .eocRoot
  | .toLeaf _ _ _ => .toLeaf
  | .toRoot _ _ => .toRoot
  | .start _ _ _ => .start

def toW : Mode → WMode
  | .leaf => .leaf
  | .root => .root

def ofW : WMode → Mode
  | .leaf => .leaf
  | .root => .root

@[simp] theorem toW_ofW (m : WMode) : toW (ofW m) = m := by cases m <;> rfl
@[simp] theorem ofW_toW (m : Mode) : ofW (toW m) = m := by cases m <;> rfl

theorem modeStep_eq_kStep (m : Mode) (e : Composite.Ev ℚ) : modeStep m e = (kStep (toW m) (kindOf e)).map ofW := by
  cases m <;> cases e <;> rfl

/-- weak admissibility of a history, event by event — NO condition on the sequence of kinds (compare `AdmWRun`).  `admWFreeB` is the
executable sufficient check for it: `admWB` (`JF/Lemmas/ConcreteWorld2Adm.lean`) on every event in the state it meets. -/
def AdmWFree (d : Nat) (L : List ℚ) : List (CObj ℚ) → List (Composite.Ev ℚ) → Prop
  | _, [] => True
  | cs, e :: es => AdmW d L cs e ∧ AdmWFree d L (step Ops.rat isZ L cs e) es

def admWFreeB (d : Nat) (L : List ℚ) : List (CObj ℚ) → List (Composite.Ev ℚ) → Bool
  | _, [] => true
  | cs, e :: es => admWB d L cs e && admWFreeB d L (step Ops.rat isZ L cs e) es

theorem admWFree_of_check {d : Nat} {L : List ℚ} : ∀ {cs : List (CObj ℚ)} {es : List (Composite.Ev ℚ)},
    admWFreeB d L cs es = true → AdmWFree d L cs es
  | _, [], _ => trivial
  | _, _ :: _, h => by
    simp only [admWFreeB, Bool.and_eq_true] at h
    exact ⟨admW_of_check h.1, admWFree_of_check h.2⟩

theorem admWRun_of_kRun {d : Nat} {L : List ℚ} : ∀ (es : List (Composite.Ev ℚ)) (m : WMode) (cs : List (CObj ℚ)) (m' : WMode),
    AdmWFree d L cs es → kRun m (es.map kindOf) = some m' → AdmWRun d L (ofW m) cs es
  | [], _, _, _, _, _ => trivial
  | e :: es, m, cs, m', ⟨ha, hes⟩, hk => by
    obtain ⟨m1, hs, hk⟩ := kRun_cons_some hk
    exact ⟨ofW m1, by rw [modeStep_eq_kStep, toW_ofW, hs]; rfl, ha, admWRun_of_kRun es m1 _ m' hes hk⟩

theorem run_oneChainM_kRun {d : Nat} {L : List ℚ} (hL : BoxOK d L) {sq : ℚ} : ∀ (es : List (Composite.Ev ℚ)) (m : WMode)
    (cs : List (CObj ℚ)) (m' : WMode), AllGood d L cs → OneChainM cs sq (ofW m) → AdmWFree d L cs es →
    kRun m (es.map kindOf) = some m' →
    AdmRun d L cs es ∧ AllGood d L (run Ops.rat isZ L cs es) ∧ OneChainM (run Ops.rat isZ L cs es) sq (ofW m')
  | [], m, _, m', h, hc, _, hk => by
    simp only [List.map_nil, kRun, Option.some.injEq] at hk
    subst hk
    exact ⟨trivial, h, hc⟩
  | e :: es, m, cs, m', h, hc, ⟨ha, hes⟩, hk => by
    obtain ⟨m1, hs, hk⟩ := kRun_cons_some hk
    have hm : modeStep (ofW m) e = some (ofW m1) := by rw [modeStep_eq_kStep, toW_ofW, hs]; rfl
    obtain ⟨hadm, hc'⟩ := step_chain_aux hL h hc e hm ha
    obtain ⟨r1, r2, r3⟩ := run_oneChainM_kRun hL es m1 _ m' (step_good hL h e hadm) hc' hes hk
    exact ⟨⟨hadm, r1⟩, r2, r3⟩

section composed
variable {G : Type} (mw : ModeWiring) (W : World G) (Tr : TaggerIdx → G → G → Prop) (S : TaggerIdx)
  (hms : ModeSound mw = true) (sound : WiringSound mw.w = true) (hS : mw.w.start? = some S)
  (fps : FootprintsSound mw.w W Tr) (hlive : LiveIs mw.w W)
  {h : List (TaggerIdx × EvKind)} {cm : TaggerIdx → WMode} {rs : RS G} (r : RunK mw W Tr S h cm rs)
include hms sound hS fps hlive r

/-- **The hypothesis `C12Chain` needs**: for ANY list of composite events whose kinds are the kinds committed along a run of a
mode-sound wiring, `AdmWFree` (no mode hypothesis) implies `AdmWRun`, starting in the mode the start-of-run handler creates. -/
theorem modeStep_chain (es : List (Composite.Ev ℚ)) (hk : es.map kindOf = kindsOfHist h) {d : Nat} {L : List ℚ}
    {cs : List (CObj ℚ)} (ha : AdmWFree d L cs es) : AdmWRun d L (ofW mw.startMode) cs es := by
  have := (modeStep_of_modeSound mw W Tr S hms sound hS fps hlive r).chain
  rw [← hk] at this
  exact admWRun_of_kRun es _ cs _ ha this

/-- **C12 for runs of a mode-sound wiring: `run_rootConsistent_chain` without the mode hypothesis**, and with the mode identified.
From a state at rest, the start-of-run event (whose `P` is what the configured `initial_active_identifier` says: `StartMode …
(ofW mw.startMode)`) followed by any events that are weakly admissible one by one and whose kinds are the kinds committed along a run
of the wiring is admissible in the sense of `JF/Props/C12.lean`; every object stays `RootConsistent`, and the one-chain invariant
holds IN THE MODE READ OFF THE ACTIVATION FLAGS of the reached activator state. -/
theorem run_rootConsistent_chain_of_modeSound {d : Nat} {L : List ℚ} (hL : BoxOK d L) (cs : List (CObj ℚ))
    (hg : AllGood d L cs) (hR : AllRest cs) (i : Nat) (P : List Nat) (v : List ℚ) (es : List (Composite.Ev ℚ))
    (hk : es.map kindOf = kindsOfHist h) (hs : AdmW d L cs (.start i P v)) (hsm : StartMode cs i P (ofW mw.startMode))
    (ha : AdmWFree d L (step Ops.rat isZ L cs (.start i P v)) es) :
    AdmRun d L cs (.start i P v :: es) ∧
    AllGood d L (run Ops.rat isZ L cs (.start i P v :: es)) ∧
    OneChainM (run Ops.rat isZ L cs (.start i P v :: es)) (nsq v) (ofW (mw.mode (absOf rs.act))) ∧
    OneChain (run Ops.rat isZ L cs (.start i P v :: es)) (nsq v) ∧
    ∀ c ∈ run Ops.rat isZ L cs (.start i P v :: es), RootConsistent L c := by
  have hch := (modeStep_of_modeSound mw W Tr S hms sound hS fps hlive r).chain
  rw [← hk] at hch
  have hadm := admW_adm_start hR hs
  have hg1 := step_good hL hg _ hadm
  obtain ⟨r1, r2, r3⟩ := run_oneChainM_kRun hL es mw.startMode _ _ hg1 (start_oneChainM hR hs hsm) ha hch
  exact ⟨⟨hadm, r1⟩, r2, r3, (oneChain_iff _ _).mpr ⟨_, r3⟩, fun c hc => good_rootConsistent (r2 c hc)⟩

/-- the same after every event of the history -/
theorem reached_rootConsistent_chain_of_modeSound {d : Nat} {L : List ℚ} (hL : BoxOK d L) (cs : List (CObj ℚ))
    (hg : AllGood d L cs) (hR : AllRest cs) (i : Nat) (P : List Nat) (v : List ℚ) (es : List (Composite.Ev ℚ))
    (hk : es.map kindOf = kindsOfHist h) (hs : AdmW d L cs (.start i P v)) (hsm : StartMode cs i P (ofW mw.startMode))
    (ha : AdmWFree d L (step Ops.rat isZ L cs (.start i P v)) es) (n : Nat) :
    AllGood d L (run Ops.rat isZ L cs (.start i P v :: es.take n)) ∧
    OneChain (run Ops.rat isZ L cs (.start i P v :: es.take n)) (nsq v) ∧
    ∀ c ∈ run Ops.rat isZ L cs (.start i P v :: es.take n), RootConsistent L c :=
  reached_rootConsistent_chain hL cs hg hR i P v es
    ⟨hs, _, hsm, modeStep_chain mw W Tr S hms sound hS fps hlive r es hk ha⟩ n

/-- **C07's chain clause for composite objects along runs of a mode-sound wiring** (`chain_clause` of `JF/Props/C12Chain.lean`): the
moving point masses are a single one or all of one object, with one velocity of the initial speed. -/
theorem run_chain_clause_of_modeSound {d : Nat} {L : List ℚ} (hL : BoxOK d L) (cs : List (CObj ℚ))
    (hg : AllGood d L cs) (hR : AllRest cs) (i : Nat) (P : List Nat) (v : List ℚ) (es : List (Composite.Ev ℚ))
    (hk : es.map kindOf = kindsOfHist h) (hs : AdmW d L cs (.start i P v)) (hsm : StartMode cs i P (ofW mw.startMode))
    (ha : AdmWFree d L (step Ops.rat isZ L cs (.start i P v)) es) :
    ∃ (i' : Nat) (c : CObj ℚ) (w : List ℚ), (run Ops.rat isZ L cs (.start i P v :: es))[i']? = some c ∧ nsq w = nsq v ∧
      (∀ (k : Nat) (ck : CObj ℚ) (l : PUnit ℚ), (run Ops.rat isZ L cs (.start i P v :: es))[k]? = some ck → l ∈ ck.leaves →
        l.vel ≠ none → k = i' ∧ l.vel = some w) ∧
      ((∃ (j : Nat) (a : PUnit ℚ), c.leaves[j]? = some a ∧ a.vel = some w ∧
          ∀ (k : Nat) (l : PUnit ℚ), c.leaves[k]? = some l → l.vel ≠ none → k = j) ∨
       (c.leaves ≠ [] ∧ ∀ l ∈ c.leaves, l.vel = some w)) :=
  chain_clause (run_rootConsistent_chain_of_modeSound mw W Tr S hms sound hS fps hlive r hL cs hg hR i P v es hk hs hsm ha).2.2.2.1

end composed

/-! ### the end-of-chain handler's own test and the ghost mode

`hkind` for the end of chain says: the leaf variant if the candidate was requested in a leaf-mode ACTIVATION state.  The handler
itself decides on the GLOBAL state it is handed at the request (`_get_new_active_identifiers`: `len(children) ==
number_of_nodes_per_root_node`, i.e. the branch of the independent active unit holds every point mass of its composite object).
By `run_rootConsistent_chain_of_modeSound` the global state at the request satisfies `OneChainM … (ofW (mw.mode σ))`; for objects with
at least two point masses the handler's test then decides exactly that mode (`drawsRoot_iff_root`), which is why `hkind` may speak
about the activation state. -/

/-- the test of `_get_new_active_identifiers` on the model state: some object has a moving leaf, and all of its leaves move -/
def DrawsRoot (cs : List (CObj ℚ)) : Prop :=
  ∃ (i : Nat) (c : CObj ℚ), cs[i]? = some c ∧ (∃ l ∈ c.leaves, l.vel ≠ none) ∧ ∀ l ∈ c.leaves, l.vel ≠ none

theorem drawsRoot_iff_root {cs : List (CObj ℚ)} {sq : ℚ} {m : Mode} (h : OneChainM cs sq m)
    (h2 : ∀ c ∈ cs, 2 ≤ c.leaves.length) : DrawsRoot cs ↔ m = .root := by
  cases m with
  | root =>
    obtain ⟨i, v, _, ⟨c, hc, hne, hall⟩, _⟩ := h
    refine ⟨fun _ => rfl, fun _ => ⟨i, c, hc, ?_, fun l hl => by rw [hall l hl]; simp⟩⟩
    obtain ⟨l, hl⟩ := List.exists_mem_of_ne_nil _ hne
    exact ⟨l, hl, by rw [hall l hl]; simp⟩
  | leaf =>
    obtain ⟨i, j, v, _, ⟨c, hc, ⟨_, _, _⟩, hoth⟩, hrest⟩ := h
    refine ⟨?_, fun hm => by cases hm⟩
    rintro ⟨i', c', hc', ⟨l, hl, hlv⟩, hall⟩
    exfalso
    have hi : i' = i := by
      by_contra hne
      exact hlv (hrest i' c' hc' hne l hl)
    subst hi
    rw [hc] at hc'
    simp only [Option.some.injEq] at hc'
    subst hc'
    have hlen := h2 c (List.mem_of_getElem? hc)
    have hk : ∃ k, k < c.leaves.length ∧ k ≠ j := by
      by_cases hj : j = 0
      · exact ⟨1, by omega, by omega⟩
      · exact ⟨0, by omega, fun h0 => hj h0.symm⟩
    obtain ⟨k, hk, hkj⟩ := hk
    exact hall c.leaves[k] (List.getElem_mem hk) (hoth k c.leaves[k] (List.getElem?_eq_getElem hk) hkj)

end JF.C12

/-! ## generated obligations: the shipped wirings with composite objects

`mcfg_<name>` (`JF/Gen/ModeWirings.lean`) is regenerated from the `.ini` files and the event-handler classes of the tree under
verification; a switcher section that forgets an entry of its `deactivate` (or `trash`) list, a swapped `aim_mode`, an
`initial_active_identifier` naming a composite object breaks the `decide`. -/

namespace JF.Act.Gen

/-- whatever the translator classifies as a configuration with composite objects (`translate.py: is_composite`: the run starts
with a point mass of a composite object, or the wiring has a root-mode handler or a switcher) -/
theorem all_composite_modeSound : compositeCfgs.all ModeSound = true := by decide +kernel

theorem modeSound_of_composite {mw : ModeWiring} (k : Nat) (h : compositeCfgs[k]? = some mw) : ModeSound mw = true :=
  List.all_eq_true.mp all_composite_modeSound mw (List.mem_of_getElem? h)

/-- `dipoles/dipole_motion.ini` — the shipped configuration that switches between the modes -/
theorem modeSound_dipoles_dipole_motion : ModeSound mcfg_dipoles_dipole_motion = true := modeSound_of_composite 6 rfl
theorem modeSound_dipoles_atom_factors : ModeSound mcfg_dipoles_atom_factors = true := modeSound_of_composite 0 rfl
theorem modeSound_dipoles_cell_bounded : ModeSound mcfg_dipoles_cell_bounded = true := modeSound_of_composite 1 rfl
theorem modeSound_dipoles_cell_veto : ModeSound mcfg_dipoles_cell_veto = true := modeSound_of_composite 2 rfl
theorem modeSound_dipoles_dipole_factors_inside_first : ModeSound mcfg_dipoles_dipole_factors_inside_first = true := modeSound_of_composite 3 rfl
theorem modeSound_dipoles_dipole_factors_outside_first : ModeSound mcfg_dipoles_dipole_factors_outside_first = true := modeSound_of_composite 4 rfl
theorem modeSound_dipoles_dipole_factors_ratio : ModeSound mcfg_dipoles_dipole_factors_ratio = true := modeSound_of_composite 5 rfl
theorem modeSound_water_coulomb_cell_veto_lj_cell_veto : ModeSound mcfg_water_coulomb_cell_veto_lj_cell_veto = true := modeSound_of_composite 7 rfl
theorem modeSound_water_coulomb_cell_veto_lj_inverted : ModeSound mcfg_water_coulomb_cell_veto_lj_inverted = true := modeSound_of_composite 8 rfl
theorem modeSound_water_coulomb_power_bounded_lj_cell_bounded :
    ModeSound mcfg_water_coulomb_power_bounded_lj_cell_bounded = true := modeSound_of_composite 9 rfl
theorem modeSound_water_coulomb_power_bounded_lj_inverted : ModeSound mcfg_water_coulomb_power_bounded_lj_inverted = true := modeSound_of_composite 10 rfl
theorem modeSound_water_single_molecule : ModeSound mcfg_water_single_molecule = true := modeSound_of_composite 11 rfl
theorem modeSound_hard_disk_dipoles_hard_disk_dipoles : ModeSound mcfg_hard_disk_dipoles_hard_disk_dipoles = true := modeSound_of_composite 12 rfl
theorem modeSound_hard_disk_dipoles_hard_disk_dipoles_cells : ModeSound mcfg_hard_disk_dipoles_hard_disk_dipoles_cells = true := modeSound_of_composite 13 rfl
theorem modeSound_hard_disk_dipoles_single_hard_disk_dipole : ModeSound mcfg_hard_disk_dipoles_single_hard_disk_dipole = true := modeSound_of_composite 14 rfl

/-- the harness's Python mirror of the mode assignment (`harness/modecorr.py: mode_of`, used on the recorded activation flags of real
runs) computes Lean's `modeOf` on every reachable activation state of every shipped composite configuration -/
theorem py_mode_tables_agree : compositeCfgs.map modeTable = pyModeTables := by decide +kernel

theorem composite_has_dipole_motion : (compositeCfgs.map (·.w.name)).contains "dipoles_dipole_motion" = true :=
  List.contains_iff_mem.mpr
    (List.mem_map.mpr ⟨mcfg_dipoles_dipole_motion, List.mem_of_getElem? (rfl : compositeCfgs[6]? = some _), rfl⟩)

/-- the mode assignment of `dipole_motion`: two reachable activation states, the state after the start in leaf mode, the other in
root mode; `leaf_to_root` (6) leads from the first to the second, `root_to_leaf` (7) back -/
theorem dipole_motion_modes :
    (reach cfg_dipoles_dipole_motion 10).map mcfg_dipoles_dipole_motion.mode = [.leaf, .root] ∧
    (reach cfg_dipoles_dipole_motion 10).map (fun σ => (List.range 11).filter (canCommit cfg_dipoles_dipole_motion σ)) =
      [[0, 1, 2, 5, 6, 8], [3, 4, 5, 7, 8]] ∧
    (reach cfg_dipoles_dipole_motion 10).map (fun σ => (reach cfg_dipoles_dipole_motion 10).idxOf (aStep cfg_dipoles_dipole_motion σ 6)) = [1, 1] ∧
    (reach cfg_dipoles_dipole_motion 10).map (fun σ => (reach cfg_dipoles_dipole_motion 10).idxOf (aStep cfg_dipoles_dipole_motion σ 7)) = [0, 0] := by
  decide +kernel

def withTagger (mw : ModeWiring) (i : Nat) (f : TaggerW → TaggerW) : ModeWiring :=
  { mw with w := { mw.w with taggers := mw.w.taggers.set i (f (mw.w.tagger i)) } }

/-- Wirings derived from `dipole_motion` that `ModeSound` rejects.  As shipped:
`[LeafToRoot] deactivate = coulomb_leaf, harmonic_leaf, repulsive_leaf, leaf_to_root` -/
example : (cfg_dipoles_dipole_motion.tagger 6).deactivates = [1, 0, 2, 6] := by decide +kernel

/-- **the leaf→root switcher does not deactivate the leaf-mode interaction tagger `repulsive_leaf`** (2): in the root-mode activation
state a two-leaf-unit handler can commit an `exchange` -/
example : ModeSound (withTagger mcfg_dipoles_dipole_motion 6 fun t => { t with deactivates := [1, 0, 6] }) = false := by
  decide +kernel
example : modeReport (withTagger mcfg_dipoles_dipole_motion 6 fun t => { t with deactivates := [1, 0, 6] })
    = "fail mixed:repulsive_leaf+coulomb_root,repulsive_root,root_to_leaf commit:leaf:leaf_to_root" := by decide +kernel

/-- the root→leaf switcher does not deactivate `coulomb_root` (3) -/
example : ModeSound (withTagger mcfg_dipoles_dipole_motion 7 fun t => { t with deactivates := [4, 7] }) = false := by
  decide +kernel

/-- the leaf→root switcher does not deactivate itself: a second `toRoot` in root mode -/
example : ModeSound (withTagger mcfg_dipoles_dipole_motion 6 fun t => { t with deactivates := [1, 0, 2] }) = false := by
  decide +kernel

/-- **the leaf→root switcher neither trashes nor re-creates `end_of_chain`** (8): the candidate that drew a point mass in leaf mode
survives into root mode.  `WiringSound` does not see this (the end-of-chain tagger is compared by the number of pending events
only), `ModeSound` does. -/
example :
    let mw := withTagger mcfg_dipoles_dipole_motion 6 fun t => { t with creates := [3, 4, 7], trashes := [1, 0, 2, 6] }
    WiringSound mw.w = true ∧ ModeSound mw = false := by decide +kernel

/-- the two `aim_mode`s swapped -/
example : ModeSound { mcfg_dipoles_dipole_motion with
    hm := [.leafUnit, .leafUnit, .leafUnit, .rootUnit, .rootUnit, .neutral, .switcher true, .switcher false, .endOfChain, .neutral,
      .start true] } = false := by decide +kernel

/-- `initial_active_identifier = 0` (a composite object) while the start-of-run section activates the leaf-mode taggers -/
example : ModeSound { mcfg_dipoles_dipole_motion with
    hm := [.leafUnit, .leafUnit, .leafUnit, .rootUnit, .rootUnit, .neutral, .switcher false, .switcher true, .endOfChain, .neutral,
      .start false] } = false := by decide +kernel

/-- a handler class the translator cannot classify -/
example : ModeSound { mcfg_dipoles_dipole_motion with
    hm := [.leafUnit, .unknown, .leafUnit, .rootUnit, .rootUnit, .neutral, .switcher false, .switcher true, .endOfChain, .neutral,
      .start true] } = false := by decide +kernel

end JF.Act.Gen

/-! ## non-vacuity: a run of `dipoles/dipole_motion.ini` that switches twice

Abstract world: one global state, every tagger generates one in-state (`[none]`) whenever it is asked (so the footprint tables
are trivially sound), any transition.  The run: start of run — `leaf_to_root` (6) commits `toRoot` — `coulomb_root` (3) commits a
`pass` — `end_of_chain` (8), whose candidate was requested in the root-mode state, commits `eocRoot` — `root_to_leaf` (7) commits
`toLeaf` — `harmonic_leaf` (0) commits an `exchange` — `end_of_chain`, re-created in the leaf-mode state, commits `eocLeaf`. -/

namespace JF.Act.ModeExample
open JF.Act.Gen

abbrev mw : ModeWiring := mcfg_dipoles_dipole_motion
abbrev cfg : Wiring := cfg_dipoles_dipole_motion

def W : World Unit :=
  { yieldOf := fun _ _ => [none]
    view := fun _ x => x
    live := fun T => T < cfg.n ∧ (cfg.tagger T).kind ≠ .startOfRun }

def Tr : TaggerIdx → Unit → Unit → Prop := fun _ _ _ => True

theorem liveIs : LiveIs cfg W := fun _ => Iff.rfl
theorem fps : FootprintsSound cfg W Tr := ⟨fun _ _ _ _ _ _ => List.Perm.refl _⟩

def s0 : Act := ((first cfg.wires (initAct cfg.wires) 10 (fun T => W.yieldOf T ())).get (by decide +kernel)).1
def out0 : List (HandlerId × IdTuple) :=
  ((first cfg.wires (initAct cfg.wires) 10 (fun T => W.yieldOf T ())).get (by decide +kernel)).2
def rs1 : RS Unit := (commit cfg.wires W ⟨s0, assign (fun _ => none) out0, ()⟩ 10 ()).get (by decide +kernel)
def rs2 : RS Unit := (commit cfg.wires W rs1 6 ()).get (by decide +kernel)
def rs3 : RS Unit := (commit cfg.wires W rs2 3 ()).get (by decide +kernel)
def rs4 : RS Unit := (commit cfg.wires W rs3 8 ()).get (by decide +kernel)
def rs5 : RS Unit := (commit cfg.wires W rs4 7 ()).get (by decide +kernel)
def rs6 : RS Unit := (commit cfg.wires W rs5 0 ()).get (by decide +kernel)
def rs7 : RS Unit := (commit cfg.wires W rs6 8 ()).get (by decide +kernel)

def hist : List (TaggerIdx × EvKind) := [(6, .toRoot), (3, .pass), (8, .eocRoot), (7, .toLeaf), (0, .exchange), (8, .eocLeaf)]

theorem start10 : cfg.start? = some 10 := by decide +kernel

theorem first0 : first cfg.wires (initAct cfg.wires) 10 (fun T => W.yieldOf T ()) = some (s0, out0) := by simp [s0, out0]
theorem commit1 : commit cfg.wires W ⟨s0, assign (fun _ => none) out0, ()⟩ 10 () = some rs1 := by simp [rs1]

theorem pending_of_runK {h : List (TaggerIdx × EvKind)} {cm : TaggerIdx → WMode} {rs : RS Unit} (r : RunK mw W Tr 10 h cm rs)
    {E : TaggerIdx} (hE : E < cfg.n) (hk : (cfg.tagger E).kind ≠ .startOfRun)
    (ha : aGet ((h.map (·.1)).foldl (aStep mw.w) (startState mw.w 10)) E = true) : (getT rs.act E).running ≠ [] :=
  RunK.pending (mw := mw) cfg_sound_dipoles_dipole_motion start10 fps liveIs r hE hk ha rfl (List.cons_ne_nil _ _)

/-- the run exists: every committing tagger has a pending handler, every committed kind is a kind of its handler class (for
the two end-of-chain commits: the variant of the mode in which the candidate was requested) -/
theorem exRun : ∃ cm, RunK mw W Tr 10 hist cm rs7 := by
  have r1 : RunK mw W Tr 10 [] _ rs1 :=
    .start (fun _ => none) () () s0 out0 rs1 first0 commit1
  have r2 := RunK.step _ _ rs1 rs2 6 () .toRoot r1 (pending_of_runK r1 (by decide) (by decide) (by decide))
    (by decide +kernel) trivial (Option.some_get _).symm (by decide +kernel)
  have r3 := RunK.step _ _ rs2 rs3 3 () .pass r2 (pending_of_runK r2 (by decide) (by decide) (by decide))
    (by decide +kernel) trivial (Option.some_get _).symm (by decide +kernel)
  have r4 := RunK.step _ _ rs3 rs4 8 () .eocRoot r3 (pending_of_runK r3 (by decide) (by decide) (by decide))
    (by decide +kernel) trivial (Option.some_get _).symm (by decide +kernel)
  have r5 := RunK.step _ _ rs4 rs5 7 () .toLeaf r4 (pending_of_runK r4 (by decide) (by decide) (by decide))
    (by decide +kernel) trivial (Option.some_get _).symm (by decide +kernel)
  have r6 := RunK.step _ _ rs5 rs6 0 () .exchange r5 (pending_of_runK r5 (by decide) (by decide) (by decide))
    (by decide +kernel) trivial (Option.some_get _).symm (by decide +kernel)
  have r7 := RunK.step _ _ rs6 rs7 8 () .eocLeaf r6 (pending_of_runK r6 (by decide) (by decide) (by decide))
    (by decide +kernel) trivial (Option.some_get _).symm (by decide +kernel)
  exact ⟨_, r7⟩

theorem mode_rs7 : mw.mode (absOf rs7.act) = .leaf := by decide +kernel

/-- `modeStep_of_modeSound` applies to it: the kinds follow the mode protocol, and the mode read off the flags is `leaf` at the end -/
example : kRun .leaf (kindsOfHist hist) = some .leaf ∧ mw.mode (absOf rs7.act) = .leaf ∧ mw.mode (absOf rs4.act) = .root := by
  obtain ⟨cm, r⟩ := exRun
  have inv := modeStep_of_modeSound mw W Tr 10 modeSound_dipoles_dipole_motion cfg_sound_dipoles_dipole_motion start10 fps liveIs r
  have := inv.chain
  rw [mode_rs7] at this
  exact ⟨this, mode_rs7, by decide +kernel⟩

/-- the hypothesis `hkind` is not vacuous the other way: the root variant is NOT a kind the end-of-chain handler can commit when its
candidate was requested in a leaf-mode state, and `kRun` rejects it -/
example : EvKind.eocRoot ∉ kindsOf (mw.hmode 8) .leaf ∧ kRun .leaf [.eocRoot] = none ∧ kRun .leaf [.toRoot, .exchange] = none := by
  decide

end JF.Act.ModeExample

/-! ## non-vacuity of `run_rootConsistent_chain_of_modeSound`: composite events along that run

Two dipoles (`exC0`, `exC1` of `JF/Props/C12.lean`), box `[1, 1]`.  After the start (leaf 0 of object 0, velocity `[1, 0]`): the
switcher makes object 0 move as a whole — object 0 passes its velocity to object 1 — an end of chain in root mode stops object 1
and starts object 0 with velocity `[0, 1]` — the switcher leaves leaf 1 of object 0 moving — it hands over to leaf 0 — an end of
chain in leaf mode stops it and starts leaf 0 of object 1.  The kinds are those of `ModeExample.hist`. -/

namespace JF.C12.ModeExample
open JF JF.Composite JF.Act JF.Act.Gen JF.Act.ModeExample

abbrev es : List (Composite.Ev ℚ) :=
  [.toRoot ⟨0, 1/4⟩ 0, .pass ⟨0, 1/2⟩ [0, 1] 0 1, .eocRoot ⟨0, 3/4⟩ 1 0 [0, 1], .toLeaf ⟨1, 0⟩ 0 1,
   .exchange ⟨1, 1/4⟩ [0] 0 1 0 0, .eocLeaf ⟨1, 1/2⟩ 0 0 1 0 [1, 0]]

theorem es_kinds : es.map kindOf = kindsOfHist hist := by decide

theorem start_admW : AdmW 2 exL [exC0, exC1] (.start 0 [0] [1, 0]) := admW_of_check (by decide +kernel)

theorem es_admWFree : AdmWFree 2 exL (step Ops.rat isZ exL [exC0, exC1] (.start 0 [0] [1, 0])) es :=
  admWFree_of_check (by decide +kernel)

/-- `run_rootConsistent_chain_of_modeSound` applies: the history is admissible in the strong sense, every object stays consistent, and
one chain moves — in leaf mode, as the activation flags of the reached activator state `rs7` say -/
theorem ex_composed : AdmRun 2 exL [exC0, exC1] (.start 0 [0] [1, 0] :: es) ∧
    AllGood 2 exL (run Ops.rat isZ exL [exC0, exC1] (.start 0 [0] [1, 0] :: es)) ∧
    OneChainM (run Ops.rat isZ exL [exC0, exC1] (.start 0 [0] [1, 0] :: es)) 1 .leaf ∧
    OneChain (run Ops.rat isZ exL [exC0, exC1] (.start 0 [0] [1, 0] :: es)) 1 ∧
    ∀ c ∈ run Ops.rat isZ exL [exC0, exC1] (.start 0 [0] [1, 0] :: es), RootConsistent exL c := by
  obtain ⟨cm, r⟩ := exRun
  have hsm : mw.startMode = .leaf := by decide +kernel
  have := run_rootConsistent_chain_of_modeSound mw W Tr 10 modeSound_dipoles_dipole_motion cfg_sound_dipoles_dipole_motion
    start10 fps liveIs r exBox _ ex_initial ex_rest 0 [0] [1, 0] es es_kinds start_admW
    (by rw [hsm]; exact (rfl : [0].length = 1)) es_admWFree
  have e : nsq [1, 0] = 1 := by norm_num [nsq]
  rw [e, mode_rs7] at this
  exact this

/-- `drawsRoot_iff_root` applies to the reached state (two point masses per object): an end-of-chain candidate requested now draws a
point mass, as `kindsOf .endOfChain .leaf = [.eocLeaf]` says for the leaf-mode activation state `rs7` -/
example : ¬ DrawsRoot (run Ops.rat isZ exL [exC0, exC1] (.start 0 [0] [1, 0] :: es)) := by
  have h2 : ∀ c ∈ run Ops.rat isZ exL [exC0, exC1] (.start 0 [0] [1, 0] :: es), 2 ≤ c.leaves.length := by
    have e : (run Ops.rat isZ exL [exC0, exC1] (.start 0 [0] [1, 0] :: es)).map (·.leaves.length) = [2, 2] := by decide +kernel
    intro c hc
    have : c.leaves.length ∈ (run Ops.rat isZ exL [exC0, exC1] (.start 0 [0] [1, 0] :: es)).map (·.leaves.length) :=
      List.mem_map.mpr ⟨c, hc, rfl⟩
    rw [e] at this
    simp at this
    omega
  intro hd
  exact absurd ((drawsRoot_iff_root ex_composed.2.2.1 h2).mp hd) (by decide)

/-- the hypothesis on the kinds cannot be dropped: the same events in another order (`pass` first, in leaf mode) are not the kinds of
any run of the wiring — `kRun` fails at once — and indeed `C12Chain`'s mode hypothesis fails for them -/
example : kRun mw.startMode (([.pass ⟨0, 1/2⟩ [0, 1] 0 1, .toRoot ⟨0, 1/4⟩ 0] : List (Composite.Ev ℚ)).map kindOf) = none := by
  decide +kernel

end JF.C12.ModeExample
