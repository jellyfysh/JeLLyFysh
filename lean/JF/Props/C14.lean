import JF.Model.Time
import JF.Lemmas.PyArith
/-!
# C14 — Time stamps keep full resolution and order however long the run is

Exact reading (`Ops.rat`): the model of `base/time.py`, instantiated over `ℚ`, is a faithful
representation of the rational number `quotient + remainder`.
The float reading of the same definitions is what the driver runs against the real class.
-/
namespace JF.C14
open JF

def val (t : Time ℚ) : ℚ := t.q + t.r

/-- integer quotient, remainder in `[0, 1)` -/
def Normalised (t : Time ℚ) : Prop := (∃ n : ℤ, t.q = n) ∧ 0 ≤ t.r ∧ t.r < 1

theorem add_eq (t : Time ℚ) (d : ℚ) :
    Time.add Ops.rat t d = ⟨t.q + ⌊t.r + d⌋, t.r + d - ⌊t.r + d⌋⟩ := by
  simp only [Time.add, rat_isInf, pydivmod1_rat]; rfl

/-- Adding is exact: no `q` enters the remainder computation. -/
theorem add_val (t : Time ℚ) (d : ℚ) : val (Time.add Ops.rat t d) = val t + d := by
  rw [add_eq]; simp only [val]; ring

theorem add_normalised (t : Time ℚ) (d : ℚ) (h : Normalised t) :
    Normalised (Time.add Ops.rat t d) := by
  rw [add_eq]
  obtain ⟨⟨n, hn⟩, _, _⟩ := h
  exact ⟨⟨n + ⌊t.r + d⌋, by simp [hn]⟩, Int.fract_nonneg _, Int.fract_lt_one _⟩

theorem fromFloat_exact (x : ℚ) :
    val (Time.fromFloat Ops.rat x) = x ∧ Normalised (Time.fromFloat Ops.rat x) := by
  have : Time.fromFloat Ops.rat x = ⟨(⌊x⌋ : ℚ), x - ⌊x⌋⟩ := by
    simp only [Time.fromFloat, rat_isInf, pydivmod1_rat]; rfl
  rw [this]
  exact ⟨by simp [val], ⟨⌊x⌋, rfl⟩, Int.fract_nonneg _, Int.fract_lt_one _⟩

theorem sub_exact (t u : Time ℚ) : Time.sub t u = val t - val u := by
  simp only [Time.sub, val]; ring

/-- an integer plus a fraction in `[0, 1)` has that integer as its floor: the quotient of a normalised time is the floor
of its value, which is why comparing (quotient, remainder) lexicographically compares the values -/
theorem floor_int_add {a : ℤ} {r : ℚ} (h0 : 0 ≤ r) (h1 : r < 1) : ⌊(a : ℚ) + r⌋ = a := by
  rw [Int.floor_eq_iff]; exact ⟨le_add_of_nonneg_right h0, (add_lt_add_iff_left _).mpr h1⟩

/-- the key order fact: lexicographic order on (integer, fraction) is the order of the sum -/
theorem lex_iff {a b : ℤ} {r s : ℚ} (hr0 : 0 ≤ r) (hr1 : r < 1) (hs0 : 0 ≤ s) (hs1 : s < 1) :
    ((a:ℚ) < b ∨ ((a:ℚ) = b ∧ r < s)) ↔ (a:ℚ) + r < b + s := by
  constructor
  · rintro (h | ⟨h, h'⟩)
    · have : (a : ℚ) + 1 ≤ b := by exact_mod_cast h
      linarith only [this, hr1, hs0]
    · rw [h]; exact (add_lt_add_iff_left _).mpr h'
  · intro h
    have hab : a ≤ b := by
      have := Int.floor_le_floor h.le
      rwa [floor_int_add hr0 hr1, floor_int_add hs0 hs1] at this
    rcases hab.lt_or_eq with hab | rfl
    · exact .inl (by exact_mod_cast hab)
    · exact .inr ⟨rfl, (add_lt_add_iff_left _).mp h⟩

theorem lt_iff (t u : Time ℚ) (ht : Normalised t) (hu : Normalised u) :
    Time.lt t u = true ↔ val t < val u := by
  obtain ⟨⟨a, ha⟩, hr0, hr1⟩ := ht
  obtain ⟨⟨b, hb⟩, hs0, hs1⟩ := hu
  simp only [Time.lt, val, ha, hb, Bool.or_eq_true, Bool.and_eq_true, decide_eq_true_eq, beq_iff_eq]
  exact lex_iff hr0 hr1 hs0 hs1

/-- the C heap's comparison is the same lexicographic order -/
theorem cLt_iff (t u : Time ℚ) (ht : Normalised t) (hu : Normalised u) :
    Time.cLt t u = true ↔ val t < val u := lt_iff t u ht hu

theorem eq_iff (t u : Time ℚ) (ht : Normalised t) (hu : Normalised u) :
    Time.eq t u = true ↔ val t = val u := by
  obtain ⟨⟨a, ha⟩, hr0, hr1⟩ := ht
  obtain ⟨⟨b, hb⟩, hs0, hs1⟩ := hu
  simp only [Time.eq, val, ha, hb, Bool.and_eq_true, beq_iff_eq]
  constructor
  · rintro ⟨h, h'⟩; rw [h, h']
  · intro h
    have hab : a = b := by rw [← floor_int_add (a := a) hr0 hr1, h, floor_int_add hs0 hs1]
    subst hab
    exact ⟨rfl, add_left_cancel h⟩

/-- `>`, `<=`, `>=` are Boolean functions of `<` and `==` (`__gt__` is `not lt and ne`, `__le__` is `lt or eq`, `__ge__` is
`not lt`), and the comparison of `heap.c` is `<`: once `<` and `==` are the order and the equality of values in a linear
order, so are the others.  Any scalar type. -/
theorem cmp_of_lt_eq {α β : Type} [LT α] [DecidableLT α] [BEq α] [LinearOrder β] {t u : Time α} {a b : β}
    (hl : Time.lt t u = true ↔ a < b) (he : Time.eq t u = true ↔ a = b) :
    (Time.gt t u = true ↔ a > b) ∧ (Time.le t u = true ↔ a ≤ b) ∧ (Time.ge t u = true ↔ a ≥ b) ∧
      (Time.cLt t u = true ↔ a < b) := by
  refine ⟨?_, ?_, ?_, hl⟩
  · rw [Time.gt, Bool.and_eq_true, Bool.not_eq_true', Bool.not_eq_true', ← Bool.not_eq_true, ← Bool.not_eq_true, hl, he]
    exact ⟨fun h => lt_of_le_of_ne (not_lt.mp h.1) (Ne.symm h.2), fun h => ⟨not_lt.mpr h.le, ne_of_gt h⟩⟩
  · rw [Time.le, Bool.or_eq_true, hl, he]
    exact le_iff_lt_or_eq.symm
  · rw [Time.ge, Bool.not_eq_true', ← Bool.not_eq_true, hl]
    exact not_lt

theorem gt_iff (t u : Time ℚ) (ht : Normalised t) (hu : Normalised u) :
    Time.gt t u = true ↔ val t > val u := (cmp_of_lt_eq (lt_iff t u ht hu) (eq_iff t u ht hu)).1

theorem le_iff (t u : Time ℚ) (ht : Normalised t) (hu : Normalised u) :
    Time.le t u = true ↔ val t ≤ val u := (cmp_of_lt_eq (lt_iff t u ht hu) (eq_iff t u ht hu)).2.1

theorem ge_iff (t u : Time ℚ) (ht : Normalised t) (hu : Normalised u) :
    Time.ge t u = true ↔ val t ≥ val u := (cmp_of_lt_eq (lt_iff t u ht hu) (eq_iff t u ht hu)).2.2.1

theorem add_mono (t : Time ℚ) (d d' : ℚ) (ht : Normalised t) (h : d ≤ d') :
    Time.le (Time.add Ops.rat t d) (Time.add Ops.rat t d') = true := by
  rw [le_iff _ _ (add_normalised t d ht) (add_normalised t d' ht), add_val, add_val]
  exact (add_le_add_iff_left _).mpr h

theorem add_ge (t : Time ℚ) (d : ℚ) (ht : Normalised t) (h : 0 ≤ d) :
    Time.le t (Time.add Ops.rat t d) = true := by
  rw [le_iff _ _ ht (add_normalised t d ht), add_val]
  exact le_add_of_nonneg_right h

/-- infinity is absorbing, for every scalar type and every `Ops` (so also for binary64) -/
theorem add_inf {α : Type} [Add α] [Sub α] [Mul α] [Div α] [Neg α] [LT α] [DecidableLT α] [BEq α]
    (o : Ops α) (t : Time α) (d : α) (h : o.isInf d = true) : Time.add o t d = ⟨d, d⟩ := by
  simp [Time.add, h]

/-- non-vacuity: a normalised time with a huge quotient and the largest remainder below one -/
example : Normalised ⟨(2:ℚ)^52, 1 - 1/2^53⟩ := by
  refine ⟨⟨2^52, by norm_num⟩, by norm_num, by norm_num⟩

/-! ## times are values: in-place `update` and fresh results (register reading, `JF.Time.Regs`) -/

/-- `update` gives the target register the value of the source … -/
theorem update_value {α : Type} (z : Time α) (s : Time.Regs α) (i j : Nat) (hi : i < s.length) :
    (s.update z i j).get z i = s.get z j := by
  simp [Time.Regs.update, Time.Regs.put, Time.Regs.get, List.getD, hi]

/-- … and changes no other register: no object shares state with another one -/
theorem update_frame {α : Type} (z : Time α) (s : Time.Regs α) (i j k : Nat) (hk : k ≠ i) :
    (s.update z i j).get z k = s.get z k := by
  simp [Time.Regs.update, Time.Regs.put, Time.Regs.get, List.getD, List.getElem?_set_ne (Ne.symm hk)]

/-- a result bound to register `i` (`regs[i] = regs[j] + d`, `from_float`) leaves every other register alone; in particular
the operand keeps its value -/
theorem put_frame {α : Type} (z : Time α) (s : Time.Regs α) (i k : Nat) (t : Time α) (hk : k ≠ i) :
    (s.put i t).get z k = s.get z k := by
  simp [Time.Regs.put, Time.Regs.get, List.getD, List.getElem?_set_ne (Ne.symm hk)]

/-- the comparisons of an updated register are those of the value it was updated to (exact reading): an object that got its
fields through `update` orders like a freshly constructed time -/
theorem update_cmp (z : Time ℚ) (s : Time.Regs ℚ) (i j k : Nat) (hi : i < s.length) :
    Time.lt ((s.update z i j).get z i) (s.get z k) = Time.lt (s.get z j) (s.get z k) := by
  rw [update_value z s i j hi]

example : Time.Regs.get (⟨0, 0⟩ : Time ℚ) (Time.Regs.update ⟨0, 0⟩ [⟨0, 0⟩, ⟨6, 1/8⟩] 0 1) 0 = ⟨6, 1/8⟩ := by
  rw [update_value _ _ _ _ (by decide)]; rfl

end JF.C14
