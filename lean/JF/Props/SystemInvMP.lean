import JF.Props.SystemInv
import JF.Lemmas.SystemInvMP2Sys1
/-!
# The joint invariant of the composed coulomb_atoms system, transported to multi-process runs

`JF/Props/SystemInv.lean` proves the joint invariant and its closed corollaries for the runs `JF.Sys.Reach` of the composed
single-process system (mediator loop `JF.Med.leg` on the spec-level scheduler × the concrete world `JF.CW`).
`JF/Props/C20Loop.lean` (`mp_refines_medloop` / `mp_eq_run`) proves that the multi-process mediator over an abstract world
`W : JF.C20Loop.World G O κ` commits, for every adversary and every core count, the `(handler, time)` sequence of `JF.Med.runLegs`
on the oracle values read off the multi-process run (`oracles W 0 g l`).  That is an equality of commit lists
(`keyMed` / `keyMP`); it says nothing about the global states, C20's world being abstract.  This module composes the two.

**The bridge** (`mp_run_is_reach`).  A `View G` reads the point masses and the cell occupancy off the abstract global state.
If the world of the multi-process run moves by the world part of `JF.Sys.SysStep` (`Moves`), there is a state `s` of `JF.Sys`
reached with exactly the commits `cs` of `runLegs` on the oracle values of the multi-process run, whose world components are the
views of the global states of that run.  (`JF.Sys` is the instance `T1` of `SysGen.CSys`, `JF/Lemmas/SystemInvMP2Sys1.lean`.)
Hence every closed corollary of `SystemInv` holds for the multi-process run under the hypotheses of the original and `Moves`.
Those not restated here (`c09_fresh_every_leg`, `c11_active_in_recorded_cell_closed`, `candOK_closed`,
`no_sample_skipped_val`, `sched_mirrors_running_closed`, `guard_never_fires_closed`) follow from `mp_run_is_reach` the same way.

**What is assumed.**
1. C20's `World` has no activator-internal mutable state: `yields` is a function of the global state alone.  The cell occupancy
   (which the real activator updates inside `get_event_handlers_to_run`, in the main process, identically for both mediators) is
   therefore counted to the global state: `View.occ g` is the occupancy as of the last update, and the update of a leg is visible
   in the state after that leg's commit.
2. `Moves` is a hypothesis on the world along the run (as `SysStep`'s fields are part of the definition of `Sys.Reach`), not for
   all states.  For the concrete world `cwWorld env c cand out` it reduces to `MovesCW` (`moves_of_cw`, `mpRun_cw`).  That the
   out-state computed from the stored in-state is admissible in the current state is C08's currency (`c08_closed`); here it is assumed, as the `∃ t, …` conjunct of `MovesCW`, just as it is the
   field `ev` of `SysStep`.
3. The multi-process run is taken over the spec-level scheduler instance (as `Sys.Reach`).  `mp_refines_medloop` holds for the
   list and heap instances as well; the composition with `list_refines_spec` / `heap_refines_spec`
   (`JF/Props/MediatorLoop.lean`: heap/list loop = spec loop up to the first tie) is not done here.

Non-vacuity: `Example`.  A multi-leg example over `cwWorld` is not given (the recorded states carry a function-valued occupancy,
so their equality with the computed global states is not decidable by evaluation).
-/
namespace JF.SystemInvMP
open JF JF.Act JF.Heap JF.Sched JF.Med JF.CW JF.C14 JF.MediatorLoop JF.Kin JF.Sys JF.SystemInv JF.C20Loop

section bridge
variable {G O : Type}

/-- how the abstract global state of C20's world is read: the point masses, and the cell occupancy as of the activator's last
`update` (adapter assumption 1 of the module docstring) -/
structure View (G : Type) where
  us : G → List (PUnit ℚ)
  occ : G → Occ.State

variable (env : Env ℚ) (geo : Geo env) (c : Wiring) (S : TaggerIdx) (needs : HandlerId → Bool)

/-- the world part of `JF.Sys.SysStep`, for leg `n` of a run over the world `W`: from global state `g` to `g'`, `cm` being the
record of the leg (only `created`, `handler`, `time` are read), `started` = the activator has been started (false exactly in the
first leg), `last` = time of the previous commit -/
structure WStep (W : World G O XTime) (v : View G) (started : Bool) (last : XTime) (n : Nat) (g g' : G)
    (cm : Committed XTime) : Prop where
  occ1 : (if started = true then occAfter env (hasOccOf c) (v.occ g) (v.us g) else some (v.occ g)) = some (v.occ g')
  yields : W.yields g = fun T => yieldCls env (c.tagger T).cls ⟨v.us g, v.occ g'⟩
  cands : CandsOK env geo c (v.us g) last ⟨W.yields g, fun h => W.cand h n g⟩ cm.created
  ev : ∃ t, cm.time = .fin t ∧ Commits env geo (kindOfH c cm.handler) t (v.us g) (v.us g')

/-- the world moves by the step relation of `JF.Sys` along the commits `l` of the multi-process run, for the legs `cs` the
single-process loop makes on its oracle values -/
def Moves (W : World G O XTime) (v : View G) :
    Bool → XTime → Nat → G → List (MP.Commit G XTime O) → List (Committed XTime) → Prop
  | _, _, _, _, _, [] => True
  | _, _, _, _, [], _ :: _ => False
  | st, last, n, g, a :: l, cm :: cs => WStep env geo c W v st last n g a.post cm ∧ Moves W v true cm.time (n + 1) a.post l cs

variable {env geo c S needs}

def A1 (env : Env ℚ) (geo : Geo env) (c : Wiring) (S : TaggerIdx) (needs : HandlerId → Bool) (v : View G) :
    SysGen.Adapter (T1 env geo c S needs) G where
  nx e x o cm g' := (⟨v.us g', v.occ g', assign x.ids cm.created, x.us, midAct (mwire c S needs) e o⟩ : X1)
  sees x g := X1.us x = v.us g ∧ X1.occ x = v.occ g
  sawPrev x g := X1.usPrev x = v.us g
  sees_nx _ _ _ _ _ := ⟨rfl, rfl⟩
  prev_nx _ _ _ _ _ _ h := h.1

/-- `Moves` reads the mediator state of the single-process loop through `started` and the time of the last commit only; along a run
these are `act.started` and the scheduler's `_last_returned_event` (`SysGen.reach_last`), so it is a hypothesis of the kind the generic
induction `SysGen.extend` needs -/
theorem moves_legLaw (H : Hyp env c S) (W : World G O XTime) (v : View G) :
    SysGen.LegLaw (T1 env geo c S needs) (A1 env geo c S needs v) W
      (fun m _ n g l cs => Moves env geo c W v m.act.started (SysGen.lastS m) n g l cs) := by
  intro os0 cs0 cs m m' x n g a l cm hr hgo hsee hleg hm
  obtain ⟨ws, hm'⟩ := hm
  have hus : X1.us x = v.us g := hsee.1
  have hocc : X1.occ x = v.occ g := hsee.2
  have hw : RStep1 env geo c S needs (SysGen.eraseS m) (SysGen.lastS m) x ⟨W.yields g, fun h => W.cand h n g⟩ cm
      ((A1 env geo c S needs v).nx (SysGen.eraseS m) x ⟨W.yields g, fun h => W.cand h n g⟩ cm a.post) :=
    ⟨by rw [hus, hocc]; exact ws.occ1, by rw [hus]; exact ws.yields, by rw [hus]; exact ws.cands, by rw [hus]; exact ws.ev,
      rfl, rfl, rfl⟩
  have hlast := SysGen.reach_last (hyp_static H) (SysGen.CSys.Reach.step hr hgo hleg hw)
  rw [lastOf_snoc] at hlast
  refine ⟨hw, ?_⟩
  show Moves env geo c W v m'.act.started (SSched.last (κ := XTime) m'.sched) (n + 1) a.post l cs
  rw [leg_started hleg, hlast]
  exact hm'

/-- a multi-process run of the composed system (any core count, any `send_out_state` arities, any adversary): the
multi-process mediator over the environment built from the components of `JF.Med.leg` (spec-level scheduler) and the world `W`
returns the commits `l`; `cs` are the legs the single-process loop `JF.Med.runLegs` makes on the oracle values of that run (by
`mp_refines_medloop`: the same handlers and times) -/
structure MPRun (H : Hyp env c S) (needs : HandlerId → Bool) (geo : Geo env) (W : World G O XTime) (v : View G) (g : G)
    (l : List (MP.Commit G XTime O)) (cs : List (Committed XTime)) : Prop where
  mp : ∃ mcfg advs hist, mpRun (specLaws xcfg_strictWeak) (hyp_static (needs := needs) H) W mcfg advs g hist = .ok l
  init : ∃ s0, Init env c s0 ∧ s0.us = v.us g ∧ s0.occ = v.occ g
  legs : ∃ fin, runLegs (mwire c S needs) (specI xcfg) (MedState.init (specI xcfg) (mwire c S needs).w) (oracles W 0 g l) =
    (cs, fin)
  moves : Moves env geo c W v false xcfg.bot 0 g l cs

variable {H : Hyp env c S} {W : World G O XTime} {v : View G} {g : G} {l : List (MP.Commit G XTime O)}
  {cs : List (Committed XTime)}

/-- the state `s` of `JF.Sys` mirrors the multi-process run after the legs `cs` -/
structure Tracks (v : View G) (g : G) (l : List (MP.Commit G XTime O)) (cs : List (Committed XTime)) (s : Sys) : Prop where
  us : s.us = v.us (gAt g l cs.length)
  occ : s.occ = v.occ (gAt g l cs.length)
  usPrev : cs ≠ [] → s.usPrev = v.us (gAt g l (cs.length - 1))

/-- The multi-process run is a run of `JF.Sys.Reach`: with exactly the commits `cs`, on the oracle values of
the multi-process run, ending in a state that mirrors the global state of the multi-process run; and `cs` is, handler by handler
and time by time, the commit list `l` of the multi-process mediator, for all legs unless the loop ended earlier with an exception
or the end-of-run commit (`mp_refines_medloop`) -/
theorem mp_run_is_reach (R : MPRun H needs geo W v g l cs) :
    ∃ s, Sys.Reach env geo c S needs ((oracles W 0 g l).take cs.length) cs s ∧ Tracks v g l cs s ∧
      cs.map keyMed = (l.take cs.length).map keyMP ∧
      (cs.length = l.length ∨ (∃ fin, runLegs (mwire c S needs) (specI xcfg) (MedState.init (specI xcfg) (mwire c S needs).w)
          (oracles W 0 g l) = (cs, fin) ∧ fin = none) ∨ ∃ cl, cs.getLast? = some cl ∧ cl.stop = true) := by
  obtain ⟨mcfg, advs, hist, hmp⟩ := R.mp
  obtain ⟨s0, h0, hus, hocc⟩ := R.init
  obtain ⟨fin, e⟩ := R.legs
  have h0' : Init env c ((xOf1 s0).toSys (MedState.init (specI xcfg) c.wires)) := by rw [← h0.med]; exact h0
  obtain ⟨m, x, hr, hsee, hprev, hkey, hlen⟩ :=
    SysGen.mp_run_is_reach_of (moves_legLaw (geo := geo) (needs := needs) H W v) hmp h0' ⟨hus, hocc⟩ R.moves e
  exact ⟨X1.toSys x m, reach1_to hr, ⟨hsee.1, hsee.2, hprev⟩, hkey, hlen⟩

theorem joint_inv_mp (R : MPRun H needs geo W v g l cs) (nt : TieFree c cs) :
    ∃ s, Tracks v g l cs s ∧ JInv env geo c S needs cs s := by
  obtain ⟨s, hr, tr, _⟩ := mp_run_is_reach R
  exact ⟨s, tr, joint_inv H hr nt⟩

/-- in the middle of the last leg, on the concrete state the multi-process run was in — point masses of the global state before
the last commit, occupancy as updated in that leg —, every live tagger is `Fresh` -/
theorem c09_fresh_closed_mp (R : MPRun H needs geo W v g l cs) (nt : TieFree c cs) (h2 : 2 ≤ cs.length) :
    ∃ s : Sys, s.usPrev = v.us (gAt g l (cs.length - 1)) ∧ s.occ = v.occ (gAt g l cs.length) ∧
      ∃ hc : Consistent env (hasOccOf c) ⟨s.usPrev, s.occ⟩,
        (∀ T, (world env c).live T → Fresh (world env c) ⟨s.mid, s.ids, ⟨⟨s.usPrev, s.occ⟩, hc⟩⟩ T) ∧
        Act.Run c (world env c) (Tr env c) S ⟨s.mid, s.ids, ⟨⟨s.usPrev, s.occ⟩, hc⟩⟩ := by
  obtain ⟨s, hr, tr, _⟩ := mp_run_is_reach R
  have hne : cs ≠ [] := by intro h; rw [h] at h2; simp at h2
  exact ⟨s, tr.usPrev hne, tr.occ, c09_fresh_closed H hr nt h2⟩

/-- the in-state of the interaction / cell-veto event the multi-process mediator
committed last is current — every unit of it moves in the global state the commit was made on as it did in the state its
candidate was computed from -/
theorem c08_closed_mp (R : MPRun H needs geo W v g l cs) (nt : TieFree c cs) {cl : Committed XTime}
    (hl : cs.getLast? = some cl) :
    ∃ s : Sys, s.usPrev = v.us (gAt g l (cs.length - 1)) ∧ s.occ = v.occ (gAt g l cs.length) ∧
      ∃ (hc : Consistent env (hasOccOf c) ⟨s.usPrev, s.occ⟩) (born : HandlerId → CW.G env c),
        C08.Reach8 c.wires (world env c) (motionOf env c) S ⟨⟨s.mid, s.ids, ⟨⟨s.usPrev, s.occ⟩, hc⟩⟩, born⟩ ∧
        C08.Current (motionOf env c) ⟨⟨s.mid, s.ids, ⟨⟨s.usPrev, s.occ⟩, hc⟩⟩, born⟩ ∧
        ∀ E, owner c.wires cl.handler = some E → motionBound (c.tagger E) = true →
          ∀ u ∈ (motionOf env c).units (s.ids cl.handler), SameMotion env.L (born cl.handler).1.us s.usPrev u := by
  obtain ⟨s, hr, tr, _⟩ := mp_run_is_reach R
  have hne : cs ≠ [] := by intro h; rw [h] at hl; simp at hl
  exact ⟨s, tr.usPrev hne, tr.occ, c08_closed H hr nt hl⟩

/-- stated on the global states of the multi-process run itself: the occupancy carried by the global state after `cs.length`
commits satisfies C11's full invariant `OccInv` for the point masses of the global state before the last commit (the state the
occupancy was updated on) -/
theorem c11_occinv_closed_mp (R : MPRun H needs geo W v g l cs) (nta : TieFreeAll c cs) (hO : hasOccOf c = true)
    (hne : cs ≠ []) :
    C11.OccInv (relW env (v.us (gAt g l (cs.length - 1)))) (cellW env (v.us (gAt g l (cs.length - 1))))
      (v.occ (gAt g l cs.length)) := by
  obtain ⟨s, hr, tr, _⟩ := mp_run_is_reach R
  have := c11_occinv_closed H hr nta hO
  rw [tr.usPrev hne, tr.occ] at this
  exact this

/-- after a sampling / dumping commit of the multi-process mediator the
active unit of the new global state is still in the cell the carried occupancy records for it -/
theorem staysInRecordedCell_closed_mp (R : MPRun H needs geo W v g l cs) (nt : TieFree c cs) (hO : hasOccOf c = true)
    {cl : Committed XTime} (hl : cs.getLast? = some cl)
    (hq : kindOfH c cl.handler = .sampling ∨ kindOfH c cl.handler = .dumping) :
    StaysInRecordedCell env (v.occ (gAt g l cs.length)) (v.us (gAt g l cs.length)) := by
  obtain ⟨s, hr, tr, _⟩ := mp_run_is_reach R
  have := staysInRecordedCell_closed H hr nt hO hl hq
  rw [tr.us, tr.occ] at this
  exact this

/-- the times of the commits of the multi-process mediator never decrease (on the legs the single-process loop makes on its oracle values: all of them, unless it ends earlier) -/
theorem commit_times_sorted_closed_mp (R : MPRun H needs geo W v g l cs) (hdq : dumpQuiet c = true) (nt : TieFree c cs)
    {i j : Nat} (hij : i < j) (hj : j < cs.length) {a b : MP.Commit G XTime O} (ha : l[i]? = some a) (hb : l[j]? = some b) :
    xcfg.lt b.time a.time = false := by
  obtain ⟨s, hr, _, hkey, _⟩ := mp_run_is_reach R
  exact SysGen.sorted_of_key hkey (commit_times_sorted_closed H hdq hr nt) hij hj ha hb

/-- while a sampling candidate `ts` is pending in leg `k`, the event the
multi-process mediator commits in that leg is not later than `ts`, and when the sampling handler itself is committed, it is
committed at exactly `ts` -/
theorem no_sample_skipped_mp (R : MPRun H needs geo W v g l cs) {k : Nat} {cm : Committed XTime} (hk : cs[k]? = some cm)
    {a : MP.Commit G XTime O} (ha : l[k]? = some a) {hs : HandlerId} {ts : XTime} (hkind : kindOfH c hs = .sampling)
    (hp : pendPushed (pendOf (fun _ => none) (cs.take k)) cm hs = some ts) (hfin : xcfg.finite ts = true) :
    xcfg.lt ts a.time = false ∧ (a.handler = hs → a.time = ts) := by
  obtain ⟨s, hr, _, hkey, _⟩ := mp_run_is_reach R
  exact SysGen.sample_of_key hkey hk ha (no_sample_skipped H hr hk hkind hp hfin)

/-- a handler of an interaction / cell-veto tagger whose event was
pending at a motion-changing commit (leg `k`) is committed by the multi-process mediator in a later leg `j` only after it was
handed out again in between -/
theorem c08_stale_trashed_closed_mp (R : MPRun H needs geo W v g l cs) (nt : TieFree c cs) {k j : Nat}
    {ck : Committed XTime} (hk : cs[k]? = some ck) {E : TaggerIdx} (hE : owner c.wires ck.handler = some E)
    (hm : affects (c.tagger E) .motion = true) {h : HandlerId} {T : TaggerIdx} (hT : owner c.wires h = some T)
    (hb : motionBound (c.tagger T) = true)
    (hp : (pendPushed (pendOf (fun _ => none) (cs.take k)) ck h).isSome) (hkj : k < j) (hj : j < cs.length)
    {a : MP.Commit G XTime O} (ha : l[j]? = some a) (hc : a.handler = h) :
    h ∈ ck.trashed ∧ ∃ (i : Nat) (ci : Committed XTime), k < i ∧ i ≤ j ∧ cs[i]? = some ci ∧ h ∈ ci.created.map Prod.fst := by
  obtain ⟨s, hr, _, hkey, _⟩ := mp_run_is_reach R
  obtain ⟨cj, hcj, hh, _⟩ := key_at hkey hj ha
  obtain ⟨h1, h2⟩ := c08_stale_trashed_closed H hr nt (j := j) (cj := cj) hk hE hm hT hb hp
  exact ⟨h1, h2 hkj hcj (by rw [hh, hc])⟩

end bridge

/-- the concrete global state of the multi-process run: point masses, the cell occupancy as of the last update, and whether the
activator has been started (the first call of `get_event_handlers_to_run` does not update internal states) -/
structure GW where
  us : List (PUnit ℚ)
  occ : Occ.State
  started : Bool

/-- the occupancy update of the next `get_event_handlers_to_run` (`none`: it raises) -/
def occUpd (env : Env ℚ) (hasOcc : Bool) (g : GW) : Option Occ.State :=
  if g.started = true then occAfter env hasOcc g.occ g.us else some g.occ

/-- the concrete coulomb_atoms world as a world of C20: the yields are computed from the point masses and the updated
occupancy (`CW.yieldCls`), the out-state of a handler is the kinematic event it asks for (`none`: a dumping event that leaves the
state as it is), `commit` applies `Kin.step` and stores the updated occupancy; the candidate times `cand` and the out-states `out`
are arbitrary functions of handler, leg number and global state (as in `JF.MP.Env`) -/
def cwWorld (env : Env ℚ) (c : Wiring) (cand : HandlerId → Nat → GW → XTime)
    (out : HandlerId → Nat → GW → Option (Kin.Ev ℚ)) : World GW (Option (Kin.Ev ℚ)) XTime where
  yields g T := yieldCls env (c.tagger T).cls ⟨g.us, (occUpd env (hasOccOf c) g).getD g.occ⟩
  cand := cand
  out := out
  commit g o :=
    ⟨match o with
      | some ev => Kin.step env.o env.L g.us ev
      | none => g.us,
     (occUpd env (hasOccOf c) g).getD g.occ, true⟩

def gwView : View GW := ⟨GW.us, GW.occ⟩

section cw
variable (env : Env ℚ) (geo : Geo env) (c : Wiring) (cand : HandlerId → Nat → GW → XTime)
  (out : HandlerId → Nat → GW → Option (Kin.Ev ℚ))

/-- `Moves` for the concrete world, reduced to what is not computed: the occupancy update does not raise, the candidate times obey
`CandsOK`, and the committed out-state is an admissible event of a kind allowed for the committing tagger at the committed time -/
def MovesCW : XTime → Nat → GW → List (MP.Commit GW XTime (Option (Kin.Ev ℚ))) → List (Committed XTime) → Prop
  | _, _, _, _, [] => True
  | _, _, _, [], _ :: _ => False
  | last, n, g, a :: l, cm :: cs =>
    ((occUpd env (hasOccOf c) g).isSome = true ∧
      CandsOK env geo c g.us last ⟨(cwWorld env c cand out).yields g, fun h => cand h n g⟩ cm.created ∧
      ∃ t, cm.time = .fin t ∧
        match a.out with
        | some ev => allowedEv (kindOfH c cm.handler) ev = true ∧ ev.time = t ∧ EvAdm env geo g.us ev
        | none => kindOfH c cm.handler = .dumping) ∧
    MovesCW cm.time (n + 1) a.post l cs

variable {env geo c cand out}

theorem moves_of_cw : ∀ (l : List (MP.Commit GW XTime (Option (Kin.Ev ℚ)))) (cs : List (Committed XTime)) (last : XTime)
    (n : Nat) (g : GW), PostChain (cwWorld env c cand out) g l → MovesCW env geo c cand out last n g l cs →
    Moves env geo c (cwWorld env c cand out) gwView g.started last n g l cs := by
  intro l
  induction l with
  | nil => intro cs last n g _ h; cases cs with
    | nil => trivial
    | cons _ _ => exact h
  | cons a l ih =>
    intro cs last n g hp h
    cases cs with
    | nil => trivial
    | cons cm cs =>
      obtain ⟨hpost, hp'⟩ := hp
      obtain ⟨⟨hsome, hcands, t, ht, hev⟩, hrest⟩ := h
      have hocc : a.post.occ = (occUpd env (hasOccOf c) g).getD g.occ := by rw [hpost]; rfl
      have hus : a.post.us = (match a.out with
          | some ev => Kin.step env.o env.L g.us ev
          | none => g.us) := by rw [hpost]; rfl
      have hst : a.post.started = true := by rw [hpost]; rfl
      have hupd : occUpd env (hasOccOf c) g = some a.post.occ := by
        rw [hocc]
        cases hx : occUpd env (hasOccOf c) g with
        | none => rw [hx] at hsome; cases hsome
        | some x => rfl
      refine ⟨⟨hupd, ?_, hcands, t, ht, ?_⟩, ?_⟩
      · show (fun T => yieldCls env (c.tagger T).cls ⟨g.us, (occUpd env (hasOccOf c) g).getD g.occ⟩) = _
        rw [← hocc]; rfl
      · show Commits env geo (kindOfH c cm.handler) t g.us a.post.us
        rw [hus]
        cases ho : a.out with
        | none => rw [ho] at hev; exact Or.inr ⟨hev, rfl⟩
        | some ev => rw [ho] at hev; exact Or.inl ⟨ev, hev.1, hev.2.1, hev.2.2, rfl⟩
      · have := ih cs cm.time (n + 1) a.post hp' hrest
        rw [hst] at this
        exact this

end cw

theorem mpRun_cw {env : Env ℚ} {geo : Geo env} {c : Wiring} {S : TaggerIdx} {needs : HandlerId → Bool} (H : Hyp env c S)
    {cand : HandlerId → Nat → GW → XTime} {out : HandlerId → Nat → GW → Option (Kin.Ev ℚ)} {mcfg : MP.Cfg}
    {advs : List (List (List Nat))} {g : GW} {hist : Nat → GW} {l : List (MP.Commit GW XTime (Option (Kin.Ev ℚ)))}
    (hmp : mpRun (specLaws xcfg_strictWeak) (hyp_static (needs := needs) H) (cwWorld env c cand out) mcfg advs g hist = .ok l)
    {s0 : Sys} (h0 : Init env c s0) (hus : s0.us = g.us) (hocc : s0.occ = g.occ) (hst : g.started = false)
    {cs : List (Committed XTime)} {fin : Option (MedState (specI xcfg).σ)}
    (e : runLegs (mwire c S needs) (specI xcfg) (MedState.init (specI xcfg) (mwire c S needs).w)
      (oracles (cwWorld env c cand out) 0 g l) = (cs, fin))
    (hm : MovesCW env geo c cand out xcfg.bot 0 g l cs) :
    MPRun H needs geo (cwWorld env c cand out) gwView g l cs := by
  refine ⟨⟨mcfg, advs, hist, hmp⟩, ⟨s0, h0, hus, hocc⟩, ⟨fin, e⟩, ?_⟩
  have hl := mpRun_ok _ _ _ mcfg advs g hist hmp
  have hp : PostChain (cwWorld env c cand out) g l := by rw [hl]; exact runSP_postChain _ _ _ _ _ _ _ _ _
  have := moves_of_cw l cs xcfg.bot 0 g hp hm
  rw [hst] at this
  exact this

/-! ## Non-vacuity: the 6-leg run of `coulomb_atoms/cell_bounded.ini` of `JF.SystemInv.Example` under the multi-process machine

The world `replayWorld os6` replays the oracle values of that run (global state = number of commits made; the view reads the point
masses and the occupancy of the recorded states `s0 … s6`).  The multi-process mediator runs on it with 3 cores (out-of-order
arrivals and pre-computations) and with 2 cores; `MPRun` holds (`mpRun3`, `mpRun2`), hence every theorem above applies. -/

section replay

def replayView (ss : List Sys) (dflt : Sys) : View Nat :=
  ⟨fun k => ((ss[k]?).getD dflt).us, fun k => ((ss[k]?).getD dflt).occ⟩

variable {env : Env ℚ} {geo : Geo env} {c : Wiring}

/-- a forward chain of legs of the composed system (`SysGen.RChain` for `T1`), replayed, moves the world by `WStep`: `started` and the
time of the last commit are those of the mediator states of the chain (`leg_started`, `MInv`) -/
theorem moves_replay {S : TaggerIdx} {needs : HandlerId → Bool} (hs : Static (mwire c S needs)) (os : List (Oracle XTime))
    (v : View Nat) {k : Nat} {m : SysGen.SM} {x : (T1 env geo c S needs).X} {os' : List (Oracle XTime)} {cs : List (Committed XTime)}
    (ch : SysGen.RChain (T1 env geo c S needs) (A1 env geo c S needs v) k m x os' cs) :
    ∀ {p : Pend XTime} {last : XTime} (l : List (MP.Commit Nat XTime Unit)),
      MInv (I := specI xcfg) (mwire c S needs) (SRel xcfg) m p last → X1.us x = v.us k → X1.occ x = v.occ k → os' = os.drop k →
      PostChain (replayWorld os) k l → cs.length ≤ l.length →
      Moves env geo c (replayWorld os) v m.act.started last k k l cs := by
  induction ch with
  | nil k m x => intro _ _ l _ _ _ _ _ _; cases l <;> trivial
  | @cons k m m1 x x1 o os'' cm cs hleg hw hsee rest ih =>
    intro p last l inv hus hocc hos hp hlen
    cases l with
    | nil => simp at hlen
    | cons a l =>
      obtain ⟨hpost, hp'⟩ := hp
      have hpost' : a.post = k + 1 := hpost
      obtain ⟨horc, hos'⟩ := replayWorld_head hos
      have hw' : RStep1 env geo c S needs (SysGen.eraseS m) (SysGen.lastS m) x o cm x1 := hw
      have hlast : SysGen.lastS m = last := inv.rel.last
      obtain ⟨hs1, hs2⟩ : X1.us x1 = v.us (k + 1) ∧ X1.occ x1 = v.occ (k + 1) := hsee
      show WStep env geo c (replayWorld os) v m.act.started last k k a.post cm ∧
        Moves env geo c (replayWorld os) v true cm.time (k + 1) a.post l cs
      rw [hpost'] at hp' ⊢
      refine ⟨⟨?_, ?_, ?_, ?_⟩, ?_⟩
      · rw [← hus, ← hocc, ← hs2]; exact hw'.occ1
      · rw [show (replayWorld os).yields k = o.yields from congrArg Oracle.yields horc, ← hus, ← hs2]; exact hw'.yields
      · rw [horc, ← hus, ← hlast]; exact hw'.cands
      · rw [← hus, ← hs1]; exact hw'.ev
      · have := ih l (inv.leg (specLaws xcfg_strictWeak) hs hleg) hs1 hs2 hos' hp' (by simpa using hlen)
        rw [leg_started hleg] at this
        exact this

end replay

namespace Example
open JF.SystemInv.Example

def W : World Nat Unit XTime := replayWorld os6
def v : View Nat := replayView [s0, s1, s2, s3, s4, s5, s6] s0

theorem L : Laws xcfg (specI xcfg) xcfg.finite (SRel xcfg) := specLaws xcfg_strictWeak
theorem static : Static (mwire cfg 7 needs) := hyp_static hyp

def cfg3 : MP.Cfg := ⟨3, fun _ => false⟩
def cfg2 : MP.Cfg := ⟨2, fun _ => false⟩

/-- handed out per leg: [7]; [5, 1, 0, 2, 4, 6]; [4]; [1, 0, 2]; [0, 2, 3]; [4] -/
def adv3 : List (List (List Nat)) := [[[7]], [[6, 4], [2, 0], [1, 5]], [[4]], [[2], [0, 1]], [[3, 2, 0]], [[4]]]
def adv2 : List (List (List Nat)) := [[[7]], [[6], [4, 2, 0, 1, 5]], [[4]], [[2, 0, 1]], [[3], [2], [0]], [[4]]]

def sp : List (MP.Commit Nat XTime Unit) := spRun L static W 6 0 (fun _ => 0)

theorem mp_ok3 : mpRun L static W cfg3 adv3 0 (fun _ => 0) = .ok sp :=
  mpRun_of_isSome L static W cfg3 adv3 0 _ (by decide +kernel)

theorem mp_ok2 : mpRun L static W cfg2 adv2 0 (fun _ => 0) = .ok sp :=
  mpRun_of_isSome L static W cfg2 adv2 0 _ (by decide +kernel)

theorem sp_chain : PostChain W 0 sp := runSP_postChain _ _ _ _ _ _ _ _ _
theorem sp_length : sp.length = 6 := runSP_length _ _ _ _ _ _ _

theorem sp_oracles : oracles W 0 0 sp = os6 := by
  have := oracles_replay os6 sp 0 sp_chain (by rw [sp_length]; decide)
  rw [sp_length] at this
  exact this

theorem legs6 : runLegs (mwire cfg 7 needs) (specI xcfg) (MedState.init (specI xcfg) (mwire cfg 7 needs).w) (oracles W 0 0 sp) =
    (cs6, some s6.med) := by
  rw [sp_oracles]
  refine runLegs_of_run (reach_medRun reach6) ?_
  intro c hc
  simp only [cs6, List.nil_append, List.cons_append, List.mem_cons, List.not_mem_nil, or_false] at hc
  rcases hc with rfl | rfl | rfl | rfl | rfl | rfl
  exacts [ok1.go, ok2.go, ok3.go, ok4.go, ok5.go, ok6.go]

theorem link {s s' : Sys} {o : Oracle XTime} {cm : Committed XTime} (hstep : SysStep env geo cfg 7 needs s o cm s') {k : Nat}
    (hsee : s'.us = v.us (k + 1) ∧ s'.occ = v.occ (k + 1)) {os : List (Oracle XTime)} {cs : List (Committed XTime)}
    (rest : SysGen.RChain (T1 env geo cfg 7 needs) (A1 env geo cfg 7 needs v) (k + 1) s'.med (xOf1 s') os cs) :
    SysGen.RChain (T1 env geo cfg 7 needs) (A1 env geo cfg 7 needs v) k s.med (xOf1 s) (o :: os) (cm :: cs) :=
  .cons (T := T1 env geo cfg 7 needs) hstep.leg (rstep1_of hstep)
    (show (A1 env geo cfg 7 needs v).sees (xOf1 s') (k + 1) from hsee) rest

theorem chain6 : SysGen.RChain (T1 env geo cfg 7 needs) (A1 env geo cfg 7 needs v) 0 s0.med (xOf1 s0) os6 cs6 :=
  link step1 ⟨rfl, rfl⟩ (link step2 ⟨rfl, rfl⟩ (link step3 ⟨rfl, rfl⟩ (link step4 ⟨rfl, rfl⟩ (link step5 ⟨rfl, rfl⟩
    (link step6 ⟨rfl, rfl⟩ (.nil _ _ _))))))

theorem moves6 : Moves env geo cfg W v false xcfg.bot 0 0 sp cs6 :=
  moves_replay static os6 v chain6 sp (minv_init (specLaws xcfg_strictWeak) _) rfl rfl rfl sp_chain (by rw [sp_length]; decide)

theorem mpRun3 : MPRun hyp needs geo W v 0 sp cs6 :=
  ⟨⟨cfg3, adv3, fun _ => 0, mp_ok3⟩, ⟨s0, init0, rfl, rfl⟩, ⟨_, legs6⟩, moves6⟩
theorem mpRun2 : MPRun hyp needs geo W v 0 sp cs6 :=
  ⟨⟨cfg2, adv2, fun _ => 0, mp_ok2⟩, ⟨s0, init0, rfl, rfl⟩, ⟨_, legs6⟩, moves6⟩

example : sp.map keyMP = cs6.map keyMed := by
  obtain ⟨_, _, _, hkey, _⟩ := mp_run_is_reach mpRun3
  rw [show cs6.length = 6 from rfl, ← sp_length, List.take_length] at hkey
  exact hkey.symm

example : ∃ s, Tracks v 0 sp cs6 s ∧ JInv env geo cfg 7 needs cs6 s := joint_inv_mp mpRun3 tieFree6

example : C11.OccInv (relW env (v.us (gAt 0 sp 5))) (cellW env (v.us (gAt 0 sp 5))) (v.occ (gAt 0 sp 6)) :=
  c11_occinv_closed_mp mpRun3 tieFreeAll6 rfl (by decide)

example : ∃ s : Sys, s.usPrev = v.us (gAt 0 sp 5) ∧ s.occ = v.occ (gAt 0 sp 6) ∧
    ∃ hc : Consistent env (hasOccOf cfg) ⟨s.usPrev, s.occ⟩,
      (∀ T, (world env cfg).live T → Fresh (world env cfg) ⟨s.mid, s.ids, ⟨⟨s.usPrev, s.occ⟩, hc⟩⟩ T) ∧
      Act.Run cfg (world env cfg) (Tr env cfg) 7 ⟨s.mid, s.ids, ⟨⟨s.usPrev, s.occ⟩, hc⟩⟩ :=
  c09_fresh_closed_mp mpRun2 tieFree6 (by decide)

theorem sp1 : (sp[1]?).isSome = true := by rw [List.getElem?_eq_getElem (by rw [sp_length]; decide)]; rfl
theorem sp2 : (sp[2]?).isSome = true := by rw [List.getElem?_eq_getElem (by rw [sp_length]; decide)]; rfl

/-- the commit times of the multi-process run: leg 2 (cell boundary, 1/14) is not before leg 1 (sampling, 1/28) -/
example : xcfg.lt ((sp[2]?).get sp2).time ((sp[1]?).get sp1).time = false :=
  commit_times_sorted_closed_mp mpRun3 dumpQuiet_shipped.1 tieFree6 (i := 1) (j := 2) (by decide) (by decide)
    (Option.some_get sp1).symm (Option.some_get sp2).symm

/-- in leg 2 of the multi-process run the sampling candidate 3/28 is pending; the committed time is not later -/
example : xcfg.lt (.fin ⟨0, 3/28⟩) ((sp[2]?).get sp2).time = false :=
  (no_sample_skipped_mp mpRun3 (k := 2) (cm := c3) rfl (Option.some_get sp2).symm (hs := 4)
    (ts := .fin ⟨0, 3/28⟩) (by decide) (by decide +kernel) rfl).1

/-! ### the concrete world `cwWorld`: the first leg (start of run) of the same configuration under the multi-process machine -/

def g0 : GW := ⟨us0, occ0, false⟩
def candCW : HandlerId → Nat → GW → XTime := fun h _ _ => cand1 h
def outCW : HandlerId → Nat → GW → Option (Kin.Ev ℚ) := fun _ _ _ => some (.start ⟨0, 0⟩ 0 [1])
def WC : World GW (Option (Kin.Ev ℚ)) XTime := cwWorld env cfg candCW outCW
def spC : List (MP.Commit GW XTime (Option (Kin.Ev ℚ))) := spRun L static WC 1 g0 (fun _ => g0)

theorem mp_okC : mpRun L static WC cfg3 [[[7]]] g0 (fun _ => g0) = .ok spC :=
  mpRun_of_isSome L static WC cfg3 [[[7]]] g0 _ (by decide +kernel)

theorem legsC : runLegs (mwire cfg 7 needs) (specI xcfg) (MedState.init (specI xcfg) (mwire cfg 7 needs).w)
    (oracles WC 0 g0 spC) = ([c1], some s1.med) := by
  have h1 : oracles WC 0 g0 spC = [mkO s0.us occ0 cand1] := by
    simp only [spC, spRun, MP.runSP, oracles]
    rfl
  rw [h1]
  refine runLegs_of_run (.cons step1.leg (.nil _)) ?_
  intro c hc
  rw [List.mem_singleton.mp hc]
  exact ok1.go

theorem mpRunC : MPRun hyp needs geo WC gwView g0 spC [c1] := by
  refine mpRun_cw hyp mp_okC (s0 := s0) init0 rfl rfl rfl legsC ?_
  simp only [spC, spRun, MP.runSP]
  obtain ⟨hc, ht, hal⟩ := legB_spec ok1.check
  exact ⟨⟨rfl, hc, ⟨0, 0⟩, ht, hal, rfl, by decide, velOK1, init0.rest⟩, trivial⟩

example : ∃ s, Tracks gwView g0 spC [c1] s ∧ JInv env geo cfg 7 needs [c1] s :=
  joint_inv_mp mpRunC (tieFree_take (k := 1) tieFree6)

end Example

end JF.SystemInvMP
