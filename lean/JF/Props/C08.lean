/-
C08 — A committed event was computed from the trajectory that is still current.

The activator model (`JF/Model/Activator.lean`) extended by, per pending handler, the global state `born h` at which its
candidate event time was computed, over an abstract world with
  * `units ids`   — the units of the in-state extracted for the identifier tuple `ids` (whole branches),
  * `same g₁ g₂ u` — unit `u` has in `g₂` the velocity it has in `g₁` and lies on the same straight-line trajectory
                     (same position for a unit at rest); reflexive and transitive,
  * `moves E`     — "an event of tagger `E` may change the motion of a unit" (footprint table `affects · .motion`),
  * `bound T`     — `T` is an interaction (factor) or cell-veto tagger.
Hypotheses of one commit (`StepOK8`): a commit of a non-moving tagger changes no unit's motion (footprint hypothesis); a
commit of a moving tagger trashes every bound tagger that has a pending handler (clause (h) of `WiringSound`, DESIGN §5).

`in_state_current_at_every_commit` (all runs; induction step `current_step`): whenever an event of an interaction / cell-veto
handler is committed, every unit of the in-state it was computed from is still on the trajectory it had then;
`stale_handlers_are_trashed`: no pending bound handler survives a motion-changing commit — it is in the trash list.
The link from `WiringSound cfg = true` to clause (h) at every step of every run is `clause_h_of_wiringSound`.
-/
import JF.Lemmas.ActivatorFresh
import JF.Lemmas.ActivatorWiring
namespace JF.C08
open JF.Act

variable {G U : Type}

structure Motion (G U : Type) where
  units : IdTuple → List U
  same : G → G → U → Prop
  same_refl : ∀ g u, same g g u
  same_trans : ∀ g₁ g₂ g₃ u, same g₁ g₂ u → same g₂ g₃ u → same g₁ g₃ u
  moves : TaggerIdx → Prop
  bound : TaggerIdx → Prop

/-- run state + the global state each pending handler's candidate was computed from -/
structure MS (G : Type) where
  rs : RS G
  born : HandlerId → G

/-- C08's invariant: every unit of the stored in-state of every pending interaction / cell-veto handler still has the
velocity and straight-line trajectory it had when the candidate was computed -/
def Current (M : Motion G U) (ms : MS G) : Prop :=
  ∀ T, M.bound T → ∀ h ∈ (getT ms.rs.act T).running, ∀ u ∈ M.units (ms.rs.ids h), M.same (ms.born h) ms.rs.g u

/-- one leg: commit (global state becomes `g'`), trash, create; the created handlers compute their candidates on `g'` -/
def commit8 (w : Wires) (W : World G) (ms : MS G) (E : TaggerIdx) (g' : G) : Option (MS G) :=
  match update w (trash w ms.rs.act E).1 E (fun T => W.yieldOf T g') with
  | none => none
  | some r => some ⟨⟨r.1, assign ms.rs.ids r.2, g'⟩, fun h => if h ∈ r.2.map Prod.fst then g' else ms.born h⟩

theorem commit8_rs {w : Wires} {W : World G} {ms ms' : MS G} {E : TaggerIdx} {g' : G}
    (e : commit8 w W ms E g' = some ms') : commit w W ms.rs E g' = some ms'.rs := by
  unfold commit8 at e; unfold commit
  split at e
  · cases e
  · next r h => rw [h]; injection e with e; rw [← e]

structure StepOK8 (w : Wires) (M : Motion G U) (ms : MS G) (E : TaggerIdx) (g' : G) : Prop where
  /-- footprint hypothesis: an event of a tagger that is not declared motion-changing leaves every unit on its trajectory -/
  quiet : ¬ M.moves E → ∀ u, M.same ms.rs.g g' u
  /-- clause (h): a motion-changing event trashes every bound tagger that has something pending -/
  h : M.moves E → ∀ T, M.bound T → T ∈ (getW w E).trashes ∨ (getT ms.rs.act T).running = []

/-- **no stale candidate survives**: when a motion-changing event is committed, every pending handler of every interaction /
cell-veto tagger is in the trash list the activator returns -/
theorem stale_handlers_are_trashed {w : Wires} {M : Motion G U} {ms : MS G} {E : TaggerIdx} {g' : G}
    (ok : StepOK8 w M ms E g') (hm : M.moves E) {T : TaggerIdx} (hb : M.bound T) {h : HandlerId}
    (hh : h ∈ (getT ms.rs.act T).running) : h ∈ (trash w ms.rs.act E).2 := by
  rcases ok.h hm T hb with ht | he
  · exact (trashLoop_out_mem _ _ h).mpr ⟨T, ht, hh⟩
  · rw [he] at hh; simp at hh

theorem current_step {w : Wires} {W : World G} {M : Motion G U} {ms ms' : MS G} {E : TaggerIdx} {g' : G}
    (wf : WFw w) (pinv : PoolInv w ms.rs.act) (cur : Current M ms) (ok : StepOK8 w M ms E g')
    (e : commit8 w W ms E g' = some ms') : Current M ms' := by
  unfold commit8 at e
  split at e
  · cases e
  next r hu =>
  injection e with e; subst e
  obtain ⟨new, hnew, hT⟩ := leg_spec wf pinv.1 hu
  intro T hb h hh u hu'
  simp only [] at hh hu' ⊢
  by_cases hk : h ∈ r.2.map Prod.fst
  · simp only [hk, if_true]; exact M.same_refl g' u
  · simp only [hk, if_false]
    rw [assign_not_mem hk] at hu'
    -- `h` is not new, so it survived the trash: it was pending before and its tagger was not trashed
    rw [(hT T).1, List.mem_append] at hh
    obtain ⟨ht, hold⟩ := mem_kept.mp (hh.resolve_right fun hn => hk (by
      obtain ⟨p, hp, rfl⟩ := List.mem_map.mp hn
      exact List.mem_map.mpr ⟨p, (hnew p).mpr ⟨T, hp⟩, rfl⟩))
    have hquiet : ¬ M.moves E := fun hm => by
      rcases ok.h hm T hb with h1 | h2
      · exact ht h1
      · rw [h2] at hold; cases hold
    exact M.same_trans _ _ _ u (cur T hb h hold u hu') (ok.quiet hquiet u)

/-- all states of runs whose every commit satisfies `StepOK8`.  `start` is the first call only (every candidate computed on `g0`);
the commit of the start-of-run event is an ordinary `step`, unlike `JF.C09.Reach.start`, which includes it. -/
inductive Reach8 (w : Wires) (W : World G) (M : Motion G U) (S : TaggerIdx) : MS G → Prop where
  | start (ids0 : HandlerId → IdTuple) (g0 : G) (s0 : Act) (out : List (HandlerId × IdTuple))
      (hfirst : first w (initAct w) S (fun T => W.yieldOf T g0) = some (s0, out)) :
      Reach8 w W M S ⟨⟨s0, assign ids0 out, g0⟩, fun _ => g0⟩
  | step (ms ms' : MS G) (E : TaggerIdx) (g' : G) (prev : Reach8 w W M S ms)
      (ok : StepOK8 w M ms E g') (hcommit : commit8 w W ms E g' = some ms') : Reach8 w W M S ms'

theorem current_of_reach {w : Wires} {W : World G} {M : Motion G U} {S : TaggerIdx} (wf : WFw w) {ms : MS G}
    (h : Reach8 w W M S ms) : Current M ms ∧ PoolInv w ms.rs.act := by
  induction h with
  | start ids0 g0 s0 out hfirst =>
    exact ⟨fun T _ h _ u _ => M.same_refl g0 u, poolInv_first (poolInv_init w) hfirst⟩
  | step ms ms' E g' _ ok hcommit ih =>
    exact ⟨current_step wf ih.2 ih.1 ok hcommit, commit_poolInv ih.2 (commit8_rs hcommit)⟩

/-- **C08**: in every reachable state, every unit of the in-state of a pending interaction (factor) or cell-veto handler `h` — so of
whichever is committed next — still has the velocity and the straight-line trajectory it had when the candidate was computed -/
theorem in_state_current_at_every_commit {w : Wires} {W : World G} {M : Motion G U} {S : TaggerIdx} (wf : WFw w)
    {ms : MS G} (hreach : Reach8 w W M S ms) {E : TaggerIdx} (hb : M.bound E) {h : HandlerId}
    (hpending : h ∈ (getT ms.rs.act E).running) :
    ∀ u ∈ M.units (ms.rs.ids h), M.same (ms.born h) ms.rs.g u :=
  (current_of_reach wf hreach).1 E hb h hpending

/-! ### the hypotheses are satisfiable (the two-tagger wiring of `JF.C09.Example`) -/

namespace Example
def w : Wires := [⟨[0], [0], [], [], [0, 1]⟩, ⟨[0], [1], [], [], [2]⟩]
def W : World Nat :=
  { yieldOf := fun T g => if T = 0 then [some [[g], [g + 1]]] else [none], view := fun _ x => x, live := fun T => T = 0 }
/-- units = particle numbers; the global state is the active particle; a unit keeps its motion iff the active particle is the same -/
def M : Motion Nat Nat :=
  { units := fun ids => (ids.getD []).flatten
    same := fun g₁ g₂ _ => g₁ = g₂
    same_refl := fun _ _ => rfl
    same_trans := fun _ _ _ _ h₁ h₂ => h₁.trans h₂
    moves := fun _ => True
    bound := fun T => T = 0 }

def ms0 : MS Nat :=
  ⟨⟨((first w (initAct w) 1 (fun T => W.yieldOf T 5)).get (by decide)).1,
    assign (fun _ => none) ((first w (initAct w) 1 (fun T => W.yieldOf T 5)).get (by decide)).2, 5⟩, fun _ => 5⟩
def ms1 : MS Nat := (commit8 w W ms0 1 5).get (by decide)
def ms2 : MS Nat := (commit8 w W ms1 0 7).get (by decide)

example : Reach8 w W M 1 ms2 := by
  refine .step ms1 ms2 0 7 (.step ms0 ms1 1 5 (.start (fun _ => none) 5 _ _
    (Option.some_get (x := first w (initAct w) 1 (fun T => W.yieldOf T 5)) (by decide)).symm) ?_ (by simp [ms1])) ?_ (by simp [ms2])
  · refine ⟨fun h => absurd trivial h, fun _ T hb => ?_⟩
    right; rw [show T = 0 from hb]; decide
  · refine ⟨fun h => absurd trivial h, fun _ T hb => ?_⟩
    left; rw [show T = 0 from hb]; decide
end Example

/-- for a configuration with `WiringSound cfg = true`, in every state of every run (`JF.Act.Run`), clause (h) holds for the
next commit with `moves E := affects (cfg.tagger E) .motion` and `bound T := T < n ∧ motionBound (cfg.tagger T)` -/
theorem clause_h_of_wiringSound {G : Type} (c : Wiring) (W : World G) (Tr : TaggerIdx → G → G → Prop) (S : TaggerIdx)
    (sound : WiringSound c = true) (hS : c.start? = some S) (fps : FootprintsSound c W Tr) (hlive : LiveIs c W)
    {rs : RS G} (hrun : Run c W Tr S rs) {E : TaggerIdx} (hE : (getT rs.act E).running ≠ [])
    (hend : (c.tagger E).kind ≠ .endOfRun) (hm : affects (c.tagger E) .motion = true)
    {T : TaggerIdx} (hT : T < c.n) (hb : motionBound (c.tagger T) = true) :
    T ∈ (getW c.wires E).trashes ∨ (getT rs.act T).running = [] :=
  run_clause_h c W Tr S sound hS fps hlive hrun hE hend hm hT hb

end JF.C08
