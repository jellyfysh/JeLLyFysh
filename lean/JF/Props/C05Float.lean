import JF.Lemmas.LiftingRndErr
import JF.Lemmas.LiftingRndB64
import JF.Lemmas.RoundedBinary
import JF.Props.C05
/-!
# C05, rounding-abstract reading — what the lifting schemes guarantee FOR FLOATS

`JF/Props/C05.lean` reads the model of the lifting schemes over an exact ordered field.  Here the SAME model
(`JF.Model.Lifting`, the model of `jellyfysh/lifting/{lifting,inside_first_lifting,outside_first_lifting,
ratio_lifting}.py`) is read over `R fm` — rationals whose every `+ - *` rounds with `fm.rnd` — for an
ARBITRARY `fm : FloatModel` (`JF/Num/Rounded.lean`; IEEE-754 binary64 round-to-nearest-even is the proved instance
`FloatModel.binary64`).  Every float operation of the Python code rounds where the code performs it:
`self._random_position += lifting_rate`, `random.uniform(0.0, r) = 0.0 + (r - 0.0) * random()`, `summed_lifting_rate +=
lifting_rate`, `sum(neg) - self._random_position`, `uniform(0.0, sum(neg))` (spelled out in `toQ_posIn`,
`toQ_posOf_outside`, `toQ_posOf_ratio`, `toQ_acc_succ`).  Comparisons and unary minus are exact.

**What models `sum()`.**  CPython's builtin `sum` on floats is a compensated (Neumaier) sum; the model has its recurrence
(`Lifting.neumaier`, `Lifting.pySum`), and over `R fm` every operation of that recurrence rounds.  Safety, the
characterisation of zero-rate selections and the monotonicity of the selection are theorems about the model WITH that
rounded recurrence — they need nothing about its value, so they hold for any value `sum()` could return.  The flow
error bounds take the error of that value as an explicit parameter: `δ` with the hypothesis
`|toQ (sumNeg …) − S| ≤ δ` (`S` the exact sum); nothing is claimed about how small `δ` is (the `FloatModel` hypotheses
do not contain the exactness of `Fast2Sum` that makes the compensation work).  The inside-first scheme does not call
`sum()`, its bound has no `δ`.

Vocabulary: a table `tbl : List (R fm × ι)` of (derivative, identifier) in insertion order, active index `a`, draws
`u` (`random()` inside `insert`) and `u2` (ratio's own draw); `negs tbl` the negative list the rounded loop builds;
`selIdx fm sch tbl a u u2` the index into it that the rounded walk reads; `posOf` the rounded position; `acc` the
loop's rounded running sums.  `Active tbl a`: entry `a` exists and is `> 0`; `HasNeg tbl`: some entry is `≤ 0`.

For every `fm`, table and scheme: for ANY draws the move returns a unit with a non-positive derivative, never an error
(`choose_safe`); that derivative is zero iff one of two decidable conditions holds (`zero_rate_selected_iff`), and the
six known findings are each one of them; the selected index is monotone in the draw, so the draws selecting a unit form
an interval, whose end points are within `errFlow / scale` of the exact ones of `C05.sel_interval` (`flow_error_draw`,
`flow_error_inner`), with `errFlow ≤ (4L + 8)·eps·T + 2·tau` for the inside scheme (`errFlow_inside_le`).

Nothing is `_partial`.  Not covered: NaN/±∞ (no such values in `R fm`), signed zeros (`-0.0 == 0.0` in both worlds).
-/
namespace JF.C05F
open JF JF.Lifting JF.R

variable {fm : FloatModel} {ι : Type}

/-- hypotheses on the table: the active entry exists and its derivative is positive (`insert`'s `assert`) -/
structure Active (tbl : List (R fm × ι)) (a : Nat) : Prop where
  lt : a < tbl.length
  pos : 0 < toQ (tbl[a]).1

theorem Active.ofInt {tbl : List (R fm × ι)} {a : Nat} (A : Active tbl a) :
    (Ops.rounded fm).ofInt 0 < (tbl[a]'A.lt).1 := by
  have := A.pos
  simpa using this

/-- the list of (negated rate, identifier) the rounded insertion loop leaves -/
abbrev negs (tbl : List (R fm × ι)) : List (R fm × ι) := negL (Ops.rounded fm) tbl

def HasNeg (tbl : List (R fm × ι)) : Prop := ∃ e ∈ tbl, toQ e.1 ≤ 0

theorem negs_ne_nil {tbl : List (R fm × ι)} (h : HasNeg tbl) : negs tbl ≠ [] := by
  obtain ⟨e, he, h0⟩ := h
  intro hn
  have := (negL_eq_nil_iff (Ops.rounded fm) tbl).mp hn e he
  have : (0 : ℚ) < toQ e.1 := by simpa using this
  linarith

def selIdx (fm : FloatModel) (sch : Scheme) (tbl : List (R fm × ι)) (a : Nat) (u u2 : R fm) : Nat :=
  sel (Ops.rounded fm) (posOf (Ops.rounded fm) sch tbl a u u2) (negs tbl)

theorem selIdx_lt {tbl : List (R fm × ι)} (hn : HasNeg tbl) (sch : Scheme) (a : Nat) (u u2 : R fm) :
    selIdx fm sch tbl a u u2 < (negs tbl).length := sel_lt _ _ (negs_ne_nil hn)

theorem chooseIdx_eq_selIdx {tbl : List (R fm × ι)} {a : Nat} (A : Active tbl a) (hn : HasNeg tbl) (sch : Scheme)
    (u u2 : R fm) :
    chooseIdx (Ops.rounded fm) sch tbl a u u2 = .ok (selIdx fm sch tbl a u u2) := by
  rw [chooseIdx_g _ sch tbl a u u2 A.lt A.ofInt, selectIdx_eq_sel _ _ (negs_ne_nil hn)]
  rfl

theorem choose_eq_selIdx {tbl : List (R fm × ι)} {a : Nat} (A : Active tbl a) (hn : HasNeg tbl) (sch : Scheme)
    (u u2 : R fm) :
    choose (Ops.rounded fm) sch tbl a u u2 = .ok ((negs tbl)[selIdx fm sch tbl a u u2]'(selIdx_lt hn sch a u u2)).2 := by
  rw [choose_g _ sch tbl a u u2 A.lt A.ofInt, select_eq _ _ (negs_ne_nil hn)]
  rfl

theorem negs_entry {tbl : List (R fm × ι)} {k : Nat} (hk : k < (negs tbl).length) :
    ∃ r, (r, ((negs tbl)[k]).2) ∈ tbl ∧ toQ r ≤ 0 ∧ toQ ((negs tbl)[k]).1 = -toQ r := by
  obtain ⟨r, h1, h2, h3⟩ := mem_negL (Ops.rounded fm) (List.getElem_mem hk)
  have : ¬ (0 : ℚ) < toQ r := by simpa using h2
  exact ⟨r, h1, not_lt.mp this, by rw [h3, toQ_neg]⟩

/-- **Safety.**  For every rounding model, table, scheme and EVERY pair of draws (no range restriction, so in particular
the closed ranges `[0, 1]` that `random.random`/`random.uniform` can return): if the active entry is positive and the
table has a non-positive entry, the move returns, without error, the identifier of a table entry whose derivative is
NON-POSITIVE. -/
theorem choose_safe {tbl : List (R fm × ι)} {a : Nat} (A : Active tbl a) (hn : HasNeg tbl) (sch : Scheme)
    (u u2 : R fm) :
    ∃ r i, (r, i) ∈ tbl ∧ toQ r ≤ 0 ∧ choose (Ops.rounded fm) sch tbl a u u2 = .ok i := by
  obtain ⟨r, h1, h2, _⟩ := negs_entry (selIdx_lt hn sch a u u2)
  exact ⟨r, _, h1, h2, choose_eq_selIdx A hn sch u u2⟩

/-- the only way to an `IndexError` (`self._associated_identifiers[-1]` on an empty list): a positive active entry in
a table ALL of whose derivatives are positive -/
theorem choose_index_error_iff {tbl : List (R fm × ι)} {a : Nat} (A : Active tbl a) (sch : Scheme) (u u2 : R fm) :
    choose (Ops.rounded fm) sch tbl a u u2 = .error .index ↔ ¬ HasNeg tbl := by
  constructor
  · intro h hn
    rw [choose_eq_selIdx A hn] at h
    cases h
  · intro hn
    have : negs tbl = [] := by
      rw [negL_eq_nil_iff]
      intro e he
      have : ¬ toQ e.1 ≤ 0 := fun h => hn ⟨e, he, h⟩
      simpa using not_le.mp this
    rw [choose_g _ sch tbl a u u2 A.lt A.ofInt]
    unfold select
    rw [show negL (Ops.rounded fm) tbl = [] from this, selectIdx_nil]

/-- an active entry that is not positive trips `insert`'s `assert` -/
theorem choose_assertion {tbl : List (R fm × ι)} {a : Nat} (ha : a < tbl.length) (hq : toQ (tbl[a]).1 ≤ 0)
    (sch : Scheme) (u u2 : R fm) : choose (Ops.rounded fm) sch tbl a u u2 = .error .assertion :=
  choose_assertion_g _ sch tbl ha (by simpa using not_lt.mpr hq) u u2

/-- an active index beyond the table leaves `_active_recorded` false: `LiftingSchemeError` -/
theorem choose_notRecorded {tbl : List (R fm × ι)} {a : Nat} (ha : tbl.length ≤ a) (sch : Scheme) (u u2 : R fm) :
    choose (Ops.rounded fm) sch tbl a u u2 = .error .notRecorded := by
  unfold choose fill
  rw [fillFrom_inactive_g (Ops.rounded fm) a u tbl 0 (empty _) (Or.inr (by omega))]
  cases sch <;> simp [getInside, getOutside, getRatio, empty]

theorem condA_iff (sch : Scheme) (tbl : List (R fm × ι)) (a : Nat) (u u2 : R fm) :
    condA (Ops.rounded fm) sch tbl a u u2 = true ↔
      toQ (posOf (Ops.rounded fm) sch tbl a u u2) ≤ 0 ∧ ∃ h : 0 < (negs tbl).length, toQ ((negs tbl)[0]).1 = 0 := by
  exact condAOn_iff _ _

theorem condB_iff (sch : Scheme) (tbl : List (R fm × ι)) (a : Nat) (u u2 : R fm) :
    condB (Ops.rounded fm) sch tbl a u u2 = true ↔
      toQ (acc (negs tbl) ((Ops.rounded fm).ofInt 0) (negs tbl).length) <
          toQ (posOf (Ops.rounded fm) sch tbl a u u2) ∧
        ∃ h : 0 < (negs tbl).length, toQ ((negs tbl)[(negs tbl).length - 1]).1 = 0 := by
  exact condBOn_iff _ _

/-- **The six known findings are all there is.**  For every rounding model, table, scheme and draws: the unit the
rounded walk selects has derivative ZERO if and only if
(a) the rounded position is `≤ 0` and the negative list starts with a zero-rate entry, or
(b) the loop falls through (its last rounded running sum is below the rounded position) and the last entry of the
    negative list has rate zero. -/
theorem zero_rate_selected_iff {tbl : List (R fm × ι)} {a : Nat} (hn : HasNeg tbl) (sch : Scheme)
    (u u2 : R fm) :
    toQ ((negs tbl)[selIdx fm sch tbl a u u2]'(selIdx_lt hn sch a u u2)).1 = 0 ↔
      condA (Ops.rounded fm) sch tbl a u u2 = true ∨ condB (Ops.rounded fm) sch tbl a u u2 = true := by
  have hlen : 0 < (negs tbl).length := List.length_pos_iff.mpr (negs_ne_nil hn)
  rw [condA_iff, condB_iff]
  have := sel_zero_rate_iff (negs_ne_nil hn) (negL_nonneg tbl) (posOf (Ops.rounded fm) sch tbl a u u2)
  simp only [hlen, exists_true_left]
  exact this

/-- **Strict negativity** outside the two conditions: the move returns the identifier of a table entry whose
derivative is `< 0`. -/
theorem choose_negative_of_not_cond {tbl : List (R fm × ι)} {a : Nat} (A : Active tbl a) (hn : HasNeg tbl)
    (sch : Scheme) (u u2 : R fm) (hA : condA (Ops.rounded fm) sch tbl a u u2 = false)
    (hB : condB (Ops.rounded fm) sch tbl a u u2 = false) :
    ∃ r i, (r, i) ∈ tbl ∧ toQ r < 0 ∧ choose (Ops.rounded fm) sch tbl a u u2 = .ok i := by
  obtain ⟨r, h1, h2, h3⟩ := negs_entry (selIdx_lt hn sch a u u2)
  refine ⟨r, _, h1, ?_, choose_eq_selIdx A hn sch u u2⟩
  rcases lt_or_eq_of_le h2 with h | h
  · exact h
  · exfalso
    have hz : toQ ((negs tbl)[selIdx fm sch tbl a u u2]'(selIdx_lt hn sch a u u2)).1 = 0 := by rw [h3, h]; simp
    rcases (zero_rate_selected_iff hn sch u u2).mp hz with h' | h'
    · rw [hA] at h'; cases h'
    · rw [hB] at h'; cases h'

theorem choose_zero_of_cond {tbl : List (R fm × ι)} {a : Nat} (A : Active tbl a) (hn : HasNeg tbl)
    (sch : Scheme) (u u2 : R fm)
    (h : condA (Ops.rounded fm) sch tbl a u u2 = true ∨ condB (Ops.rounded fm) sch tbl a u u2 = true) :
    ∃ r i, (r, i) ∈ tbl ∧ toQ r = 0 ∧ choose (Ops.rounded fm) sch tbl a u u2 = .ok i := by
  obtain ⟨r, h1, _, h3⟩ := negs_entry (selIdx_lt hn sch a u u2)
  have hz := (zero_rate_selected_iff (a := a) hn sch u u2).mpr h
  exact ⟨r, _, h1, by rw [h3] at hz; linarith, choose_eq_selIdx A hn sch u u2⟩

theorem choose_negative_of_no_zero {tbl : List (R fm × ι)} {a : Nat} (A : Active tbl a) (hn : HasNeg tbl)
    (hz : ∀ e ∈ tbl, toQ e.1 ≠ 0) (sch : Scheme) (u u2 : R fm) :
    ∃ r i, (r, i) ∈ tbl ∧ toQ r < 0 ∧ choose (Ops.rounded fm) sch tbl a u u2 = .ok i := by
  obtain ⟨r, i, h1, h2, h3⟩ := choose_safe A hn sch u u2
  exact ⟨r, i, h1, lt_of_le_of_ne h2 (hz _ h1), h3⟩

/-! #### the rounded positions, spelled out: `fm.rnd` after every `+ - *` of the Python code -/

theorem toQ_posOf_inside (tbl : List (R fm × ι)) (a : Nat) (u u2 : R fm) :
    toQ (posOf (Ops.rounded fm) .inside tbl a u u2) = toQ (posIn (Ops.rounded fm) tbl a u) := rfl

/-- outside first: `fl(sum(neg) − _random_position)` -/
theorem toQ_posOf_outside (tbl : List (R fm × ι)) (a : Nat) (u u2 : R fm) :
    toQ (posOf (Ops.rounded fm) .outside tbl a u u2) =
      fm.rnd (toQ (sumNeg (Ops.rounded fm) tbl) - toQ (posIn (Ops.rounded fm) tbl a u)) := rfl

/-- ratio: `random.uniform(0.0, sum(neg)) = fl(0.0 + fl(fl(sum(neg) − 0.0) · u2))` -/
theorem toQ_posOf_ratio (tbl : List (R fm × ι)) (a : Nat) (u u2 : R fm) :
    toQ (posOf (Ops.rounded fm) .ratio tbl a u u2) =
      fm.rnd (0 + fm.rnd (fm.rnd (toQ (sumNeg (Ops.rounded fm) tbl) - 0) * toQ u2)) := by
  simp [posOf, pyUniform]

/-- the loop's running sum: `summed_lifting_rate += lifting_rate` rounds once per entry -/
theorem toQ_acc_succ (l : List (R fm × ι)) (c : R fm) {k : Nat} (hk : k < l.length) :
    toQ (acc l c (k + 1)) = fm.rnd (toQ (acc l c k) + toQ (l[k]).1) := by
  rw [acc_succ l c hk, toQ_add]

/-- `zero_rate_selected_iff` with both conditions written as comparisons of rationals; the three per-scheme versions
below write the rounded position out -/
theorem zero_rate_selected_iff' {tbl : List (R fm × ι)} {a : Nat} (hn : HasNeg tbl) (sch : Scheme) (u u2 : R fm) :
    toQ ((negs tbl)[selIdx fm sch tbl a u u2]'(selIdx_lt hn sch a u u2)).1 = 0 ↔
      (toQ (posOf (Ops.rounded fm) sch tbl a u u2) ≤ 0 ∧
        toQ ((negs tbl)[0]'(List.length_pos_iff.mpr (negs_ne_nil hn))).1 = 0) ∨
      (toQ (acc (negs tbl) ((Ops.rounded fm).ofInt 0) (negs tbl).length) < toQ (posOf (Ops.rounded fm) sch tbl a u u2) ∧
        toQ ((negs tbl)[(negs tbl).length - 1]'(by
          have := List.length_pos_iff.mpr (negs_ne_nil hn); omega)).1 = 0) :=
  sel_zero_rate_iff (negs_ne_nil hn) (negL_nonneg tbl) (posOf (Ops.rounded fm) sch tbl a u u2)

theorem inside_zero_rate_selected_iff {tbl : List (R fm × ι)} {a : Nat} (A : Active tbl a) (hn : HasNeg tbl)
    (u u2 : R fm) :
    toQ ((negs tbl)[selIdx fm .inside tbl a u u2]'(selIdx_lt hn .inside a u u2)).1 = 0 ↔
      (fm.rnd (toQ (posAcc (Ops.rounded fm) (tbl.take a) ((Ops.rounded fm).ofInt 0)) +
          fm.rnd (0 + fm.rnd (fm.rnd (toQ (tbl[a]'A.lt).1 - 0) * toQ u))) ≤ 0 ∧
        toQ ((negs tbl)[0]'(List.length_pos_iff.mpr (negs_ne_nil hn))).1 = 0) ∨
      (toQ (acc (negs tbl) ((Ops.rounded fm).ofInt 0) (negs tbl).length) <
          fm.rnd (toQ (posAcc (Ops.rounded fm) (tbl.take a) ((Ops.rounded fm).ofInt 0)) +
            fm.rnd (0 + fm.rnd (fm.rnd (toQ (tbl[a]'A.lt).1 - 0) * toQ u))) ∧
        toQ ((negs tbl)[(negs tbl).length - 1]'(by
          have := List.length_pos_iff.mpr (negs_ne_nil hn); omega)).1 = 0) := by
  rw [zero_rate_selected_iff' hn, toQ_posOf_inside, toQ_posIn A.lt]

theorem outside_zero_rate_selected_iff {tbl : List (R fm × ι)} {a : Nat} (hn : HasNeg tbl) (u u2 : R fm) :
    toQ ((negs tbl)[selIdx fm .outside tbl a u u2]'(selIdx_lt hn .outside a u u2)).1 = 0 ↔
      (fm.rnd (toQ (sumNeg (Ops.rounded fm) tbl) - toQ (posIn (Ops.rounded fm) tbl a u)) ≤ 0 ∧
        toQ ((negs tbl)[0]'(List.length_pos_iff.mpr (negs_ne_nil hn))).1 = 0) ∨
      (toQ (acc (negs tbl) ((Ops.rounded fm).ofInt 0) (negs tbl).length) <
          fm.rnd (toQ (sumNeg (Ops.rounded fm) tbl) - toQ (posIn (Ops.rounded fm) tbl a u)) ∧
        toQ ((negs tbl)[(negs tbl).length - 1]'(by
          have := List.length_pos_iff.mpr (negs_ne_nil hn); omega)).1 = 0) := by
  rw [zero_rate_selected_iff' hn, toQ_posOf_outside]

theorem ratio_zero_rate_selected_iff {tbl : List (R fm × ι)} {a : Nat} (hn : HasNeg tbl) (u u2 : R fm) :
    toQ ((negs tbl)[selIdx fm .ratio tbl a u u2]'(selIdx_lt hn .ratio a u u2)).1 = 0 ↔
      (fm.rnd (0 + fm.rnd (fm.rnd (toQ (sumNeg (Ops.rounded fm) tbl) - 0) * toQ u2)) ≤ 0 ∧
        toQ ((negs tbl)[0]'(List.length_pos_iff.mpr (negs_ne_nil hn))).1 = 0) ∨
      (toQ (acc (negs tbl) ((Ops.rounded fm).ofInt 0) (negs tbl).length) <
          fm.rnd (0 + fm.rnd (fm.rnd (toQ (sumNeg (Ops.rounded fm) tbl) - 0) * toQ u2)) ∧
        toQ ((negs tbl)[(negs tbl).length - 1]'(by
          have := List.length_pos_iff.mpr (negs_ne_nil hn); omega)).1 = 0) := by
  rw [zero_rate_selected_iff' hn, toQ_posOf_ratio]

/-- inside first, when can (a) happen: the rounded position is `≤ 0` iff no positive rate was accumulated before the
active unit AND the product `lifting_rate * random()` rounds to zero (draw `0.0`, or underflow) -/
theorem posIn_le_zero_iff {tbl : List (R fm × ι)} {a : Nat} (A : Active tbl a) {u : R fm} (hu : 0 ≤ toQ u) :
    toQ (posIn (Ops.rounded fm) tbl a u) ≤ 0 ↔
      toQ (posAcc (Ops.rounded fm) (tbl.take a) ((Ops.rounded fm).ofInt 0)) = 0 ∧
        fm.rnd (0 + fm.rnd (fm.rnd (toQ (tbl[a]'A.lt).1 - 0) * toQ u)) = 0 := by
  rw [toQ_posIn A.lt]
  obtain ⟨hPF, hP0⟩ := posAcc_mem_ge (tbl.take a) ((Ops.rounded fm).ofInt 0) zero_memR
  simp only [rounded_ofInt, Int.cast_zero] at hP0
  set Pt := toQ (posAcc (Ops.rounded fm) (tbl.take a) ((Ops.rounded fm).ofInt 0))
  set m := fm.rnd (0 + fm.rnd (fm.rnd (toQ (tbl[a]'A.lt).1 - 0) * toQ u))
  have hm0 : 0 ≤ m := by
    apply fm.rnd_nonneg
    rw [zero_add]
    exact fm.rnd_nonneg (mul_nonneg (fm.rnd_nonneg (by linarith [A.pos])) hu)
  constructor
  · -- rounding is monotone and fixes the representable `Pt`, `m`, so neither exceeds the rounded sum
    intro h
    have h1 : Pt ≤ fm.rnd (Pt + m) := fm.le_rnd_of_le hPF (le_add_of_nonneg_right hm0)
    have h2 : m ≤ fm.rnd (Pt + m) := fm.le_rnd_of_le (fm.rnd_mem _) (le_add_of_nonneg_left hP0)
    exact ⟨le_antisymm (h1.trans h) hP0, le_antisymm (h2.trans h) hm0⟩
  · rintro ⟨h1, h2⟩
    rw [h1, h2, add_zero, fm.rnd_zero]

theorem posIn_mono {tbl : List (R fm × ι)} {a : Nat} (A : Active tbl a) {u u' : R fm} (h : toQ u ≤ toQ u') :
    toQ (posIn (Ops.rounded fm) tbl a u) ≤ toQ (posIn (Ops.rounded fm) tbl a u') := by
  rw [toQ_posIn A.lt, toQ_posIn A.lt]
  have hq : 0 ≤ fm.rnd (toQ (tbl[a]'A.lt).1 - 0) := fm.rnd_nonneg (by linarith [A.pos])
  apply fm.rnd_mono
  refine add_le_add (le_refl _) ?_
  apply fm.rnd_mono
  refine add_le_add (le_refl _) ?_
  apply fm.rnd_mono
  exact mul_le_mul_of_nonneg_left h hq

theorem inside_selIdx_mono {tbl : List (R fm × ι)} {a : Nat} (A : Active tbl a) {u u' : R fm}
    (h : toQ u ≤ toQ u') (u2 u2' : R fm) :
    selIdx fm .inside tbl a u u2 ≤ selIdx fm .inside tbl a u' u2' :=
  sel_mono (posIn_mono A h) _

theorem outside_selIdx_anti {tbl : List (R fm × ι)} {a : Nat} (A : Active tbl a) {u u' : R fm}
    (h : toQ u ≤ toQ u') (u2 u2' : R fm) :
    selIdx fm .outside tbl a u' u2' ≤ selIdx fm .outside tbl a u u2 := by
  apply sel_mono
  rw [toQ_posOf_outside, toQ_posOf_outside]
  apply fm.rnd_mono
  linarith [posIn_mono A h]

theorem ratio_selIdx_mono {tbl : List (R fm × ι)} (a : Nat) (hS : 0 ≤ toQ (sumNeg (Ops.rounded fm) tbl))
    (u u' : R fm) {u2 u2' : R fm} (h : toQ u2 ≤ toQ u2') :
    selIdx fm .ratio tbl a u u2 ≤ selIdx fm .ratio tbl a u' u2' := by
  apply sel_mono
  rw [toQ_posOf_ratio, toQ_posOf_ratio]
  have hq : 0 ≤ fm.rnd (toQ (sumNeg (Ops.rounded fm) tbl) - 0) := fm.rnd_nonneg (by linarith)
  apply fm.rnd_mono
  refine add_le_add (le_refl _) ?_
  apply fm.rnd_mono
  exact mul_le_mul_of_nonneg_left h hq

/-- Ratio: the selected index is non-decreasing in the scheme's own draw `u2` when the value of
`sum(self._negative_lifting_rates)` is not negative (`ratio_selIdx_mono`), non-increasing when it is not positive.
CPython's compensated `sum` of non-negative floats is never negative in binary64; the `FloatModel` hypotheses alone do
not exclude it for astronomically long tables, so both directions are stated. -/
theorem ratio_selIdx_anti {tbl : List (R fm × ι)} (a : Nat) (hS : toQ (sumNeg (Ops.rounded fm) tbl) ≤ 0)
    (u u' : R fm) {u2 u2' : R fm} (h : toQ u2 ≤ toQ u2') :
    selIdx fm .ratio tbl a u' u2' ≤ selIdx fm .ratio tbl a u u2 := by
  apply sel_mono
  rw [toQ_posOf_ratio, toQ_posOf_ratio]
  have hq : fm.rnd (toQ (sumNeg (Ops.rounded fm) tbl) - 0) ≤ 0 := fm.rnd_nonpos (by linarith)
  apply fm.rnd_mono
  refine add_le_add (le_refl _) ?_
  apply fm.rnd_mono
  exact mul_le_mul_of_nonpos_left h hq

/-- **The draws selecting a unit form an interval**, for every rounding model, in all three schemes (`u` for
inside/outside, `u2` for ratio). -/
theorem inside_sel_interval {tbl : List (R fm × ι)} {a : Nat} (A : Active tbl a) {u v w : R fm} (u2 : R fm)
    (h1 : toQ u ≤ toQ v) (h2 : toQ v ≤ toQ w) {k : Nat}
    (hu : selIdx fm .inside tbl a u u2 = k) (hw : selIdx fm .inside tbl a w u2 = k) :
    selIdx fm .inside tbl a v u2 = k := by
  have := inside_selIdx_mono A h1 u2 u2
  have := inside_selIdx_mono A h2 u2 u2
  omega

theorem outside_sel_interval {tbl : List (R fm × ι)} {a : Nat} (A : Active tbl a) {u v w : R fm} (u2 : R fm)
    (h1 : toQ u ≤ toQ v) (h2 : toQ v ≤ toQ w) {k : Nat}
    (hu : selIdx fm .outside tbl a u u2 = k) (hw : selIdx fm .outside tbl a w u2 = k) :
    selIdx fm .outside tbl a v u2 = k := by
  have := outside_selIdx_anti A h1 u2 u2
  have := outside_selIdx_anti A h2 u2 u2
  omega

theorem ratio_sel_interval (tbl : List (R fm × ι)) (a : Nat) (u : R fm) {u2 v2 w2 : R fm}
    (h1 : toQ u2 ≤ toQ v2) (h2 : toQ v2 ≤ toQ w2) {k : Nat}
    (hu : selIdx fm .ratio tbl a u u2 = k) (hw : selIdx fm .ratio tbl a u w2 = k) :
    selIdx fm .ratio tbl a u v2 = k := by
  rcases le_total 0 (toQ (sumNeg (Ops.rounded fm) tbl)) with hS | hS
  · have := ratio_selIdx_mono a hS u u h1
    have := ratio_selIdx_mono a hS u u h2
    omega
  · have := ratio_selIdx_anti a hS u u h1
    have := ratio_selIdx_anti a hS u u h2
    omega

/-! ### Flow error bound: the rounded selection intervals against the exact ones of `C05.sel_interval` -/

/-- `T`: the exact sum of the magnitudes of all rates of the table -/
def sumAbs (tbl : List (R fm × ι)) : ℚ := posSum (tblQ tbl) + C05.S (tblQ tbl)

/-- error of the rounded `_random_position`: `L + 2` roundings of numbers below `T` and one possibly subnormal
product -/
def errIn (fm : FloatModel) (L : ℕ) (T : ℚ) : ℚ := gam fm (L + 2) * T + (1 + fm.eps) * tau fm

/-- error of the rounded position handed to the loop; `δ` bounds the error of the value of `sum(neg)`
(not read by the inside-first scheme) -/
def errPos (fm : FloatModel) (sch : Scheme) (L : ℕ) (T δ : ℚ) : ℚ :=
  match sch with
  | .inside => errIn fm L T
  | .outside => fm.eps * T + (1 + fm.eps) * (δ + errIn fm L T)
  | .ratio => fm.eps * (T + δ) + tau fm + δ

/-- total error in position (= flow) units: thresholds of the loop + position -/
def errFlow (fm : FloatModel) (sch : Scheme) (L : ℕ) (T δ : ℚ) : ℚ := gam fm L * T + errPos fm sch L T δ

theorem rate_tblQ {tbl : List (R fm × ι)} {a : ℕ} (ha : a < tbl.length) :
    C05.rate (tblQ tbl) a = toQ (tbl[a]).1 := by
  simp [C05.rate, tblQ, List.getD_eq_getElem?_getD, ha]

theorem sumAbs_nonneg (tbl : List (R fm × ι)) : 0 ≤ sumAbs tbl :=
  add_nonneg (posSum_nonneg _) (total_nonneg (negOf_nonneg _))

theorem posOf_err {tbl : List (R fm × ι)} {a : ℕ} (A : Active tbl a) (hF : InF fm tbl) (ht : fm.tiny ≤ fm.huge)
    (sch : Scheme) (u u2 : R fm) (hu : 0 ≤ toQ u ∧ toQ u ≤ 1) (hu2 : 0 ≤ toQ u2 ∧ toQ u2 ≤ 1) {δ : ℚ}
    (hδ : sch ≠ .inside → |toQ (sumNeg (Ops.rounded fm) tbl) - C05.S (tblQ tbl)| ≤ δ) (hδ0 : 0 ≤ δ)
    (hH : (1 + fm.eps) ^ (tbl.length + 2) * sumAbs tbl + (1 + fm.eps) * tau fm + δ ≤ fm.huge) :
    |toQ (posOf (Ops.rounded fm) sch tbl a u u2) - C05.specPos sch (tblQ tbl) a (toQ u) (toQ u2)|
      ≤ errPos fm sch tbl.length (sumAbs tbl) δ := by
  have hT0 := sumAbs_nonneg tbl
  have hS0 : 0 ≤ C05.S (tblQ tbl) := total_nonneg (negOf_nonneg _)
  have hn : a + 2 ≤ tbl.length + 2 := Nat.add_le_add_right A.lt.le 2
  cases sch with
  | inside =>
    simp only [C05.specPos, C05.P, rate_tblQ A.lt, errPos, errIn]
    exact (posIn_err fm ht A.lt hn A.pos hF u hu.1 hu.2 (T := sumAbs tbl) (le_add_of_nonneg_right hS0)
      (by linarith)).1
  | outside =>
    simp only [C05.specPos, C05.P, rate_tblQ A.lt, errPos, errIn]
    exact posOut_err fm ht A.lt hn A.pos hF u u2 hu.1 hu.2 (T := sumAbs tbl) le_rfl (hδ (by simp)) hH
  | ratio =>
    have h1T := le_mul_of_one_le_left hT0 (one_le_pow₀ (one_le_ope fm) (n := tbl.length + 2))
    have htau : 0 ≤ (1 + fm.eps) * tau fm := mul_nonneg (zero_le_one.trans (one_le_ope fm)) (tau_nonneg fm)
    simpa only [C05.specPos, errPos, C05.S] using
      posRatio_err fm ht tbl a u u2 hu2.1 hu2.2 (T := sumAbs tbl) (δ := δ) (le_add_of_nonneg_left (posSum_nonneg _))
        (hδ (by simp)) (by linarith)

/-- **Flow error bound, position form** (no hypothesis on the sum of the table).  Whatever unit `k` the rounded walk
selects, the EXACT position `C05.specPos` of the same draws lies within `errFlow` of the exact window
`(N_k, N_{k+1}]` of `C05.chooseIdx_iff` — below it only if `k = 0`, above it only if `k` is the last unit (the one
the fall-through reads).  `errFlow` depends on the table only. -/
theorem flow_error_position {tbl : List (R fm × ι)} {a : ℕ} (A : Active tbl a) (hn : HasNeg tbl) (hF : InF fm tbl)
    (ht : fm.tiny ≤ fm.huge) (sch : Scheme) (u u2 : R fm) (hu : 0 ≤ toQ u ∧ toQ u ≤ 1)
    (hu2 : 0 ≤ toQ u2 ∧ toQ u2 ≤ 1) {δ : ℚ}
    (hδ : sch ≠ .inside → |toQ (sumNeg (Ops.rounded fm) tbl) - C05.S (tblQ tbl)| ≤ δ) (hδ0 : 0 ≤ δ)
    (hH : (1 + fm.eps) ^ (tbl.length + 2) * sumAbs tbl + (1 + fm.eps) * tau fm + δ ≤ fm.huge) :
    (selIdx fm sch tbl a u u2 = 0 ∨
        C05.N (tblQ tbl) (selIdx fm sch tbl a u u2) - errFlow fm sch tbl.length (sumAbs tbl) δ
          < C05.specPos sch (tblQ tbl) a (toQ u) (toQ u2)) ∧
      (selIdx fm sch tbl a u u2 = (negs tbl).length - 1 ∨
        C05.specPos sch (tblQ tbl) a (toQ u) (toQ u2)
          ≤ C05.N (tblQ tbl) (selIdx fm sch tbl a u u2 + 1) + errFlow fm sch tbl.length (sumAbs tbl) δ) := by
  have hT0 := sumAbs_nonneg tbl
  have hpos := abs_le.mp (posOf_err A hF ht sch u u2 hu hu2 hδ hδ0 hH)
  have hlen : (negs tbl).length ≤ tbl.length := negL_length_le _ tbl
  have hk : sel _ _ _ < _ := selIdx_lt hn sch a u u2
  have hsw := sel_sandwich fm (negs_ne_nil hn) (negL_nonneg tbl) (negL_inF hF) (posOf (Ops.rounded fm) sch tbl a u u2)
    (T := sumAbs tbl) (by rw [negL_toQ]; exact le_add_of_nonneg_left (posSum_nonneg _)) (by
      have h1 := pow_add_le fm (show (negs tbl).length ≤ tbl.length + 2 by omega) hT0
      have : 0 ≤ (1 + fm.eps) * tau fm := mul_nonneg (zero_le_one.trans (one_le_ope fm)) (tau_nonneg fm)
      linarith)
  rw [negL_toQ] at hsw
  have hg : ∀ j ≤ tbl.length, gam fm j * sumAbs tbl ≤ gam fm tbl.length * sumAbs tbl := fun j hj =>
    mul_le_mul_of_nonneg_right (gam_mono fm hj) hT0
  unfold errFlow C05.N selIdx
  refine ⟨hsw.1.imp_right fun h => ?_, hsw.2.imp_right fun h => ?_⟩
  · linarith only [h, hpos.2, hg _ (hk.le.trans hlen)]
  · linarith only [h, hpos.1, hg _ (Nat.succ_le_of_lt hk |>.trans hlen)]

/-- the draw the scheme's choice depends on, and the factor that converts a draw into a position -/
def drawOf (sch : Scheme) (u u2 : ℚ) : ℚ := match sch with | .ratio => u2 | _ => u
def scaleOf (sch : Scheme) (Q : List (ℚ × ι)) (a : ℕ) : ℚ := match sch with | .ratio => C05.S Q | _ => C05.rate Q a

theorem specPos_mem_Icc {Q : List (ℚ × ι)} {a : ℕ} (V : C05.Valid Q a) (sch : Scheme) {u u2 : ℚ}
    (hu : 0 ≤ u ∧ u ≤ 1) (hu2 : 0 ≤ u2 ∧ u2 ≤ 1) :
    0 ≤ C05.specPos sch Q a u u2 ∧ C05.specPos sch Q a u u2 ≤ C05.S Q := by
  have hq := V.pos
  have h0 : 0 ≤ C05.P Q a + C05.rate Q a * u := add_nonneg (C05.P_nonneg Q a) (mul_nonneg hq.le hu.1)
  have h1 : C05.P Q a + C05.rate Q a * u ≤ C05.S Q :=
    (add_le_add le_rfl (mul_le_of_le_one_right hq.le hu.2)).trans (C05.P_add_rate_le_S V)
  have hS := (C05.S_pos V).le
  cases sch
  · exact ⟨h0, h1⟩
  · exact ⟨sub_nonneg.2 h1, sub_le_self _ h0⟩
  · exact ⟨mul_nonneg hS hu2.1, mul_le_of_le_one_right hS hu2.2⟩

theorem errFlow_nonneg (fm : FloatModel) (sch : Scheme) (L : ℕ) {T δ : ℚ} (hT : 0 ≤ T) (hδ : 0 ≤ δ) :
    0 ≤ errFlow fm sch L T δ := by
  have he0 := fm.eps_nonneg
  have h1 : 0 ≤ gam fm L * T := mul_nonneg (gam_nonneg fm _) hT
  have h2 : 0 ≤ errIn fm L T :=
    add_nonneg (mul_nonneg (gam_nonneg fm _) hT) (mul_nonneg (by linarith) (tau_nonneg fm))
  refine add_nonneg h1 ?_
  cases sch
  · exact h2
  · exact add_nonneg (mul_nonneg he0 hT) (mul_nonneg (by linarith) (add_nonneg hδ h2))
  · exact add_nonneg (add_nonneg (mul_nonneg he0 (add_nonneg hT hδ)) (tau_nonneg fm)) hδ

private theorem draw_window {P q c d E u : ℚ} (hq : 0 < q) (hE : 0 ≤ E) (hu0 : 0 ≤ u) (hu1 : u ≤ 1)
    (hc : c - E ≤ P + q * u) (hd : P + q * u ≤ d + E) :
    (max P c - P) / q - E / q ≤ u ∧ u ≤ (min (P + q) d - P) / q + E / q := by
  have h1 := mul_nonneg hq.le hu0
  have h2 := mul_le_of_le_one_right hq.le hu1
  have h3 : max P c ≤ P + q * u + E := max_le (by linarith) (by linarith)
  have h4 : P + q * u - E ≤ min (P + q) d := le_min (by linarith) (by linarith)
  rw [← sub_div, ← add_div, div_le_iff₀ hq, le_div_iff₀ hq]
  constructor <;> linarith

/-- **Flow error bound, draw form.**  For a table whose exact rates sum to zero (`C05.Valid`), every rounding model,
scheme, and draws in the CLOSED unit interval: if the rounded walk selects unit `k`, the draw lies within
`errFlow / scale` of the EXACT interval `[lo, hi]` of `C05.sel_interval` (`scale` = the active rate `q_a` for
inside/outside, `S` for ratio, i.e. the error is `errFlow` in units of probability FLOW `q_a·du`). -/
theorem flow_error_draw {tbl : List (R fm × ι)} {a : ℕ} (A : Active tbl a) (hn : HasNeg tbl) (hF : InF fm tbl)
    (ht : fm.tiny ≤ fm.huge) (V : C05.Valid (tblQ tbl) a) (sch : Scheme) (u u2 : R fm)
    (hu : 0 ≤ toQ u ∧ toQ u ≤ 1) (hu2 : 0 ≤ toQ u2 ∧ toQ u2 ≤ 1) {δ : ℚ}
    (hδ : sch ≠ .inside → |toQ (sumNeg (Ops.rounded fm) tbl) - C05.S (tblQ tbl)| ≤ δ) (hδ0 : 0 ≤ δ)
    (hH : (1 + fm.eps) ^ (tbl.length + 2) * sumAbs tbl + (1 + fm.eps) * tau fm + δ ≤ fm.huge) :
    C05.lo sch (tblQ tbl) a (selIdx fm sch tbl a u u2)
        - errFlow fm sch tbl.length (sumAbs tbl) δ / scaleOf sch (tblQ tbl) a ≤ drawOf sch (toQ u) (toQ u2) ∧
      drawOf sch (toQ u) (toQ u2) ≤ C05.hi sch (tblQ tbl) a (selIdx fm sch tbl a u u2)
        + errFlow fm sch tbl.length (sumAbs tbl) δ / scaleOf sch (tblQ tbl) a := by
  have hq := V.pos
  have hE0 := errFlow_nonneg fm sch tbl.length (sumAbs_nonneg tbl) hδ0
  obtain ⟨hp0, hp1⟩ := specPos_mem_Icc V sch hu hu2
  have hk := selIdx_lt hn sch a u u2
  -- the exact position lies in `[0, S]`, `N_0 = 0` and `N` of the length is `S`: at the first and at the last unit the
  -- bounds of `flow_error_position` hold for free
  obtain ⟨hlo, hhi⟩ := flow_error_position A hn hF ht sch u u2 hu hu2 hδ hδ0 hH
  have hlo : C05.N (tblQ tbl) (selIdx fm sch tbl a u u2) - errFlow fm sch tbl.length (sumAbs tbl) δ
      ≤ C05.specPos sch (tblQ tbl) a (toQ u) (toQ u2) := by
    rcases hlo with h | h
    · rw [h, C05.N_zero]; exact (sub_nonpos.2 hE0).trans hp0
    · exact h.le
  have hhi : C05.specPos sch (tblQ tbl) a (toQ u) (toQ u2)
      ≤ C05.N (tblQ tbl) (selIdx fm sch tbl a u u2 + 1) + errFlow fm sch tbl.length (sumAbs tbl) δ := by
    rcases hhi with h | h
    · have : C05.N (tblQ tbl) (selIdx fm sch tbl a u u2 + 1) = C05.S (tblQ tbl) :=
        cumB_of_length_le _ (by rw [← negL_toQ, tblQ_length]; show (negs tbl).length ≤ _; omega)
      rw [this]; exact hp1.trans (le_add_of_nonneg_right hE0)
    · exact h
  cases sch <;> simp only [C05.specPos] at hlo hhi <;> simp only [C05.lo, C05.hi, C05.window, drawOf, scaleOf]
  · exact draw_window hq hE0 hu.1 hu.2 hlo hhi
  · -- the position `P + q·u` lies in the reflected window
    exact draw_window hq hE0 hu.1 hu.2 (by linarith only [hhi]) (by linarith only [hlo])
  · have hS := C05.S_pos V
    rw [← sub_div, ← add_div, div_le_iff₀ hS, le_div_iff₀ hS, mul_comm]
    exact ⟨hlo, hhi⟩

/-- the exact selection intervals of consecutive units do not overlap (inside, ratio: increasing in `k`;
outside: decreasing) -/
private theorem hi_le_lo (sch : Scheme) (Q : List (ℚ × ι)) (a : ℕ) {j k : ℕ} (h : j < k) (hq : 0 < C05.rate Q a) :
    match sch with
    | .outside => C05.hi .outside Q a k ≤ C05.lo .outside Q a j
    | s => C05.hi s Q a j ≤ C05.lo s Q a k := by
  have hN : C05.N Q (j + 1) ≤ C05.N Q k := C05.N_mono Q h
  -- inside, outside: the window `[·, d]` of the one unit ends where the window `[c, ·]` of the other begins, or before
  have hw : ∀ c d : ℚ, d ≤ c →
      (min (C05.P Q a + C05.rate Q a) d - C05.P Q a) / C05.rate Q a ≤ (max (C05.P Q a) c - C05.P Q a) / C05.rate Q a :=
    fun c d hdc => div_le_div_of_nonneg_right
      (sub_le_sub_right ((min_le_right _ _).trans (hdc.trans (le_max_right _ _))) _) hq.le
  cases sch
  · exact hw _ _ hN
  · exact hw _ _ (sub_le_sub_left hN _)
  · exact div_le_div_of_nonneg_right hN (total_nonneg (negOf_nonneg Q))

/-- **Flow error bound, the other inclusion.**  Every draw of the closed unit interval that lies more than
`errFlow / scale` inside the exact interval `(lo, hi)` of unit `k` makes the rounded walk select `k`.  Together with
`flow_error_draw`: the rounded selection interval contains `(lo + ε, hi − ε)` and is contained in `[lo − ε, hi + ε]`,
`ε = errFlow / scale` — its end points are within `ε` of the exact ones. -/
theorem flow_error_inner {tbl : List (R fm × ι)} {a : ℕ} (A : Active tbl a) (hn : HasNeg tbl) (hF : InF fm tbl)
    (ht : fm.tiny ≤ fm.huge) (V : C05.Valid (tblQ tbl) a) (sch : Scheme) (u u2 : R fm)
    (hu : 0 ≤ toQ u ∧ toQ u ≤ 1) (hu2 : 0 ≤ toQ u2 ∧ toQ u2 ≤ 1) {δ : ℚ}
    (hδ : sch ≠ .inside → |toQ (sumNeg (Ops.rounded fm) tbl) - C05.S (tblQ tbl)| ≤ δ) (hδ0 : 0 ≤ δ)
    (hH : (1 + fm.eps) ^ (tbl.length + 2) * sumAbs tbl + (1 + fm.eps) * tau fm + δ ≤ fm.huge) {k : ℕ}
    (h1 : C05.lo sch (tblQ tbl) a k + errFlow fm sch tbl.length (sumAbs tbl) δ / scaleOf sch (tblQ tbl) a
      < drawOf sch (toQ u) (toQ u2))
    (h2 : drawOf sch (toQ u) (toQ u2)
      < C05.hi sch (tblQ tbl) a k - errFlow fm sch tbl.length (sumAbs tbl) δ / scaleOf sch (tblQ tbl) a) :
    selIdx fm sch tbl a u u2 = k := by
  obtain ⟨g1, g2⟩ := flow_error_draw A hn hF ht V sch u u2 hu hu2 hδ hδ0 hH
  -- the interval of the selected unit cannot lie on either side of that of `k`
  have hA : ¬ C05.hi sch (tblQ tbl) a (selIdx fm sch tbl a u u2) ≤ C05.lo sch (tblQ tbl) a k := fun h =>
    (h1.trans_le g2).not_ge (add_le_add_left h _)
  have hB : ¬ C05.hi sch (tblQ tbl) a k ≤ C05.lo sch (tblQ tbl) a (selIdx fm sch tbl a u u2) := fun h =>
    (g1.trans_lt h2).not_ge (sub_le_sub_right h _)
  rcases lt_trichotomy (selIdx fm sch tbl a u u2) k with h | h | h
  · cases sch
    exacts [absurd (hi_le_lo .inside _ a h V.pos) hA, absurd (hi_le_lo .outside _ a h V.pos) hB,
      absurd (hi_le_lo .ratio _ a h V.pos) hA]
  · exact h
  · cases sch
    exacts [absurd (hi_le_lo .inside _ a h V.pos) hB, absurd (hi_le_lo .outside _ a h V.pos) hA,
      absurd (hi_le_lo .ratio _ a h V.pos) hB]

/-- For `(L + 2)·eps ≤ 1` (binary64: tables of up to `9·10^15` entries) the inside-first error is linear in the number
of entries `L` and in the sum `T` of the |rates|: at most `(4L + 8)·eps·T + 2·tau`. -/
theorem errFlow_inside_le (fm : FloatModel) (L : ℕ) {T : ℚ} (hT : 0 ≤ T) (δ : ℚ)
    (hL : ((L + 2 : ℕ) : ℚ) * fm.eps ≤ 1) :
    errFlow fm .inside L T δ ≤ (4 * L + 8) * fm.eps * T + 2 * tau fm := by
  have h2 := gam_le_linear fm (L + 2) hL
  have h1 : gam fm L ≤ gam fm (L + 2) := gam_mono fm (by omega)
  have htau := tau_nonneg fm
  have he := fm.eps_le_half
  have e1 : gam fm L * T ≤ 2 * ((L + 2 : ℕ) : ℚ) * fm.eps * T := mul_le_mul_of_nonneg_right (by linarith) hT
  have e2 : gam fm (L + 2) * T ≤ 2 * ((L + 2 : ℕ) : ℚ) * fm.eps * T := mul_le_mul_of_nonneg_right h2 hT
  have e3 : (1 + fm.eps) * tau fm ≤ 2 * tau fm := mul_le_mul_of_nonneg_right (by linarith) htau
  unfold errFlow errPos errIn
  simp only
  push_cast at e1 e2
  linarith

/-- the range hypothesis of the flow error theorems from two plain ones: a table of at most `1/eps − 2` entries whose
magnitudes sum to less than a third of `huge` -/
theorem range_of_small (fm : FloatModel) (L : ℕ) {T δ : ℚ} (hT : 0 ≤ T) (hL : ((L + 2 : ℕ) : ℚ) * fm.eps ≤ 1)
    (h : 3 * T + 2 * tau fm + δ ≤ fm.huge) :
    (1 + fm.eps) ^ (L + 2) * T + (1 + fm.eps) * tau fm + δ ≤ fm.huge := by
  have h1 := gam_le_linear fm (L + 2) hL
  have h2 : (1 + fm.eps) ^ (L + 2) ≤ 3 := by rw [← one_add_gam]; linarith
  have h3 : (1 + fm.eps) ^ (L + 2) * T ≤ 3 * T := mul_le_mul_of_nonneg_right h2 hT
  have h4 : (1 + fm.eps) * tau fm ≤ 2 * tau fm :=
    mul_le_mul_of_nonneg_right (by linarith [fm.eps_le_half]) (tau_nonneg fm)
  linarith

abbrev b64 : FloatModel := FloatModel.binary64

theorem binary64_huge : b64.huge = 2 ^ 1023 := rfl

theorem binary64_tiny_le_one : b64.tiny ≤ 1 := by
  rw [binary64_tiny]
  exact zpow_le_one_of_nonpos₀ one_le_two (by norm_num)

theorem binary64_tiny_le_huge : b64.tiny ≤ b64.huge :=
  binary64_tiny_le_one.trans (by rw [binary64_huge]; exact one_le_pow₀ one_le_two)

theorem binary64_tau : tau b64 = (1 + 1 / 2 ^ 53) * 2 ^ (-1022 : ℤ) := by
  unfold tau
  rw [binary64_eps, binary64_tiny, max_eq_left (by positivity)]

theorem binary64_tau_le : tau b64 ≤ 2 := by
  rw [binary64_tau, ← binary64_tiny]
  exact (mul_le_mul (by norm_num) binary64_tiny_le_one (by rw [binary64_tiny]; positivity) zero_le_two).trans_eq
    (mul_one 2)

/-- Safety and the characterisation hold in particular for binary64 (they hold for every `FloatModel`). -/
theorem choose_safe_binary64 {tbl : List (R b64 × ι)} {a : Nat} (A : Active tbl a) (hn : HasNeg tbl) (sch : Scheme)
    (u u2 : R b64) :
    ∃ r i, (r, i) ∈ tbl ∧ toQ r ≤ 0 ∧ choose (Ops.rounded b64) sch tbl a u u2 = .ok i :=
  choose_safe A hn sch u u2

theorem zero_rate_selected_iff_binary64 {tbl : List (R b64 × ι)} {a : Nat} (hn : HasNeg tbl) (sch : Scheme)
    (u u2 : R b64) :
    toQ ((negs tbl)[selIdx b64 sch tbl a u u2]'(selIdx_lt hn sch a u u2)).1 = 0 ↔
      condA (Ops.rounded b64) sch tbl a u u2 = true ∨ condB (Ops.rounded b64) sch tbl a u u2 = true :=
  zero_rate_selected_iff hn sch u u2

/-- **binary64, inside first**: for a table of doubles with `L ≤ 2^53 − 2` entries whose exact values sum to zero and
whose magnitudes sum to `T` (`3T + 4 ≤ 2^1023`), whenever the rounded walk selects unit `k` the draw `u ∈ [0, 1]` is
within `((4L + 8)·2^-53·T + 2·tau) / q_a` of the exact interval `[lo, hi]`, `tau = (1 + 2^-53)·2^-1022`. -/
theorem flow_error_inside_binary64 {tbl : List (R b64 × ι)} {a : ℕ} (A : Active tbl a) (hn : HasNeg tbl)
    (hF : InF b64 tbl) (V : C05.Valid (tblQ tbl) a) (u u2 : R b64) (hu : 0 ≤ toQ u ∧ toQ u ≤ 1)
    (hL : tbl.length + 2 ≤ 2 ^ 53) (hT : 3 * sumAbs tbl + 4 ≤ 2 ^ 1023) :
    C05.lo .inside (tblQ tbl) a (selIdx b64 .inside tbl a u u2)
        - ((4 * tbl.length + 8) / 2 ^ 53 * sumAbs tbl + 2 * tau b64) / C05.rate (tblQ tbl) a ≤ toQ u ∧
      toQ u ≤ C05.hi .inside (tblQ tbl) a (selIdx b64 .inside tbl a u u2)
        + ((4 * tbl.length + 8) / 2 ^ 53 * sumAbs tbl + 2 * tau b64) / C05.rate (tblQ tbl) a := by
  have hT0 := sumAbs_nonneg tbl
  have hLq : ((tbl.length + 2 : ℕ) : ℚ) * b64.eps ≤ 1 := by
    rw [binary64_eps, mul_one_div, div_le_one (by positivity)]
    exact_mod_cast hL
  rw [← binary64_huge] at hT
  have hH := range_of_small b64 tbl.length (δ := 0) hT0 hLq (by linarith [binary64_tau_le])
  -- the draw `u2` is not read by the inside-first scheme: `u` stands in for it
  have h := flow_error_draw A hn hF binary64_tiny_le_huge V .inside u u hu hu (δ := 0) (by simp) le_rfl hH
  have hE := errFlow_inside_le b64 tbl.length hT0 0 hLq
  rw [binary64_eps] at hE
  have hdiv : errFlow b64 .inside tbl.length (sumAbs tbl) 0 / C05.rate (tblQ tbl) a ≤
      ((4 * tbl.length + 8) / 2 ^ 53 * sumAbs tbl + 2 * tau b64) / C05.rate (tblQ tbl) a :=
    div_le_div_of_nonneg_right (hE.trans_eq (by ring)) V.pos.le
  exact ⟨(sub_le_sub le_rfl hdiv).trans h.1, h.2.trans (add_le_add le_rfl hdiv)⟩

/-! #### the six known findings (`known_findings/C05.json`, `C05.binary64_*`): each is condition (a) or (b)

`condA`/`condB` are definitions over an arbitrary scalar type; `zero_rate_selected_iff` is about their reading over
`R fm`; here the SAME definitions are evaluated by the kernel in native binary64 (`Ops.float`, the reading the driver
runs against the real classes) on the witnesses of the six findings.  That native binary64 is the `FloatModel`
`binary64` is not a theorem of Lean — `Float` is opaque — but the content of the differential test run by `./check C14`
(see `JF/Lemmas/RoundedBinary.lean`); `outside_fall_through_R_binary64` evaluates one witness in `R binary64` itself. -/

open C05 in
/-- `inside:position<=0:zero-derivative-first-entry-selected` is condition (a) -/
theorem binary64_inside_zero_draw_is_a :
    (condA Ops.float .inside [(fb 4607182418800017408, 10), (fb 0, 11), (fb 13830554455654793216, 12)]
        0 (fb 0) (fb 4602678819172646912) &&
      !condB Ops.float .inside [(fb 4607182418800017408, 10), (fb 0, 11), (fb 13830554455654793216, 12)]
        0 (fb 0) (fb 4602678819172646912)) = true := by
  decide +kernel

open C05 in
/-- `ratio:position<=0:zero-derivative-first-entry-selected` is condition (a) -/
theorem binary64_ratio_zero_draw_is_a :
    (condA Ops.float .ratio [(fb 4607182418800017408, 10), (fb 0, 11), (fb 13830554455654793216, 12)]
        0 (fb 4599075939470750515) (fb 0) &&
      !condB Ops.float .ratio [(fb 4607182418800017408, 10), (fb 0, 11), (fb 13830554455654793216, 12)]
        0 (fb 4599075939470750515) (fb 0)) = true := by
  decide +kernel

open C05 in
/-- `outside:position<=0:zero-derivative-first-entry-selected` (draw absorbed by rounding) is condition (a) -/
theorem binary64_outside_absorbed_draw_is_a :
    (condA Ops.float .outside
        [(fb 4607182418800017408, 10), (fb 4336966441157787648, 11), (fb 0, 12), (fb 13830554455654793216, 13),
         (fb 13560338478012563456, 14)]
        1 (fb 4602678819172646912) (fb 4602678819172646912) &&
      !condB Ops.float .outside
        [(fb 4607182418800017408, 10), (fb 4336966441157787648, 11), (fb 0, 12), (fb 13830554455654793216, 13),
         (fb 13560338478012563456, 14)]
        1 (fb 4602678819172646912) (fb 4602678819172646912)) = true := by
  decide +kernel

open C05 in
/-- `inside:fall-through:zero-derivative-last-entry-selected` is condition (b) -/
theorem binary64_inside_fall_through_is_b :
    (condB Ops.float .inside
        [(fb 4607182418800017408, 10), (fb 4370743438363066368, 11), (fb 13830554455654793216, 12),
         (fb 13589611875590471680, 13), (fb 13589611875590471680, 14), (fb 0, 15)]
        1 (fb 4606281698874543309) (fb 4602678819172646912) &&
      !condA Ops.float .inside
        [(fb 4607182418800017408, 10), (fb 4370743438363066368, 11), (fb 13830554455654793216, 12),
         (fb 13589611875590471680, 13), (fb 13589611875590471680, 14), (fb 0, 15)]
        1 (fb 4606281698874543309) (fb 4602678819172646912)) = true := by
  decide +kernel

open C05 in
/-- `outside:fall-through:zero-derivative-last-entry-selected` is condition (b) -/
theorem binary64_outside_fall_through_is_b :
    (condB Ops.float .outside
        [(fb 4607182418800017408, 10), (fb 4370743438363066368, 11), (fb 13830554455654793216, 12),
         (fb 13589611875590471680, 13), (fb 13589611875590471680, 14), (fb 0, 15)]
        0 (fb 0) (fb 4602678819172646912) &&
      !condA Ops.float .outside
        [(fb 4607182418800017408, 10), (fb 4370743438363066368, 11), (fb 13830554455654793216, 12),
         (fb 13589611875590471680, 13), (fb 13589611875590471680, 14), (fb 0, 15)]
        0 (fb 0) (fb 4602678819172646912)) = true := by
  decide +kernel

open C05 in
/-- `ratio:fall-through:zero-derivative-last-entry-selected` is condition (b) -/
theorem binary64_ratio_fall_through_is_b :
    (condB Ops.float .ratio
        [(fb 4607182418800017408, 10), (fb 4366239838735695872, 11), (fb 4366239838735695872, 12),
         (fb 4366239838735695872, 13), (fb 4366239838735695872, 14), (fb 13830554455654793216, 15),
         (fb 13589611875590471680, 16), (fb 13589611875590471680, 17), (fb 13589611875590471680, 18),
         (fb 13589611875590471680, 19), (fb 0, 20)]
        0 (fb 4602678819172646912) (fb 4607182418800017407) &&
      !condA Ops.float .ratio
        [(fb 4607182418800017408, 10), (fb 4366239838735695872, 11), (fb 4366239838735695872, 12),
         (fb 4366239838735695872, 13), (fb 4366239838735695872, 14), (fb 13830554455654793216, 15),
         (fb 13589611875590471680, 16), (fb 13589611875590471680, 17), (fb 13589611875590471680, 18),
         (fb 13589611875590471680, 19), (fb 0, 20)]
        0 (fb 4602678819172646912) (fb 4607182418800017407)) = true := by
  decide +kernel

/-- the witness of `outside:fall-through:zero-derivative-last-entry-selected`, as exact rationals:
`[1, 3·2^-54, −1, −3·2^-55, −3·2^-55, 0]` (`x55 = 3·2^-55`) -/
def tb5 : List (R b64 × Nat) :=
  [(ofQ 1, 10), (ofQ (x55 + x55), 11), (ofQ (-1), 12), (ofQ (-x55), 13), (ofQ (-x55), 14), (ofQ 0, 15)]

theorem tb5_active : Active tb5 0 := ⟨by simp [tb5], by simp [tb5]⟩
theorem tb5_hasNeg : HasNeg tb5 := ⟨(ofQ 0, 15), by simp [tb5], by simp⟩
theorem tb5_inF : InF b64 tb5 := by
  intro e he
  simp only [tb5, List.mem_cons, List.not_mem_nil, or_false] at he
  rcases he with rfl | rfl | rfl | rfl | rfl | rfl
  · simpa using b64.one_mem
  · simpa using x55x_mem
  · simpa using b64.neg_mem b64.one_mem
  · simpa using b64.neg_mem x55_mem
  · simpa using b64.neg_mem x55_mem
  · simpa using b64.zero_mem
/-- the table sums to zero EXACTLY -/
theorem tb5_valid : C05.Valid (tblQ tb5) 0 := ⟨by decide +kernel, by decide +kernel⟩

/-- in `R binary64` itself (the proved `FloatModel`, not native `Float`): the witness of the outside-first
fall-through finding satisfies condition (b) and not (a) — on a table of doubles that sums to zero exactly
(`tb5_inF`, `tb5_valid`), draw `u = 0.0`.  The loop's naive running sum absorbs both sub-ulp entries and ends at `1`;
the compensated `sum()` keeps them and rounds up to `1 + 2^-52`, which is the position. -/
theorem outside_fall_through_R_binary64 :
    condB (Ops.rounded b64) .outside tb5 0 (ofQ 0) (ofQ 0) = true ∧
      condA (Ops.rounded b64) .outside tb5 0 (ofQ 0) (ofQ 0) = false := by
  decide +kernel

/-- … so the move returns the identifier `15` of the zero-derivative entry, in `R binary64` -/
theorem outside_fall_through_R_binary64_selected :
    ∃ r i, (r, i) ∈ tb5 ∧ toQ r = 0 ∧ choose (Ops.rounded b64) .outside tb5 0 (ofQ 0) (ofQ 0) = .ok i :=
  choose_zero_of_cond tb5_active tb5_hasNeg .outside _ _ (Or.inr outside_fall_through_R_binary64.1)

section nonvacuity

/-- derivatives `[1, 0, −1]`, identifiers `10, 11, 12` (the table of the first two findings), in EVERY rounding model -/
def tb3 (fm : FloatModel) : List (R fm × Nat) := [(ofQ 1, 10), (ofQ 0, 11), (ofQ (-1), 12)]

theorem tb3_active : Active (tb3 fm) 0 := ⟨by simp [tb3], by simp [tb3]⟩
theorem tb3_hasNeg : HasNeg (tb3 fm) := ⟨(ofQ 0, 11), by simp [tb3], by simp⟩

theorem tb3_negs : negs (tb3 fm) = [(-ofQ 0, 11), (-ofQ (-1), 12)] := by
  simp [negs, tb3, negL]

theorem tb3_posIn (u : R fm) : toQ (posIn (Ops.rounded fm) (tb3 fm) 0 u) = fm.rnd (toQ u) := by
  rw [toQ_posIn tb3_active.lt]
  have h1 : fm.rnd 1 = 1 := fm.rnd_id _ fm.one_mem
  simp [tb3, posAcc, h1, fm.rnd_id _ (fm.rnd_mem _)]

theorem tb3_sumNeg : toQ (sumNeg (Ops.rounded fm) (tb3 fm)) = 1 := by
  have h1 : fm.rnd 1 = 1 := fm.rnd_id _ fm.one_mem
  have e : negL (Ops.rounded fm) (tb3 fm) = [(-ofQ 0, 11), (-ofQ (-1), 12)] := tb3_negs
  norm_num [sumNeg, e, pySum, neumaier, absC, h1, apply_ite toQ]

theorem tb3_lastAcc : toQ (acc (negs (tb3 fm)) ((Ops.rounded fm).ofInt 0) (negs (tb3 fm)).length) = 1 := by
  have h1 : fm.rnd 1 = 1 := fm.rnd_id _ fm.one_mem
  simp [tb3_negs, h1]

/-- condition (a) is met in every rounding model: the first finding (inside, `u = 0`) … -/
example : condA (Ops.rounded fm) .inside (tb3 fm) 0 (ofQ 0) (ofQ 0) = true := by
  rw [condA_iff, toQ_posOf_inside, tb3_posIn]
  simp [tb3_negs]

/-- … and the second (ratio, `u2 = 0`) -/
example (u : R fm) : condA (Ops.rounded fm) .ratio (tb3 fm) 0 u (ofQ 0) = true := by
  rw [condA_iff, toQ_posOf_ratio]
  simp [tb3_negs]

/-- condition (b) is met in binary64: `outside_fall_through_R_binary64`.  Neither is met at the draw `u = 1`
(hypotheses of `choose_negative_of_not_cond`) -/
example : condA (Ops.rounded fm) .inside (tb3 fm) 0 (ofQ 1) (ofQ 0) = false ∧
    condB (Ops.rounded fm) .inside (tb3 fm) 0 (ofQ 1) (ofQ 0) = false := by
  have h1 : fm.rnd 1 = 1 := fm.rnd_id _ fm.one_mem
  constructor
  · rw [Bool.eq_false_iff, Ne, condA_iff, toQ_posOf_inside, tb3_posIn]
    simp [h1]
  · rw [Bool.eq_false_iff, Ne, condB_iff, toQ_posOf_inside, tb3_posIn, tb3_lastAcc]
    simp [h1]

/-- `choose_index_error_iff`: a positive active entry in a table without non-positive entries -/
example : Active ([(ofQ 1, 10), (ofQ 2, 11)] : List (R fm × Nat)) 0 ∧
    ¬ HasNeg ([(ofQ 1, 10), (ofQ 2, 11)] : List (R fm × Nat)) := by
  refine ⟨⟨by simp, by simp⟩, ?_⟩
  rintro ⟨e, he, h⟩
  simp only [List.mem_cons, List.not_mem_nil, or_false] at he
  rcases he with rfl | rfl <;> simp at h <;> linarith

/-- `choose_assertion`: entry 1 of `tb3` is not positive; `choose_notRecorded`: index 3 is beyond the table -/
example : (1 : Nat) < (tb3 fm).length ∧ toQ ((tb3 fm)[1]'(by simp [tb3])).1 ≤ 0 ∧ (tb3 fm).length ≤ 3 := by
  simp [tb3]

/-- `ratio_selIdx_mono`: the value of the rounded compensated sum is not negative -/
example : 0 ≤ toQ (sumNeg (Ops.rounded fm) (tb3 fm)) := by rw [tb3_sumNeg]; norm_num

/-- `InF`: the rates of `tb3` are representable in every rounding model -/
theorem tb3_inF : InF fm (tb3 fm) := by
  intro e he
  simp only [tb3, List.mem_cons, List.not_mem_nil, or_false] at he
  rcases he with rfl | rfl | rfl
  · simpa using fm.one_mem
  · simpa using fm.zero_mem
  · simpa using fm.neg_mem fm.one_mem

/-- `C05.Valid`: the exact rates sum to zero, the active one is positive -/
theorem tb3_valid : C05.Valid (tblQ (tb3 fm)) 0 :=
  ⟨by norm_num [tblQ, tb3, total], by norm_num [tblQ, tb3, C05.rate]⟩

theorem tb3_S : C05.S (tblQ (tb3 fm)) = 1 := by norm_num [C05.S, tblQ, tb3, negOf, total]
theorem tb3_sumAbs : sumAbs (tb3 fm) = 2 := by
  unfold sumAbs; rw [tb3_S]; norm_num [tblQ, tb3, posSum]

/-- the range hypothesis of the flow error theorems, in binary64 -/
theorem tb3_range : (1 + b64.eps) ^ ((tb3 b64).length + 2) * sumAbs (tb3 b64) + (1 + b64.eps) * tau b64 + 0
    ≤ b64.huge := by
  apply range_of_small b64 _ (by rw [tb3_sumAbs]; norm_num)
  · rw [binary64_eps]; norm_num [tb3]
  · rw [tb3_sumAbs]
    have := binary64_tau_le
    have h4 : (2:ℚ) ^ 4 ≤ b64.huge := by
      rw [binary64_huge]; exact pow_le_pow_right₀ (by norm_num) (by norm_num)
    norm_num at h4
    linarith

/-- all hypotheses of `flow_error_draw` (and of `flow_error_position`, `flow_error_inner`, which share them) hold for
`tb3` in binary64, all three schemes, `δ = 0` (the rounded `sum()` of `[0, 1]` is exact) -/
example (sch : Scheme) (u u2 : R b64) (hu : 0 ≤ toQ u ∧ toQ u ≤ 1) (hu2 : 0 ≤ toQ u2 ∧ toQ u2 ≤ 1) :
    C05.lo sch (tblQ (tb3 b64)) 0 (selIdx b64 sch (tb3 b64) 0 u u2)
        - errFlow b64 sch (tb3 b64).length (sumAbs (tb3 b64)) 0 / scaleOf sch (tblQ (tb3 b64)) 0
          ≤ drawOf sch (toQ u) (toQ u2) ∧
      drawOf sch (toQ u) (toQ u2) ≤ C05.hi sch (tblQ (tb3 b64)) 0 (selIdx b64 sch (tb3 b64) 0 u u2)
        + errFlow b64 sch (tb3 b64).length (sumAbs (tb3 b64)) 0 / scaleOf sch (tblQ (tb3 b64)) 0 :=
  flow_error_draw tb3_active tb3_hasNeg tb3_inF binary64_tiny_le_huge tb3_valid sch u u2 hu hu2
    (fun _ => by rw [tb3_sumNeg, tb3_S]; simp) (le_refl _) tb3_range

/-- `flow_error_inside_binary64`: `tb3` has 3 ≤ 2^53 − 2 entries and `3·2 + 4 ≤ 2^1023` -/
example : (tb3 b64).length + 2 ≤ 2 ^ 53 ∧ 3 * sumAbs (tb3 b64) + 4 ≤ 2 ^ 1023 := by
  decide +kernel

/-- for the genuinely rounding witness `tb5` (the loop absorbs the sub-ulp entries) the hypothesis on the value of
`sum(neg)` holds with `δ = 2^-52` -/
example : |toQ (sumNeg (Ops.rounded b64) tb5) - C05.S (tblQ tb5)| ≤ e52 := by
  decide +kernel

end nonvacuity

end JF.C05F
