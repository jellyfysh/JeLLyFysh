import JF.Lemmas.MediatorInv
import JF.Props.C06
import JF.Props.C08
/-!
# The single-process mediator loop as one composed machine (links C06 × C08 × C09)

Model: `JF/Model/Mediator.lean` — `JF.Med.leg` is one pass through the body of `SingleProcessMediator.run`
(`get_event_handlers_to_run` → one `push_event` per handler handed out → `get_succeeding_event` → commit →
`get_trashable_events` → one `trash_event` per listed handler → mediating method), composed from the activator model
(`JF.Act.getToRun` / `getTrashable`) and a scheduler behind the interface `JF.Med.SchedI` with three instances: the
spec-level scheduler `specI`, the model of `ListScheduler` `listI` and the model of `HeapScheduler` + `heap.c` `heapI`.

Every theorem is about ALL legs of ALL runs: for every configuration `M` with `Static M` (duplicate-free create lists
in range, duplicate-free disjoint handler pools), every list of oracle values (yields of all taggers, candidate time of every
handler handed out — any value, infinite included), and every scheduler instance satisfying `JF.Med.Laws`
(`specLaws`, `listLaws`, `heapLaws` in `JF/Lemmas/MediatorLaws.lean`; the last two from C06's refinement lemmas).

Proved: after every leg the scheduler holds exactly the pending events of the running handlers that it keeps — all for the
list, the finite ones for the heap and the spec-level scheduler (`sched_mirrors_running`); the committed handler is a running one
with a minimal pending time (`committed_is_running`); C08's second sentence end to end (`no_stale_event_committed`); if no
candidate time is before the time of the leg that computed it, commit times never decrease and the scheduler's monotonicity
assertion never fires (`commit_times_sorted`, `guard_never_fires`); without time ties among the kept pending events the list /
heap loops make exactly the commits of the spec-level loop (`list_refines_spec`, `heap_refines_spec`; with ties each still
commits *a* minimal pending event).
-/
namespace JF.MediatorLoop
open JF JF.Act JF.Heap JF.Sched JF.Med

variable {κ : Type}

/-- a run: any sequence of successful legs (a superset of the runs of `runLegs`, which stop at the end-of-run commit) -/
inductive Run (M : MWire) (I : SchedI κ) : MedState I.σ → List (Oracle κ) → List (Committed κ) → MedState I.σ → Prop
  | nil (st : MedState I.σ) : Run M I st [] [] st
  | cons {st st1 st' : MedState I.σ} {o : Oracle κ} {os : List (Oracle κ)} {c : Committed κ} {cs : List (Committed κ)}
      (hleg : leg M I st o = .ok (st1, c)) (hrun : Run M I st1 os cs st') : Run M I st (o :: os) (c :: cs) st'

/-- the ghost dictionary / the last commit time after the legs `cs` -/
def pendOf (p : Pend κ) (cs : List (Committed κ)) : Pend κ := cs.foldl pendAfter p
def lastOf (l : κ) (cs : List (Committed κ)) : κ := cs.foldl (fun _ c => c.time) l

/-- `P` holds for every leg of `cs`, with the ghost dictionary and last commit time of its moment -/
def Legs (P : Pend κ → κ → Committed κ → Prop) : Pend κ → κ → List (Committed κ) → Prop
  | _, _, [] => True
  | p, l, c :: cs => P p l c ∧ Legs P (pendAfter p c) c.time cs

theorem Legs.mono {P Q : Pend κ → κ → Committed κ → Prop} (h : ∀ p l c, P p l c → Q p l c) :
    ∀ (cs : List (Committed κ)) (p : Pend κ) (l : κ), Legs P p l cs → Legs Q p l cs
  | [], _, _, _ => trivial
  | _ :: cs, _, _, legs => ⟨h _ _ _ legs.1, Legs.mono h cs _ _ legs.2⟩

theorem Legs.append {P : Pend κ → κ → Committed κ → Prop} : ∀ (cs cs' : List (Committed κ)) (p : Pend κ) (l : κ),
    Legs P p l (cs ++ cs') ↔ Legs P p l cs ∧ Legs P (pendOf p cs) (lastOf l cs) cs'
  | [], _, _, _ => ⟨fun h => ⟨trivial, h⟩, fun h => h.2⟩
  | c :: cs, cs', p, l => by
    show P p l c ∧ Legs P _ _ (cs ++ cs') ↔ (P p l c ∧ Legs P _ _ cs) ∧ _
    rw [Legs.append cs cs', and_assoc]; rfl

/-- leg `k` of `cs`, with the ghost dictionary and last commit time of its moment, and the legs after it -/
theorem Legs.at {P : Pend κ → κ → Committed κ → Prop} {cs : List (Committed κ)} {p : Pend κ} {l : κ} (legs : Legs P p l cs)
    {k : Nat} {c : Committed κ} (hk : cs[k]? = some c) :
    P (pendOf p (cs.take k)) (lastOf l (cs.take k)) c ∧
      Legs P (pendAfter (pendOf p (cs.take k)) c) c.time (cs.drop (k + 1)) := by
  obtain ⟨hlt, rfl⟩ := List.getElem?_eq_some_iff.mp hk
  have e : cs = cs.take k ++ cs[k] :: cs.drop (k + 1) := by rw [← List.drop_eq_getElem_cons hlt, List.take_append_drop]
  exact ((Legs.append _ _ p l).mp (e ▸ legs)).2

/-- also when `runLegs` ends with an exception, the commits it made are a `Run` on the oracle values it consumed -/
theorem runLegs_isRun (M : MWire) (I : SchedI κ) : ∀ (os : List (Oracle κ)) (st : MedState I.σ),
    ∃ st', Run M I st (os.take (runLegs M I st os).1.length) (runLegs M I st os).1 st' ∧
      ∀ s, (runLegs M I st os).2 = some s → s = st' := by
  intro os
  induction os with
  | nil => intro st; exact ⟨st, .nil _, fun s e => (Option.some.inj e).symm⟩
  | cons o os ih =>
    intro st
    unfold runLegs
    split
    · exact ⟨st, .nil _, fun s e => by cases e⟩
    · next st1 c hleg =>
      split
      · exact ⟨st1, .cons hleg (.nil _), fun s e => (Option.some.inj e).symm⟩
      · obtain ⟨st', hr, hs⟩ := ih st1
        exact ⟨st', .cons hleg hr, hs⟩

theorem runLegs_run (M : MWire) (I : SchedI κ) (os : List (Oracle κ)) (st st' : MedState I.σ) (cs : List (Committed κ))
    (e : runLegs M I st os = (cs, some st')) : Run M I st (os.take cs.length) cs st' := by
  obtain ⟨s, hr, hs⟩ := runLegs_isRun M I os st
  rw [e] at hr hs
  cases hs st' rfl
  exact hr

/-! ### `Run`, `runLegs`, `pendOf`, `lastOf`, `Legs`, `NoTies` at the end of a run (the composed systems add their legs there) -/

section api
variable {M : MWire} {I : SchedI κ}

theorem Run.append {st st1 st2 : MedState I.σ} {os os' : List (Oracle κ)} {cs cs' : List (Committed κ)}
    (h1 : Run M I st os cs st1) (h2 : Run M I st1 os' cs' st2) : Run M I st (os ++ os') (cs ++ cs') st2 := by
  induction h1 with
  | nil st => exact h2
  | cons hl _ ih => exact .cons hl (ih h2)

theorem run_snoc {st st1 st2 : MedState I.σ} {os : List (Oracle κ)} {cs : List (Committed κ)} {o : Oracle κ} {c : Committed κ}
    (hr : Run M I st os cs st1) (hl : leg M I st1 o = .ok (st2, c)) : Run M I st (os ++ [o]) (cs ++ [c]) st2 :=
  hr.append (.cons hl (.nil _))

theorem runLegs_nil' (M : MWire) (I : SchedI κ) (st : MedState I.σ) : runLegs M I st [] = ([], some st) := by
  rw [runLegs]

theorem runLegs_cons' (M : MWire) (I : SchedI κ) (st : MedState I.σ) (o : Oracle κ) (os : List (Oracle κ)) :
    runLegs M I st (o :: os) =
      match leg M I st o with
      | .error _ => ([], none)
      | .ok (st', c) => if c.stop then ([c], some st') else (c :: (runLegs M I st' os).1, (runLegs M I st' os).2) := by
  rw [runLegs]
  rfl

/-- the converse of `runLegs_run` for a run that does not commit the end of run -/
theorem runLegs_of_run {st st' : MedState I.σ} {os : List (Oracle κ)} {cs : List (Committed κ)} (hrun : Run M I st os cs st')
    (hns : ∀ c ∈ cs, c.stop = false) : runLegs M I st os = (cs, some st') := by
  induction hrun with
  | nil st => exact runLegs_nil' M I st
  | @cons st st1 st' o os c cs hleg _ ih =>
    rw [runLegs_cons', hleg]
    simp only
    rw [if_neg (by rw [hns c (by simp)]; simp), ih (fun x hx => hns x (by simp [hx]))]

theorem pendOf_snoc (p : Pend κ) (cs : List (Committed κ)) (c : Committed κ) :
    pendOf p (cs ++ [c]) = pendAfter (pendOf p cs) c := by
  simp [pendOf, List.foldl_append]

theorem lastOf_snoc (l : κ) (cs : List (Committed κ)) (c : Committed κ) : lastOf l (cs ++ [c]) = c.time := by
  simp [lastOf, List.foldl_append]

end api

section generic
variable {cfg : Cfg κ} {I : SchedI κ} {vis : κ → Bool} {R : I.σ → Pend κ → κ → Prop} {M : MWire}

theorem run_inv (L : Laws cfg I vis R) (hs : Static M) {st st' : MedState I.σ} {os : List (Oracle κ)}
    {cs : List (Committed κ)} (hrun : Run M I st os cs st') : ∀ {p : Pend κ} {l : κ}, MInv M R st p l →
    MInv M R st' (pendOf p cs) (lastOf l cs) ∧ Legs (LegOK cfg vis) p l cs := by
  induction hrun with
  | nil st => intro p l inv; exact ⟨inv, trivial⟩
  | cons hleg _ ih =>
    intro p l inv
    obtain ⟨_, f⟩ := leg_facts L hs inv hleg
    obtain ⟨inv', legs⟩ := ih f.minv
    exact ⟨inv', f.ok, legs⟩

/-- after every leg of every run from the initial state, (1) the scheduler state is related by `R` to the ghost dictionary of
the pending candidate times (what `R` says per instance: `spec_…`, `list_…`, `heap_sched_mirrors_running`), and (2) a handler
has a pending event iff it is a running handler of some tagger — pooled handlers have none -/
theorem sched_mirrors_running (L : Laws cfg I vis R) (hs : Static M) {st : MedState I.σ} {os : List (Oracle κ)}
    {cs : List (Committed κ)} (hrun : Run M I (MedState.init I M.w) os cs st) :
    R st.sched (pendOf (fun _ => none) cs) (lastOf cfg.bot cs) ∧
    ∀ h, (pendOf (fun _ => none : Pend κ) cs h).isSome ↔ ∃ T, h ∈ (getT st.act.ts T).running :=
  let inv := (run_inv L hs hrun (minv_init L M)).1
  ⟨inv.rel, inv.mirror⟩

/-- where the entries of the ghost dictionary come from: the candidate time the oracle returned for the handler in the leg
that handed it out -/
theorem pend_origin (L : Laws cfg I vis R) (hs : Static M) {st st' : MedState I.σ} {os : List (Oracle κ)}
    {cs : List (Committed κ)} (hrun : Run M I st os cs st') : ∀ {p : Pend κ} {l : κ}, MInv M R st p l →
    ∀ h t, pendOf p cs h = some t → p h = some t ∨
      ∃ (k : Nat) (o : Oracle κ) (c : Committed κ), os[k]? = some o ∧ cs[k]? = some c ∧ h ∈ c.created.map Prod.fst ∧ t = o.cand h := by
  induction hrun with
  | nil st => intro p l _ h t e; exact Or.inl e
  | @cons st st1 st' o os c cs hleg _ ih =>
    intro p l inv h t e
    obtain ⟨_, f⟩ := leg_facts L hs inv hleg
    rcases ih f.minv h t e with h1 | ⟨k, o', c', h1, h2, h3, h4⟩
    · rcases pushAll_some _ _ (pendAfter_some h1).2 with h2 | h2
      · exact Or.inl h2
      · rw [f.pushed] at h2
        obtain ⟨q, hq, hqe⟩ := List.mem_map.mp h2
        simp only [Prod.mk.injEq] at hqe
        exact Or.inr ⟨0, o, c, rfl, rfl, List.mem_map.mpr ⟨q, hq, hqe.1⟩, by rw [← hqe.2, hqe.1]⟩
    · exact Or.inr ⟨k + 1, o', c', by rw [List.getElem?_cons_succ]; exact h1, by rw [List.getElem?_cons_succ]; exact h2, h3, h4⟩

/-- in every leg of every run the handler returned by `get_succeeding_event` is a running handler
of its own tagger `E` in the activator state of that moment (`midAct`: after `get_event_handlers_to_run`, before the trash —
the state in which C08's `born h` is the state the candidate of `h` was computed from); its event is pending with the
committed time, kept by the scheduler, minimal among the kept pending events, not before the last commit (`LegOK`); and the
`trash_event` calls of the leg are the activator's trash list for `E`, after which the activator is in the state `trash` leaves -/
theorem committed_is_running (L : Laws cfg I vis R) (hs : Static M) {st st' : MedState I.σ} {os : List (Oracle κ)}
    {cs : List (Committed κ)} (hrun : Run M I (MedState.init I M.w) os cs st) {o : Oracle κ} {c : Committed κ}
    (hleg : leg M I st o = .ok (st', c)) :
    LegOK cfg vis (pendOf (fun _ => none) cs) (lastOf cfg.bot cs) c ∧
    ∃ E, owner M.w c.handler = some E ∧ c.handler ∈ (getT (midAct M st o) E).running ∧
      c.trashed = (trash M.w (midAct M st o) E).2 ∧ st'.act.ts = (trash M.w (midAct M st o) E).1 :=
  let ⟨E, f⟩ := leg_facts L hs (run_inv L hs hrun (minv_init L M)).1 hleg
  ⟨f.ok, E, f.owner, f.running, f.trashed, f.trashEq⟩

theorem committed_was_handed_out : ∀ (cs : List (Committed κ)) (p : Pend κ) (l : κ), Legs (LegOK cfg vis) p l cs →
    ∀ h, p h = none → ∀ (j : Nat) (cj : Committed κ), cs[j]? = some cj → cj.handler = h →
    ∃ (i : Nat) (ci : Committed κ), i ≤ j ∧ cs[i]? = some ci ∧ h ∈ ci.created.map Prod.fst := by
  intro cs
  induction cs with
  | nil => intro p l _ h _ j cj hj; simp at hj
  | cons c cs ih =>
    intro p l legs h hp j cj hj hc
    obtain ⟨ok, rest⟩ := legs
    by_cases hk : h ∈ c.pushed.map Prod.fst
    · exact ⟨0, c, Nat.zero_le _, rfl, by rw [← ok.pushed_keys]; exact hk⟩
    · cases j with
      | zero =>
        simp only [List.getElem?_cons_zero, Option.some.injEq] at hj
        subst hj
        have := ok.pending
        rw [hc, pendPushed, pushAll_not_mem _ _ hk, hp] at this
        cases this
      | succ j =>
        have hp' : pendAfter p c h = none := by
          show dropAll (pushAll p c.pushed) c.trashed h = none
          rw [dropAll_eq, pushAll_not_mem _ _ hk, hp]; simp
        obtain ⟨i, ci, hi, h1, h2⟩ := ih _ _ rest h hp' j cj (by simpa using hj) hc
        exact ⟨i + 1, ci, by omega, by simpa using h1, h2⟩

/-- if `h` is trashed in leg `k` and committed in a later leg `j`, it was handed out again
(a new candidate was computed and pushed) in some leg `i` with `k < i ≤ j` -/
theorem trashed_never_committed : ∀ (cs : List (Committed κ)) (p : Pend κ) (l : κ), Legs (LegOK cfg vis) p l cs →
    ∀ (k : Nat) (ck : Committed κ) (h : HandlerId), cs[k]? = some ck → h ∈ ck.trashed →
    ∀ (j : Nat) (cj : Committed κ), k < j → cs[j]? = some cj → cj.handler = h →
    ∃ (i : Nat) (ci : Committed κ), k < i ∧ i ≤ j ∧ cs[i]? = some ci ∧ h ∈ ci.created.map Prod.fst := by
  intro cs p l legs k ck h hk hh j cj hkj hj hc
  obtain ⟨i, ci, hi, h1, h2⟩ := committed_was_handed_out _ _ _ (legs.at hk).2 h (pendAfter_trashed _ hh) (j - (k + 1)) cj
    (by rw [List.getElem?_drop, Nat.add_sub_cancel' hkj]; exact hj) hc
  rw [List.getElem?_drop] at h1
  exact ⟨k + 1 + i, ci, by omega, by omega, h1, h2⟩

theorem trashed_never_committed_run (L : Laws cfg I vis R) (hs : Static M) {st : MedState I.σ} {os : List (Oracle κ)}
    {cs : List (Committed κ)} (hrun : Run M I (MedState.init I M.w) os cs st)
    {k j : Nat} {ck cj : Committed κ} {h : HandlerId} (hk : cs[k]? = some ck) (hh : h ∈ ck.trashed) (hkj : k < j)
    (hj : cs[j]? = some cj) (hc : cj.handler = h) :
    ∃ (i : Nat) (ci : Committed κ), k < i ∧ i ≤ j ∧ cs[i]? = some ci ∧ h ∈ ci.created.map Prod.fst :=
  trashed_never_committed cs _ _ (run_inv L hs hrun (minv_init L M)).2 k ck h hk hh j cj hkj hj hc

/-- C08's second sentence, end to end (composition with `JF.C08.stale_handlers_are_trashed`): let a leg of a run commit an
event of tagger `E` that may change the motion of a unit (`Mo.moves E`), under the hypotheses `StepOK8` of C08 for the
activator state `midAct` of that leg (clause (h), proved from `WiringSound` by `JF.C08.clause_h_of_wiringSound`).  Then no
event of a bound (interaction / cell-veto) tagger that was pending at that commit — i.e. computed before it — is ever returned
by the scheduler afterwards: if its handler `h` is committed in a later leg `j`, `h` was handed out again after the
motion-changing commit and the committed event is the new one. -/
theorem no_stale_event_committed {G U : Type} (L : Laws cfg I vis R) (hs : Static M) {st st1 st2 : MedState I.σ}
    {os os' : List (Oracle κ)} {cs cs' : List (Committed κ)} (hrun : Run M I (MedState.init I M.w) os cs st)
    {o : Oracle κ} {c : Committed κ} (hleg : leg M I st o = .ok (st1, c)) (hlater : Run M I st1 os' cs' st2)
    (Mo : C08.Motion G U) (ms : C08.MS G) (hms : ms.rs.act = midAct M st o) {E : TaggerIdx}
    (hE : owner M.w c.handler = some E) {g' : G} (ok : C08.StepOK8 M.w Mo ms E g') (hm : Mo.moves E)
    {T : TaggerIdx} (hb : Mo.bound T) {h : HandlerId} (hh : h ∈ (getT (midAct M st o) T).running)
    {j : Nat} {cj : Committed κ} (hj : cs'[j]? = some cj) (hc : cj.handler = h) :
    ∃ (i : Nat) (ci : Committed κ), i ≤ j ∧ cs'[i]? = some ci ∧ h ∈ ci.created.map Prod.fst := by
  obtain ⟨E', f⟩ := leg_facts L hs (run_inv L hs hrun (minv_init L M)).1 hleg
  cases hE.symm.trans f.owner
  have hin : h ∈ c.trashed := by
    rw [f.trashed, ← hms]
    exact C08.stale_handlers_are_trashed ok hm hb (by rw [hms]; exact hh)
  exact committed_was_handed_out cs' _ _ (run_inv L hs hlater f.minv).2 h (pendAfter_trashed _ hin) j cj hj hc

def Above (cfg : Cfg κ) (vis : κ → Bool) (p : Pend κ) (l : κ) : Prop :=
  ∀ h t, p h = some t → vis t = true → cfg.lt t l = false

theorem above_after {p : Pend κ} {l : κ} {c : Committed κ} (ok : LegOK cfg vis p l c) :
    Above cfg vis (pendAfter p c) c.time :=
  fun h t e hv => ok.minimal h t (pendAfter_some e).2 hv

/-- the hypothesis of `commit_times_sorted`, per leg: every candidate time pushed in the leg is not before the time of the
previous commit (= the time of the leg in which it was computed; `cfg.bot` before the first commit) -/
def CandOK (cfg : Cfg κ) : Pend κ → κ → Committed κ → Prop := fun _ l c => ∀ q ∈ c.pushed, cfg.lt q.2 l = false

theorem sorted_legs : ∀ (cs : List (Committed κ)) (p : Pend κ) (l : κ), Legs (LegOK cfg vis) p l cs → Legs (CandOK cfg) p l cs →
    Above cfg vis p l → Legs (fun _ l c => cfg.lt c.time l = false) p l cs := by
  intro cs
  induction cs with
  | nil => intro _ _ _ _ _; trivial
  | cons c cs ih =>
    intro p l legs cand ab
    obtain ⟨ok, rest⟩ := legs
    obtain ⟨ck, crest⟩ := cand
    refine ⟨?_, ih _ _ rest crest (above_after ok)⟩
    rcases pushAll_some _ _ ok.pending with h1 | h1
    · exact ab _ _ h1 ok.visible
    · exact ck _ h1

theorem candOK_of_check (cfg : Cfg κ) : ∀ (cs : List (Committed κ)) (p : Pend κ) (l : κ),
    (cs.foldr (fun c (acc : κ → Bool) l => c.pushed.all (fun q => !cfg.lt q.2 l) && acc c.time) (fun _ => true)) l = true →
    Legs (CandOK cfg) p l cs := by
  intro cs
  induction cs with
  | nil => intro _ _ _; trivial
  | cons c cs ih =>
    intro p l hc
    simp only [List.foldr_cons, Bool.and_eq_true, List.all_eq_true, Bool.not_eq_true'] at hc
    exact ⟨fun q hq => hc.1 q hq, ih _ _ hc.2⟩

/-- commit times are non-decreasing if every candidate time is not before the time of the leg in which it was computed
(`CandOK`): each commit is not before the previous one.  The proof does not use the scheduler's own monotonicity assertion;
`LegOK.guard` gives the same conclusion from the assertion alone -/
theorem commit_times_sorted (L : Laws cfg I vis R) (hs : Static M) {st : MedState I.σ} {os : List (Oracle κ)}
    {cs : List (Committed κ)} (hrun : Run M I (MedState.init I M.w) os cs st)
    (hcand : Legs (CandOK cfg) (fun _ => none) cfg.bot cs) {k : Nat} {c c' : Committed κ}
    (h1 : cs[k]? = some c) (h2 : cs[k + 1]? = some c') : cfg.lt c'.time c.time = false := by
  have rest := (Legs.at (sorted_legs cs _ _ (run_inv L hs hrun (minv_init L M)).2 hcand (fun h t e => by cases e)) h1).2
  have h0 : (cs.drop (k + 1))[0]? = some c' := by rw [List.getElem?_drop]; exact h2
  cases hd : cs.drop (k + 1) with
  | nil => rw [hd] at h0; cases h0
  | cons b t => rw [hd] at h0 rest; cases Option.some.inj h0; exact rest.1

theorem sorted_pairwise (o : StrictWeak cfg) : ∀ (cs : List (Committed κ)) (p : Pend κ) (l : κ),
    Legs (fun _ l c => cfg.lt c.time l = false) p l cs →
    (∀ c ∈ cs, cfg.lt c.time l = false) ∧ cs.Pairwise (fun c c' => cfg.lt c'.time c.time = false) := by
  intro cs
  induction cs with
  | nil => intro _ _ _; simp
  | cons a cs ih =>
    intro p l legs
    obtain ⟨ha, rest⟩ := legs
    obtain ⟨i1, i2⟩ := ih _ _ rest
    refine ⟨?_, List.pairwise_cons.mpr ⟨i1, i2⟩⟩
    intro c hc
    rcases List.mem_cons.mp hc with rfl | hc
    · exact ha
    · exact o.ntrans _ _ _ (i1 c hc) ha

theorem commit_times_sorted_pairwise (o : StrictWeak cfg) (L : Laws cfg I vis R) (hs : Static M) {st : MedState I.σ}
    {os : List (Oracle κ)} {cs : List (Committed κ)} (hrun : Run M I (MedState.init I M.w) os cs st)
    (hcand : Legs (CandOK cfg) (fun _ => none) cfg.bot cs) :
    cs.Pairwise (fun c c' => cfg.lt c'.time c.time = false) :=
  (sorted_pairwise o cs _ _
    (sorted_legs cs _ _ (run_inv L hs hrun (minv_init L M)).2 hcand (fun h t e => by cases e))).2

theorem pushLoop_error {o : Oracle κ} : ∀ (created : List (HandlerId × IdTuple)) (s : I.σ) (e : Err),
    pushLoop M I o s created = .error e → ∃ h, e = .inStateAssertion h := by
  intro created
  induction created with
  | nil => intro s e h; simp [pushLoop] at h
  | cons a rest ih =>
    intro s e h
    obtain ⟨x, ids⟩ := a
    unfold pushLoop at h
    split at h
    · simp only [Except.error.injEq] at h; exact ⟨x, h.symm⟩
    · exact ih _ _ h

theorem trashAll_error : ∀ (hs : List HandlerId) (s : I.σ) (e : Err),
    trashAll I s hs = .error e → ∃ h, e = .schedTrash h := by
  intro hs
  induction hs with
  | nil => intro s e h; simp [trashAll] at h
  | cons a rest ih =>
    intro s e h
    unfold trashAll at h
    split at h
    · simp only [Except.error.injEq] at h; exact ⟨a, h.symm⟩
    · exact ih _ _ h

theorem leg_guard {st : MedState I.σ} {o : Oracle κ} {h : HandlerId} (e : leg M I st o = .error (.schedGuard h)) :
    ∃ created s1 t, (getToRun M.w M.S st.act st.preceding o.yields).2 = .ok created ∧
      pushLoop M I o st.sched created = .ok s1 ∧ (I.get s1).2 = .guard h t := by
  unfold leg at e
  simp only at e
  split at e
  · cases e
  · cases e
  · cases e
  · next created hcr =>
    split at e
    · next e' he' =>
      obtain ⟨x, hx⟩ := pushLoop_error _ _ _ he'
      rw [hx] at e; cases e
    · next s1 hpush =>
      split at e
      · cases e
      · next x t hget =>
        cases e
        exact ⟨created, s1, t, hcr, hpush, hget⟩
      · split at e
        · cases e
        · cases e
        · split at e
          · next e' he' =>
            obtain ⟨x, hx⟩ := trashAll_error _ _ _ he'
            rw [hx] at e; cases e
          · cases e

/-- the handlers `get_event_handlers_to_run` hands out in the leg from `st` on the oracle value `o` -/
def createdOf (M : MWire) {σ : Type} (st : MedState σ) (o : Oracle κ) : List HandlerId :=
  match (getToRun M.w M.S st.act st.preceding o.yields).2 with
  | .ok created => created.map Prod.fst
  | _ => []

theorem above_legs : ∀ (cs : List (Committed κ)) (p : Pend κ) (l : κ), Legs (LegOK cfg vis) p l cs → Above cfg vis p l →
    Above cfg vis (pendOf p cs) (lastOf l cs)
  | [], _, _, _, ab => ab
  | _ :: cs, _, _, legs, _ => above_legs cs _ _ legs.2 (above_after legs.1)

/-- the monotonicity assertion of the scheduler never fires in a leg whose candidate times are not before the time of the
previous commit -/
theorem guard_never_fires (L : Laws cfg I vis R) (hs : Static M) {st : MedState I.σ} {os : List (Oracle κ)}
    {cs : List (Committed κ)} (hrun : Run M I (MedState.init I M.w) os cs st) (o : Oracle κ)
    (hcand : ∀ h ∈ createdOf M st o, cfg.lt (o.cand h) (lastOf cfg.bot cs) = false) (h : HandlerId) :
    leg M I st o ≠ .error (.schedGuard h) := by
  obtain ⟨inv, legs⟩ := run_inv L hs hrun (minv_init L M)
  intro e
  obtain ⟨created, s1, t, hcr, hpush, hget⟩ := leg_guard e
  obtain ⟨-, cnd, hfresh, -⟩ := inv.activated hs (Prod.ext rfl hcr)
  have G := L.get (pushLoop_rel L M o created st.sched s1 _ _ inv.rel cnd hfresh hpush)
  unfold GetSpec at G
  rw [hget] at G
  obtain ⟨gp, gv, -, gguard⟩ := G
  -- the returned event is an old pending one, not before the last commit, or one pushed in this leg
  have : cfg.lt t (lastOf cfg.bot cs) = false := by
    rcases pushAll_some _ _ gp with h1 | h1
    · exact above_legs cs _ _ legs (fun h t e => by cases e) _ _ h1 gv
    · obtain ⟨q, hq, hqe⟩ := List.mem_map.mp h1
      simp only [Prod.mk.injEq] at hqe
      rw [← hqe.2]
      exact hcand q.1 (by unfold createdOf; rw [hcr]; exact List.mem_map.mpr ⟨q, hq, rfl⟩)
  rw [this] at gguard; cases gguard

end generic

/-- no two kept pending events of different handlers have incomparable (equal) times -/
def NoTie (cfg : Cfg κ) (vis : κ → Bool) (p : Pend κ) : Prop :=
  ∀ h h' t t', p h = some t → p h' = some t' → vis t = true → vis t' = true → h ≠ h' →
    cfg.lt t t' = true ∨ cfg.lt t' t = true

section refinement
variable {cfg : Cfg κ} {I J : SchedI κ} {visI visJ : κ → Bool} {RI : I.σ → Pend κ → κ → Prop}
  {RJ : J.σ → Pend κ → κ → Prop} {M : MWire}

/-- one leg of the loop with scheduler `J` against one with `I`: `J` keeps at least the events `I` keeps (`hsub`), and events
only `J` keeps are later than all events `I` keeps (`hfin`: infinite times are after finite ones).  If the leg with `I` succeeds
and there is no tie among the pending events `I` keeps at the moment of `get_succeeding_event`, the leg with `J` succeeds with
the same record (same handler, time, pushes, trash list, stop flag) -/
theorem refines_leg (LI : Laws cfg I visI RI) (LJ : Laws cfg J visJ RJ) (hs : Static M)
    (hsub : ∀ t, visI t = true → visJ t = true)
    (hfin : ∀ a b, visI a = true → visI b = false → visJ b = true → cfg.lt a b = true)
    {stI stI' : MedState I.σ} {stJ : MedState J.σ} {p : Pend κ} {l : κ} {o : Oracle κ} {c : Committed κ}
    (invI : MInv M RI stI p l) (relJ : RJ stJ.sched p l) (hact : stJ.act = stI.act) (hpre : stJ.preceding = stI.preceding)
    (e : leg M I stI o = .ok (stI', c)) (nt : NoTie cfg visI (pendPushed p c)) :
    ∃ stJ', leg M J stJ o = .ok (stJ', c) ∧ stJ'.act = stI'.act ∧ stJ'.preceding = stI'.preceding ∧
      RJ stJ'.sched (pendAfter p c) c.time := by
  obtain ⟨s1, S⟩ := leg_steps.mp e
  obtain ⟨i1, cnd, hfresh, okp, okv, okmin, okg⟩ := choose_core LI hs invI S.act S.push S.get
  obtain ⟨-, -, tnd, tpend, -⟩ := trash_core LI hs i1 S.trashable S.trash
  obtain ⟨sJ1, hpushJ⟩ := pushLoop_transfer (J := J) M o c.created _ _ stJ.sched S.push
  have GJ := LJ.get (pushLoop_rel LJ M o c.created stJ.sched sJ1 p l relJ cnd hfresh hpushJ)
  unfold GetSpec at GJ
  rw [← S.pushed] at okp okmin tpend GJ
  -- a minimal event `J` keeps is the event `I` returned: `I` keeps it too, and there are no ties among those
  have key : ∀ hJ tJ, pendPushed p c hJ = some tJ → visJ tJ = true →
      (∀ h' t', pendPushed p c h' = some t' → visJ t' = true → cfg.lt t' tJ = false) → hJ = c.handler ∧ tJ = c.time := by
    intro hJ tJ pJ vJ mJ
    have n1 : cfg.lt c.time tJ = false := mJ _ _ okp (hsub _ okv)
    have vI : visI tJ = true := by
      cases hv : visI tJ with
      | true => rfl
      | false => have := hfin _ tJ okv hv vJ; rw [n1] at this; cases this
    have n2 : cfg.lt tJ c.time = false := okmin hJ tJ pJ vI
    have hh : hJ = c.handler := by
      by_cases hne : hJ = c.handler
      · exact hne
      · rcases nt hJ _ tJ _ pJ okp vI okv hne with h1 | h1
        · rw [n2] at h1; cases h1
        · rw [n1] at h1; cases h1
    subst hh
    exact ⟨rfl, Option.some.inj (pJ.symm.trans okp)⟩
  have same : (J.get sJ1).2 = .ok c.handler c.time ∧ RJ (J.get sJ1).1 (pendPushed p c) c.time := by
    cases hr : (J.get sJ1).2 with
    | empty =>
      rw [hr] at GJ
      have := GJ _ _ okp
      rw [hsub _ okv] at this; cases this
    | guard hJ tJ =>
      rw [hr] at GJ
      obtain ⟨pJ, vJ, mJ, gJ⟩ := GJ
      obtain ⟨_, rfl⟩ := key hJ tJ pJ vJ mJ
      rw [okg] at gJ; cases gJ
    | ok hJ tJ =>
      rw [hr] at GJ
      obtain ⟨pJ, vJ, mJ, _, rJ⟩ := GJ
      obtain ⟨rfl, rfl⟩ := key hJ tJ pJ vJ mJ
      exact ⟨rfl, rJ⟩
  -- the trash loop of `J` succeeds: every listed handler has a pending event, none is listed twice
  obtain ⟨sJ3, htallJ⟩ := trashAll_succeeds LJ c.trashed _ _ _ same.2 tnd tpend
  exact ⟨⟨stI'.act, sJ3, stI'.preceding⟩,
    leg_steps.mpr ⟨sJ1, by rw [hact, hpre]; exact S.act, hpushJ, same.1, by rw [hact, hpre]; exact S.trashable, htallJ, S.pre,
      S.pushed, S.stop⟩,
    rfl, rfl, trashAll_rel LJ c.trashed _ sJ3 _ _ same.2 htallJ⟩

/-- no time ties along the commits of a run: at every `get_succeeding_event`, among the pending events the scheduler keeps -/
def NoTies (cfg : Cfg κ) (vis : κ → Bool) : Pend κ → List (Committed κ) → Prop
  | _, [] => True
  | p, c :: cs => NoTie cfg vis (pendPushed p c) ∧ NoTies cfg vis (pendAfter p c) cs

theorem noTies_iff_legs {vis : κ → Bool} (l : κ) : ∀ (cs : List (Committed κ)) (p : Pend κ),
    NoTies cfg vis p cs ↔ Legs (fun p _ c => NoTie cfg vis (pendPushed p c)) p l cs
  | [], _ => Iff.rfl
  | c :: cs, _ => and_congr Iff.rfl (noTies_iff_legs c.time cs _)

theorem noTies_snoc {vis : κ → Bool} (cs : List (Committed κ)) (p : Pend κ) (c : Committed κ) :
    NoTies cfg vis p (cs ++ [c]) ↔ NoTies cfg vis p cs ∧ NoTie cfg vis (pendPushed (pendOf p cs) c) := by
  rw [noTies_iff_legs cfg.bot, Legs.append, ← noTies_iff_legs]
  exact and_congr Iff.rfl ⟨fun h => h.1, fun h => ⟨h, trivial⟩⟩

theorem refines_runLegs (LI : Laws cfg I visI RI) (LJ : Laws cfg J visJ RJ) (hs : Static M)
    (hsub : ∀ t, visI t = true → visJ t = true)
    (hfin : ∀ a b, visI a = true → visI b = false → visJ b = true → cfg.lt a b = true) :
    ∀ (os : List (Oracle κ)) (stI stI' : MedState I.σ) (stJ : MedState J.σ) (p : Pend κ) (l : κ) (cs : List (Committed κ)),
    MInv M RI stI p l → RJ stJ.sched p l → stJ.act = stI.act → stJ.preceding = stI.preceding →
    runLegs M I stI os = (cs, some stI') → NoTies cfg visI p cs →
    ∃ stJ', runLegs M J stJ os = (cs, some stJ') ∧ stJ'.act = stI'.act ∧ stJ'.preceding = stI'.preceding := by
  intro os
  induction os with
  | nil =>
    intro stI stI' stJ p l cs _ _ hact hpre e _
    simp only [runLegs, Prod.mk.injEq, Option.some.injEq] at e
    obtain ⟨rfl, rfl⟩ := e
    exact ⟨stJ, rfl, hact, hpre⟩
  | cons o os ih =>
    intro stI stI' stJ p l cs invI relJ hact hpre e nts
    unfold runLegs at e ⊢
    split at e
    · simp at e
    · next st1 c hleg =>
      have hnt : NoTie cfg visI (pendPushed p c) := by
        split at e <;> (obtain ⟨rfl, -⟩ := Prod.mk.inj e; exact nts.1)
      obtain ⟨stJ1, hlegJ, hact1, hpre1, relJ1⟩ := refines_leg LI LJ hs hsub hfin invI relJ hact hpre hleg hnt
      rw [hlegJ]
      simp only
      split at e
      · next hstop =>
        simp only [Prod.mk.injEq, Option.some.injEq] at e
        obtain ⟨rfl, rfl⟩ := e
        rw [if_pos hstop]
        exact ⟨stJ1, rfl, hact1, hpre1⟩
      · next hstop =>
        simp only [Prod.mk.injEq] at e
        obtain ⟨rfl, e2⟩ := e
        rw [if_neg hstop]
        obtain ⟨stJ', hrJ, a, b⟩ := ih st1 stI' stJ1 _ _ _ (invI.leg LI hs hleg) relJ1 hact1 hpre1 (Prod.ext rfl e2) nts.2
        exact ⟨stJ', by rw [hrJ], a, b⟩

end refinement

/-- the loop with the model of `ListScheduler` refines the loop with the spec-level scheduler: same commits (handlers,
times, pushes, trash lists) whenever the spec-level loop runs without exception and without ties among finite pending times.
`hfin`: an infinite candidate time is after every finite one (`JF.C06.time_fin_lt` for `Time`). -/
theorem list_refines_spec {cfg : Cfg κ} (o : StrictWeak cfg)
    (hfin : ∀ a b, cfg.finite a = true → cfg.finite b = false → cfg.lt a b = true) {M : MWire} (hs : Static M)
    {os : List (Oracle κ)} {cs : List (Committed κ)} {st : MedState (SSched κ)}
    (e : runLegs M (specI cfg) (MedState.init (specI cfg) M.w) os = (cs, some st))
    (nt : NoTies cfg cfg.finite (fun _ => none) cs) :
    ∃ st' : MedState (LSched κ), runLegs M (listI cfg) (MedState.init (listI cfg) M.w) os = (cs, some st') ∧
      st'.act = st.act ∧ st'.preceding = st.preceding :=
  refines_runLegs (specLaws o) (listLaws o) hs (fun _ _ => rfl) (fun a b ha hb _ => hfin a b ha hb) os _ _ _ _ _ _
    (minv_init (specLaws o) M) (listLaws o).init rfl rfl e nt

/-- the loop with the model of `HeapScheduler` on the model of `heap.c` refines the loop with the spec-level scheduler
(any content of fresh memory, any counter range `W ≥ 1`) -/
theorem heap_refines_spec {cfg : Cfg κ} (o : StrictWeak cfg) {W : Nat} (hW : 0 < W) {M : MWire} (hs : Static M)
    {os : List (Oracle κ)} {cs : List (Committed κ)} {st : MedState (SSched κ)}
    (e : runLegs M (specI cfg) (MedState.init (specI cfg) M.w) os = (cs, some st))
    (nt : NoTies cfg cfg.finite (fun _ => none) cs) :
    ∃ st' : MedState (HSched κ), runLegs M (heapI cfg W) (MedState.init (heapI cfg W) M.w) os = (cs, some st') ∧
      st'.act = st.act ∧ st'.preceding = st.preceding :=
  refines_runLegs (specLaws o) (heapLaws o hW) hs (fun _ h => h)
    (fun a b _ hb hb' => by rw [hb] at hb'; cases hb') os _ _ _ _ _ _
    (minv_init (specLaws o) M) (heapLaws o hW).init rfl rfl e nt

section instances
variable {cfg : Cfg κ} {M : MWire}

/-- `sched_mirrors_running` for the spec-level scheduler: its live list is exactly the running handlers whose candidate time
was finite, each once -/
theorem spec_sched_mirrors_running (o : StrictWeak cfg) (hs : Static M) {st : MedState (SSched κ)} {os : List (Oracle κ)}
    {cs : List (Committed κ)} (hrun : Run M (specI cfg) (MedState.init (specI cfg) M.w) os cs st) :
    (∀ h t, (t, h) ∈ st.sched.live ↔ pendOf (fun _ => none) cs h = some t ∧ cfg.finite t = true) ∧
    st.sched.live.Pairwise (fun a b => a.2 ≠ b.2) ∧
    (∀ h, (pendOf (fun _ => none : Pend κ) cs h).isSome ↔ ∃ T, h ∈ (getT st.act.ts T).running) ∧
    (∀ h, (∀ T, h ∉ (getT st.act.ts T).running) → ∀ t, (t, h) ∉ st.sched.live) := by
  obtain ⟨r, m⟩ := sched_mirrors_running (specLaws o) hs hrun
  refine ⟨r.mem, r.nodup, m, fun h hn t ht => ?_⟩
  have := ((r.mem h t).1 ht).1
  obtain ⟨T, hT⟩ := (m h).mp (by simp [this])
  exact hn T hT

/-- … for the model of `ListScheduler`: `_times` holds exactly one element per running handler (object `h + 1`), with the candidate
time pushed for it — infinite times included —, and nothing else -/
theorem list_sched_mirrors_running (o : StrictWeak cfg) (hs : Static M) {st : MedState (LSched κ)} {os : List (Oracle κ)}
    {cs : List (Committed κ)} (hrun : Run M (listI cfg) (MedState.init (listI cfg) M.w) os cs st) :
    (∀ h t, (t, h + 1) ∈ st.sched.times ↔ pendOf (fun _ => none) cs h = some t) ∧
    (∀ t, (t, 0) ∉ st.sched.times) ∧
    st.sched.times.Pairwise (fun a b => a.2 ≠ b.2) ∧
    (∀ h, (pendOf (fun _ => none : Pend κ) cs h).isSome ↔ ∃ T, h ∈ (getT st.act.ts T).running) := by
  obtain ⟨r, m⟩ := sched_mirrors_running (listLaws o) hs hrun
  refine ⟨fun h t => r.1.mem (h + 1) t, fun t ht => ?_, r.1.nodup, m⟩
  have := (r.1.mem 0 t).1 ht
  simp [shift] at this

/-- … for the model of `HeapScheduler`: the heap entries whose counter is the handler's current counter (the ones
`event_valid_callback` accepts) are exactly the running handlers whose candidate time was finite, each with that time; the
heap invariant holds and no array access left the block -/
theorem heap_sched_mirrors_running (o : StrictWeak cfg) {W : Nat} (hW : 0 < W) (hs : Static M) {st : MedState (HSched κ)}
    {os : List (Oracle κ)} {cs : List (Committed κ)}
    (hrun : Run M (heapI cfg W) (MedState.init (heapI cfg W) M.w) os cs st) :
    (∀ h t, (∃ m, mvGet st.sched.mv (h + 1) = some m ∧ Mem cfg st.sched.heap ⟨t, h + 1, m⟩) ↔
      pendOf (fun _ => none) cs h = some t ∧ cfg.finite t = true) ∧
    Inv cfg st.sched.heap ∧ st.sched.heap.fault = false ∧
    (∀ h, (pendOf (fun _ => none : Pend κ) cs h).isSome ↔ ∃ T, h ∈ (getT st.act.ts T).running) := by
  obtain ⟨r, m⟩ := sched_mirrors_running (heapLaws o hW) hs hrun
  exact ⟨fun h t => ((r.1.cur (h + 1) t).symm), r.1.inv, r.1.inv.1.1, m⟩

end instances

/-! ### the static hypothesis holds for every configuration with `WiringSound` (all shipped `.ini`: `cfg_sound_<name>`) -/

theorem static_ofWiring (c : Wiring) (S : TaggerIdx) (needs : HandlerId → Bool) (hw : wfStatic c S = true) (hS : S < c.n) :
    Med.Static (MWire.ofWiring c S needs) :=
  ⟨wfw_of_static (static_of_wfStatic hw), poolsOK_wires c, by show S < c.wires.length; rw [c.wires_length]; exact hS⟩

theorem static_of_wiringSound (c : Wiring) (S : TaggerIdx) (needs : HandlerId → Bool) (sound : WiringSound c = true)
    (hS : c.start? = some S) : Med.Static (MWire.ofWiring c S needs) := by
  have hw : wfStatic c S = true := by
    unfold WiringSound at sound
    rw [hS] at sound
    simp only [Bool.and_eq_true] at sound
    exact sound.1.1.1
  exact static_ofWiring c S needs hw (start_spec hS).1

/-! ### a decidable sufficient condition for `NoTies` (used by `Example.noTies`) -/

section notie
variable {cfg : Cfg κ} {vis : κ → Bool}

/-- the pending events as an association list, after one leg -/
def pendL (L : List (HandlerId × κ)) (c : Committed κ) : List (HandlerId × κ) :=
  (L ++ c.pushed).filter fun q => !c.trashed.contains q.1

def noTieL (cfg : Cfg κ) (vis : κ → Bool) (L : List (HandlerId × κ)) : Bool :=
  L.all fun a => L.all fun b => a.1 == b.1 || !vis a.2 || !vis b.2 || cfg.lt a.2 b.2 || cfg.lt b.2 a.2

def noTiesL (cfg : Cfg κ) (vis : κ → Bool) : List (HandlerId × κ) → List (Committed κ) → Bool
  | _, [] => true
  | L, c :: cs => noTieL cfg vis (L ++ c.pushed) && noTiesL cfg vis (pendL L c) cs

theorem noTies_of_check : ∀ (cs : List (Committed κ)) (p : Pend κ) (L : List (HandlerId × κ)),
    (∀ h t, p h = some t → (h, t) ∈ L) → noTiesL cfg vis L cs = true → NoTies cfg vis p cs := by
  intro cs
  induction cs with
  | nil => intro _ _ _ _; trivial
  | cons c cs ih =>
    intro p L cover chk
    simp only [noTiesL, Bool.and_eq_true] at chk
    have cover1 : ∀ h t, pendPushed p c h = some t → (h, t) ∈ L ++ c.pushed := by
      intro h t e
      rcases pushAll_some _ _ e with h1 | h1
      · exact List.mem_append_left _ (cover h t h1)
      · exact List.mem_append_right _ h1
    refine ⟨?_, ih _ (pendL L c) ?_ chk.2⟩
    · intro h h' t t' e e' v v' hne
      have := List.all_eq_true.mp (List.all_eq_true.mp chk.1 _ (cover1 h t e)) _ (cover1 h' t' e')
      simp only [Bool.or_eq_true, beq_iff_eq, Bool.not_eq_true', v, v'] at this
      rcases this with (((h1 | h1) | h1) | h1) | h1
      · exact absurd h1 hne
      · cases h1
      · cases h1
      · exact Or.inl h1
      · exact Or.inr h1
    · intro h t e
      obtain ⟨hn, e'⟩ := pendAfter_some e
      exact List.mem_filter.mpr ⟨cover1 h t e', by simpa using hn⟩

end notie

/-! ### non-vacuity: a concrete small configuration and a run of it on which the hypotheses of all theorems of this file hold -/

namespace Example

/-- times are naturals compared by `<`; sentinel `0`; "infinite" = `≥ 1000` -/
def natCfg : Cfg Nat := ⟨fun a b => decide (a < b), 0, fun t => decide (t < 1000), fun _ => ⟨7, 99, 5⟩⟩

theorem natOrd : StrictWeak natCfg where
  irrefl a := by simp [natCfg]
  trans a b c := by simp only [natCfg, decide_eq_true_eq]; omega
  ntrans a b c := by simp only [natCfg, decide_eq_false_iff_not]; omega
  bot_min a := by simp [natCfg]

theorem natFin : ∀ a b, natCfg.finite a = true → natCfg.finite b = false → natCfg.lt a b = true := by
  intro a b; simp only [natCfg, decide_eq_true_eq, decide_eq_false_iff_not]; omega

/-- 0: a factor tagger (two handlers: 0, 1), 1: sampling (handler 2), 2: end of run (handler 3), 3: start of run (handler 4) -/
def tiny : Wiring :=
  { name := "tiny", labels := [],
    taggers := [
      ⟨"coulomb", .factorTypeMap, "", .interaction, [0], [0], [], [], 2, none⟩,
      ⟨"sampling", .noInState, "", .sampling, [1], [1], [], [], 1, none⟩,
      ⟨"end_of_run", .noInState, "", .endOfRun, [2], [0, 1, 2], [], [], 1, none⟩,
      ⟨"start_of_run", .noInState, "", .startOfRun, [0, 1, 2], [3], [], [], 1, none⟩ ] }

/-- only the factor handlers take an in-state -/
def M : MWire := MWire.ofWiring tiny 3 (fun h => decide (h < 2))

theorem static : Med.Static M := static_ofWiring tiny 3 _ (by decide) (by decide)
/-- the configuration passes the whole `WiringSound` test, so `static_of_wiringSound` applies as well -/
example : WiringSound tiny = true ∧ tiny.start? = some 3 := by decide +kernel

def ys : TaggerIdx → List IdTuple := fun T => if T = 0 then [some [[5], [6]]] else [none]

/-- six legs: start of run at 0; the factor event of handler 1 at 7 (a motion-changing commit: handler 1 is trashed and
handed out again); its new event at 8; then handler 1 gets an INFINITE candidate time (never in the heap, but in the list), a
sampling event at 10, another at 20, the end of run at 30 (trashing the event with the infinite time as well) -/
def o0 : Oracle Nat := ⟨ys, fun _ => 0⟩
def o1 : Oracle Nat := ⟨ys, fun h => if h = 1 then 7 else if h = 2 then 10 else 30⟩
def o2 : Oracle Nat := ⟨ys, fun _ => 8⟩
def o3 : Oracle Nat := ⟨ys, fun _ => 1000⟩
def o4 : Oracle Nat := ⟨ys, fun _ => 20⟩
def o5 : Oracle Nat := ⟨ys, fun _ => 35⟩
def os : List (Oracle Nat) := [o0, o1, o2, o3, o4, o5]

def specRun := runLegs M (specI natCfg) (MedState.init (specI natCfg) M.w) os
def listRun := runLegs M (listI natCfg) (MedState.init (listI natCfg) M.w) os
def heapRun := runLegs M (heapI natCfg 4294967296) (MedState.init (heapI natCfg 4294967296) M.w) os

/-- the run ends with the end-of-run commit, which trashes the pending events of all three taggers (handler 1's has the
infinite time 1000) -/
theorem specRun_eq :
    specRun.1.map (·.handler) = [4, 1, 1, 2, 2, 3] ∧ specRun.1.map (·.time) = [0, 7, 8, 10, 20, 30] ∧
    specRun.1.map (·.pushed) = [[(4, 0)], [(1, 7), (2, 10), (3, 30)], [(1, 8)], [(1, 1000)], [(2, 20)], [(2, 35)]] ∧
    specRun.1.map (·.trashed) = [[4], [1], [1], [2], [2], [1, 2, 3]] ∧
    specRun.1.map (·.stop) = [false, false, false, false, false, true] ∧ specRun.2.isSome = true := by decide +kernel

theorem specRun_some : specRun.2.isSome = true := specRun_eq.2.2.2.2.2

/-- by evaluation, the list loop and the heap loop (model of `heap.c` included) make the same commits -/
example : listRun.1.map (·.handler) = specRun.1.map (·.handler) ∧ listRun.1.map (·.trashed) = specRun.1.map (·.trashed) ∧
    heapRun.1.map (·.handler) = specRun.1.map (·.handler) ∧ heapRun.1.map (·.trashed) = specRun.1.map (·.trashed) := by
  rw [specRun_eq.1, specRun_eq.2.2.2.1]
  decide +kernel

theorem specRun_ok : specRun = (specRun.1, some (specRun.2.get specRun_some)) :=
  Prod.ext rfl (Option.some_get _).symm

/-- with `static` and `specRun_ok` the hypotheses of the refinement theorems, which give the same commits without evaluating the
list or heap loop -/
theorem noTies : NoTies natCfg natCfg.finite (fun _ => none) specRun.1 :=
  noTies_of_check _ _ [] (fun h t e => by cases e) (by decide +kernel)

example : ∃ st', listRun = (specRun.1, some st') :=
  let ⟨st', h, _⟩ := list_refines_spec natOrd natFin static specRun_ok noTies; ⟨st', h⟩
example : ∃ st', heapRun = (specRun.1, some st') :=
  let ⟨st', h, _⟩ := heap_refines_spec natOrd (W := 4294967296) (by decide) static specRun_ok noTies; ⟨st', h⟩

/-- the run as a `Run`, the hypothesis of the theorems about runs -/
theorem run : ∃ os', Run M (specI natCfg) (MedState.init (specI natCfg) M.w) os' specRun.1 (specRun.2.get specRun_some) :=
  ⟨_, runLegs_run M (specI natCfg) os _ _ _ specRun_ok⟩

/-- `trashed_never_committed`: handler 1 is trashed in leg 1 and committed in leg 2 — it was handed out again in leg 2 -/
example : (specRun.1[1]?.map (·.trashed)) = some [1] ∧ (specRun.1[2]?.map (·.handler)) = some 1 := by decide +kernel

/-- `commit_times_sorted`: every candidate time of the run is not before the previous commit time -/
theorem candOK : Legs (CandOK natCfg) (fun _ => none) natCfg.bot specRun.1 :=
  candOK_of_check natCfg _ _ _ (by decide +kernel)

example := let ⟨_, r⟩ := run; commit_times_sorted_pairwise natOrd (specLaws natOrd) static r candOK

/-! `no_stale_event_committed` applies: leg 1 commits a motion-changing event of the factor tagger 0 (handler 1, pending for the
bound tagger 0, is trashed: clause (h)); handler 1 IS committed in the next leg — and was handed out again in that leg, so the
committed event is the one computed after the motion-changing commit.  The abstract motion world is the one of
`JF.C08.Example` (`moves` everything, `bound` = tagger 0). -/

theorem ok_of_toOption {ε α : Type} {e : Except ε α} {x : α} (h : e.toOption = some x) : e = .ok x := by
  cases e with
  | error _ => simp [Except.toOption] at h
  | ok y => simp only [Except.toOption, Option.some.injEq] at h; rw [h]

def rA := runLegs M (specI natCfg) (MedState.init (specI natCfg) M.w) [o0]
theorem rA_some : rA.2.isSome = true := by decide +kernel
def stA := rA.2.get rA_some
def legB := (leg M (specI natCfg) stA o1).toOption
theorem legB_some : legB.isSome = true := by decide +kernel
def stB := (legB.get legB_some).1
def cB := (legB.get legB_some).2
def rC := runLegs M (specI natCfg) stB [o2, o3, o4, o5]
theorem rC_some : rC.2.isSome = true := by decide +kernel
theorem rC_first : (rC.1[0]?).isSome = true := by decide +kernel
def cj := (rC.1[0]?).get rC_first

theorem runA : ∃ osA, Run M (specI natCfg) (MedState.init (specI natCfg) M.w) osA rA.1 stA :=
  ⟨_, runLegs_run M (specI natCfg) [o0] _ stA rA.1 (Prod.ext rfl (Option.some_get rA_some).symm)⟩
theorem legB_ok : leg M (specI natCfg) stA o1 = .ok (stB, cB) := ok_of_toOption (Option.some_get legB_some).symm

example : ∃ (i : Nat) (ci : Committed Nat), i ≤ 0 ∧ rC.1[i]? = some ci ∧ (1 : HandlerId) ∈ ci.created.map Prod.fst := by
  obtain ⟨osA, runA⟩ := runA
  have runC := runLegs_run M (specI natCfg) [o2, o3, o4, o5] stB (rC.2.get rC_some) rC.1
    (Prod.ext rfl (Option.some_get rC_some).symm)
  refine no_stale_event_committed (specLaws natOrd) static runA legB_ok runC C08.Example.M
    (⟨⟨midAct M stA o1, fun _ => none, 5⟩, fun _ => 5⟩ : C08.MS Nat) rfl (E := 0) (by decide +kernel) (g' := 5)
    ⟨fun h => absurd trivial h, fun _ T hb => Or.inl (by rw [show T = 0 from hb]; decide +kernel)⟩ trivial (T := 0) rfl (h := 1)
    (by decide +kernel) (j := 0) (cj := cj) (Option.some_get rC_first).symm (by decide +kernel)

/-- `guard_never_fires` / `committed_is_running` apply to leg 1 of the run (state `stA` after the start-of-run leg) -/
example : ∀ h, leg M (specI natCfg) stA o1 ≠ .error (.schedGuard h) := by
  obtain ⟨osA, runA⟩ := runA
  exact guard_never_fires (specLaws natOrd) static runA o1 (by decide +kernel)

example : ∃ E, owner M.w cB.handler = some E ∧ cB.handler ∈ (getT (midAct M stA o1) E).running := by
  obtain ⟨osA, runA⟩ := runA
  obtain ⟨_, E, h1, h2, _⟩ := committed_is_running (specLaws natOrd) static runA legB_ok
  exact ⟨E, h1, h2⟩

theorem sr1 : (specRun.1[1]?).isSome = true := by decide +kernel
theorem sr2 : (specRun.1[2]?).isSome = true := by decide +kernel

example : ∃ (i : Nat) (ci : Committed Nat), 1 < i ∧ i ≤ 2 ∧ specRun.1[i]? = some ci ∧ (1 : HandlerId) ∈ ci.created.map Prod.fst := by
  obtain ⟨_, r⟩ := run
  exact trashed_never_committed_run (specLaws natOrd) static r (k := 1) (j := 2) (h := 1)
    (Option.some_get sr1).symm (by decide +kernel) (by decide) (Option.some_get sr2).symm (by decide +kernel)

end Example

end JF.MediatorLoop
