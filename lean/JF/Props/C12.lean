import JF.Lemmas.CompositeSteps
/-!
# C12 — Composite objects stay consistent with their point masses

Exact reading (`α = ℚ`, `Ops.rat`) of the two-level machine `JF.Composite.step` of `JF/Model/Composite.lean`, for any
number `n ≥ 1` of members per object and any dimension `d`.  **The test `abs(component) < 1.0e-13` of the code is
replaced by `component = 0` (`isZ`) in this reading.**

`RootConsistent L c` is the property: the stored root velocity is the weighted sum (weights `1/n`) of the members'
velocities (`None` read as zero), it is absent exactly when no member moves, and for every time `τ` the root position
advanced to `τ` is the weighted barycentre of the members' positions advanced to `τ` *with their own time stamps*,
modulo the box: stated with explicit integer image shifts `s j` of the members, so no nearest-image function is needed
(with weights `1/n` this is the same as `n · x_root ≡ Σ x_leaf (mod L)`).

The induction invariant `Good` (`JF/Lemmas/CompositeInv.lean`) additionally carries: well-formedness (vector lengths, a
moving unit has a time stamp), "the moving members of one object share one non-zero velocity" and "a stored root
velocity is non-zero"; `good_rootConsistent` derives `RootConsistent` from it.

The admissibility predicate `Adm` (`JF/Lemmas/CompositeSteps.lean`) collects the `assert`s of the code evaluated after
time-slicing (the unit handing over its velocity moves, the receiver is at rest, …) plus, where marked *(one chain)*, the
C07 fact that only one chain moves (the object receiving the velocity is at rest as a whole); `JF/Props/C12Chain.lean`
derives the latter from a one-chain invariant.
-/
namespace JF.C12
open JF JF.Kin JF.Composite

def wsum (w : ℚ) (ls : List (PUnit ℚ)) (f : PUnit ℚ → ℚ) : ℚ := (ls.map (fun l => w * f l)).sum

structure RootConsistent (L : List ℚ) (c : CObj ℚ) : Prop where
  /-- stored velocity = weighted sum of the members' velocities (`None` read as zero), weights `1 / len(children)` -/
  vel : ∀ k, velAt c.root k = wsum (weight Ops.rat c) c.leaves (fun l => velAt l k)
  /-- absent exactly when no member moves -/
  absent : c.root.vel = none ↔ ∀ l ∈ c.leaves, l.vel = none
  /-- position advanced to any time `τ` = weighted barycentre of suitable periodic images of the members advanced to `τ` -/
  pos : ∀ τ k, k < L.length → ∃ s : Nat → ℤ,
    advAt c.root τ k = (c.leaves.zipIdx.map (fun p => weight Ops.rat c * (advAt p.1 τ k + s p.2 * L.getD k 0))).sum

theorem wsum_eq (w : ℚ) (ls : List (PUnit ℚ)) (f : PUnit ℚ → ℚ) : wsum w ls f = (ls.map f).sum * w := by
  rw [wsum, List.sum_map_mul_left, mul_comm]

theorem sum_zipIdx_shift (w l : ℚ) (f : PUnit ℚ → ℚ) : ∀ (ls : List (PUnit ℚ)) (m : Nat) (z : ℤ), ls ≠ [] →
    ∃ s : Nat → ℤ, ((ls.zipIdx m).map (fun p => w * (f p.1 + s p.2 * l))).sum = wsum w ls f + w * (z * l)
  | [], _, _, h => absurd rfl h
  | x :: ls, m, z, _ => by
    refine ⟨fun i => if i = m then z else 0, ?_⟩
    have hrest : ∀ (ls : List (PUnit ℚ)) (m' : Nat), m < m' →
        ((ls.zipIdx m').map (fun p => w * (f p.1 + ((if p.2 = m then z else 0 : ℤ) : ℚ) * l))).sum = (ls.map (fun x => w * f x)).sum := by
      intro ls
      induction ls with
      | nil => intro m' _; simp
      | cons y ys ih =>
        intro m' hm
        have hne : ¬ m' = m := by omega
        simp only [List.zipIdx_cons, List.map_cons, List.sum_cons, ih (m' + 1) (by omega), hne, if_false]
        simp
    simp only [wsum, List.zipIdx_cons, List.map_cons, List.sum_cons, hrest ls (m + 1) (by omega), if_true]
    ring

theorem good_rootConsistent {d : Nat} {L : List ℚ} {c : CObj ℚ} (h : Good d L c) : RootConsistent L c := by
  have hne := h.wf.2.2
  have hn := length_cast_ne_zero hne
  refine ⟨?_, absent_iff hne h.vel h.sh h.rnz, ?_⟩
  · intro k
    rw [wsum_eq, weight_rat, ← h.vel k]
    field_simp
  · intro τ k hk
    obtain ⟨z, hz⟩ := h.pos τ k hk
    obtain ⟨s, hs⟩ := sum_zipIdx_shift (weight Ops.rat c) (L.getD k 0) (fun l => advAt l τ k) c.leaves 0 z hne
    refine ⟨s, ?_⟩
    rw [hs, weight_rat, wsum_eq]
    field_simp
    linarith

theorem step_good {d : Nat} {L : List ℚ} (hL : BoxOK d L) {cs : List (CObj ℚ)} (h : AllGood d L cs) (e : Composite.Ev ℚ)
    (ha : Adm d L cs e) : AllGood d L (step Ops.rat isZ L cs e) := by
  cases e with
  | keep t S => exact (sliceAt_spec hL t S h).1
  | snap t S i j dd x => exact snap_good hL h t S i j dd x ha
  | exchange t S i j i' j' => exact exchange_good hL h t S i j i' j' ha
  | pass t S iL iT =>
    obtain ⟨hiS, hne, cL, cT, v, h1, h2, h3, h4⟩ := ha
    exact pass_good hL h t S iL iT hiS hne h1 h2 h3 h4
  | eocLeaf t i j i' j' vn => exact eocLeaf_good hL h t i j i' j' vn ha
  | eocRoot t i i' vn => exact eocRoot_good hL h t i i' vn ha
  | toLeaf t i ch => exact toLeaf_good hL h t i ch ha
  | toRoot t i => exact toRoot_good hL h t i ha
  | start i P v => exact start_good hL h i P v ha

def AdmRun (d : Nat) (L : List ℚ) : List (CObj ℚ) → List (Composite.Ev ℚ) → Prop
  | _, [] => True
  | cs, e :: es => Adm d L cs e ∧ AdmRun d L (step Ops.rat isZ L cs e) es

theorem run_good {d : Nat} {L : List ℚ} (hL : BoxOK d L) : ∀ (es : List (Composite.Ev ℚ)) (cs : List (CObj ℚ)),
    AllGood d L cs → AdmRun d L cs es → AllGood d L (run Ops.rat isZ L cs es)
  | [], _, h, _ => h
  | e :: es, _, h, ha => run_good hL es _ (step_good hL h e ha.1) ha.2

/-- **C12 (exact reading).** After every admissible event history, every composite object is consistent with its point
masses: velocity = weighted sum, absent exactly when none moves, position at every time = weighted barycentre of
periodic images of its members advanced with their own time stamps. -/
theorem run_rootConsistent {d : Nat} {L : List ℚ} (hL : BoxOK d L) (es : List (Composite.Ev ℚ)) (cs : List (CObj ℚ))
    (h : AllGood d L cs) (ha : AdmRun d L cs es) : ∀ c ∈ run Ops.rat isZ L cs es, RootConsistent L c :=
  fun c hc => good_rootConsistent (run_good hL es cs h ha c hc)

/-! ### base case: the random node creators -/

theorem rest_good {d : Nat} {L : List ℚ} {c : CObj ℚ} (hwf : WFC d c) (hr : c.root.vel = none)
    (hl : ∀ l ∈ c.leaves, l.vel = none)
    (hp : ∀ k, k < L.length → Cong (L.getD k 0) ((c.leaves.length : ℚ) * c.root.pos.getD k 0) ((c.leaves.map (fun l => l.pos.getD k 0)).sum)) :
    Good d L c := by
  have hv0 : ∀ l ∈ c.leaves, ∀ k, velAt l k = 0 := fun l hm k => by simp only [velAt, velOpt, hl l hm]
  refine ⟨hwf, ?_, ⟨[1], ⟨0, by simp⟩, fun l hm => Or.inl (hl l hm)⟩, fun v hv => by rw [hr] at hv; exact absurd hv (by simp), ?_⟩
  · intro k
    rw [sum_map_congr _ (fun _ => (0 : ℚ)) _ (fun l hm => hv0 l hm k)]
    simp [velAt, velOpt, hr]
  · intro τ k hk
    have e1 : advAt c.root τ k = c.root.pos.getD k 0 := by simp [advAt, velAt, velOpt, hr]
    rw [e1, sum_map_congr _ (fun l => l.pos.getD k 0) _ (fun l hm => by simp [advAt, hv0 l hm k])]
    exact hp k hk

theorem initial_good {d : Nat} {L : List ℚ} (hL : BoxOK d L) (C : List ℚ) (Ps : List (List ℚ)) (hC : C.length = d)
    (hne : Ps ≠ []) (hPs : ∀ P ∈ Ps, P.length = d)
    (hp : ∀ k, k < d → Cong (L.getD k 0) ((Ps.length : ℚ) * C.getD k 0) ((Ps.map (·.getD k 0)).sum)) :
    Good d L ⟨⟨C, none, none⟩, Ps.map (fun P => ⟨P, none, none⟩)⟩ := by
  refine rest_good ⟨⟨hC, fun _ h => nomatch h⟩, ?_, by simpa using hne⟩ rfl ?_ ?_
  · exact List.forall_mem_map.mpr fun P hP => ⟨hPs P hP, fun _ h => nomatch h⟩
  · exact List.forall_mem_map.mpr fun _ _ => rfl
  · intro k hk
    rw [List.length_map, List.map_map]
    exact hp k (hL.1 ▸ hk)

/-- dipole, one coordinate: `2 · centre ≡ position_one + position_two (mod L)` (plain algebra: the `± direction·separation`
terms cancel) -/
theorem dipoleCoord_centre (l c dir s : ℚ) (hl : 0 < l) :
    Cong l (2 * c) ((dipoleCoord Ops.rat l c dir s).1 + (dipoleCoord Ops.rat l c dir s).2) := by
  simp only [dipoleCoord, pywrap_rat_pos _ _ hl]
  exact ⟨⌊(c + dir * s) / l⌋ + ⌊(c - dir * s) / l⌋, by push_cast; ring⟩

/-- water, one coordinate: `3 · centre ≡ hydrogen_one + oxygen + hydrogen_two (mod L)`
(`oxygen = centre − (a + b)/3`, `hydrogen_k = oxygen + oh_vector_k`) -/
theorem waterCoord_centre (l c a b : ℚ) (hl : 0 < l) :
    Cong l (3 * c) ((waterCoord Ops.rat l c a b).1 + (waterCoord Ops.rat l c a b).2.1 + (waterCoord Ops.rat l c a b).2.2) := by
  simp only [waterCoord, pywrap_rat_pos _ _ hl, rat_ofInt]
  exact ⟨⌊(c - (a + b) / ((3 : ℤ) : ℚ) + a) / l⌋ + ⌊(c - (a + b) / ((3 : ℤ) : ℚ)) / l⌋ + ⌊(c - (a + b) / ((3 : ℤ) : ℚ) + b) / l⌋, by
    push_cast; ring⟩

theorem dipoleLeaves_spec : ∀ (L C D : List ℚ) (s : ℚ), C.length = L.length → D.length = L.length →
    (dipoleLeaves Ops.rat L C D s).1.length = L.length ∧ (dipoleLeaves Ops.rat L C D s).2.length = L.length ∧
    ∀ k, k < L.length →
      (dipoleLeaves Ops.rat L C D s).1.getD k 0 = (dipoleCoord Ops.rat (L.getD k 0) (C.getD k 0) (D.getD k 0) s).1 ∧
      (dipoleLeaves Ops.rat L C D s).2.getD k 0 = (dipoleCoord Ops.rat (L.getD k 0) (C.getD k 0) (D.getD k 0) s).2
  | [], _, _, _, _, _ => ⟨rfl, rfl, fun _ hk => absurd hk (Nat.not_lt_zero _)⟩
  | l :: L, c :: C, dd :: D, s, h1, h2 => by
    obtain ⟨a1, a2, a3⟩ := dipoleLeaves_spec L C D s (Nat.succ.inj h1) (Nat.succ.inj h2)
    refine ⟨congrArg Nat.succ a1, congrArg Nat.succ a2, fun k hk => ?_⟩
    cases k with
    | zero => exact ⟨rfl, rfl⟩
    | succ k => exact a3 k (Nat.lt_of_succ_lt_succ hk)
  | _ :: _, [], _, _, h1, _ => by cases h1
  | _ :: _, _ :: _, [], _, _, h2 => by cases h2

theorem waterLeaves_spec : ∀ (L C A B : List ℚ), C.length = L.length → A.length = L.length → B.length = L.length →
    (waterLeaves Ops.rat L C A B).1.length = L.length ∧ (waterLeaves Ops.rat L C A B).2.1.length = L.length ∧
    (waterLeaves Ops.rat L C A B).2.2.length = L.length ∧
    ∀ k, k < L.length →
      (waterLeaves Ops.rat L C A B).1.getD k 0 = (waterCoord Ops.rat (L.getD k 0) (C.getD k 0) (A.getD k 0) (B.getD k 0)).1 ∧
      (waterLeaves Ops.rat L C A B).2.1.getD k 0 = (waterCoord Ops.rat (L.getD k 0) (C.getD k 0) (A.getD k 0) (B.getD k 0)).2.1 ∧
      (waterLeaves Ops.rat L C A B).2.2.getD k 0 = (waterCoord Ops.rat (L.getD k 0) (C.getD k 0) (A.getD k 0) (B.getD k 0)).2.2
  | [], _, _, _, _, _, _ => ⟨rfl, rfl, rfl, fun _ hk => absurd hk (Nat.not_lt_zero _)⟩
  | l :: L, c :: C, a :: A, b :: B, h1, h2, h3 => by
    obtain ⟨a1, a2, a3, a4⟩ := waterLeaves_spec L C A B (Nat.succ.inj h1) (Nat.succ.inj h2) (Nat.succ.inj h3)
    refine ⟨congrArg Nat.succ a1, congrArg Nat.succ a2, congrArg Nat.succ a3, fun k hk => ?_⟩
    cases k with
    | zero => exact ⟨rfl, rfl, rfl⟩
    | succ k => exact a4 k (Nat.lt_of_succ_lt_succ hk)
  | _ :: _, [], _, _, h1, _, _ => by cases h1
  | _ :: _, _ :: _, [], _, _, h2, _ => by cases h2
  | _ :: _, _ :: _, _ :: _, [], _, _, h3 => by cases h3

/-- **Base case, dipoles** (`DipoleRandomNodeCreator.fill_root_node`): root at the random centre, the two charges at
`centre ± direction · separation` folded into the box, everything at rest. -/
theorem dipole_initial_good {d : Nat} {L : List ℚ} (hL : BoxOK d L) (C D : List ℚ) (s : ℚ) (hC : C.length = d) (hD : D.length = d) :
    Good d L ⟨⟨C, none, none⟩, [⟨(dipoleLeaves Ops.rat L C D s).1, none, none⟩, ⟨(dipoleLeaves Ops.rat L C D s).2, none, none⟩]⟩ := by
  obtain ⟨a1, a2, a3⟩ := dipoleLeaves_spec L C D s (by rw [hC, hL.1]) (by rw [hD, hL.1])
  refine initial_good hL C [_, _] hC (List.cons_ne_nil _ _) (by simp [a1, a2, hL.1]) fun k hk => ?_
  obtain ⟨b1, b2⟩ := a3 k (hL.1 ▸ hk)
  obtain ⟨z, hz⟩ := dipoleCoord_centre (L.getD k 0) (C.getD k 0) (D.getD k 0) s (hL.pos hk)
  exact ⟨z, by simp only [List.length_cons, List.length_nil, List.map_cons, List.map_nil, List.sum_cons, List.sum_nil, b1, b2, ← hz]; push_cast; ring⟩

/-- **Base case, water** (`WaterRandomNodeCreator.fill_root_node`): root at the random centre; members (H, O, H). -/
theorem water_initial_good {d : Nat} {L : List ℚ} (hL : BoxOK d L) (C A B : List ℚ) (hC : C.length = d) (hA : A.length = d)
    (hB : B.length = d) :
    Good d L ⟨⟨C, none, none⟩, [⟨(waterLeaves Ops.rat L C A B).1, none, none⟩, ⟨(waterLeaves Ops.rat L C A B).2.1, none, none⟩,
      ⟨(waterLeaves Ops.rat L C A B).2.2, none, none⟩]⟩ := by
  obtain ⟨a1, a2, a3, a4⟩ := waterLeaves_spec L C A B (by rw [hC, hL.1]) (by rw [hA, hL.1]) (by rw [hB, hL.1])
  refine initial_good hL C [_, _, _] hC (List.cons_ne_nil _ _) (by simp [a1, a2, a3, hL.1]) fun k hk => ?_
  obtain ⟨b1, b2, b3⟩ := a4 k (hL.1 ▸ hk)
  obtain ⟨z, hz⟩ := waterCoord_centre (L.getD k 0) (C.getD k 0) (A.getD k 0) (B.getD k 0) (hL.pos hk)
  exact ⟨z, by simp only [List.length_cons, List.length_nil, List.map_cons, List.map_nil, List.sum_cons, List.sum_nil, b1, b2, b3, ← hz]; push_cast; ring⟩
/-! ### non-vacuity: two concrete histories (two dipoles in the unit square); their admissibility (`ex_leaf_admissible`,
`ex_root_admissible`) is derived in `JF/Props/C12Chain.lean` -/

section examples
deriving instance DecidableEq for JF.Time
deriving instance DecidableEq for JF.PUnit
deriving instance DecidableEq for JF.CObj

def exL : List ℚ := [1, 1]
/-- dipole at the centre, axis along x, half separation 1/4: members at x = 3/4 and 1/4 -/
def exC0 : CObj ℚ := ⟨⟨[1/2, 1/2], none, none⟩,
  [⟨(dipoleLeaves Ops.rat exL [1/2, 1/2] [1, 0] (1/4)).1, none, none⟩, ⟨(dipoleLeaves Ops.rat exL [1/2, 1/2] [1, 0] (1/4)).2, none, none⟩]⟩
/-- dipole across the periodic boundary: centre x = 1/10, members at x = 3/10 and 9/10 (image −1/10) -/
def exC1 : CObj ℚ := ⟨⟨[1/10, 1/5], none, none⟩,
  [⟨(dipoleLeaves Ops.rat exL [1/10, 1/5] [1, 0] (1/5)).1, none, none⟩, ⟨(dipoleLeaves Ops.rat exL [1/10, 1/5] [1, 0] (1/5)).2, none, none⟩]⟩

theorem exBox : BoxOK 2 exL := ⟨rfl, by intro l hl; simp [exL] at hl; subst hl; norm_num⟩

/-- base case instance: the creators' geometry, including a member folded across the boundary -/
theorem ex_initial : AllGood 2 exL [exC0, exC1] := by
  intro c hc
  simp only [List.mem_cons, List.not_mem_nil, or_false] at hc
  rcases hc with rfl | rfl
  · exact dipole_initial_good exBox _ _ _ rfl rfl
  · exact dipole_initial_good exBox _ _ _ rfl rfl

/-- leaf mode: start of run (one leaf), velocity exchange within the object at t = 1/2, end of chain at t = 1 handing the
chain to a leaf of the other object with a new direction, a sampling event at t = 3/2 -/
def exLeafHistory : List (Composite.Ev ℚ) :=
  [.start 0 [0] [1, 0], .exchange ⟨0, 1/2⟩ [0] 0 0 0 1, .eocLeaf ⟨1, 0⟩ 0 1 1 0 [0, 1], .keep ⟨1, 1/2⟩ [1]]

def exLeaf1 : List (CObj ℚ) :=
  [⟨⟨[1/2, 1/2], some [1/2, 0], some ⟨0, 0⟩⟩, [⟨[3/4, 1/2], some [1, 0], some ⟨0, 0⟩⟩, ⟨[1/4, 1/2], none, none⟩]⟩, exC1]
def exLeaf2 : List (CObj ℚ) :=
  [⟨⟨[3/4, 1/2], some [1/2, 0], some ⟨0, 1/2⟩⟩, [⟨[1/4, 1/2], none, none⟩, ⟨[1/4, 1/2], some [1, 0], some ⟨0, 1/2⟩⟩]⟩, exC1]

theorem exLeaf_step1 : step Ops.rat isZ exL [exC0, exC1] (.start 0 [0] [1, 0]) = exLeaf1 := by decide +kernel
theorem exLeaf_step2 : step Ops.rat isZ exL exLeaf1 (.exchange ⟨0, 1/2⟩ [0] 0 0 0 1) = exLeaf2 := by decide +kernel

/-- root mode: start of run with both leaves of object 0, pass of the velocity to object 1 at t = 1/4, switch to leaf
mode (leaf 1 keeps moving) at t = 1/2, back to root mode at t = 3/4, end of chain on the same object (new direction) at
t = 1, end of chain handing over to object 0 at t = 3/2 -/
def exRootHistory : List (Composite.Ev ℚ) :=
  [.start 0 [0, 1] [1, 0], .pass ⟨0, 1/4⟩ [0, 1] 0 1, .toLeaf ⟨0, 1/2⟩ 1 1, .toRoot ⟨0, 3/4⟩ 1, .eocRoot ⟨1, 0⟩ 1 1 [0, 1],
   .eocRoot ⟨1, 1/2⟩ 1 0 [1, 0]]

def exRoot1 : List (CObj ℚ) :=
  [⟨⟨[1/2, 1/2], some [1, 0], some ⟨0, 0⟩⟩, [⟨[3/4, 1/2], some [1, 0], some ⟨0, 0⟩⟩, ⟨[1/4, 1/2], some [1, 0], some ⟨0, 0⟩⟩]⟩, exC1]
def exRootRest0 : CObj ℚ := ⟨⟨[3/4, 1/2], none, none⟩, [⟨[0, 1/2], none, none⟩, ⟨[1/2, 1/2], none, none⟩]⟩
def exRoot2 : List (CObj ℚ) :=
  [exRootRest0, ⟨⟨[1/10, 1/5], some [1, 0], some ⟨0, 1/4⟩⟩,
    [⟨[3/10, 1/5], some [1, 0], some ⟨0, 1/4⟩⟩, ⟨[9/10, 1/5], some [1, 0], some ⟨0, 1/4⟩⟩]⟩]
def exRoot3 : List (CObj ℚ) :=
  [exRootRest0, ⟨⟨[7/20, 1/5], some [1/2, 0], some ⟨0, 1/2⟩⟩, [⟨[11/20, 1/5], none, none⟩, ⟨[3/20, 1/5], some [1, 0], some ⟨0, 1/2⟩⟩]⟩]
def exRoot4 : List (CObj ℚ) :=
  [exRootRest0, ⟨⟨[19/40, 1/5], some [1, 0], some ⟨0, 3/4⟩⟩,
    [⟨[11/20, 1/5], some [1, 0], some ⟨0, 3/4⟩⟩, ⟨[2/5, 1/5], some [1, 0], some ⟨0, 3/4⟩⟩]⟩]
def exRoot5 : List (CObj ℚ) :=
  [exRootRest0, ⟨⟨[29/40, 1/5], some [0, 1], some ⟨1, 0⟩⟩,
    [⟨[4/5, 1/5], some [0, 1], some ⟨1, 0⟩⟩, ⟨[13/20, 1/5], some [0, 1], some ⟨1, 0⟩⟩]⟩]

theorem exRoot_step1 : step Ops.rat isZ exL [exC0, exC1] (.start 0 [0, 1] [1, 0]) = exRoot1 := by decide +kernel
theorem exRoot_step2 : step Ops.rat isZ exL exRoot1 (.pass ⟨0, 1/4⟩ [0, 1] 0 1) = exRoot2 := by decide +kernel
theorem exRoot_step3 : step Ops.rat isZ exL exRoot2 (.toLeaf ⟨0, 1/2⟩ 1 1) = exRoot3 := by decide +kernel
theorem exRoot_step4 : step Ops.rat isZ exL exRoot3 (.toRoot ⟨0, 3/4⟩ 1) = exRoot4 := by decide +kernel
theorem exRoot_step5 : step Ops.rat isZ exL exRoot4 (.eocRoot ⟨1, 0⟩ 1 1 [0, 1]) = exRoot5 := by decide +kernel

/-- a cell-boundary event whose boundary is the coordinate reached at the event time: leaf 0 of object 0 started at
x = 3/4 with velocity 1 and reaches the boundary x = 0 (≡ 1) at t = 1/4 -/
example : Adm 2 exL (step Ops.rat isZ exL [exC0, exC1] (.start 0 [0] [1, 0])) (.snap ⟨0, 1/4⟩ [0] 0 (some 0) 0 0) := by
  rw [exLeaf_step1]
  intro c hc l hl
  obtain rfl := Option.some.inj hc
  obtain rfl := Option.some.inj hl
  decide +kernel
end examples

end JF.C12
