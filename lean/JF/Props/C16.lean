import JF.Model.Cells
import JF.Lemmas.CellsSys
import JF.Lemmas.CellsGeom
import JF.Lemmas.CellsStep
/-!
# C16 — The cell grid partitions the box; neighbour/offset relations form a torus

Model: `JF.Model.Cells` (after `cuboid_cells.py`, `cuboid_periodic_cells.py`).

Contents
* A, B — identifiers and torus laws (index bijection, the constructor enumerates the identifiers, nearby /
  neighbour = index arithmetic mod n, symmetric, reflexive).  They hold for EVERY scalar type, every float
  stepper and every fuel, i.e. also for the binary64 reading the driver runs: they only concern identifiers.
* C — positions in the exact reading (`ℚ`): partition of the box, `position_to_cell` is total on the closed box the
  assertion admits, `relative_cell` / `translate` as `(c ∓ r) mod n`, mutual inverses, translation invariance of
  nearby.  Hypotheses `Geo` / `GeoIdeal` describe the recorded extents (within `side/8` of / equal to the ideal
  `[i·side, (i+1)·side]`); they are NOT derived from the constructor, whose float stepping has no exact-reading
  counterpart — part D is the bridge.
* D — rounding-abstract reading of the stepping loops (`extent_sound`, `cells_abut`, `last_cell_reaches_top`,
  `position_in_recorded_extent`), any scalar type.
* E — binary64: the top of the box is covered, kernel-evaluated on `Float` on the witnesses of finding F2.

Finding F2 (repaired in /repo, commit 24644d9).  Until the repair of `cuboid_cells.py`, `position_to_cell` and the
stepping loops of the constructor used the raw quotient `int(p / side)`.  For the top floats of the box (`p = nextafter(L, 0)`, cell counts
3, 6, 7, 9, 12, …) the binary64 quotient rounds up to `n`: the position was looked up in a wrong cell or raised
`IndexError`, and the stepping ended the last cell's `cell_max` below `nextafter(L, 0)`, so the recorded extents did not
cover `[0, L)`.  The repair introduced `CuboidCells._cell_identifier` (`min(int(p / side), n - 1)`, model `cellDigit`)
for `position_to_cell` and the stepping loops, and bounds the upper stepping by the system length (the last `cell_max`
is the largest float below `L`).  Part E proves, on the witnesses of the finding: the raw quotient still overflows, so
the clamp is live (`float_digit_overflow`); the positions are found in the last cell, which contains them
(`float_position_in_last_cell`, `float_corner_position_in_last_cell`); the last `cell_max` is the largest float below
`L` (`float_last_cell_max_is_top`); the recorded extents tile one direction of the unit box (`float_unit_box_tiled`).
-/
namespace JF.C16
open JF JF.Cells

/-! ## A. identifiers -/

/-- **index bijection**: for cell counts `n_d ≥ 1` the list index `Σ ident[d]·cumulative_product[d]` is a
bijection between the identifiers `Π [0, n_d)` and `[0, Π n_d)`. -/
theorem index_bijection (n : List Int) (hp : ∀ x ∈ n, 1 ≤ x) :
    (∀ a, Valid n a → 0 ≤ flat n a ∧ flat n a < numberOfCells n) ∧
    (∀ a b, Valid n a → Valid n b → flat n a = flat n b → a = b) ∧
    (∀ k, 0 ≤ k → k < numberOfCells n → ∃ a, Valid n a ∧ flat n a = k) :=
  ⟨fun _ h => flat_bounds h, fun _ _ ha hb h => flat_inj ha hb h,
   fun k h0 h1 => ⟨unflat n k, unflat_valid hp h0 h1⟩⟩

example : Valid [3, 5, 7] [2, 4, 6] ∧ flat [3, 5, 7] [2, 4, 6] = 104 ∧ numberOfCells [3, 5, 7] = 105 := by
  refine ⟨by simp [Valid], by decide, by decide⟩

section anyScalar
variable {α : Type} [Add α] [Sub α] [Mul α] [Div α] [Neg α] [LT α] [DecidableLT α] [LE α] [DecidableLE α] [BEq α]

omit [Add α] [Sub α] [Neg α] in
/-- **the constructor enumerates the identifiers**: whenever `CuboidCells.__init__` succeeds (any scalar
type, any stepping functions), there are exactly `Π n_d` cells, cell number `k` carries a valid identifier
whose list index is `k` (so the constructor's own `assert` can never fire), and every valid identifier is
carried by exactly one cell. -/
theorem constructor_enumerates_identifiers (o : Ops α) (st : Stepper α) (fuel : Nat) (periodic : Bool)
    (lengths : List α) (cps : List Int) (layers : Int) (s : System α)
    (h : create o st fuel periodic lengths cps layers = .ok s) :
    (s.cells.size : Int) = numberOfCells s.perSide ∧
    (∀ k (hk : k < s.cells.size), Valid s.perSide s.cells[k].ident ∧ flat s.perSide s.cells[k].ident = k) ∧
    (∀ t, Valid s.perSide t → ∃ k, ∃ hk : k < s.cells.size, s.cells[k].ident = t ∧
        ∀ k' (hk' : k' < s.cells.size), s.cells[k'].ident = t → k' = k) := by
  have w := (create_wf o st fuel periodic lengths cps layers s h).1
  refine ⟨w.size, w.ident, ?_⟩
  intro t ht
  obtain ⟨k, hk, _, _, e⟩ := cellOfIdent_valid w ht
  exact ⟨k, hk, e, fun k' hk' e' => ident_inj w k' k hk' hk (by rw [e, e'])⟩

/-- non-vacuity: the constructor succeeds (native binary64, evaluated by the kernel) -/
example : (match create Ops.float Stepper.float 100 true [1.0, 2.0] [4, 3] 1 with
    | .ok s => s.cells.size | .error _ => 0) = 12 := by decide +kernel
end anyScalar

/-! ## B. nearby cells, neighbours (identifier arithmetic modulo `n`) -/

section torus
variable {α : Type} {s : System α}

/-- **nearby_spec**: `_yield_nearby_cells` never fails and yields cells of the system, exactly those whose identifier is
`(ident + k) mod n` with `|k_d| ≤ neighbor_layers` in every direction (`CuboidPeriodicCells`: `NearMod`) resp. lies in the
window `ident ± neighbor_layers` clipped to the grid (`CuboidCells`: `NearClip`). -/
theorem nearby_spec (w : WF s) (k : Nat) (hk : k < s.cells.size) :
    ∃ l, nearby s s.cells[k] = .ok l ∧ (∀ c ∈ l, ∃ k', ∃ hk' : k' < s.cells.size, c = s.cells[k']) ∧
      ∀ k' (hk' : k' < s.cells.size),
        (s.cells[k'] ∈ l ↔ Near s.periodic s.layers s.perSide s.cells[k].ident s.cells[k'].ident) := by
  have hmem := fun t => mem_nearbyIdents s.periodic (ℓ := s.layers) w.layers (n := s.perSide) t
    (w.ident k hk).1
  -- every identifier of the list is valid, so its lookup returns the cell that carries it
  have hlook : ∀ t ∈ nearbyIdents s.periodic s.perSide s.layers s.cells[k].ident,
      ∃ k', ∃ hk' : k' < s.cells.size, cellOfIdent s t = .ok s.cells[k'] ∧ s.cells[k'].ident = t := fun t ht =>
    let ⟨k', hk', _, hc, e⟩ := cellOfIdent_valid w (((hmem t).mp ht).valid w.pos)
    ⟨k', hk', hc, e⟩
  obtain ⟨l, hl, hl'⟩ := mapE_spec (cellOfIdent s) _ fun t ht => let ⟨_, _, hc, _⟩ := hlook t ht; ⟨_, hc⟩
  refine ⟨l, hl, fun c hc => ?_, fun k' hk' => ?_⟩
  · obtain ⟨t, ht, htc⟩ := (hl' c).mp hc
    obtain ⟨k', hk', hc', _⟩ := hlook t ht
    exact ⟨k', hk', Except.ok.inj (htc.symm.trans hc')⟩
  · rw [hl', ← hmem]
    constructor
    · rintro ⟨t, ht, htc⟩
      obtain ⟨k'', hk'', hc', e⟩ := hlook t ht
      rw [Except.ok.inj (htc.symm.trans hc'), e]
      exact ht
    · exact fun h => ⟨_, h, cellOfIdent_self w k' hk'⟩

theorem nearby_periodic_subset (w : WF s) (hp : s.periodic = true) (k : Nat) (hk : k < s.cells.size)
    (l : List (Cell α)) (hl : nearby s s.cells[k] = .ok l) :
    ∀ c ∈ l, ∃ k', ∃ hk' : k' < s.cells.size, c = s.cells[k'] := by
  obtain ⟨m, hm, hsub, _⟩ := nearby_spec w k hk
  rw [hl] at hm; cases hm
  exact hsub

/-- **nearby is symmetric and reflexive** (periodic and non-periodic cell systems) -/
theorem nearby_symm (w : WF s) (k k' : Nat) (hk : k < s.cells.size) (hk' : k' < s.cells.size)
    (l l' : List (Cell α)) (hl : nearby s s.cells[k] = .ok l) (hl' : nearby s s.cells[k'] = .ok l')
    (h : s.cells[k'] ∈ l) : s.cells[k] ∈ l' := by
  obtain ⟨m, hm, _, sp⟩ := nearby_spec w k hk
  obtain ⟨m', hm', _, sp'⟩ := nearby_spec w k' hk'
  rw [hl] at hm; cases hm; rw [hl'] at hm'; cases hm'
  exact (sp' k hk).mpr (((sp k' hk').mp h).symm (w.ident k hk).1)

theorem self_mem_nearby (w : WF s) (k : Nat) (hk : k < s.cells.size) :
    ∃ l, nearby s s.cells[k] = .ok l ∧ s.cells[k] ∈ l := by
  obtain ⟨m, hm, _, sp⟩ := nearby_spec w k hk
  exact ⟨m, hm, (sp k hk).mpr (Near.refl w.layers (w.ident k hk).1)⟩

/-- **neighbor_spec (periodic)**: `neighbor_cell(c, d, ±)` never fails and returns the cell whose identifier is
that of `c` with entry `d` replaced by `(c_d ± 1) mod n_d`. -/
theorem neighbor_spec_periodic (w : WF s) (hp : s.periodic = true) (k : Nat) (hk : k < s.cells.size)
    (d : Nat) (hd : d < s.perSide.length) (positive : Bool) :
    ∃ k', ∃ hk' : k' < s.cells.size, neighbor s s.cells[k] (d : Int) positive = .ok (some s.cells[k']) ∧
      s.cells[k'].ident = modifyDir s.cells[k].ident d
        (fun v => (v + (if positive then 1 else -1)) % s.perSide.getD d 1) := by
  have hv := (w.ident k hk).1
  have hb := getD_bounds d hv hd
  have hpos : 0 < s.perSide.getD d 1 := hb.1.trans_lt hb.2
  obtain ⟨k', hk', _, hlook, hid⟩ := cellOfIdent_valid w
    (valid_modifyDir d (fun v => (v + (if positive then 1 else -1)) % s.perSide.getD d 1) hv hd
      ⟨Int.emod_nonneg _ hpos.ne', Int.emod_lt_of_pos _ hpos⟩)
  exact ⟨k', hk', neighbor_some w _ hd positive (by rw [hp]; exact neighborIdent_periodic ..) hlook, hid⟩

/-- **neighbor_spec (non-periodic)**: `None` exactly at the border of the grid, otherwise the cell with entry
`d` of the identifier changed by `± 1`. -/
theorem neighbor_spec_clipped (w : WF s) (hp : s.periodic = false) (k : Nat) (hk : k < s.cells.size)
    (d : Nat) (hd : d < s.perSide.length) (positive : Bool) :
    let i := s.cells[k].ident.getD d 0
    let i' := i + (if positive then 1 else -1)
    (¬ (0 ≤ i' ∧ i' < s.perSide.getD d 1) → neighbor s s.cells[k] (d : Int) positive = .ok none) ∧
    ((0 ≤ i' ∧ i' < s.perSide.getD d 1) →
      ∃ k', ∃ hk' : k' < s.cells.size, neighbor s s.cells[k] (d : Int) positive = .ok (some s.cells[k']) ∧
        s.cells[k'].ident = modifyDir s.cells[k].ident d (fun v => v + (if positive then 1 else -1))) := by
  intro i i'
  have hv := (w.ident k hk).1
  have hb := getD_bounds d hv hd
  have hident := neighborIdent_clipped (n := s.perSide) positive hb.1 hb.2
  rw [← hp] at hident
  constructor
  · intro hout
    rw [if_neg hout] at hident
    exact neighbor_none w _ hd positive hident
  · intro hin
    rw [if_pos hin] at hident
    obtain ⟨k', hk', _, hlook, hid⟩ := cellOfIdent_valid w (valid_modifyDir d (fun v => v + (if positive then 1 else -1)) hv hd hin)
    exact ⟨k', hk', neighbor_some w _ hd positive hident hlook, hid⟩

theorem zeroCell_spec (w : WF s) : ∃ h0 : 0 < s.cells.size, zeroCell s = .ok s.cells[0] ∧
    s.cells[0].ident = List.replicate s.perSide.length 0 := by
  have hN := numberOfCells_pos w.pos
  have h0 : 0 < s.cells.size := by have := w.size; omega
  refine ⟨h0, ?_, ?_⟩
  · have := pyGet_nat s.cells 0 h0
    simpa [zeroCell] using this
  · obtain ⟨v, f⟩ := w.ident 0 h0
    exact flat_inj v (valid_replicate_zero w.pos) (by rw [f, flat_replicate_zero]; simp)

end torus

/-! ## C. positions: exact reading (`ℚ`)

`Geo s`: the per-direction data of the system are consistent (`n_d ≥ 1`, `side_d > 0`, `L_d = n_d·side_d`; this
is what `side = L / n` gives in exact arithmetic) and every recorded extent is within `side/8` of the ideal
extent `[i·side, (i+1)·side]` — the float-stepped extents of the real class are within one ulp of it.
`GeoIdeal s`: the recorded extents are the ideal ones (half-open reading `[min, max)`). -/

structure Geo (s : System ℚ) : Prop where
  dir : DirOK s.perSide s.side s.lengths
  ext : ∀ k (h : k < s.cells.size), ExtNear s.side s.cells[k].ident s.cells[k].cmin s.cells[k].cmax

structure GeoIdeal (s : System ℚ) : Prop where
  dir : DirOK s.perSide s.side s.lengths
  ext : ∀ k (h : k < s.cells.size), ExtIdeal s.side s.cells[k].ident s.cells[k].cmin s.cells[k].cmax

theorem GeoIdeal.geo {s : System ℚ} (g : GeoIdeal s) : Geo s :=
  ⟨g.dir, fun k h => (g.ext k h).near g.dir.pos.2⟩

section exact
variable {s : System ℚ}

private theorem positionToCell_eq (pos : List ℚ) (h : assertInBox s.lengths pos = true) :
    positionToCell Ops.rat s pos = cellOfIdent s (posIdent s.side s.perSide pos) := by
  unfold positionToCell
  unfold assertInBox at h
  simp only [h, Bool.not_true, Bool.false_eq_true, if_false]
  rfl

/-- **partition**: with ideal extents, every position of the box `Π [0, L_d)` is mapped by `position_to_cell`
to a cell whose extent `Π [min_d, max_d)` contains it, and no other cell's extent contains it. -/
theorem partition (w : WF s) (g : GeoIdeal s) (p : List ℚ) (hb : InBox s.lengths p) :
    ∃ k, ∃ hk : k < s.cells.size, positionToCell Ops.rat s p = .ok s.cells[k] ∧
      Contains s.cells[k].cmin s.cells[k].cmax p ∧
      ∀ k' (hk' : k' < s.cells.size), Contains s.cells[k'].cmin s.cells[k'].cmax p → k' = k := by
  obtain ⟨ha, hv, hc⟩ := posIdent_valid g.dir hb
  obtain ⟨k, hk, _, hlook, hid⟩ := cellOfIdent_valid w hv
  refine ⟨k, hk, ?_, ?_, ?_⟩
  · rw [positionToCell_eq p ha, hlook]
  · exact (hc _ _ _ (g.ext k hk) (w.ident k hk).1).mpr hid
  · intro k' hk' hcont
    have := (hc _ _ _ (g.ext k' hk') (w.ident k' hk').1).mp hcont
    exact ident_inj w k' k hk' hk (by rw [this, hid])

/-- **position_to_cell is total on the closed box**: every position the assertion of `position_to_cell` admits
(`0 ≤ p_d ≤ L_d`, the system length itself included) is mapped to a cell of the system — no `IndexError`, no lookup
through a negative or wrapped index (`_cell_identifier` clamps the digit to `n_d − 1`). -/
theorem position_to_cell_total (w : WF s) (dir : DirOK s.perSide s.side s.lengths) (p : List ℚ)
    (hb : InClosedBox s.lengths p) :
    ∃ k, ∃ hk : k < s.cells.size, positionToCell Ops.rat s p = .ok s.cells[k] ∧
      s.cells[k].ident = posIdent s.side s.perSide p ∧ Valid s.perSide s.cells[k].ident := by
  obtain ⟨ha, hv⟩ := posIdent_valid_closed dir hb
  obtain ⟨k, hk, _, hlook, hid⟩ := cellOfIdent_valid w hv
  exact ⟨k, hk, by rw [positionToCell_eq p ha, hlook], hid, by rw [hid]; exact hv⟩

/-- the system length itself is mapped to the last cell of its direction -/
theorem system_length_in_last_cell {side : ℚ} {n : ℤ} (hs : 0 < side) :
    cellDigit Ops.rat side n (n * side) = n - 1 := cellDigit_rat_top hs

example : InClosedBox [1, 2] [1, 2] ∧ ¬ InBox [1, 2] [1, 2] := by simp [InClosedBox, InBox]

/-- the mid-point trick of `relative_cell` (`sign = false`) and `translate` (`sign = true`): the position handed to
`position_to_cell` is mapped to the cell with identifier `(c ∓ r) mod n` -/
private theorem mid_spec (sign : Bool) (w : WF s) (g : Geo s) (k r : Nat) (hk : k < s.cells.size)
    (hr : r < s.cells.size) :
    ∃ k', ∃ hk' : k' < s.cells.size,
      positionToCell Ops.rat s (midPosition Ops.rat s sign s.cells[k] s.cells[r]) = .ok s.cells[k'] ∧
      s.cells[k'].ident = if sign then addMod s.perSide s.cells[k].ident s.cells[r].ident
        else subMod s.perSide s.cells[k].ident s.cells[r].ident := by
  obtain ⟨ha, hd⟩ := mid_digits sign g.dir (g.ext k hk) (g.ext r hr)
  have hv : Valid s.perSide (if sign then addMod s.perSide s.cells[k].ident s.cells[r].ident
      else subMod s.perSide s.cells[k].ident s.cells[r].ident) := by
    cases sign
    · exact subMod_valid (w.ident k hk).1 (w.ident r hr).1
    · exact addMod_valid (w.ident k hk).1 (w.ident r hr).1
  obtain ⟨k', hk', _, hlook, hid⟩ := cellOfIdent_valid w hv
  refine ⟨k', hk', ?_, hid⟩
  unfold midPosition
  rw [positionToCell_eq _ ha, hd]
  exact hlook

/-- **relative_spec**: `relative_cell(c, r)` never fails and returns the cell with identifier `(c − r) mod n` -/
theorem relative_spec (w : WF s) (g : Geo s) (k r : Nat) (hk : k < s.cells.size) (hr : r < s.cells.size) :
    ∃ k', ∃ hk' : k' < s.cells.size, relativeCell Ops.rat s s.cells[k] s.cells[r] = .ok s.cells[k'] ∧
      s.cells[k'].ident = subMod s.perSide s.cells[k].ident s.cells[r].ident :=
  mid_spec false w g k r hk hr

/-- **translate_spec**: `translate(c, o)` never fails and returns the cell with identifier `(c + o) mod n` -/
theorem translate_spec (w : WF s) (g : Geo s) (k r : Nat) (hk : k < s.cells.size) (hr : r < s.cells.size) :
    ∃ k', ∃ hk' : k' < s.cells.size, translate Ops.rat s s.cells[k] s.cells[r] = .ok s.cells[k'] ∧
      s.cells[k'].ident = addMod s.perSide s.cells[k].ident s.cells[r].ident :=
  mid_spec true w g k r hk hr

/-- **translate inverts relative_cell**: `translate(r, relative_cell(c, r)) = c` -/
theorem translate_relative (w : WF s) (g : Geo s) (k r : Nat) (hk : k < s.cells.size) (hr : r < s.cells.size) :
    ∃ k', ∃ hk' : k' < s.cells.size, relativeCell Ops.rat s s.cells[k] s.cells[r] = .ok s.cells[k'] ∧
      translate Ops.rat s s.cells[r] s.cells[k'] = .ok s.cells[k] := by
  obtain ⟨k', hk', h1, e1⟩ := relative_spec w g k r hk hr
  obtain ⟨k'', hk'', h2, e2⟩ := translate_spec w g r k' hr hk'
  refine ⟨k', hk', h1, ?_⟩
  rw [e1, addMod_subMod (w.ident k hk).1 (w.ident r hr).1] at e2
  have := ident_inj w k'' k hk'' hk e2
  subst this; exact h2

/-- **relative_cell inverts translate**: `relative_cell(translate(c, o), c) = o` -/
theorem relative_translate (w : WF s) (g : Geo s) (k r : Nat) (hk : k < s.cells.size) (hr : r < s.cells.size) :
    ∃ k', ∃ hk' : k' < s.cells.size, translate Ops.rat s s.cells[k] s.cells[r] = .ok s.cells[k'] ∧
      relativeCell Ops.rat s s.cells[k'] s.cells[k] = .ok s.cells[r] := by
  obtain ⟨k', hk', h1, e1⟩ := translate_spec w g k r hk hr
  obtain ⟨k'', hk'', h2, e2⟩ := relative_spec w g k' k hk' hk
  refine ⟨k', hk', h1, ?_⟩
  rw [e1, subMod_addMod (w.ident k hk).1 (w.ident r hr).1] at e2
  have := ident_inj w k'' r hk'' hr e2
  subst this; exact h2

/-- **translation invariance of nearby**: in a periodic cell system `c'` is nearby `c`
iff `relative_cell(c', c)` is nearby the zero cell. -/
theorem nearby_translation_invariant (w : WF s) (g : Geo s) (hp : s.periodic = true)
    (k k' : Nat) (hk : k < s.cells.size) (hk' : k' < s.cells.size) :
    ∃ (l l0 : List (Cell ℚ)) (z : Cell ℚ) (rel : Cell ℚ),
      nearby s s.cells[k] = .ok l ∧ zeroCell s = .ok z ∧ nearby s z = .ok l0 ∧
      relativeCell Ops.rat s s.cells[k'] s.cells[k] = .ok rel ∧
      (s.cells[k'] ∈ l ↔ rel ∈ l0) := by
  obtain ⟨l, hl, _, sp⟩ := nearby_spec w k hk
  obtain ⟨h0, hz, ez⟩ := zeroCell_spec w
  obtain ⟨l0, hl0, _, sp0⟩ := nearby_spec w 0 h0
  obtain ⟨j, hj, hrel, ej⟩ := relative_spec w g k' k hk' hk
  refine ⟨l, l0, s.cells[0], s.cells[j], hl, hz, hl0, hrel, ?_⟩
  rw [sp k' hk', sp0 j hj, ez, ej, Near, hp, if_pos rfl, Near, if_pos rfl]
  exact nearMod_iff_relative (w.ident k' hk').1 (w.ident k hk).1

/-- in exact arithmetic `side = L / n` gives `L = n · side`: the `DirOK` part of `Geo` is established by the
constructor for positive box lengths -/
theorem constructor_dirOK (st : Stepper ℚ) (fuel : Nat) (periodic : Bool) (lengths : List ℚ)
    (cps : List Int) (layers : Int) (s : System ℚ) (hL : ∀ l ∈ lengths, 0 < l)
    (h : create Ops.rat st fuel periodic lengths cps layers = .ok s) :
    DirOK s.perSide s.side s.lengths := by
  obtain ⟨w, _, e1, _, _, e3⟩ := create_wf Ops.rat st fuel periodic lengths cps layers s h
  rw [e3, e1]
  exact dirOK_of_div _ _ (by rw [w.dim, e1]) w.pos hL

/-! ### non-vacuity of `WF`, `Geo`, `GeoIdeal` -/

/-- a 2×2 grid on the box `[0,1) × [0,2)` with ideal extents -/
def exIdeal : System ℚ :=
  ⟨true, [1, 2], [2, 2], 1, [1/2, 1], [1, 2],
   #[⟨[0, 0], [0, 0], [1/2, 1]⟩, ⟨[1, 0], [1/2, 0], [1, 1]⟩, ⟨[0, 1], [0, 1], [1/2, 2]⟩, ⟨[1, 1], [1/2, 1], [1, 2]⟩]⟩

example : WF exIdeal ∧ GeoIdeal exIdeal := by
  refine ⟨⟨by simp [exIdeal], rfl, rfl, rfl, ?_, by simp [exIdeal]⟩, ⟨?_, ?_⟩⟩
  · intro k hk
    have hk' : k < 4 := hk
    have : k = 0 ∨ k = 1 ∨ k = 2 ∨ k = 3 := by omega
    rcases this with rfl | rfl | rfl | rfl <;>
      exact ⟨by simp [exIdeal, Valid], by simp [exIdeal, flat, cumProdFrom, dot]⟩
  · simp [exIdeal, DirOK]
  · intro k hk
    have hk' : k < 4 := hk
    have : k = 0 ∨ k = 1 ∨ k = 2 ∨ k = 3 := by omega
    rcases this with rfl | rfl | rfl | rfl <;> simp [exIdeal, ExtIdeal] <;> norm_num

/-- the constructor itself, read over `ℚ` with a fixed-point stepper (step 1/16), succeeds and records the
closed extents `[i·side, (i+1)·side − 1/16]`, which satisfy the `side/8` hypothesis of `Geo` -/
example : ((create Ops.rat ⟨(· + 1/16), (· - 1/16)⟩ 10 true [1, 2] [2, 2] 1).toOption.map
    (fun s => s.cells.toList.map (fun c => (c.ident, c.cmin, c.cmax)))) =
    some [([0, 0], [0, 0], [7/16, 15/16]), ([1, 0], [1/2, 0], [15/16, 15/16]),
          ([0, 1], [0, 1], [7/16, 31/16]), ([1, 1], [1/2, 1], [15/16, 31/16])] := by
  decide +kernel

example : ExtNear [1/2, 1] [1, 0] [1/2, 0] [15/16, 15/16] := by
  simp only [ExtNear, and_true]; norm_num [abs_le]

end exact

/-! ## D. the float-stepping loops, rounding-abstract reading -/

section stepping
variable {α : Type} [Mul α] [Div α] [LT α] [DecidableLT α] [LE α] [DecidableLE α] [BEq α]

/-- **extent_sound**: for any scalar type and any mutually inverse stepping functions along which the cell digit
`_cell_identifier(x) = min(int(x / side), n − 1)` is monotone and changes by at most one per step, and for which the
largest scalar below the system length has digit `n − 1` (`StepLaws`; true of binary64 as long as a cell is wider than
an ulp), the loops of `CuboidCells.__init__`, when they terminate, return for every cell `i < n` the two ends of the
maximal run of consecutive scalars below the system length that `position_to_cell` sends to index `i`:
`max < L`, `digit(max) = i`, and `next_up(max) < L ∧ digit(next_up(max)) = i + 1` for an inner cell resp.
`next_up(max) ≥ L` for the last cell (**its `cell_max` is the largest scalar below the system length**);
`digit(min) = i`, `digit(next_down(min)) = i − 1` (`min` of the first cell is the literal `0·side`). -/
theorem extent_sound (o : Ops α) (st : Stepper α) (fuel : Nat) (side : α) (n : Int) (len : α) (i : Int)
    (laws : StepLaws o st side n len) :
    (∀ u, i < n → (len ≤ o.ofInt (i + 1) * side ∨ i ≤ cellDigit o side n (o.ofInt (i + 1) * side)) →
        upperPos o st fuel side n len i = .ok u →
        u < len ∧ cellDigit o side n u = i ∧
          (i + 1 < n → st.up u < len ∧ cellDigit o side n (st.up u) = i + 1) ∧ (i + 1 = n → len ≤ st.up u)) ∧
    (∀ l, o.ofInt 0 < o.ofInt i * side → cellDigit o side n (o.ofInt i * side) ≤ i → lowerPos o st fuel side n i = .ok l →
        cellDigit o side n l = i ∧ cellDigit o side n (st.down l) = i - 1) ∧
    (¬ (o.ofInt 0 < o.ofInt i * side) → lowerPos o st fuel side n i = .ok (o.ofInt i * side)) :=
  ⟨fun u hi hs h => upperPos_sound o st fuel side n len i laws hi hs u h,
   fun l hp hs h => lowerPos_sound o st fuel side n len i laws hp hs l h,
   fun hp => lowerPos_origin o st fuel side n i hp⟩

/-- **cells abut**: under the order laws of the scalars (`OrderLaws`: total order, `up x` is the successor of
`x`, the cell digit is monotone), the scalar following `cell_max` of cell `i` is exactly `cell_min` of cell `i+1`
(both as characterised by `extent_sound`): consecutive cells neither overlap nor leave a scalar out. -/
theorem cells_abut {α : Type} [Div α] [LT α] [LE α] (o : Ops α) (st : Stepper α) (side : α) (n : Int)
    (laws : OrderLaws o st side n) (i : Int) (u l : α)
    (hu : cellDigit o side n u = i) (hu' : cellDigit o side n (st.up u) = i + 1)
    (hl : cellDigit o side n l = i + 1) (hl' : cellDigit o side n (st.down l) = i) : st.up u = l := by
  have h1 : u < l := by
    rcases laws.total l u with h | h
    · have := laws.mono _ _ h; omega
    · exact h
  have h2 : st.down l < st.up u := by
    rcases laws.total (st.up u) (st.down l) with h | h
    · have := laws.mono _ _ h; omega
    · exact h
  have h3 := laws.succ _ _ h2
  rw [laws.up_down] at h3
  exact laws.antisymm _ _ (laws.succ _ _ h1) h3

/-- **the last cell reaches the top of the box**: with `cell_max = u` of the last cell as characterised by
`extent_sound` (`next_up(u) ≥ L`), every scalar below the system length is `≤ u`: the recorded extents leave no scalar
of `[0, L)` out at the top. -/
theorem last_cell_reaches_top {α : Type} [Div α] [LT α] [LE α] (o : Ops α) (st : Stepper α) (side : α) (n : Int)
    (laws : OrderLaws o st side n) (lin : LinearLaws α) (len u x : α) (hu : len ≤ st.up u) (hx : ¬ len ≤ x) : x ≤ u :=
  (laws.total x u).elim id fun h => absurd (lin.trans _ _ _ hu (laws.succ _ _ h)) hx

/-- **a position lies in the recorded extent of the cell `position_to_cell` maps it to**: for a scalar `x` below the
system length with `_cell_identifier(x) = j`, and `lo`, `hi` the recorded `cell_min`, `cell_max` of cell `j` as
characterised by `extent_sound` (the first cell's `cell_min` is only known to be the origin: `lo ≤ x` is then the
hypothesis `0 ≤ x`), `lo ≤ x ≤ hi`. -/
theorem position_in_recorded_extent {α : Type} [Div α] [LT α] [LE α] (o : Ops α) (st : Stepper α) (side : α)
    (n : Int) (laws : OrderLaws o st side n) (lin : LinearLaws α) (len : α) (j : Int) (lo hi x : α)
    (hx : cellDigit o side n x = j) (hxl : ¬ len ≤ x)
    (hlo : lo ≤ x ∨ cellDigit o side n (st.down lo) = j - 1)
    (hhi : j + 1 < n → cellDigit o side n (st.up hi) = j + 1) (hhi' : ¬ j + 1 < n → len ≤ st.up hi) :
    lo ≤ x ∧ x ≤ hi := by
  constructor
  · rcases hlo with h | hlo
    · exact h
    rcases laws.total lo x with h | h
    · exact h
    · exfalso
      rcases laws.total x (st.down lo) with h' | h'
      · have := laws.mono _ _ h'; omega
      · have := laws.succ _ _ h'
        rw [laws.up_down] at this
        exact lin.not_le_of_lt _ _ h this
  · rcases laws.total x hi with h | h
    · exact h
    · exfalso
      have hs := laws.succ _ _ h
      by_cases hj : j + 1 < n
      · have := laws.mono _ _ hs; have := hhi hj; omega
      · exact hxl (lin.trans _ _ _ (hhi' hj) hs)

/-- non-vacuity of `StepLaws`: a fixed-point grid of spacing `δ ≤ side` over `ℚ` (2 cells of side 1/2, length 1) -/
example : StepLaws Ops.rat ⟨(· + 1/16), (· - 1/16)⟩ (1/2) 2 ((2 : ℤ) * (1/2)) :=
  stepLaws_grid (1/2) (1/16) 2 (by norm_num) (by norm_num) (by norm_num)

/-- non-vacuity: fixed-point scalars (`ℤ`, unit = one grid step), `int(x / side)` = floor division, `n` cells -/
private def fixOps : Ops Int := ⟨id, id, fun x y => x % y, id, fun _ => false, fun _ => 0, id⟩
example (side n : Int) (hs : 1 ≤ side) :
    OrderLaws fixOps ⟨(· + 1), (· - 1)⟩ side n ∧ StepLaws fixOps ⟨(· + 1), (· - 1)⟩ side n (n * side) ∧
      LinearLaws Int := by
  have dmono : ∀ x y : Int, x ≤ y → cellDigit fixOps side n x ≤ cellDigit fixOps side n y := by
    intro x y h
    have : x / side ≤ y / side := Int.ediv_le_ediv (by omega) h
    show min (x / side) (n - 1) ≤ min (y / side) (n - 1)
    omega
  refine ⟨⟨fun x y => by omega, fun x y h1 h2 => by omega, fun x y h => by show x + 1 ≤ y; omega,
    fun x => by show x - 1 + 1 = x; omega, dmono⟩,
    ⟨fun x => by show x - 1 + 1 = x; omega, fun x => by show x + 1 - 1 = x; omega,
     fun x => dmono _ _ (by show x - 1 ≤ x; omega), ?_, fun x => by omega, fun x h => by show ¬ n * side ≤ x - 1; omega,
     ?_⟩, ⟨fun x y z => Int.le_trans, fun x y h => by omega⟩⟩
  · intro x
    have : x / side ≤ (x - 1) / side + 1 := by
      have : (x - 1) / side + 1 = (x - 1 + 1 * side) / side := (Int.add_mul_ediv_right _ _ (by omega)).symm
      rw [this]
      exact Int.ediv_le_ediv (by omega) (by omega)
    show min (x / side) (n - 1) ≤ min ((x - 1) / side) (n - 1) + 1
    omega
  · intro x h _
    have : n - 1 ≤ (x - 1) / side := by
      have e : n - 1 = ((n - 1) * side) / side := (Int.mul_ediv_cancel _ (by omega)).symm
      rw [e]
      apply Int.ediv_le_ediv (by omega)
      have : (n - 1) * side = n * side - side := by rw [Int.sub_mul]; omega
      omega
    show min ((x - 1) / side) (n - 1) = n - 1
    omega

end stepping

/-! ## E. binary64: the top of the box is covered (witnesses of finding F2), proved on native `Float` by
kernel evaluation -/

/-- the largest float below 1.0 -/
def belowOne : Float := Float.ofBits 0x3FEFFFFFFFFFFFFF

/-- the raw quotient still overflows: `int(p / (1/3)) = 3` for `p = 1 − 2⁻⁵³` although `0 ≤ p < L = 1` (likewise for
6, 7, 9, 12 cells per side) — the clamp of `_cell_identifier` is live: it returns `n − 1` there -/
theorem float_digit_overflow :
    [3, 6, 7, 9, 12].all (fun n =>
      digit Ops.float ((1.0 : Float) / Ops.float.ofInt n) belowOne == n &&
      cellDigit Ops.float ((1.0 : Float) / Ops.float.ofInt n) n belowOne == n - 1) = true := by
  decide +kernel

/-- `cell_min[d] <= p[d] <= cell_max[d]` in every direction -/
def cellContains (c : Cell Float) (p : List Float) : Bool :=
  (zipWith3' (fun lo hi x => decide (lo ≤ x) && decide (x ≤ hi)) c.cmin c.cmax p).all id && c.cmin.length == p.length

/-- the 3×5×7 grid of the unit box: the three facts below, in one evaluation of the constructor -/
private theorem unit_box_357 :
    ((create Ops.float Stepper.float 1000 true [1.0, 1.0, 1.0] [3, 5, 7] 1).toOption.any fun s =>
      ((positionToCell Ops.float s [belowOne, 0.1, 0.1]).toOption.any fun c =>
        c.ident == [2, 0, 0] && cellContains c [belowOne, 0.1, 0.1]) &&
      ((positionToCell Ops.float s [belowOne, belowOne, belowOne]).toOption.any fun c =>
        c.ident == [2, 4, 6] && cellContains c [belowOne, belowOne, belowOne]) &&
      s.cells.toList.all (fun c =>
         (zipWith3' (fun (i n : Int) (hi : Float) =>
            if i + 1 == n then hi.toBits == 0x3FEFFFFFFFFFFFFF else decide (hi < belowOne)) c.ident s.perSide c.cmax).all id))
      = true := by
  decide +kernel

/-- on the 3×5×7 grid of the unit box, `position_to_cell((1 − 2⁻⁵³, 0.1, 0.1))` returns cell `(2, 0, 0)`, whose
recorded extent contains the position (before the repair: cell `(0, 1, 0)`, not containing it) -/
theorem float_position_in_last_cell :
    (match create Ops.float Stepper.float 1000 true [1.0, 1.0, 1.0] [3, 5, 7] 1 with
     | .ok s =>
       (match positionToCell Ops.float s [belowOne, 0.1, 0.1] with
        | .ok c => c.ident == [2, 0, 0] && cellContains c [belowOne, 0.1, 0.1]
        | .error _ => false)
     | .error _ => false) = true := by
  obtain ⟨s, hs, h⟩ := exists_ok_of_any unit_box_357
  simp only [Bool.and_eq_true] at h
  obtain ⟨c, hc, hg⟩ := exists_ok_of_any h.1.1
  simp only [hs, hc, hg]

/-- … and `position_to_cell((1 − 2⁻⁵³,)*3)` returns the last cell `(2, 4, 6)`, whose recorded extent contains the
position (before the repair: `IndexError`) -/
theorem float_corner_position_in_last_cell :
    (match create Ops.float Stepper.float 1000 true [1.0, 1.0, 1.0] [3, 5, 7] 1 with
     | .ok s =>
       (match positionToCell Ops.float s [belowOne, belowOne, belowOne] with
        | .ok c => c.ident == [2, 4, 6] && cellContains c [belowOne, belowOne, belowOne]
        | .error _ => false)
     | .error _ => false) = true := by
  obtain ⟨s, hs, h⟩ := exists_ok_of_any unit_box_357
  simp only [Bool.and_eq_true] at h
  obtain ⟨c, hc, hg⟩ := exists_ok_of_any h.1.2
  simp only [hs, hc, hg]

/-- the constructor's stepping ends the last cell of every direction at `1 − 2⁻⁵³`, the largest float below the system
length, and every other cell below it: the recorded extents cover the top of `[0, 1)` (before the repair the last cell
of direction 0 ended at `1 − 2⁻⁵²`) -/
theorem float_last_cell_max_is_top :
    (match create Ops.float Stepper.float 1000 true [1.0, 1.0, 1.0] [3, 5, 7] 1 with
     | .ok s => s.cells.toList.all (fun c =>
         (zipWith3' (fun (i n : Int) (hi : Float) =>
            if i + 1 == n then hi.toBits == 0x3FEFFFFFFFFFFFFF else decide (hi < belowOne)) c.ident s.perSide c.cmax).all id)
     | .error _ => false) = true := by
  obtain ⟨s, hs, h⟩ := exists_ok_of_any unit_box_357
  simp only [Bool.and_eq_true] at h
  simp only [hs, h.2]

/-- one direction of the unit box with `n = 1 … 12` cells: the first cell starts at `0.0`, the float following each
`cell_max` is the next cell's `cell_min`, the last `cell_max` is `1 − 2⁻⁵³`, and `position_to_cell` maps every recorded
`cell_min` / `cell_max` to its own cell -/
theorem float_unit_box_tiled :
    (List.range 12).all (fun k =>
      match create Ops.float Stepper.float 1000 false [1.0] [(k : Int) + 1] 1 with
      | .ok s =>
        let cs := s.cells.toList
        (cs.head?.map (fun c => c.cmin.map Float.toBits)) == some [0] &&
        (cs.getLast?.map (fun c => c.cmax.map Float.toBits)) == some [0x3FEFFFFFFFFFFFFF] &&
        (List.zipWith (fun (a b : Cell Float) => (a.cmax.map (fun x => (fNextUp x).toBits)) == b.cmin.map Float.toBits)
          cs cs.tail).all id &&
        cs.all (fun c =>
          (match positionToCell Ops.float s c.cmin with | .ok c' => c'.ident == c.ident | .error _ => false) &&
          (match positionToCell Ops.float s c.cmax with | .ok c' => c'.ident == c.ident | .error _ => false))
      | .error _ => false) = true := by
  decide +kernel

end JF.C16
