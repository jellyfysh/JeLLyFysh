import JF.Model.Periodic
import JF.Lemmas.Periodic
import JF.Lemmas.PeriodicRnd
import JF.Lemmas.ModL
import Mathlib.Algebra.Order.Floor.Ring
import Mathlib.Algebra.Order.AbsoluteValue.Basic
import Mathlib.Data.Rat.Floor
import Mathlib.Tactic.Linarith
import Mathlib.Tactic.Ring
import Mathlib.Tactic.FieldSimp
/-!
# C15 — Periodic wrapping and minimum-image separations are exact modular arithmetic

Exact reading (`Ops.rat`, scalars in `ℚ`) of the model `JF.Model.Periodic` of
`HypercubicPeriodicBoundaries` / `HypercuboidPeriodicBoundaries`:

* §1 scalar mechanisms `x % L` and `(s + L/2) % L - L/2`: range, congruence, uniqueness, idempotence, minimality
  (`JF/Lemmas/ModL.lean`, which the kinematics, cells and output lemmas share; here only the numeric instances);
* §2 set-up (`HypercubicSetting`, `HypercuboidSetting`): exactly which arguments are accepted and what state results;
* §3 the methods of the cubic class, entry and vector forms;
* §4 the methods of the cuboid class (per-direction lengths, Python indexing, `IndexError` outcomes);
* §5 cubic = cuboid when all lengths are equal — for EVERY scalar type and `Ops` record, so also for binary64;
* §6 binary64 (kernel-evaluated on native `Float`): on the witnesses of the finding below the float modulo still rounds
  to `L`, and the repaired `correct_position_entry` returns `0.0` (inside `[0, L)`) and is idempotent; nan passes through;
  the separation bound `|r| ≤ L/2` is closed (`+L/2` is reachable);
* §7 rounding-abstract reading (`RQ R`: `+`/`-` round with an arbitrary monotone idempotent rounding, `fmod` exact):
  for ALL inputs the HALF-OPEN range `0 ≤ y < L` and idempotence of the position correction, the position is the exact
  result rounded once (or `0` when that rounding is `L`), non-negative inputs are wrapped exactly, `[0, L)` is fixed
  point-wise; `|r| ≤ L/2` for the separation.  A toy rounding shows that the modulo alone does reach `L` under these
  hypotheses, i.e. that the `!= L` branch is needed.

The position correction mirrors the repaired `correct_position_entry` of /repo (`r = x % L; r if r != L else 0.0`, model
`JF.pywrap`).  The bare `x % L` it replaced returns `L` itself for tiny negative entries in binary64 (known finding
`correct_position:tiny-negative-returns-L`): §6 keeps the witnesses (`float_modulo_rounds_to_L`) and shows the repaired
function right on them.
-/
namespace JF.C15
open JF JF.Periodic

/-! ## 1. the scalar mechanisms (theorems: `JF/Lemmas/ModL.lean`) -/

/-- non-vacuity of the scalar statements: a negative position many boxes away and a separation just above `L/2` -/
example : wrap Ops.rat (-7 - 1 / 3) (5 / 2) = 1 / 6 := by
  rw [wrap_eq (by norm_num)]
  have : ⌊((-7 - 1 / 3 : ℚ)) / (5 / 2)⌋ = -3 := by rw [Int.floor_eq_iff]; norm_num
  rw [this]; norm_num
example : wrapSep Ops.rat (13 / 10) (5 / 2) ((5 / 2) / 2) = -(6 / 5) := by
  rw [wrapSep_eq (by norm_num)]
  have : ⌊((13 / 10 : ℚ) + (5 / 2) / 2) / (5 / 2)⌋ = 1 := by rw [Int.floor_eq_iff]; norm_num
  rw [this]; norm_num

/-! ## 2. the set-up -/

/-- `HypercubicSetting(dimension = d, system_length = L)` succeeds exactly for `d > 0`, `L > 0`, and then the state is
`(d, L, L/2)` -/
theorem cubic_init_iff {d : ℤ} {L : ℚ} {c : Cubic ℚ} :
    Cubic.init Ops.rat d L = .ok c ↔ 0 < d ∧ 0 < L ∧ c = ⟨d.toNat, L, L / 2⟩ := by
  unfold Cubic.init
  simp only [rat_ofInt, Int.cast_zero, Int.cast_ofNat]
  split_ifs with hd hL
  · exact ⟨nofun, fun h => absurd h.1 (not_lt.mpr hd)⟩
  · exact ⟨nofun, fun h => absurd h.2.1 (not_lt.mpr hL)⟩
  · rw [Except.ok.injEq]
    exact ⟨fun h => ⟨not_le.mp hd, not_le.mp hL, h.symm⟩, fun h => h.2.2.symm⟩

/-- `HypercuboidSetting(system_lengths = Ls, dimension = d)` succeeds exactly for `d > 0`, `len(Ls) = d`, all lengths
positive, and then the state is `(d, Ls, [l/2 for l in Ls])` -/
theorem cuboid_init_iff {d : ℤ} {Ls : List ℚ} {c : Cuboid ℚ} :
    Cuboid.init Ops.rat d Ls = .ok c ↔
      0 < d ∧ (Ls.length : ℤ) = d ∧ (∀ l ∈ Ls, 0 < l) ∧ c = ⟨d.toNat, Ls, Ls.map (· / 2)⟩ := by
  have hany : (Ls.any fun l => decide (l ≤ 0)) = true ↔ ¬ ∀ l ∈ Ls, 0 < l := by
    simp only [List.any_eq_true, decide_eq_true_eq, not_forall, not_lt, exists_prop]
  unfold Cuboid.init
  simp only [rat_ofInt, Int.cast_zero, Int.cast_ofNat]
  split_ifs with hd hn ha
  · exact ⟨nofun, fun h => absurd h.1 (not_lt.mpr hd)⟩
  · exact ⟨nofun, fun h => absurd h.2.1 hn⟩
  · exact ⟨nofun, fun h => absurd h.2.2.1 (hany.mp ha)⟩
  · rw [Except.ok.injEq]
    exact ⟨fun h => ⟨not_le.mp hd, not_not.mp hn, not_not.mp (mt hany.mpr ha), h.symm⟩, fun h => h.2.2.2.symm⟩

/-- non-vacuity: a 3-dimensional cubic box and a cuboid box with three different lengths are accepted -/
example : Cubic.init Ops.rat 3 (5 / 2) = .ok ⟨3, 5 / 2, (5 / 2) / 2⟩ :=
  cubic_init_iff.mpr ⟨by norm_num, by norm_num, rfl⟩
example : Cuboid.init Ops.rat 3 [1, 5 / 2, 7] = .ok ⟨3, [1, 5 / 2, 7], [1, 5 / 2, 7].map (· / 2)⟩ :=
  cuboid_init_iff.mpr ⟨by norm_num, by simp, by simp, rfl⟩

/-! ## 3. `HypercubicPeriodicBoundaries` -/

/-- specification of a corrected position entry: THE representative in `[0, L)` -/
def IsPos (L x y : ℚ) : Prop := 0 ≤ y ∧ y < L ∧ Congr L x y
/-- specification of a corrected separation entry: THE representative in `[-L/2, L/2)` -/
def IsSep (L s r : ℚ) : Prop := -(L / 2) ≤ r ∧ r < L / 2 ∧ Congr L s r

theorem IsPos.unique {L x y y' : ℚ} (hL : 0 < L) (h : IsPos L x y) (h' : IsPos L x y') : y = y' := by
  rw [wrap_unique hL h.1 h.2.1 h.2.2, wrap_unique hL h'.1 h'.2.1 h'.2.2]
theorem IsSep.unique {L s r r' : ℚ} (hL : 0 < L) (h : IsSep L s r) (h' : IsSep L s r') : r = r' := by
  rw [wrapSep_unique hL h.1 h.2.1 h.2.2, wrapSep_unique hL h'.1 h'.2.1 h'.2.2]
theorem IsSep.abs_le {L s r : ℚ} (h : IsSep L s r) : |r| ≤ L / 2 := by
  rw [_root_.abs_le]; exact ⟨h.1, h.2.1.le⟩
theorem isPos_wrap {L : ℚ} (hL : 0 < L) (x : ℚ) : IsPos L x (wrap Ops.rat x L) :=
  ⟨(wrap_range hL).1, (wrap_range hL).2, wrap_congr hL⟩
theorem isSep_wrapSep {L : ℚ} (hL : 0 < L) (s : ℚ) : IsSep L s (wrapSep Ops.rat s L (L / 2)) :=
  ⟨(wrapSep_range hL).1, (wrapSep_range hL).2, wrapSep_congr hL⟩

section cubic
variable {d : ℤ} {L : ℚ} {c : Cubic ℚ}

theorem cubic_correctPositionEntry (hc : Cubic.init Ops.rat d L = .ok c) (x : ℚ) (i : ℤ) :
    IsPos L x (c.correctPositionEntry Ops.rat x i) := by
  obtain ⟨-, hL, rfl⟩ := cubic_init_iff.mp hc
  exact isPos_wrap hL x

theorem cubic_correctPositionEntry_idem (hc : Cubic.init Ops.rat d L = .ok c) (x : ℚ) (i i' : ℤ) :
    c.correctPositionEntry Ops.rat (c.correctPositionEntry Ops.rat x i) i' = c.correctPositionEntry Ops.rat x i := by
  obtain ⟨-, hL, rfl⟩ := cubic_init_iff.mp hc
  exact wrap_idem hL

/-- `correct_position`: same number of entries, every entry is the representative of the input entry in `[0, L)` -/
theorem cubic_correctPosition (hc : Cubic.init Ops.rat d L = .ok c) (p : List ℚ) :
    (c.correctPosition Ops.rat p).length = p.length ∧
      ∀ j (hp : j < p.length) (hr : j < (c.correctPosition Ops.rat p).length),
        IsPos L p[j] (c.correctPosition Ops.rat p)[j] := by
  refine ⟨by simp [Cubic.correctPosition], ?_⟩
  intro j hp hr
  simp only [Cubic.correctPosition, List.getElem_mapIdx]
  exact cubic_correctPositionEntry hc _ _

theorem cubic_correctPosition_idem (hc : Cubic.init Ops.rat d L = .ok c) (p : List ℚ) :
    c.correctPosition Ops.rat (c.correctPosition Ops.rat p) = c.correctPosition Ops.rat p := by
  apply List.ext_getElem
  · simp [Cubic.correctPosition]
  · intro j h1 h2
    simp only [Cubic.correctPosition, List.getElem_mapIdx]
    exact cubic_correctPositionEntry_idem hc _ _ _

theorem cubic_correctSeparationEntry (hc : Cubic.init Ops.rat d L = .ok c) (s : ℚ) (i : ℤ) :
    IsSep L s (c.correctSeparationEntry Ops.rat s i) := by
  obtain ⟨-, hL, rfl⟩ := cubic_init_iff.mp hc
  exact isSep_wrapSep hL s

/-- … is the shortest of all periodic images of the separation -/
theorem cubic_correctSeparationEntry_minimal (hc : Cubic.init Ops.rat d L = .ok c) (s : ℚ) (i k : ℤ) :
    |c.correctSeparationEntry Ops.rat s i| ≤ |s + k * L| := by
  obtain ⟨-, hL, rfl⟩ := cubic_init_iff.mp hc
  exact wrapSep_minimal hL k

theorem cubic_correctSeparation (hc : Cubic.init Ops.rat d L = .ok c) (s : List ℚ) :
    (c.correctSeparation Ops.rat s).length = s.length ∧
      ∀ j (hp : j < s.length) (hr : j < (c.correctSeparation Ops.rat s).length),
        IsSep L s[j] (c.correctSeparation Ops.rat s)[j] := by
  refine ⟨by simp [Cubic.correctSeparation], ?_⟩
  intro j hp hr
  simp only [Cubic.correctSeparation, List.getElem_mapIdx]
  exact cubic_correctSeparationEntry hc _ _

/-- `separation_vector(reference, target)` for positions with (at least) `dimension` entries: a vector with `dimension`
entries; entry `j` is congruent to `target[j] - reference[j]` modulo `L` and lies in `[-L/2, L/2)` -/
theorem cubic_separationVector (hc : Cubic.init Ops.rat d L = .ok c) (ref tgt : List ℚ)
    (hr : d.toNat ≤ ref.length) (ht : d.toNat ≤ tgt.length) :
    ∃ r, c.separationVector Ops.rat ref tgt = some r ∧ r.length = d.toNat ∧
      ∀ j (hj : j < d.toNat) (hjr : j < r.length), IsSep L (tgt[j]'(hj.trans_le ht) - ref[j]'(hj.trans_le hr)) r[j] := by
  obtain ⟨-, hL, rfl⟩ := cubic_init_iff.mp hc
  refine ⟨_, cubic_separationVector_eq _ _ hr ht, by simp [hr, ht], fun j hj hjr => ?_⟩
  simp only [List.getElem_zipWith, List.getElem_take]
  exact isSep_wrapSep hL _

/-- `separation_vector` on a position with fewer than `dimension` entries is the `IndexError` outcome -/
theorem cubic_separationVector_none (hc : Cubic.init Ops.rat d L = .ok c) (ref tgt : List ℚ)
    (h : ref.length < d.toNat ∨ tgt.length < d.toNat) : c.separationVector Ops.rat ref tgt = none := by
  obtain ⟨-, -, rfl⟩ := cubic_init_iff.mp hc
  unfold Cubic.separationVector
  rw [rawSeparation_none h]; rfl

/-- `next_image` moves to a congruent position: the corrected position does not change -/
theorem cubic_nextImage (hc : Cubic.init Ops.rat d L = .ok c) (x : ℚ) (i i' : ℤ) :
    c.correctPositionEntry Ops.rat (c.nextImage x i) i' = c.correctPositionEntry Ops.rat x i' := by
  obtain ⟨-, hL, rfl⟩ := cubic_init_iff.mp hc
  have := wrap_add_int_mul (x := x) hL 1
  simpa [Cubic.correctPositionEntry, Cubic.nextImage] using this

end cubic

/-! ## 4. `HypercuboidPeriodicBoundaries` -/

section cuboid
variable {d : ℤ} {Ls : List ℚ} {c : Cuboid ℚ}

/-- `correct_position_entry(x, j)` for a direction `0 ≤ j < dimension`: the representative of `x` in `[0, L_j)` -/
theorem cuboid_correctPositionEntry (hc : Cuboid.init Ops.rat d Ls = .ok c) (x : ℚ) (j : ℕ) (hj : j < Ls.length) :
    c.correctPositionEntry Ops.rat x j = some (wrap Ops.rat x Ls[j]) ∧ IsPos Ls[j] x (wrap Ops.rat x Ls[j]) := by
  obtain ⟨-, -, hpos, rfl⟩ := cuboid_init_iff.mp hc
  refine ⟨by simp [Cuboid.correctPositionEntry, pyGet_natCast, hj], isPos_wrap (hpos _ (List.getElem_mem hj)) x⟩

/-- whatever (legal, possibly negative) Python index is passed, the result is the representative with respect to one of
the box lengths -/
theorem cuboid_correctPositionEntry_some (hc : Cuboid.init Ops.rat d Ls = .ok c) (x y : ℚ) (i : ℤ)
    (h : c.correctPositionEntry Ops.rat x i = some y) : ∃ L ∈ Ls, IsPos L x y := by
  obtain ⟨-, -, hpos, rfl⟩ := cuboid_init_iff.mp hc
  simp only [Cuboid.correctPositionEntry] at h
  cases hg : pyGet Ls i with
  | none => simp [hg] at h
  | some L =>
    simp [hg] at h
    subst h
    exact ⟨L, pyGet_mem hg, isPos_wrap (hpos _ (pyGet_mem hg)) x⟩

/-- an index outside `-dimension ≤ i < dimension` is the `IndexError` outcome -/
theorem cuboid_correctPositionEntry_indexError (hc : Cuboid.init Ops.rat d Ls = .ok c) (x : ℚ) (i : ℤ)
    (h : d ≤ i ∨ i < -d) : c.correctPositionEntry Ops.rat x i = none := by
  obtain ⟨-, hlen, -, rfl⟩ := cuboid_init_iff.mp hc
  simp [Cuboid.correctPositionEntry, pyGet_none (l := Ls) (i := i) (by omega)]

/-- `correct_position` for a position with at most `dimension` entries: entry `j` becomes its representative in
`[0, L_j)`; and the function is idempotent -/
theorem cuboid_correctPosition (hc : Cuboid.init Ops.rat d Ls = .ok c) (p : List ℚ) (hp : p.length ≤ Ls.length) :
    ∃ r, c.correctPosition Ops.rat p = some r ∧ r.length = p.length ∧
      (∀ j (hjp : j < p.length) (hjr : j < r.length) (hjL : j < Ls.length), IsPos Ls[j] p[j] r[j]) ∧
      c.correctPosition Ops.rat r = some r := by
  obtain ⟨-, -, hpos, rfl⟩ := cuboid_init_iff.mp hc
  refine ⟨_, cuboid_correctPosition_eq _ _ p hp, by simp [hp], ?_, ?_⟩
  · intro j hjp hjr hjL
    simp only [List.getElem_zipWith]
    exact isPos_wrap (hpos _ (List.getElem_mem hjL)) _
  · rw [cuboid_correctPosition_eq _ _ _ (by simp [hp])]
    congr 1
    apply List.ext_getElem
    · simp [hp]
    · intro j h1 h2
      simp only [List.getElem_zipWith]
      have hjL : j < Ls.length := by simp at h2; omega
      exact wrap_idem (hpos _ (List.getElem_mem hjL))

/-- a position with more than `dimension` entries is the `IndexError` outcome -/
theorem cuboid_correctPosition_indexError (hc : Cuboid.init Ops.rat d Ls = .ok c) (p : List ℚ)
    (hp : Ls.length < p.length) : c.correctPosition Ops.rat p = none := by
  obtain ⟨-, -, -, rfl⟩ := cuboid_init_iff.mp hc
  exact cuboid_correctPosition_none _ _ p hp

/-- `correct_separation_entry(s, j)`: the representative of `s` in `[-L_j/2, L_j/2)`, the shortest periodic image -/
theorem cuboid_correctSeparationEntry (hc : Cuboid.init Ops.rat d Ls = .ok c) (s : ℚ) (j : ℕ) (hj : j < Ls.length) :
    ∃ r, c.correctSeparationEntry Ops.rat s j = some r ∧ IsSep Ls[j] s r ∧ ∀ k : ℤ, |r| ≤ |s + k * Ls[j]| := by
  obtain ⟨-, -, hpos, rfl⟩ := cuboid_init_iff.mp hc
  have hL := hpos _ (List.getElem_mem hj)
  refine ⟨wrapSep Ops.rat s Ls[j] (Ls[j] / 2), ?_, isSep_wrapSep hL s, fun k => wrapSep_minimal hL k⟩
  simp [Cuboid.correctSeparationEntry, pyGet_natCast, hj]

theorem cuboid_correctSeparationEntry_indexError (hc : Cuboid.init Ops.rat d Ls = .ok c) (s : ℚ) (i : ℤ)
    (h : d ≤ i ∨ i < -d) : c.correctSeparationEntry Ops.rat s i = none := by
  obtain ⟨-, hlen, -, rfl⟩ := cuboid_init_iff.mp hc
  have : pyGet (Ls.map (· / 2)) i = none := pyGet_none (by simp; omega)
  simp [Cuboid.correctSeparationEntry, this]

/-- `correct_separation` for a vector with at most `dimension` entries -/
theorem cuboid_correctSeparation (hc : Cuboid.init Ops.rat d Ls = .ok c) (s : List ℚ) (hs : s.length ≤ Ls.length) :
    ∃ r, c.correctSeparation Ops.rat s = some r ∧ r.length = s.length ∧
      ∀ j (hjs : j < s.length) (hjr : j < r.length) (hjL : j < Ls.length), IsSep Ls[j] s[j] r[j] := by
  obtain ⟨-, -, hpos, rfl⟩ := cuboid_init_iff.mp hc
  refine ⟨_, cuboid_correctSeparation_eq _ _ s hs (by simpa using hs), by simp [hs], ?_⟩
  intro j hjs hjr hjL
  simp only [List.getElem_zipWith, List.getElem_zip, List.getElem_map]
  exact isSep_wrapSep (hpos _ (List.getElem_mem hjL)) _

theorem cuboid_correctSeparation_indexError (hc : Cuboid.init Ops.rat d Ls = .ok c) (s : List ℚ)
    (hs : Ls.length < s.length) : c.correctSeparation Ops.rat s = none := by
  obtain ⟨-, -, -, rfl⟩ := cuboid_init_iff.mp hc
  exact cuboid_correctSeparation_none _ _ s (Or.inl hs)

/-- `separation_vector(reference, target)` for positions with (at least) `dimension` entries: `dimension` entries; entry
`j` is congruent to `target[j] - reference[j]` modulo `L_j`, lies in `[-L_j/2, L_j/2)` (so `|r_j| ≤ L_j/2`) -/
theorem cuboid_separationVector (hc : Cuboid.init Ops.rat d Ls = .ok c) (ref tgt : List ℚ)
    (hr : Ls.length ≤ ref.length) (ht : Ls.length ≤ tgt.length) :
    ∃ r, c.separationVector Ops.rat ref tgt = some r ∧ r.length = Ls.length ∧
      ∀ j (hj : j < Ls.length) (hjr : j < r.length), IsSep Ls[j] (tgt[j]'(hj.trans_le ht) - ref[j]'(hj.trans_le hr)) r[j] := by
  obtain ⟨hd, hlen, hpos, rfl⟩ := cuboid_init_iff.mp hc
  have hdim : d.toNat = Ls.length := by omega
  refine ⟨_, cuboid_separationVector_eq _ _ (hdim.le.trans hr) (hdim.le.trans ht) hdim.le (by simp [hdim]),
    by simp [hdim, hr, ht], fun j hj hjr => ?_⟩
  simp only [List.getElem_zipWith, List.getElem_zip, List.getElem_map, List.getElem_take]
  exact isSep_wrapSep (hpos _ (List.getElem_mem hj)) _

theorem cuboid_separationVector_indexError (hc : Cuboid.init Ops.rat d Ls = .ok c) (ref tgt : List ℚ)
    (h : ref.length < Ls.length ∨ tgt.length < Ls.length) : c.separationVector Ops.rat ref tgt = none := by
  obtain ⟨hd, hlen, -, hceq⟩ := cuboid_init_iff.mp hc
  have hdim : c.dim = Ls.length := by rw [hceq]; simp only; omega
  unfold Cuboid.separationVector
  rw [rawSeparation_none (hdim ▸ h)]; rfl

/-- `next_image(x, j)` moves to a congruent position with respect to `L_j` -/
theorem cuboid_nextImage (hc : Cuboid.init Ops.rat d Ls = .ok c) (x : ℚ) (j : ℕ) (hj : j < Ls.length) :
    c.nextImage x j = some (x + Ls[j]) ∧ wrap Ops.rat (x + Ls[j]) Ls[j] = wrap Ops.rat x Ls[j] := by
  obtain ⟨-, -, hpos, rfl⟩ := cuboid_init_iff.mp hc
  refine ⟨by simp [Cuboid.nextImage, pyGet_natCast, hj], ?_⟩
  simpa using wrap_add_int_mul (x := x) (hpos _ (List.getElem_mem hj)) 1

end cuboid

/-! ## 5. cubic = cuboid when all lengths are equal

For EVERY scalar type `α` and every `Ops α` (so in particular for binary64, bit for bit): the cuboid class, run on the
state that `HypercubicSetting` writes into the cuboid module — which is also exactly the state
`HypercuboidSetting([L, …, L])` produces — returns what the cubic class returns. -/

section agreement
variable {α : Type}

section
variable [Div α] [LE α] [DecidableLE α]

theorem cubic_init_ok {o : Ops α} {d : ℤ} {L : α} {c : Cubic α} (h : Cubic.init o d L = .ok c) :
    0 < d ∧ ¬ (L ≤ o.ofInt 0) ∧ c = ⟨d.toNat, L, L / o.ofInt 2⟩ := by
  unfold Cubic.init at h
  by_cases hd : d ≤ 0
  · rw [if_pos hd] at h; cases h
  · rw [if_neg hd] at h
    by_cases hL : L ≤ o.ofInt 0
    · rw [if_pos hL] at h; cases h
    · rw [if_neg hL, Except.ok.injEq] at h
      exact ⟨not_le.mp hd, hL, h.symm⟩

/-- `HypercuboidSetting([L]*d, dimension=d)` yields the very state that `HypercubicSetting(d, L)` writes into the
cuboid module (`_set_similar_settings`) -/
theorem cuboid_init_replicate {o : Ops α} {d : ℤ} {L : α} {c : Cubic α} (h : Cubic.init o d L = .ok c) :
    Cuboid.init o d (List.replicate d.toNat L) = .ok (c.similar o) := by
  obtain ⟨hd, hL, rfl⟩ := cubic_init_ok h
  unfold Cuboid.init
  rw [if_neg (by omega), if_neg (by simp; omega), if_neg (by simp [hL])]
  simp [Cubic.similar]

/-- headline form: a cuboid box set up with `d` equal lengths `L` IS the state written by the cubic set-up, so by the
`agree_*` theorems below every method of the two classes returns the same value (for every scalar type) -/
theorem cuboid_of_equal_lengths {o : Ops α} {d : ℤ} {L : α} {c : Cubic α} {c' : Cuboid α}
    (h : Cubic.init o d L = .ok c) (h' : Cuboid.init o d (List.replicate d.toNat L) = .ok c') :
    c' = c.similar o := by
  rw [cuboid_init_replicate h, Except.ok.injEq] at h'
  exact h'.symm

/-- the hypothesis `c.half = c.L / 2` of the statements below is what the set-up establishes -/
theorem cubic_init_half {o : Ops α} {d : ℤ} {L : α} {c : Cubic α} (h : Cubic.init o d L = .ok c) :
    c.half = c.L / o.ofInt 2 ∧ c.dim = d.toNat ∧ c.L = L := by
  obtain ⟨-, -, rfl⟩ := cubic_init_ok h
  exact ⟨rfl, rfl, rfl⟩

end

section
variable [Add α] [Div α]

theorem agree_nextImage (o : Ops α) (c : Cubic α) (x : α) (i : ℤ) (h1 : -(c.dim : ℤ) ≤ i) (h2 : i < c.dim) :
    (c.similar o).nextImage x i = some (c.nextImage x i) := by
  simp [Cuboid.nextImage, Cubic.similar, pyGet_replicate h1 h2, Cubic.nextImage]

end

section
variable [Add α] [Div α] [LT α] [DecidableLT α] [BEq α]

theorem agree_correctPositionEntry (o : Ops α) (c : Cubic α) (x : α) (i : ℤ) (h1 : -(c.dim : ℤ) ≤ i) (h2 : i < c.dim) :
    (c.similar o).correctPositionEntry o x i = some (c.correctPositionEntry o x i) := by
  simp [Cuboid.correctPositionEntry, Cubic.similar, pyGet_replicate h1 h2, Cubic.correctPositionEntry]

theorem agree_correctPosition (o : Ops α) (c : Cubic α) (p : List α) (hp : p.length ≤ c.dim) :
    (c.similar o).correctPosition o p = some (c.correctPosition o p) := by
  rw [cuboid_correctPosition_eq _ _ _ (by simpa [Cubic.similar] using hp)]
  congr 1
  apply List.ext_getElem
  · simp [Cubic.similar, Cubic.correctPosition, hp]
  · intro j h1 h2
    simp [Cubic.similar, Cubic.correctPosition, Cubic.correctPositionEntry]

end

section
variable [Add α] [Sub α] [Div α] [LT α] [DecidableLT α] [BEq α]

theorem agree_correctSeparationEntry (o : Ops α) (c : Cubic α) (hh : c.half = c.L / o.ofInt 2) (s : α) (i : ℤ)
    (h1 : -(c.dim : ℤ) ≤ i) (h2 : i < c.dim) :
    (c.similar o).correctSeparationEntry o s i = some (c.correctSeparationEntry o s i) := by
  simp [Cuboid.correctSeparationEntry, Cubic.similar, pyGet_replicate h1 h2, Cubic.correctSeparationEntry, hh]

theorem agree_correctSeparation (o : Ops α) (c : Cubic α) (hh : c.half = c.L / o.ofInt 2) (s : List α)
    (hs : s.length ≤ c.dim) :
    (c.similar o).correctSeparation o s = some (c.correctSeparation o s) := by
  rw [cuboid_correctSeparation_eq _ _ _ (by simpa [Cubic.similar] using hs) (by simpa [Cubic.similar] using hs)]
  congr 1
  apply List.ext_getElem
  · simp [Cubic.similar, Cubic.correctSeparation, hs]
  · intro j h1 h2
    simp [Cubic.similar, Cubic.correctSeparation, Cubic.correctSeparationEntry, hh]

/-- `separation_vector`: the same result for ALL arguments, including the `IndexError` outcome -/
theorem agree_separationVector (o : Ops α) (c : Cubic α) (hh : c.half = c.L / o.ofInt 2) (ref tgt : List α) :
    (c.similar o).separationVector o ref tgt = c.separationVector o ref tgt := by
  unfold Cuboid.separationVector Cubic.separationVector
  have hdim : (c.similar o).dim = c.dim := rfl
  rw [hdim]
  cases hs : rawSeparation c.dim ref tgt with
  | none => rfl
  | some s =>
    have hl := ((rawSeparation_spec _ _ _ _).mp hs).1
    simp [agree_correctSeparation o c hh s (by omega)]

end

end agreement

/-- non-vacuity, in binary64: the set-up succeeds and the agreement theorem applies to the real driver record -/
example : (match Cubic.init Ops.floatK 3 2.5 with
    | .ok c => c.half == 1.25 && c.dim == 3
    | .error _ => false) = true := by decide +kernel

/-! ## 6. binary64: what survives rounding

`Ops.floatK` is `Ops.float` with a kernel-reducible re-encoding in `fmod` (see `JF/Model/Periodic.lean`; the driver
evaluates every request of every run with both records and they must agree).  The statements below are evaluated by the
Lean kernel on native `Float` (`Float.Model`, IEEE-754 binary64).

The witnesses are those of the finding `correct_position:tiny-negative-returns-L` (repaired in /repo, commit f8d52fc):
on them the float modulo still rounds to `L` (`float_modulo_rounds_to_L`: the `!= L` branch of the repaired function is
live in binary64), and the repaired `correct_position_entry` returns `0.0`, inside `[0, L)`, and is idempotent. -/

/-- `-1e-17`, the witness of the finding -/
def xTiny : Float := Float.ofBits 13575836048340472983

/-- the float modulo itself: `-1e-17 % 1.0` is exactly `1.0 = L` (so the extra branch of the repair is reachable) -/
theorem float_modulo_rounds_to_L : (pymod Ops.floatK xTiny 1.0).toBits = (1.0 : Float).toBits := by decide +kernel

/-- `correct_position_entry(-1e-17)` with `L = 1.0` is `0.0` -/
theorem float_correctPosition_returns_zero :
    (wrap Ops.floatK xTiny 1.0).toBits = (0.0 : Float).toBits := by decide +kernel

/-- … so the result lies in the half-open range `0 ≤ y < L` -/
theorem float_correctPosition_in_range :
    (0.0 : Float) ≤ wrap Ops.floatK xTiny 1.0 ∧ wrap Ops.floatK xTiny 1.0 < 1.0 := by decide +kernel

/-- … and a second correction returns the same bits -/
theorem float_correctPosition_idempotent :
    (wrap Ops.floatK (wrap Ops.floatK xTiny 1.0) 1.0).toBits = (wrap Ops.floatK xTiny 1.0).toBits := by decide +kernel

/-- the same through the class model, cubic and cuboid, after the real set-up -/
theorem float_cubic_correctPositionEntry_returns_zero :
    (match Cubic.init Ops.floatK 3 1.0 with
     | .ok c => (c.correctPositionEntry Ops.floatK xTiny 0).toBits == (0.0 : Float).toBits
     | .error _ => false) = true := by decide +kernel

theorem float_cuboid_correctPosition_returns_zero :
    (match Cuboid.init Ops.floatK 3 [1.0, 2.0, 3.0] with
     | .ok c => ((c.correctPosition Ops.floatK [xTiny, xTiny, xTiny]).map (·.map Float.toBits))
                  == some [(0.0 : Float).toBits, (0.0 : Float).toBits, (0.0 : Float).toBits]
     | .error _ => false) = true := by decide +kernel

/-- … and the cuboid vector form is idempotent on that input -/
theorem float_cuboid_correctPosition_idempotent :
    (match Cuboid.init Ops.floatK 3 [1.0, 2.0, 3.0] with
     | .ok c => ((c.correctPosition Ops.floatK [xTiny, xTiny, xTiny]).bind (c.correctPosition Ops.floatK)).map
                    (·.map Float.toBits)
                  == (c.correctPosition Ops.floatK [xTiny, xTiny, xTiny]).map (·.map Float.toBits)
     | .error _ => false) = true := by decide +kernel

/-- the tie: for `L = 1` the inputs whose modulo comes back as `L` are exactly `-2^-54 ≤ x < 0`
(`1 - 2^-54` is half-way between `1 - 2^-53` and `1` and rounds to even); at the tie the corrected position is `0.0`,
one ulp further it is the largest double below `1` -/
theorem float_correctPosition_tie :
    (wrap Ops.floatK (Float.ofBits 0xBC90000000000000) 1.0).toBits = (0.0 : Float).toBits ∧
    (wrap Ops.floatK (Float.ofBits 0xBC90000000000001) 1.0).toBits = 0x3FEFFFFFFFFFFFFF := by decide +kernel

/-- nan passes through (`!=`), as in the code: the bits of `nan % 1.0` are returned unchanged -/
theorem float_correctPosition_nan :
    (wrap Ops.floatK (Float.ofBits 0x7ff8000000000000) 1.0).toBits =
      (pymod Ops.floatK (Float.ofBits 0x7ff8000000000000) 1.0).toBits ∧
    (wrap Ops.floatK (Float.ofBits 0x7ff8000000000000) 1.0).isNaN = true := by decide +kernel

/-- the separation bound is closed in binary64: `(s + L/2) % L` may come back as `L`, and then the result is `+L/2`
(here `L = 3`, `s` one ulp below `-1.5`): magnitude `≤ L/2` holds, the strict `< L/2` of the exact reading does not -/
theorem float_correctSeparation_plus_half :
    (wrapSep Ops.floatK (Float.ofBits 0xBFF8000000000001) 3.0 1.5).toBits = (1.5 : Float).toBits := by decide +kernel

/-- separations of exactly `±L/2` both map to `-L/2` (the window is `[-L/2, L/2)`) -/
theorem float_correctSeparation_half :
    (wrapSep Ops.floatK 0.5 1.0 0.5).toBits = (-0.5 : Float).toBits ∧
    (wrapSep Ops.floatK (-0.5) 1.0 0.5).toBits = (-0.5 : Float).toBits := by decide +kernel

/-! ## 7. rounding-abstract reading

`RQ R`: rationals whose `+`/`-` round with an arbitrary monotone idempotent `R.rnd` (`JF/Lemmas/PeriodicRnd.lean`),
`fmod` exact as in C.  Standing hypotheses: `0`, `L` (and `±L/2`) representable, and the exact `fmod` result
representable (true for binary floating point: `fmod` never rounds).  The SAME model definitions `wrap` / `wrapSep`.

The modulo `x % L` alone only keeps the CLOSED bounds `0 ≤ m ≤ L` (`rq_pymod_bounds`; `m = L` is reachable, see the toy
rounding below); the position correction `wrap` (`m if m != L else 0.0`) keeps the HALF-OPEN range and is idempotent for
ALL inputs (`rq_wrap_range`, `rq_wrap_idem`). -/

section rounding
variable (R : Rnd)

/-- `x % L` keeps the closed bounds under every monotone rounding: `0 ≤ m ≤ L` -/
theorem rq_pymod_bounds (x L : RQ R) (hL : 0 < L.val) (h0 : R.Rep 0) (hLr : R.Rep L.val)
    (hm : R.Rep (Ops.rat.fmod x.val L.val)) :
    0 ≤ (pymod (opsRq R) x L).val ∧ (pymod (opsRq R) x L).val ≤ L.val := by
  rw [rq_pymod R x L h0 hm]
  have h1 := pymod_rat_nonneg x.val L.val hL
  have h2 := pymod_rat_lt x.val L.val hL
  constructor
  · have h := R.mono h1; rwa [h0] at h
  · have h := R.mono h2.le; rwa [hLr] at h

/-- `x % L` is `L` only for a negative `x` (so the extra branch of the correction is taken only for negative inputs) -/
theorem rq_pymod_eq_L_imp_neg (x L : RQ R) (hL : 0 < L.val) (h0 : R.Rep 0)
    (hm : R.Rep (Ops.rat.fmod x.val L.val)) (h : (pymod (opsRq R) x L).val = L.val) : x.val < 0 := by
  by_contra hx
  have hx0 : 0 ≤ x.val := not_lt.mp hx
  rw [rq_pymod R x L h0 hm, pymod_rat_pos _ _ hL] at h
  rw [fmod_rat_nonneg (div_nonneg hx0 hL.le)] at hm
  rw [hm] at h
  have := pymod_rat_lt x.val L.val hL
  rw [pymod_rat_pos _ _ hL] at this
  linarith

theorem rq_wrap_of_ne (x L : RQ R) (h : (pymod (opsRq R) x L).val ≠ L.val) :
    wrap (opsRq R) x L = pymod (opsRq R) x L := by
  unfold wrap
  exact pywrap_eq_pymod_of_ne _ _ _ (by rw [RQ.bne_iff]; simpa using h)

theorem rq_wrap_of_eq (x L : RQ R) (h : (pymod (opsRq R) x L).val = L.val) : (wrap (opsRq R) x L).val = 0 := by
  unfold wrap
  rw [pywrap_eq_zero_of_eq _ _ _ (by rw [RQ.bne_iff]; simpa using h)]
  simp [opsRq]

/-- the corrected position is the exact one, rounded once — or `0` when that rounding is `L` -/
theorem rq_wrap_cases (x L : RQ R) (hL : 0 < L.val) (h0 : R.Rep 0) (hm : R.Rep (Ops.rat.fmod x.val L.val)) :
    (wrap (opsRq R) x L).val = R.rnd (wrap Ops.rat x.val L.val) ∨
    (R.rnd (wrap Ops.rat x.val L.val) = L.val ∧ (wrap (opsRq R) x L).val = 0) := by
  have he : wrap Ops.rat x.val L.val = pymod Ops.rat x.val L.val := pywrap_rat_eq_pymod _ _ hL
  rw [he, ← rq_pymod R x L h0 hm]
  by_cases h : (pymod (opsRq R) x L).val = L.val
  · right; exact ⟨h, rq_wrap_of_eq R x L h⟩
  · left; rw [rq_wrap_of_ne R x L h]

/-- … hence congruent to the input up to ONE rounding (`0 ≡ L`) -/
theorem rq_wrap_congr_one_rounding (x L : RQ R) (hL : 0 < L.val) (h0 : R.Rep 0)
    (hm : R.Rep (Ops.rat.fmod x.val L.val)) :
    ∃ k : ℤ, (wrap (opsRq R) x L).val = R.rnd (x.val - k * L.val) ∨
      (R.rnd (x.val - k * L.val) = L.val ∧ (wrap (opsRq R) x L).val = 0) := by
  refine ⟨⌊x.val / L.val⌋, ?_⟩
  have := rq_wrap_cases R x L hL h0 hm
  rw [wrap_eq hL] at this
  rwa [mul_comm]

/-- the HALF-OPEN range survives every monotone rounding, for ALL inputs: `0 ≤ y < L` -/
theorem rq_wrap_range (x L : RQ R) (hL : 0 < L.val) (h0 : R.Rep 0) (hLr : R.Rep L.val)
    (hm : R.Rep (Ops.rat.fmod x.val L.val)) :
    0 ≤ (wrap (opsRq R) x L).val ∧ (wrap (opsRq R) x L).val < L.val := by
  have hb := rq_pymod_bounds R x L hL h0 hLr hm
  by_cases h : (pymod (opsRq R) x L).val = L.val
  · rw [rq_wrap_of_eq R x L h]; exact ⟨le_rfl, hL⟩
  · rw [rq_wrap_of_ne R x L h]; exact ⟨hb.1, lt_of_le_of_ne hb.2 h⟩

theorem rq_wrap_rep (x L : RQ R) (h0 : R.Rep 0) (hm : R.Rep (Ops.rat.fmod x.val L.val)) :
    R.Rep (wrap (opsRq R) x L).val := by
  by_cases h : (pymod (opsRq R) x L).val = L.val
  · rw [rq_wrap_of_eq R x L h]; exact h0
  · rw [rq_wrap_of_ne R x L h, rq_pymod R x L h0 hm]; exact R.rep_rnd _

/-- a non-negative input is wrapped without any rounding: exactly congruent and inside `[0, L)` -/
theorem rq_wrap_exact_of_nonneg (x L : RQ R) (hL : 0 < L.val) (hx : 0 ≤ x.val) (h0 : R.Rep 0)
    (hm : R.Rep (Ops.rat.fmod x.val L.val)) :
    (wrap (opsRq R) x L).val = wrap Ops.rat x.val L.val := by
  have hne : (pymod (opsRq R) x L).val ≠ L.val := fun h =>
    absurd (rq_pymod_eq_L_imp_neg R x L hL h0 hm h) (not_lt.mpr hx)
  rw [rq_wrap_of_ne R x L hne, rq_pymod R x L h0 hm, wrap_eq hL, pymod_rat_pos _ _ hL]
  rw [fmod_rat_nonneg (div_nonneg hx hL.le)] at hm
  exact hm

/-- every representable number of `[0, L)` is a fixed point -/
theorem rq_wrap_fixed (y L : RQ R) (hy0 : 0 ≤ y.val) (hy1 : y.val < L.val) (h0 : R.Rep 0) (hy : R.Rep y.val) :
    (wrap (opsRq R) y L).val = y.val := by
  have hL : 0 < L.val := lt_of_le_of_lt hy0 hy1
  have hm : R.Rep (Ops.rat.fmod y.val L.val) := by rw [fmod_rat_fixed hy0 hy1]; exact hy
  rw [rq_wrap_exact_of_nonneg R y L hL hy0 h0 hm, wrap_fixed hL hy0 hy1]

/-- `L` itself is mapped to `0` -/
theorem rq_wrap_L (L : RQ R) (hL : 0 < L.val) (h0 : R.Rep 0) : (wrap (opsRq R) L L).val = 0 := by
  have hf : Ops.rat.fmod L.val L.val = 0 := by
    rw [fmod_rat_nonneg (by rw [div_self hL.ne']; exact zero_le_one), div_self hL.ne', Int.floor_one, Int.cast_one,
      mul_one, sub_self]
  rw [rq_wrap_exact_of_nonneg R L L hL hL.le h0 (by rw [hf]; exact h0), wrap_self hL]

/-- the correction is idempotent, for ALL inputs -/
theorem rq_wrap_idem (x L : RQ R) (hL : 0 < L.val) (h0 : R.Rep 0) (hLr : R.Rep L.val)
    (hm : R.Rep (Ops.rat.fmod x.val L.val)) :
    (wrap (opsRq R) (wrap (opsRq R) x L) L).val = (wrap (opsRq R) x L).val := by
  have hr := rq_wrap_range R x L hL h0 hLr hm
  exact rq_wrap_fixed R (wrap (opsRq R) x L) L hr.1 hr.2 h0 (rq_wrap_rep R x L h0 hm)

/-- the separation bound is closed, so it survives every monotone rounding: `|r| ≤ L/2` -/
theorem rq_wrapSep_abs_le (s L h : RQ R) (hh : 0 < h.val) (hLh : L.val = 2 * h.val) (h0 : R.Rep 0)
    (hLr : R.Rep L.val) (hhr : R.Rep h.val) (hhn : R.Rep (-h.val))
    (hm : R.Rep (Ops.rat.fmod (s + h).val L.val)) :
    |(wrapSep (opsRq R) s L h).val| ≤ h.val := by
  have hL : 0 < L.val := hLh ▸ mul_pos two_pos hh
  have hb := rq_pymod_bounds R (s + h) L hL h0 hLr hm
  unfold wrapSep
  rw [RQ.sub_val, _root_.abs_le]
  constructor
  · have := R.mono (show -h.val ≤ (pymod (opsRq R) (s + h) L).val - h.val by linarith [hb.1])
    rwa [hhn] at this
  · have := R.mono (show (pymod (opsRq R) (s + h) L).val - h.val ≤ h.val by linarith [hb.2])
    rwa [hhr] at this

end rounding

/-- a toy rounding meeting the hypotheses of this section: identity below zero, round up to the next integer from
zero on (monotone, idempotent; representable: all negative numbers and the natural numbers) -/
def toyRnd : Rnd where
  rnd a := if a < 0 then a else (⌈a⌉ : ℚ)
  mono := by
    intro a b hab
    by_cases ha : a < 0
    · by_cases hb : b < 0
      · simp [ha, hb, hab]
      · simp only [ha, hb, if_true, if_false]
        have : (0 : ℚ) ≤ ⌈b⌉ := by exact_mod_cast Int.ceil_nonneg (not_lt.mp hb)
        linarith
    · have hb : ¬ b < 0 := by intro h; exact ha (lt_of_le_of_lt hab h)
      simp only [ha, hb, if_false]
      exact_mod_cast Int.ceil_mono hab
  idem := by
    intro a
    by_cases ha : a < 0
    · simp [ha]
    · have : ¬ ((⌈a⌉ : ℚ) < 0) := by
        have : (0 : ℚ) ≤ ⌈a⌉ := by exact_mod_cast Int.ceil_nonneg (not_lt.mp ha)
        exact not_lt.mpr this
      simp [ha, this]

/-- non-vacuity of the position theorems AND liveness of the `!= L` branch: with `toyRnd`, `x = -1/100`, `L = 1` all
hypotheses of `rq_wrap_range` / `rq_wrap_idem` hold, the modulo `x % L` is exactly `L` (sharpness of the closed bound of
`rq_pymod_bounds` — the abstract counterpart of `float_modulo_rounds_to_L`), and the corrected position is `0` -/
example : toyRnd.Rep 0 ∧ toyRnd.Rep 1 ∧ toyRnd.Rep (Ops.rat.fmod (-1 / 100) 1) ∧
    (pymod (opsRq toyRnd) ⟨-1 / 100⟩ ⟨1⟩).val = 1 ∧ (wrap (opsRq toyRnd) ⟨-1 / 100⟩ ⟨1⟩).val = 0 := by
  have hf : Ops.rat.fmod (-1 / 100) 1 = -1 / 100 := by
    rw [fmod_rat_neg (by norm_num)]
    have : ⌈(-1 / 100 : ℚ) / 1⌉ = 0 := by rw [Int.ceil_eq_iff]; norm_num
    rw [this]; norm_num
  have h0 : toyRnd.Rep 0 := by simp [Rnd.Rep, toyRnd]
  have hm : toyRnd.Rep (Ops.rat.fmod (-1 / 100) 1) := by rw [hf]; norm_num [Rnd.Rep, toyRnd]
  have hp : (pymod (opsRq toyRnd) ⟨-1 / 100⟩ ⟨1⟩).val = 1 := by
    rw [rq_pymod toyRnd ⟨-1 / 100⟩ ⟨1⟩ h0 hm, pymod_rat_pos _ _ (by norm_num)]
    have : ⌊(-1 / 100 : ℚ) / 1⌋ = -1 := by rw [Int.floor_eq_iff]; norm_num
    rw [this]
    have : ⌈(99 / 100 : ℚ)⌉ = 1 := by rw [Int.ceil_eq_iff]; norm_num
    norm_num [toyRnd, this]
  exact ⟨h0, by norm_num [Rnd.Rep, toyRnd], hm, hp, rq_wrap_of_eq toyRnd ⟨-1 / 100⟩ ⟨1⟩ hp⟩

/-- non-vacuity of `rq_wrapSep_abs_le`: `L = 2`, `h = 1`, `s = -3/2` (all representable for `toyRnd`) -/
example : toyRnd.Rep 0 ∧ toyRnd.Rep 2 ∧ toyRnd.Rep 1 ∧ toyRnd.Rep (-1) ∧
    toyRnd.Rep (Ops.rat.fmod ((⟨-3 / 2⟩ : RQ toyRnd) + ⟨1⟩).val 2) := by
  have e : ((⟨-3 / 2⟩ : RQ toyRnd) + ⟨1⟩).val = -1 / 2 := by
    norm_num [RQ.add_val, toyRnd]
  have hf : Ops.rat.fmod (-1 / 2) 2 = -1 / 2 := by
    rw [fmod_rat_neg (by norm_num)]
    have : ⌈(-1 / 2 : ℚ) / 2⌉ = 0 := by rw [Int.ceil_eq_iff]; norm_num
    rw [this]; norm_num
  refine ⟨by simp [Rnd.Rep, toyRnd], by norm_num [Rnd.Rep, toyRnd], by norm_num [Rnd.Rep, toyRnd],
    by norm_num [Rnd.Rep, toyRnd], ?_⟩
  rw [e, hf]; norm_num [Rnd.Rep, toyRnd]

end JF.C15
