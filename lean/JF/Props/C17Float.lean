import JF.Props.C14Float
import JF.Model.Sampling
import Mathlib.Tactic.Linarith
import Mathlib.Tactic.Ring
import Mathlib.Tactic.Positivity
/-!
# C17, rounding-abstract reading — "float rounding that does not grow with k beyond one rounding per step"

The sampling clock of `fixed_interval_sampling_event_handler.py` (`self._event_time += self._sampling_interval`,
model `JF.Sampling.clock`) read over `R fm` for an ARBITRARY `fm : FloatModel` (`JF/Num/Rounded.lean`; binary64
round-to-nearest-even is a proved instance, `eps = 2^-53`): every tick is one `Time.__add__`, whose only rounding is
that of `remainder + interval` (`C14F.add_one_rounding`), so after `k` ticks

  `|t_k − k·δ| ≤ k · eps · (1 + δ)`,

each step contributing ONE relative rounding error of a number below `1 + δ`, whatever the size of the quotient
(the run time) already is. The clock stays representable and normalised (`Rep`) all the way.

Range of the statement: `δ ∈ F`, `0 ≤ δ ≤ 2^40`, and `k · (2^40 + 1) ≤ 2^52` ticks (the quotient stays below `2^52`,
the range in which `Time.__add__`'s integer additions are exact) — for `δ ≤ 1` that is more than `4·10^3` ticks at the
crudest bound; `clock_error_of_q` below replaces the crude tick bound by the actual hypothesis `q_j ≤ 2^52`.
`first_event_time_zero = False` (the clock starts at `Time(0.0, 0.0)`). NOT covered here (the statement is `_partial` in
that sense): `first_event_time_zero = True`, where the clock starts at `Time.from_float(-δ)`, a `divmod` of a negative
number whose remainder `fl(fmod(−δ, 1) + 1)` is itself rounded; that start is covered by the exact reading (`C17.clock_val`),
by the bit-exact correspondence of the clock and by the Fraction oracle on the implementation (`harness/props/c17.py`).
-/
namespace JF.C17F
open JF JF.R JF.C14F JF.Sampling

variable {fm : FloatModel}

structure ClockInv (fm : FloatModel) (delta : R fm) (k : ℕ) (t : Time (R fm)) : Prop where
  rep : Rep fm t
  q_nonneg : 0 ≤ toQ t.q
  q_le : toQ t.q ≤ (k : ℚ) * (2 ^ 40 + 1)
  err : |val t - (k : ℚ) * toQ delta| ≤ (k : ℚ) * (fm.eps * (1 + toQ delta))

theorem inv_zero (delta : R fm) : ClockInv fm delta 0 (clock (Ops.rounded fm) delta false 0) := by
  have h0 : toQ (ofQ 0 : R fm) ∈ fm.F := fm.zero_mem
  show ClockInv fm delta 0 ⟨ofQ 0, ofQ 0⟩
  exact ⟨⟨⟨0, by simp⟩, h0, h0, le_rfl, zero_lt_one⟩, le_rfl, by simp, by simp [val]⟩

theorem inv_step (delta : R fm) (hdF : toQ delta ∈ fm.F) (hd0 : 0 ≤ toQ delta) (hd1 : toQ delta ≤ 2 ^ 40)
    (k : ℕ) (t : Time (R fm)) (h : ClockInv fm delta k t) (hq : toQ t.q ≤ 2 ^ 52) :
    ClockInv fm delta (k + 1) (Time.add (Ops.rounded fm) t delta) := by
  have hqa : |toQ t.q| ≤ 2 ^ 52 := by rw [abs_of_nonneg h.q_nonneg]; exact hq
  have hb := add_q_bound h.rep hqa hd0 hd1
  have he := add_error h.rep hqa hdF hd0 hd1
  refine ⟨add_normalised h.rep hqa hd0 hd1, le_trans h.q_nonneg hb.1, ?_, ?_⟩
  · push_cast
    linarith only [h.q_le, hb.2]
  · have hr := mul_le_mul_of_nonneg_left (add_le_add_right h.rep.r_lt.le (toQ delta)) fm.eps_nonneg
    have := abs_add_le (val (Time.add (Ops.rounded fm) t delta) - (val t + toQ delta)) (val t - (k : ℚ) * toQ delta)
    rw [show val (Time.add (Ops.rounded fm) t delta) - (val t + toQ delta) + (val t - (k : ℚ) * toQ delta)
      = val (Time.add (Ops.rounded fm) t delta) - ((k + 1 : ℕ) : ℚ) * toQ delta by push_cast; ring] at this
    push_cast at this ⊢
    linarith only [this, he, hr, h.err]

/-- the induction over the ticks, once: the invariant holds after `k` ticks provided every earlier quotient that satisfies it
is at most `2^52` -/
theorem clock_inv_of (delta : R fm) (hdF : toQ delta ∈ fm.F) (hd0 : 0 ≤ toQ delta) (hd1 : toQ delta ≤ 2 ^ 40) :
    ∀ k : ℕ, (∀ j < k, ClockInv fm delta j (clock (Ops.rounded fm) delta false j) →
        toQ (clock (Ops.rounded fm) delta false j).q ≤ 2 ^ 52) →
      ClockInv fm delta k (clock (Ops.rounded fm) delta false k)
  | 0, _ => inv_zero delta
  | k + 1, hq => by
    have ih := clock_inv_of delta hdF hd0 hd1 k (fun j hj => hq j (Nat.lt_succ_of_lt hj))
    exact inv_step delta hdF hd0 hd1 k _ ih (hq k (Nat.lt_succ_self k) ih)

/-- **the clock after `k` ticks** (crude tick bound): representable, normalised, and within `k` single roundings of
`k·δ` -/
theorem clock_inv (delta : R fm) (hdF : toQ delta ∈ fm.F) (hd0 : 0 ≤ toQ delta) (hd1 : toQ delta ≤ 2 ^ 40)
    (k : ℕ) (hk : (k : ℚ) * (2 ^ 40 + 1) ≤ 2 ^ 52) : ClockInv fm delta k (clock (Ops.rounded fm) delta false k) :=
  clock_inv_of delta hdF hd0 hd1 k fun j hj inv =>
    le_trans inv.q_le (le_trans (mul_le_mul_of_nonneg_right (Nat.cast_le.mpr hj.le) (by positivity)) hk)

/-- **C17, float clause**: the `k`-th sample time deviates from `k·δ` by at most `k` roundings, each of relative size
`eps` on a number below `1 + δ` — the deviation per step does not depend on `k` or on the run time. -/
theorem clock_error (delta : R fm) (hdF : toQ delta ∈ fm.F) (hd0 : 0 ≤ toQ delta) (hd1 : toQ delta ≤ 2 ^ 40)
    (k : ℕ) (hk : (k : ℚ) * (2 ^ 40 + 1) ≤ 2 ^ 52) :
    |val (clock (Ops.rounded fm) delta false k) - (k : ℚ) * toQ delta| ≤ (k : ℚ) * (fm.eps * (1 + toQ delta)) :=
  (clock_inv delta hdF hd0 hd1 k hk).err

theorem clock_rep (delta : R fm) (hdF : toQ delta ∈ fm.F) (hd0 : 0 ≤ toQ delta) (hd1 : toQ delta ≤ 2 ^ 40)
    (k : ℕ) (hk : (k : ℚ) * (2 ^ 40 + 1) ≤ 2 ^ 52) : Rep fm (clock (Ops.rounded fm) delta false k) :=
  (clock_inv delta hdF hd0 hd1 k hk).rep

/-- the same with the real range: as long as every earlier quotient is at most `2^52` (run times up to `4.5·10^15`),
for any number of ticks -/
theorem clock_error_of_q (delta : R fm) (hdF : toQ delta ∈ fm.F) (hd0 : 0 ≤ toQ delta) (hd1 : toQ delta ≤ 2 ^ 40) :
    ∀ k : ℕ, (∀ j < k, toQ (clock (Ops.rounded fm) delta false j).q ≤ 2 ^ 52) →
      ClockInv fm delta k (clock (Ops.rounded fm) delta false k)
  | k, hq => clock_inv_of delta hdF hd0 hd1 k fun j hj _ => hq j hj

/-- the relative form: for `k ≥ 1` ticks the deviation is at most `eps · (1 + 1/δ)` times the nominal time — it does
not accumulate beyond one rounding per step -/
theorem clock_relative_error (delta : R fm) (hdF : toQ delta ∈ fm.F) (hd0 : 0 < toQ delta) (hd1 : toQ delta ≤ 2 ^ 40)
    (k : ℕ) (hk : (k : ℚ) * (2 ^ 40 + 1) ≤ 2 ^ 52) :
    |val (clock (Ops.rounded fm) delta false k) - (k : ℚ) * toQ delta|
      ≤ fm.eps * (1 + 1 / toQ delta) * ((k : ℚ) * toQ delta) := by
  have h := clock_error delta hdF hd0.le hd1 k hk
  have hd : (1 + 1 / toQ delta) * toQ delta = 1 + toQ delta := by
    rw [add_mul, one_mul, one_div, inv_mul_cancel₀ hd0.ne', add_comm]
  have e : fm.eps * (1 + 1 / toQ delta) * ((k : ℚ) * toQ delta) = (k : ℚ) * (fm.eps * (1 + toQ delta)) := by
    rw [← hd]; ring
  rw [e]; exact h

/-- binary64: `|t_k − k·δ| ≤ k · 2^-53 · (1 + δ)` — the bound the run-level oracle of `harness/runs.py` measures -/
theorem clock_error_binary64 (delta : R FloatModel.binary64) (hdF : toQ delta ∈ FloatModel.binary64.F)
    (hd0 : 0 ≤ toQ delta) (hd1 : toQ delta ≤ 2 ^ 40) (k : ℕ) (hk : (k : ℚ) * (2 ^ 40 + 1) ≤ 2 ^ 52) :
    |val (clock (Ops.rounded FloatModel.binary64) delta false k) - (k : ℚ) * toQ delta|
      ≤ (k : ℚ) * (1 / 2 ^ 53 * (1 + toQ delta)) := by
  have := clock_error (fm := FloatModel.binary64) delta hdF hd0 hd1 k hk
  rw [binary64_eps] at this
  exact this

/-! ### the hypotheses are satisfiable (and the bound is not vacuous: the additions really round in binary64) -/

example : toQ dLarge ∈ fx.F ∧ (0:ℚ) ≤ toQ dLarge ∧ toQ dLarge ≤ 2 ^ 40 ∧ ((4000 : ℕ) : ℚ) * (2 ^ 40 + 1) ≤ 2 ^ 52 :=
  ⟨dLarge_mem, dLarge_nonneg, dLarge_le, by norm_num⟩

example : |val (clock (Ops.rounded fx) dLarge false 4000) - ((4000 : ℕ) : ℚ) * toQ dLarge|
    ≤ ((4000 : ℕ) : ℚ) * (fx.eps * (1 + toQ dLarge)) :=
  clock_error dLarge dLarge_mem dLarge_nonneg dLarge_le 4000 (by norm_num)

example : |val (clock (Ops.rounded b64) dTiny64 false 7) - ((7 : ℕ) : ℚ) * toQ dTiny64|
    ≤ ((7 : ℕ) : ℚ) * (1 / 2 ^ 53 * (1 + toQ dTiny64)) :=
  clock_error_binary64 dTiny64 dTiny64_mem dTiny64_nonneg dTiny64_le 7 (by norm_num)

end JF.C17F
