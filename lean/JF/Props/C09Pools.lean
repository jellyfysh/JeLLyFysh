/-
C09, last clause — "the number of event handlers demanded never exceeds what the tagger owns".

`TagActivator._get_event_handlers_to_run_update` (`jellyfysh/activator/tag_activator.py`) takes one handler out of
`self._not_running_event_handlers[tagger]` per in-state `tagger.yield_identifiers_send_event_time(state)` yields; `pop()` on the
empty list raises `IndexError`, re-raised as `base.exceptions.TagActivatorError` ("Increase the number of event handlers of this
tagger").  The pool size is `max(1, number_event_handlers)` (`Tagger.initialize`), fixed by hand in the `.ini` files.
`JF/Model/Activator.lean` models the exhaustion as the outcome `none`; `JF.C09.demand_never_exceeds_pool` only says that a state that
WAS reached respects the pools.  This module proves that it cannot happen:

1. **demand bounds** for the yield functions of the concrete worlds, for EVERY state where possible (lemma files
   `JF/Lemmas/C09PoolsCells.lean`, `JF/Lemmas/C09PoolsWorlds.lean`), each with an `example` attaining it (below);
2. **from bounds to runs** (`JF/Lemmas/C09PoolsRun.lean`): `no_pool_exhausted` — in a configuration with `WiringSound` whose yields
   are bounded by the pools on the states a run visits, no attempt of a run (first call, start-of-run commit, any later leg) ends
   in `TagActivatorError`;
3. **obligations per shipped configuration** (data `JF/Gen/Pools.lean`, generated by `harness/translate_pools.py`; theorems
   `JF/Lemmas/C09PoolsShipped.lean`): `shortfalls pool_<name> = […]`, the rows of ONE table `allPools.map shortfalls = shortfallsTable`
   that the kernel evaluates once, with the bounds in closed form (`JF/Lemmas/C09PoolsClosed2Formula.lean`).  18 of 19 are `[]`;
   `hard_disk_dipoles_cells.ini` has one shortfall with a concrete witness state (below).

A hypothesis of THIS module, discharged elsewhere: `hy` of `demandBounded_of_no_shortfall` and of `shipped_no_pool_exhausted_partial`
("on the visited states every yield respects `demandBound`").  It is discharged along the runs of the composed mediator loop, class
by class, from the one-chain invariant, the mode selection and the occupancy invariant:
* point masses + cells, `JF.Sys.Reach`: `demand_le_bound_closed`, `no_pool_exhausted_closed` (`JF/Props/C09PoolsClosed.lean`, part A);
* composite objects without cells, `JF.Sys2.Reach2`: `no_pool_exhausted_closed2` (part B there), `no_pool_exhausted_every_call2`
  (`JF/Props/C09PoolsClosed2.lean`).  For `dipoles/dipole_motion.ini` (mode switcher) `DemandBounded` is too strong: a DEACTIVATED
  leaf-mode tagger would exceed its pool on a root-mode state (`repulsive_leaf`: 2 > 1).  Part B reads the yields of the ACTIVATED
  taggers only (`selSound`, `JF/Lemmas/C09PoolsClosedCW2.lean`; `no_pool_exhausted_dipole_motion`, `…_every_call`).
Open: composite objects WITH cells (the runs `Reach3`).
-/
import JF.Lemmas.C09PoolsShipped
namespace JF.C09Pools
open JF JF.Act JF.CellTaggers

/-! ## 1. the bounds (proofs in the lemma files) -/

/-- `NoInStateTagger`, `ActiveGlobalStateInStateTagger`: exactly ONE in-state at every state of both worlds (the end-of-chain
tagger yields one tuple of all independent active identifiers, not one in-state per active unit) -/
theorem one_in_state {α : Type} (env : CW.Env α) (env2 : CW2.Env α) (g : CW.CState α) (T : TaggerIdx) (fl : CW2.Flags) :
    (CW.yieldCls env .noInState g).length = 1 ∧ (CW.yieldCls env .activeGlobalState g).length = 1 ∧
    (CW2.yieldF α env2 T .noInState fl).length = 1 ∧ (CW2.yieldF α env2 T .activeGlobalState fl).length = 1 :=
  ⟨cw_noInState env g, cw_activeGlobalState env g, cw2_noInState env2 T fl, cw2_activeGlobalState env2 T fl⟩

/-- `ActiveRootUnitInStateTagger`: one in-state per independent active unit (exact, every state) -/
theorem active_root_unit_demand {α : Type} (env : CW2.Env α) (T : TaggerIdx) (fl : CW2.Flags) :
    (CW2.yieldF α env T .activeRootUnit fl).length = (CW2.independent env.nPer fl).length := cw2_activeRootUnit env T fl

/-- `CellVetoTagger`, `CellBoundaryTagger`: at most one in-state (every state) -/
theorem cell_veto_boundary_demand (s : Occ) : (cellVetoTagger s).length ≤ 1 := cellVeto_demand_le_one s

/-- `ExcludedCellsTagger`: at most (nearby cells) × (occupant limit), every state with `len(occupants[c]) ≤ cap` -/
theorem excluded_demand (g : Grid) (s : Occ) (cap : Nat) (hcap : ∀ c, (s.occ c).length ≤ cap) :
    (excludedCellsTagger g s).length ≤ (match s.active with | none => 0 | some (ac, _) => (nearby g ac).length * cap) :=
  excluded_demand_le_nearby_cap g s cap hcap

/-- `CellBoundingPotentialTagger`: at most one in-state per non-nearby cell (every state) -/
theorem bounding_demand (g : Grid) (s : Occ) (ac : Cell) (a : Ident) (h : s.active = some (ac, a)) :
    (cellBoundingTagger g s).length ≤ (C10.nonNearby g ac).length := bounding_demand_le_nonNearby g s ac a h

/-- under the occupancy invariant the three cell-reading taggers SHARE the `relevant − 1` other units -/
theorem cell_demands_share_relevant (g : Grid) (s : Occ) (relevant : List Ident) (ac : Cell) (a : Ident)
    (inv : C10.OccInv g s relevant ac a) :
    (cellBoundingTagger g s).length + (excludedCellsTagger g s).length + (surplusCellsTagger s).length ≤ relevant.length - 1 :=
  cell_demands_le_relevant_bounding g s relevant ac a inv

/-- `FactorTypeMapInStateTagger` over point masses: (active units) × (point masses − 1), exact, every state -/
theorem factor_demand_point_masses {α : Type} (env : CW.Env α) (g : CW.CState α) :
    (CW.yieldCls env .factorTypeMap g).length = (CW.movers g.us).length * (g.us.length - 1) := cw_factorTypeMap env g

/-- `FactorTypeMapInStateTagger` over composite objects, every state with at most one independent active unit in the tagger's mode:
at most `demandMax`, which some such state attains (`demandMax_attained`) -/
theorem factor_demand_composite {α : Type} (env : CW2.Env α) (T : TaggerIdx) (sel : Sel) (fl : CW2.Flags)
    (hu : ∀ f ∈ fl, f.2.length = env.nPer) (h1 : (CW2.independent env.nPer fl).length ≤ 1) (hm : ModeOK sel env.nPer fl) :
    (CW2.yieldF α env T .factorTypeMap fl).length ≤ demandMax sel fl.length env.nPer env.fs (env.ftype T) .factorTypeMap :=
  cw2_demand_le_max env T .factorTypeMap sel fl hu h1 hm

/-! ### tightness: states attaining the bounds -/

namespace Tight
/-- a 3 × 4 grid with one layer: 9 nearby cells, 3 non-nearby cells (`[0,2] [1,2] [2,2]` for the active cell `[0,0]`) -/
def g : Grid := ⟨[3, 4], 1⟩
example : (C10.nonNearby g [0, 0]).length = 3 ∧ (nearby g [0, 0]).length = 9 := by decide +kernel

/-- every non-nearby cell occupied: the cell-bounding tagger demands one handler per non-nearby cell -/
def sB : Occ := { occ := fun c => if c = [0, 2] then [[1]] else if c = [1, 2] then [[2]] else if c = [2, 2] then [[3]] else []
                  surplus := [], active := some ([0, 0], [0]) }
example : (cellBoundingTagger g sB).length = (C10.nonNearby g [0, 0]).length := by decide +kernel

/-- every nearby cell holds `cap = 2` occupants: the excluded-cells tagger demands 9 × 2 handlers -/
def sE : Occ := { occ := fun c => if isNearby g [0, 0] c then [[10], [11]] else [], surplus := [], active := some ([0, 0], [0]) }
example : (excludedCellsTagger g sE).length = (nearby g [0, 0]).length * 2 := by decide +kernel

/-- three relevant units `0 1 2`, `0` active, the others both in the SURPLUS list of its cell (reachable: all three in one
cell, occupant limit 1, the occupant becomes active — the promotion branch of `update` is dead): surplus demand = relevant − 1 -/
def sS : Occ := { occ := fun _ => [], surplus := [([0, 0], [[1], [2]])], active := some ([0, 0], [0]) }
example : (surplusCellsTagger sS).length = 3 - 1 := by decide +kernel

example : (cellVetoTagger sS).length = 1 := by decide +kernel

/-- three point masses, one moving: 1 × (3 − 1) pair factors -/
example : (CW.yieldCls (α := Rat) ⟨Ops.rat, [], ⟨[], 0⟩, fun _ => 0, fun _ => true⟩ .factorTypeMap
    ⟨[⟨[0], some [1], none⟩, ⟨[0], none, none⟩, ⟨[0], none, none⟩], Occ.State.empty 1⟩).length = 2 := by decide +kernel
end Tight

/-! ## 2. from bounds to runs -/

/-- **no pool is ever exhausted** (`no_pool_exhausted`, `JF/Lemmas/C09PoolsRun.lean`) -/
theorem no_tag_activator_error {G : Type} (c : Wiring) (W : World G) (Tr : TaggerIdx → G → G → Prop) (I : G → Prop)
    (S : TaggerIdx) (sound : WiringSound c = true) (hS : c.start? = some S) (fps : FootprintsSound c W Tr) (hlive : LiveIs c W)
    (hdb : DemandBounded c W I) {o : Option (RS G)} (h : Attempt c W Tr I S o) : o.isSome = true :=
  no_pool_exhausted c W Tr I S sound hS fps hlive hdb h

/-- per shipped configuration: the generated obligation `shortfalls pc = []` + "every yield respects `demandBound` on the visited
states" (`hy`: the bound theorems above, under the invariants they name) ⇒ no run of the configuration raises `TagActivatorError`.
`_partial`: `hy` is a hypothesis here; see the head of the file for where it is discharged. -/
theorem shipped_no_pool_exhausted_partial {G : Type} (pc : PoolCfg) (W : World G) (Tr : TaggerIdx → G → G → Prop) (I : G → Prop)
    (S : TaggerIdx) (sound : WiringSound pc.w = true) (hS : pc.w.start? = some S) (fps : FootprintsSound pc.w W Tr)
    (hlive : LiveIs pc.w W) (ok : shortfalls pc = [])
    (hy : ∀ g, I g → ∀ T, T < pc.w.n → (W.yieldOf T g).length ≤ demandBound pc T)
    {o : Option (RS G)} (h : Attempt pc.w W Tr I S o) : o.isSome = true :=
  no_pool_exhausted pc.w W Tr I S sound hS fps hlive (demandBounded_of_no_shortfall pc W I hy ok) h

/-! ## 3. the shipped configurations -/

open Gen in
/-- **the coulomb_atoms (4), dipoles (7) and water (5) families and the single hard-disk dipole: every pool ≥ its demand bound**
(and every one of them is tight: pool = bound, see the table printed by `harness/translate_pools.py`) -/
theorem shipped_pools_sufficient :
    ∀ pc ∈ [pool_coulomb_atoms_cell_bounded, pool_coulomb_atoms_cell_veto, pool_coulomb_atoms_power_bounded,
      pool_coulomb_atoms_power_bounded_dump, pool_dipoles_atom_factors, pool_dipoles_cell_bounded, pool_dipoles_cell_veto,
      pool_dipoles_dipole_factors_inside_first, pool_dipoles_dipole_factors_outside_first, pool_dipoles_dipole_factors_ratio,
      pool_dipoles_dipole_motion, pool_water_coulomb_cell_veto_lj_cell_veto, pool_water_coulomb_cell_veto_lj_inverted,
      pool_water_coulomb_power_bounded_lj_cell_bounded, pool_water_coulomb_power_bounded_lj_inverted, pool_water_single_molecule,
      pool_hard_disk_dipoles_single_hard_disk_dipole], shortfalls pc = [] := by
  simp only [List.forall_mem_cons, List.not_mem_nil, false_imp_iff, implies_true, and_true]
  exact ⟨shortfalls_coulomb_atoms_cell_bounded, shortfalls_coulomb_atoms_cell_veto, shortfalls_coulomb_atoms_power_bounded,
    shortfalls_coulomb_atoms_power_bounded_dump, shortfalls_dipoles_atom_factors, shortfalls_dipoles_cell_bounded,
    shortfalls_dipoles_cell_veto, shortfalls_dipoles_dipole_factors_inside_first, shortfalls_dipoles_dipole_factors_outside_first,
    shortfalls_dipoles_dipole_factors_ratio, shortfalls_dipoles_dipole_motion, shortfalls_water_coulomb_cell_veto_lj_cell_veto,
    shortfalls_water_coulomb_cell_veto_lj_inverted, shortfalls_water_coulomb_power_bounded_lj_cell_bounded,
    shortfalls_water_coulomb_power_bounded_lj_inverted, shortfalls_water_single_molecule,
    shortfalls_hard_disk_dipoles_single_hard_disk_dipole⟩

/-- **`hard_disk_dipoles/hard_disk_dipoles_cells.ini`: the pool of `nearby_sphere` (15) is below the model-level bound (161)**:
the occupancy stores point masses (`cell_level = 2`) with `maximum_number_occupants = -1` (not bounded), so nothing in the model
keeps more than 15 of the 161 other point masses out of the 9 nearby cells -/
theorem hard_disk_cells_shortfall : shortfalls Gen.pool_hard_disk_dipoles_hard_disk_dipoles_cells = [(0, 15, 161)] :=
  Gen.shortfalls_hard_disk_dipoles_hard_disk_dipoles_cells

namespace Witness
def g : Grid := ⟨[13, 13], 1⟩
/-- the witness state: point mass `(0, 0)` active in cell `[6, 6]`; the 16 point masses `(1,0) (1,1) … (8,0) (8,1)` in its own cell
(with unbounded occupants the cell of the active unit alone suffices) -/
def s : Occ :=
  { occ := fun c => if c = [6, 6] then (List.range 8).flatMap fun i => [[i + 1, 0], [i + 1, 1]] else []
    surplus := [], active := some ([6, 6], [0, 0]) }
/-- on this state the tagger yields 16 in-states: one more than the shipped pool -/
theorem demand_exceeds_pool :
    (excludedCellsTagger g s).length = 16 ∧ (Gen.pool_hard_disk_dipoles_hard_disk_dipoles_cells.w.tagger 0).pool = 15 := by
  decide +kernel
end Witness

end JF.C09Pools
