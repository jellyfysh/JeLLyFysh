import JF.Props.C12
import JF.Lemmas.ConcreteWorld2Adm
import JF.Lemmas.Kinematics
/-!
# C12 / C07 for composite objects — the one-chain invariant of the two-level machine

The admissibility `Adm` (`JF/Lemmas/CompositeSteps.lean`) under which `JF/Props/C12.lean` proves "every event keeps every
composite object consistent with its point masses" assumes state facts that the code only asserts locally: the object
receiving the velocity from another object is at rest as a whole (`exchange`, `eocLeaf`, `eocRoot`, `pass`), only leaf `j` of
the source moves (`eocLeaf`, `toRoot`), all leaves of the source move with one velocity (`pass`, `eocRoot`, `toLeaf`), the
object that starts is at rest (`start`).  Here these facts are derived from the system-level invariant `OneChain`
(`JF/Lemmas/CompositeChain.lean`), assuming of each event only the weak admissibility `AdmW`
(`JF/Lemmas/CompositeChainSteps.lean`): what the caller chooses and the code checks by indexing, nothing about which objects
are at rest or which leaves of the source move.  The C07 clause "after every event there is exactly one moving chain: a
single point mass or all point masses of one composite object, one velocity, speed = initial speed" follows for the
two-level model (`chain_clause`).

**Not derivable from the state: the mode.**  `OneChain` + "leaf `(i, j)` moves" does not tell whether the chain is in leaf
mode (one point mass moves) or in root mode (all point masses of object `i` move): leaf `(i, j)` moves in both.  And the
event kinds are not interchangeable: an `exchange` from leaf `(i, j)` to a leaf of another object, applied in root mode to
an object with two leaves, satisfies all assertions of `_exchange_velocity` (and `Adm`), keeps every object consistent, and
leaves TWO objects with moving leaves (last `example` of this file).  In the code the mode is the state of the activator's
tags: the switcher event (`root_leaf_unit_active_switcher.py`) activates the event handlers of the other mode and
deactivates the present ones; the in-states of the leaf-mode handlers are branches that contain only the two leaves
concerned, so `_extract_active_leaf_unit` (`len(active_leaf_units) == 1`) cannot see the siblings.  The model state
`List (CObj ℚ)` has no such component, so the mode is a ghost value `Mode` carried along the event list (`modeStep`):
`exchange`, `eocLeaf`, `toRoot` are leaf-mode kinds, `pass`, `eocRoot`, `toLeaf` root-mode kinds, `keep` and `snap` belong to
both, `toRoot` / `toLeaf` switch, `start` fixes the first mode (`StartMode`).  The hypothesis `modeStep m e = some m'` of the
theorems below is a condition on the sequence of event KINDS only, not on the state; `JF/Props/ModeDiscipline.lean` derives
it from the wiring (the activator's tag state) for every run of a wiring that passes `ModeSound`
(`modeStep_of_modeSound`, `run_rootConsistent_chain_of_modeSound`).
-/
namespace JF.C12
open JF JF.Composite

/-- `nsq` is the squared norm used by C07 -/
theorem nsq_eq_normSq (v : List ℚ) : nsq v = JF.Kin.normSq v := rfl

/-- the ghost mode: which event kinds are possible in which mode, and the mode afterwards (`none`: the kind does not
occur in this mode; a second `start` never occurs) -/
def modeStep : Mode → Composite.Ev ℚ → Option Mode
  | m, .keep _ _ => some m
  | m, .snap _ _ _ _ _ _ => some m
  | .leaf, .exchange _ _ _ _ _ _ => some .leaf
  | .leaf, .eocLeaf _ _ _ _ _ _ => some .leaf
  | .leaf, .toRoot _ _ => some .root
  | .root, .pass _ _ _ _ => some .root
  | .root, .eocRoot _ _ _ _ => some .root
  | .root, .toLeaf _ _ _ => some .leaf
  | _, _ => none

/-- mode after `start i P v`: leaf mode if one leaf is listed, root mode if all leaves of the object are listed (both for
an object with a single leaf) -/
def StartMode (cs : List (CObj ℚ)) (i : Nat) (P : List Nat) : Mode → Prop
  | .leaf => P.length = 1
  | .root => ∃ c, cs[i]? = some c ∧ ∀ k, k < c.leaves.length → k ∈ P

/-- Every event kind after the start: under `AllGood` and the one-chain invariant, weak admissibility implies `Adm` (the "at
rest" and "which leaves of the source move" clauses are consequences of the invariant), and the event keeps the one-chain
invariant with the same squared speed, in the mode given by `modeStep`. -/
theorem step_chain_aux {d : Nat} {L : List ℚ} (hL : BoxOK d L) {cs : List (CObj ℚ)} {sq : ℚ} {m m' : Mode}
    (h : AllGood d L cs) (hc : OneChainM cs sq m) (e : Composite.Ev ℚ) (hm : modeStep m e = some m')
    (ha : AdmW d L cs e) : Adm d L cs e ∧ OneChainM (step Ops.rat isZ L cs e) sq m' := by
  cases e with
  | keep t S =>
    obtain rfl : m = m' := by cases m <;> exact Option.some.inj hm
    exact ⟨trivial, hc.imp fun hP hM => keep_chain hP hM L t S⟩
  | snap t S i' j dd x =>
    obtain rfl : m = m' := by cases m <;> exact Option.some.inj hm
    exact ⟨ha, hc.imp fun hP hM => snap_chain hP hM L t S i' j dd x⟩
  | exchange t S i j i' j' => cases m <;> cases hm; exact exchange_chain hc t S i j i' j' ha
  | pass t S iL iT => cases m <;> cases hm; exact pass_chain hL h hc t S iL iT ha
  | eocLeaf t i j i' j' vn => cases m <;> cases hm; exact eocLeaf_chain hc t i j i' j' vn ha
  | eocRoot t i i' vn => cases m <;> cases hm; exact eocRoot_chain hL h hc t i i' vn ha
  | toLeaf t i ch => cases m <;> cases hm; exact toLeaf_chain hc t i ch ha
  | toRoot t i => cases m <;> cases hm; exact toRoot_chain hc t i ha
  | start i P v => cases m <;> cases hm

theorem admW_adm {d : Nat} {L : List ℚ} (hL : BoxOK d L) {cs : List (CObj ℚ)} {sq : ℚ} {m m' : Mode}
    (h : AllGood d L cs) (hc : OneChainM cs sq m) (e : Composite.Ev ℚ) (hm : modeStep m e = some m')
    (ha : AdmW d L cs e) : Adm d L cs e :=
  (step_chain_aux hL h hc e hm ha).1

theorem step_oneChainM {d : Nat} {L : List ℚ} (hL : BoxOK d L) {cs : List (CObj ℚ)} {sq : ℚ} {m m' : Mode}
    (h : AllGood d L cs) (hc : OneChainM cs sq m) (e : Composite.Ev ℚ) (hm : modeStep m e = some m')
    (ha : AdmW d L cs e) : OneChainM (step Ops.rat isZ L cs e) sq m' :=
  (step_chain_aux hL h hc e hm ha).2

theorem step_oneChain {d : Nat} {L : List ℚ} (hL : BoxOK d L) {cs : List (CObj ℚ)} {sq : ℚ} {m m' : Mode}
    (h : AllGood d L cs) (hc : OneChainM cs sq m) (e : Composite.Ev ℚ) (hm : modeStep m e = some m')
    (ha : AdmW d L cs e) : OneChain (step Ops.rat isZ L cs e) sq :=
  (oneChain_iff _ _).mpr ⟨m', step_oneChainM hL h hc e hm ha⟩

theorem admW_adm_start {d : Nat} {L : List ℚ} {cs : List (CObj ℚ)} (hR : AllRest cs) {i : Nat} {P : List Nat} {v : List ℚ}
    (ha : AdmW d L cs (.start i P v)) : Adm d L cs (.start i P v) := by
  obtain ⟨c, h1, h2, h3, h4, h5, h6⟩ := ha
  exact ⟨c, h1, hR c (List.mem_of_getElem? h1), h2, h3, h4, h5, h6⟩

/-- the start-of-run event establishes the one-chain invariant from the state at rest, with the squared speed of the start
velocity -/
theorem start_oneChainM {d : Nat} {L : List ℚ} {cs : List (CObj ℚ)} (hR : AllRest cs) {i : Nat} {P : List Nat} {v : List ℚ}
    (ha : AdmW d L cs (.start i P v)) {m : Mode} (hm : StartMode cs i P m) :
    OneChainM (step Ops.rat isZ L cs (.start i P v)) (nsq v) m := by
  obtain ⟨c, h1, _, h3, h4, _, _⟩ := ha
  obtain ⟨hleaf, hroot⟩ := start_chain hR L i P v h1 h3
  cases m with
  | leaf =>
    obtain ⟨k0, hk0⟩ := List.length_eq_one_iff.mp hm
    exact ⟨i, k0, v, rfl, hleaf k0 hk0⟩
  | root =>
    obtain ⟨c1, hc1, hcov⟩ := hm
    rw [h1] at hc1; simp only [Option.some.injEq] at hc1; subst hc1
    obtain ⟨k0, hk0⟩ := List.exists_mem_of_ne_nil _ h4
    have hne : c.leaves ≠ [] := List.ne_nil_of_length_pos (by have := h3 k0 hk0; omega)
    exact ⟨i, v, rfl, hroot hcov hne⟩

theorem start_oneChain {d : Nat} {L : List ℚ} {cs : List (CObj ℚ)} (hR : AllRest cs) {i : Nat} {P : List Nat} {v : List ℚ}
    (ha : AdmW d L cs (.start i P v)) {m : Mode} (hm : StartMode cs i P m) :
    OneChain (step Ops.rat isZ L cs (.start i P v)) (nsq v) :=
  (oneChain_iff _ _).mpr ⟨m, start_oneChainM hR ha hm⟩

/-- every event of the history (after the start) is weakly admissible in the state it is applied to, and its kind is
possible in the current mode -/
def AdmWRun (d : Nat) (L : List ℚ) : Mode → List (CObj ℚ) → List (Composite.Ev ℚ) → Prop
  | _, _, [] => True
  | m, cs, e :: es => ∃ m', modeStep m e = some m' ∧ AdmW d L cs e ∧ AdmWRun d L m' (step Ops.rat isZ L cs e) es

/-- a weakly admissible history from the state at rest: the start-of-run event, then `es` -/
def AdmWStart (d : Nat) (L : List ℚ) (cs : List (CObj ℚ)) (i : Nat) (P : List Nat) (v : List ℚ)
    (es : List (Composite.Ev ℚ)) : Prop :=
  AdmW d L cs (.start i P v) ∧ ∃ m, StartMode cs i P m ∧ AdmWRun d L m (step Ops.rat isZ L cs (.start i P v)) es

theorem admWRun_take {d : Nat} {L : List ℚ} : ∀ (es : List (Composite.Ev ℚ)) (n : Nat) (m : Mode) (cs : List (CObj ℚ)),
    AdmWRun d L m cs es → AdmWRun d L m cs (es.take n)
  | [], n, _, _, _ => by simp [AdmWRun]
  | e :: es, 0, _, _, _ => by simp [AdmWRun]
  | e :: es, n + 1, m, cs, ⟨m', h1, h2, h3⟩ => by
    rw [List.take_succ_cons]
    exact ⟨m', h1, h2, admWRun_take es n m' _ h3⟩

theorem run_oneChainM {d : Nat} {L : List ℚ} (hL : BoxOK d L) {sq : ℚ} : ∀ (es : List (Composite.Ev ℚ)) (m : Mode)
    (cs : List (CObj ℚ)), AllGood d L cs → OneChainM cs sq m → AdmWRun d L m cs es →
    AdmRun d L cs es ∧ AllGood d L (run Ops.rat isZ L cs es) ∧ ∃ m', OneChainM (run Ops.rat isZ L cs es) sq m'
  | [], m, _, h, hc, _ => ⟨trivial, h, m, hc⟩
  | e :: es, m, cs, h, hc, ⟨m', hm, ha, hes⟩ => by
    obtain ⟨hadm, hc'⟩ := step_chain_aux hL h hc e hm ha
    obtain ⟨r1, r2, r3⟩ := run_oneChainM hL es m' _ (step_good hL h e hadm) hc' hes
    exact ⟨⟨hadm, r1⟩, r2, r3⟩

theorem run_oneChain {d : Nat} {L : List ℚ} (hL : BoxOK d L) {sq : ℚ} (es : List (Composite.Ev ℚ)) (m : Mode)
    (cs : List (CObj ℚ)) (h : AllGood d L cs) (hc : OneChainM cs sq m) (ha : AdmWRun d L m cs es) :
    OneChain (run Ops.rat isZ L cs es) sq :=
  (oneChain_iff _ _).mpr (run_oneChainM hL es m cs h hc ha).2.2

/-- **C07, chain clause for composite objects** (readable form of `OneChain`): there are an object `i` and a velocity `v`
with squared norm `sq` such that every moving point mass of the system belongs to object `i` and has velocity `v`, and the
moving point masses are a single point mass or all point masses of object `i` (which has at least one). -/
theorem chain_clause {cs : List (CObj ℚ)} {sq : ℚ} (h : OneChain cs sq) :
    ∃ (i : Nat) (c : CObj ℚ) (v : List ℚ), cs[i]? = some c ∧ nsq v = sq ∧
      (∀ (k : Nat) (ck : CObj ℚ) (l : PUnit ℚ), cs[k]? = some ck → l ∈ ck.leaves → l.vel ≠ none → k = i ∧ l.vel = some v) ∧
      ((∃ (j : Nat) (a : PUnit ℚ), c.leaves[j]? = some a ∧ a.vel = some v ∧
          ∀ (k : Nat) (l : PUnit ℚ), c.leaves[k]? = some l → l.vel ≠ none → k = j) ∨
       (c.leaves ≠ [] ∧ ∀ l ∈ c.leaves, l.vel = some v)) := by
  obtain ⟨i, c, v, hc, hv, hmode, ho⟩ := h
  refine ⟨i, c, v, hc, hv, ?_, ?_⟩
  · intro k ck l hk hl hne
    have hki : k = i := by
      by_contra hki
      exact hne (ho k ck hk hki l hl)
    subst hki
    rw [hc] at hk; simp only [Option.some.injEq] at hk; subst hk
    refine ⟨rfl, ?_⟩
    rcases hmode with ⟨j, ⟨a, ha, hav⟩, hoth⟩ | hall
    · obtain ⟨k', hk'⟩ := List.getElem?_of_mem hl
      by_cases hkj : k' = j
      · subst hkj
        rw [ha] at hk'; simp only [Option.some.injEq] at hk'; subst hk'; exact hav
      · exact absurd (hoth k' l hk' hkj) hne
    · exact hall.2 l hl
  · rcases hmode with ⟨j, ⟨a, ha, hav⟩, hoth⟩ | hall
    · refine Or.inl ⟨j, a, ha, hav, ?_⟩
      intro k l hk hne
      by_contra hkj
      exact hne (hoth k l hk hkj)
    · exact Or.inr hall

/-- **C12 without the at-rest hypotheses, and C07's chain clause for composite objects.**
From an initial state at rest that satisfies `AllGood` (e.g. the random node creators, `dipole_initial_good`,
`water_initial_good`), for the start-of-run event followed by ANY event list whose events satisfy only the weak
admissibility `AdmW` (and whose kinds follow the mode protocol): the history is admissible in the sense of `AdmRun`
(`JF/Props/C12.lean`), and the reached state satisfies `AllGood`, `OneChain` with the squared speed of the start velocity,
and `RootConsistent` for every object. -/
theorem run_rootConsistent_chain {d : Nat} {L : List ℚ} (hL : BoxOK d L) (cs : List (CObj ℚ)) (h : AllGood d L cs)
    (hR : AllRest cs) (i : Nat) (P : List Nat) (v : List ℚ) (es : List (Composite.Ev ℚ))
    (ha : AdmWStart d L cs i P v es) :
    AdmRun d L cs (.start i P v :: es) ∧
    AllGood d L (run Ops.rat isZ L cs (.start i P v :: es)) ∧
    OneChain (run Ops.rat isZ L cs (.start i P v :: es)) (nsq v) ∧
    ∀ c ∈ run Ops.rat isZ L cs (.start i P v :: es), RootConsistent L c := by
  obtain ⟨hs, m, hm, hes⟩ := ha
  have hadm := admW_adm_start hR hs
  have hg := step_good hL h _ hadm
  obtain ⟨r1, r2, r3⟩ := run_oneChainM hL es m _ hg (start_oneChainM hR hs hm) hes
  exact ⟨⟨hadm, r1⟩, r2, (oneChain_iff _ _).mpr r3, fun c hc => good_rootConsistent (r2 c hc)⟩

/-- the same after every event of the history ("every reached state"): the state after the start and the first `n`
events of `es` -/
theorem reached_rootConsistent_chain {d : Nat} {L : List ℚ} (hL : BoxOK d L) (cs : List (CObj ℚ)) (h : AllGood d L cs)
    (hR : AllRest cs) (i : Nat) (P : List Nat) (v : List ℚ) (es : List (Composite.Ev ℚ))
    (ha : AdmWStart d L cs i P v es) (n : Nat) :
    AllGood d L (run Ops.rat isZ L cs (.start i P v :: es.take n)) ∧
    OneChain (run Ops.rat isZ L cs (.start i P v :: es.take n)) (nsq v) ∧
    ∀ c ∈ run Ops.rat isZ L cs (.start i P v :: es.take n), RootConsistent L c := by
  obtain ⟨hs, m, hm, hes⟩ := ha
  exact (run_rootConsistent_chain hL cs h hR i P v (es.take n) ⟨hs, m, hm, admWRun_take es n m _ hes⟩).2

theorem run_chain_clause {d : Nat} {L : List ℚ} (hL : BoxOK d L) (cs : List (CObj ℚ)) (h : AllGood d L cs)
    (hR : AllRest cs) (i : Nat) (P : List Nat) (v : List ℚ) (es : List (Composite.Ev ℚ))
    (ha : AdmWStart d L cs i P v es) :
    ∃ (i' : Nat) (c : CObj ℚ) (w : List ℚ), (run Ops.rat isZ L cs (.start i P v :: es))[i']? = some c ∧ nsq w = nsq v ∧
      (∀ (k : Nat) (ck : CObj ℚ) (l : PUnit ℚ), (run Ops.rat isZ L cs (.start i P v :: es))[k]? = some ck → l ∈ ck.leaves →
        l.vel ≠ none → k = i' ∧ l.vel = some w) ∧
      ((∃ (j : Nat) (a : PUnit ℚ), c.leaves[j]? = some a ∧ a.vel = some w ∧
          ∀ (k : Nat) (l : PUnit ℚ), c.leaves[k]? = some l → l.vel ≠ none → k = j) ∨
       (c.leaves ≠ [] ∧ ∀ l ∈ c.leaves, l.vel = some w)) :=
  chain_clause (run_rootConsistent_chain hL cs h hR i P v es ha).2.2.1

/-! ### non-vacuity: the two dipole histories of `JF/Props/C12.lean` are weakly admissible from the state at rest -/

section examples

theorem ex_rest : AllRest [exC0, exC1] := by
  intro c hc
  simp only [List.mem_cons, List.not_mem_nil, or_false] at hc
  rcases hc with rfl | rfl <;>
  · intro l hl
    simp only [exC0, exC1, List.mem_cons, List.not_mem_nil, or_false] at hl
    rcases hl with rfl | rfl <;> rfl

theorem AdmWRun.cons {d : Nat} {L : List ℚ} {m m' : Mode} {cs cs' : List (CObj ℚ)} {e : Composite.Ev ℚ}
    {es : List (Composite.Ev ℚ)} (hm : modeStep m e = some m') (ha : AdmW d L cs e)
    (hs : step Ops.rat isZ L cs e = cs') (h : AdmWRun d L m' cs' es) : AdmWRun d L m cs (e :: es) :=
  ⟨m', hm, ha, hs ▸ h⟩

theorem AdmWStart.intro {d : Nat} {L : List ℚ} {m : Mode} {cs cs' : List (CObj ℚ)} {i : Nat} {P : List Nat} {v : List ℚ}
    {es : List (Composite.Ev ℚ)} (ha : AdmW d L cs (.start i P v)) (hm : StartMode cs i P m)
    (hs : step Ops.rat isZ L cs (.start i P v) = cs') (h : AdmWRun d L m cs' es) : AdmWStart d L cs i P v es :=
  ⟨ha, m, hm, hs ▸ h⟩

/-- leaf mode: `exLeafHistory = start (leaf 0 of object 0) :: exchange :: eocLeaf :: keep` -/
theorem ex_leaf_admW : AdmWStart 2 exL [exC0, exC1] 0 [0] [1, 0]
    [.exchange ⟨0, 1/2⟩ [0] 0 0 0 1, .eocLeaf ⟨1, 0⟩ 0 1 1 0 [0, 1], .keep ⟨1, 1/2⟩ [1]] :=
  AdmWStart.intro (m := .leaf) (admW_of_check (by decide +kernel)) rfl exLeaf_step1
    (AdmWRun.cons rfl (admW_of_check (by decide +kernel)) exLeaf_step2
      ⟨.leaf, rfl, admW_of_check (by decide +kernel), .leaf, rfl, trivial, trivial⟩)

example : exLeafHistory = .start 0 [0] [1, 0] ::
    [.exchange ⟨0, 1/2⟩ [0] 0 0 0 1, .eocLeaf ⟨1, 0⟩ 0 1 1 0 [0, 1], .keep ⟨1, 1/2⟩ [1]] := rfl

/-- the at-rest and which-leaves-move clauses of `Adm` are derived, not supplied -/
theorem ex_leaf_admissible : AdmRun 2 exL [exC0, exC1] exLeafHistory :=
  (run_rootConsistent_chain exBox _ ex_initial ex_rest _ _ _ _ ex_leaf_admW).1

example : ∀ c ∈ run Ops.rat isZ exL [exC0, exC1] exLeafHistory, RootConsistent exL c :=
  run_rootConsistent exBox _ _ ex_initial ex_leaf_admissible

example : AdmRun 2 exL [exC0, exC1] exLeafHistory ∧ AllGood 2 exL (run Ops.rat isZ exL [exC0, exC1] exLeafHistory) ∧
    OneChain (run Ops.rat isZ exL [exC0, exC1] exLeafHistory) 1 ∧
    ∀ c ∈ run Ops.rat isZ exL [exC0, exC1] exLeafHistory, RootConsistent exL c := by
  have := run_rootConsistent_chain exBox _ ex_initial ex_rest _ _ _ _ ex_leaf_admW
  have e : nsq [1, 0] = 1 := by norm_num [nsq]
  rw [e] at this
  exact this

/-- root mode: `exRootHistory = start (both leaves of object 0) :: pass :: toLeaf :: toRoot :: eocRoot :: eocRoot` -/
theorem ex_root_admW : AdmWStart 2 exL [exC0, exC1] 0 [0, 1] [1, 0]
    [.pass ⟨0, 1/4⟩ [0, 1] 0 1, .toLeaf ⟨0, 1/2⟩ 1 1, .toRoot ⟨0, 3/4⟩ 1, .eocRoot ⟨1, 0⟩ 1 1 [0, 1],
     .eocRoot ⟨1, 1/2⟩ 1 0 [1, 0]] :=
  AdmWStart.intro (m := .root) (admW_of_check (by decide +kernel)) ⟨exC0, rfl, by decide⟩ exRoot_step1
    (AdmWRun.cons (m' := .root) rfl (admW_of_check (by decide +kernel)) exRoot_step2
      (AdmWRun.cons (m' := .leaf) rfl (admW_of_check (by decide +kernel)) exRoot_step3
        (AdmWRun.cons (m' := .root) rfl (admW_of_check (by decide +kernel)) exRoot_step4
          (AdmWRun.cons (m' := .root) rfl (admW_of_check (by decide +kernel)) exRoot_step5
            ⟨.root, rfl, admW_of_check (by decide +kernel), trivial⟩))))

example : exRootHistory = .start 0 [0, 1] [1, 0] ::
    [.pass ⟨0, 1/4⟩ [0, 1] 0 1, .toLeaf ⟨0, 1/2⟩ 1 1, .toRoot ⟨0, 3/4⟩ 1, .eocRoot ⟨1, 0⟩ 1 1 [0, 1],
     .eocRoot ⟨1, 1/2⟩ 1 0 [1, 0]] := rfl

theorem ex_root_admissible : AdmRun 2 exL [exC0, exC1] exRootHistory :=
  (run_rootConsistent_chain exBox _ ex_initial ex_rest _ _ _ _ ex_root_admW).1

example : ∀ c ∈ run Ops.rat isZ exL [exC0, exC1] exRootHistory, RootConsistent exL c :=
  run_rootConsistent exBox _ _ ex_initial ex_root_admissible

example : AdmRun 2 exL [exC0, exC1] exRootHistory ∧ AllGood 2 exL (run Ops.rat isZ exL [exC0, exC1] exRootHistory) ∧
    OneChain (run Ops.rat isZ exL [exC0, exC1] exRootHistory) 1 ∧
    ∀ c ∈ run Ops.rat isZ exL [exC0, exC1] exRootHistory, RootConsistent exL c := by
  have := run_rootConsistent_chain exBox _ ex_initial ex_rest _ _ _ _ ex_root_admW
  have e : nsq [1, 0] = 1 := by norm_num [nsq]
  rw [e] at this
  exact this

/-- a history with a cell-boundary event: leaf 0 of object 0 started at x = 3/4 with velocity 1 and reaches the boundary
x = 0 (≡ 1) at t = 1/4 -/
theorem ex_snap_admW : AdmWStart 2 exL [exC0, exC1] 0 [0] [1, 0] [.snap ⟨0, 1/4⟩ [0] 0 (some 0) 0 0] :=
  AdmWStart.intro (m := .leaf) (admW_of_check (by decide +kernel)) rfl exLeaf_step1
    ⟨.leaf, rfl, admW_of_check (by decide +kernel), trivial⟩
example : OneChain (run Ops.rat isZ exL [exC0, exC1] [.start 0 [0] [1, 0], .snap ⟨0, 1/4⟩ [0] 0 (some 0) 0 0]) (nsq [1, 0]) :=
  (run_rootConsistent_chain exBox _ ex_initial ex_rest _ _ _ _ ex_snap_admW).2.2.1

/-- the mode hypothesis cannot be dropped: in ROOT mode (both leaves of object 0 move) the leaf-mode event kind `exchange`
from leaf (0, 0) to leaf (1, 0) satisfies `AdmW` and even the strong `Adm`, yet afterwards two objects have moving leaves -/
example : AdmW 2 exL (step Ops.rat isZ exL [exC0, exC1] (.start 0 [0, 1] [1, 0])) (.exchange ⟨0, 1/4⟩ [0] 0 0 1 0) ∧
    Adm 2 exL (step Ops.rat isZ exL [exC0, exC1] (.start 0 [0, 1] [1, 0])) (.exchange ⟨0, 1/4⟩ [0] 0 0 1 0) ∧
    ¬ ∃ sq, OneChain (run Ops.rat isZ exL [exC0, exC1] [.start 0 [0, 1] [1, 0], .exchange ⟨0, 1/4⟩ [0] 0 0 1 0]) sq := by
  simp only [run, List.foldl_cons, List.foldl_nil]
  rw [exRoot_step1]
  refine ⟨admW_of_check (by decide +kernel),
    ⟨by simp, _, _, [1, 0], rfl, by decide +kernel, rfl, by decide +kernel, fun _ c' hc' => ?_⟩, ?_⟩
  · obtain rfl := Option.some.inj hc'
    decide +kernel
  · -- afterwards leaf 1 of object 0 and leaf 0 of object 1 move
    rintro ⟨sq, i, c, v, -, -, -, ho⟩
    by_cases hi : i = 0
    · exact absurd (ho 1 _ rfl (by omega) _ (List.mem_of_getElem? (i := 0) rfl)) (by decide +kernel)
    · exact absurd (ho 0 _ rfl (Ne.symm hi) _ (List.mem_of_getElem? (i := 1) rfl)) (by decide +kernel)
end examples

end JF.C12
