import JF.Lemmas.C20LoopEnv
import JF.Lemmas.C20LoopRun
import JF.Props.C20
import JF.Props.MediatorLoop
/-!
# C20 over the concrete single-process loop: the multi-process mediator refines `JF.Med.runLegs`

`JF.C20.mp_refines_sp` (`JF/Props/C20.lean`) is relative to an abstract *rest of the application* `env : JF.MP.Env` obeying the
activator/scheduler protocol `JF.MP.Protocol`.  `JF/Model/Mediator.lean` (with `JF/Props/MediatorLoop.lean`) is the loop of
`SingleProcessMediator.run` as a concrete machine (activator model × scheduler instance × preceding handler).  Here `env` is
`medEnv L hs W` (`JF/Lemmas/C20LoopEnv.lean`), built from the components of `JF.Med.leg` for a configuration `M` with `Static M`, a
scheduler instance `I` with `Laws` (spec, list, heap) and a `World W` (global states, yields, handler computations).
`Protocol (medEnv …) Running` is a theorem (`protocol_medEnv`: the invariant of the single-process loop gives every field), so no
protocol hypothesis remains, and the theorems of `JF/Props/MediatorLoop.lean` about the committed sequence hold for multi-process
runs (`…_mp`).

What `Protocol`/`Env` demand beyond the single-process loop, and how it is met (see also the header of `C20LoopEnv.lean`):
1. `Env` is total while `JF.Med.leg` raises: the environment has a mode `halted` it enters at the first exception of the activator /
   in-state assertion / scheduler (and when called out of phase); there it behaves like a trivial application keeping the protocol.
   All statements below are about the legs on which `JF.Med.leg` succeeds (`runLegs` stops at the first exception anyway); they say
   nothing about what both mediators would do after an exception of the rest of the application (the real run ends there).
   `EndOfRun` is not an exception of the environment: the statements hold for the prefix `runLegs` makes, the environment itself
   would go on (as `JF.MediatorLoop.Run` does).
2. `choose_run` needs a running handler even when nothing runs and the scheduler is empty (`get_succeeding_event` raises): `activate`
   goes to `halted` already when no handler runs after it (the leg of `JF.Med.leg` raises `schedEmpty` in that case).

Identity-modelled: the handlers' computations (`World.cand`, `World.out`: arbitrary functions of handler, leg number and global
state, as in `JF.MP.Env`), the yields of the taggers (`World.yields`: arbitrary function of the global state), the global state
itself and `insert_into_global_state` (`World.commit`).
-/
namespace JF.C20Loop
open JF JF.Act JF.Heap JF.Sched JF.Med JF.MediatorLoop

section main
variable {κ G O : Type} {cfg : Cfg κ} {I : SchedI κ} {vis : κ → Bool} {R : I.σ → Pend κ → κ → Prop} {M : MWire}

/-- **`Protocol medEnv Running`**, with `Running e h` = "`h` is in `_running_event_handlers` of some tagger" -/
theorem protocol_medEnv (L : Laws cfg I vis R) (hs : Static M) (W : World G O κ) :
    MP.Protocol (medEnv L hs W) Running :=
  medProtocol L hs W

theorem runSP_length {E T : Type} (env : MP.Env G E T O) : ∀ (k n : Nat) (g : G) (e : E) (last : Nat → Nat) (hist : Nat → G),
    (MP.runSP env k n g e last hist).length = k := by
  intro k
  induction k with
  | zero => intro n g e last hist; rfl
  | succ k ih => intro n g e last hist; simp [MP.runSP, ih]

/-- the abstract single-process reference of C20 on the concrete environment, from the initial state -/
def spRun (L : Laws cfg I vis R) (hs : Static M) (W : World G O κ) (k : Nat) (g : G) (hist : Nat → G) : List (MP.Commit G κ O) :=
  MP.runSP (medEnv L hs W) k 0 g (medInit L M) (fun _ => 0) hist

theorem runSP_eq_run (L : Laws cfg I vis R) (hs : Static M) (W : World G O κ) (k : Nat) (g : G) (hist : Nat → G)
    {st : MedState I.σ} {os : List (Oracle κ)} {cs : List (Committed κ)} (hrun : Run M I (MedState.init I M.w) os cs st)
    {m : Nat} (hos : os = (oracles W 0 g (spRun L hs W k g hist)).take m) :
    cs.map keyMed = ((spRun L hs W k g hist).take cs.length).map keyMP :=
  runSP_run L hs W hrun k 0 g (fun _ => 0) hist _ _ (medInit L M).2 m (minv_init L M) (fun h t e => by cases e) hos

/-- **`runSP medEnv` unfolds to `JF.Med.runLegs`.**  Feed `runLegs` from the initial state with the oracle values of the `k` commits
`sp` of the abstract reference on `medEnv` (yields of the taggers on the global state at the start of each leg, candidate time of
every handler in that leg).  Its commits `cs` are the first `cs.length` commits of `sp` — same handler, same time — and
`cs.length = k` unless `runLegs` ended with an exception (`fin = none`) or with the end-of-run commit. -/
theorem runSP_eq_runLegs (L : Laws cfg I vis R) (hs : Static M) (W : World G O κ) (k : Nat) (g : G) (hist : Nat → G)
    {cs : List (Committed κ)} {fin : Option (MedState I.σ)}
    (e : runLegs M I (MedState.init I M.w) (oracles W 0 g (spRun L hs W k g hist)) = (cs, fin)) :
    cs.map keyMed = ((spRun L hs W k g hist).take cs.length).map keyMP ∧
    (cs.length = k ∨ fin = none ∨ ∃ c, cs.getLast? = some c ∧ c.stop = true) := by
  obtain ⟨st', hrun, -⟩ := runLegs_isRun M I (oracles W 0 g (spRun L hs W k g hist)) (MedState.init I M.w)
  rw [e] at hrun
  refine ⟨runSP_eq_run L hs W k g hist hrun rfl, ?_⟩
  have := runLegs_length _ _ _ _ e
  rw [oracles_length, spRun, runSP_length] at this
  exact this

theorem runSP_eq_runLegs_full (L : Laws cfg I vis R) (hs : Static M) (W : World G O κ) (k : Nat) (g : G) (hist : Nat → G)
    {cs : List (Committed κ)} {fin : Option (MedState I.σ)}
    (e : runLegs M I (MedState.init I M.w) (oracles W 0 g (spRun L hs W k g hist)) = (cs, fin)) (hk : cs.length = k) :
    cs.map keyMed = (spRun L hs W k g hist).map keyMP := by
  have h := (runSP_eq_runLegs L hs W k g hist e).1
  have hl : (spRun L hs W k g hist).length = k := runSP_length _ _ _ _ _ _ _
  rw [hk, List.take_of_length_le (Nat.le_of_eq hl)] at h
  exact h

/-- the multi-process mediator on the concrete environment, from the initial state (`_start_processes`) -/
def mpRun (L : Laws cfg I vis R) (hs : Static M) (W : World G O κ) (mcfg : MP.Cfg) (advs : List (List (List Nat))) (g : G)
    (hist : Nat → G) : Except (Nat × MP.Err) (List (MP.Commit G κ O)) :=
  MP.runMP (medEnv L hs W) mcfg advs 0 g (medInit L M) (fun _ => {}) hist

/-- `mp_refines_sp` without a protocol hypothesis -/
theorem mp_refines_spRun (L : Laws cfg I vis R) (hs : Static M) (W : World G O κ) (mcfg : MP.Cfg)
    (advs : List (List (List Nat))) (g : G) (hist : Nat → G) :
    mpRun L hs W mcfg advs g hist = .ok (spRun L hs W advs.length g hist) ∨ MP.AdvFail (mpRun L hs W mcfg advs g hist) :=
  C20.mp_refines_sp (medEnv L hs W) Running (medProtocol L hs W) mcfg advs g (medInit L M) (medInit_running L M) hist

theorem mpRun_ok (L : Laws cfg I vis R) (hs : Static M) (W : World G O κ) (mcfg : MP.Cfg)
    (advs : List (List (List Nat))) (g : G) (hist : Nat → G) {l : List (MP.Commit G κ O)}
    (hmp : mpRun L hs W mcfg advs g hist = .ok l) : l = spRun L hs W advs.length g hist := by
  rcases mp_refines_spRun L hs W mcfg advs g hist with h | ⟨m, h | h⟩
  · rw [hmp] at h; exact Except.ok.inj h
  · rw [hmp] at h; cases h
  · rw [hmp] at h; cases h

theorem mp_eq_run (L : Laws cfg I vis R) (hs : Static M) (W : World G O κ) (mcfg : MP.Cfg)
    (advs : List (List (List Nat))) (g : G) (hist : Nat → G) {l : List (MP.Commit G κ O)}
    (hmp : mpRun L hs W mcfg advs g hist = .ok l)
    {st : MedState I.σ} {os : List (Oracle κ)} {cs : List (Committed κ)} (hrun : Run M I (MedState.init I M.w) os cs st)
    {m : Nat} (hos : os = (oracles W 0 g l).take m) :
    cs.map keyMed = (l.take cs.length).map keyMP := by
  have hl := mpRun_ok L hs W mcfg advs g hist hmp
  subst hl
  exact runSP_eq_run L hs W advs.length g hist hrun hos

/-- **The multi-process mediator refines the concrete single-process loop `JF.Med.runLegs`.**  For every configuration `M` with
`Static M` (every `Wiring` with `WiringSound`: `static_of_wiringSound`), every scheduler instance with `Laws` (spec-level, model of
`ListScheduler`, model of `HeapScheduler` on `heap.c`), every world, every core count, every assignment of `send_out_state` arities
and every adversary (one list of `connection.wait` results per leg): either the multi-process run stopped because the adversary
broke the contract of `wait` / stopped answering, or it returns commits `l` such that `runLegs`, fed with the oracle values of that
very run, commits exactly the first `cs.length` of them — same handler, same event time — where `cs.length` is the number of legs
unless the single-process loop itself ends earlier with an exception or with the end-of-run commit.  (`l` also equals the abstract
reference `runSP`, with out-states and global states.) -/
theorem mp_refines_medloop (L : Laws cfg I vis R) (hs : Static M) (W : World G O κ) (mcfg : MP.Cfg)
    (advs : List (List (List Nat))) (g : G) (hist : Nat → G) :
    (∃ l, mpRun L hs W mcfg advs g hist = .ok l ∧ l = spRun L hs W advs.length g hist ∧
      ∀ (cs : List (Committed κ)) (fin : Option (MedState I.σ)),
        runLegs M I (MedState.init I M.w) (oracles W 0 g l) = (cs, fin) →
        cs.map keyMed = (l.take cs.length).map keyMP ∧
        (cs.length = advs.length ∨ fin = none ∨ ∃ c, cs.getLast? = some c ∧ c.stop = true)) ∨
    MP.AdvFail (mpRun L hs W mcfg advs g hist) := by
  rcases mp_refines_spRun L hs W mcfg advs g hist with h | h
  · left
    refine ⟨_, h, rfl, fun cs fin e => runSP_eq_runLegs L hs W advs.length g hist e⟩
  · right; exact h

/-- for a configuration given as a `Wiring` with `WiringSound` (all shipped `.ini` files: `cfg_sound_<name>`) -/
theorem mp_refines_medloop_wiring (c : Wiring) (S : TaggerIdx) (needs : HandlerId → Bool) (sound : WiringSound c = true)
    (hS : c.start? = some S) (L : Laws cfg I vis R) (W : World G O κ) (mcfg : MP.Cfg) (advs : List (List (List Nat))) (g : G)
    (hist : Nat → G) :
    (∃ l, mpRun L (static_of_wiringSound c S needs sound hS) W mcfg advs g hist = .ok l ∧
      ∀ (cs : List (Committed κ)) (fin : Option (MedState I.σ)),
        runLegs (MWire.ofWiring c S needs) I (MedState.init I (MWire.ofWiring c S needs).w) (oracles W 0 g l) = (cs, fin) →
        cs.map keyMed = (l.take cs.length).map keyMP ∧
        (cs.length = advs.length ∨ fin = none ∨ ∃ c, cs.getLast? = some c ∧ c.stop = true)) ∨
    MP.AdvFail (mpRun L (static_of_wiringSound c S needs sound hS) W mcfg advs g hist) := by
  rcases mp_refines_medloop L (static_of_wiringSound c S needs sound hS) W mcfg advs g hist with ⟨l, h1, _, h3⟩ | h
  · exact Or.inl ⟨l, h1, h3⟩
  · exact Or.inr h

theorem key_at {cs : List (Committed κ)} {l : List (MP.Commit G κ O)}
    (h : cs.map keyMed = (l.take cs.length).map keyMP) {k : Nat} (hk : k < cs.length) {a : MP.Commit G κ O}
    (ha : l[k]? = some a) : ∃ c, cs[k]? = some c ∧ c.handler = a.handler ∧ c.time = a.time := by
  refine ⟨cs[k], List.getElem?_eq_getElem hk, ?_⟩
  have h1 : (cs.map keyMed)[k]? = some (keyMed cs[k]) := by
    rw [List.getElem?_map, List.getElem?_eq_getElem hk]; rfl
  have h2 : ((l.take cs.length).map keyMP)[k]? = some (keyMP a) := by
    rw [List.getElem?_map, List.getElem?_take, if_pos hk, ha]; rfl
  rw [h, h2] at h1
  have := Option.some.inj h1
  simp only [keyMed, keyMP, Prod.mk.injEq] at this
  exact ⟨this.1.symm, this.2.symm⟩

/-- **commit times of a multi-process run are non-decreasing** under the hypothesis `CandOK` of `JF.MediatorLoop.commit_times_sorted` (every candidate time pushed in a leg is
not before the previous commit), on every leg the concrete single-process loop makes on the oracle values of the run -/
theorem commit_times_sorted_mp (L : Laws cfg I vis R) (hs : Static M) (W : World G O κ) (mcfg : MP.Cfg)
    (advs : List (List (List Nat))) (g : G) (hist : Nat → G) {l : List (MP.Commit G κ O)}
    (hmp : mpRun L hs W mcfg advs g hist = .ok l)
    {st : MedState I.σ} {os : List (Oracle κ)} {cs : List (Committed κ)} (hrun : Run M I (MedState.init I M.w) os cs st)
    {m : Nat} (hos : os = (oracles W 0 g l).take m)
    (hcand : Legs (CandOK cfg) (fun _ => none) cfg.bot cs) {k : Nat} (hk : k + 1 < cs.length) {a b : MP.Commit G κ O}
    (h1 : l[k]? = some a) (h2 : l[k + 1]? = some b) : cfg.lt b.time a.time = false := by
  have hkey := mp_eq_run L hs W mcfg advs g hist hmp hrun hos
  obtain ⟨c, hc, _, hct⟩ := key_at hkey (by omega : k < cs.length) h1
  obtain ⟨c', hc', _, hct'⟩ := key_at hkey hk h2
  rw [← hct, ← hct']
  exact commit_times_sorted L hs hrun hcand hc hc'

/-- **C08's second sentence for multi-process runs** (`JF.MediatorLoop.no_stale_event_committed` transferred): let leg
`cs.length` of the concrete loop on the oracle values of a multi-process run commit an event of tagger `E` that may change the
motion of a unit, under C08's hypotheses `StepOK8` for the activator state of that leg.  If a handler `h` that was pending for a
bound (interaction / cell-veto) tagger at that commit is committed by the **multi-process** mediator in a later leg
`cs.length + 1 + j`, then `h` was handed out again by `get_event_handlers_to_run` after the motion-changing commit (in leg
`cs.length + 1 + i`, `i ≤ j`): the committed event is the new one; no stale event is committed. -/
theorem no_stale_event_committed_mp {G' U : Type} (L : Laws cfg I vis R) (hs : Static M) (W : World G O κ) (mcfg : MP.Cfg)
    (advs : List (List (List Nat))) (g : G) (hist : Nat → G) {l : List (MP.Commit G κ O)}
    (hmp : mpRun L hs W mcfg advs g hist = .ok l)
    {st st1 st2 : MedState I.σ} {os os' : List (Oracle κ)} {cs cs' : List (Committed κ)}
    (hrun : Run M I (MedState.init I M.w) os cs st) {o : Oracle κ} {c : Committed κ}
    (hleg : leg M I st o = .ok (st1, c)) (hlater : Run M I st1 os' cs' st2)
    {m : Nat} (hos : os ++ o :: os' = (oracles W 0 g l).take m)
    (Mo : C08.Motion G' U) (ms : C08.MS G') (hms : ms.rs.act = midAct M st o) {E : TaggerIdx}
    (hE : owner M.w c.handler = some E) {g' : G'} (ok : C08.StepOK8 M.w Mo ms E g') (hm : Mo.moves E)
    {T : TaggerIdx} (hb : Mo.bound T) {h : HandlerId} (hh : h ∈ (getT (midAct M st o) T).running)
    {j : Nat} (hj : j < cs'.length) {a : MP.Commit G κ O} (ha : l[cs.length + 1 + j]? = some a) (hc : a.handler = h) :
    ∃ (i : Nat) (ci : Committed κ), i ≤ j ∧ cs'[i]? = some ci ∧ h ∈ ci.created.map Prod.fst := by
  have hall := hrun.append (.cons hleg hlater)
  have hkey := mp_eq_run L hs W mcfg advs g hist hmp hall hos
  obtain ⟨cj, hcj, hch, _⟩ := key_at hkey (k := cs.length + 1 + j) (by simp; omega) ha
  have hcj' : cs'[j]? = some cj := by
    rw [List.getElem?_append_right (by omega)] at hcj
    have : cs.length + 1 + j - cs.length = j + 1 := by omega
    rw [this, List.getElem?_cons_succ] at hcj
    exact hcj
  exact no_stale_event_committed L hs hrun hleg hlater Mo ms hms hE ok hm hb hh hcj' (by rw [hch, hc])

/-- **a handler trashed in leg `k` is not committed by the multi-process mediator in a later leg `j` unless it was handed out
again in between** (`JF.MediatorLoop.trashed_never_committed_run` transferred) -/
theorem trashed_never_committed_mp (L : Laws cfg I vis R) (hs : Static M) (W : World G O κ) (mcfg : MP.Cfg)
    (advs : List (List (List Nat))) (g : G) (hist : Nat → G) {l : List (MP.Commit G κ O)}
    (hmp : mpRun L hs W mcfg advs g hist = .ok l)
    {st : MedState I.σ} {os : List (Oracle κ)} {cs : List (Committed κ)} (hrun : Run M I (MedState.init I M.w) os cs st)
    {m : Nat} (hos : os = (oracles W 0 g l).take m)
    {k j : Nat} {ck : Committed κ} {h : HandlerId} (hk : cs[k]? = some ck) (hh : h ∈ ck.trashed) (hkj : k < j)
    (hjl : j < cs.length) {a : MP.Commit G κ O} (ha : l[j]? = some a) (hc : a.handler = h) :
    ∃ (i : Nat) (ci : Committed κ), k < i ∧ i ≤ j ∧ cs[i]? = some ci ∧ h ∈ ci.created.map Prod.fst := by
  have hkey := mp_eq_run L hs W mcfg advs g hist hmp hrun hos
  obtain ⟨cj, hcj, hch, _⟩ := key_at hkey hjl ha
  exact trashed_never_committed_run L hs hrun hk hh hkj hcj (by rw [hch, hc])

/-- **the handler the multi-process mediator commits in leg `cs.length` is a running handler with a minimal pending event**
(`JF.MediatorLoop.committed_is_running` transferred): it is the handler `c.handler` of the concrete leg, which runs for its own
tagger in the activator state of that moment, whose event is pending with the committed time, minimal among the events the
scheduler keeps (`LegOK`) -/
theorem committed_is_running_mp (L : Laws cfg I vis R) (hs : Static M) (W : World G O κ) (mcfg : MP.Cfg)
    (advs : List (List (List Nat))) (g : G) (hist : Nat → G) {l : List (MP.Commit G κ O)}
    (hmp : mpRun L hs W mcfg advs g hist = .ok l)
    {st st1 : MedState I.σ} {os : List (Oracle κ)} {cs : List (Committed κ)} (hrun : Run M I (MedState.init I M.w) os cs st)
    {o : Oracle κ} {c : Committed κ} (hleg : leg M I st o = .ok (st1, c))
    {m : Nat} (hos : os ++ [o] = (oracles W 0 g l).take m) {a : MP.Commit G κ O} (ha : l[cs.length]? = some a) :
    a.handler = c.handler ∧ a.time = c.time ∧
    LegOK cfg vis (pendOf (fun _ => none) cs) (lastOf cfg.bot cs) c ∧
    ∃ E, owner M.w a.handler = some E ∧ a.handler ∈ (getT (midAct M st o) E).running := by
  have hall := run_snoc hrun hleg
  have hkey := mp_eq_run L hs W mcfg advs g hist hmp hall hos
  obtain ⟨cj, hcj, hch, hct⟩ := key_at hkey (k := cs.length) (by simp) ha
  have : cj = c := by
    rw [List.getElem?_append_right (Nat.le_refl _), Nat.sub_self, List.getElem?_cons_zero] at hcj
    exact (Option.some.inj hcj).symm
  subst this
  obtain ⟨ok, E, hE, hr, _⟩ := committed_is_running L hs hrun hleg
  exact ⟨hch.symm, hct.symm, ok, E, by rw [← hch]; exact hE, by rw [← hch]; exact hr⟩

end main

/-! ## Non-vacuity: the small configuration of `JF.MediatorLoop.Example` under the multi-process machine -/

namespace Example
open JF.MediatorLoop.Example

/-- a world for the run of `JF.MediatorLoop.Example`: global states are naturals, every tagger yields `ys` on every state, the
candidate times are those of the oracle list `os` of that example (leg by leg), out-states and commits are arithmetic that makes
every global state depend on the whole history (so equal global states mean equal histories) -/
def exW : World Nat Nat Nat where
  yields _ := ys
  cand h n _ := ((os[n]?).map (·.cand h)).getD 0
  out h n g := 100 * h + 10 * n + g
  commit g o := g + o + 1

theorem L : Laws natCfg (specI natCfg) natCfg.finite (SRel natCfg) := specLaws natOrd

def cfg3 : MP.Cfg := ⟨3, fun _ => false⟩
def cfg2 : MP.Cfg := ⟨2, fun _ => false⟩

/-- 3 cores. Leg 1 hands out the handlers 1, 2, 3 (in this order); the candidate times arrive out of order: first 3 and 1 — after
the second, one time is outstanding and `0 < 1 < cores − 1`, so the out-state of handler 3 (head of `pipes_time_received`) is
started ahead of time —, then the pre-computed out-state of 3 (which starts the pre-computation of 1) together with the time of 2.
Handler 1 is committed from a pre-computation in flight, the pre-computed out-state of 3 stays stored until leg 5. -/
def adv3 : List (List (List Nat)) := [[[4]], [[3, 1], [3, 2]], [[1]], [[1]], [[2]], [[2]]]
/-- 2 cores (no pre-computation): in leg 1 the times arrive in the order 3, 2, 1 -/
def adv2 : List (List (List Nat)) := [[[4]], [[3], [2, 1]], [[1]], [[1]], [[2]], [[2]]]

/-- what the receive loop of leg 1 does under `adv3` (handlers 1, 2, 3 are in their initial local state in the real leg 1 as well;
only handler 4 differs from the initial state): arrival order 3, 1, 2; pushes in the activator's order 1, 2, 3; two pre-computations;
the committed out-state is one that was in flight -/
example : (match MP.leg cfg3 1 (fun _ => {}) [1, 2, 3] [[3, 1], [3, 2]] 1 [1] with
    | .ok o => decide (o.loop.recvd = [(3, 1), (1, 1), (2, 1)] ∧ o.pushes = [(1, 1), (2, 1), (3, 1)] ∧ o.loop.pre = [3, 1] ∧
        o.path = .inFlight ∧ (o.st 3).stored = some 1)
    | .error _ => false) = true := by decide +kernel

def view (r : Except (Nat × MP.Err) (List (MP.Commit Nat Nat Nat))) : Option (List (Nat × Nat × Nat × Nat)) :=
  r.toOption.map fun l => l.map fun c => (c.handler, c.time, c.out, c.post)

/-- **the multi-process machine over the concrete loop, evaluated**: 3 cores with out-of-order arrivals and pre-computations, 2 cores
with out-of-order arrivals — both commit (handler, time, out-state, global state) of the abstract reference; the out-state of
handler 2 committed in leg 3 and that of handler 3 committed in leg 5 were computed from the in-state of leg 1 (`out = 100·h + 10·1 + g₁`) -/
example :
    view (mpRun L static exW cfg3 adv3 0 (fun _ => 0)) =
      some [(4, 0, 400, 401), (1, 7, 511, 913), (1, 8, 1033, 1947), (2, 10, 611, 2559), (2, 20, 2799, 5359), (3, 30, 711, 6071)] ∧
    view (mpRun L static exW cfg2 adv2 0 (fun _ => 0)) = view (mpRun L static exW cfg3 adv3 0 (fun _ => 0)) ∧
    view (.ok (spRun L static exW 6 0 (fun _ => 0))) = view (mpRun L static exW cfg3 adv3 0 (fun _ => 0)) := by
  decide +kernel

/-- … and exactly the sequence of handlers and times of the concrete single-process loop `JF.Med.runLegs` in that example
(`specRun`: handlers 4, 1, 1, 2, 2, 3 at times 0, 7, 8, 10, 20, 30), also for the list and the heap loop -/
example :
    (mpRun L static exW cfg3 adv3 0 (fun _ => 0)).toOption.map (·.map keyMP) = some (specRun.1.map keyMed) ∧
    (mpRun L static exW cfg2 adv2 0 (fun _ => 0)).toOption.map (·.map keyMP) = some (specRun.1.map keyMed) ∧
    (mpRun (listLaws natOrd) static exW cfg3 adv3 0 (fun _ => 0)).toOption.map (·.map keyMP) = some (listRun.1.map keyMed) ∧
    (mpRun (heapLaws natOrd (W := 4294967296) (by decide)) static exW cfg3 adv3 0 (fun _ => 0)).toOption.map (·.map keyMP) =
      some (heapRun.1.map keyMed) := by
  decide +kernel

/-- an illegitimate adversary (under 2 cores handler 3 has nothing in flight after its time was read) is reported as such -/
example : (match mpRun L static exW cfg2 adv3 0 (fun _ => 0) with
    | .error (n, e) => decide (n = 1 ∧ e = .adversary) | .ok _ => false) = true := by
  decide +kernel

/-! ### the hypotheses of the `…_mp` theorems hold on this run -/

/-- the commits of the multi-process run under `adv3` -/
def sp : List (MP.Commit Nat Nat Nat) := spRun L static exW adv3.length 0 (fun _ => 0)

theorem mp_ok : mpRun L static exW cfg3 adv3 0 (fun _ => 0) = .ok sp := by
  have hs : (mpRun L static exW cfg3 adv3 0 (fun _ => 0)).toOption.isSome = true := by decide +kernel
  rcases mp_refines_spRun L static exW cfg3 adv3 0 (fun _ => 0) with h | ⟨m, h | h⟩
  · exact h
  · rw [h] at hs; cases hs
  · rw [h] at hs; cases hs

def xs : List (Oracle Nat) := oracles exW 0 0 sp

theorem xs_length : xs.length = 6 := by
  unfold xs sp spRun; rw [oracles_length, runSP_length]; rfl

def medRun := runLegs M (specI natCfg) (MedState.init (specI natCfg) M.w) xs

/-- `mp_refines_medloop` / `runSP_eq_runLegs`: here `runLegs` makes all six legs and ends with the end-of-run commit -/
example : medRun.1.map keyMed = sp.map keyMP ∧ medRun.1.length = 6 ∧ medRun.2.isSome = true ∧
    medRun.1.map (·.stop) = [false, false, false, false, false, true] := by decide +kernel

theorem medRun_run : ∃ st', Run M (specI natCfg) (MedState.init (specI natCfg) M.w) (xs.take medRun.1.length) medRun.1 st' :=
  let ⟨st', h, _⟩ := runLegs_isRun M (specI natCfg) xs _; ⟨st', h⟩

theorem candOK_of_check : ∀ (cs : List (Committed Nat)) (p : Pend Nat) (l : Nat),
    (cs.foldr (fun c (acc : Nat → Bool) l => c.pushed.all (fun q => !natCfg.lt q.2 l) && acc c.time) (fun _ => true)) l = true →
    Legs (CandOK natCfg) p l cs :=
  MediatorLoop.candOK_of_check natCfg

theorem sp1 : (sp[1]?).isSome = true := by decide +kernel
theorem sp2 : (sp[2]?).isSome = true := by decide +kernel

/-- `commit_times_sorted_mp` applies to legs 1 and 2 of the multi-process run (times 7 and 8) -/
example : natCfg.lt ((sp[2]?).get sp2).time ((sp[1]?).get sp1).time = false := by
  obtain ⟨st', hrun⟩ := medRun_run
  exact commit_times_sorted_mp L static exW cfg3 adv3 0 (fun _ => 0) mp_ok hrun rfl
    (candOK_of_check _ _ _ (by decide +kernel)) (k := 1) (by decide +kernel) (Option.some_get sp1).symm (Option.some_get sp2).symm

/-! `trashed_never_committed_mp` applies: handler 1 is trashed in leg 1 and committed by the multi-process mediator in leg 2 — it was
handed out again in leg 2 -/
theorem mr1 : (medRun.1[1]?).isSome = true := by decide +kernel

example : ∃ (i : Nat) (ci : Committed Nat), 1 < i ∧ i ≤ 2 ∧ medRun.1[i]? = some ci ∧ (1 : HandlerId) ∈ ci.created.map Prod.fst := by
  obtain ⟨st', hrun⟩ := medRun_run
  exact trashed_never_committed_mp L static exW cfg3 adv3 0 (fun _ => 0) mp_ok hrun rfl (k := 1) (j := 2) (h := 1)
    (Option.some_get mr1).symm (by decide +kernel) (by decide) (by decide +kernel) (Option.some_get sp2).symm (by decide +kernel)

/-! `no_stale_event_committed_mp` applies (as `JF.MediatorLoop.no_stale_event_committed` in `JF.MediatorLoop.Example`): leg 1 commits a
motion-changing event of the factor tagger 0 (handler 1, pending for the bound tagger 0, is trashed); the multi-process mediator
commits handler 1 in leg 2 — after it was handed out again in that leg.  The run is cut into leg 0 / leg 1 / legs 2–5. -/

theorem split_at {α : Type} (l : List α) (i : Nat) (h : i < l.length) : l.take i ++ l[i] :: l.drop (i + 1) = l := by
  rw [← List.drop_eq_getElem_cons h, List.take_append_drop]

def x1 : Oracle Nat := xs[1]'(by rw [xs_length]; decide)
def rA := runLegs M (specI natCfg) (MedState.init (specI natCfg) M.w) (xs.take 1)
theorem rA_some : rA.2.isSome = true := by decide +kernel
def stA := rA.2.get rA_some
def legB := (leg M (specI natCfg) stA x1).toOption
theorem legB_some : legB.isSome = true := by decide +kernel
def stB := (legB.get legB_some).1
def cB := (legB.get legB_some).2
def rC := runLegs M (specI natCfg) stB (xs.drop 2)
theorem rC_some : rC.2.isSome = true := by decide +kernel

theorem hA1 : rA.1.length = 1 := by decide +kernel
theorem runA : Run M (specI natCfg) (MedState.init (specI natCfg) M.w) ((xs.take 1).take rA.1.length) rA.1 stA :=
  runLegs_run_take (xs.take 1) _ stA rA.1 (Prod.ext rfl (Option.some_get rA_some).symm)
theorem legB_ok : leg M (specI natCfg) stA x1 = .ok (stB, cB) := ok_of_toOption (Option.some_get legB_some).symm

example : ∃ (i : Nat) (ci : Committed Nat), i ≤ 0 ∧ rC.1[i]? = some ci ∧ (1 : HandlerId) ∈ ci.created.map Prod.fst := by
  obtain ⟨stC, (runC : Run M (specI natCfg) stB ((xs.drop 2).take rC.1.length) rC.1 stC), -⟩ :=
    runLegs_isRun M (specI natCfg) (xs.drop 2) stB
  have hC4 : rC.1.length = 4 := by decide +kernel
  -- the three pieces are the oracle values of the multi-process run
  have hos : (xs.take 1).take rA.1.length ++ x1 :: (xs.drop 2).take rC.1.length = (oracles exW 0 0 sp).take 6 := by
    have e1 : (xs.take 1).take rA.1.length = xs.take 1 := by rw [hA1, List.take_take]; rfl
    have e2 : (xs.drop 2).take rC.1.length = xs.drop 2 := by
      rw [hC4]; exact List.take_of_length_le (by rw [List.length_drop, xs_length])
    rw [e1, e2]
    show _ = xs.take 6
    rw [List.take_of_length_le (Nat.le_of_eq xs_length)]
    exact split_at xs 1 (by rw [xs_length]; decide)
  refine no_stale_event_committed_mp L static exW cfg3 adv3 0 (fun _ => 0) mp_ok runA legB_ok runC hos C08.Example.M
    (⟨⟨midAct M stA x1, fun _ => none, 5⟩, fun _ => 5⟩ : C08.MS Nat) rfl (E := 0) (by decide +kernel) (g' := 5)
    ⟨fun h => absurd trivial h, fun _ T hb => Or.inl (by rw [show T = 0 from hb]; decide +kernel)⟩ trivial (T := 0) rfl (h := 1)
    (by decide +kernel) (j := 0) (by rw [hC4]; decide) (a := (sp[2]?).get sp2) ?_ (by decide +kernel)
  rw [hA1]
  exact (Option.some_get sp2).symm

/-- `committed_is_running_mp` applies to leg 1: the handler the multi-process mediator commits there (handler 1 at time 7) runs for
its tagger, and its event is a minimal pending one -/
example : ((sp[1]?).get sp1).handler = cB.handler ∧ ((sp[1]?).get sp1).time = cB.time ∧
    ∃ E, owner M.w ((sp[1]?).get sp1).handler = some E ∧ ((sp[1]?).get sp1).handler ∈ (getT (midAct M stA x1) E).running := by
  have hos : (xs.take 1).take rA.1.length ++ [x1] = (oracles exW 0 0 sp).take 2 := by
    rw [hA1, List.take_take]
    show xs.take 1 ++ [x1] = xs.take 2
    rw [List.take_succ_eq_append_getElem (by rw [xs_length]; decide)]
    rfl
  obtain ⟨h1, h2, _, h4⟩ := committed_is_running_mp L static exW cfg3 adv3 0 (fun _ => 0) mp_ok runA legB_ok hos
    (a := (sp[1]?).get sp1) (by rw [hA1]; exact (Option.some_get sp1).symm)
  exact ⟨h1, h2, h4⟩

end Example

end JF.C20Loop
