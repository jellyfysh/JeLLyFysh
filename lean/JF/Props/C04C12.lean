import JF.Props.C04
import JF.Props.C12Chain
import JF.Lemmas.SystemRunKin
import JF.Lemmas.C04C12NSort
/-!
# C04's root-unit-active handler model (`JF.Thin.sendRoot`) linked to C12's two-level machine (`JF.Composite`)

Exact reading (`α = ℚ`).  The situation is the record `Pair v a b n X Y`: two whole composite objects as the handler is
handed them, with any number `n ≥ 1` of leaf units each, `X` moving with `v` and `Y` at rest, identifiers `[a]`, `[a,j]`
and `[b]`, `[b,j]` for arbitrary `a ≠ b` (both sort orders of `_construct_leaf_units_of_composite_objects`), root weight
`1`, leaf weights adding up to one; time-slicing keeps it (`Pair.slice`).  For a `Pair`, in either branch order: the
out-state of the handler model (`passComposite_pair`, `sendRoot_pair`), the conservation of the weighted velocity sums
(`momentum_pass`), the confirmed out-state is C12's `pass` of the in-state (`sendRoot_pair_toObj`, leaf weights `1/n` in
C12's machine), which keeps C12's invariant (`pass_good_pair`), hence `C12.RootConsistent` of the confirmed out-state
(`rootConsistent_pair`).

**Scope (why the names end in `_partial`).**  The theorems whose names end in `_partial` are `rootConsistent_pair` and
`sendRoot_pair_toObj` at TWO DIPOLES (`pair_dip`: two leaf units per object, the case of the shipped dipole
configurations): branches `[active, target]` (`inSt`) or `[target, active]` (`inStR`, `…_rev_partial`), leaf weights
`1/2`; positions, charges, `v`, the dimension, the box length, all time stamps and the event time are arbitrary.
`n = 3` is in `JF/Props/C04C12N.lean`.  NOT proved: identifiers of another shape, root weights other than `1`, branches
that hold only part of a composite object, more than two branches.

How the two models differ (each difference is bridged by a stated hypothesis):
* `Thin.Consts.L` is one box length, `Composite` takes one per dimension: `L := List.replicate d c.L`, all vectors of
  length `d`;
* `Thin.commitUnit` tests `abs(x) < c.tiny`, C12's exact reading tests `x = 0` (`isZ`): the root of the formerly
  active object gets `v + Σ -v·wᵢ = 0` exactly, so both tests agree as soon as `0 < c.tiny`;
* `Thin.timeSliceUnit` advances a moving unit without time stamp with `dt = 0` (unreachable branch),
  `Kin.timeSlice` leaves it alone: the moving units carry time stamps here (`Sliceable`);
* `Composite.weight` is `1 / len(children)`, `Thin` stores the weights in the cnodes; the handler's out-state does
  not depend on them as long as they add up to one.
Both models slice the branches to the event time first and slice the root of the formerly active object a second time
(with `dt = et - et = 0`) in the commit.
-/
namespace JF.C04C12
open JF JF.Thin

/-- a dipole as a branch: root `[i]` (weight 1) with the leaf units `[i,0]`, `[i,1]` (weights 1/2) -/
def dip (i : Nat) (rp p0 p1 : List ℚ) (q0 q1 : ℚ) (vel : Option (List ℚ)) (tr t0 t1 : Option (Time ℚ)) : CNode ℚ :=
  ⟨⟨[i], rp, 0, vel, tr⟩, 1, [(⟨[i, 0], p0, q0, vel, t0⟩, 1/2), (⟨[i, 1], p1, q1, vel, t1⟩, 1/2)]⟩

def WeightsOK (st : List (CNode ℚ)) : Prop := ∀ r ∈ st, r.weight = 1 ∧ (r.children.map (·.2)).sum = 1
def MovesWith (v : List ℚ) (r : CNode ℚ) : Prop := r.unit.vel = some v ∧ ∀ cw ∈ r.children, cw.1.vel = some v
def AtRest (r : CNode ℚ) : Prop := r.unit.vel = none ∧ ∀ cw ∈ r.children, cw.1.vel = none

/-- `_time_slice_unit` on a position: from time stamp `s` to `et` with velocity `v` -/
def sl (c : Consts ℚ) (et s : Time ℚ) (p v : List ℚ) : List ℚ :=
  List.zipWith (fun p vd => pywrap Ops.rat (p + vd * et.sub s) c.L) p v

/-- the in-state: dipole `a` moves as a whole with `v` (time stamps `sr`, `s0`, `s1`), dipole `b` is at rest -/
def inSt (a b : Nat) (v ra a0 a1 rb b0 b1 : List ℚ) (qa0 qa1 qb0 qb1 : ℚ) (sr s0 s1 : Time ℚ) : List (CNode ℚ) :=
  [dip a ra a0 a1 qa0 qa1 (some v) (some sr) (some s0) (some s1), dip b rb b0 b1 qb0 qb1 none none none none]

/-- the in-state for the other branch order, `[target, active]` -/
def inStR (a b : Nat) (v ra a0 a1 rb b0 b1 : List ℚ) (qa0 qa1 qb0 qb1 : ℚ) (sr s0 s1 : Time ℚ) : List (CNode ℚ) :=
  [dip b rb b0 b1 qb0 qb1 none none none none, dip a ra a0 a1 qa0 qa1 (some v) (some sr) (some s0) (some s1)]

theorem inSt_wellformed (a b : Nat) (v ra a0 a1 rb b0 b1 : List ℚ) (qa0 qa1 qb0 qb1 : ℚ) (sr s0 s1 : Time ℚ) :
    WeightsOK (inSt a b v ra a0 a1 rb b0 b1 qa0 qa1 qb0 qb1 sr s0 s1)
      ∧ MovesWith v (dip a ra a0 a1 qa0 qa1 (some v) (some sr) (some s0) (some s1))
      ∧ AtRest (dip b rb b0 b1 qb0 qb1 none none none none) := by
  have hsum : (1 / 2 + (1 / 2 + 0) : ℚ) = 1 := by norm_num
  refine ⟨fun r hr => ?_, ⟨rfl, fun cw hcw => ?_⟩, ⟨rfl, fun cw hcw => ?_⟩⟩
  · rcases List.mem_pair.mp hr with rfl | rfl <;> exact ⟨rfl, hsum⟩
  · rcases List.mem_pair.mp hcw with rfl | rfl <;> rfl
  · rcases List.mem_pair.mp hcw with rfl | rfl <;> rfl

theorem tsub_self (t : Time ℚ) : t.sub t = 0 := by simp only [Time.sub]; ring

theorem zipWith_zipWith_left (f g : ℚ → ℚ → ℚ) : ∀ P V : List ℚ,
    List.zipWith f (List.zipWith g P V) V = List.zipWith (fun p vd => f (g p vd) vd) P V
  | [], _ => by simp
  | _ :: _, [] => by simp
  | p :: P, x :: V => by simp [zipWith_zipWith_left f g P V]

theorem sl_sl (c : Consts ℚ) (hL : 0 < c.L) (et s : Time ℚ) (p v : List ℚ) :
    sl c et et (sl c et s p v) v = sl c et s p v := by
  simp only [sl, zipWith_zipWith_left, tsub_self, mul_zero]
  congr 1; funext p vd
  rw [JF.Sys.pywrap_pywrap_add _ _ _ hL, add_zero]

theorem sliceVec_replicate (l dt : ℚ) : ∀ (d : Nat) (P V : List ℚ), P.length = d → V.length = d →
    Kin.sliceVec Ops.rat (List.replicate d l) P V dt = List.zipWith (fun p vd => pywrap Ops.rat (p + vd * dt) l) P V
  | 0, [], [], _, _ => by simp [Kin.sliceVec]
  | d + 1, p :: P, x :: V, hP, hV => by
    simp only [List.replicate_succ, Kin.sliceVec, Kin.sliceCoord, List.zipWith_cons_cons]
    rw [sliceVec_replicate l dt d P V (by simpa using hP) (by simpa using hV)]

/-! ### the root-mode pass on two whole composite objects with any number of leaf units -/

/-- identifiers of the composite object `i` with `n` leaf units: root `[i]`, leaf units `[i,0]`, …, `[i,n-1]` -/
def IdsOK (i n : Nat) (r : CNode ℚ) : Prop :=
  r.unit.id = [i] ∧ r.children.map (·.1.id) = (List.range n).map fun j => [i, j]

theorem IdsOK.length {i n : Nat} {r : CNode ℚ} (h : IdsOK i n r) : r.children.length = n := by
  simpa using congrArg List.length h.2

theorem IdsOK.mem {i n : Nat} {r : CNode ℚ} (h : IdsOK i n r) {cw : LUnit ℚ × ℚ} (hcw : cw ∈ r.children) :
    ∃ j, cw.1.id = [i, j] := by
  have hm : cw.1.id ∈ r.children.map (·.1.id) := List.mem_map.mpr ⟨cw, hcw, rfl⟩
  rw [h.2] at hm
  obtain ⟨j, -, hj⟩ := List.mem_map.mp hm
  exact ⟨j, hj.symm⟩

theorem IdsOK.sorted {i n : Nat} {r : CNode ℚ} (h : IdsOK i n r) :
    (r.children.map (·.1)).Pairwise (fun y x => idLt x.id y.id = false) := by
  have h1 : ((List.range n).map fun j => [i, j]).Pairwise (fun p q => idLt q p = false) := by
    rw [List.pairwise_map]
    exact List.pairwise_lt_range.imp (fun hjk => by simp [idLt, Nat.lt_asymm hjk])
  rw [← h.2, List.pairwise_map] at h1
  rw [List.pairwise_map]; exact h1

/-- what the root-unit-active handlers are handed: two whole composite objects of `n ≥ 1` leaf units each, `X` (identifiers
`[a]`, `[a,j]`) moving as a whole with `v`, `Y` (`[b]`, `[b,j]`) at rest; root weights one, leaf weights adding up to one -/
structure Pair (v : List ℚ) (a b n : Nat) (X Y : CNode ℚ) : Prop where
  ne : a ≠ b
  pos : n ≠ 0
  idsX : IdsOK a n X
  idsY : IdsOK b n Y
  wX : X.weight = 1 ∧ (X.children.map (·.2)).sum = 1
  wY : Y.weight = 1 ∧ (Y.children.map (·.2)).sum = 1
  moves : MovesWith v X
  rest : AtRest Y

theorem Pair.ne_nil {v : List ℚ} {a b n : Nat} {X Y : CNode ℚ} (hp : Pair v a b n X Y) :
    X.children ≠ [] ∧ Y.children ≠ [] :=
  ⟨fun h => hp.pos (by rw [← hp.idsX.length, h]; rfl), fun h => hp.pos (by rw [← hp.idsY.length, h]; rfl)⟩

theorem sort_blocks {a b n : Nat} (h : a < b) {P Q : CNode ℚ} (hP : IdsOK a n P) (hQ : IdsOK b n Q) :
    sortUnits (P.children.map (·.1) ++ Q.children.map (·.1)) = P.children.map (·.1) ++ Q.children.map (·.1)
      ∧ sortUnits (Q.children.map (·.1) ++ P.children.map (·.1)) = P.children.map (·.1) ++ Q.children.map (·.1) := by
  have hpq : ∀ x ∈ P.children.map (·.1), ∀ y ∈ Q.children.map (·.1),
      idLt x.id y.id = true ∧ idLt y.id x.id = false := by
    intro x hx y hy
    obtain ⟨cx, hcx, rfl⟩ := List.mem_map.mp hx
    obtain ⟨cy, hcy, rfl⟩ := List.mem_map.mp hy
    obtain ⟨j, hj⟩ := hP.mem hcx
    obtain ⟨k, hk⟩ := hQ.mem hcy
    rw [hj, hk]
    simp [idLt, h, Nat.lt_asymm h]
  exact ⟨C04C12N.sortUnits_sorted _ (List.pairwise_append.mpr ⟨hP.sorted, hQ.sorted, fun x hx y hy => (hpq x hx y hy).2⟩),
    C04C12N.sortUnits_swap _ _ hQ.sorted hP.sorted (fun x hx y hy => (hpq x hx y hy).1)⟩

/-- `_construct_leaf_units_of_composite_objects` finds the moving object as the local one, in both branch orders and
both sort orders of the identifiers -/
theorem construct_pair {v : List ℚ} {a b n : Nat} {X Y : CNode ℚ} (hp : Pair v a b n X Y) :
    constructComposite (leafUnits [X, Y]) = some (X.children.map (·.1), Y.children.map (·.1))
      ∧ constructComposite (leafUnits [Y, X]) = some (X.children.map (·.1), Y.children.map (·.1)) := by
  obtain ⟨hxne, hyne⟩ := hp.ne_nil
  obtain ⟨hab, -, hX, hY, -, -, ⟨-, hm⟩, -, hr⟩ := hp
  have hM : (X.children.map (·.1)).all (fun u => u.vel.isNone) = false := by
    obtain ⟨cw, hcw⟩ := List.exists_mem_of_ne_nil _ hxne
    rw [List.all_eq_false]
    exact ⟨cw.1, List.mem_map.mpr ⟨cw, hcw, rfl⟩, by simp [hm cw hcw]⟩
  have hR : (Y.children.map (·.1)).all (fun u => u.vel.isNone) = true := by
    rw [List.all_eq_true]
    exact List.forall_mem_map.mpr fun cw hcw => by simp [hr cw hcw]
  have hl : (Y.children.map (·.1)).length = (X.children.map (·.1)).length := by
    rw [List.length_map, List.length_map, hX.length, hY.length]
  have hl1 : (X.children.map (·.1) ++ Y.children.map (·.1)).length
      = (X.children.map (·.1)).length + (X.children.map (·.1)).length := by rw [List.length_append, hl]
  have hl2 : (Y.children.map (·.1) ++ X.children.map (·.1)).length
      = (X.children.map (·.1)).length + (X.children.map (·.1)).length := by rw [List.length_append, hl]
  rw [C04C12N.leafUnits_pair X Y hxne hyne, C04C12N.leafUnits_pair Y X hyne hxne]
  rcases Nat.lt_or_gt_of_ne hab with h | h
  · obtain ⟨s1, s2⟩ := sort_blocks h hX hY
    exact ⟨C04C12N.constructComposite_blocks _ _ _ hl1 hl hM hR (.inl s1),
      C04C12N.constructComposite_blocks _ _ _ hl2 hl hM hR (.inl s2)⟩
  · obtain ⟨s1, s2⟩ := sort_blocks h hY hX
    exact ⟨C04C12N.constructComposite_blocks _ _ _ hl1 hl hM hR (.inr s2),
      C04C12N.constructComposite_blocks _ _ _ hl2 hl hM hR (.inr s1)⟩

/-- `_commit_non_leaf_velocity_changes` on one branch -/
def commitNode (c : Consts ℚ) (et : Time ℚ) (ch : List (List Nat × List ℚ)) (r : CNode ℚ) : CNode ℚ :=
  { r with unit := commitUnit Ops.rat c et ch r.unit,
           children := r.children.map fun cw => (commitUnit Ops.rat c et ch cw.1, cw.2) }

/-- once the local units (all moving with `v`) and the target units (all at rest) are found,
`_pass_composite_object_velocity` is the loop over the leaf cnodes followed by the commit -/
theorem passComposite_of_construct (c : Consts ℚ) (et : Time ℚ) (st : List (CNode ℚ)) (v : List ℚ)
    (lc tc : List (LUnit ℚ × ℚ)) (hc : constructComposite (leafUnits st) = some (lc.map (·.1), tc.map (·.1)))
    (hne : lc ≠ []) (hl : ∀ cw ∈ lc, cw.1.vel = some v) (ht : ∀ cw ∈ tc, cw.1.vel = none) :
    passComposite Ops.rat c et st
      = .ok (let acc := (leafRefs st).foldl (passStep et ((lc.map (·.1)).map (·.id))) ⟨st, [], v.map fun x => -x, v⟩
             acc.st.map (commitNode c et acc.changes)) := by
  obtain _ | ⟨l0, ls⟩ := lc
  · exact absurd rfl hne
  have hall : ((l0 :: ls).map (·.1)).all (fun l => l.vel == some v) = true :=
    List.all_eq_true.mpr (List.forall_mem_map.mpr fun cw hcw => by
      rw [hl cw hcw]
      exact beq_self_eq_true _)
  have htall : (tc.map (·.1)).all (fun t => t.vel.isNone) = true :=
    List.all_eq_true.mpr (List.forall_mem_map.mpr fun cw hcw => by
      rw [ht cw hcw]
      rfl)
  rw [List.map_cons] at hc hall
  simp only [passComposite, hc, List.head?_cons, hl l0 List.mem_cons_self, hall, htall, Bool.not_true,
    Bool.false_eq_true, if_false]
  rfl

/-! the registered changes of one object: the scaled copies of `x` add up to `x` when the weights add up to one -/

theorem register_new (ch : List (List Nat × List ℚ)) (pid : List Nat) (vc : List ℚ)
    (h : ∀ e ∈ ch, (e.1 == pid) = false) : Thin.register ch pid vc = ch ++ [(pid, vc)] := by
  have hany : ch.any (fun e => e.1 == pid) = false := List.any_eq_false.mpr (fun e he => by simp [h e he])
  simp [Thin.register, hany]

theorem register_last (ch : List (List Nat × List ℚ)) (pid : List Nat) (x vc : List ℚ)
    (h : ∀ e ∈ ch, (e.1 == pid) = false) :
    Thin.register (ch ++ [(pid, x)]) pid vc = ch ++ [(pid, List.zipWith (· + ·) x vc)] := by
  have hmap : ch.map (fun e => if e.1 == pid then (e.1, List.zipWith (· + ·) e.2 vc) else e) = ch := by
    conv_rhs => rw [← List.map_id ch]
    exact List.map_congr_left (fun e he => by simp [h e he])
  have hany : (ch ++ [(pid, x)]).any (fun e => e.1 == pid) = true := by simp
  simp only [Thin.register, hany, if_true, List.map_append, hmap, List.map_cons, List.map_nil, beq_self_eq_true]

theorem foldl_register_weights (pid : List Nat) (x : List ℚ) (ch : List (List Nat × List ℚ))
    (h : ∀ e ∈ ch, (e.1 == pid) = false) (cs : List (LUnit ℚ × ℚ)) (hcs : cs ≠ [])
    (hsum : (cs.map (·.2)).sum = 1) :
    cs.foldl (fun ch cw => Thin.register ch pid (x.map (· * cw.2))) ch = ch ++ [(pid, x)] := by
  -- once the entry is there, every further unit adds its weight to the factor
  have hstep : ∀ (cs : List (LUnit ℚ × ℚ)) (s : ℚ),
      cs.foldl (fun ch cw => Thin.register ch pid (x.map (· * cw.2))) (ch ++ [(pid, x.map (· * s))])
        = ch ++ [(pid, x.map (· * (s + (cs.map (·.2)).sum)))] := by
    intro cs
    induction cs with
    | nil => intro s; simp
    | cons cw cs ih =>
      intro s
      have hadd : List.zipWith (· + ·) (x.map (· * s)) (x.map (· * cw.2)) = x.map (· * (s + cw.2)) := by
        simp [List.zipWith_map_left, List.zipWith_map_right, List.zipWith_self, mul_add]
      rw [List.foldl_cons, register_last _ _ _ _ h, hadd, ih]
      simp [add_assoc]
  obtain _ | ⟨cw, cs⟩ := cs
  · exact absurd rfl hcs
  rw [List.map_cons, List.sum_cons] at hsum
  rw [List.foldl_cons, register_new _ _ _ h, hstep, hsum]
  simp

/-- the loop over the leaf cnodes of two branches: the units of the first all local (`loc = true`) or all target
units, those of the second the opposite -/
theorem passLoop_pair (et : Time ℚ) (ids : List (List Nat)) (v : List ℚ) (loc : Bool) (pu qu : LUnit ℚ)
    (pc qc : List (LUnit ℚ × ℚ)) (hp : ∀ cw ∈ pc, ids.contains cw.1.id = loc)
    (hq : ∀ cw ∈ qc, ids.contains cw.1.id = !loc) (hpc : pc ≠ []) (hqc : qc ≠ [])
    (hps : (pc.map (·.2)).sum = 1) (hqs : (qc.map (·.2)).sum = 1) (hid : pu.id ≠ qu.id) :
    (leafRefs [⟨pu, 1, pc⟩, ⟨qu, 1, qc⟩]).foldl (passStep et ids)
        ⟨[⟨pu, 1, pc⟩, ⟨qu, 1, qc⟩], [], v.map fun x => -x, v⟩
      = ⟨[⟨pu, 1, pc.map fun cw => (C04C12N.passMark et v loc cw.1, cw.2)⟩,
          ⟨qu, 1, qc.map fun cw => (C04C12N.passMark et v (!loc) cw.1, cw.2)⟩],
         [(pu.id, if loc then v.map fun x => -x else v), (qu.id, if !loc then v.map fun x => -x else v)],
         v.map fun x => -x, v⟩ := by
  have h1 := C04C12N.foldl_passStep_children et ids [] [⟨qu, 1, qc⟩] pu 1 mul_one loc (v.map fun x => -x) v pc [] [] hp
  have h2 := C04C12N.foldl_passStep_children et ids
    [⟨pu, 1, pc.map fun cw => (C04C12N.passMark et v loc cw.1, cw.2)⟩] [] qu 1 mul_one (!loc) (v.map fun x => -x) v
    qc [] [(pu.id, if loc then v.map fun x => -x else v)] hq
  simp only [List.length_nil, List.nil_append, List.length_cons, Nat.zero_add, List.cons_append] at h1 h2
  have hkey : ∀ e ∈ [(pu.id, if loc then v.map fun x => -x else v)], (e.1 == qu.id) = false := by simpa using hid
  rw [C04C12N.leafRefs_pair _ _ hpc hqc, List.foldl_append, List.range_eq_range', List.range_eq_range', h1,
    foldl_register_weights _ _ [] (fun _ he => absurd he List.not_mem_nil) pc hpc hps, List.nil_append, h2,
    foldl_register_weights _ _ _ hkey qc hqc hqs]
  rfl

theorem find?_pair {p q : List Nat} (hpq : p ≠ q) (A B : List ℚ) :
    [(p, A), (q, B)].find? (fun e => e.1 == p) = some (p, A)
      ∧ [(p, A), (q, B)].find? (fun e => e.1 == q) = some (q, B) := by
  have hne : ¬ ((p == q) = true) := by simpa using hpq
  constructor
  · exact List.find?_cons_of_pos (p := fun e : List Nat × List ℚ => e.1 == p) (beq_self_eq_true p)
  · rw [List.find?_cons_of_neg (p := fun e : List Nat × List ℚ => e.1 == q) hne]
    exact List.find?_cons_of_pos (p := fun e : List Nat × List ℚ => e.1 == q) (beq_self_eq_true q)

/-- the formerly active object afterwards: every unit at rest, the root time-sliced once more -/
def stopped (c : Consts ℚ) (et : Time ℚ) (v : List ℚ) (r : CNode ℚ) : CNode ℚ :=
  ⟨{ r.unit with pos := sl c et et r.unit.pos v, vel := none, ts := none }, r.weight,
    r.children.map fun cw => ({ cw.1 with vel := none, ts := none }, cw.2)⟩

/-- the target object afterwards: every unit moving with `v`, stamped with the event time -/
def started (et : Time ℚ) (v : List ℚ) (r : CNode ℚ) : CNode ℚ :=
  ⟨{ r.unit with vel := some v, ts := some et }, r.weight,
    r.children.map fun cw => ({ cw.1 with vel := some v, ts := some et }, cw.2)⟩

/-- the leaf units are not touched by the commit: their identifiers are no keys of the registered changes -/
theorem commit_children (c : Consts ℚ) (et : Time ℚ) (ch : List (List Nat × List ℚ)) (f : LUnit ℚ → LUnit ℚ)
    (hf : ∀ u, (f u).id = u.id) (cs : List (LUnit ℚ × ℚ)) (hk : ∀ cw ∈ cs, ∀ e ∈ ch, (e.1 == cw.1.id) = false) :
    (cs.map fun cw => (f cw.1, cw.2)).map (fun cw => (commitUnit Ops.rat c et ch cw.1, cw.2))
      = cs.map fun cw => (f cw.1, cw.2) := by
  rw [List.map_map]
  refine List.map_congr_left fun cw hcw => ?_
  have hn : ch.find? (fun e => e.1 == (f cw.1).id) = none :=
    List.find?_eq_none.mpr fun e he => by rw [hf]; simp [hk cw hcw e he]
  simp [commitUnit, hn]

/-- the root of the moving object, stamped with the event time, is time-sliced once more (by `0`) and comes to rest:
`v + Σ -v·wᵢ` is `0` exactly, which the test `abs(x) < tiny` accepts -/
theorem commitNode_stop (c : Consts ℚ) (ht : 0 < c.tiny) (et : Time ℚ) (ch : List (List Nat × List ℚ)) (u : LUnit ℚ)
    (cs : List (LUnit ℚ × ℚ)) (k : List Nat) (v : List ℚ)
    (hf : ch.find? (fun e => e.1 == u.id) = some (k, v.map fun x => -x)) (hv : u.vel = some v) (hts : u.ts = some et)
    (hk : ∀ cw ∈ cs, ∀ e ∈ ch, (e.1 == cw.1.id) = false) :
    commitNode c et ch ⟨u, 1, cs.map fun cw => (C04C12N.passMark et v true cw.1, cw.2)⟩ = stopped c et v ⟨u, 1, cs⟩ := by
  have hz : (List.zipWith (· + ·) v (v.map fun x => -x)).all (fun x => absLt Ops.rat x c.tiny) = true := by
    simp [List.zipWith_map_right, List.zipWith_self, absLt, ht]
  simp only [commitNode, commit_children c et ch (C04C12N.passMark et v true) (fun _ => rfl) cs hk]
  simp only [stopped, commitUnit, hf, hv, hts, hz, if_true, sl]
  rfl

theorem commitNode_start (c : Consts ℚ) (et : Time ℚ) (ch : List (List Nat × List ℚ)) (u : LUnit ℚ)
    (cs : List (LUnit ℚ × ℚ)) (k : List Nat) (v : List ℚ) (hf : ch.find? (fun e => e.1 == u.id) = some (k, v))
    (hv : u.vel = none) (hk : ∀ cw ∈ cs, ∀ e ∈ ch, (e.1 == cw.1.id) = false) :
    commitNode c et ch ⟨u, 1, cs.map fun cw => (C04C12N.passMark et v false cw.1, cw.2)⟩ = started et v ⟨u, 1, cs⟩ := by
  simp only [commitNode, commit_children c et ch (C04C12N.passMark et v false) (fun _ => rfl) cs hk]
  simp only [started, commitUnit, hf, hv]
  rfl

/-- **`_pass_composite_object_velocity`, any number `n` of leaf units, both branch orders**: of two whole composite
objects `X` moves with `v`, its root stamped with the event time, and `Y` is at rest; afterwards `X` is at rest and `Y`
moves with `v`. -/
theorem passComposite_pair (c : Consts ℚ) (ht : 0 < c.tiny) (et : Time ℚ) {v : List ℚ} {a b n : Nat} {X Y : CNode ℚ}
    (hp : Pair v a b n X Y) (hts : X.unit.ts = some et) :
    passComposite Ops.rat c et [X, Y] = .ok [stopped c et v X, started et v Y]
      ∧ passComposite Ops.rat c et [Y, X] = .ok [started et v Y, stopped c et v X] := by
  obtain ⟨hc1, hc2⟩ := construct_pair hp
  obtain ⟨hxne, hyne⟩ := hp.ne_nil
  obtain ⟨hab, -, hX, hY, ⟨hwx, hsx⟩, ⟨hwy, hsy⟩, hm, hr⟩ := hp
  have hids : (X.children.map (·.1)).map (·.id) = (List.range n).map fun j => [a, j] := by
    rw [List.map_map]; exact hX.2
  have hxin : ∀ cw ∈ X.children, ((X.children.map (·.1)).map (·.id)).contains cw.1.id = true := fun cw hcw =>
    List.contains_iff_mem.mpr (List.mem_map.mpr ⟨cw.1, List.mem_map.mpr ⟨cw, hcw, rfl⟩, rfl⟩)
  have hyout : ∀ cw ∈ Y.children, ((X.children.map (·.1)).map (·.id)).contains cw.1.id = false := fun cw hcw => by
    obtain ⟨k, hk⟩ := hY.mem hcw
    rw [hids, hk]
    simp [hab]
  obtain ⟨xu, xw, xc⟩ := X
  obtain ⟨yu, yw, yc⟩ := Y
  simp only at hwx hwy hsx hsy hts hxne hyne hxin hyout
  subst hwx hwy
  have hxid : xu.id = [a] := hX.1
  have hyid : yu.id = [b] := hY.1
  have hid : xu.id ≠ yu.id := by rw [hxid, hyid]; simpa using hab
  -- no leaf identifier is a key of the registered changes (the two root identifiers)
  have hkeys : ∀ (p q : List Nat × List ℚ), (p.1 = xu.id ∨ p.1 = yu.id) → (q.1 = xu.id ∨ q.1 = yu.id) →
      ∀ (cs : List (LUnit ℚ × ℚ)) (i : Nat), IdsOK i n ⟨xu, 1, cs⟩ ∨ IdsOK i n ⟨yu, 1, cs⟩ →
      ∀ cw ∈ cs, ∀ e ∈ [p, q], (e.1 == cw.1.id) = false := by
    intro p q hp hq cs i hcs cw hcw e he
    obtain ⟨j, hj⟩ : ∃ j, cw.1.id = [i, j] := by
      rcases hcs with hcs | hcs <;> exact hcs.mem hcw
    have he1 : e.1 = [a] ∨ e.1 = [b] := by
      rw [← hxid, ← hyid]
      rcases List.mem_pair.mp he with rfl | rfl <;> assumption
    rcases he1 with h | h <;> simp [h, hj]
  refine ⟨?_, ?_⟩
  · rw [passComposite_of_construct c et _ v _ _ hc1 hxne hm.2 hr.2,
      passLoop_pair et _ v true xu yu xc yc hxin hyout hxne hyne hsx hsy hid]
    simp only [↓reduceIte, Bool.not_true, Bool.false_eq_true, List.map_cons, List.map_nil]
    rw [commitNode_stop c ht et _ xu xc xu.id v (find?_pair hid _ _).1 hm.1 hts
        (hkeys _ _ (.inl rfl) (.inr rfl) xc a (.inl hX)),
      commitNode_start c et _ yu yc yu.id v (find?_pair hid _ _).2 hr.1
        (hkeys _ _ (.inl rfl) (.inr rfl) yc b (.inr hY))]
  · rw [passComposite_of_construct c et _ v _ _ hc2 hxne hm.2 hr.2,
      passLoop_pair et _ v false yu xu yc xc hyout hxin hyne hxne hsy hsx hid.symm]
    simp only [↓reduceIte, Bool.not_false, Bool.false_eq_true, List.map_cons, List.map_nil]
    rw [commitNode_start c et _ yu yc yu.id v (find?_pair hid.symm _ _).1 hr.1
        (hkeys _ _ (.inr rfl) (.inl rfl) yc b (.inr hY)),
      commitNode_stop c ht et _ xu xc xu.id v (find?_pair hid.symm _ _).2 hm.1 hts
        (hkeys _ _ (.inr rfl) (.inl rfl) xc a (.inl hX))]

/-- a confirmed `send_out_state` of kinds 7 / 8 returns what `_pass_composite_object_velocity` made of the time-sliced
branches (any state, any inputs) -/
theorem sendRoot_confirmed (c : Consts ℚ) (kind : Nat) (uc : Bool) (et : Time ℚ) (ist branches : List (CNode ℚ))
    (bds qs : List ℚ) (dr : Draw ℚ) {st' w cs ins u}
    (h : sendRoot Ops.rat c kind uc et ist branches bds qs dr = .out st' true w cs ins u) :
    passComposite Ops.rat c et (timeSliceState Ops.rat c et branches) = .ok st' := by
  simp only [sendRoot] at h
  repeat' split at h
  all_goals first | (cases h; assumption) | cases h

/-- velocity component `k` (`None` read as zero) -/
def vAt (o : Option (List ℚ)) (k : Nat) : ℚ := match o with | none => 0 | some v => v.getD k 0
def leafMomentum (st : List (CNode ℚ)) (k : Nat) : ℚ :=
  (st.map fun r => (r.children.map fun cw => cw.2 * vAt cw.1.vel k).sum).sum
def rootMomentum (st : List (CNode ℚ)) (k : Nat) : ℚ := (st.map fun r => r.weight * vAt r.unit.vel k).sum

/-- `_time_slice_all_units_in_state` on one branch -/
def sliceNode (c : Consts ℚ) (et : Time ℚ) (r : CNode ℚ) : CNode ℚ :=
  { r with unit := timeSliceUnit Ops.rat c et r.unit,
           children := r.children.map fun cw => (timeSliceUnit Ops.rat c et cw.1, cw.2) }

theorem timeSliceUnit_rest (c : Consts ℚ) (et : Time ℚ) {u : LUnit ℚ} (h : u.vel = none) :
    timeSliceUnit Ops.rat c et u = u := by
  simp only [timeSliceUnit, h]

theorem timeSliceUnit_moving (c : Consts ℚ) (et : Time ℚ) {u : LUnit ℚ} {v : List ℚ} (h : u.vel = some v) :
    (timeSliceUnit Ops.rat c et u).id = u.id ∧ (timeSliceUnit Ops.rat c et u).vel = some v
      ∧ (timeSliceUnit Ops.rat c et u).ts = some et := by
  simp only [timeSliceUnit, h, and_self]

theorem sliceNode_rest (c : Consts ℚ) (et : Time ℚ) {Y : CNode ℚ} (hr : AtRest Y) : sliceNode c et Y = Y := by
  have hc : Y.children.map (fun cw => (timeSliceUnit Ops.rat c et cw.1, cw.2)) = Y.children.map id :=
    List.map_congr_left fun cw hcw => by rw [timeSliceUnit_rest c et (hr.2 cw hcw)]; rfl
  rw [sliceNode, timeSliceUnit_rest c et hr.1, hc, List.map_id]

/-- time-slicing keeps the pair a pair and stamps the root of the moving object with the event time -/
theorem Pair.slice {v : List ℚ} {a b n : Nat} {X Y : CNode ℚ} (hp : Pair v a b n X Y) (c : Consts ℚ) (et : Time ℚ) :
    Pair v a b n (sliceNode c et X) Y ∧ (sliceNode c et X).unit.ts = some et := by
  obtain ⟨hab, hn, hX, hY, hwX, hwY, hm, hr⟩ := hp
  have hu := timeSliceUnit_moving c et hm.1
  have hcs := fun cw hcw => timeSliceUnit_moving c et (hm.2 cw hcw)
  have hids : (sliceNode c et X).children.map (·.1.id) = X.children.map (·.1.id) := by
    rw [sliceNode, List.map_map]
    exact List.map_congr_left fun cw hcw => (hcs cw hcw).1
  exact ⟨⟨hab, hn, ⟨hu.1.trans hX.1, hids.trans hX.2⟩, hY, ⟨hwX.1, by rw [sliceNode, List.map_map]; exact hwX.2⟩, hwY,
    ⟨hu.2.1, List.forall_mem_map.mpr fun cw hcw => (hcs cw hcw).2.1⟩, hr⟩, hu.2.2⟩

/-- **shape of the confirmed out-state, any number of leaf units**: a confirmed `send_out_state` of the
root-unit-active handlers on a `Pair`, in either branch order: `X`, time-sliced, has come to rest and `Y` moves -/
theorem sendRoot_pair (c : Consts ℚ) (ht : 0 < c.tiny) (kind : Nat) (uc : Bool) (et : Time ℚ) (ist : List (CNode ℚ))
    (bds qs : List ℚ) (dr : Draw ℚ) {v : List ℚ} {a b n : Nat} {X Y : CNode ℚ} (hp : Pair v a b n X Y) {st' w cs ins u} :
    (sendRoot Ops.rat c kind uc et ist [X, Y] bds qs dr = .out st' true w cs ins u →
        st' = [stopped c et v (sliceNode c et X), started et v Y])
      ∧ (sendRoot Ops.rat c kind uc et ist [Y, X] bds qs dr = .out st' true w cs ins u →
        st' = [started et v Y, stopped c et v (sliceNode c et X)]) := by
  obtain ⟨hs, hts⟩ := hp.slice c et
  obtain ⟨p1, p2⟩ := passComposite_pair c ht et hs hts
  have hY := sliceNode_rest c et hp.rest
  constructor <;> intro h <;> have h1 := sendRoot_confirmed c kind uc et ist _ bds qs dr h
  · rw [show timeSliceState Ops.rat c et [X, Y] = [sliceNode c et X, sliceNode c et Y] from rfl, hY, p1] at h1
    exact (Except.ok.inj h1).symm
  · rw [show timeSliceState Ops.rat c et [Y, X] = [sliceNode c et Y, sliceNode c et X] from rfl, hY, p2] at h1
    exact (Except.ok.inj h1).symm

theorem atRest_stopped (c : Consts ℚ) (et : Time ℚ) (v : List ℚ) (r : CNode ℚ) : AtRest (stopped c et v r) :=
  ⟨rfl, List.forall_mem_map.mpr fun _ _ => rfl⟩

theorem movesWith_started (et : Time ℚ) (v : List ℚ) (r : CNode ℚ) : MovesWith v (started et v r) :=
  ⟨rfl, List.forall_mem_map.mpr fun _ _ => rfl⟩

theorem leafSum_node (r : CNode ℚ) (o : Option (List ℚ)) (k : Nat) (h : ∀ cw ∈ r.children, cw.1.vel = o)
    (hs : (r.children.map (·.2)).sum = 1) : (r.children.map fun cw => cw.2 * vAt cw.1.vel k).sum = vAt o k := by
  have hc : ∀ cs : List (LUnit ℚ × ℚ), (∀ cw ∈ cs, cw.1.vel = o) →
      (cs.map fun cw => cw.2 * vAt cw.1.vel k).sum = (cs.map (·.2)).sum * vAt o k := by
    intro cs
    induction cs with
    | nil => simp
    | cons cw cs ih =>
      intro h
      rw [List.map_cons, List.sum_cons, List.map_cons, List.sum_cons, ih (fun x hx => h x (List.mem_cons_of_mem _ hx)),
        h cw List.mem_cons_self, add_mul]
  rw [hc _ h, hs, one_mul]

/-- **the weighted velocity sums over both objects are conserved** (leaf level and root level, either branch order) -/
theorem momentum_pass (c : Consts ℚ) (et : Time ℚ) {v : List ℚ} {a b n : Nat} {X Y : CNode ℚ} (hp : Pair v a b n X Y)
    (k : Nat) :
    leafMomentum [stopped c et v X, started et v Y] k = leafMomentum [X, Y] k
      ∧ rootMomentum [stopped c et v X, started et v Y] k = rootMomentum [X, Y] k
      ∧ leafMomentum [started et v Y, stopped c et v X] k = leafMomentum [Y, X] k
      ∧ rootMomentum [started et v Y, stopped c et v X] k = rootMomentum [Y, X] k := by
  obtain ⟨-, -, -, -, ⟨hwx, hsx⟩, ⟨hwy, hsy⟩, hm, hr⟩ := hp
  have lx := leafSum_node X (some v) k hm.2 hsx
  have ly := leafSum_node Y none k hr.2 hsy
  have lx' := leafSum_node (stopped c et v X) none k (atRest_stopped c et v X).2
    (by simpa [stopped, Function.comp_def] using hsx)
  have ly' := leafSum_node (started et v Y) (some v) k (movesWith_started et v Y).2
    (by simpa [started, Function.comp_def] using hsy)
  have rx : (stopped c et v X).weight * vAt (stopped c et v X).unit.vel k = X.weight * vAt none k := rfl
  have ry : (started et v Y).weight * vAt (started et v Y).unit.vel k = Y.weight * vAt (some v) k := rfl
  simp only [leafMomentum, rootMomentum, List.map_cons, List.map_nil, List.sum_cons, List.sum_nil, lx, ly, lx', ly',
    rx, ry, hm.1, hr.1, hwx, hwy]
  refine ⟨?_, ?_, ?_, ?_⟩ <;> ring

def toP (u : LUnit ℚ) : PUnit ℚ := ⟨u.pos, u.vel, u.ts⟩
/-- a branch holding the whole composite object, read as a composite object of `JF.Composite` -/
def toObj (r : CNode ℚ) : CObj ℚ := ⟨toP r.unit, r.children.map fun cw => toP cw.1⟩

/-- both models time-slice the unit alike: it is at rest, or it moves with a time stamp and vectors of length `d` -/
def Sliceable (d : Nat) (u : LUnit ℚ) : Prop :=
  u.vel = none ∨ ∃ v s, u.vel = some v ∧ u.ts = some s ∧ v.length = d ∧ u.pos.length = d

theorem toP_timeSliceUnit (c : Consts ℚ) (et : Time ℚ) {d : Nat} {u : LUnit ℚ} (h : Sliceable d u) :
    toP (timeSliceUnit Ops.rat c et u) = Kin.timeSlice Ops.rat (List.replicate d c.L) et (toP u) := by
  rcases h with h | ⟨v, s, hv, hs, hvl, hpl⟩
  · simp only [timeSliceUnit, Kin.timeSlice, toP, h]
  · simp only [timeSliceUnit, Kin.timeSlice, toP, hv, hs, sliceVec_replicate c.L _ d _ _ hpl hvl]

theorem toObj_sliceNode (c : Consts ℚ) (et : Time ℚ) {d : Nat} {r : CNode ℚ} (hr : Sliceable d r.unit)
    (hc : ∀ cw ∈ r.children, Sliceable d cw.1) :
    toObj (sliceNode c et r) = Composite.sliceComp Ops.rat (List.replicate d c.L) et (toObj r) := by
  simp only [toObj, sliceNode, Composite.sliceComp, List.map_map, toP_timeSliceUnit c et hr]
  congr 1
  exact List.map_congr_left fun cw hcw => toP_timeSliceUnit c et (hc cw hcw)

/-- **the confirmed out-state of the root-unit-active handlers is C12's `pass`, any number of leaf units**: a `Pair`
whose moving units carry time stamps and vectors of length `d`, read as composite objects of `JF.Composite` with leaf
weights `1/n`, in either branch order -/
theorem sendRoot_pair_toObj (c : Consts ℚ) (ht : 0 < c.tiny) (kind : Nat) (uc : Bool) (et : Time ℚ)
    (ist : List (CNode ℚ)) (bds qs : List ℚ) (dr : Draw ℚ) {d : Nat} {v : List ℚ} {a b n : Nat} {X Y : CNode ℚ}
    (hp : Pair v a b n X Y) (hs : Sliceable d X.unit ∧ ∀ cw ∈ X.children, Sliceable d cw.1) {st' w cs ins u} :
    (sendRoot Ops.rat c kind uc et ist [X, Y] bds qs dr = .out st' true w cs ins u →
        st'.map toObj = Composite.step Ops.rat Composite.isZ (List.replicate d c.L) ([X, Y].map toObj)
          (.pass et [0, 1] 0 1))
      ∧ (sendRoot Ops.rat c kind uc et ist [Y, X] bds qs dr = .out st' true w cs ins u →
        st'.map toObj = Composite.step Ops.rat Composite.isZ (List.replicate d c.L) ([Y, X].map toObj)
          (.pass et [0, 1] 1 0)) := by
  obtain ⟨hps, hts⟩ := hp.slice c et
  obtain ⟨hxne, hyne⟩ := hps.ne_nil
  have hm := hps.moves
  have hr := hp.rest
  -- the root of `X` moves, so it is `Sliceable` by its second alternative, which gives the lengths
  obtain ⟨hvl, hpl⟩ : v.length = d ∧ (sliceNode c et X).unit.pos.length = d := by
    rcases hs.1 with h | ⟨v', s, hv', -, h1, h2⟩
    · exact absurd (hp.moves.1.symm.trans h) nofun
    · cases hp.moves.1.symm.trans hv'
      exact ⟨h1, by simp [sliceNode, timeSliceUnit, hv', h1, h2]⟩
  have hcX := toObj_sliceNode c et hs.1 hs.2
  have hcY := toObj_sliceNode c et (d := d) (.inl hr.1) fun cw hcw => .inl (hr.2 cw hcw)
  rw [sliceNode_rest c et hr] at hcY
  obtain ⟨cw, cws, hcw⟩ := List.exists_cons_of_ne_nil hxne
  obtain ⟨s1, s2⟩ := Composite.step_pass_pair (List.replicate d c.L) et hcX.symm hcY.symm (l := toP cw.1)
    (by rw [toObj, hcw]; rfl) (hm.2 cw (by rw [hcw]; exact List.mem_cons_self)) hm.1 hr.1
    (by simpa [toObj] using hyne)
  have hroot : (Kin.timeSlice Ops.rat (List.replicate d c.L) et (toObj (sliceNode c et X)).root).pos
      = sl c et et (sliceNode c et X).unit.pos v := by
    simp only [toObj, Kin.timeSlice, toP, hm.1, hts, sliceVec_replicate c.L _ d _ _ hpl hvl, sl]
  rw [hroot] at s1 s2
  constructor <;> intro h
  · rw [(sendRoot_pair c ht kind uc et ist bds qs dr hp).1 h]
    refine Eq.trans ?_ s1.symm
    simp [toObj, stopped, started, toP, Function.comp_def]
  · rw [(sendRoot_pair c ht kind uc et ist bds qs dr hp).2 h]
    refine Eq.trans ?_ s2.symm
    simp [toObj, stopped, started, toP, Function.comp_def]

theorem boxOK_replicate (d : Nat) (l : ℚ) (hl : 0 < l) : Composite.BoxOK d (List.replicate d l) :=
  ⟨by simp, fun x hx => by rw [(List.mem_replicate.mp hx).2]; exact hl⟩

/-- C12's `pass_good` for two objects given as branches -/
theorem pass_good_pair {d : Nat} {L : List ℚ} (hL : Composite.BoxOK d L) (et : Time ℚ) {v : List ℚ} {X Y : CNode ℚ}
    (hm : MovesWith v X) (hr : AtRest Y) :
    (Composite.AllGood d L ([X, Y].map toObj) →
        Composite.AllGood d L (Composite.step Ops.rat Composite.isZ L ([X, Y].map toObj) (.pass et [0, 1] 0 1)))
      ∧ (Composite.AllGood d L ([Y, X].map toObj) →
        Composite.AllGood d L (Composite.step Ops.rat Composite.isZ L ([Y, X].map toObj) (.pass et [0, 1] 1 0))) := by
  -- C12's machine time-slices both objects; that keeps the velocities
  have hvel : ∀ {r : CNode ℚ} {o : Option (List ℚ)}, (∀ cw ∈ r.children, cw.1.vel = o) →
      ∀ l ∈ (Composite.sliceComp Ops.rat L et (toObj r)).leaves, l.vel = o := by
    intro r o h l hl
    simp only [Composite.sliceComp, toObj, List.map_map, List.mem_map, Function.comp] at hl
    obtain ⟨cw, hcw, rfl⟩ := hl
    simpa [toP] using h cw hcw
  have hall := hvel hm.2
  have hrest := hvel hr.2
  exact ⟨fun hG => Composite.pass_good hL hG et [0, 1] 0 1 (by simp) (by decide) rfl rfl hall hrest,
    fun hG => Composite.pass_good hL hG et [0, 1] 1 0 (by simp) (by decide) rfl rfl hall hrest⟩

/-- **`RootConsistent` after a confirmed root-mode event, any number of leaf units, either branch order**: if the
in-state (a `Pair`, read as two composite objects of `JF.Composite`) satisfies C12's invariant `Good`, every object of
the confirmed out-state of the root-unit-active handlers satisfies `C12.RootConsistent`. -/
theorem rootConsistent_pair (c : Consts ℚ) (ht : 0 < c.tiny) (hL : 0 < c.L) (kind : Nat) (uc : Bool) (et : Time ℚ)
    (ist : List (CNode ℚ)) (bds qs : List ℚ) (dr : Draw ℚ) {d : Nat} {v : List ℚ} {a b n : Nat} {X Y : CNode ℚ}
    (hp : Pair v a b n X Y) (hs : Sliceable d X.unit ∧ ∀ cw ∈ X.children, Sliceable d cw.1) {st' w cs ins u} :
    (Composite.AllGood d (List.replicate d c.L) ([X, Y].map toObj) →
        sendRoot Ops.rat c kind uc et ist [X, Y] bds qs dr = .out st' true w cs ins u →
        ∀ o ∈ st'.map toObj, C12.RootConsistent (List.replicate d c.L) o)
      ∧ (Composite.AllGood d (List.replicate d c.L) ([Y, X].map toObj) →
        sendRoot Ops.rat c kind uc et ist [Y, X] bds qs dr = .out st' true w cs ins u →
        ∀ o ∈ st'.map toObj, C12.RootConsistent (List.replicate d c.L) o) := by
  obtain ⟨t1, t2⟩ := sendRoot_pair_toObj c ht kind uc et ist bds qs dr hp hs (st' := st') (w := w) (cs := cs) (ins := ins)
    (u := u)
  obtain ⟨g1, g2⟩ := pass_good_pair (boxOK_replicate d c.L hL) et hp.moves hp.rest
  exact ⟨fun hG h o ho => C12.good_rootConsistent (g1 hG o (t1 h ▸ ho)),
    fun hG h o ho => C12.good_rootConsistent (g2 hG o (t2 h ▸ ho))⟩

/-! ### two dipoles -/

theorem pair_dip {a b : Nat} (hab : a ≠ b) {v ra a0 a1 rb b0 b1 : List ℚ} {qa0 qa1 qb0 qb1 : ℚ} {sr s0 s1 : Time ℚ} :
    Pair v a b 2 (dip a ra a0 a1 qa0 qa1 (some v) (some sr) (some s0) (some s1)) (dip b rb b0 b1 qb0 qb1 none none none none) :=
  have ⟨hw, hm, hr⟩ := inSt_wellformed a b v ra a0 a1 rb b0 b1 qa0 qa1 qb0 qb1 sr s0 s1
  ⟨hab, by decide, ⟨rfl, rfl⟩, ⟨rfl, rfl⟩, hw _ (.head _), hw _ (.tail _ (.head _)), hm, hr⟩

theorem dip_sliceable {d : Nat} {v ra a0 a1 : List ℚ} (hv : v.length = d) (hra : ra.length = d) (ha0 : a0.length = d)
    (ha1 : a1.length = d) {a : Nat} {qa0 qa1 : ℚ} {sr s0 s1 : Time ℚ} :
    Sliceable d (dip a ra a0 a1 qa0 qa1 (some v) (some sr) (some s0) (some s1)).unit
      ∧ ∀ cw ∈ (dip a ra a0 a1 qa0 qa1 (some v) (some sr) (some s0) (some s1)).children, Sliceable d cw.1 :=
  ⟨.inr ⟨v, sr, rfl, rfl, hv, hra⟩, fun cw hcw => by
    rcases List.mem_pair.mp hcw with rfl | rfl
    · exact .inr ⟨v, s0, rfl, rfl, hv, ha0⟩
    · exact .inr ⟨v, s1, rfl, rfl, hv, ha1⟩⟩

theorem passComposite_eq_composite_pass_partial (c : Consts ℚ) (ht : 0 < c.tiny) (hL : 0 < c.L) (kind : Nat) (uc : Bool)
    (et sr s0 s1 : Time ℚ) (a b : Nat) (hab : a ≠ b) (d : Nat) (v ra a0 a1 rb b0 b1 : List ℚ)
    (hv : v.length = d) (hra : ra.length = d) (ha0 : a0.length = d) (ha1 : a1.length = d) (qa0 qa1 qb0 qb1 : ℚ)
    (ist : List (CNode ℚ)) (bds qs : List ℚ) (dr : Draw ℚ) {st' w cs ins u}
    (h : sendRoot Ops.rat c kind uc et ist (inSt a b v ra a0 a1 rb b0 b1 qa0 qa1 qb0 qb1 sr s0 s1) bds qs dr
          = .out st' true w cs ins u) :
    st'.map toObj = Composite.step Ops.rat JF.Composite.isZ (List.replicate d c.L)
      ((inSt a b v ra a0 a1 rb b0 b1 qa0 qa1 qb0 qb1 sr s0 s1).map toObj) (.pass et [0, 1] 0 1) :=
  (sendRoot_pair_toObj c ht kind uc et ist bds qs dr (pair_dip hab)
    (dip_sliceable hv hra ha0 ha1)).1 h

/-- **`RootConsistent` after a confirmed root-mode event**: if the in-state (read as two composite objects of
`JF.Composite`) satisfies C12's invariant `Good`, every object of the confirmed out-state of the root-unit-active
handlers satisfies `C12.RootConsistent`. -/
theorem rootConsistent_after_confirmed_partial (c : Consts ℚ) (ht : 0 < c.tiny) (hL : 0 < c.L) (kind : Nat) (uc : Bool)
    (et sr s0 s1 : Time ℚ) (a b : Nat) (hab : a ≠ b) (d : Nat) (v ra a0 a1 rb b0 b1 : List ℚ)
    (hv : v.length = d) (hra : ra.length = d) (ha0 : a0.length = d) (ha1 : a1.length = d) (qa0 qa1 qb0 qb1 : ℚ)
    (hG : Composite.AllGood d (List.replicate d c.L) ((inSt a b v ra a0 a1 rb b0 b1 qa0 qa1 qb0 qb1 sr s0 s1).map toObj))
    (ist : List (CNode ℚ)) (bds qs : List ℚ) (dr : Draw ℚ) {st' w cs ins u}
    (h : sendRoot Ops.rat c kind uc et ist (inSt a b v ra a0 a1 rb b0 b1 qa0 qa1 qb0 qb1 sr s0 s1) bds qs dr
          = .out st' true w cs ins u) :
    ∀ o ∈ st'.map toObj, C12.RootConsistent (List.replicate d c.L) o :=
  (rootConsistent_pair c ht hL kind uc et ist bds qs dr (pair_dip hab)
    (dip_sliceable hv hra ha0 ha1)).1 hG h

/-- **the rejected branch** (any state, kind 7): the out-state is the time-sliced in-state and every velocity is
as handed in (`C04.sendRoot_spec`) -/
theorem sendRoot_rejected (c : Consts ℚ) (kind : Nat) (hk : kind ≠ 8) (uc : Bool) (et : Time ℚ)
    (ist branches : List (CNode ℚ)) (bds qs : List ℚ) (dr : Draw ℚ) {st' w cs ins u}
    (h : sendRoot Ops.rat c kind uc et ist branches bds qs dr = .out st' false w cs ins u) :
    st' = timeSliceState Ops.rat c et branches ∧ velocities st' = velocities branches :=
  (C04.sendRoot_spec Ops.rat c kind hk uc et ist branches bds qs dr h).2.1 rfl

theorem rootConsistent_after_confirmed_rev_partial (c : Consts ℚ) (ht : 0 < c.tiny) (hL : 0 < c.L) (kind : Nat)
    (uc : Bool) (et sr s0 s1 : Time ℚ) (a b : Nat) (hab : a ≠ b) (d : Nat) (v ra a0 a1 rb b0 b1 : List ℚ)
    (hv : v.length = d) (hra : ra.length = d) (ha0 : a0.length = d) (ha1 : a1.length = d) (qa0 qa1 qb0 qb1 : ℚ)
    (hG : Composite.AllGood d (List.replicate d c.L) ((inStR a b v ra a0 a1 rb b0 b1 qa0 qa1 qb0 qb1 sr s0 s1).map toObj))
    (ist : List (CNode ℚ)) (bds qs : List ℚ) (dr : Draw ℚ) {st' w cs ins u}
    (h : sendRoot Ops.rat c kind uc et ist (inStR a b v ra a0 a1 rb b0 b1 qa0 qa1 qb0 qb1 sr s0 s1) bds qs dr
          = .out st' true w cs ins u) :
    ∀ o ∈ st'.map toObj, C12.RootConsistent (List.replicate d c.L) o :=
  (rootConsistent_pair c ht hL kind uc et ist bds qs dr (pair_dip hab)
    (dip_sliceable hv hra ha0 ha1)).2 hG h

/-- non-vacuity of the `[target, active]` theorems: the C04 example's branch order with the roles swapped -/
example : C04.confirmed? (sendRoot Ops.rat C04.exC 8 false ⟨5, 1/2⟩ []
    (inStR 3 0 [1, 0, 0] [6/10, 7/10, 3/10] [6/10, 7/10, 3/10] [7/10, 7/10, 3/10] [15/100, 2/10, 3/10] [1/10, 2/10, 3/10]
        [2/10, 2/10, 3/10] 1 (-1) 1 (-1) ⟨5, 1/4⟩ ⟨5, 1/4⟩ ⟨5, 1/4⟩) [] [] (.value 0)) = some true := by decide +kernel

/-! ### non-vacuity: the two dipoles of `JF/Props/C04.lean` (`dipAct` = dipole 0 moving, `dipB` = dipole 3 at rest) -/

/-- all fields of a unit / a state as nested lists (types with decidable equality, for the kernel-evaluated examples) -/
def flatU (u : LUnit ℚ) (w : ℚ) : List ℕ × List (Option (List ℚ)) :=
  (u.id, [some u.pos, some [u.charge, w], u.vel, u.ts.map fun t => [t.q, t.r]])
def flat (st : List (CNode ℚ)) : List (List (List ℕ × List (Option (List ℚ)))) :=
  st.map fun r => flatU r.unit r.weight :: r.children.map fun cw => flatU cw.1 cw.2
def flatP (u : PUnit ℚ) : List (Option (List ℚ)) := [some u.pos, u.vel, u.ts.map fun t => [t.q, t.r]]
def flatO (cs : List (CObj ℚ)) : List (List (List (Option (List ℚ)))) :=
  cs.map fun o => flatP o.root :: o.leaves.map flatP
/-- the out-state of a result (`[]` for error outcomes) -/
def outOf : Res ℚ → List (CNode ℚ)
  | .out st' _ _ _ _ _ => st'
  | _ => []

example : flat [C04.dipAct, C04.dipB]
    = flat (inSt 0 3 [1, 0, 0] [15/100, 2/10, 3/10] [1/10, 2/10, 3/10] [2/10, 2/10, 3/10] [6/10, 7/10, 3/10] [6/10, 7/10, 3/10]
        [7/10, 7/10, 3/10] 1 (-1) 1 (-1) ⟨5, 1/4⟩ ⟨5, 1/4⟩ ⟨5, 1/4⟩) := by decide +kernel

/-- the hypothesis `h` of the theorems is met (kind 7, confirmed draw `1/8`; kind 8) … -/
example : C04.confirmed? (sendRoot Ops.rat C04.exC 7 true ⟨5, 1/2⟩
    (timeSliceState Ops.rat C04.exC ⟨5, 1/2⟩ [C04.dipB, C04.dipAct])
    (inSt 0 3 [1, 0, 0] [15/100, 2/10, 3/10] [1/10, 2/10, 3/10] [2/10, 2/10, 3/10] [6/10, 7/10, 3/10] [6/10, 7/10, 3/10]
        [7/10, 7/10, 3/10] 1 (-1) 1 (-1) ⟨5, 1/4⟩ ⟨5, 1/4⟩ ⟨5, 1/4⟩)
    [2, -1, -1/2, 1] [3/2, -1, -1/4, 1/2] (.unit (1/8))) = some true := by decide +kernel

/-- … the out-state is the claimed one (evaluated by the kernel, independently of the proofs above): dipole 0 at rest
at `x + 1/4`, dipole 3 moving with `[1,0,0]` stamped `5 + 1/2` … -/
example : flat (outOf (sendRoot Ops.rat C04.exC 8 false ⟨5, 1/2⟩ []
    (inSt 0 3 [1, 0, 0] [15/100, 2/10, 3/10] [1/10, 2/10, 3/10] [2/10, 2/10, 3/10] [6/10, 7/10, 3/10] [6/10, 7/10, 3/10]
        [7/10, 7/10, 3/10] 1 (-1) 1 (-1) ⟨5, 1/4⟩ ⟨5, 1/4⟩ ⟨5, 1/4⟩) [] [] (.value 0)))
    = flat [dip 0 [40/100, 2/10, 3/10] [35/100, 2/10, 3/10] [45/100, 2/10, 3/10] 1 (-1) none none none none,
       dip 3 [6/10, 7/10, 3/10] [6/10, 7/10, 3/10] [7/10, 7/10, 3/10] 1 (-1) (some [1, 0, 0]) (some ⟨5, 1/2⟩)
         (some ⟨5, 1/2⟩) (some ⟨5, 1/2⟩)] := by decide +kernel

/-- … and read as composite objects it is what C12's machine makes of the in-state with the event `pass` -/
example : flatO ((outOf (sendRoot Ops.rat C04.exC 8 false ⟨5, 1/2⟩ []
    (inSt 0 3 [1, 0, 0] [15/100, 2/10, 3/10] [1/10, 2/10, 3/10] [2/10, 2/10, 3/10] [6/10, 7/10, 3/10] [6/10, 7/10, 3/10]
        [7/10, 7/10, 3/10] 1 (-1) 1 (-1) ⟨5, 1/4⟩ ⟨5, 1/4⟩ ⟨5, 1/4⟩) [] [] (.value 0))).map toObj)
    = flatO (Composite.step Ops.rat Composite.isZ [1, 1, 1] ([C04.dipAct, C04.dipB].map toObj)
        (.pass ⟨5, 1/2⟩ [0, 1] 0 1)) := by
  decide +kernel

/-- the invariant hypothesis `hG` of `rootConsistent_after_confirmed_partial` is satisfiable: the in-state reached in C12's
own example by the start-of-run event on both leaves of dipole 0 (dimension 2, box 1) is an `inSt` and is `AllGood` -/
theorem ex_inSt_good : Composite.AllGood 2 (List.replicate 2 (1 : ℚ))
    ((inSt 0 1 [1, 0] [1/2, 1/2] [3/4, 1/2] [1/4, 1/2] [1/10, 1/5] [3/10, 1/5] [9/10, 1/5] 1 (-1) 1 (-1)
      ⟨0, 0⟩ ⟨0, 0⟩ ⟨0, 0⟩).map toObj) := by
  have h := C12.step_good C12.exBox C12.ex_initial _ C12.ex_root_admissible.1
  have e : C12.exRoot1 = (inSt 0 1 [1, 0] [1/2, 1/2] [3/4, 1/2] [1/4, 1/2] [1/10, 1/5] [3/10, 1/5] [9/10, 1/5] 1 (-1) 1 (-1)
      ⟨0, 0⟩ ⟨0, 0⟩ ⟨0, 0⟩).map toObj := by decide +kernel
  rw [C12.exRoot_step1, e] at h
  exact h

/-- end to end on that in-state: the confirmed out-state of the handler without thinning (kind 8) at event time `1/4`
exists, and each of its two objects is `RootConsistent` -/
example : ∃ st' w cs ins u, sendRoot Ops.rat C04.exC 8 false ⟨0, 1/4⟩ []
      (inSt 0 1 [1, 0] [1/2, 1/2] [3/4, 1/2] [1/4, 1/2] [1/10, 1/5] [3/10, 1/5] [9/10, 1/5] 1 (-1) 1 (-1)
        ⟨0, 0⟩ ⟨0, 0⟩ ⟨0, 0⟩) [] [] (.value 0) = .out st' true w cs ins u
    ∧ ∀ o ∈ st'.map toObj, C12.RootConsistent (List.replicate 2 (1 : ℚ)) o := by
  obtain ⟨st', w, cs, ins, u, h⟩ := C04.exists_out_of_confirmed? (cf := true)
    (r := sendRoot Ops.rat C04.exC 8 false ⟨0, 1/4⟩ []
      (inSt 0 1 [1, 0] [1/2, 1/2] [3/4, 1/2] [1/4, 1/2] [1/10, 1/5] [3/10, 1/5] [9/10, 1/5] 1 (-1) 1 (-1)
        ⟨0, 0⟩ ⟨0, 0⟩ ⟨0, 0⟩) [] [] (.value 0)) (by decide +kernel)
  have hG : Composite.AllGood 2 (List.replicate 2 C04.exC.L)
      ((inSt 0 1 [1, 0] [1/2, 1/2] [3/4, 1/2] [1/4, 1/2] [1/10, 1/5] [3/10, 1/5] [9/10, 1/5] 1 (-1) 1 (-1)
        ⟨0, 0⟩ ⟨0, 0⟩ ⟨0, 0⟩).map toObj) := ex_inSt_good
  exact ⟨st', w, cs, ins, u, h,
    rootConsistent_after_confirmed_partial C04.exC (by decide +kernel) (by decide +kernel) 8 false _ _ _ _ 0 1
      (by decide) 2 _ _ _ _ _ _ _ rfl rfl rfl rfl _ _ _ _ hG _ _ _ _ h⟩

end JF.C04C12
