import JF.Lemmas.SystemInvMP2Sys2
import JF.Lemmas.SystemInvMP2Sys3
import JF.Lemmas.C09PoolsClosed2Run
/-!
# The joint invariant of the composed system of composite objects without cells, transported to multi-process runs

What `JF/Props/SystemInvMP.lean` does for the coulomb_atoms world `JF.Sys.Reach`, for `JF.Sys2.Reach2` (`JF/Props/SystemInv2.lean`:
`joint_inv2` and its closed corollaries): the instance `T2`, `A2` (`JF/Lemmas/SystemInvMP2Sys2.lean`) of the generic transport
`JF/Lemmas/SystemInvMP2Generic.lean`.

**Statement shape.**  `MPRun2 H needs W v g l cs` (= `SysGen.MPRun (T2 …) (A2 … v) (hyp2_static H) W g l cs`): the multi-process
mediator (any core count, any arities, any adversary) over C20's environment `medEnv` built from the components of `JF.Med.leg`
(spec-level scheduler) and an abstract world `W : C20Loop.World G O XTime` returns the commits `l` (`mp`); `cs` are the legs
`JF.Med.runLegs` makes on the oracle values `oracles W 0 g l` of that run (`legs`); there is an initial state `x0` (`Init2`) whose
composite objects are the view `v g` of the initial global state, and the world moves by the step relation of `JF.Sys2` along the run
(`Moves`, leg by leg `WStep2` — `rstep2_nx_iff` —: the yields are the computed `CW2.yieldCls` of the composite objects `v g`;
`CandsOK2`; `v g → v g'` is `Commits2` of the committing tagger, at the committed time, in the mode `cmodeNext` reads off the activation
flags of the single-process mediator state of that leg).
Then (`mp_run_is_reach2`) the run is a `Reach2` run with exactly the commits `cs`, so every closed corollary of `SystemInv2`
holds for the multi-process run, with the hypotheses of the original (`Hyp2`) and `MPRun2`.

**What is assumed.**  `Moves` is a hypothesis on the world along the run (as the fields of `SysStep2` are part of the definition of
`Reach2`), not for all states.  The ghost mode-at-request `cmode` is not a function of the commits alone, so `Moves` is stated along
the tracked state (`A2.nx`: world part read off the global state after the commit, ghost fields as `SysStep2` prescribes) and the
single-process mediator state (`legSt`) — both are functions of the multi-process run (no existential).  The multi-process run is
taken over the spec-level scheduler instance.

Non-vacuity (`Example`): the seven-leg `Reach2` run of `dipoles/dipole_motion.ini` of `JF/Lemmas/C09PoolsClosed2Run.lean` (both mode
switches, `eocRoot` and `eocLeaf`), under the multi-process machine with 3 cores (out-of-order arrivals, pre-computations) and with
2 cores, over the world `replayWorld os7'` that replays its oracle values.  A concrete computed world (as `JF.SystemInvMP.cwWorld`
for point masses) is not given for composite objects.

Composite objects with cell systems (`JF.Sys3L`, `JF/Props/SystemInv3Loop.lean`): namespace `JF.SystemInvMP2.Cells` at the end of this
file — the same transport for the instance `T3` / `A3 v vo` of `JF/Lemmas/SystemInvMP2Sys3.lean` (C20's world has no
activator-internal mutable state, so `vo` reads the occupancies, as of their last update, off the global state), with `Hyp3L`,
`TieFree3` and `MPRun3`; non-vacuity on the four-leg run of `dipoles/cell_bounded.ini` of `JF.SystemInv3Loop.Example`.  Not
transported: `c11_occinv_closed3` (`JF/Props/SystemInv3Occ.lean`) — it is stated for the runs `Reach3From s0`
(`JF/Lemmas/SystemInv3OccRun.lean`) with a hypothesis `OccInit3` on the initial state `s0`, which `CSys.Reach` does not expose.
-/
namespace JF.SystemInvMP2
open JF JF.Sched JF.Med JF.CW2 JF.C14 JF.Sys JF.Sys2 JF.C12 JF.SystemInv2 JF.C20Loop
  JF.SysGen
open JF.Act hiding World Static
open JF.MediatorLoop hiding Run
open JF.Heap hiding Inv
open JF.Composite hiding pendOf
open JF.SystemInvMP (gAt)

section
variable {G O : Type} {env : Env ℚ} {mw : ModeWiring} {S : TaggerIdx}

abbrev MPRun2 (H : Hyp2 env mw S) (needs : HandlerId → Bool) (W : World G O XTime) (v : G → List (CObj ℚ)) (g : G)
    (l : List (MP.Commit G XTime O)) (cs : List (Committed XTime)) : Prop :=
  MPRun (T2 env mw S needs) (A2 env mw S needs v) (hyp2_static H) W g l cs

variable {H : Hyp2 env mw S} {needs : HandlerId → Bool} {W : World G O XTime} {v : G → List (CObj ℚ)} {g : G}
  {l : List (MP.Commit G XTime O)} {cs : List (Committed XTime)}

/-- the state of `JF.Sys2` that mirrors the multi-process run after the legs `cs` -/
structure Tracks2 (v : G → List (CObj ℚ)) (g : G) (l : List (MP.Commit G XTime O)) (cs : List (Committed XTime)) (s : Sys2) :
    Prop where
  world : s.cs = v (gAt g l cs.length)
  prevWorld : cs ≠ [] → s.csPrev = v (gAt g l (cs.length - 1))

/-- the multi-process run is a run of `JF.Sys2.Reach2`: with exactly the commits `cs`, on the oracle
values of the multi-process run, ending in a state that mirrors the global state of the multi-process run; and `cs` is, handler by
handler and time by time, the commit list `l` of the multi-process mediator, for all legs unless the loop ended earlier with an
exception or the end-of-run commit -/
theorem mp_run_is_reach2 (R : MPRun2 H needs W v g l cs) :
    ∃ s, Reach2 env mw S needs ((oracles W 0 g l).take cs.length) cs s ∧ Tracks2 v g l cs s ∧
      cs.map keyMed = (l.take cs.length).map keyMP ∧
      (cs.length = l.length ∨ (∃ fin, runLegs (mwire mw.w S needs) (specI xcfg)
          (MedState.init (specI xcfg) (mwire mw.w S needs).w) (oracles W 0 g l) = (cs, fin) ∧ fin = none) ∨
        ∃ cl, cs.getLast? = some cl ∧ cl.stop = true) := by
  obtain ⟨m, x, hr, h1, h2, h3, h4⟩ := mp_run_is_reach R
  exact ⟨X2.toSys x m, reach2_to hr, ⟨h1, h2⟩, h3, h4⟩

/-! ## the closed corollaries of `JF/Props/SystemInv2.lean`, for the multi-process run -/

theorem joint_inv2_mp (R : MPRun2 H needs W v g l cs) : ∃ s, Tracks2 v g l cs s ∧ JInv2 env mw S needs cs s := by
  obtain ⟨s, hr, tr, _⟩ := mp_run_is_reach2 R
  exact ⟨s, tr, joint_inv2 H hr⟩

theorem c09_fresh_closed2_mp (R : MPRun2 H needs W v g l cs) (h2 : 2 ≤ cs.length) :
    ∃ s : Sys2, s.csPrev = v (gAt g l (cs.length - 1)) ∧
      ∃ hi : Inv env ⟨s.csPrev, ofW (mw.mode (absOf s.mid))⟩,
        (∀ T, (world2 env mw).live T → Fresh (world2 env mw) ⟨s.mid, s.ids, ⟨_, hi⟩⟩ T) ∧
        Act.Run mw.w (world2 env mw) (Tr2 env mw) S ⟨s.mid, s.ids, ⟨_, hi⟩⟩ := by
  obtain ⟨s, hr, tr, _⟩ := mp_run_is_reach2 R
  have hne : cs ≠ [] := by intro h; rw [h] at h2; simp at h2
  exact ⟨s, tr.prevWorld hne, c09_fresh_closed2 H hr h2⟩

/-- `c12_rootConsistent_closed2`, on the global state of the multi-process run itself -/
theorem c12_rootConsistent_closed2_mp (R : MPRun2 H needs W v g l cs) :
    AllGood env.d env.L (v (gAt g l cs.length)) ∧ Uniform env.nPer (v (gAt g l cs.length)) ∧
      ∀ c ∈ v (gAt g l cs.length), RootConsistent env.L c := by
  obtain ⟨s, hr, tr, _⟩ := mp_run_is_reach2 R
  have := c12_rootConsistent_closed2 H hr
  rw [tr.world] at this
  exact this

theorem c07_one_chain_closed2_mp (R : MPRun2 H needs W v g l cs) {cl : Committed XTime} (hl : cs.getLast? = some cl) :
    ∃ s : Sys2, s.cs = v (gAt g l cs.length) ∧
      ∃ E sq m, owner mw.w.wires cl.handler = some E ∧ OneChainM (v (gAt g l cs.length)) sq m ∧
        OneChain (v (gAt g l cs.length)) sq ∧ (cl.stop = false → m = ofW (mw.mode (aStep mw.w (absOf s.mid) E))) := by
  obtain ⟨s, hr, tr, _⟩ := mp_run_is_reach2 R
  have := c07_one_chain_closed2 H hr hl
  rw [tr.world] at this
  exact ⟨s, tr.world, this⟩

theorem c08_closed2_mp (R : MPRun2 H needs W v g l cs) {cl : Committed XTime} (hl : cs.getLast? = some cl) :
    ∃ s : Sys2, s.csPrev = v (gAt g l (cs.length - 1)) ∧
      ∃ (hi : Inv env ⟨s.csPrev, ofW (mw.mode (absOf s.mid))⟩) (born : HandlerId → CW2.G env),
        C08.Reach8 mw.w.wires (world2 env mw) (motion2 env mw) S ⟨⟨s.mid, s.ids, ⟨_, hi⟩⟩, born⟩ ∧
        C08.Current (motion2 env mw) ⟨⟨s.mid, s.ids, ⟨_, hi⟩⟩, born⟩ ∧
        ∀ E, owner mw.w.wires cl.handler = some E → motionBound (mw.w.tagger E) = true →
          ∀ u ∈ (motion2 env mw).units (s.ids cl.handler),
            SameMotion2 env.d env.L (born cl.handler).1.cs s.csPrev u := by
  obtain ⟨s, hr, tr, _⟩ := mp_run_is_reach2 R
  have hne : cs ≠ [] := by intro h; rw [h] at hl; simp at hl
  exact ⟨s, tr.prevWorld hne, c08_closed2 H hr hl⟩

/-- the times of the commits `l` of the multi-process mediator never decrease (on the legs the single-process loop makes on
its oracle values: all of them, unless it ends earlier) -/
theorem commit_times_sorted_closed2_mp (R : MPRun2 H needs W v g l cs) {i j : Nat} (hij : i < j) (hj : j < cs.length)
    {a b : MP.Commit G XTime O} (ha : l[i]? = some a) (hb : l[j]? = some b) : xcfg.lt b.time a.time = false := by
  obtain ⟨s, hr, _, hkey, _⟩ := mp_run_is_reach2 R
  exact sorted_of_key hkey (commit_times_sorted_closed2 H hr) hij hj ha hb

theorem no_sample_skipped2_mp (R : MPRun2 H needs W v g l cs) {k : Nat} {cm : Committed XTime} (hk : cs[k]? = some cm)
    {a : MP.Commit G XTime O} (ha : l[k]? = some a) {hs : HandlerId} {ts : XTime} (hkind : kindOfH mw.w hs = .sampling)
    (hp : pendPushed (pendOf (fun _ => none) (cs.take k)) cm hs = some ts) (hfin : xcfg.finite ts = true) :
    xcfg.lt ts a.time = false ∧ (a.handler = hs → a.time = ts) := by
  obtain ⟨s, hr, _, hkey, _⟩ := mp_run_is_reach2 R
  exact sample_of_key hkey hk ha (no_sample_skipped2 H hr hk hkind hp hfin)

theorem c08_stale_trashed_closed2_mp (R : MPRun2 H needs W v g l cs) {k j : Nat} {ck : Committed XTime}
    (hk : cs[k]? = some ck) {E : TaggerIdx} (hE : owner mw.w.wires ck.handler = some E)
    (hm : affects (mw.w.tagger E) .motion = true) {h : HandlerId} {T : TaggerIdx} (hT : owner mw.w.wires h = some T)
    (hb : motionBound (mw.w.tagger T) = true)
    (hp : (pendPushed (pendOf (fun _ => none) (cs.take k)) ck h).isSome) (hkj : k < j) (hj : j < cs.length)
    {a : MP.Commit G XTime O} (ha : l[j]? = some a) (hc : a.handler = h) :
    h ∈ ck.trashed ∧ ∃ (i : Nat) (ci : Committed XTime), k < i ∧ i ≤ j ∧ cs[i]? = some ci ∧ h ∈ ci.created.map Prod.fst := by
  obtain ⟨s, hr, _, hkey, _⟩ := mp_run_is_reach2 R
  obtain ⟨cj, hcj, hh, _⟩ := key_at hkey hj ha
  obtain ⟨h1, h2⟩ := c08_stale_trashed_closed2 H hr (j := j) (cj := cj) hk hE hm hT hb hp
  exact ⟨h1, h2 hkj hcj (by rw [hh, hc])⟩

end

/-! ## non-vacuity: the seven-leg run of `dipole_motion.ini` under the multi-process machine -/

namespace Example
open JF.C09Pools.Closed2.Example
open JF.SystemInvMP (replayWorld oracles_replay PostChain runSP_postChain mpRun_of_isSome)

def os7' : List (Oracle XTime) :=
  [mkO s0.cs cand1, mkO s1.cs cand2, mkO s2.cs cand3, mkO s3.cs cand4, mkO s4.cs cand5, mkO s5.cs cand6, mkO s6.cs cand7]
def cs7' : List (Committed XTime) := [c1, c2, c3, c4, c5, c6, c7]

theorem os7_eq : os7 = os7' := rfl
theorem cs7_eq : cs7c = cs7' := rfl

def W : World Nat Unit XTime := replayWorld os7'
def v : Nat → List (CObj ℚ) := fun k => (([s0, s1, s2, s3, s4, s5, s6, s7][k]?).getD s0).cs

theorem L : Laws xcfg (specI xcfg) xcfg.finite (SRel xcfg) := specLaws xcfg_strictWeak
theorem static : Static (mwire cfg 10 needs) := hyp2_static hyp

def cfg3 : MP.Cfg := ⟨3, fun _ => false⟩
def cfg2 : MP.Cfg := ⟨2, fun _ => false⟩

/-- handed out per leg: [11]; [1, 0, 2, 6, 7, 10, 9]; [3, 5, 4, 8, 9]; [3, 4, 5]; [9, 3, 5, 4]; [1, 0, 2, 7, 9]; [1, 0, 2] -/
def adv3 : List (List (List Nat)) :=
  [[[11]], [[9, 10], [7, 6], [2, 0], [1]], [[9, 8], [4, 5], [3]], [[5, 4], [3]], [[4, 5], [3, 9]], [[9, 7], [2, 0], [1]],
   [[2], [0, 1]]]
def adv2 : List (List (List Nat)) :=
  [[[11]], [[9], [10, 7, 6, 2, 0, 1]], [[9, 8, 4, 5, 3]], [[5], [4], [3]], [[4, 5, 3, 9]], [[9, 7, 2, 0, 1]], [[2, 0, 1]]]

def sp : List (MP.Commit Nat XTime Unit) := spRun L static W 7 0 (fun _ => 0)

theorem mp_ok3 : mpRun L static W cfg3 adv3 0 (fun _ => 0) = .ok sp :=
  mpRun_of_isSome L static W cfg3 adv3 0 _ (by decide +kernel)

theorem mp_ok2 : mpRun L static W cfg2 adv2 0 (fun _ => 0) = .ok sp :=
  mpRun_of_isSome L static W cfg2 adv2 0 _ (by decide +kernel)

theorem sp_chain : PostChain W 0 sp := runSP_postChain _ _ _ _ _ _ _ _ _
theorem sp_length : sp.length = 7 := runSP_length _ _ _ _ _ _ _

theorem sp_oracles : oracles W 0 0 sp = os7' := by
  have := oracles_replay os7' sp 0 sp_chain (by rw [sp_length]; decide)
  rw [sp_length] at this
  exact this

theorem reach7' : Reach2 env mw 10 needs os7' cs7' s7 := reach7

theorem legs7 : runLegs (mwire cfg 10 needs) (specI xcfg) (MedState.init (specI xcfg) (mwire cfg 10 needs).w) (oracles W 0 0 sp) =
    (cs7', some s7.med) := by
  rw [sp_oracles]
  refine runLegs_of_run (SystemInv2.reach_medRun2 reach7') ?_
  intro c hc
  have := List.mem_map_of_mem (f := (·.stop)) hc
  rw [← cs7_eq, run_summary.2.2] at this
  simpa using this

theorem link {s s' : Sys2} {o : Oracle XTime} {cm : Committed XTime} (hstep : SysStep2 env mw 10 needs s o cm s') {k : Nat}
    (hsee : s'.cs = v (k + 1)) {os : List (Oracle XTime)} {cs : List (Committed XTime)}
    (rest : RChain (T2 env mw 10 needs) (A2 env mw 10 needs v) (k + 1) s'.med (xOf s') os cs) :
    RChain (T2 env mw 10 needs) (A2 env mw 10 needs v) k s.med (xOf s) (o :: os) (cm :: cs) :=
  .cons (T := T2 env mw 10 needs) hstep.leg (rstep2_of hstep)
    (show (A2 env mw 10 needs v).sees (xOf s') (k + 1) from hsee) rest

theorem chain7 : RChain (T2 env mw 10 needs) (A2 env mw 10 needs v) 0 s0.med (xOf s0) os7' cs7' :=
  link step1 rfl (link step2 rfl (link step3 rfl (link step4 rfl (link step5 rfl (link step6 rfl (link step7 rfl
    (.nil _ _ _)))))))

theorem moves7 : Moves (T2 env mw 10 needs) (A2 env mw 10 needs v) W (MedState.init (specI xcfg) (mwire cfg 10 needs).w)
    (xOf s0) 0 0 sp cs7' :=
  moves_replay (nx2_unique v) os7' chain7 sp rfl sp_chain (by rw [sp_length]; decide)

theorem mpRun3 : MPRun2 hyp needs W v 0 sp cs7' :=
  ⟨⟨cfg3, adv3, fun _ => 0, mp_ok3⟩, ⟨xOf s0, init0, rfl, moves7⟩, ⟨_, legs7⟩⟩
theorem mpRun2 : MPRun2 hyp needs W v 0 sp cs7' :=
  ⟨⟨cfg2, adv2, fun _ => 0, mp_ok2⟩, ⟨xOf s0, init0, rfl, moves7⟩, ⟨_, legs7⟩⟩

/-- what the multi-process mediator commits: the handlers and times of the single-process run -/
example : sp.map keyMP = cs7'.map keyMed := by
  obtain ⟨_, _, _, hkey, _⟩ := mp_run_is_reach2 mpRun3
  rw [show cs7'.length = 7 from rfl, ← sp_length, List.take_length] at hkey
  exact hkey.symm

example : ∃ s, Tracks2 v 0 sp cs7' s ∧ JInv2 env mw 10 needs cs7' s := joint_inv2_mp mpRun3

example : AllGood env.d env.L (v (gAt 0 sp 7)) ∧ Uniform env.nPer (v (gAt 0 sp 7)) ∧ ∀ c ∈ v (gAt 0 sp 7), RootConsistent env.L c :=
  c12_rootConsistent_closed2_mp mpRun2

example : ∃ s : Sys2, s.csPrev = v (gAt 0 sp 6) ∧
    ∃ hi : Inv env ⟨s.csPrev, ofW (mw.mode (absOf s.mid))⟩,
      (∀ T, (world2 env mw).live T → Fresh (world2 env mw) ⟨s.mid, s.ids, ⟨_, hi⟩⟩ T) ∧
      Act.Run mw.w (world2 env mw) (Tr2 env mw) 10 ⟨s.mid, s.ids, ⟨_, hi⟩⟩ :=
  c09_fresh_closed2_mp mpRun2 (by decide)

example : ∃ sq, OneChain (v (gAt 0 sp 7)) sq := by
  obtain ⟨_, _, _, sq, _, _, _, h, _⟩ :=
    c07_one_chain_closed2_mp mpRun3 (cl := c7) (List.getLast?_concat (l := [c1, c2, c3, c4, c5, c6]))
  exact ⟨sq, h⟩

theorem sp1 : (sp[1]?).isSome = true := by rw [List.getElem?_eq_getElem (by rw [sp_length]; decide)]; rfl
theorem sp2 : (sp[2]?).isSome = true := by rw [List.getElem?_eq_getElem (by rw [sp_length]; decide)]; rfl

/-- the commit times of the multi-process run: leg 2 (`coulomb_root`, 1/2) is not before leg 1 (`leaf_to_root`, 1/4) -/
example : xcfg.lt ((sp[2]?).get sp2).time ((sp[1]?).get sp1).time = false :=
  commit_times_sorted_closed2_mp mpRun3 (i := 1) (j := 2) (by decide) (by decide)
    (Option.some_get sp1).symm (Option.some_get sp2).symm

end Example

end JF.SystemInvMP2

/-! # Composite objects with cell systems (`JF.Sys3L`) -/

namespace JF.SystemInvMP2.Cells
open JF JF.Heap JF.Sched JF.Med JF.CW3 JF.C14 JF.Sys JF.Sys3 JF.Sys3L JF.C12 JF.Footprints3
  JF.SystemInv3Loop JF.C20Loop JF.SysGen JF.SystemInvMP2
open JF.Act hiding World Static
open JF.MediatorLoop hiding Run
open JF.Composite hiding pendOf
open JF.SystemInvMP (gAt)

section
variable {G O : Type} {env : Env ℚ} {geo : ∀ l, Geo (cwEnv env l)} {mw : ModeWiring} {S : TaggerIdx}

abbrev MPRun3 (H : Hyp3L env mw S) (geo : ∀ l, Geo (cwEnv env l)) (needs : HandlerId → Bool) (W : World G O XTime)
    (v : G → List (CObj ℚ)) (vo : G → List Occ.State) (g : G) (l : List (MP.Commit G XTime O)) (cs : List (Committed XTime)) :
    Prop :=
  MPRun (T3 env geo mw S needs) (A3 env geo mw S needs v vo) (hyp3_static (needs := needs) H) W g l cs

variable {H : Hyp3L env mw S} {needs : HandlerId → Bool} {W : World G O XTime} {v : G → List (CObj ℚ)}
  {vo : G → List Occ.State} {g : G} {l : List (MP.Commit G XTime O)} {cs : List (Committed XTime)}

structure Tracks3 (v : G → List (CObj ℚ)) (vo : G → List Occ.State) (g : G) (l : List (MP.Commit G XTime O))
    (cs : List (Committed XTime)) (s : Sys3) : Prop where
  world : s.cs = v (gAt g l cs.length)
  occs : s.occs = vo (gAt g l cs.length)
  prevWorld : cs ≠ [] → s.csPrev = v (gAt g l (cs.length - 1))

theorem mp_run_is_reach3 (R : MPRun3 H geo needs W v vo g l cs) :
    ∃ s, Reach3 env geo mw S needs ((oracles W 0 g l).take cs.length) cs s ∧ Tracks3 v vo g l cs s ∧
      cs.map keyMed = (l.take cs.length).map keyMP ∧
      (cs.length = l.length ∨ (∃ fin, runLegs (mwire mw.w S needs) (specI xcfg)
          (MedState.init (specI xcfg) (mwire mw.w S needs).w) (oracles W 0 g l) = (cs, fin) ∧ fin = none) ∨
        ∃ cl, cs.getLast? = some cl ∧ cl.stop = true) := by
  obtain ⟨m, x, hr, h1, h2, h3, h4⟩ := mp_run_is_reach R
  exact ⟨X3.toSys x m, reach3_to hr, ⟨h1.1, h1.2, h2⟩, h3, h4⟩

theorem joint_inv3_mp (R : MPRun3 H geo needs W v vo g l cs) (nt : TieFree3 mw cs) :
    ∃ s, Tracks3 v vo g l cs s ∧ JInv3 env mw S needs cs s := by
  obtain ⟨s, hr, tr, _⟩ := mp_run_is_reach3 R
  exact ⟨s, tr, joint_inv3 H hr nt⟩

theorem c09_fresh_closed3_mp (R : MPRun3 H geo needs W v vo g l cs) (nt : TieFree3 mw cs) (h2 : 2 ≤ cs.length) :
    ∃ s : Sys3, s.csPrev = v (gAt g l (cs.length - 1)) ∧ s.occs = vo (gAt g l cs.length) ∧
      ∃ hi : Inv3 env mw ⟨s.csPrev, .leaf, s.occs⟩,
        (∀ T, (world3 env mw).live T → Fresh (world3 env mw) ⟨s.mid, s.ids, ⟨_, hi⟩⟩ T) ∧
        Act.Run mw.w (world3 env mw) (Tr3 env mw) S ⟨s.mid, s.ids, ⟨_, hi⟩⟩ := by
  obtain ⟨s, hr, tr, _⟩ := mp_run_is_reach3 R
  have hne : cs ≠ [] := by intro h; rw [h] at h2; simp at h2
  exact ⟨s, tr.prevWorld hne, tr.occs, c09_fresh_closed3 H hr nt h2⟩

/-- `c12_rootConsistent_closed3`, on the global state of the multi-process run itself -/
theorem c12_rootConsistent_closed3_mp (R : MPRun3 H geo needs W v vo g l cs) (nt : TieFree3 mw cs) :
    AllGood env.base.d env.base.L (v (gAt g l cs.length)) ∧ CW2.Uniform env.base.nPer (v (gAt g l cs.length)) ∧
      (∀ c ∈ v (gAt g l cs.length), RootConsistent env.base.L c) ∧
      (AllRest (v (gAt g l cs.length)) ∨ ∃ sq, OneChainM (v (gAt g l cs.length)) sq .leaf) := by
  obtain ⟨s, hr, tr, _⟩ := mp_run_is_reach3 R
  have := c12_rootConsistent_closed3 H hr nt
  rw [tr.world] at this
  exact this

theorem staysInRecordedCell_closed3_mp (R : MPRun3 H geo needs W v vo g l cs) (nt : TieFree3 mw cs) {cl : Committed XTime}
    (hl : cs.getLast? = some cl) {E : TaggerIdx} (hE : owner mw.w.wires cl.handler = some E) {lab : Nat}
    (hlab : lab < mw.w.labels.length) (haff : affects (mw.w.tagger E) (.cell lab) = false) :
    StaysInRecordedCell env.base.nPer (env.oe lab) (getOcc (vo (gAt g l cs.length)) lab) (v (gAt g l cs.length)) := by
  obtain ⟨s, hr, tr, _⟩ := mp_run_is_reach3 R
  have := staysInRecordedCell_closed3 H hr nt hl hE hlab haff
  rw [tr.world, tr.occs] at this
  exact this

/-- the occupancy of internal state `lab` carried by the global state after `cs.length` commits is consistent with the global
state before the last commit (the state it was updated on) -/
theorem c11_consistent_closed3_mp (R : MPRun3 H geo needs W v vo g l cs) (nt : TieFree3 mw cs) (hne : cs ≠ []) {lab : Nat}
    (hlab : lab < mw.w.labels.length) :
    ConsistentOcc (env.oe lab).relevant
      (unitsOn env.base.nPer (env.oe lab).level (CW2.flags (v (gAt g l (cs.length - 1))))) (getOcc (vo (gAt g l cs.length)) lab) := by
  obtain ⟨s, hr, tr, _⟩ := mp_run_is_reach3 R
  have := c11_consistent_closed3 H hr nt hlab
  rw [tr.prevWorld hne, tr.occs] at this
  exact this

theorem commit_times_sorted_closed3_mp (R : MPRun3 H geo needs W v vo g l cs) (nt : TieFree3 mw cs) {i j : Nat} (hij : i < j)
    (hj : j < cs.length) {a b : MP.Commit G XTime O} (ha : l[i]? = some a) (hb : l[j]? = some b) :
    xcfg.lt b.time a.time = false := by
  obtain ⟨s, hr, _, hkey, _⟩ := mp_run_is_reach3 R
  exact sorted_of_key hkey (commit_times_sorted_closed3 H hr nt) hij hj ha hb

theorem no_sample_skipped3_mp (R : MPRun3 H geo needs W v vo g l cs) {k : Nat} {cm : Committed XTime} (hk : cs[k]? = some cm)
    {a : MP.Commit G XTime O} (ha : l[k]? = some a) {hs : HandlerId} {ts : XTime} (hkind : kindOfH mw.w hs = .sampling)
    (hp : pendPushed (pendOf (fun _ => none) (cs.take k)) cm hs = some ts) (hfin : xcfg.finite ts = true) :
    xcfg.lt ts a.time = false ∧ (a.handler = hs → a.time = ts) := by
  obtain ⟨s, hr, _, hkey, _⟩ := mp_run_is_reach3 R
  exact sample_of_key hkey hk ha (no_sample_skipped3 H hr hk hkind hp hfin)

end

/-! ## non-vacuity: the four-leg run of `dipoles/cell_bounded.ini` of `JF.SystemInv3Loop.Example` under the multi-process machine -/

namespace Example
open JF.SystemInv3Loop.Example
open JF.SystemInvMP (replayWorld oracles_replay PostChain runSP_postChain mpRun_of_isSome)

def os4' : List (Oracle XTime) := [mkO s0.cs [occ0] cand1, mkO s1.cs occs1 cand2, mkO s2.cs occs2 cand3, mkO s3.cs occs3 cand4]
def cs4' : List (Committed XTime) := [c1, c2, c3, c4]

def W : World Nat Unit XTime := replayWorld os4'
def v : Nat → List (CObj ℚ) := fun k => (([s0, s1, s2, s3, s4][k]?).getD s0).cs
def vo : Nat → List Occ.State := fun k => (([s0, s1, s2, s3, s4][k]?).getD s0).occs

theorem L : Laws xcfg (specI xcfg) xcfg.finite (SRel xcfg) := specLaws xcfg_strictWeak
theorem static : Static (mwire cfg 9 needs) := hyp3_static hyp

def cfg3 : MP.Cfg := ⟨3, fun _ => false⟩

/-- handed out per leg: [9]; [0, 3, 4, 5, 6, 7, 8]; [6]; [0, 3] -/
def adv3 : List (List (List Nat)) := [[[9]], [[8, 7], [6, 5], [4, 0], [3]], [[6]], [[3], [0]]]

def sp : List (MP.Commit Nat XTime Unit) := spRun L static W 4 0 (fun _ => 0)

theorem mp_ok3 : mpRun L static W cfg3 adv3 0 (fun _ => 0) = .ok sp :=
  mpRun_of_isSome L static W cfg3 adv3 0 _ (by decide +kernel)

theorem sp_chain : PostChain W 0 sp := runSP_postChain _ _ _ _ _ _ _ _ _
theorem sp_length : sp.length = 4 := runSP_length _ _ _ _ _ _ _

theorem sp_oracles : oracles W 0 0 sp = os4' := by
  have := oracles_replay os4' sp 0 sp_chain (by rw [sp_length]; decide)
  rw [sp_length] at this
  exact this

theorem reach4' : Reach3 env geo mw 9 needs os4' cs4' s4 := reach4

theorem legs4 : runLegs (mwire cfg 9 needs) (specI xcfg) (MedState.init (specI xcfg) (mwire cfg 9 needs).w) (oracles W 0 0 sp) =
    (cs4', some s4.med) := by
  rw [sp_oracles]
  refine runLegs_of_run (reach_medRun3 reach4') ?_
  have : cs4'.all (fun c => !c.stop) = true := by rw [show cs4' = cs4c from rfl, cs4c_eq]; rfl
  intro c hc
  simpa using List.all_eq_true.mp this c hc

theorem link {s s' : Sys3} {o : Oracle XTime} {cm : Committed XTime} (hstep : SysStep3 env geo mw 9 needs s o cm s') {k : Nat}
    (hsee : s'.cs = v (k + 1) ∧ s'.occs = vo (k + 1)) {os : List (Oracle XTime)} {cs : List (Committed XTime)}
    (rest : RChain (T3 env geo mw 9 needs) (A3 env geo mw 9 needs v vo) (k + 1) s'.med (xOf3 s') os cs) :
    RChain (T3 env geo mw 9 needs) (A3 env geo mw 9 needs v vo) k s.med (xOf3 s) (o :: os) (cm :: cs) :=
  .cons (T := T3 env geo mw 9 needs) hstep.leg (rstep3_of hstep)
    (show (A3 env geo mw 9 needs v vo).sees (xOf3 s') (k + 1) from hsee) rest

theorem chain4 : RChain (T3 env geo mw 9 needs) (A3 env geo mw 9 needs v vo) 0 s0.med (xOf3 s0) os4' cs4' :=
  link step1 ⟨rfl, rfl⟩ (link step2 ⟨rfl, rfl⟩ (link step3 ⟨rfl, rfl⟩ (link step4 ⟨rfl, rfl⟩ (.nil _ _ _))))

theorem moves4 : Moves (T3 env geo mw 9 needs) (A3 env geo mw 9 needs v vo) W (MedState.init (specI xcfg) (mwire cfg 9 needs).w)
    (xOf3 s0) 0 0 sp cs4' :=
  moves_replay (nx3_unique v vo) os4' chain4 sp rfl sp_chain (by rw [sp_length]; decide)

theorem mpRun3 : MPRun3 hyp geo needs W v vo 0 sp cs4' :=
  ⟨⟨cfg3, adv3, fun _ => 0, mp_ok3⟩, ⟨xOf3 s0, init0, ⟨rfl, rfl⟩, moves4⟩, ⟨_, legs4⟩⟩

theorem tieFree4' : TieFree3 mw cs4' := tieFree4

example : ∃ s, Tracks3 v vo 0 sp cs4' s ∧ JInv3 env mw 9 needs cs4' s := joint_inv3_mp mpRun3 tieFree4'

example : ∃ s : Sys3, s.csPrev = v (gAt 0 sp 3) ∧ s.occs = vo (gAt 0 sp 4) ∧
    ∃ hi : Inv3 env mw ⟨s.csPrev, .leaf, s.occs⟩,
      (∀ T, (world3 env mw).live T → Fresh (world3 env mw) ⟨s.mid, s.ids, ⟨_, hi⟩⟩ T) ∧
      Act.Run mw.w (world3 env mw) (Tr3 env mw) 9 ⟨s.mid, s.ids, ⟨_, hi⟩⟩ :=
  c09_fresh_closed3_mp mpRun3 tieFree4' (by decide)

example : ConsistentOcc (env.oe 0).relevant (unitsOn env.base.nPer (env.oe 0).level (CW2.flags (v (gAt 0 sp 3))))
    (getOcc (vo (gAt 0 sp 4)) 0) :=
  c11_consistent_closed3_mp mpRun3 tieFree4' (by decide) (by decide)

end Example

end JF.SystemInvMP2.Cells
