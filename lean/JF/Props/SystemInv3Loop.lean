import JF.Lemmas.SystemRun3LoopStep
import JF.Lemmas.RunChk
import JF.Props.SystemInv3
import JF.Props.SystemInv
import Mathlib.Tactic.IntervalCases
/-!
# One joint invariant for composite objects with cell systems, at the level of the composed mediator loop

A run `Reach3 os cs s` (`JF/Model/SystemRun3Loop.lean`, `JF/Lemmas/SystemRun3LoopDefs.lean`, namespace `JF.Sys3L`) is any number of
legs `SysStep3`, each of which is one pass of `SingleProcessMediator.run` = `JF.Med.leg` (spec-level scheduler over exact times
`XTime`) on the concrete state `JF.CW3` (`List (CObj ℚ)`, two-level trees, + one `SingleActiveCellOccupancy` per internal state of
the activator, any number of them, each on its own cell level).

`joint_inv3`: by one induction over the legs, `Big3` holds after every leg.  The state in the middle of the leg is a state of
`JF.Act.Run` for the transition relation `Tr3L` — hence (`trRaw3_of_leafOnly`) for `Tr3` —, and the premise `StaysInRecordedCell` of
`Tr3L` is derived at every step (`Big3.stays`: pending cell-boundary candidate of that system by C09's freshness + scheduler
minimality + `Geo` for that level + no tie).

**What is assumed, by name.**  `Hyp3L`: a box and decidable conditions on the wiring; it holds by `decide` for the six shipped
composite wirings with cells.  The no-tie hypothesis `TieFree3`: no event of a tagger that does not affect cell system `l` according
to the footprint table (sampling, dumping, end of run, the cell-boundary event of another cell system) is committed at exactly the
time of a pending cell-boundary candidate of `l`.  `Geo` per cell system (`JF/Lemmas/SystemRunGeo.lean`; `axisGeoPos`: positive axis
direction only).  `CandsOK3`: the in-state unit of the candidate request of the cell-boundary handler of system `l` is the active
unit on the cell level of `l` (the same assertion `SingleActiveCellOccupancy.update` makes), in the box, with the time of the last
commit as its time stamp.  (For point masses with one cell system, `JF/Props/SystemInv.lean`, `InBox`, `velOK` and `ts = last commit`
follow from C07's kinematic invariant `KinI`; C12's `Good` of the composite machine has no in-box / time-stamp clause, so here they
are conditions on the step relation, to be measured at every cell-boundary candidate request.)  `Commits3` / `EvAdm3`: kinds of the
handler class in leaf mode, `AdmW`, leaf start.  `Init3`.

C11's full `OccInv` is not part of `Big3` (`Big3.stays` covers `affects · (.cell l) = false` only); it is `c11_occinv_closed3` in
`JF/Props/SystemInv3Occ.lean`, under `TieFreeAll3` and `OccInit3`.
-/
namespace JF.SystemInv3Loop
open JF JF.Act JF.Heap JF.Sched JF.Med JF.CW3 JF.C14 JF.Sys JF.Sys3 JF.Sys3L JF.C12 JF.Footprints3
open JF.MediatorLoop hiding Run
open JF.Composite hiding pendOf

section
variable {env : Env ℚ} {geo : ∀ l, Geo (cwEnv env l)} {mw : ModeWiring} {S : TaggerIdx} {needs : HandlerId → Bool}

def JInv3 (env : Env ℚ) (mw : ModeWiring) (S : TaggerIdx) (needs : HandlerId → Bool)
    (cs : List (Committed XTime)) (s : Sys3) : Prop :=
  (cs = [] ∧ Init3 env mw s) ∨
  ∃ cs0 cl E tl, cs = cs0 ++ [cl] ∧ Big3 env mw S needs cs cl s E tl

theorem tieFree3_snoc {cs : List (Committed XTime)} {cm : Committed XTime} (h : TieFree3 mw (cs ++ [cm])) :
    TieFree3 mw cs ∧ TieFreeLeg3 mw (pendOf (fun _ => none) cs) cm :=
  SysLeg.everyLeg_snoc (P := fun pre cm => TieFreeLeg3 mw (pendOf (fun _ => none) pre) cm) h

theorem tieFree3_take {cs : List (Committed XTime)} (h : TieFree3 mw cs) (k : Nat) : TieFree3 mw (cs.take k) :=
  SysLeg.everyLeg_take (P := fun pre cm => TieFreeLeg3 mw (pendOf (fun _ => none) pre) cm) h k

/-- the joint invariant `Big3` holds after every leg of every run -/
theorem joint_inv3 (H : Hyp3L env mw S) {os : List (Oracle XTime)} {cs : List (Committed XTime)} {s : Sys3}
    (hr : Reach3 env geo mw S needs os cs s) (nt : TieFree3 mw cs) : JInv3 env mw S needs cs s := by
  induction hr with
  | init s h => exact Or.inl ⟨rfl, h⟩
  | @step os cs s s' o cm prev hgo hstep ih =>
    obtain ⟨nt0, _⟩ := tieFree3_snoc nt
    right
    rcases ih nt0 with ⟨rfl, hi⟩ | ⟨cs0, cl, E, tl, rfl, big⟩
    · obtain ⟨E', tl', hb⟩ := first_step3 H hi hstep
      exact ⟨[], cm, E', tl', rfl, hb⟩
    · have hgo' : cl.stop = false := hgo cl (by simp)
      have ntl : TieFreeLeg3 mw (pendOf (fun _ => none) (cs0 ++ [cl]).dropLast) cl := by
        rw [List.dropLast_concat]; exact (tieFree3_snoc nt0).2
      obtain ⟨E', tl', hb⟩ := big_step3 H big hgo' ntl hstep
      exact ⟨cs0 ++ [cl], cm, E', tl', rfl, hb⟩

theorem reach_medRun3 {os : List (Oracle XTime)} {cs : List (Committed XTime)} {s : Sys3}
    (hr : Reach3 env geo mw S needs os cs s) :
    MediatorLoop.Run (mwire mw.w S needs) (specI xcfg) (MedState.init (specI xcfg) (mwire mw.w S needs).w) os cs s.med := by
  induction hr with
  | init s h => rw [h.med]; exact .nil _
  | step _ _ hstep ih => exact run_snoc ih hstep.leg

theorem reach_leg3 {os : List (Oracle XTime)} {cs : List (Committed XTime)} {s : Sys3}
    (hr : Reach3 env geo mw S needs os cs s) {k : Nat} {cm : Committed XTime} (hk : cs[k]? = some cm) :
    ∃ os0 s0 s1 o, Reach3 env geo mw S needs os0 (cs.take k) s0 ∧
      (∀ cl, (cs.take k).getLast? = some cl → cl.stop = false) ∧ SysStep3 env geo mw S needs s0 o cm s1 := by
  induction hr with
  | init s h => simp at hk
  | @step os cs s s' o cm' prev hgo hstep ih =>
    by_cases hlt : k < cs.length
    · rw [List.getElem?_append_left hlt] at hk
      rw [List.take_append_of_le_length (Nat.le_of_lt hlt)]
      exact ih hk
    · obtain rfl : k = cs.length := by
        have := (List.getElem?_eq_some_iff.mp hk).1
        simp at this; omega
      simp only [List.getElem?_concat_length, Option.some.injEq] at hk
      subst hk
      rw [List.take_left' rfl]
      exact ⟨os, s, s', o, prev, hgo, hstep⟩

theorem jinv_big3 {cs : List (Committed XTime)} {s : Sys3} (h : JInv3 env mw S needs cs s) {cl : Committed XTime}
    (hl : cs.getLast? = some cl) : ∃ E tl, Big3 env mw S needs cs cl s E tl := by
  rcases h with ⟨rfl, _⟩ | ⟨cs0, cl', E, tl, rfl, big⟩
  · simp at hl
  · have : cl' = cl := by simpa using hl
    subst this
    exact ⟨E, tl, big⟩

theorem tieFree3_last {cs : List (Committed XTime)} (nt : TieFree3 mw cs) {cl : Committed XTime} (hl : cs.getLast? = some cl) :
    TieFreeLeg3 mw (pendOf (fun _ => none) cs.dropLast) cl :=
  SysLeg.everyLeg_last (P := fun pre cm => TieFreeLeg3 mw (pendOf (fun _ => none) pre) cm) nt hl

/-! ## the premise `StaysInRecordedCell` of `Tr3` -/

/-- The premise `StaysInRecordedCell` of `Tr3` (resp. `Tr3L`), derived.  After every commit of every run whose tagger does not affect
cell system `l` according to the footprint table: the active unit on the cell level of `l` — as the commit left it, i.e. time-sliced
to the committed time — is still in the cell the occupancy of `l` has recorded for it. -/
theorem staysInRecordedCell_closed3 (H : Hyp3L env mw S) {os : List (Oracle XTime)} {cs : List (Committed XTime)} {s : Sys3}
    (hr : Reach3 env geo mw S needs os cs s) (nt : TieFree3 mw cs) {cl : Committed XTime} (hl : cs.getLast? = some cl)
    {E : TaggerIdx} (hE : owner mw.w.wires cl.handler = some E) {l : Nat} (hlab : l < mw.w.labels.length)
    (haff : affects (mw.w.tagger E) (.cell l) = false) :
    StaysInRecordedCell env.base.nPer (env.oe l) (getOcc s.occs l) s.cs := by
  obtain ⟨E0, tl, big⟩ := jinv_big3 (joint_inv3 H hr nt) hl
  have : E0 = E := by
    have := big.owner; rw [hE] at this; exact (Option.some.inj this).symm
  subst this
  exact big.stays l hlab haff (tieFree3_last nt hl E0 l hE hlab haff)

/-- every commit after the start-of-run event that does not end the run is a transition of `Tr3`, premise included (between
the states in the middle of two consecutive legs; `occs'` = the occupancies after the next leg's update) -/
theorem tr3_premise_closed3 (H : Hyp3L env mw S) {os : List (Oracle XTime)} {cs : List (Committed XTime)} {s : Sys3}
    (hr : Reach3 env geo mw S needs os cs s) (nt : TieFree3 mw cs) (h2 : 2 ≤ cs.length) {cl : Committed XTime}
    (hl : cs.getLast? = some cl) (hgo : cl.stop = false) {occs' : List Occ.State}
    (hocc : OccsUpdated env mw.w.labels.length s.occs occs' s.cs) :
    ∃ E, owner mw.w.wires cl.handler = some E ∧ TrRaw3 env mw E ⟨s.csPrev, .leaf, s.occs⟩ ⟨s.cs, .leaf, occs'⟩ := by
  obtain ⟨E, tl, big⟩ := jinv_big3 (joint_inv3 H hr nt) hl
  refine ⟨E, big.owner, ?_⟩
  obtain ⟨hi, hph⟩ := big.phase
  rcases hph with ⟨h1, _⟩ | hrun
  · omega
  · have hpend : (getT s.mid E).running ≠ [] := List.ne_nil_of_mem big.running
    obtain ⟨hEn, hEk, _⟩ := (runInv3 H hrun).pending H.start (liveIs3 env mw).live hpend
    obtain ⟨e, hk, _, ⟨ha, _⟩, hcs⟩ := big.commit
    exact trRaw3_of_leafOnly H.leaf ⟨hEn, rfl, rfl, ⟨e, hk, not_start_kind H.supp hEn hEk hk, ha, hcs⟩, hocc,
      fun l hlab haff => big.stays l hlab haff (tieFree3_last nt hl E l big.owner hlab haff)⟩

/-! ## C09, C08, C12, C11 along the runs of the mediator loop -/

/-- C09 for composite objects with cell systems, with no `FootprintsSound`, mode or history premise as hypothesis:
after every leg but the first, the state in the middle of that leg — the activator's lists `s.mid`, the identifiers handed out
`s.ids`, the concrete global state `s.csPrev` the leg's candidates were computed on, the occupancies `s.occs` as updated in that leg —
satisfies `Inv3`, every live tagger is `Fresh` there, and it is a state of `JF.Act.Run` for the transition relation `Tr3`. -/
theorem c09_fresh_closed3 (H : Hyp3L env mw S) {os : List (Oracle XTime)} {cs : List (Committed XTime)} {s : Sys3}
    (hr : Reach3 env geo mw S needs os cs s) (nt : TieFree3 mw cs) (h2 : 2 ≤ cs.length) :
    ∃ hi : Inv3 env mw ⟨s.csPrev, .leaf, s.occs⟩,
      (∀ T, (world3 env mw).live T → Fresh (world3 env mw) ⟨s.mid, s.ids, ⟨_, hi⟩⟩ T) ∧
      Act.Run mw.w (world3 env mw) (Tr3 env mw) S ⟨s.mid, s.ids, ⟨_, hi⟩⟩ := by
  rcases joint_inv3 H hr nt with ⟨rfl, _⟩ | ⟨cs0, cl, E, tl, rfl, big⟩
  · simp at h2
  · obtain ⟨hi, hph⟩ := big.phase
    rcases hph with ⟨h1, _⟩ | hrun
    · omega
    · exact ⟨hi, (runInv3 H hrun).fresh, run_mono (fun _ _ _ htr => trRaw3_of_leafOnly H.leaf htr) hrun⟩

/-- … and the pending events in the middle of a leg are exactly those of the running handlers of that moment (`s1`: the state
after the leg) -/
theorem c09_fresh_every_leg3 (H : Hyp3L env mw S) {os : List (Oracle XTime)} {cs : List (Committed XTime)} {s : Sys3}
    (hr : Reach3 env geo mw S needs os cs s) (nt : TieFree3 mw cs) {k : Nat} {cm : Committed XTime}
    (hk : cs[k + 1]? = some cm) :
    ∃ (s1 : Sys3) (hi : Inv3 env mw ⟨s1.csPrev, .leaf, s1.occs⟩),
      (∀ T, (world3 env mw).live T → Fresh (world3 env mw) ⟨s1.mid, s1.ids, ⟨_, hi⟩⟩ T) ∧
      (∀ x, (pendPushed (pendOf (fun _ => none) (cs.take (k + 1))) cm x).isSome ↔ ∃ T, x ∈ (getT s1.mid T).running) := by
  obtain ⟨os0, s0, s1, o, hr0, hgo, hst⟩ := reach_leg3 hr hk
  have hr1 := Reach3.step hr0 hgo hst
  have hklt : k + 1 < cs.length := (List.getElem?_eq_some_iff.mp hk).1
  have hlen : 2 ≤ (cs.take (k + 1) ++ [cm]).length := by
    rw [List.length_append, List.length_take, Nat.min_eq_left (Nat.le_of_lt hklt)]; simp
  have hcat : cs.take (k + 1) ++ [cm] = cs.take (k + 2) := by
    rw [List.take_add_one (i := k + 1), hk]; rfl
  have nt1 : TieFree3 mw (cs.take (k + 1) ++ [cm]) := by rw [hcat]; exact tieFree3_take nt _
  obtain ⟨hi, hfr, _⟩ := c09_fresh_closed3 H hr1 nt1 hlen
  refine ⟨s1, hi, hfr, ?_⟩
  rw [hst.mid']
  exact SystemInv.pending_iff_running (hyp3_static H) (reach_medRun3 hr0) hst.leg

/-- C08's clause (h) in the middle of every leg: if a tagger `E` whose commits may change the motion of a unit has a pending
handler, every interaction / cell-veto tagger is in its trash list or idle -/
theorem c08_closed3 (H : Hyp3L env mw S) {os : List (Oracle XTime)} {cs : List (Committed XTime)} {s : Sys3}
    (hr : Reach3 env geo mw S needs os cs s) (nt : TieFree3 mw cs) (h2 : 2 ≤ cs.length)
    {E : TaggerIdx} (hE : (getT s.mid E).running ≠ []) (hend : (mw.w.tagger E).kind ≠ .endOfRun)
    (hm : affects (mw.w.tagger E) .motion = true) {T : TaggerIdx} (hT : T < mw.w.n) (hb : motionBound (mw.w.tagger T) = true) :
    T ∈ (getW mw.w.wires E).trashes ∨ (getT s.mid T).running = [] := by
  obtain ⟨hi, _, hrun⟩ := c09_fresh_closed3 H hr nt h2
  exact clause_h_concrete3 env H.box mw S H.sound H.start H.supp hrun (E := E) hE hend hm hT hb

/-- C08's second sentence for every run.  If leg `k` commits an event that may change the motion of
a unit while the event of a handler `h` of an interaction / cell-veto tagger is pending — i.e. `h`'s candidate was computed before that
commit —, then `h`'s event is in the trash list of leg `k`, and if `h` commits in a later leg `j`, it was handed out again in some leg
`i` with `k < i ≤ j`. -/
theorem c08_stale_trashed_closed3 (H : Hyp3L env mw S) {os : List (Oracle XTime)} {cs : List (Committed XTime)} {s : Sys3}
    (hr : Reach3 env geo mw S needs os cs s) (nt : TieFree3 mw cs) {k j : Nat} {ck cj : Committed XTime}
    (hk : cs[k]? = some ck) {E : TaggerIdx} (hE : owner mw.w.wires ck.handler = some E)
    (hm : affects (mw.w.tagger E) .motion = true) {h : HandlerId} {T : TaggerIdx} (hT : owner mw.w.wires h = some T)
    (hb : motionBound (mw.w.tagger T) = true)
    (hp : (pendPushed (pendOf (fun _ => none) (cs.take k)) ck h).isSome) :
    h ∈ ck.trashed ∧
    (k < j → cs[j]? = some cj → cj.handler = h →
      ∃ (i : Nat) (ci : Committed XTime), k < i ∧ i ≤ j ∧ cs[i]? = some ci ∧ h ∈ ci.created.map Prod.fst) := by
  have htr : h ∈ ck.trashed := by
    obtain ⟨os0, s0, s1, o, hr0, hgo, hst⟩ := reach_leg3 hr hk
    have nt0 := tieFree3_take nt k
    rcases joint_inv3 H hr0 nt0 with ⟨he, hi⟩ | ⟨cs0, cl, E0, tl, he, big⟩
    · -- the first leg: only the start-of-run handler is pending
      rw [he] at hp
      obtain ⟨_, f⟩ := SysLeg.leg_facts (hyp3_static H) (SysLeg.minv_of_init hi.med) hst.leg hst.mid'
      exact absurd ((f.first H.start hi.med).2.2 h hp) (SysLeg.not_bound_of_start hT hb)
    · have hl : (cs.take k).getLast? = some cl := by rw [he]; simp
      obtain ⟨E0, f⟩ := SysLeg.leg_facts (hyp3_static H) big.med hst.leg hst.mid'
      obtain rfl : E0 = E := Option.some.inj (f.owner.symm.trans hE)
      obtain ⟨hi', hrun'⟩ := mid_run3 H big (hgo cl hl) (tieFree3_last nt0 hl) hst (f.update big.started big.prec big.owner)
      exact f.trashed_of hT hp (clause_h_concrete3 env H.box mw S H.sound H.start H.supp
        (run_mono (fun _ _ _ htr => trRaw3_of_leafOnly H.leaf htr) hrun') (List.ne_nil_of_mem f.running)
        (by intro hk; simp [affects, hk] at hm) hm (by rw [← mw.w.wires_length]; exact owner_lt hT) hb)
  refine ⟨htr, fun hkj hj hc => ?_⟩
  exact trashed_never_committed_run (specLaws xcfg_strictWeak) (hyp3_static H) (reach_medRun3 hr) hk htr hkj hj hc

/-- C12 / C07 at every leg of every run: after every commit every composite object satisfies C12's
`Good` (hence `RootConsistent`), has `nPer` point masses, and nothing moves or exactly one point mass does (leaf mode) -/
theorem c12_rootConsistent_closed3 (H : Hyp3L env mw S) {os : List (Oracle XTime)} {cs : List (Committed XTime)} {s : Sys3}
    (hr : Reach3 env geo mw S needs os cs s) (nt : TieFree3 mw cs) :
    AllGood env.base.d env.base.L s.cs ∧ CW2.Uniform env.base.nPer s.cs ∧ (∀ c ∈ s.cs, RootConsistent env.base.L c) ∧
    (AllRest s.cs ∨ ∃ sq, OneChainM s.cs sq .leaf) := by
  rcases joint_inv3 H hr nt with ⟨rfl, hi⟩ | ⟨cs0, cl, E, tl, rfl, big⟩
  · exact ⟨hi.good, hi.unif, fun c hc => good_rootConsistent (hi.good c hc), Or.inl hi.rest⟩
  · exact ⟨big.invNext.1, big.invNext.2.1, fun c hc => good_rootConsistent (big.invNext.1 c hc), big.invNext.2.2⟩

/-- C11's mirror, consistency form, in the middle of every leg: the occupancy of internal state `l`
records the active unit on its cell level iff it is relevant, and an active cell iff an identifier -/
theorem c11_consistent_closed3 (H : Hyp3L env mw S) {os : List (Oracle XTime)} {cs : List (Committed XTime)} {s : Sys3}
    (hr : Reach3 env geo mw S needs os cs s) (nt : TieFree3 mw cs) {l : Nat} (hl : l < mw.w.labels.length) :
    ConsistentOcc (env.oe l).relevant (unitsOn env.base.nPer (env.oe l).level (CW2.flags s.csPrev)) (getOcc s.occs l) := by
  rcases joint_inv3 H hr nt with ⟨rfl, hi⟩ | ⟨cs0, cl, E, tl, rfl, big⟩
  · rw [hi.prev]; exact hi.cons l hl
  · obtain ⟨hi, _⟩ := big.phase
    exact hi.2 l hl

/-- C11's mirror for the active unit of every cell system: in the middle of every leg after the first the recorded active cell of
cell system `l` is the cell of the position of the (relevant) active unit on its level -/
theorem c11_active_in_recorded_cell_closed3 (H : Hyp3L env mw S) {os : List (Oracle XTime)} {cs : List (Committed XTime)}
    {s : Sys3} (hr : Reach3 env geo mw S needs os cs s) (nt : TieFree3 mw cs) (h2 : 2 ≤ cs.length) {l : Nat}
    (hl : l < mw.w.labels.length) {a : Nat} (ha : activeOn env l s.csPrev = [a]) (hrel : (env.oe l).relevant a = true) :
    (getOcc s.occs l).activeCell = some ((env.oe l).cellOf (posOn env.base.nPer (env.oe l).level s.csPrev a)) := by
  rcases joint_inv3 H hr nt with ⟨rfl, _⟩ | ⟨cs0, cl, E, tl, rfl, big⟩
  · simp at h2
  · exact big.mirror h2 l hl a ha hrel

/-! ## commit times, the C17 link -/

/-- every pushed candidate time is not before the previous commit: by `CandsOK3` for the handlers that are not cell-boundary
handlers, derived for the cell-boundary handlers of every cell system from `Geo.pos` (positive time to the boundary) -/
theorem candOK_closed3 (H : Hyp3L env mw S) {os : List (Oracle XTime)} {cs : List (Committed XTime)} {s : Sys3}
    (hr : Reach3 env geo mw S needs os cs s) (nt : TieFree3 mw cs) :
    MediatorLoop.Legs (CandOK xcfg) (fun _ => none) xcfg.bot cs := by
  induction hr with
  | init => trivial
  | @step os cs s s' o cm prev hgo hstep ih =>
    obtain ⟨nt0, _⟩ := tieFree3_snoc nt
    rw [SystemInv.legs_snoc]
    refine ⟨ih nt0, ?_⟩
    show ∀ q ∈ cm.pushed, xcfg.lt q.2 (lastOf xcfg.bot cs) = false
    rcases joint_inv3 H prev nt0 with ⟨rfl, _⟩ | ⟨cs0, cl, E, tl, rfl, big⟩
    · intro q _; exact xcfg_strictWeak.bot_min q.2
    · rw [lastOf_snoc, leg_pushed hstep.leg, big.time]
      intro q hq
      have hc := hstep.cands
      rw [big.med.rel.last, big.time] at hc
      exact (pushed_facts3 (geo := geo) H.supp big.tnorm hc (h := q.1) (t := q.2) hq).2.1

/-- commit times never decrease (C07's time order for the composed system) -/
theorem commit_times_sorted_closed3 (H : Hyp3L env mw S) {os : List (Oracle XTime)} {cs : List (Committed XTime)} {s : Sys3}
    (hr : Reach3 env geo mw S needs os cs s) (nt : TieFree3 mw cs) : cs.Pairwise (fun a b => xcfg.lt b.time a.time = false) :=
  commit_times_sorted_pairwise xcfg_strictWeak (specLaws xcfg_strictWeak) (hyp3_static H) (reach_medRun3 hr)
    (candOK_closed3 H hr nt)

/-- The C17 link.  In every leg `k` of every run: while a sampling candidate with time `t_s` is pending
(in the middle of the leg), the event committed by the leg is not later than `t_s` (minimality of the committed time, C06), and when the sampling
handler itself commits, it commits at exactly `t_s`.  With `commit_times_sorted_closed3`: no event after `t_s` is committed before
the sample. -/
theorem no_sample_skipped3 (H : Hyp3L env mw S) {os : List (Oracle XTime)} {cs : List (Committed XTime)} {s : Sys3}
    (hr : Reach3 env geo mw S needs os cs s) {k : Nat} {cm : Committed XTime} (hk : cs[k]? = some cm)
    {hs : HandlerId} {ts : XTime} (_ : kindOfH mw.w hs = .sampling)
    (hp : pendPushed (pendOf (fun _ => none) (cs.take k)) cm hs = some ts) (hfin : xcfg.finite ts = true) :
    xcfg.lt ts cm.time = false ∧ (cm.handler = hs → cm.time = ts) :=
  SystemInv.pending_not_skipped (hyp3_static H) (reach_medRun3 hr) hk hp hfin

end

/-! ## the six shipped configurations of composite objects with cells satisfy the hypotheses (by `decide`) -/

open JF.Act.Gen JF.SystemInv3

theorem cbWired3_shipped : cbWired3 cfg_dipoles_cell_bounded 9 = true ∧ cbWired3 cfg_dipoles_cell_veto 9 = true ∧
    cbWired3 cfg_water_coulomb_cell_veto_lj_cell_veto 13 = true ∧ cbWired3 cfg_water_coulomb_cell_veto_lj_inverted 10 = true ∧
    cbWired3 cfg_water_coulomb_power_bounded_lj_cell_bounded 10 = true ∧
    cbWired3 cfg_hard_disk_dipoles_hard_disk_dipoles_cells 6 = true := by
  decide +kernel

theorem hyp3L_of_hyp3 {env : Env ℚ} {mw : ModeWiring} {S : TaggerIdx} (h : Hyp3 env mw S) (hcb : cbWired3 mw.w S = true) :
    Hyp3L env mw S := ⟨h.box, h.sound, h.start, h.supp, h.leaf, hcb⟩

/-- one cell system on the root level -/
theorem hyp3L_dipoles_cell_bounded (env : Env ℚ) (hL : BoxOK env.base.d env.base.L) : Hyp3L env mcfg_dipoles_cell_bounded 9 :=
  hyp3L_of_hyp3 (hyp3_dipoles_cell_bounded env hL) cbWired3_shipped.1
theorem hyp3L_dipoles_cell_veto (env : Env ℚ) (hL : BoxOK env.base.d env.base.L) : Hyp3L env mcfg_dipoles_cell_veto 9 :=
  hyp3L_of_hyp3 (hyp3_dipoles_cell_veto env hL) cbWired3_shipped.2.1
/-- two cell systems (oxygens on the leaf level, molecules on the root level) -/
theorem hyp3L_water_cell_veto_lj_cell_veto (env : Env ℚ) (hL : BoxOK env.base.d env.base.L) :
    Hyp3L env mcfg_water_coulomb_cell_veto_lj_cell_veto 13 :=
  hyp3L_of_hyp3 (hyp3_water_cell_veto_lj_cell_veto env hL) cbWired3_shipped.2.2.1
theorem hyp3L_water_cell_veto_lj_inverted (env : Env ℚ) (hL : BoxOK env.base.d env.base.L) :
    Hyp3L env mcfg_water_coulomb_cell_veto_lj_inverted 10 :=
  hyp3L_of_hyp3 (hyp3_water_cell_veto_lj_inverted env hL) cbWired3_shipped.2.2.2.1
/-- one cell system on the leaf level -/
theorem hyp3L_water_power_bounded_lj_cell_bounded (env : Env ℚ) (hL : BoxOK env.base.d env.base.L) :
    Hyp3L env mcfg_water_coulomb_power_bounded_lj_cell_bounded 10 :=
  hyp3L_of_hyp3 (hyp3_water_power_bounded_lj_cell_bounded env hL) cbWired3_shipped.2.2.2.2.1
theorem hyp3L_hard_disk_dipoles_cells (env : Env ℚ) (hL : BoxOK env.base.d env.base.L) :
    Hyp3L env mcfg_hard_disk_dipoles_hard_disk_dipoles_cells 6 :=
  hyp3L_of_hyp3 (hyp3_hard_disk_dipoles_cells env hL) cbWired3_shipped.2.2.2.2.2

/-- the side condition `cbWired3` is not trivially true: if the cell-boundary handler is driven by a tagger of another class, it fails -/
example : cbWired3 { cfg_dipoles_cell_bounded with taggers := cfg_dipoles_cell_bounded.taggers.map fun t =>
    if t.kind == .cellBoundary then { t with cls := .cellVeto } else t } 9 = false := by decide +kernel

/-! ## non-vacuity: a four-leg run of `dipoles/cell_bounded.ini` with two dipoles (exact reading)

The two dipoles of `JF/Props/C12.lean` in the unit square (`exC0`: centre (1/2, 1/2); `exC1`: centre (1/10, 1/5)), one occupancy on the
root level (`cell_level = 1`) over a 4 × 4 grid with one layer of nearby cells, `maximum_number_occupants = 1`, geometry
`axisGeoPos`.  Four legs of the composed system, computed by `JF.Med.leg` in one evaluation of the run (`run0`):
start of run at 0 (point mass (0, 0) starts with velocity (1, 0); the centre of dipole 0 moves with (1/2, 0)) — the sampling event
at 1/8 while the cell-boundary candidate `0 + timeToBoundary = 1/2` of the root unit is pending — that cell-boundary event (the
centre reaches x = 3/4, cell (3, 2)) — the `harmonic` event at 5/8 handed out in leg 2 (lifting (0, 0) → (0, 1) inside the
molecule). -/

namespace Example
open JF.C11

abbrev mw : ModeWiring := mcfg_dipoles_cell_bounded
abbrev cfg : Wiring := cfg_dipoles_cell_bounded

def g4 : Grid := ⟨4, 1 / 4, by decide, by norm_num⟩

/-- index of cell (ix, iy) in `yield_cells()` order = ix + 4 iy -/
def oe : OccEnv ℚ :=
  { level := 1, grid := ⟨[4, 4], 1⟩
    cellOf := fun p => (g4.idx (p.getD 0 0)).toNat + 4 * (g4.idx (p.getD 1 0)).toNat
    relevant := fun _ => true }

def env : Env ℚ :=
  { base := Footprints2.envOf exL 2 "factor_set_dipoles_dipole.txt"
      ["CoulombCellBounding", "CoulombNearby", "CoulombSurplus", "CellBoundary", "Harmonic", "Repulsive", "Sampling", "EndOfChain",
       "EndOfRun", "StartOfRun"]
    occs := [oe] }

theorem box : BoxOK env.base.d env.base.L := exBox

def abox (l : Nat) : AxisBox (cwEnv env l) where
  grids := [g4, g4]
  hn2 := by intro g hg; simp at hg; subst hg; decide
  hL := by show exL = _; simp [exL, Grid.L, g4]
  hcell := by
    intro p q hp hq h
    have hpl : p.length = 2 := ((Kin.inBox_iff _ _).mp hp).1
    have hql : q.length = 2 := ((Kin.inBox_iff _ _).mp hq).1
    obtain ⟨p0, p1, rfl⟩ := List.length_eq_two.mp hpl
    obtain ⟨q0, q1, rfl⟩ := List.length_eq_two.mp hql
    have h0 := h 0 (by simp) (by simp) (by simp)
    have h1 := h 1 (by simp) (by simp) (by simp)
    simp only [List.getElem_cons_zero, List.getElem_cons_succ] at h0 h1
    match l with
    | 0 => show (g4.idx p0).toNat + 4 * (g4.idx p1).toNat = (g4.idx q0).toNat + 4 * (g4.idx q1).toNat; rw [h0, h1]
    | l + 1 => rfl

def geo (l : Nat) : Geo (cwEnv env l) := axisGeoPos (abox l)

/-- a handler has an in-state iff its tagger is not a `NoInStateTagger` -/
def needs : HandlerId → Bool := fun h =>
  match owner cfg.wires h with
  | some T => (cfg.tagger T).cls != .noInState
  | none => false

abbrev M : MWire := mwire cfg 9 needs

theorem hyp : Hyp3L env mw 9 := hyp3L_dipoles_cell_bounded env box

theorem ex_uniform : CW2.Uniform env.base.nPer [exC0, exC1] := CW2.uniform_exC

/-- `SingleActiveCellOccupancy.initialize`: dipole 0 in cell (2, 2) = 10, dipole 1 in cell (0, 0) = 0 -/
def occ0 : Occ.State := Occ.init 1 [⟨0, true, 10⟩, ⟨1, true, 0⟩]
def s0 : Sys3 := Sys3.init cfg [exC0, exC1] [occ0]

theorem init0 : Init3 env mw s0 where
  med := rfl
  good := ex_initial
  unif := ex_uniform
  rest := ex_rest
  cons := fun l hl => by
    have : l = 0 := Nat.lt_one_iff.mp hl
    subst this
    exact consistent_init _ _ _
  prev := rfl

def legR (s : Sys3) (o : Oracle XTime) (h : (leg M (specI xcfg) s.med o).toOption.isSome = true) :
    MedState (SSched XTime) × Committed XTime := (leg M (specI xcfg) s.med o).toOption.get h

def nextS (s : Sys3) (o : Oracle XTime) (h : (leg M (specI xcfg) s.med o).toOption.isSome = true)
    (cs' : List (CObj ℚ)) (occs' : List Occ.State) : Sys3 :=
  ⟨(legR s o h).1, cs', occs', assign s.ids (legR s o h).2.created, s.cs, midAct M s.med o⟩

def mkO (cs : List (CObj ℚ)) (occs' : List Occ.State) (cand : HandlerId → XTime) : Oracle XTime :=
  ⟨fun T => yieldCls3 env T (cfg.tagger T).cls (cfg.tagger T).label cs occs', cand⟩

/-- the occupancies a leg from `s` works with: after the first leg they are updated with the unit active in `s.cs` -/
def occN (s : Sys3) : List Occ.State :=
  if s.med.act.started then [(occAfter 2 oe (getOcc s.occs 0) s.cs).getD occ0] else s.occs

/-- the example run in ONE evaluation (`JF.runChk`): a leg from `s` on the candidates `cand` has to succeed; its result is checked
against the expected record `d.1` (`SysLeg.legOK`), and `d.2` is evaluated on the activator's lists in the middle of the leg and the
identifiers handed out; the run goes on from `nextS` after the event `e` -/
abbrev rc := runChk (D := Committed XTime × (Act → (HandlerId → IdTuple) → Bool))
  (fun (s : Sys3) (cand : HandlerId → XTime) => (leg M (specI xcfg) s.med (mkO s.cs (occN s) cand)).toOption.isSome = true)
  (fun s cand d h => SysLeg.legOK (.ok (legR s _ h) : Except Unit _) d.1 &&
    d.2 (midAct M s.med (mkO s.cs (occN s) cand)) (assign s.ids (legR s _ h).2.created))
  (fun s _ (e : Composite.Ev ℚ) h => nextS s _ h (step Ops.rat isZ env.base.L s.cs e) (occN s))

/-- what a checked run says of its first leg, and the checked rest.  The occupancies, `cm` and `s'` are given by equations: comparing a
defined record or state with the result of the leg by definitional equality would evaluate the leg once more -/
theorem leg_of {s s' : Sys3} {cand : HandlerId → XTime} {e : Composite.Ev ℚ} {r : Committed XTime}
    {ob : Act → (HandlerId → IdTuple) → Bool} {rest : List _} (R : rc s ((cand, e, r, ob) :: rest) = true) {occs : List Occ.State}
    (eo : occs = occN s) (h : (leg M (specI xcfg) s.med (mkO s.cs occs cand)).toOption.isSome = true) {cm : Committed XTime}
    (ecm : cm = (legR s _ h).2) (es : s' = nextS s _ h (step Ops.rat isZ env.base.L s.cs e) occs) :
    (cm = r ∧ s'.med.act.started = true ∧ s'.med.sched.last = r.time) ∧ ob s'.mid s'.ids = true ∧ rc s' rest = true := by
  subst eo ecm es
  have hc := Bool.and_eq_true_iff.1 (runChk_chk R h)
  exact ⟨(SysLeg.legOK_spec hc.1).2 rfl, hc.2, runChk_tail R h⟩

theorem step_of (s : Sys3) (occs' : List Occ.State) (cand : HandlerId → XTime)
    (h : (leg M (specI xcfg) s.med (mkO s.cs occs' cand)).toOption.isSome = true) (cs' : List (CObj ℚ))
    {cm : Committed XTime} {s' : Sys3} (ecm : cm = (legR s _ h).2) (es : s' = nextS s _ h cs' occs')
    (hocc : if s.med.act.started = true then OccsUpdated env mw.w.labels.length s.occs occs' s.cs else occs' = s.occs)
    (hc : CandsOK3 env geo mw s.cs s.med.sched.last (mkO s.cs occs' cand) cm.created)
    (hev : ∃ t E', cm.time = .fin t ∧ owner mw.w.wires cm.handler = some E' ∧ Commits3 env mw E' t s.cs cs') :
    SysStep3 env geo mw 9 needs s (mkO s.cs occs' cand) cm s' := by
  subst ecm es
  exact
    { occ1 := hocc
      yields := rfl
      leg := SystemInv.Example.ok_of_toOption (Option.some_get h).symm
      cands := hc
      ev := hev
      ids' := rfl
      prev := rfl
      mid' := rfl }

/-- what `CandsOK3` asks of one handler handed out -/
def CandOK (cs : List (CObj ℚ)) (last : XTime) (o : Oracle XTime) (h : HandlerId) : Prop :=
  (∀ B l, owner mw.w.wires h = some B → isCBT mw.w l B = true →
    ∃ a u v ts, activeOn env l cs = [a] ∧ Sys2.unitAt cs (identL env l a) = some u ∧ u.vel = some v ∧ u.ts = some ts ∧
      Kin.InBox env.base.L u.pos ∧ (geo l).velOK v ∧ last = .fin ts ∧
      o.cand h = .fin (Time.add Ops.rat ts ((geo l).ttb u.pos v))) ∧
  (kindOfH mw.w h ≠ .cellBoundary → NormX (o.cand h) ∧ xcfg.lt (o.cand h) last = false)

/-- the candidate of the cell-boundary handler (handler 3, internal state 0): the root unit `u` of the active dipole `a` -/
theorem cand_cb {cs : List (CObj ℚ)} {last : XTime} {o : Oracle XTime} (a : Nat) (u : PUnit ℚ) (v : List ℚ)
    (ts : Time ℚ) (h12 : activeOn env 0 cs = [a] ∧ Sys2.unitAt cs (identL env 0 a) = some u) (h3 : u.vel = some v)
    (h4 : u.ts = some ts) (h5 : Kin.InBox env.base.L u.pos) (h6 : (geo 0).velOK v) (h7 : last = .fin ts)
    (h8 : o.cand 3 = .fin (Time.add Ops.rat ts ((geo 0).ttb u.pos v))) : CandOK cs last o 3 := by
  refine ⟨?_, fun h => absurd (show kindOfH cfg 3 = .cellBoundary by decide) h⟩
  intro B l hB hcb
  cases (show owner cfg.wires 3 = some 3 by decide).symm.trans hB
  obtain rfl : l = 0 := (Option.some.inj ((show (cfg.tagger 3).label = some 0 by decide).symm.trans (isCBT_kind hcb).2)).symm
  exact ⟨a, u, v, ts, h12.1, h12.2, h3, h4, h5, h6, h7, h8⟩

/-- `CandsOK3` for the handlers handed out in a leg: the decidable part — no cell-boundary handler, a normalised candidate not before the
last commit — by evaluation for all of them but the cell-boundary handler 3, whose clause is given (`cand_cb`) -/
theorem cands_of {cs : List (CObj ℚ)} {last : XTime} {o : Oracle XTime} {created : List (HandlerId × IdTuple)}
    (h : (created.all fun q => q.1 == 3 ||
      (kindOfH cfg q.1 != .cellBoundary && SysLeg.normXb (o.cand q.1) && !xcfg.lt (o.cand q.1) last)) = true)
    (h3 : 3 ∈ created.map Prod.fst → CandOK cs last o 3) : CandsOK3 env geo mw cs last o created := by
  intro q hq
  have := List.all_eq_true.mp h q hq
  simp only [Bool.or_eq_true, beq_iff_eq, Bool.and_eq_true, bne_iff_ne, ne_eq, Bool.not_eq_true'] at this
  rcases this with h | ⟨⟨hk, hn⟩, hl⟩
  · rw [h]; exact h3 (h ▸ List.mem_map_of_mem hq)
  · refine ⟨fun B l hB hcb => absurd ?_ hk, fun _ => ⟨SysLeg.normXb_spec hn, hl⟩⟩
    exact (kindOfH_of_owner hB).trans (isCBT_kind hcb).1

theorem velOK_x (l : Nat) (w : ℚ) (hw : 0 < w) : (geo l).velOK [w, 0] :=
  ⟨rfl, 0, by simp, by simpa using hw, by
    intro d' hd' hne
    simp at hd'
    have : d' = 1 := by omega
    subst this; rfl⟩

def cand1 : HandlerId → XTime := fun _ => .fin ⟨0, 0⟩
def rec1 : Committed XTime := ⟨[(9, none)], [(9, .fin ⟨0, 0⟩)], 9, .fin ⟨0, 0⟩, [9], false⟩
def cand2 : HandlerId → XTime := fun h =>
  if h = 3 then .fin (Time.add Ops.rat ⟨0, 0⟩ (axisTtb [g4, g4] [1/2, 1/2] [1/2, 0]))
  else if h = 6 then .fin ⟨0, 1/8⟩ else if h = 4 then .fin ⟨0, 5/8⟩ else if h = 7 then .fin ⟨10, 0⟩
  else if h = 8 then .fin ⟨100, 0⟩ else .inf
def rec2 : Committed XTime :=
  ⟨[(0, some [[0], [1]]), (3, some [[0]]), (4, some [[0, 0], [0, 1]]), (5, some [[0, 0], [1, 1]]), (6, none), (7, some [[0, 0]]),
      (8, none)],
    [(0, .inf), (3, .fin ⟨0, 1/2⟩), (4, .fin ⟨0, 5/8⟩), (5, .inf), (6, .fin ⟨0, 1/8⟩), (7, .fin ⟨10, 0⟩), (8, .fin ⟨100, 0⟩)],
    6, .fin ⟨0, 1/8⟩, [6], false⟩
def cand3 : HandlerId → XTime := fun h => if h = 6 then .fin ⟨0, 3/4⟩ else .inf
def rec3 : Committed XTime := ⟨[(6, none)], [(6, .fin ⟨0, 3/4⟩)], 3, .fin ⟨0, 1/2⟩, [0, 3], false⟩
def e3 : Composite.Ev ℚ := .snap ⟨0, 1/2⟩ [0] 0 none 0 (3/4)
def cand4 : HandlerId → XTime := fun h =>
  if h = 3 then .fin (Time.add Ops.rat ⟨0, 1/2⟩ (axisTtb [g4, g4] [3/4, 1/2] [1/2, 0])) else .inf
def rec4 : Committed XTime :=
  ⟨[(0, some [[0], [1]]), (3, some [[0]])], [(0, .inf), (3, .fin ⟨1, 0⟩)], 4, .fin ⟨0, 5/8⟩, [0, 3, 4, 5], false⟩
def e4 : Composite.Ev ℚ := .exchange ⟨0, 5/8⟩ [0] 0 0 0 1

/-- the legs after leg `k`: candidate times, composite event, expected record, and what else is evaluated of the leg -/
def L3 : List ((HandlerId → XTime) × Composite.Ev ℚ × Committed XTime × (Act → (HandlerId → IdTuple) → Bool)) :=
  [(cand4, e4, rec4, fun mid ids => decide ((getT mid 0).running.map ids = [some [[0], [1]]] ∧
    (getT mid 3).running.map ids = [some [[0]]] ∧ (getT mid 4).running.map ids = [some [[0, 0], [0, 1]]]))]
def L2 := (cand3, e3, rec3, fun _ _ => true) :: L3
def L1 := (cand2, Composite.Ev.keep (α := ℚ) ⟨0, 1/8⟩ [0], rec2, fun _ _ => true) :: L2
def L0 := (cand1, Composite.Ev.start (α := ℚ) 0 [0] [1, 0], rec1, fun _ _ => true) :: L1

/-- the four legs in one evaluation: `hₖ`, `legₖ`, `runₖ` are read off it -/
theorem run0 : rc s0 L0 = true := by decide +kernel

/-! leg 1: the start-of-run handler (9) is handed out, commits at time 0: point mass (0, 0) starts moving with velocity (1, 0) -/

theorem h1 : (leg M (specI xcfg) s0.med (mkO s0.cs [occ0] cand1)).toOption.isSome = true := (runChk_head run0 :)
def cs1 : List (CObj ℚ) := step Ops.rat isZ env.base.L s0.cs (.start 0 [0] [1, 0])
def s1 : Sys3 := nextS s0 _ h1 cs1 [occ0]
def c1 : Committed XTime := (legR s0 _ h1).2

/-- the leg's record and what is needed of the mediator after it; everything else about the leg is read off these -/
theorem leg1 : c1 = rec1 ∧ s1.med.act.started = true ∧ s1.med.sched.last = rec1.time :=
  (leg_of run0 rfl h1 c1.eq_1 s1.eq_1).1
theorem run1 : rc s1 L1 = true := (leg_of run0 rfl h1 c1.eq_1 s1.eq_1).2.2

theorem step1 : SysStep3 env geo mw 9 needs s0 (mkO s0.cs [occ0] cand1) c1 s1 := by
  refine step_of s0 [occ0] cand1 h1 cs1 c1.eq_1 s1.eq_1 (by rw [if_neg (by decide)]; rfl) ?_
    ⟨⟨0, 0⟩, 9, congrArg Committed.time leg1.1, by rw [leg1.1]; decide, ?_⟩
  · rw [leg1.1]
    exact cands_of (by decide +kernel) fun h => absurd h (by decide)
  · exact ⟨.start 0 [0] [1, 0], by decide, rfl, ⟨JF.C12.ModeExample.start_admW, fun i P v h => by cases h; rfl⟩, rfl⟩

/-! leg 2: the occupancy records dipole 0 as active in cell (2, 2); the cell taggers, the cell-boundary handler (candidate
`0 + timeToBoundary = 1/2`: the centre of dipole 0 moves with speed 1/2 from x = 1/2 to the boundary x = 3/4), `harmonic` (5/8), … are
handed out; the sampling event at 1/8 commits while the cell-boundary candidate is pending -/

theorem hoccS (s : Sys3) (hs : s.med.act.started = true)
    (h : (occAfter 2 oe (getOcc s.occs 0) s.cs).isSome = true) :
    if s.med.act.started = true then
      OccsUpdated env mw.w.labels.length s.occs [(occAfter 2 oe (getOcc s.occs 0) s.cs).get h] s.cs
    else [(occAfter 2 oe (getOcc s.occs 0) s.cs).get h] = s.occs := by
  rw [if_pos hs]
  intro l hl
  have : l = 0 := Nat.lt_one_iff.mp hl
  subst this
  exact (Option.some_get h).symm

def occs1 : List Occ.State := [(occAfter 2 oe (getOcc s1.occs 0) s1.cs).get (by decide +kernel)]
theorem occs1_eq : occs1 = occN s1 := by rw [occs1, occN, if_pos leg1.2.1, Option.get_eq_getD]
theorem h2 : (leg M (specI xcfg) s1.med (mkO s1.cs occs1 cand2)).toOption.isSome = true :=
  occs1_eq ▸ (runChk_head run1 :)
def cs2 : List (CObj ℚ) := step Ops.rat isZ env.base.L s1.cs (.keep ⟨0, 1/8⟩ [0])
def s2 : Sys3 := nextS s1 _ h2 cs2 occs1
def c2 : Committed XTime := (legR s1 _ h2).2

theorem leg2 : c2 = rec2 ∧ s2.med.act.started = true ∧ s2.med.sched.last = rec2.time :=
  (leg_of run1 occs1_eq h2 c2.eq_1 s2.eq_1).1
theorem run2 : rc s2 L2 = true := (leg_of run1 occs1_eq h2 c2.eq_1 s2.eq_1).2.2

theorem step2 : SysStep3 env geo mw 9 needs s1 (mkO s1.cs occs1 cand2) c2 s2 := by
  refine step_of s1 occs1 cand2 h2 cs2 c2.eq_1 s2.eq_1 (hoccS s1 leg1.2.1 _) ?_
    ⟨⟨0, 1/8⟩, 6, congrArg Committed.time leg2.1, by rw [leg2.1]; decide, ?_⟩
  · rw [leg2.1, leg1.2.2]
    exact cands_of (by decide +kernel) fun _ => cand_cb 0 ⟨[1/2, 1/2], some [1/2, 0], some ⟨0, 0⟩⟩ [1/2, 0] ⟨0, 0⟩ (by decide +kernel) rfl rfl
      (by norm_num [Kin.InBox, env, Footprints2.envOf, exL]) (velOK_x 0 (1/2) (by norm_num)) rfl rfl
  · exact ⟨.keep ⟨0, 1/8⟩ [0], by decide, rfl, ⟨trivial, fun i P v h => by cases h⟩, rfl⟩

/-! leg 3: the sampling handler is handed out again (next sample at 3/4); the cell-boundary event of dipole 0 (time 1/2) commits -/

def occs2 : List Occ.State := [(occAfter 2 oe (getOcc s2.occs 0) s2.cs).get (by decide +kernel)]
theorem occs2_eq : occs2 = occN s2 := by rw [occs2, occN, if_pos leg2.2.1, Option.get_eq_getD]
theorem h3 : (leg M (specI xcfg) s2.med (mkO s2.cs occs2 cand3)).toOption.isSome = true :=
  occs2_eq ▸ (runChk_head run2 :)
def cs3 : List (CObj ℚ) := step Ops.rat isZ env.base.L s2.cs e3
def s3 : Sys3 := nextS s2 _ h3 cs3 occs2
def c3 : Committed XTime := (legR s2 _ h3).2

theorem adm3 : AdmW env.base.d env.base.L s2.cs e3 := by
  intro c hc
  have h : (sliceAt Ops.rat env.base.L ⟨0, 1/2⟩ [0] s2.cs)[0]? = some
      ⟨⟨[3/4, 1/2], some [1/2, 0], some ⟨0, 1/2⟩⟩, [⟨[1/4, 1/2], some [1, 0], some ⟨0, 1/2⟩⟩, ⟨[1/4, 1/2], none, none⟩]⟩ := by
    decide +kernel
  rw [h] at hc
  cases hc
  rfl

theorem leg3 : c3 = rec3 ∧ s3.med.act.started = true ∧ s3.med.sched.last = rec3.time :=
  (leg_of run2 occs2_eq h3 c3.eq_1 s3.eq_1).1
theorem run3 : rc s3 L3 = true := (leg_of run2 occs2_eq h3 c3.eq_1 s3.eq_1).2.2

theorem step3 : SysStep3 env geo mw 9 needs s2 (mkO s2.cs occs2 cand3) c3 s3 := by
  refine step_of s2 occs2 cand3 h3 cs3 c3.eq_1 s3.eq_1 (hoccS s2 leg2.2.1 _) ?_
    ⟨⟨0, 1/2⟩, 3, congrArg Committed.time leg3.1, by rw [leg3.1]; decide, ?_⟩
  · rw [leg3.1, leg2.2.2]
    exact cands_of (by decide +kernel) fun h => absurd h (by decide)
  · exact ⟨e3, by decide, rfl, ⟨adm3, fun i P v h => by cases h⟩, rfl⟩

/-! leg 4: the cell taggers and the cell-boundary handler are re-created on the new cell (3, 2) (candidate `1/2 + timeToBoundary = 1`);
the `harmonic` event handed out in leg 2 (5/8) is still pending and commits: lifting (0, 0) → (0, 1) inside dipole 0 -/

def occs3 : List Occ.State := [(occAfter 2 oe (getOcc s3.occs 0) s3.cs).get (by decide +kernel)]
theorem occs3_eq : occs3 = occN s3 := by rw [occs3, occN, if_pos leg3.2.1, Option.get_eq_getD]
theorem h4 : (leg M (specI xcfg) s3.med (mkO s3.cs occs3 cand4)).toOption.isSome = true :=
  occs3_eq ▸ (runChk_head run3 :)
def cs4 : List (CObj ℚ) := step Ops.rat isZ env.base.L s3.cs e4
def s4 : Sys3 := nextS s3 _ h4 cs4 occs3
def c4 : Committed XTime := (legR s3 _ h4).2

theorem adm4 : AdmW env.base.d env.base.L s3.cs e4 :=
  ⟨by simp, fun _ => by decide, ⟨[3/8, 1/2], some [1, 0], some ⟨0, 5/8⟩⟩, ⟨[1/4, 1/2], none, none⟩, [1, 0],
    by decide +kernel, rfl, by decide +kernel⟩

theorem leg4 : c4 = rec4 ∧ s4.med.act.started = true ∧ s4.med.sched.last = rec4.time :=
  (leg_of run3 occs3_eq h4 c4.eq_1 s4.eq_1).1

theorem step4 : SysStep3 env geo mw 9 needs s3 (mkO s3.cs occs3 cand4) c4 s4 := by
  refine step_of s3 occs3 cand4 h4 cs4 c4.eq_1 s4.eq_1 (hoccS s3 leg3.2.1 _) ?_
    ⟨⟨0, 5/8⟩, 4, congrArg Committed.time leg4.1, by rw [leg4.1]; decide, ?_⟩
  · rw [leg4.1, leg3.2.2]
    exact cands_of (by decide +kernel) fun _ => cand_cb 0 ⟨[3/4, 1/2], some [1/2, 0], some ⟨0, 1/2⟩⟩ [1/2, 0] ⟨0, 1/2⟩ (by decide +kernel) rfl rfl
      (by norm_num [Kin.InBox, env, Footprints2.envOf, exL]) (velOK_x 0 (1/2) (by norm_num)) rfl rfl
  · exact ⟨e4, by decide, rfl, ⟨adm4, fun i P v h => by cases h⟩, rfl⟩

def os4 : List (Oracle XTime) :=
  [] ++ [mkO s0.cs [occ0] cand1] ++ [mkO s1.cs occs1 cand2] ++ [mkO s2.cs occs2 cand3] ++ [mkO s3.cs occs3 cand4]
def cs4c : List (Committed XTime) := [] ++ [c1] ++ [c2] ++ [c3] ++ [c4]

theorem reach2 : Reach3 env geo mw 9 needs ([] ++ [mkO s0.cs [occ0] cand1] ++ [mkO s1.cs occs1 cand2]) ([] ++ [c1] ++ [c2]) s2 :=
  .step (.step (.init s0 init0) (by simp) step1) (SysLeg.go_snoc rfl (congrArg Committed.stop leg1.1)) step2
theorem reach4 : Reach3 env geo mw 9 needs os4 cs4c s4 :=
  .step (.step reach2 (SysLeg.go_snoc rfl (congrArg Committed.stop leg2.1)) step3) (SysLeg.go_snoc rfl (congrArg Committed.stop leg3.1)) step4

theorem cs4c_eq : cs4c = [rec1, rec2, rec3, rec4] := by rw [cs4c, leg1.1, leg2.1, leg3.1, leg4.1]; rfl

/-- the committed handlers and times: start of run at 0, sampling at 1/8, cell boundary at 1/2, `harmonic` at 5/8 -/
example : cs4c.map (·.handler) = [9, 6, 3, 4] ∧
    cs4c.map (·.time) = [.fin ⟨0, 0⟩, .fin ⟨0, 1/8⟩, .fin ⟨0, 1/2⟩, .fin ⟨0, 5/8⟩] := by
  rw [cs4c_eq]; decide +kernel

theorem cb_handler {l : Nat} {hb : HandlerId} (h : isCBH mw l hb) : hb = 3 := by
  obtain ⟨B, ho, hcb⟩ := h
  have ho' : owner cfg.wires hb = some B := ho
  have hk : (cfg.tagger B).kind = .cellBoundary := (isCBT_kind hcb).1
  have hB : B < 10 := owner_lt ho'
  have hm := owner_mem ho'
  revert hk hm
  interval_cases B <;> intro hk hm <;> first | (exact absurd hk (by decide)) | skip
  have : (getW cfg.wires 3).pool = [3] := by decide
  rw [this] at hm
  simpa using hm

theorem noTie4 {k : Nat} {cm : Committed XTime} (hk : cs4c[k]? = some cm) :
    cm.handler = 3 ∨ pendPushed (pendOf (fun _ => none) (cs4c.take k)) cm 3 ≠ some cm.time := by
  rw [cs4c_eq] at hk ⊢
  have hk4 : k < 4 := (List.getElem?_eq_some_iff.mp hk).1
  interval_cases k
  all_goals
    simp only [List.getElem?_cons_zero, List.getElem?_cons_succ, Option.some.injEq] at hk
    subst hk
  · exact Or.inr (by decide +kernel)
  · exact Or.inr (by decide +kernel)
  · exact Or.inl rfl
  · exact Or.inr (by decide +kernel)

/-- the no-tie hypothesis holds for this run: the sampling event (1/8) is not committed at the time of the pending cell-boundary
candidate (1/2); the other three commits affect the cell system -/
theorem tieFree4 : TieFree3 mw cs4c := by
  intro k cm hk E l hE hl haff hb hcb
  obtain rfl := cb_handler hcb
  obtain rfl : l = 0 := Nat.lt_one_iff.mp hl
  rcases noTie4 hk with h3 | h
  · rw [h3] at hE
    cases (show owner cfg.wires 3 = some 3 by decide).symm.trans hE
    exact absurd haff (by decide)
  · exact h

example : JInv3 env mw 9 needs cs4c s4 := joint_inv3 hyp reach4 tieFree4

/-- the premise `StaysInRecordedCell` after the sampling commit (leg 2): the centre of dipole 0, time-sliced to 1/8 (x = 9/16), is
still in its recorded cell (2, 2) = 10 -/
example : StaysInRecordedCell env.base.nPer (env.oe 0) (getOcc s2.occs 0) s2.cs :=
  staysInRecordedCell_closed3 hyp reach2 (tieFree3_take (k := 2) tieFree4) (cl := c2) List.getLast?_concat (E := 6)
    (by rw [leg2.1]; decide) (by decide) (by decide)
example : activeOn env 0 s2.cs = [0] ∧ (getOcc s2.occs 0).activeCell = some 10 ∧
    posOn 2 1 s2.cs 0 = [9/16, 1/2] := by decide +kernel

/-- C09 in the middle of the fourth leg, and it speaks about non-empty pending lists: the cell-bounding tagger's event carries
(dipole 0, dipole 1), the cell-boundary tagger's `((0,),)`, `harmonic` the bond of dipole 0 -/
example : ∃ hi : Inv3 env mw ⟨s4.csPrev, .leaf, s4.occs⟩,
    ∀ T, (world3 env mw).live T → Fresh (world3 env mw) ⟨s4.mid, s4.ids, ⟨_, hi⟩⟩ T :=
  let ⟨hi, h, _⟩ := c09_fresh_closed3 hyp reach4 tieFree4 (by decide); ⟨hi, h⟩
example : (getT s4.mid 0).running.map s4.ids = [some [[0], [1]]] ∧ (getT s4.mid 3).running.map s4.ids = [some [[0]]] ∧
    (getT s4.mid 4).running.map s4.ids = [some [[0, 0], [0, 1]]] :=
  of_decide_eq_true (leg_of run3 occs3_eq h4 c4.eq_1 s4.eq_1).2.1

/-- C11's mirror in the middle of leg 4: dipole 0 active in its recorded cell (3, 2) = 11 -/
example : (getOcc s4.occs 0).activeCell = some ((env.oe 0).cellOf (posOn env.base.nPer (env.oe 0).level s4.csPrev 0)) :=
  c11_active_in_recorded_cell_closed3 hyp reach4 tieFree4 (by decide) (l := 0) (by decide) (a := 0) (by decide +kernel) rfl
example : (getOcc s4.occs 0).activeCell = some 11 := by decide +kernel

/-- commit times sorted, and the C17 link on the run: in leg 3 the sampling candidate 3/4 is pending, the committed time 1/2 is
not later -/
example : cs4c.Pairwise (fun a b => xcfg.lt b.time a.time = false) := commit_times_sorted_closed3 hyp reach4 tieFree4
example : xcfg.lt (.fin ⟨0, 3/4⟩) c3.time = false :=
  (no_sample_skipped3 hyp reach4 (k := 2) (cm := c3) rfl (hs := 6) (ts := .fin ⟨0, 3/4⟩) (by decide)
    (by rw [cs4c_eq, leg3.1]; decide +kernel) rfl).1

/-- `c08_stale_trashed_closed3`: the lifting of leg 4 (tagger 4 `harmonic`, motion-changing) finds the cell-bounding event of handler
0 pending — it is in the trash list of that leg -/
example : (0 : HandlerId) ∈ c4.trashed :=
  (c08_stale_trashed_closed3 hyp reach4 tieFree4 (k := 3) (j := 3) (ck := c4) (cj := c4) rfl (E := 4)
    (by rw [leg4.1]; decide) (by decide) (h := 0) (T := 0) (by decide) (by decide) (by rw [cs4c_eq, leg4.1]; decide +kernel)).1

end Example
end JF.SystemInv3Loop
