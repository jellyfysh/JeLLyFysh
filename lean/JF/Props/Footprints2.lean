/-
The hypothesis `FootprintsSound` of C09's freshness theorem and of C08's clause-(h) link, discharged for a concrete world of COMPOSITE
OBJECTS (two-level trees, no cell system): the dipole configurations `dipoles/{atom_factors, dipole_factors_inside_first,
dipole_factors_outside_first, dipole_factors_ratio, dipole_motion}.ini` and `water/single_molecule.ini`.  (Composite objects WITH a
cell-occupancy system — `dipoles/cell_*.ini`, the water files with cells — are the world of `JF/Props/Footprints3.lean`.)

Model: `JF/Model/ConcreteWorld2.lean` (namespace `JF.CW2`): the two-level machine `Composite.step` (C12) + the lifting state's
`yield_independent_lifted_identifiers` + the yields of the tagger classes (`noInState`, `activeGlobalState`, `activeRootUnit`,
`factorTypeMap` over C10's `FactorMaps`) + handler class ↦ event kinds (`kindsOf`).  Lemmas: `JF/Lemmas/ConcreteWorld2*.lean`.

The states carry the invariant `Inv` (C12's `AllGood`, `Uniform`, at rest or `OneChainM` in the ghost mode); it is preserved by every
transition (`tr2_invariant`), so it is derived along runs, not assumed.  `Example` is a run of `dipole_motion.ini` with two dipoles
through both mode switches (non-vacuity).

FINDING about the tables — `Example.start_changes_root_unit_count`: `reads (activeRootUnit, count view) .ident = false` is false
across the START-OF-RUN event, which is therefore not a transition of `Tr2`; `start_untouched2` is the corrected statement for it.
`Example.commit_needs_mode_premise`: without the mode premise (`modeStep`) the same entry is false for interaction commits.

Hypotheses of THIS file: the mode premise inside `Tr2` (discharged for the composed system by `mode_premise_closed2` in
`JF/Props/SystemInv2.lean`; measured per commit by `harness/fpcorr2.py`), weak admissibility `AdmW`, exact arithmetic (α = ℚ, as in
C12), and the modelling assumptions of the world (two levels, no internal state).
-/
import JF.Lemmas.ConcreteWorld2Inv
import JF.Props.C09
import JF.Props.C08
import JF.Props.ModeDiscipline
import JF.Gen.Wirings
import JF.Gen.WiringsSound
import JF.Gen.ModeWirings
namespace JF.Footprints2
open JF JF.Act JF.CW2 JF.Composite JF.C12

/-- `.ident` / `.motion`, effect side: the commit of a tagger whose table entry `affects · .ident` is `false` (sampling, dumping, end of
run, cell boundary) is a `keep` / `snap` and leaves the velocity of every root and every leaf unit as it is -/
theorem motion_quiet2 {env : Env ℚ} {mw : ModeWiring} (hs : Supported2 mw = true) {E : TaggerIdx} {s s' : St}
    (ha : affects (mw.w.tagger E) .ident = false) (h : TrRaw2 env mw E s s') : vels s'.cs = vels s.cs :=
  vels_quiet_tr (fun _ _ => quiet_of_ident_false hs ha) h

theorem ident_quiet2 {env : Env ℚ} {mw : ModeWiring} (hs : Supported2 mw = true) {E : TaggerIdx} {s s' : St}
    (ha : affects (mw.w.tagger E) .ident = false) (h : TrRaw2 env mw E s s') : flags s'.cs = flags s.cs :=
  flags_eq_of_vels (motion_quiet2 hs ha h)

/-- the two columns of `affects` coincide, so `motion_quiet2` also covers `affects · .motion = false` -/
theorem affects_motion_eq_ident (t : TaggerW) : affects t .motion = affects t .ident := rfl

/-- `.motion` / `.time`, dependency side: velocity VALUES, positions and time stamps are not read by any tagger of this world -/
theorem yield_reads_flags2 (env : Env ℚ) (T : TaggerIdx) (cls : TaggerClass) {cs cs' : List (CObj ℚ)} (h : flags cs' = flags cs) :
    yieldCls env T cls cs' = yieldCls env T cls cs := yieldCls_congr env T cls h

/-- `.ident`: who is active is well defined under the invariant: in leaf mode the moving point mass … -/
theorem active_leaf2 {env : Env ℚ} {s : St} (hi : Inv env s) {i j : Nat} {v : List ℚ}
    (hM : MovingAt s.cs i (fun c => OneL j v c.leaves)) :
    independent env.nPer (flags s.cs) = [if env.nPer = 1 then [i] else [i, j]] := independent_leaf hi.1 hi.2.1 hM

/-- … in root mode the composite object -/
theorem active_root2 {env : Env ℚ} {s : St} (hi : Inv env s) {i : Nat} {v : List ℚ}
    (hM : MovingAt s.cs i (fun c => AllL v c.leaves)) : independent env.nPer (flags s.cs) = [[i]] := independent_root hi.1 hi.2.1 hM

/-- so nothing is lost by restricting the world to `G env` -/
theorem tr2_invariant {env : Env ℚ} (hL : BoxOK env.d env.L) {mw : ModeWiring} {E : TaggerIdx} {s s' : St} (hi : Inv env s)
    (h : TrRaw2 env mw E s s') : Inv env s' := trRaw2_inv hL hi h

/-- **the footprint tables are sound for the world of composite objects without cells**: for every wiring of this world
(`Supported2`), if the effect footprint `affects (tagger E)` and the dependency footprint `reads (tagger T)` are disjoint, a commit by a
handler of `E` (`Tr2`: the `Composite.step` of a weakly admissible event of a kind of `E`'s handler class, possible in the ghost mode)
does not change what `T` yields, as far as C09's comparison for `T` sees it.  The states are those satisfying `Inv` (established by
the start-of-run event from rest: `inv_start`). -/
theorem footprintsSound_concrete2 (env : Env ℚ) (hL : BoxOK env.d env.L) (mw : ModeWiring) (hs : Supported2 mw = true) :
    FootprintsSound mw.w (world2 env mw) (Tr2 env mw) :=
  ⟨fun _ T g g' htr hd => yield_untouched (cs := g.1.cs) (cs' := g'.1.cs) env T (mw.w.tagger T)
    (fun hr => ident_quiet2 hs (JF.CW.ident_false_of_disjoint hd hr) htr) (fun _ _ => count_step hL g.2 htr)⟩

/-- the corrected statement for the START-OF-RUN event (which is not a transition of `Tr2`, see `Example.start_changes_root_unit_count`):
it leaves the compared yield of every tagger with disjoint footprints unchanged EXCEPT a mode-switch tagger
(`ActiveRootUnitInStateTagger` compared by its number of pending events) -/
theorem start_untouched2 (env : Env ℚ) (mw : ModeWiring) (hs : Supported2 mw = true) {E T : TaggerIdx} {s s' : St}
    (h : TrStart2 env mw E s s') (hd : disjointFP mw.w (mw.w.tagger E) (mw.w.tagger T) = true)
    (hT : (mw.w.tagger T).cls = .activeRootUnit → idsView (mw.w.tagger T) = true) :
    ((yieldCls env T (mw.w.tagger T).cls s'.cs).map (viewOf (mw.w.tagger T))).Perm
      ((yieldCls env T (mw.w.tagger T).cls s.cs).map (viewOf (mw.w.tagger T))) := by
  obtain ⟨i, P, v, cm, hk, _⟩ := h
  have hr : reads (mw.w.tagger T) .ident = false := by
    refine JF.CW.disjoint_ident hd ?_
    cases h : affects (mw.w.tagger E) .ident
    · exact absurd (quiet_of_ident_false hs h hk) (by simp [quietKind])
    · rfl
  refine yield_untouched env T (mw.w.tagger T) (fun h => absurd h (by rw [hr]; exact Bool.false_ne_true)) fun hc hv => ?_
  rw [hT hc] at hv; cases hv

/-! ## C09, the C08 link and the mode discipline at this world, without the `FootprintsSound` hypothesis -/

/-- **C09 for every run of a sound, supported configuration in the world of composite objects**: after every commit, for every tagger
except the start-of-run tagger, the pending events are what the tagger generates from scratch for the current global state
(identifier tuples for interaction-type taggers, their number for the others) -/
theorem fresh_concrete2 (env : Env ℚ) (hL : BoxOK env.d env.L) (mw : ModeWiring) (S : TaggerIdx) (sound : WiringSound mw.w = true)
    (hS : mw.w.start? = some S) (hs : Supported2 mw = true) {rs : RS (G env)}
    (h : Run mw.w (world2 env mw) (Tr2 env mw) S rs) : ∀ T, (world2 env mw).live T → Fresh (world2 env mw) rs T :=
  JF.C09.fresh_of_wiringSound mw.w (world2 env mw) (Tr2 env mw) S sound hS (footprintsSound_concrete2 env hL mw hs) (liveIs2 env mw) h

/-- **clause (h) of C08 at every step of every run in this world**: when a motion-changing event is about to be committed, every
interaction tagger is in its trash list or has nothing pending -/
theorem clause_h_concrete2 (env : Env ℚ) (hL : BoxOK env.d env.L) (mw : ModeWiring) (S : TaggerIdx) (sound : WiringSound mw.w = true)
    (hS : mw.w.start? = some S) (hs : Supported2 mw = true) {rs : RS (G env)}
    (hrun : Run mw.w (world2 env mw) (Tr2 env mw) S rs) {E : TaggerIdx} (hE : (getT rs.act E).running ≠ [])
    (hend : (mw.w.tagger E).kind ≠ .endOfRun) (hm : affects (mw.w.tagger E) .motion = true) {T : TaggerIdx} (hT : T < mw.w.n)
    (hb : motionBound (mw.w.tagger T) = true) : T ∈ (getW mw.w.wires E).trashes ∨ (getT rs.act T).running = [] :=
  JF.C08.clause_h_of_wiringSound mw.w (world2 env mw) (Tr2 env mw) S sound hS (footprintsSound_concrete2 env hL mw hs)
    (liveIs2 env mw) hrun hE hend hm hT hb

/-- **the mode discipline at this world**: along every run (with its history of committed kinds, `RunK`) of a mode-sound, sound,
supported wiring the kinds follow the leaf/root protocol and the mode is the one read off the activation flags — without the
`FootprintsSound` hypothesis `modeStep_of_modeSound` carries -/
theorem mode_concrete2 (env : Env ℚ) (hL : BoxOK env.d env.L) (mw : ModeWiring) (S : TaggerIdx) (hms : ModeSound mw = true)
    (sound : WiringSound mw.w = true) (hS : mw.w.start? = some S) (hs : Supported2 mw = true)
    {h : List (TaggerIdx × EvKind)} {cm : TaggerIdx → WMode} {rs : RS (G env)}
    (r : RunK mw (world2 env mw) (Tr2 env mw) S h cm rs) : ModeInv mw h cm rs :=
  modeStep_of_modeSound mw (world2 env mw) (Tr2 env mw) S hms sound hS (footprintsSound_concrete2 env hL mw hs) (liveIs2 env mw) r

/-! ## the shipped configurations of composite objects without cells live in this world -/

open JF.Act.Gen

theorem supported2_atom_factors : Supported2 mcfg_dipoles_atom_factors = true := by decide +kernel
theorem supported2_dipole_factors_inside_first : Supported2 mcfg_dipoles_dipole_factors_inside_first = true := by decide +kernel
theorem supported2_dipole_factors_outside_first : Supported2 mcfg_dipoles_dipole_factors_outside_first = true := by decide +kernel
theorem supported2_dipole_factors_ratio : Supported2 mcfg_dipoles_dipole_factors_ratio = true := by decide +kernel
theorem supported2_dipole_motion : Supported2 mcfg_dipoles_dipole_motion = true := by decide +kernel
theorem supported2_water_single_molecule : Supported2 mcfg_water_single_molecule = true := by decide +kernel

/-- the side condition is not trivially true: composite objects WITH a cell system, and point masses with cells, are outside this world -/
example : Supported2 mcfg_dipoles_cell_bounded = false ∧ Supported2 mcfg_dipoles_cell_veto = false ∧
    Supported2 mcfg_water_coulomb_cell_veto_lj_inverted = false ∧ Supported2 mcfg_coulomb_atoms_cell_bounded = false := by decide +kernel

/-- every shipped wiring that passes the side condition: eleven.  Besides the six above: three more configurations of composite objects
without cells (`water/coulomb_power_bounded_lj_inverted.ini`, `hard_disk_dipoles/{hard_disk_dipoles, single_hard_disk_dipole}.ini`, judged
by `harness/fpcorr2.py` like the others) — and the two cell-free coulomb_atoms wirings: `Supported2` is a condition on the WIRING only;
those are one-level systems (point masses), this world is not a model of them (they live in the world of `JF/Props/Footprints.lean`;
`harness/fpcorr2.py` judges only traces with `setting.number_of_node_levels == 2`). -/
theorem shipped_in_world : (allModeCfgs.filter Supported2).map (·.w.name) =
    ["coulomb_atoms_power_bounded", "coulomb_atoms_power_bounded_dump", "dipoles_atom_factors",
     "dipoles_dipole_factors_inside_first", "dipoles_dipole_factors_outside_first", "dipoles_dipole_factors_ratio",
     "dipoles_dipole_motion", "water_coulomb_power_bounded_lj_inverted", "water_single_molecule",
     "hard_disk_dipoles_hard_disk_dipoles", "hard_disk_dipoles_single_hard_disk_dipole"] := by decide +kernel

/-- the transition relation speaks about the kinds of the same event type as the mode discipline (`C12.kindOf`) -/
theorem evKind_eq_kindOf (e : Composite.Ev ℚ) : evKind e = kindOf e := by cases e <;> rfl

/-- `FactorTypeMaps` of a shipped factor file (table `FactorMaps.shipped`, compared with the files of the tree on every run of C10) -/
def factorsOf (file : String) : FactorMaps.Factors :=
  match FactorMaps.shipped.lookup file with
  | some (nPer, lines) =>
    match FactorMaps.instantiate ⟨0, nPer⟩ lines [] with
    | .ok fs => fs
    | .error _ => []
  | none => []

/-- the environment of a shipped configuration: system lengths, dimension, its factor file and, per tagger,
`to_camel_case(factor_type_maps_label or tag)` -/
def envOf (L : List ℚ) (nPer : Nat) (file : String) (ftypes : List String) : Env ℚ :=
  { L := L, d := L.length, nPer := nPer, fs := factorsOf file, ftype := fun T => (ftypes[T]?).getD "" }

/-- `dipoles/dipole_motion.ini`: `[FactorTypeMaps] filename = …/factor_set_dipoles_dipole.txt`, labels `harmonic`, `coulomb`, `repulsive` -/
def envDipoleMotion (L : List ℚ) : Env ℚ :=
  envOf L 2 "factor_set_dipoles_dipole.txt"
    ["Harmonic", "Coulomb", "Repulsive", "Coulomb", "Repulsive", "Sampling", "LeafToRoot", "RootToLeaf", "EndOfChain", "EndOfRun", "StartOfRun"]
/-- `dipoles/dipole_factors_{inside_first, outside_first, ratio}.ini` -/
def envDipoleFactors (L : List ℚ) : Env ℚ :=
  envOf L 2 "factor_set_dipoles_dipole.txt" ["Coulomb", "Harmonic", "Repulsive", "Sampling", "EndOfChain", "EndOfRun", "StartOfRun"]
/-- `dipoles/atom_factors.ini` -/
def envAtomFactors (L : List ℚ) : Env ℚ :=
  envOf L 2 "factor_set_dipoles_atomic.txt" ["Coulomb", "Harmonic", "Repulsive", "Sampling", "EndOfChain", "EndOfRun", "StartOfRun"]
/-- `water/single_molecule.ini` -/
def envWaterSingle (L : List ℚ) : Env ℚ :=
  envOf L 3 "factor_set_water.txt" ["Harmonic", "Bending", "Sampling", "EndOfChain", "EndOfRun", "StartOfRun"]

/-- the factor files named above are in the table and are accepted by `_instantiate_factor_type_maps` -/
example : (factorsOf "factor_set_dipoles_dipole.txt").map (·.1) = ["Harmonic", "Repulsive", "Coulomb"] ∧
    (factorsOf "factor_set_dipoles_atomic.txt").map (·.1) = ["Harmonic", "Repulsive", "Coulomb"] ∧
    (factorsOf "factor_set_water.txt").map (·.1) = ["Harmonic", "LennardJones", "Bending", "Coulomb"] := by decide +kernel

section
variable {L : List ℚ} {d : Nat}

/-- C09 for `dipoles/dipole_motion.ini` (the configuration that switches between leaf and root mode): any number of dipoles, any box -/
theorem fresh_dipole_motion (hL : BoxOK L.length L) {rs : RS (G (envDipoleMotion L))}
    (h : Run cfg_dipoles_dipole_motion (world2 (envDipoleMotion L) mcfg_dipoles_dipole_motion) (Tr2 _ mcfg_dipoles_dipole_motion) 10 rs) :
    ∀ T, (world2 (envDipoleMotion L) mcfg_dipoles_dipole_motion).live T → Fresh (world2 _ mcfg_dipoles_dipole_motion) rs T :=
  fresh_concrete2 _ hL mcfg_dipoles_dipole_motion 10 cfg_sound_dipoles_dipole_motion (by decide) supported2_dipole_motion h

theorem fresh_atom_factors (hL : BoxOK L.length L) {rs : RS (G (envAtomFactors L))}
    (h : Run cfg_dipoles_atom_factors (world2 (envAtomFactors L) mcfg_dipoles_atom_factors) (Tr2 _ mcfg_dipoles_atom_factors) 6 rs) :
    ∀ T, (world2 (envAtomFactors L) mcfg_dipoles_atom_factors).live T → Fresh (world2 _ mcfg_dipoles_atom_factors) rs T :=
  fresh_concrete2 _ hL mcfg_dipoles_atom_factors 6 cfg_sound_dipoles_atom_factors (by decide) supported2_atom_factors h

theorem fresh_dipole_factors_inside_first (hL : BoxOK L.length L) {rs : RS (G (envDipoleFactors L))}
    (h : Run cfg_dipoles_dipole_factors_inside_first (world2 (envDipoleFactors L) mcfg_dipoles_dipole_factors_inside_first)
      (Tr2 _ mcfg_dipoles_dipole_factors_inside_first) 6 rs) :
    ∀ T, (world2 (envDipoleFactors L) mcfg_dipoles_dipole_factors_inside_first).live T →
      Fresh (world2 _ mcfg_dipoles_dipole_factors_inside_first) rs T :=
  fresh_concrete2 _ hL mcfg_dipoles_dipole_factors_inside_first 6 cfg_sound_dipoles_dipole_factors_inside_first (by decide)
    supported2_dipole_factors_inside_first h

theorem fresh_dipole_factors_outside_first (hL : BoxOK L.length L) {rs : RS (G (envDipoleFactors L))}
    (h : Run cfg_dipoles_dipole_factors_outside_first (world2 (envDipoleFactors L) mcfg_dipoles_dipole_factors_outside_first)
      (Tr2 _ mcfg_dipoles_dipole_factors_outside_first) 6 rs) :
    ∀ T, (world2 (envDipoleFactors L) mcfg_dipoles_dipole_factors_outside_first).live T →
      Fresh (world2 _ mcfg_dipoles_dipole_factors_outside_first) rs T :=
  fresh_concrete2 _ hL mcfg_dipoles_dipole_factors_outside_first 6 cfg_sound_dipoles_dipole_factors_outside_first (by decide)
    supported2_dipole_factors_outside_first h

theorem fresh_dipole_factors_ratio (hL : BoxOK L.length L) {rs : RS (G (envDipoleFactors L))}
    (h : Run cfg_dipoles_dipole_factors_ratio (world2 (envDipoleFactors L) mcfg_dipoles_dipole_factors_ratio)
      (Tr2 _ mcfg_dipoles_dipole_factors_ratio) 6 rs) :
    ∀ T, (world2 (envDipoleFactors L) mcfg_dipoles_dipole_factors_ratio).live T →
      Fresh (world2 _ mcfg_dipoles_dipole_factors_ratio) rs T :=
  fresh_concrete2 _ hL mcfg_dipoles_dipole_factors_ratio 6 cfg_sound_dipoles_dipole_factors_ratio (by decide)
    supported2_dipole_factors_ratio h

theorem fresh_water_single_molecule (hL : BoxOK L.length L) {rs : RS (G (envWaterSingle L))}
    (h : Run cfg_water_single_molecule (world2 (envWaterSingle L) mcfg_water_single_molecule) (Tr2 _ mcfg_water_single_molecule) 5 rs) :
    ∀ T, (world2 (envWaterSingle L) mcfg_water_single_molecule).live T → Fresh (world2 _ mcfg_water_single_molecule) rs T :=
  fresh_concrete2 _ hL mcfg_water_single_molecule 5 cfg_sound_water_single_molecule (by decide) supported2_water_single_molecule h

end

/-! ## non-vacuity: a run of `dipoles/dipole_motion.ini` with two dipoles (exact reading)

Two dipoles in the unit square (`exC0`, `exC1` of `JF/Props/C12.lean`: the output of `DipoleRandomNodeCreator`, the second one across
the periodic boundary), the factor file `factor_set_dipoles_dipole.txt`.  The run — the events of `JF.C12.ModeExample.es`, their
weak admissibility is `es_admWFree` —: start of run (point mass (0, 0) starts, speed 1) — `leaf_to_root` commits the SWITCH to root
mode (dipole 0 moves as a whole) — `coulomb_root` commits a LIFTING BETWEEN THE MOLECULES (dipole 0 → dipole 1) — `end_of_chain`
(root mode) stops dipole 1 and starts dipole 0 in a new direction — `root_to_leaf` commits the switch back (point mass (0, 1) keeps
moving) — `harmonic_leaf` commits a lifting within the molecule ((0, 1) → (0, 0)) — `end_of_chain` (leaf mode) stops it and starts
point mass (1, 0). -/

namespace Example
open JF.C12.ModeExample

abbrev mw : ModeWiring := mcfg_dipoles_dipole_motion
abbrev cfg : Wiring := cfg_dipoles_dipole_motion

def env : Env ℚ := envDipoleMotion exL

theorem box : BoxOK env.d env.L := exBox

theorem ex_uniform : Uniform env.nPer [exC0, exC1] := uniform_exC

def g0 : G env := ⟨⟨[exC0, exC1], .leaf⟩, inv_rest ex_initial ex_uniform ex_rest .leaf⟩
/-- after the start-of-run event (`initial_active_identifier = 0, 0`): leaf mode -/
def g1 : G env := ⟨⟨step Ops.rat isZ env.L [exC0, exC1] (.start 0 [0] [1, 0]), .leaf⟩,
  inv_start box ex_initial ex_uniform ex_rest start_admW (rfl : [0].length = 1)⟩

def next (g : G env) (e : Composite.Ev ℚ) (m' : Composite.Mode) (hm : modeStep g.1.mode e = some m')
    (ha : AdmW env.d env.L g.1.cs e) : G env := ⟨⟨step Ops.rat isZ env.L g.1.cs e, m'⟩, inv_step box g.2 hm ha⟩

theorem tr_next (E : TaggerIdx) {rs : RS (G env)} {g : G env} (hg : rs.g = g) (e : Composite.Ev ℚ) (m' : Composite.Mode)
    (hm : modeStep g.1.mode e = some m') (ha : AdmW env.d env.L g.1.cs e) (cm : WMode)
    (hk : evKind e ∈ kindsOf (mw.hmode E) cm) : Tr2 env mw E rs.g (next g e m' hm ha) := by
  subst hg; exact ⟨e, cm, hk, hm, ha, rfl⟩

def g2 : G env := next g1 (.toRoot ⟨0, 1/4⟩ 0) .root rfl es_admWFree.1
def g3 : G env := next g2 (.pass ⟨0, 1/2⟩ [0, 1] 0 1) .root rfl es_admWFree.2.1
def g4 : G env := next g3 (.eocRoot ⟨0, 3/4⟩ 1 0 [0, 1]) .root rfl es_admWFree.2.2.1
def g5 : G env := next g4 (.toLeaf ⟨1, 0⟩ 0 1) .leaf rfl es_admWFree.2.2.2.1
def g6 : G env := next g5 (.exchange ⟨1, 1/4⟩ [0] 0 1 0 0) .leaf rfl es_admWFree.2.2.2.2.1
def g7 : G env := next g6 (.eocLeaf ⟨1, 1/2⟩ 0 0 1 0 [1, 0]) .leaf rfl es_admWFree.2.2.2.2.2.1

/-- who is active along the run (`yield_independent_lifted_identifiers`): the point mass (0, 0) — dipole 0 — dipole 1 — dipole 0 —
the point mass (0, 1) — (0, 0) — (1, 0) -/
example : [g1, g2, g3, g4, g5, g6, g7].map (fun g => independent env.nPer (flags g.1.cs))
    = [[[0, 0]], [[0]], [[1]], [[0]], [[0, 1]], [[0, 0]], [[1, 0]]] := by decide +kernel

abbrev W : World (G env) := world2 env mw

/-! ### the Python mirror of the yields (`harness/fpcorr2.py`) is tied to the Lean definitions by a kernel-checked table

`harness/fpcorr2.py: SELF_TEST` holds the six distinct rows of this table (and the rows of `py_yield_table_water`); the module evaluates
its mirror (`independent`, `branches`, `yield_of`, `instantiate`, `yield_factor`) on these flags and compares with the yields listed here,
which are the values of `yieldCls` / `yieldF` by `decide` (`fp2.self-test`). -/

def pyYieldTable : List (Flags × List (List IdTuple)) := [
  ([(false, [false, false]), (false, [false, false])], [[], [], [], [], [], [none], [], [], [some []], [none], [none]]),
  ([(true, [true, false]), (false, [false, false])],
    [[some [[0, 0], [0, 1]]], [some [[0, 0], [0, 1], [1, 0], [1, 1]]], [some [[0, 0], [1, 1]]],
      [some [[0, 0], [0, 1], [1, 0], [1, 1]]], [some [[0, 0], [1, 1]]], [none], [some [[0]]], [some [[0]]],
      [some [[0, 0]]], [none], [none]]),
  ([(true, [true, true]), (false, [false, false])],
    [[some [[0, 0], [0, 1]]], [some [[0, 0], [0, 1], [1, 0], [1, 1]]], [some [[0, 0], [1, 1]], some [[0, 1], [1, 0]]],
      [some [[0, 0], [0, 1], [1, 0], [1, 1]]], [some [[0, 0], [1, 1]], some [[0, 1], [1, 0]]], [none], [some [[0]]],
      [some [[0]]], [some [[0]]], [none], [none]]),
  ([(false, [false, false]), (true, [true, true])],
    [[some [[1, 0], [1, 1]]], [some [[1, 0], [1, 1], [0, 0], [0, 1]]], [some [[1, 0], [0, 1]], some [[1, 1], [0, 0]]],
      [some [[1, 0], [1, 1], [0, 0], [0, 1]]], [some [[1, 0], [0, 1]], some [[1, 1], [0, 0]]], [none], [some [[1]]],
      [some [[1]]], [some [[1]]], [none], [none]]),
  ([(true, [true, true]), (false, [false, false])],
    [[some [[0, 0], [0, 1]]], [some [[0, 0], [0, 1], [1, 0], [1, 1]]], [some [[0, 0], [1, 1]], some [[0, 1], [1, 0]]],
      [some [[0, 0], [0, 1], [1, 0], [1, 1]]], [some [[0, 0], [1, 1]], some [[0, 1], [1, 0]]], [none], [some [[0]]],
      [some [[0]]], [some [[0]]], [none], [none]]),
  ([(true, [false, true]), (false, [false, false])],
    [[some [[0, 0], [0, 1]]], [some [[0, 0], [0, 1], [1, 0], [1, 1]]], [some [[0, 1], [1, 0]]],
      [some [[0, 0], [0, 1], [1, 0], [1, 1]]], [some [[0, 1], [1, 0]]], [none], [some [[0]]], [some [[0]]],
      [some [[0, 1]]], [none], [none]]),
  ([(true, [true, false]), (false, [false, false])],
    [[some [[0, 0], [0, 1]]], [some [[0, 0], [0, 1], [1, 0], [1, 1]]], [some [[0, 0], [1, 1]]],
      [some [[0, 0], [0, 1], [1, 0], [1, 1]]], [some [[0, 0], [1, 1]]], [none], [some [[0]]], [some [[0]]],
      [some [[0, 0]]], [none], [none]]),
  ([(false, [false, false]), (true, [true, false])],
    [[some [[1, 0], [1, 1]]], [some [[1, 0], [1, 1], [0, 0], [0, 1]]], [some [[1, 0], [0, 1]]],
      [some [[1, 0], [1, 1], [0, 0], [0, 1]]], [some [[1, 0], [0, 1]]], [none], [some [[1]]], [some [[1]]],
      [some [[1, 0]]], [none], [none]])]

theorem py_yield_table_agrees :
    [g0, g1, g2, g3, g4, g5, g6, g7].map (fun g => flags g.1.cs) = pyYieldTable.map (·.1) ∧
    [g0, g1, g2, g3, g4, g5, g6, g7].map (fun g => (List.range 11).map fun T => yieldCls env T (cfg.tagger T).cls g.1.cs)
      = pyYieldTable.map (·.2) := by decide +kernel

theorem yield_at {k T : Nat} {g : G env} {ys : List IdTuple} (hg : [g0, g1, g2, g3, g4, g5, g6, g7][k]? = some g)
    (hys : (pyYieldTable[k]?).bind (·.2[T]?) = some ys) : yieldCls env T (cfg.tagger T).cls g.1.cs = ys := by
  have h := congrArg (fun l => (l[k]?).bind (·[T]?)) py_yield_table_agrees.2
  simp only [List.getElem?_map, hg, Option.map_some, Option.bind_some, Option.bind_map, Function.comp_def, hys] at h
  by_cases hT : T < 11
  · simpa [hT] using h
  · simp [hT] at h

def s0 : Act := ((first cfg.wires (initAct cfg.wires) 10 (fun T => W.yieldOf T g0)).get (by decide +kernel)).1
def out0 : List (HandlerId × IdTuple) :=
  ((first cfg.wires (initAct cfg.wires) 10 (fun T => W.yieldOf T g0)).get (by decide +kernel)).2
def rs1 : RS (G env) := (commit cfg.wires W ⟨s0, assign (fun _ => none) out0, g0⟩ 10 g1).get (by decide +kernel)
def rs2 : RS (G env) := (commit cfg.wires W rs1 6 g2).get (by decide +kernel)      -- leaf_to_root: switch
def rs3 : RS (G env) := (commit cfg.wires W rs2 3 g3).get (by decide +kernel)      -- coulomb_root: lifting dipole 0 → dipole 1
def rs4 : RS (G env) := (commit cfg.wires W rs3 8 g4).get (by decide +kernel)      -- end_of_chain (root mode)
def rs5 : RS (G env) := (commit cfg.wires W rs4 7 g5).get (by decide +kernel)      -- root_to_leaf: switch back
def rs6 : RS (G env) := (commit cfg.wires W rs5 0 g6).get (by decide +kernel)      -- harmonic_leaf: lifting (0, 1) → (0, 0)
def rs7 : RS (G env) := (commit cfg.wires W rs6 8 g7).get (by decide +kernel)      -- end_of_chain (leaf mode)

theorem commit1 : commit cfg.wires W ⟨s0, assign (fun _ => none) out0, g0⟩ 10 g1 = some rs1 := by simp [rs1]
theorem commit2 : commit cfg.wires W rs1 6 g2 = some rs2 := by simp [rs2]
theorem commit3 : commit cfg.wires W rs2 3 g3 = some rs3 := by simp [rs3]
theorem commit4 : commit cfg.wires W rs3 8 g4 = some rs4 := by simp [rs4]
theorem commit5 : commit cfg.wires W rs4 7 g5 = some rs5 := by simp [rs5]
theorem commit6 : commit cfg.wires W rs5 0 g6 = some rs6 := by simp [rs6]
theorem commit7 : commit cfg.wires W rs6 8 g7 = some rs7 := by simp [rs7]

theorem first0 : first cfg.wires (initAct cfg.wires) 10 (fun T => W.yieldOf T g0) = some (s0, out0) := by simp [s0, out0]

/-- The committing tagger of each step has a pending handler.  Not by evaluating the activator state: the history gives the
activation flags (`RunK.absOf_eq`), and C09 for the run so far says that an activated tagger has as many pending handlers as it
yields in-states on the current global state. -/
theorem pending_of_runK {h : List (TaggerIdx × EvKind)} {cm : TaggerIdx → WMode} {rs : RS (G env)}
    (r : RunK mw W (Tr2 env mw) 10 h cm rs) {E : TaggerIdx} (hE : E < cfg.n) (hk : (cfg.tagger E).kind ≠ .startOfRun)
    (ha : aGet ((h.map (·.1)).foldl (aStep mw.w) (startState mw.w 10)) E = true) {g : G env} (hg : rs.g = g)
    {k : Nat} (hgk : [g0, g1, g2, g3, g4, g5, g6, g7][k]? = some g) {y : IdTuple} {ys : List IdTuple}
    (hys : (pyYieldTable[k]?).bind (·.2[E]?) = some (y :: ys)) : (getT rs.act E).running ≠ [] :=
  RunK.pending (mw := mw) (S := 10) cfg_sound_dipoles_dipole_motion (by decide)
    (footprintsSound_concrete2 env box mw supported2_dipole_motion) (liveIs2 env mw) r hE hk ha hg
    (fun e => List.cons_ne_nil y ys ((yield_at hgk hys).symm.trans e))

/-- the end-of-chain tagger (8), whenever it has a pending handler, had its candidate requested in the present mode -/
theorem eoc_mode {h : List (TaggerIdx × EvKind)} {cm : TaggerIdx → WMode} {rs : RS (G env)}
    (r : RunK mw W (Tr2 env mw) 10 h cm rs) (hp : (getT rs.act 8).running ≠ []) :
    cm 8 = mw.mode ((h.map (·.1)).foldl (aStep mw.w) (startState mw.w 10)) := by
  rw [← r.absOf_eq]
  exact (mode_concrete2 env box mw 10 modeSound_dipoles_dipole_motion cfg_sound_dipoles_dipole_motion (by decide)
    supported2_dipole_motion r).poly 8 rfl hp

theorem runK1 : RunK mw W (Tr2 env mw) 10 [] (fun _ => mw.mode (absOf rs1.act)) rs1 :=
  .start (fun _ => none) g0 g1 s0 out0 rs1 first0 commit1

theorem pending1 : (getT rs1.act 6).running ≠ [] :=
  pending_of_runK runK1 (by decide) (by decide) (by decide) (JF.CW.commit_g commit1) (k := 1) rfl rfl

theorem runK2 : ∃ cm, RunK mw W (Tr2 env mw) 10 [(6, .toRoot)] cm rs2 :=
  ⟨_, RunK.step _ _ rs1 rs2 6 g2 .toRoot runK1 pending1 (by decide)
    (tr_next 6 (JF.CW.commit_g commit1) _ _ rfl es_admWFree.1 .leaf (by decide)) commit2
    (mem_kindsOf_of_not_poly (by decide) (m := .leaf) (by decide))⟩

theorem run2 : Run cfg W (Tr2 env mw) 10 rs2 := runK2.elim fun _ r => r.toRun

theorem pending2 : (getT rs2.act 3).running ≠ [] :=
  runK2.elim fun _ r =>
    pending_of_runK r (by decide) (by decide) (by decide) (JF.CW.commit_g commit2) (k := 2) rfl rfl

/-- the run with its history of kinds (`RunK` of `JF/Props/ModeDiscipline.lean`).  Only the kinds of the end of chain depend on the mode
at the request of the candidate time (`mem_kindsOf_of_not_poly` for the other handler classes, `eoc_mode` for it). -/
theorem exRunK : ∃ cm, RunK mw W (Tr2 env mw) 10 JF.Act.ModeExample.hist cm rs7 := by
  obtain ⟨_, r2⟩ := runK2
  have r3 := RunK.step _ _ rs2 rs3 3 g3 .pass r2 pending2 (by decide)
    (tr_next 3 (JF.CW.commit_g commit2) _ _ rfl es_admWFree.2.1 .root (by decide)) commit3
    (mem_kindsOf_of_not_poly (by decide) (m := .leaf) (by decide))
  have p3 := pending_of_runK r3 (E := 8) (by decide) (by decide) (by decide)
    (JF.CW.commit_g commit3) (k := 3) rfl rfl
  have r4 := RunK.step _ _ rs3 rs4 8 g4 .eocRoot r3 p3 (by decide)
    (tr_next 8 (JF.CW.commit_g commit3) _ _ rfl es_admWFree.2.2.1 .root (by decide)) commit4
    (by rw [eoc_mode r3 p3]; decide)
  have r5 := RunK.step _ _ rs4 rs5 7 g5 .toLeaf r4
    (pending_of_runK r4 (by decide) (by decide) (by decide) (JF.CW.commit_g commit4) (k := 4) rfl rfl)
    (by decide) (tr_next 7 (JF.CW.commit_g commit4) _ _ rfl es_admWFree.2.2.2.1 .root (by decide)) commit5
    (mem_kindsOf_of_not_poly (by decide) (m := .leaf) (by decide))
  have r6 := RunK.step _ _ rs5 rs6 0 g6 .exchange r5
    (pending_of_runK r5 (by decide) (by decide) (by decide) (JF.CW.commit_g commit5) (k := 5) rfl rfl)
    (by decide) (tr_next 0 (JF.CW.commit_g commit5) _ _ rfl es_admWFree.2.2.2.2.1 .leaf (by decide)) commit6
    (mem_kindsOf_of_not_poly (by decide) (m := .leaf) (by decide))
  have p6 := pending_of_runK r6 (E := 8) (by decide) (by decide) (by decide)
    (JF.CW.commit_g commit6) (k := 6) rfl rfl
  have r7 := RunK.step _ _ rs6 rs7 8 g7 .eocLeaf r6 p6 (by decide)
    (tr_next 8 (JF.CW.commit_g commit6) _ _ rfl es_admWFree.2.2.2.2.2.1 .leaf (by decide)) commit7
    (by rw [eoc_mode r6 p6]; decide)
  exact ⟨_, r7⟩

theorem run7 : Run cfg W (Tr2 env mw) 10 rs7 := exRunK.elim fun _ r => r.toRun

example : ∀ T, W.live T → Fresh W rs7 T := fresh_dipole_motion exBox run7

/-- `Fresh` speaks about non-empty pending lists here.  After the lifting between the molecules (`rs3`, root mode, dipole 1 active): the
root-mode Coulomb tagger's one pending event carries the factor of both dipoles, the root-mode repulsive tagger's two the pairs
((1,0),(0,1)) and ((1,1),(0,0)), the leaf-mode taggers are idle; at the end (`rs7`, leaf mode, point mass (1, 0) active) the
leaf-mode taggers carry the factors of (1, 0) and the root-mode taggers are idle -/
example : (getT rs3.act 3).running.map rs3.ids = [some [[1, 0], [1, 1], [0, 0], [0, 1]]] ∧
    (getT rs3.act 4).running.map rs3.ids = [some [[1, 0], [0, 1]], some [[1, 1], [0, 0]]] ∧
    (getT rs3.act 0).running = [] ∧ (getT rs3.act 7).running.length = 1 ∧
    (getT rs7.act 0).running.map rs7.ids = [some [[1, 0], [1, 1]]] ∧
    (getT rs7.act 1).running.map rs7.ids = [some [[1, 0], [1, 1], [0, 0], [0, 1]]] ∧
    (getT rs7.act 2).running.map rs7.ids = [some [[1, 0], [0, 1]]] ∧ (getT rs7.act 3).running = [] ∧
    (getT rs7.act 6).running.length = 1 := by decide +kernel

/-- clause (h) before the lifting between the molecules is committed (`rs2`; the committing tagger `coulomb_root` changes motion) -/
example : 4 ∈ (getW cfg.wires 3).trashes ∨ (getT rs2.act 4).running = [] :=
  clause_h_concrete2 env box mw 10 cfg_sound_dipoles_dipole_motion (by decide) supported2_dipole_motion
    run2 pending2 (by decide) (by decide) (by decide) (by decide)

/-- the ghost mode carried by the states of the run is the mode read off the activation flags of the activator state -/
example : [rs1, rs2, rs3, rs4, rs5, rs6, rs7].map (fun rs => (toW rs.g.1.mode, mw.mode (absOf rs.act)))
    = [(.leaf, .leaf), (.root, .root), (.root, .root), (.root, .root), (.leaf, .leaf), (.leaf, .leaf), (.leaf, .leaf)] := by
  decide +kernel

example : kRun mw.startMode (kindsOfHist JF.Act.ModeExample.hist) = some (mw.mode (absOf rs7.act)) := by
  obtain ⟨cm, r⟩ := exRunK
  exact (mode_concrete2 env box mw 10 modeSound_dipoles_dipole_motion cfg_sound_dipoles_dipole_motion (by decide)
    supported2_dipole_motion r).chain

/-! ### FINDING: the start-of-run event changes the count of a mode-switch tagger

`reads (ActiveRootUnitInStateTagger with a count view) .ident = false` — "always exactly one tuple per independent active chain" — and
`affects startOfRun .ident = true` make the start-of-run tagger and a switcher tagger DISJOINT, i.e. the table claims that the
start-of-run commit does not change the number of in-states the switcher tagger yields.  It does: before the start there is no active
branch (the tagger yields nothing), afterwards there is one.  Consequence for the theorem: the start-of-run event cannot be a
transition of the relation `FootprintsSound` quantifies over; `Tr2` does not contain it (no ghost mode allows a `start`), which loses
no run because the start-of-run commit is the unconstrained first step of `JF.Act.Run` and `run_inv` proves that the start tagger
never commits again.  `pairViolations` never consults the pair either (`canCommit` excludes the start tagger). -/
theorem start_changes_root_unit_count :
    TrStart2 env mw 10 g0.1 g1.1 ∧ disjointFP cfg (cfg.tagger 10) (cfg.tagger 6) = true ∧
    yieldCls env 6 (cfg.tagger 6).cls g0.1.cs = [] ∧ yieldCls env 6 (cfg.tagger 6).cls g1.1.cs = [some [[0]]] ∧
    ¬ ((yieldCls env 6 (cfg.tagger 6).cls g1.1.cs).map (viewOf (cfg.tagger 6))).Perm
        ((yieldCls env 6 (cfg.tagger 6).cls g0.1.cs).map (viewOf (cfg.tagger 6))) :=
  ⟨⟨0, [0], [1, 0], .leaf, by decide, ex_rest, (rfl : [0].length = 1), start_admW, rfl⟩, by decide, by decide +kernel,
    by decide +kernel, fun h => absurd h.length_eq (by decide +kernel)⟩

/-- `start_untouched2` at the start of this run -/
example : ((yieldCls env 8 (cfg.tagger 8).cls g1.1.cs).map (viewOf (cfg.tagger 8))).Perm
    ((yieldCls env 8 (cfg.tagger 8).cls g0.1.cs).map (viewOf (cfg.tagger 8))) :=
  start_untouched2 env mw supported2_dipole_motion start_changes_root_unit_count.1 (by decide) (by decide)

/-! ### the mode premise of `Tr2` is needed

Root mode: both point masses of dipole 0 move (`start 0 [0, 1]`).  The leaf-mode handler class of `harmonic_leaf`
(`TwoLeafUnitEventHandler`: `exchange`) is weakly admissible there — leaf (0, 0) moves, leaf (1, 0) exists — and its commit leaves
point mass (0, 1) AND point mass (1, 0) moving: two active branches, the switcher tagger `root_to_leaf` yields two in-states instead
of one, although the tables declare the pair disjoint.  In a run this does not happen because `harmonic_leaf` is deactivated in
root mode (`ModeSound`) — which is the premise `modeStep`. -/

def d0 : List (CObj ℚ) := step Ops.rat isZ env.L [exC0, exC1] (.start 0 [0, 1] [1, 0])
def d1 : List (CObj ℚ) := step Ops.rat isZ env.L d0 (.exchange ⟨0, 1/4⟩ [0] 0 0 1 0)

theorem d0_inv : Inv env ⟨d0, .root⟩ := by
  refine inv_start box ex_initial ex_uniform ex_rest (i := 0) (P := [0, 1]) (v := [1, 0])
    (admW_of_check (by decide +kernel)) ⟨exC0, rfl, ?_⟩
  intro k hk
  have : k < 2 := hk
  match k, this with
  | 0, _ => simp
  | 1, _ => simp

theorem commit_needs_mode_premise :
    Inv env ⟨d0, .root⟩ ∧ TrNoMode2 env mw 0 d0 d1 ∧ modeStep .root (.exchange ⟨0, 1/4⟩ [0] 0 0 1 0 : Composite.Ev ℚ) = none ∧
    disjointFP cfg (cfg.tagger 0) (cfg.tagger 7) = true ∧
    yieldCls env 7 (cfg.tagger 7).cls d0 = [some [[0]]] ∧ yieldCls env 7 (cfg.tagger 7).cls d1 = [some [[0]], some [[1]]] ∧
    ¬ ((yieldCls env 7 (cfg.tagger 7).cls d1).map (viewOf (cfg.tagger 7))).Perm
        ((yieldCls env 7 (cfg.tagger 7).cls d0).map (viewOf (cfg.tagger 7))) := by
  refine ⟨d0_inv, ⟨_, .leaf, by decide, by decide, ?_, rfl⟩, rfl, by decide, by decide +kernel, by decide +kernel,
    fun h => absurd h.length_eq (by decide +kernel)⟩
  exact admW_of_check (by decide +kernel)

/-- water (three point masses per molecule, `factor_set_water.txt`), two molecules, the oxygen (0, 1) active: the two harmonic bonds of
the molecule and its bending triple; the whole molecule 1 active (root mode): bonds and triple of molecule 1 once each -/
theorem py_yield_table_water :
    (List.range 2).map (fun T => yieldF ℚ (envWaterSingle [1, 1, 1]) T .factorTypeMap [(true, [false, true, false]), (false, [false, false, false])])
      = [[some [[0, 0], [0, 1]], some [[0, 1], [0, 2]]], [some [[0, 0], [0, 1], [0, 2]]]] ∧
    (List.range 2).map (fun T => yieldF ℚ (envWaterSingle [1, 1, 1]) T .factorTypeMap [(false, [false, false, false]), (true, [true, true, true])])
      = [[some [[1, 0], [1, 1]], some [[1, 1], [1, 2]]], [some [[1, 0], [1, 1], [1, 2]]]] ∧
    yieldF ℚ (envWaterSingle [1, 1, 1]) 3 .activeGlobalState [(false, [false, false, false]), (true, [true, true, true])] = [some [[1]]] ∧
    yieldF ℚ (envWaterSingle [1, 1, 1]) 3 .activeGlobalState [(true, [false, true, false]), (false, [false, false, false])] = [some [[0, 1]]] := by
  decide +kernel

end Example

end JF.Footprints2
