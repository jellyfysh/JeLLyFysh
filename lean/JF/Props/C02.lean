import JF.Model.Potential.Displacement
import JF.Lemmas.DisplacementCoulomb
import JF.Lemmas.DisplacementLJ
/-!
# C02 — Candidate event distance inverts the cumulative uphill energy exactly

Theorems about the real-number reading (`JF/Lemmas/Displacement{Real,InvPow,Coulomb,Hat,LJ}.lean`) of the
displacement routines modelled branch for branch in `JF/Model/Potential/Displacement.lean` (binary64, run
against the real classes by `harness/props/c02.py`).  "Accumulated energy increase" is
`JF.Uphill.uphill f 0 d`, the positive variation of the path energy `f x = U(sep - x·e)` on `[0, d]`
(`JF/Lemmas/DisplacementUphill.lean`: half of total variation plus net change; equals the sum of the
increments over the increasing stretches of a piecewise monotone function).  The proofs walk along the path
stretch by stretch with `Good f d E` ("along `[0, d]` exactly `E` is accumulated") and `Outcome`
(`JF/Lemmas/DisplacementPeriodic.lean`; `Outcome.spec` is the shape most statements below have).

Reduction common to all statements: the separation vector enters through `s` (component along the
direction of motion) and `q` (sum of squares of the other components, `q > 0`: not head-on); the speed
only divides the returned distance (`speed_scaling`).

* inverse power, both signs: `invPow_some`, `invPow_none_iff` (from `repulsive_some`, `attractive_ok`,
  `repulsive_none_iff`, `attractive_none_iff`), `*_total`
* hard sphere / hard dipole: `hardSphere_some` (least root), `hardSphere_none_iff`, `hardSphere_speed`,
  `hardDipole_first`
* C routine of the periodic `1/r` bound, laps + remainder on the minimum-image path: `cb_inverts`
  (from `MinImage.cbDisplacement_good`: `cb_laps_split`, `MinImage.lap`, `MinImage.remainder_pos`/`_neg`; `minImage_exists`);
  `cb_code_inverts` for the routine as repaired in /repo (`fmod` first, trips = `round((dE - remainder) / c)`,
  `sqrt(non_negative(…))`; equal to the formulation before the repair in exact arithmetic: `cbDisplacementCode_eq`)
* Mexican-hat case tree, generic: `hat_some`, `hat_none_iff` (from `Hat.disp_ok`); instances `evenPower_inverts`,
  `evenPower_finite`, `lj_inverts`
* cell bound: `cellBounding_spec`

All statements are about real numbers.  What binary64 does near turning points of the path (square root
of a rounding-negative number, …) is *not* covered here; the run found such inputs on the unchanged tree, see
`known_findings/C02.json` (the two findings about the C routine — `floor`/`fmod` disagreement, `nan` — are repaired in
`/repo`, commits `1b03a38`, `22b464f`).
-/
namespace JF.C02
open Set JF.Uphill JF.DispR


/-- total climb of the path in the repulsive case: up to the closest approach -/
theorem repulsive_uphill_le {K p s q d : ℝ} (hK : 0 < K) (hp : 0 < p) (hq : 0 < q) (hs : 0 < s)
    (hd : 0 ≤ d) : uphill (path K p s q) 0 d ≤ pot K p (0 * 0 + q) - pot K p (s * s + q) := by
  rw [← path_self, ← path_zero]
  rcases le_total d s with hds | hds
  · rw [uphill_mono (path_monoOn_of_pos hK hp hq hds) hd]
    exact sub_le_sub_right
      (path_monoOn_of_pos (a := 0) hK hp hq (le_refl s) ⟨hd, hds⟩ ⟨hs.le, le_refl s⟩ hds) _
  · rw [uphill_mono_anti hs.le hds (path_monoOn_of_pos hK hp hq le_rfl)
      (path_antiOn_of_pos hK hp hq le_rfl)]

/-- **Inverse power, repulsive: infinite exactly when the path never accumulates more than the budget.**
(The code compares with `<`: a budget equal to the total climb, reached only *at* the closest
approach where the climb ends, is answered `inf`.) -/
theorem repulsive_none_iff {K p s q dE : ℝ} (hK : 0 < K) (hp : 0 < p) (hq : 0 < q) (hE : 0 ≤ dE) :
    dispRepulsive K p s q dE = none ↔ ∀ d, 0 ≤ d → uphill (path K p s q) 0 d ≤ dE := by
  constructor
  · intro h d hd
    simp only [dispRepulsive] at h
    split_ifs at h with h1 h2
    · -- in front of the target: downhill for ever
      rw [uphill_anti (path_antiOn_of_pos hK hp hq h1) hd]; exact hE
    · exact (repulsive_uphill_le hK hp hq (not_le.1 h1) hd).trans (not_lt.1 h2)
  · intro h
    by_contra hne
    obtain ⟨d, hd⟩ := Option.ne_none_iff_exists'.1 hne
    obtain ⟨hs, h2, _⟩ := dispRepulsive_eq_some hd
    have := h s hs.le
    rw [uphill_mono (path_monoOn_of_pos hK hp hq le_rfl) hs.le, path_zero, path_self] at this
    exact this.not_gt h2

/-- non-vacuity: `1/r` repulsion, `s = 3, q = 16` (distance 5 → potential 1/5), budget `1/20`
(the total climb is `1/4 - 1/5 = 1/20`… the budget `1/40` is below it): a finite distance is returned -/
example : ∃ d, dispRepulsive 1 1 3 16 (1/40) = some d :=
  ⟨_, dispRepulsive_of_lt (by norm_num) (by
    rw [show (0:ℝ) * 0 + 16 = 4 * 4 by norm_num, show (3:ℝ) * 3 + 16 = 5 * 5 by norm_num,
      pot_one_mul_self _ (by norm_num), pot_one_mul_self _ (by norm_num)]
    norm_num)⟩


/-- **Inverse power, attractive: infinite exactly when the path never accumulates the budget.** -/
theorem attractive_none_iff {K p s q dE : ℝ} (hK : K < 0) (hp : 0 < p) (hq : 0 < q) (hE : 0 < dE) :
    dispAttractive K p s q dE = none ↔ ∀ d, 0 ≤ d → uphill (path K p s q) 0 d < dE :=
  (attractive_ok hK hp hq hE.le).none_iff

/-- non-vacuity: `-1/r` attraction from `s = 3, q = 16` (behind the target), budget `1/8 < 1/4`:
a finite distance is returned -/
example : ∃ d, dispAttractive (-1) 1 3 16 (1/8) = some d :=
  ⟨_, by
    rw [dispAttractive_behind (by norm_num), attractiveFront, if_neg, Option.map_some]
    rw [show (0:ℝ) * 0 + 16 = 4 * 4 by norm_num, pot_one_mul_self _ (by norm_num)]
    norm_num⟩

/-- non-vacuity of the infinite outcome: the same start with the budget `1/2 > 1/4` escapes -/
example : dispAttractive (-1) 1 3 16 (1/2) = none := by
  rw [dispAttractive_behind (by norm_num), attractiveFront, if_pos, Option.map_none]
  rw [show (0:ℝ) * 0 + 16 = 4 * 4 by norm_num, pot_one_mul_self _ (by norm_num)]
  norm_num

/-- **Inverse power potential, both signs** (`standard_velocity_displacement`): a returned finite
distance is non-negative and the uphill energy accumulated along it equals the budget. -/
theorem invPow_some {K p s q dE d : ℝ} (hK : K ≠ 0) (hp : 0 < p) (hq : 0 < q) (hE : 0 ≤ dE)
    (h : dispInvPow K p s q dE = some d) : 0 ≤ d ∧ uphill (path K p s q) 0 d = dE := by
  unfold dispInvPow at h
  split_ifs at h with h1
  · obtain ⟨_, g⟩ := repulsive_some h1 hp hq hE h; exact ⟨g.nonneg, g.val⟩
  · have g := (attractive_ok (lt_of_le_of_ne (not_lt.1 h1) hK) hp hq hE).of_some h
    exact ⟨g.nonneg, g.val⟩

/-- **Inverse power potential, both signs**: the routine answers `inf` exactly when the path never
accumulates more than the budget (repulsive, `≤` as the code compares) / never reaches it (attractive). -/
theorem invPow_none_iff {K p s q dE : ℝ} (hK : K ≠ 0) (hp : 0 < p) (hq : 0 < q) (hE : 0 < dE) :
    dispInvPow K p s q dE = none ↔
      if K > 0 then ∀ d, 0 ≤ d → uphill (path K p s q) 0 d ≤ dE
      else ∀ d, 0 ≤ d → uphill (path K p s q) 0 d < dE := by
  unfold dispInvPow
  split_ifs with h1
  · exact repulsive_none_iff h1 hp hq hE.le
  · exact attractive_none_iff (lt_of_le_of_ne (not_lt.1 h1) hK) hp hq hE


/-- **Hard sphere: the returned time is the least root of the contact equation.**  For spheres that do
not overlap (`c = |s|² - σ² ≥ 0`): the returned `t` is non-negative, the centres are at distance `σ`
at time `t` (`gap = 0`), and at every earlier time they are strictly further apart. -/
theorem hardSphere_some {a b c t : ℝ} (ha : 0 < a) (hc : 0 ≤ c) (h : hardSphere a b c = some t) :
    0 ≤ t ∧ gap a b c t = 0 ∧ ∀ t', t' < t → 0 < gap a b c t' := by
  simp only [hardSphere] at h
  split_ifs at h with h1
  obtain ⟨hD, hb⟩ := h1
  obtain rfl := Option.some.inj h
  have hr := Real.sqrt_nonneg (b * b - a * c)
  have hle : Real.sqrt (b * b - a * c) ≤ b :=
    sqrt_le_of_le_mul_self hb (sub_le_self _ (mul_nonneg ha.le hc))
  refine ⟨div_nonneg (sub_nonneg.2 hle) ha.le, gap_root_minus ha hD, fun t' ht' => ?_⟩
  have h2 := ht'.trans_le (div_le_div_of_nonneg_right
    ((sub_le_self b hr).trans (le_add_of_nonneg_right hr)) ha.le)
  rw [gap_factor ha hD t', mul_assoc]
  exact mul_pos ha (mul_pos_of_neg_of_neg (sub_neg.2 ht') (sub_neg.2 h2))

/-- **Hard sphere: `inf` exactly when there is no contact at any time `t ≥ 0`** (separated spheres,
`c > 0`). -/
theorem hardSphere_none_iff {a b c : ℝ} (ha : 0 < a) (hc : 0 < c) :
    hardSphere a b c = none ↔ ∀ t, 0 ≤ t → 0 < gap a b c t := by
  constructor
  · intro h t ht
    simp only [hardSphere] at h
    split_ifs at h with h1
    rw [not_and_or] at h1
    rcases h1 with h1 | h1
    · exact gap_pos_of_disc_neg ha (not_le.1 h1) t
    · exact hc.trans_le (le_gap_of_receding ha (not_le.1 h1).le ht)
  · intro h
    by_contra hne
    obtain ⟨t, ht⟩ := Option.ne_none_iff_exists'.1 hne
    obtain ⟨h0, h1, _⟩ := hardSphere_some ha hc.le ht
    exact (h t h0).ne' h1

/-- the time scales inversely with the speed: velocity `λ v` gives `a ↦ λ² a`, `b ↦ λ b` -/
theorem hardSphere_speed {a b c l : ℝ} (hl : 0 < l) :
    hardSphere (l * l * a) (l * b) c = (hardSphere a b c).map (· / l) := by
  simp only [hardSphere]
  have e : l * b * (l * b) - l * l * a * c = l * l * (b * b - a * c) := by ring
  have c1 : (l * b * (l * b) - l * l * a * c ≥ 0 ∧ l * b ≥ 0) ↔ (b * b - a * c ≥ 0 ∧ b ≥ 0) := by
    rw [e]
    exact and_congr (mul_nonneg_iff_of_pos_left (mul_pos hl hl)) (mul_nonneg_iff_of_pos_left hl)
  by_cases h : b * b - a * c ≥ 0 ∧ b ≥ 0
  · rw [if_pos (c1.2 h), if_pos h, Option.map_some, e, Real.sqrt_mul' _ h.1, Real.sqrt_mul_self hl.le,
      ← mul_sub, mul_assoc l l a, mul_div_mul_left _ _ hl.ne', div_div, mul_comm a l]
  · rw [if_neg (fun h' => h (c1.1 h')), if_neg h, Option.map_none]

/-- non-vacuity: unit speed along `x`, centres 3 apart, `σ² = 1`: contact after time 2 -/
example : hardSphere 1 3 8 = some 2 := by
  simp only [hardSphere]
  have : Real.sqrt ((3:ℝ) * 3 - 1 * 8) = 1 := by norm_num
  rw [if_pos (by norm_num), this]; norm_num


/-- **Hard dipole: the returned time is the first event.**  Inside the bond annulus
(`cmin = |s|² - r_min² ≥ 0`, `cmax = |s|² - r_max² ≤ 0`) the returned `t` is non-negative, at time `t`
the separation is `r_min` or `r_max`, and at every time in `[0, t]` the pair is still inside the
annulus (not closer than `r_min`, not further than `r_max`). -/
theorem hardDipole_first {a b cmin cmax : ℝ} (ha : 0 < a) (hmin : 0 ≤ cmin) (hmax : cmax ≤ 0) :
    let t := hardDipole a b cmin cmax
    0 ≤ t ∧ (gap a b cmin t = 0 ∨ gap a b cmax t = 0) ∧
      ∀ t', 0 ≤ t' → t' ≤ t → 0 ≤ gap a b cmin t' ∧ gap a b cmax t' ≤ 0 := by
  intro t
  obtain ⟨hDmax, hrb⟩ := abs_le_sqrt_disc (b := b) ha hmax
  by_cases h : b ≥ 0 ∧ b * b - a * cmin ≥ 0
  · -- contact at the minimal separation, which comes before the larger root of the maximal one
    have ht : t = (b - Real.sqrt (b * b - a * cmin)) / a := by simp only [t, hardDipole, if_pos h]
    obtain ⟨hb, hD⟩ := h
    have hs : hardSphere a b cmin = some t := by simp only [hardSphere, if_pos (And.intro hD hb), ht]
    obtain ⟨h0, h1, h2⟩ := hardSphere_some ha hmin hs
    have hle : t ≤ (b + Real.sqrt (b * b - a * cmax)) / a := by
      rw [ht]
      exact div_le_div_of_nonneg_right ((sub_le_self b (Real.sqrt_nonneg _)).trans
        (le_add_of_nonneg_right (Real.sqrt_nonneg _))) ha.le
    refine ⟨h0, Or.inl h1, fun t' h0' hle' => ⟨?_, gap_nonpos_of_le_root ha hmax h0' (hle'.trans hle)⟩⟩
    rcases eq_or_lt_of_le hle' with e | e
    · rw [e, h1]
    · exact (h2 t' e).le
  · -- arrival at the maximal separation; the minimal one is never reached
    have ht : t = (b + Real.sqrt (b * b - a * cmax)) / a := by simp only [t, hardDipole, if_neg h]
    have h0 : 0 ≤ t := by
      rw [ht]; exact div_nonneg (neg_le_iff_add_nonneg'.1 ((neg_le_abs b).trans hrb)) ha.le
    refine ⟨h0, Or.inr (by rw [ht]; exact gap_root_plus ha hDmax),
      fun t' h0' hle => ⟨?_, gap_nonpos_of_le_root ha hmax h0' (ht ▸ hle)⟩⟩
    rw [not_and_or] at h
    rcases h with h | h
    · exact hmin.trans (le_gap_of_receding ha (not_le.1 h).le h0')
    · exact (gap_pos_of_disc_neg ha (not_le.1 h) t').le

/-- non-vacuity: bond limits 1 and 2, separation 1.5 along `x`, moving apart at unit speed: the maximal
length is reached after time 1/2 -/
example : hardDipole 1 (-3/2) (9/4 - 1) (9/4 - 4) = 1/2 := by
  simp only [hardDipole]
  rw [if_neg (by norm_num)]
  have : Real.sqrt ((-3/2 : ℝ) * (-3/2) - 1 * (9/4 - 4)) = 2 := by
    rw [show (-3/2 : ℝ) * (-3/2) - 1 * (9/4 - 4) = 2 * 2 by norm_num]; exact Real.sqrt_mul_self (by norm_num)
  rw [this]; norm_num


/-- **No arithmetic failure, repulsive branch**: whenever the routine takes the inversion branch, every
denominator is non-zero and the argument of the square root is positive. -/
theorem repulsive_total {K p s q dE : ℝ} (hK : 0 < K) (hp : 0 < p) (hq : 0 < q) (hE : 0 ≤ dE)
    (hs : 0 < s) (h2 : dE < pot K p (0 * 0 + q) - pot K p (s * s + q)) :
    (0 * 0 + q) ^ (p / 2) ≠ 0 ∧ (s * s + q) ^ (p / 2) ≠ 0 ∧ pot K p (s * s + q) + dE ≠ 0 ∧
      0 < (K / (pot K p (s * s + q) + dE)) ^ (2 / p) - q := by
  obtain ⟨h, _, _⟩ := repulsive_radius hK hp hq hE h2
  have hn : 0 < s * s + q := add_pos_of_nonneg_of_pos (mul_self_nonneg s) hq
  exact ⟨(Real.rpow_pos_of_pos (by rw [zero_mul, zero_add]; exact hq) _).ne',
    (Real.rpow_pos_of_pos hn _).ne', (add_pos_of_pos_of_nonneg (pot_pos hK hn) hE).ne', sub_pos.2 h⟩

/-- **No arithmetic failure, attractive branch** (from the position `s' ≤ 0` reached after the downhill
stretch): denominators non-zero, square-root argument non-negative. -/
theorem attractive_total {K p s' q dE : ℝ} (hK : K < 0) (hp : 0 < p) (hq : 0 < q) (hE : 0 ≤ dE)
    (h2 : pot K p (s' * s' + q) + dE < 0) :
    (s' * s' + q) ^ (p / 2) ≠ 0 ∧ pot K p (s' * s' + q) + dE ≠ 0 ∧
      0 ≤ (K / (pot K p (s' * s' + q) + dE)) ^ (2 / p) - q := by
  obtain ⟨h, _⟩ := attractive_radius hK hp hq hE h2
  have hn : 0 < s' * s' + q := add_pos_of_nonneg_of_pos (mul_self_nonneg s') hq
  exact ⟨(Real.rpow_pos_of_pos hn _).ne', h2.ne,
    sub_nonneg.2 ((le_add_of_nonneg_left (mul_self_nonneg s')).trans h)⟩


/-- the bounding energy `x ↦ rate·x` climbs for ever (`rate > 0`) or never -/
theorem cellBounding_ok {rate dE : ℝ} (hE : 0 < dE) :
    Outcome (fun x => rate * x) dE (cellBounding rate dE) := by
  unfold cellBounding
  split_ifs with h1
  · have g := Good.of_mono (f := fun x => rate * x) (div_nonneg hE.le h1.le)
      fun x _ y _ hxy => mul_le_mul_of_nonneg_left hxy h1.le
    rwa [mul_zero, sub_zero, mul_div_cancel₀ _ h1.ne'] at g
  · intro d hd
    have g := Good.of_anti (f := fun x => rate * x) hd
      fun x _ y _ hxy => mul_le_mul_of_nonpos_left hxy (not_lt.1 h1)
    exact ⟨g.bv, g.val.trans_lt hE⟩

/-- **Cell bound: the returned distance inverts the (linear) bounding energy `x ↦ rate·x`; `inf` exactly
when that energy never increases.** -/
theorem cellBounding_spec {rate dE : ℝ} (hE : 0 < dE) :
    (∀ d, cellBounding rate dE = some d → 0 ≤ d ∧ uphill (fun x => rate * x) 0 d = dE) ∧
    (cellBounding rate dE = none ↔ ∀ d, 0 ≤ d → uphill (fun x => rate * x) 0 d < dE) :=
  (cellBounding_ok hE).spec


/-- non-vacuity of `MinImage`: the minimum-image energy exists for every box, separation and charge
product (nearest image by rounding `(sx - x) / L` to the nearest integer) -/
theorem minImage_exists (K L sx q : ℝ) (hL : 0 < L) : ∃ g, MinImage K L sx q g := by
  refine ⟨fun x => cbPot K ((sx - x) - L * round ((sx - x) / L)) q, fun x => ?_, fun x hx => ?_⟩
  · have h : (sx - (x + L)) / L = (sx - x) / L - 1 := by rw [← sub_sub, sub_div, div_self hL.ne']
    rw [h, round_sub_one, Int.cast_sub, Int.cast_one]
    congr 1; ring
  · obtain ⟨h1, h2⟩ := abs_le.1 hx
    rcases h2.lt_or_eq with h2 | h2
    · have : round ((sx - x) / L) = 0 :=
        round_eq_zero_iff.2 ⟨by rw [le_div_iff₀ hL]; linarith, by rw [div_lt_iff₀ hL]; linarith⟩
      rw [this, Int.cast_zero, mul_zero, sub_zero]
    · -- exactly half a box away, where the two nearest images are equally near
      have : (sx - x) / L = 2⁻¹ := by rw [h2, div_div, mul_comm, ← div_div, div_self hL.ne', one_div]
      rw [this, round_two_inv, Int.cast_one, mul_one, h2, show L / 2 - L = -(L / 2) by ring, cbPot_neg]


/-- **The periodic `1/r` bound in its whole-laps form `cbDisplacement`, both signs** (the routine as it is in /repo: `cb_code_inverts`
below, through `cbDisplacementCode_eq`). -/
theorem cb_inverts {K L sx q dE : ℝ} {g : ℝ → ℝ} (hK : K ≠ 0) (hL : 0 < L) (hq : 0 < q)
    (hs1 : -(L / 2) ≤ sx) (hs2 : sx ≤ L / 2) (hE : 0 ≤ dE) (hg : MinImage K L sx q g) :
    0 ≤ cbDisplacement K L sx q dE ∧ uphill g 0 (cbDisplacement K L sx q dE) = dE := by
  have h := hg.cbDisplacement_good hK hL hq hs1 hs2 hE
  exact ⟨h.nonneg, h.val⟩

/-- non-vacuity of the hypothesis `0 < cbPerLap` of `cbDisplacementCode_eq`: unit box, `K = 1`, `q = 1/4`
(the climb per lap is `2 - √2`) -/
example : 0 < cbPerLap 1 1 (1/4) := cbPerLap_pos one_ne_zero one_pos (by norm_num)

/-- **The C routine as it is in the tree** (since the repairs `1b03a38`, `22b464f`: the remainder budget `fmod(dE, c)` first, the
number of complete trips as `round((dE - remainder) / c)`, `sqrt(non_negative(…))`): for every sign of the charges product it
inverts the accumulated uphill energy along the minimum-image path.  (`cbPerLap > 0`: the lap climb does not vanish, which
`K ≠ 0`, `q > 0` and `L > 0` give: `cbPerLap_pos`.) -/
theorem cb_code_inverts {K L sx q dE : ℝ} {g : ℝ → ℝ} (hK : K ≠ 0) (hL : 0 < L) (hq : 0 < q)
    (hs1 : -(L / 2) ≤ sx) (hs2 : sx ≤ L / 2) (hE : 0 ≤ dE) (hg : MinImage K L sx q g) :
    0 ≤ cbDisplacementCode K L sx q dE ∧ uphill g 0 (cbDisplacementCode K L sx q dE) = dE := by
  rw [cbDisplacementCode_eq K L sx q dE (cbPerLap_pos hK hL hq)]
  exact cb_inverts hK hL hq hs1 hs2 hE hg


/-- **Mexican-hat case tree: a returned finite distance inverts the accumulated uphill energy.**
For every radial potential that is decreasing inside and increasing outside its minimum sphere and
whose two inversion methods are the (order-respecting) inverses on the two sides (`Hat.Valid`), every
separation (`q > 0`: not head-on) and every budget `dE ≥ 0`: if `standard_velocity_displacement` returns
the finite distance `d`, then `d ≥ 0` and the positive variation of the energy along `[0, d]` equals the
budget — through all of front/behind × inside/outside, the in-place updates of the separation and the
reach/miss alternative of `_displacement_behind_outside_sphere`. -/
theorem hat_some {H : Hat} {q s dE d : ℝ} (hV : H.Valid q) (hE : 0 ≤ dE)
    (h : H.disp q s dE = some d) : 0 ≤ d ∧ uphill (H.path q s) 0 d = dE :=
  (H.disp_ok hV hE).spec.1 d h

/-- **Mexican-hat case tree: `inf` exactly when the path never accumulates the budget.** -/
theorem hat_none_iff {H : Hat} {q s dE : ℝ} (hV : H.Valid q) (hE : 0 ≤ dE) :
    H.disp q s dE = none ↔ ∀ d, 0 ≤ d → uphill (H.path q s) 0 d < dE :=
  (H.disp_ok hV hE).spec.2

/-- **Displaced even-power potential** `U(r) = k (r - r0)^p`, `p` even: the hypotheses of the case-tree
theorems hold (this is also their non-vacuity witness), hence every returned finite distance inverts
the accumulated uphill energy. -/
theorem evenPower_inverts {k r0 q s dE d : ℝ} {p : ℕ} (hk : 0 < k) (hr0 : 0 < r0)
    (hp : Even p) (hp0 : p ≠ 0) (hq : 0 < q) (hE : 0 ≤ dE)
    (h : (evenPowerHat k r0 p).disp q s dE = some d) :
    0 ≤ d ∧ uphill ((evenPowerHat k r0 p).path q s) 0 d = dE :=
  hat_some (evenPower_valid hk hr0 hp hp0 hq) hE h

/-- a Mexican-hat potential whose outside inversion always returns a value never answers `inf` -/
theorem hat_finite {H : Hat} (hO : ∀ y, (H.invOut y).isSome) (q s dE : ℝ) :
    (H.disp q s dE).isSome := by
  have fo : ∀ s cur dE, (H.frontOutside q s cur dE).isSome := fun s cur dE => by
    simp [Hat.frontOutside, hO]
  have fi : ∀ s dE, (H.frontInside q s dE).isSome := fun s dE => by
    simp [Hat.frontInside, fo]
  have bi : ∀ s cur dE, (H.behindInside q s cur dE).isSome := fun s cur dE => by
    simp only [Hat.behindInside]; split_ifs <;> simp [fi]
  have bo : ∀ s dE, (H.behindOutside q s dE).isSome := fun s dE => by
    simp only [Hat.behindOutside]; split_ifs <;> simp [fo, bi]
  unfold Hat.disp; split_ifs <;> simp [fo, fi, bi, bo]

/-- the even-power potential never answers `inf` (its climb is unbounded) -/
theorem evenPower_finite (k r0 q s dE : ℝ) (p : ℕ) : ((evenPowerHat k r0 p).disp q s dE).isSome :=
  hat_finite (fun _ => rfl) q s dE


/-- **Lennard-Jones potential**: the case-tree theorems apply (`lj_valid`): a returned finite distance
inverts the accumulated uphill energy, and the answer is `inf` exactly when the path never accumulates
the budget (escape: current potential + remaining budget `≥ 0`). -/
theorem lj_inverts {k σ q s dE : ℝ} (hk : 0 < k) (hσ : 0 < σ) (hq : 0 < q) (hE : 0 ≤ dE) :
    (∀ d, (ljHat k σ).disp q s dE = some d → 0 ≤ d ∧ uphill ((ljHat k σ).path q s) 0 d = dE) ∧
    ((ljHat k σ).disp q s dE = none ↔ ∀ d, 0 ≤ d → uphill ((ljHat k σ).path q s) 0 d < dE) :=
  (Hat.disp_ok (lj_valid hk hσ hq) hE).spec


/-- the speed only rescales the returned distance into a time: after the returned time the unit has
moved exactly the distance computed by `standard_velocity_displacement` -/
theorem speed_scaling {d v : ℝ} (hv : 0 < v) : (d / v) * v = d := by
  field_simp

end JF.C02
