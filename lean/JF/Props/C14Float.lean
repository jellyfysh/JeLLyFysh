import JF.Props.C14
import JF.Lemmas.RoundedDivmod
import JF.Lemmas.RoundedInstances
import JF.Lemmas.RoundedBinary
import JF.Lemmas.RoundedErr
/-!
# C14, rounding-abstract reading — the statements that are true FOR FLOATS

Same model (`JF/Model/Time.lean`, the transcription of `jellyfysh/base/time.py`), same definitions, but the
scalar type is `R fm`: rationals whose `+ - * /` round with `fm.rnd`, for an ARBITRARY `fm : FloatModel`
(a structure of hypotheses that binary64 round-to-nearest-even satisfies, see `JF/Num/Rounded.lean`).
`floor` and `fmod` are exact, comparisons do not round.

All theorems are `∀ fm : FloatModel`; at the end they are specialised to `FloatModel.binary64`, the PROVED instance
for IEEE-754 binary64 round-to-nearest-even (`JF/Lemmas/RoundedBinary.lean`), with `eps = 2^-53`.  Times are representable
and normalised (`Rep`): integer quotient in `F`, remainder in `[0, 1) ∩ F`; where it matters `|q| ≤ 2^52` and `0 ≤ d ≤ 2^40`, the property's quantifier.

There is no infinity in `R fm` (`isInf = false`).  ∞ and NaN: `JF/Props/C14FloatInf.lean` (carrier `RX fm`,
`JF/Lemmas/RoundedInf.lean`).
-/
namespace JF.C14F
open JF JF.R

variable {fm : FloatModel}

/-- the same pair read as exact rationals (the identity on the data) -/
def tq (t : Time (R fm)) : Time ℚ := ⟨toQ t.q, toQ t.r⟩

/-- the exact rational number a time stands for: quotient + remainder, NOT rounded -/
def val (t : Time (R fm)) : ℚ := toQ t.q + toQ t.r

theorem val_eq (t : Time (R fm)) : val t = C14.val (tq t) := rfl

/-- representable and normalised: integer quotient in `F`, remainder in `[0, 1) ∩ F` -/
structure Rep (fm : FloatModel) (t : Time (R fm)) : Prop where
  q_int : ∃ n : ℤ, toQ t.q = n
  q_mem : toQ t.q ∈ fm.F
  r_mem : toQ t.r ∈ fm.F
  r_nonneg : 0 ≤ toQ t.r
  r_lt : toQ t.r < 1

theorem Rep.normalised {t : Time (R fm)} (h : Rep fm t) : C14.Normalised (tq t) :=
  ⟨h.q_int, h.r_nonneg, h.r_lt⟩

theorem Rep.ofQ {q r : ℚ} (n : ℤ) (hn : q = n) (hq : q ∈ fm.F) (hr : r ∈ fm.F) (h0 : 0 ≤ r) (h1 : r < 1) :
    Rep fm ⟨ofQ q, ofQ r⟩ :=
  ⟨⟨n, hn⟩, hq, hr, h0, h1⟩


section add
variable (t : Time (R fm)) (d : R fm)

/-- the rounded sum `fl(r + d)`: the ONLY rounding that happens in `Time.__add__` -/
def rsum : ℚ := fm.rnd (toQ t.r + toQ d)

theorem rsum_mem : rsum t d ∈ fm.F := fm.rnd_mem _

variable {t d}

theorem rsum_nonneg (hr : 0 ≤ toQ t.r) (hd : 0 ≤ toQ d) : 0 ≤ rsum t d :=
  fm.rnd_nonneg (add_nonneg hr hd)

theorem rsum_le (hr : toQ t.r < 1) (hd : toQ d ≤ 2 ^ 40) : rsum t d ≤ 2 ^ 40 + 1 := by
  have hm : (((2 ^ 40 + 1 : ℤ)) : ℚ) ∈ fm.F := fm.int_mem _ (by norm_num)
  have h := fm.rnd_le_of_le hm (x := toQ t.r + toQ d) (by push_cast; linarith only [hr, hd])
  calc rsum t d ≤ (((2 ^ 40 + 1 : ℤ)) : ℚ) := h
    _ = 2 ^ 40 + 1 := by push_cast; ring

theorem floor_rsum_nonneg (hr : 0 ≤ toQ t.r) (hd : 0 ≤ toQ d) : (0 : ℚ) ≤ ((⌊rsum t d⌋ : ℤ) : ℚ) := by
  exact_mod_cast Int.floor_nonneg.mpr (rsum_nonneg hr hd)

theorem floor_rsum_le (hr : toQ t.r < 1) (hd : toQ d ≤ 2 ^ 40) : ((⌊rsum t d⌋ : ℤ) : ℚ) ≤ 2 ^ 40 + 1 :=
  le_trans (Int.floor_le _) (rsum_le hr hd)

/-- the new quotient `q + ⌊fl(r + d)⌋` is an integer of magnitude at most `2^53`, so it is representable -/
theorem q_add_floor_mem (ht : Rep fm t) (hq : |toQ t.q| ≤ 2 ^ 52) (hd0 : 0 ≤ toQ d) (hd1 : toQ d ≤ 2 ^ 40) :
    toQ t.q + ((⌊rsum t d⌋ : ℤ) : ℚ) ∈ fm.F := by
  obtain ⟨n, hn⟩ := ht.q_int
  have h0 := floor_rsum_nonneg (d := d) ht.r_nonneg hd0
  have h1 := floor_rsum_le (d := d) ht.r_lt hd1
  rw [hn] at hq ⊢
  have := fm.int_mem (n + ⌊rsum t d⌋) (by
    rw [abs_le] at hq ⊢
    push_cast
    exact ⟨by linarith only [hq.1, h0], by linarith only [hq.2, h1]⟩)
  rwa [Int.cast_add] at this

/-- The result of `Time.__add__`, completely: `divmod(fl(r + d), 1.0)` is exact, and the quotient addition is an exact
integer addition. -/
theorem add_eq (ht : Rep fm t) (hq : |toQ t.q| ≤ 2 ^ 52) (hd0 : 0 ≤ toQ d) (hd1 : toQ d ≤ 2 ^ 40) :
    Time.add (Ops.rounded fm) t d
      = ⟨ofQ (toQ t.q + ((⌊rsum t d⌋ : ℤ) : ℚ)), ofQ (rsum t d - ((⌊rsum t d⌋ : ℤ) : ℚ))⟩ := by
  have h := pydivmod1_rounded (fm := fm) (t.r + d) (fm.rnd_mem _) (rsum_nonneg ht.r_nonneg hd0)
  simp only [Time.add, rounded_isInf, h]
  exact congrArg (Time.mk · _) (R.ext (fm.rnd_id _ (q_add_floor_mem ht hq hd0 hd1)))

/-- `add_normalised`: the sum is again representable and normalised (`d` need not even be representable:
whatever `r + d` is, it is rounded into `F` before `divmod` sees it). -/
theorem add_normalised (ht : Rep fm t) (hq : |toQ t.q| ≤ 2 ^ 52)
    (hd0 : 0 ≤ toQ d) (hd1 : toQ d ≤ 2 ^ 40) : Rep fm (Time.add (Ops.rounded fm) t d) := by
  rw [add_eq ht hq hd0 hd1]
  obtain ⟨n, hn⟩ := ht.q_int
  exact ⟨⟨n + ⌊rsum t d⌋, by simp [hn]⟩, q_add_floor_mem ht hq hd0 hd1,
    fm.fract_mem _ (rsum_mem t d) (rsum_nonneg ht.r_nonneg hd0),
    Int.fract_nonneg _, Int.fract_lt_one _⟩

/-- the new quotient stays far below 2^53 (so the next addition is again covered, up to `|q| ≤ 2^52`) -/
theorem add_q_bound (ht : Rep fm t) (hq : |toQ t.q| ≤ 2 ^ 52) (hd0 : 0 ≤ toQ d) (hd1 : toQ d ≤ 2 ^ 40) :
    toQ t.q ≤ toQ (Time.add (Ops.rounded fm) t d).q ∧
    toQ (Time.add (Ops.rounded fm) t d).q ≤ toQ t.q + 2 ^ 40 + 1 := by
  rw [add_eq ht hq hd0 hd1]
  have h0 := floor_rsum_nonneg (d := d) ht.r_nonneg hd0
  have h1 := floor_rsum_le (d := d) ht.r_lt hd1
  simp only [toQ_ofQ]
  exact ⟨by linarith only [h0], by linarith only [h1]⟩

/-- `add_one_rounding`: the exact value of the sum is `q + fl(r + d)` — exactly ONE rounding, of `r + d`;
the quotient `q` does not enter any rounded operation's error. -/
theorem add_one_rounding (ht : Rep fm t) (hq : |toQ t.q| ≤ 2 ^ 52) (hd0 : 0 ≤ toQ d) (hd1 : toQ d ≤ 2 ^ 40) :
    val (Time.add (Ops.rounded fm) t d) = toQ t.q + fm.rnd (toQ t.r + toQ d) := by
  rw [add_eq ht hq hd0 hd1]
  simp only [val, toQ_ofQ, rsum]; ring

/-- `add_error`: the error of an addition is one relative rounding error of `r + d < 1 + d`, independent of how
large the quotient already is. -/
theorem add_error (ht : Rep fm t) (hq : |toQ t.q| ≤ 2 ^ 52) (hdF : toQ d ∈ fm.F)
    (hd0 : 0 ≤ toQ d) (hd1 : toQ d ≤ 2 ^ 40) :
    |val (Time.add (Ops.rounded fm) t d) - (val t + toQ d)| ≤ fm.eps * (toQ t.r + toQ d) := by
  rw [add_one_rounding ht hq hd0 hd1]
  have hs : 0 ≤ toQ t.r + toQ d := add_nonneg ht.r_nonneg hd0
  have := fm.add_err ht.r_mem hdF (by rw [abs_of_nonneg hs]; linarith only [ht.r_lt, hd1, fm.huge_ge])
  rw [abs_of_nonneg hs] at this
  rwa [show toQ t.q + fm.rnd (toQ t.r + toQ d) - (val t + toQ d) = fm.rnd (toQ t.r + toQ d) - (toQ t.r + toQ d) by
    simp only [val]; ring]

end add

/-! ### comparisons: they do not round, so the exact-reading proofs apply verbatim -/

section cmp
variable (t u : Time (R fm))

theorem lt_tq : Time.lt t u = Time.lt (tq t) (tq u) := rfl
theorem eq_tq : Time.eq t u = Time.eq (tq t) (tq u) := rfl
theorem gt_tq : Time.gt t u = Time.gt (tq t) (tq u) := rfl
theorem le_tq : Time.le t u = Time.le (tq t) (tq u) := rfl
theorem ge_tq : Time.ge t u = Time.ge (tq t) (tq u) := rfl
theorem cLt_tq : Time.cLt t u = Time.cLt (tq t) (tq u) := rfl

variable {t u}
variable (ht : C14.Normalised (tq t)) (hu : C14.Normalised (tq u))
include ht hu

theorem lt_iff : Time.lt t u = true ↔ val t < val u := C14.lt_iff _ _ ht hu
theorem eq_iff : Time.eq t u = true ↔ val t = val u := C14.eq_iff _ _ ht hu
theorem gt_iff : Time.gt t u = true ↔ val t > val u := C14.gt_iff _ _ ht hu
theorem le_iff : Time.le t u = true ↔ val t ≤ val u := C14.le_iff _ _ ht hu
theorem ge_iff : Time.ge t u = true ↔ val t ≥ val u := C14.ge_iff _ _ ht hu
theorem cLt_iff : Time.cLt t u = true ↔ val t < val u := C14.cLt_iff _ _ ht hu

end cmp


/-- `add_mono`: a larger displacement never gives an earlier time (rounding is monotone). -/
theorem add_mono {t : Time (R fm)} {d d' : R fm} (ht : Rep fm t) (hq : |toQ t.q| ≤ 2 ^ 52)
    (hd0 : 0 ≤ toQ d) (hd'1 : toQ d' ≤ 2 ^ 40) (h : toQ d ≤ toQ d') :
    Time.le (Time.add (Ops.rounded fm) t d) (Time.add (Ops.rounded fm) t d') = true := by
  have hd1 : toQ d ≤ 2 ^ 40 := le_trans h hd'1
  have hd'0 : 0 ≤ toQ d' := le_trans hd0 h
  rw [le_iff (add_normalised ht hq hd0 hd1).normalised (add_normalised ht hq hd'0 hd'1).normalised,
    add_one_rounding ht hq hd0 hd1, add_one_rounding ht hq hd'0 hd'1]
  exact (add_le_add_iff_left _).mpr (fm.rnd_mono ((add_le_add_iff_left _).mpr h))

/-- `add_ge`: adding a non-negative displacement never decreases the time. -/
theorem add_ge {t : Time (R fm)} {d : R fm} (ht : Rep fm t) (hq : |toQ t.q| ≤ 2 ^ 52)
    (hd0 : 0 ≤ toQ d) (hd1 : toQ d ≤ 2 ^ 40) :
    Time.le t (Time.add (Ops.rounded fm) t d) = true := by
  rw [le_iff ht.normalised (add_normalised ht hq hd0 hd1).normalised, add_one_rounding ht hq hd0 hd1]
  exact (add_le_add_iff_left _).mpr (fm.le_rnd_of_le ht.r_mem (le_add_of_nonneg_right hd0))

/-- strictness is lost only by rounding: if the rounded remainders differ, the order is strict -/
theorem add_lt_of_rnd_lt {t : Time (R fm)} {d d' : R fm} (ht : Rep fm t) (hq : |toQ t.q| ≤ 2 ^ 52)
    (hd0 : 0 ≤ toQ d) (hd1 : toQ d ≤ 2 ^ 40) (hd'0 : 0 ≤ toQ d') (hd'1 : toQ d' ≤ 2 ^ 40)
    (h : fm.rnd (toQ t.r + toQ d) < fm.rnd (toQ t.r + toQ d')) :
    Time.lt (Time.add (Ops.rounded fm) t d) (Time.add (Ops.rounded fm) t d') = true := by
  rw [lt_iff (add_normalised ht hq hd0 hd1).normalised (add_normalised ht hq hd'0 hd'1).normalised,
    add_one_rounding ht hq hd0 hd1, add_one_rounding ht hq hd'0 hd'1]
  exact (add_lt_add_iff_left _).mpr h


/-- `fromFloat_exact`: `Time.from_float` of a representable non-negative number loses nothing. -/
theorem fromFloat_exact (x : R fm) (hx : toQ x ∈ fm.F) (h0 : 0 ≤ toQ x) :
    val (Time.fromFloat (Ops.rounded fm) x) = toQ x ∧ Rep fm (Time.fromFloat (Ops.rounded fm) x) := by
  have e : Time.fromFloat (Ops.rounded fm) x
      = ⟨ofQ ((⌊toQ x⌋ : ℤ) : ℚ), ofQ (toQ x - ((⌊toQ x⌋ : ℤ) : ℚ))⟩ := by
    simp only [Time.fromFloat, rounded_isInf, pydivmod1_rounded x hx h0]; rfl
  rw [e]
  exact ⟨by simp [val], ⟨⌊toQ x⌋, rfl⟩, fm.floor_mem _ hx h0, fm.fract_mem _ hx h0,
    Int.fract_nonneg _, Int.fract_lt_one _⟩


/-- `Time.__sub__` is `fl(fl((q - q') + r) - r')`: the integer subtraction is exact (an integer of magnitude
≤ 2^53), two roundings follow. -/
theorem sub_eq {t u : Time (R fm)} (ht : Rep fm t) (hu : Rep fm u)
    (hN : |toQ t.q - toQ u.q| ≤ 2 ^ 53) :
    toQ (Time.sub t u) = fm.rnd (fm.rnd (toQ t.q - toQ u.q + toQ t.r) - toQ u.r) := by
  obtain ⟨n, hn⟩ := ht.q_int
  obtain ⟨m, hm⟩ := hu.q_int
  simp only [Time.sub, toQ_sub, toQ_add]
  rw [hn, hm] at hN ⊢
  have := fm.rnd_int (n - m) (by push_cast; exact hN)
  push_cast at this
  rw [this]

/-- `sub_error`, general form: the computed difference is the exact difference to within
`4 eps · max(1, |difference|)` whenever the quotients differ by at most 2^53: with `A = (q - q') + r`, the first rounding
`fl(A)` is within `eps·|A| ≤ eps·2M` of `A` (`M = max(1, |A - r'|)`, `|r'| < 1`), and the second is one rounded subtraction
of that approximation and the exact `r'` (`sub_approx`): `eps·(M + 2 eps M) + 2 eps M ≤ 4 eps M` as `eps ≤ 1/2`. -/
theorem sub_error' {t u : Time (R fm)} (ht : Rep fm t) (hu : Rep fm u)
    (hNb : |toQ t.q - toQ u.q| ≤ 2 ^ 53) :
    |toQ (Time.sub t u) - (val t - val u)| ≤ 4 * fm.eps * max 1 |val t - val u| := by
  rw [sub_eq ht hu hNb, show val t - val u = toQ t.q - toQ u.q + toQ t.r - toQ u.r by simp only [val]; ring]
  obtain ⟨n, hn⟩ := ht.q_int
  obtain ⟨m, hm⟩ := hu.q_int
  have hNF : toQ t.q - toQ u.q ∈ fm.F := by
    rw [hn, hm] at hNb ⊢
    have := fm.int_mem (n - m) (by push_cast; exact hNb)
    rwa [Int.cast_sub] at this
  have hA : |toQ t.q - toQ u.q + toQ t.r| ≤ 2 ^ 53 + 1 := by
    have := abs_add_le (toQ t.q - toQ u.q) (toQ t.r)
    rw [abs_of_nonneg ht.r_nonneg] at this
    linarith only [this, hNb, ht.r_lt]
  have h1 := fm.add_err hNF ht.r_mem (by linarith only [hA, fm.huge_ge])
  generalize toQ t.q - toQ u.q + toQ t.r = A at h1 hA ⊢
  have hr : |toQ u.r| < 1 := by rw [abs_of_nonneg hu.r_nonneg]; exact hu.r_lt
  have hA2 := abs_sub_abs_le_abs_sub A (toQ u.r)
  have hMb : max 1 |A - toQ u.r| ≤ 2 ^ 53 + 2 :=
    max_le (by norm_num) ((abs_sub _ _).trans (by linarith only [hA, hr]))
  have hM1 := le_max_left 1 |A - toQ u.r|
  have hD := le_max_right 1 |A - toQ u.r|
  generalize max 1 |A - toQ u.r| = M at hMb hM1 hD ⊢
  have he := fm.eps_nonneg
  have hsm : fm.eps * (2 * M) ≤ M := by
    linarith only [mul_le_mul_of_nonneg_right fm.eps_le_half (show 0 ≤ 2 * M by linarith only [hM1])]
  have h1' : |fm.rnd A - A| ≤ fm.eps * (2 * M) :=
    h1.trans (mul_le_mul_of_nonneg_left (by linarith only [hA2, hD, hM1, hr]) he)
  refine (fm.sub_approx (fm.rnd_mem A) hu.r_mem h1' (sub_self (toQ u.r) ▸ abs_zero.le) hD
    (by linarith only [hsm, hMb, fm.huge_ge])).trans ?_
  linarith only [mul_le_mul_of_nonneg_left hsm he]
/-- `sub_error` in the property's quantifier: all pairs of times with quotients up to 2^52 in magnitude. -/
theorem sub_error {t u : Time (R fm)} (ht : Rep fm t) (hu : Rep fm u)
    (hqt : |toQ t.q| ≤ 2 ^ 52) (hqu : |toQ u.q| ≤ 2 ^ 52) :
    |toQ (Time.sub t u) - (val t - val u)| ≤ 4 * fm.eps * max 1 |val t - val u| := by
  apply sub_error' ht hu
  rw [abs_le] at hqt hqu ⊢
  constructor <;> [linarith [hqt.1, hqu.2]; linarith [hqt.2, hqu.1]]

/-- equal times subtract to exactly zero, whatever their size -/
theorem sub_self (t : Time (R fm)) (ht : Rep fm t) : toQ (Time.sub t t) = 0 := by
  rw [sub_eq ht ht (by simp)]
  simp only [_root_.sub_self, zero_add, fm.rnd_id _ ht.r_mem, fm.rnd_zero]

/-! ### non-vacuity

First in the fixed-point model with 53 fractional bits (`FloatModel.fixed 53`, rounding toward zero): the time with
the largest admitted quotient `2^52` and the largest remainder below one, `1 - 2^-53`, and displacements between one
grid step and `2^40`; a pair of times as far apart as the quantifier allows for `sub_error`.  (In a fixed-point model
sums of representable numbers are exact; the instances in which the addition REALLY rounds are the binary64 ones
in the next section.) -/

section examples
/-- 53 fractional bits, rounding toward zero -/
abbrev fx : FloatModel := FloatModel.fixed 53 (by norm_num)

theorem fx_mem (x : ℚ) (m : ℤ) (h : x * 2 ^ 53 = m) : x ∈ fx.F := ⟨m, by rw [← h]; field_simp⟩

/-- `q = 2^52`, `r = 1 - 2^-53` -/
def tBig : Time (R fx) := ⟨ofQ (2 ^ 52), ofQ (1 - 1 / 2 ^ 53)⟩

theorem tBig_rep : Rep fx tBig :=
  Rep.ofQ (2 ^ 52) (by norm_num) (fx_mem (2 ^ 52) (2 ^ 105) (by norm_num))
    (fx_mem (1 - 1 / 2 ^ 53) (2 ^ 53 - 1) (by norm_num)) (by norm_num) (by norm_num)

theorem tBig_q : |toQ tBig.q| ≤ 2 ^ 52 := by simp only [tBig, toQ_ofQ]; norm_num

/-- one grid step, `2^-53` (for binary64 read: a tiny displacement) -/
def dSmall : R fx := ofQ (1 / 2 ^ 53)
/-- `2^40`, the largest admitted displacement -/
def dLarge : R fx := ofQ (2 ^ 40)

theorem dSmall_mem : toQ dSmall ∈ fx.F := fx_mem (1 / 2 ^ 53) 1 (by norm_num)
theorem dLarge_mem : toQ dLarge ∈ fx.F := fx_mem (2 ^ 40) (2 ^ 93) (by norm_num)
theorem dSmall_nonneg : 0 ≤ toQ dSmall := by simp [dSmall]
theorem dSmall_le : toQ dSmall ≤ 2 ^ 40 := by simp only [dSmall, toQ_ofQ]; norm_num
theorem dLarge_nonneg : 0 ≤ toQ dLarge := by simp [dLarge]
theorem dLarge_le : toQ dLarge ≤ 2 ^ 40 := by simp [dLarge]

example : Rep fx (Time.add (Ops.rounded fx) tBig dSmall) :=
  add_normalised tBig_rep tBig_q dSmall_nonneg dSmall_le
example : Rep fx (Time.add (Ops.rounded fx) tBig dLarge) :=
  add_normalised tBig_rep tBig_q dLarge_nonneg dLarge_le
example : val (Time.add (Ops.rounded fx) tBig dLarge) = toQ tBig.q + fx.rnd (toQ tBig.r + toQ dLarge) :=
  add_one_rounding tBig_rep tBig_q dLarge_nonneg dLarge_le
example : |val (Time.add (Ops.rounded fx) tBig dLarge) - (val tBig + toQ dLarge)|
    ≤ fx.eps * (toQ tBig.r + toQ dLarge) :=
  add_error tBig_rep tBig_q dLarge_mem dLarge_nonneg dLarge_le
example : Time.le (Time.add (Ops.rounded fx) tBig dSmall) (Time.add (Ops.rounded fx) tBig dLarge) = true :=
  add_mono tBig_rep tBig_q dSmall_nonneg dLarge_le
    (by simp only [dSmall, dLarge, toQ_ofQ]; norm_num)
example : Time.le tBig (Time.add (Ops.rounded fx) tBig dSmall) = true :=
  add_ge tBig_rep tBig_q dSmall_nonneg dSmall_le
example : val (Time.fromFloat (Ops.rounded fx) (ofQ (2 ^ 52 + 1 / 2))) = 2 ^ 52 + 1 / 2 := by
  have h : toQ (ofQ (2 ^ 52 + 1 / 2) : R fx) ∈ fx.F :=
    fx_mem (2 ^ 52 + 1 / 2) (2 ^ 105 + 2 ^ 52) (by norm_num)
  exact (fromFloat_exact _ h (by simp only [toQ_ofQ]; norm_num)).1
/-- `q = -2^52`, `r = 2^-53`: as far from `tBig` as the quantifier allows -/
def tNeg : Time (R fx) := ⟨ofQ (-2 ^ 52), ofQ (1 / 2 ^ 53)⟩

theorem tNeg_rep : Rep fx tNeg :=
  Rep.ofQ (-2 ^ 52) (by norm_num) (fx_mem (-2 ^ 52) (-2 ^ 105) (by norm_num)) (fx_mem (1 / 2 ^ 53) 1 (by norm_num))
    (by norm_num) (by norm_num)

example : |toQ (Time.sub tBig tNeg) - (val tBig - val tNeg)| ≤ 4 * fx.eps * max 1 |val tBig - val tNeg| :=
  sub_error tBig_rep tNeg_rep tBig_q (by simp only [tNeg, toQ_ofQ]; norm_num)
example : Time.lt tNeg tBig = true ↔ val tNeg < val tBig := lt_iff tNeg_rep.normalised tBig_rep.normalised
end examples

/-! ### the same, for IEEE-754 binary64 round-to-nearest-even

`FloatModel.binary64` (`JF/Lemmas/RoundedBinary.lean`) is a proved instance, so every theorem above holds for it;
the two error bounds with `eps = 2^-53` spelled out: -/

section binary64
abbrev b64 : FloatModel := FloatModel.binary64

/-- one addition is off by at most `2^-53 (r + d)`, whatever the quotient -/
theorem add_error_binary64 {t : Time (R b64)} {d : R b64} (ht : Rep b64 t) (hq : |toQ t.q| ≤ 2 ^ 52)
    (hdF : toQ d ∈ b64.F) (hd0 : 0 ≤ toQ d) (hd1 : toQ d ≤ 2 ^ 40) :
    |val (Time.add (Ops.rounded b64) t d) - (val t + toQ d)| ≤ (toQ t.r + toQ d) / 2 ^ 53 := by
  have := add_error ht hq hdF hd0 hd1
  rw [binary64_eps] at this
  rw [div_eq_mul_inv, mul_comm, ← one_div]; exact this

/-- a difference is off by at most `2^-51 max(1, |difference|)` (four units of `2^-53`) -/
theorem sub_error_binary64 {t u : Time (R b64)} (ht : Rep b64 t) (hu : Rep b64 u)
    (hqt : |toQ t.q| ≤ 2 ^ 52) (hqu : |toQ u.q| ≤ 2 ^ 52) :
    |toQ (Time.sub t u) - (val t - val u)| ≤ max 1 |val t - val u| / 2 ^ 51 := by
  have := sub_error ht hu hqt hqu
  rw [binary64_eps] at this
  have e : (4:ℚ) * (1 / 2 ^ 53) = 1 / 2 ^ 51 := by norm_num
  rw [e] at this
  rw [div_eq_mul_inv, mul_comm, ← one_div]; exact this

/-- `q = 2^52`, `r = 1 - 2^-53` (the largest double below one) -/
def tBig64 : Time (R b64) := ⟨ofQ (2 ^ 52), ofQ (1 - 1 / 2 ^ 53)⟩
/-- `2^-60`: `r + d` is NOT a double, the addition really rounds -/
def dTiny64 : R b64 := ofQ (1 / 2 ^ 60)
/-- the smallest subnormal, `2^-1074` -/
def dDenorm64 : R b64 := ofQ (2 ^ (-1074 : ℤ))

theorem one_le_two64 : (1:ℚ) ≤ 2 ^ 64 := one_le_pow₀ (by norm_num)
theorem denorm_le_one : (2:ℚ) ^ (-1074 : ℤ) ≤ 1 := zpow_le_one_of_nonpos₀ (by norm_num) (by norm_num)

theorem tBig64_rep : Rep b64 tBig64 :=
  Rep.ofQ (2 ^ 52) (by norm_num)
    (binary64_mem 1 52 (by norm_num) (by norm_num) (by norm_num)
      (by rw [abs_of_pos (by positivity)]; exact pow_le_pow_right₀ (by norm_num) (by norm_num)))
    (binary64_mem (2 ^ 53 - 1) (-53) (by norm_num) (by norm_num) (by norm_num)
      (by rw [abs_of_pos (by norm_num)]; exact le_trans (by norm_num) one_le_two64))
    (by norm_num) (by norm_num)

theorem tBig64_q : |toQ tBig64.q| ≤ 2 ^ 52 := by simp only [tBig64, toQ_ofQ]; norm_num

theorem dTiny64_mem : toQ dTiny64 ∈ b64.F := by
  show (1:ℚ) / 2 ^ 60 ∈ b64.F
  exact binary64_mem 1 (-60) (by norm_num) (by norm_num) (by norm_num)
    (by rw [abs_of_pos (by positivity)]; exact le_trans (by norm_num) one_le_two64)

theorem dTiny64_nonneg : 0 ≤ toQ dTiny64 := by simp [dTiny64]
theorem dTiny64_le : toQ dTiny64 ≤ 2 ^ 40 := by simp only [dTiny64, toQ_ofQ]; norm_num

theorem dDenorm64_mem : toQ dDenorm64 ∈ b64.F := by
  show (2:ℚ) ^ (-1074 : ℤ) ∈ b64.F
  exact binary64_mem 1 (-1074) (by norm_num) (by norm_num) (by simp)
    (by rw [abs_of_pos (zpow_pos (by norm_num) _)]; exact denorm_le_one.trans one_le_two64)

theorem dDenorm64_le : toQ dDenorm64 ≤ 2 ^ 40 := denorm_le_one.trans (one_le_pow₀ (by norm_num))

example : Rep b64 (Time.add (Ops.rounded b64) tBig64 dTiny64) :=
  add_normalised tBig64_rep tBig64_q dTiny64_nonneg dTiny64_le
example : |val (Time.add (Ops.rounded b64) tBig64 dTiny64) - (val tBig64 + toQ dTiny64)|
    ≤ (toQ tBig64.r + toQ dTiny64) / 2 ^ 53 :=
  add_error_binary64 tBig64_rep tBig64_q dTiny64_mem dTiny64_nonneg dTiny64_le
/-- denormal displacement at the largest quotient -/
example : Time.le tBig64 (Time.add (Ops.rounded b64) tBig64 dDenorm64) = true :=
  add_ge tBig64_rep tBig64_q (zpow_pos (by norm_num) _).le dDenorm64_le
example : Time.le (Time.add (Ops.rounded b64) tBig64 dDenorm64) (Time.add (Ops.rounded b64) tBig64 dTiny64) = true :=
  add_mono tBig64_rep tBig64_q (zpow_pos (by norm_num) _).le dTiny64_le (by
    show (2:ℚ) ^ (-1074 : ℤ) ≤ 1 / 2 ^ 60
    have : (2:ℚ) ^ (-1074 : ℤ) ≤ 2 ^ (-60 : ℤ) := zpow_le_zpow_right₀ (by norm_num) (by norm_num)
    calc (2:ℚ) ^ (-1074 : ℤ) ≤ 2 ^ (-60 : ℤ) := this
      _ = 1 / 2 ^ 60 := by norm_num)
example : |toQ (Time.sub (Time.add (Ops.rounded b64) tBig64 dTiny64) tBig64)
      - (val (Time.add (Ops.rounded b64) tBig64 dTiny64) - val tBig64)|
    ≤ 4 * b64.eps * max 1 |val (Time.add (Ops.rounded b64) tBig64 dTiny64) - val tBig64| := by
  have hb := add_q_bound tBig64_rep tBig64_q dTiny64_nonneg dTiny64_le
  apply sub_error' (add_normalised tBig64_rep tBig64_q dTiny64_nonneg dTiny64_le) tBig64_rep
  have h53 : (2:ℚ) ^ 40 + 1 ≤ 2 ^ 53 := by norm_num
  rw [abs_le]; constructor
  · linarith [hb.1]
  · linarith [hb.2]
/-- floats: the displacement `2^-60` is absorbed by the rounding of `r + d` (`add_ge` cannot be strict) -/
theorem absorbed64 : b64.rnd (toQ tBig64.r + toQ dTiny64) = toQ tBig64.r := by
  show max (-maxDouble) (min maxDouble (brnd rne 53 (-1074) ((1 - 1 / 2 ^ 53) + 1 / 2 ^ 60))) = 1 - 1 / 2 ^ 53
  have e : ex 53 (-1074) ((1 - 1 / 2 ^ 53) + 1 / 2 ^ 60) = -53 := ex_eq (k := -1) (by norm_num) (by norm_num)
  have hb : brnd rne 53 (-1074) ((1 - 1 / 2 ^ 53) + 1 / 2 ^ 60) = 1 - 1 / 2 ^ 53 := by
    rw [brnd_rne_eq (n := 2 ^ 53 - 1) e (by norm_num [abs_le]) fun h => absurd h (ne_of_lt (by norm_num [abs_lt]))]
    norm_num
  have h1 : (1:ℚ) ≤ maxDouble := le_trans (one_le_pow₀ (by norm_num)) maxDouble_ge
  rw [hb, min_eq_right ((sub_le_self 1 (by positivity)).trans h1),
    max_eq_right ((neg_nonpos.mpr (zero_le_one.trans h1)).trans (by norm_num))]

example : val (Time.add (Ops.rounded b64) tBig64 dTiny64) = val tBig64 := by
  rw [add_one_rounding tBig64_rep tBig64_q dTiny64_nonneg dTiny64_le,
    absorbed64]; rfl
end binary64

end JF.C14F
