import JF.Props.C15
import JF.Model.Kinematics
/-!
# C07, rounding-abstract reading of the time slice — "positions remain inside the periodic box"

`BasicEventHandler._time_slice_unit` computes, per coordinate, `correct_position_entry(p + v * dt)` (model
`JF.Kin.sliceCoord`, the repaired position correction `pywrap`).  Read over `RQ R` — rationals whose `+ − ×` round
with an ARBITRARY monotone idempotent rounding `R.rnd` (`JF/Lemmas/PeriodicRnd.lean`), `fmod` exact as in C — the
sliced coordinate lies in the HALF-OPEN box `[0, L)` and is representable for EVERY position, velocity and time
difference, whatever the roundings of the product and of the sum did (`slice_in_box`); this is the float-level
statement behind the box clause of the exact reading (`C07.sliceCoord_mem`, `C07.step_inBox`).  (Before the repair
`f8d52fc` the statement was false in binary64: `C15.float_modulo_rounds_to_L` keeps the witness.)

Standing hypotheses as in C15 §7: `0` and `L` representable, the exact `fmod` result representable (true for binary
floating point: `fmod` never rounds).
-/
namespace JF.C07F
open JF JF.Kin JF.Periodic JF.C15

variable (R : Rnd)

/-- multiplication of `RQ R` rounds like the other operations -/
instance : Mul (RQ R) := ⟨fun a b => ⟨R.rnd (a.val * b.val)⟩⟩
@[simp] theorem mul_val (a b : RQ R) : (a * b).val = R.rnd (a.val * b.val) := rfl

/-- the argument of the position correction: `fl(p + fl(v * dt))`, two roundings -/
theorem slice_arg (p v dt : RQ R) : (p + v * dt).val = R.rnd (p.val + R.rnd (v.val * dt.val)) := rfl

theorem sliceCoord_eq (L p v dt : RQ R) : sliceCoord (opsRq R) L p v dt = wrap (opsRq R) (p + v * dt) L := rfl

/-- **every time-sliced coordinate lies in `[0, L)`**, for every position (inside the box or not), velocity and time
difference and every monotone rounding -/
theorem slice_in_box (L p v dt : RQ R) (hL : 0 < L.val) (h0 : R.Rep 0) (hLr : R.Rep L.val)
    (hm : R.Rep (Ops.rat.fmod (p + v * dt).val L.val)) :
    0 ≤ (sliceCoord (opsRq R) L p v dt).val ∧ (sliceCoord (opsRq R) L p v dt).val < L.val := by
  rw [sliceCoord_eq]; exact rq_wrap_range R (p + v * dt) L hL h0 hLr hm

/-- … and is representable -/
theorem slice_rep (L p v dt : RQ R) (h0 : R.Rep 0) (hm : R.Rep (Ops.rat.fmod (p + v * dt).val L.val)) :
    R.Rep (sliceCoord (opsRq R) L p v dt).val := by
  rw [sliceCoord_eq]; exact rq_wrap_rep R (p + v * dt) L h0 hm

/-- it is the exact position `p + v·dt` up to the two roundings of the argument, wrapped and rounded once more
(or `0` when that last rounding is `L`) -/
theorem slice_cases (L p v dt : RQ R) (hL : 0 < L.val) (h0 : R.Rep 0)
    (hm : R.Rep (Ops.rat.fmod (p + v * dt).val L.val)) :
    (sliceCoord (opsRq R) L p v dt).val = R.rnd (wrap Ops.rat (R.rnd (p.val + R.rnd (v.val * dt.val))) L.val) ∨
    (R.rnd (wrap Ops.rat (R.rnd (p.val + R.rnd (v.val * dt.val))) L.val) = L.val ∧
      (sliceCoord (opsRq R) L p v dt).val = 0) := by
  rw [sliceCoord_eq, ← slice_arg]; exact rq_wrap_cases R (p + v * dt) L hL h0 hm

/-- slicing by a zero time difference does not move a representable position of the box (time-slicing twice to the same
time is time-slicing once) -/
theorem slice_zero_dt (L p v dt : RQ R) (hdt : dt.val = 0) (hp0 : 0 ≤ p.val) (hp1 : p.val < L.val) (h0 : R.Rep 0)
    (hp : R.Rep p.val) : (sliceCoord (opsRq R) L p v dt).val = p.val := by
  have e : (p + v * dt).val = p.val := by
    rw [slice_arg, hdt, mul_zero]
    have h0' : R.rnd 0 = 0 := h0
    rw [h0', add_zero]
    exact hp
  rw [sliceCoord_eq]
  have hx0 : 0 ≤ (p + v * dt).val := by rw [e]; exact hp0
  have hx1 : (p + v * dt).val < L.val := by rw [e]; exact hp1
  rw [rq_wrap_fixed R (p + v * dt) L hx0 hx1 h0 (by rw [e]; exact hp), e]

/-- hence: slicing a sliced coordinate again to the same time leaves it where it is -/
theorem slice_idem (L p v dt dt' : RQ R) (hdt' : dt'.val = 0) (hL : 0 < L.val) (h0 : R.Rep 0) (hLr : R.Rep L.val)
    (hm : R.Rep (Ops.rat.fmod (p + v * dt).val L.val)) :
    (sliceCoord (opsRq R) L (sliceCoord (opsRq R) L p v dt) v dt').val = (sliceCoord (opsRq R) L p v dt).val := by
  have hb := slice_in_box R L p v dt hL h0 hLr hm
  exact slice_zero_dt R L _ v dt' hdt' hb.1 hb.2 h0 (slice_rep R L p v dt h0 hm)

/-- non-vacuity with the toy rounding of C15 (round up to the next integer from zero on): `L = 3`, `p = 2`, `v = 1`,
`dt = 1/2`: the product `1/2` rounds to `1`, the sum is `3 = L`, the corrected coordinate is `0` — inside the box -/
example : toyRnd.Rep 0 ∧ toyRnd.Rep 3 ∧
    ((⟨2⟩ : RQ toyRnd) + (⟨1⟩ : RQ toyRnd) * ⟨1 / 2⟩).val = 3 := by
  refine ⟨by simp [Rnd.Rep, toyRnd], by norm_num [Rnd.Rep, toyRnd], ?_⟩
  rw [slice_arg]
  norm_num [toyRnd]

end JF.C07F
