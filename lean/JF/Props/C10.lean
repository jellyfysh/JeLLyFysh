import JF.Model.CellTaggers
import JF.Model.FactorMaps
import JF.Lemmas.FactorCells
import JF.Lemmas.FactorMaps
import JF.Lemmas.FactorSpec
/-!
# C10 — Cell-based and file-based factor decompositions cover each partner exactly once

Definitions used in the statements (`nonNearby`, `others`, `InterType`, `IntraType`, `WellFormed`,
`Tidy`) and the helper lemmas live in `JF/Lemmas/FactorSpec.lean`, `FactorCells.lean`,
`FactorMaps.lean`; the executable models in `JF/Model/CellTaggers.lean`, `JF/Model/FactorMaps.lean`.

## Cell half
Model: the four cell taggers, the walker domain of the cell-veto event handler with the target-cell
computation of `send_event_time`, and the mediator's `get_arguments_cell_veto_event_handler`, over
an occupancy state given as data satisfying the explicit invariant `OccInv`.
Main theorems: `cell_partition_veto`, `cell_partition_bounding` (permutation = equality as
multisets), corollaries `cell_targets_nodup`, `cell_target_exactly_one_family`; they rest on
`veto_domain_translate` (the walker domain translated to the active cell is exactly the set of
non-nearby cells, each once), `cells_split` (nearby / non-nearby are complementary) and
`veto_key_is_item`.  All for every dimension, every grid, every number of layers (also layers
that wrap around the torus), every occupancy state.

## Factor-file half
Model: the parsing loop, `append_to_map`, the `local` setter, the four yield functions, the
fall-back map and the tagger's `set`.
Main theorems: `instantiate_ok_iff` (accepted = well-formed), `factor_spec_inter`,
`factor_spec_intra`, `factor_spec_no_composite`, `factor_default` (what is yielded, as an equation
of lists), `tagger_spec` (active composite object: de-duplicated union), `factor_file_total` (the
packaged statement, with "each once": `nodup_inst_others`, `nodup_inst_same`), and
`shipped_wellformed_tidy` (all six shipped files satisfy its hypotheses).
Named error outcome: `intra_type_unmentioned_leaf_keyerror`.

`factor_symmetric` + `shipped_mirrored`: with mirrored lines (all shipped files) both members of an
inter-object factor see it.

Proved elsewhere: that `SingleActiveCellOccupancy` establishes `OccInv` — `JF.C10C11.reach_occInv`
(`JF/Props/C10C11.lean`) derives it from C11's invariant at every reachable state and restates the partition theorems
with no occupancy hypothesis.
The float detour of the real `translate` / `relative_cell` equals the integer torus arithmetic used here: in the exact
reading `JF.C16.relative_spec`, `translate_spec`, `translate_relative`, `relative_translate` (`JF/Props/C16.lean`); the
binary64 rounding of that detour is left to the correspondence run.
-/
namespace JF.C10
open JF.CellTaggers


/-- The table of derivative bounds is keyed by `relative_cell(cell, zero_cell)` but looked up with
the walker item `cell`: the two coincide, so the look-up in `send_event_time` cannot miss. -/
theorem veto_key_is_item (g : Grid) (p : Cell × Cell) (hp : p ∈ vetoDomainKeyed g) : p.2 = p.1 := by
  simp only [vetoDomainKeyed, List.mem_map, List.mem_filter] at hp
  obtain ⟨c, ⟨hc, _⟩, rfl⟩ := hp
  exact relative_zero (mem_allCells.mp hc)

/-- **The veto domain is exactly the set of non-nearby cells.** Translating every cell the walker
can sample by the active cell gives every cell that is not nearby the active cell, each exactly
once (as lists: a permutation). -/
theorem veto_domain_translate (g : Grid) (ac : Cell) (hac : Valid g.n ac) :
    ((vetoDomain g).map (translate g.n ac)).Perm (nonNearby g ac) := by
  rw [vetoDomain_eq]
  exact (translate_perm hac).filter_map_comm fun r hr => by rw [isNearby_translate hac (mem_allCells.mp hr)]

/-- **Nearby and non-nearby cells are complementary**: together they are all cells, each once. -/
theorem cells_split (g : Grid) (ac : Cell) (hac : Valid g.n ac) :
    (nearby g ac ++ nonNearby g ac).Perm (allCells g.n) := by
  have h1 : ((allCells g.n).filter fun x => isNearby g ac x).Perm (nearby g ac) := by
    rw [List.perm_ext_iff_of_nodup ((nodup_allCells g.n).filter _) (nodup_nearby g ac)]
    intro x
    simp only [List.mem_filter, mem_allCells, isNearby, List.contains_iff_mem]
    exact ⟨fun h => h.2, fun h => ⟨nearbyProduct_valid hac (mem_dedupe.mp h), h⟩⟩
  exact (h1.symm.append (List.Perm.refl _)).trans (List.filter_append_perm _ _)

/-- with at most one occupant per cell (the shipped leaf-unit cell-veto set-up) the mediator hands
exactly one argument to `send_out_state` -/
theorem vetoArgs_single (s : Occ) (c : Cell) (h : (s.occ c).length ≤ 1) : (vetoArgs s c).length = 1 := by
  unfold vetoArgs
  split
  · rfl
  · rename_i hne
    have : s.occ c ≠ [] := by simpa using hne
    have : 0 < (s.occ c).length := List.length_pos_iff.mpr this
    simp; omega

/-- The explicit invariant of the occupancy state the theorems need (that `SingleActiveCellOccupancy`
maintains it is property C11): the active unit is `a` in the valid cell `ac`, and the stored
identifiers (occupants of all cells, then surplus) are the relevant units other than `a`,
each exactly once. -/
structure OccInv (g : Grid) (s : Occ) (relevant : List Ident) (ac : Cell) (a : Ident) : Prop where
  active : s.active = some (ac, a)
  cell_valid : Valid g.n ac
  relevant_nodup : relevant.Nodup
  active_relevant : a ∈ relevant
  stored_eq : (stored g s).Perm (relevant.erase a)

/-- what the three event families treat never depends on the invariant: it is the stored units,
re-grouped (`X`: the occupants of the non-nearby cells, in the order of the family that treats them) -/
theorem cell_families_are_stored (g : Grid) (s : Occ) (ac : Cell) (hac : Valid g.n ac) {X : List Ident}
    (hX : X.Perm ((nonNearby g ac).flatMap s.occ)) :
    (X ++ (nearby g ac).flatMap s.occ ++ s.yieldSurplus).Perm (stored g s) := by
  have h2 := (cells_split g ac hac).flatMap_right s.occ
  rw [List.flatMap_append] at h2
  exact (((hX.append (List.Perm.refl _)).trans List.perm_append_comm).trans h2).append (List.Perm.refl _)

/-- **C10, cell half (cell-veto variant).**  Occupants of non-nearby cells (reached through the
walker domain, the translation to the active cell and the mediator's look-up), occupants of nearby
cells (pair in-states of the excluded-cells tagger) and surplus units (pair in-states of the
surplus tagger) together are exactly the relevant units other than the active one — as a list
permutation, i.e. with multiplicities: nobody is missed, nobody is treated twice. -/
theorem cell_partition_veto (g : Grid) (s : Occ) (relevant : List Ident) (ac : Cell) (a : Ident)
    (inv : OccInv g s relevant ac a) :
    (targetsVeto g s ++ targetsExcluded g s ++ targetsSurplus s).Perm (relevant.erase a) := by
  rw [targetsVeto_eq g s ac a inv.active, targetsExcluded_eq g s ac a inv.active, targetsSurplus_eq s ac a inv.active]
  exact (cell_families_are_stored g s ac inv.cell_valid
    ((veto_domain_translate g ac inv.cell_valid).flatMap_right s.occ)).trans inv.stored_eq

/-- **C10, cell half (cell-bounding-potential variant).** -/
theorem cell_partition_bounding (g : Grid) (s : Occ) (relevant : List Ident) (ac : Cell) (a : Ident)
    (inv : OccInv g s relevant ac a) :
    (targetsBounding g s ++ targetsExcluded g s ++ targetsSurplus s).Perm (relevant.erase a) := by
  rw [targetsBounding_eq g s ac a inv.active, targetsExcluded_eq g s ac a inv.active,
    targetsSurplus_eq s ac a inv.active]
  exact (cell_families_are_stored g s ac inv.cell_valid (List.Perm.refl _)).trans inv.stored_eq

/-- nobody is treated twice, and the active unit is not its own target -/
theorem cell_targets_nodup (g : Grid) (s : Occ) (relevant : List Ident) (ac : Cell) (a : Ident)
    (inv : OccInv g s relevant ac a) :
    (targetsVeto g s ++ targetsExcluded g s ++ targetsSurplus s).Nodup ∧
    (targetsBounding g s ++ targetsExcluded g s ++ targetsSurplus s).Nodup ∧
    a ∉ targetsVeto g s ++ targetsExcluded g s ++ targetsSurplus s ∧
    a ∉ targetsBounding g s ++ targetsExcluded g s ++ targetsSurplus s := by
  have hn : (relevant.erase a).Nodup := inv.relevant_nodup.erase a
  have ha : a ∉ relevant.erase a := fun h => (List.Nodup.mem_erase_iff inv.relevant_nodup).mp h |>.1 rfl
  have p1 := cell_partition_veto g s relevant ac a inv
  have p2 := cell_partition_bounding g s relevant ac a inv
  exact ⟨p1.nodup_iff.mpr hn, p2.nodup_iff.mpr hn, fun h => ha (p1.subset h), fun h => ha (p2.subset h)⟩

theorem count_of_perm_nodup {α : Type} [BEq α] [LawfulBEq α] {A B C P : List α} (h : (A ++ B ++ C).Perm P)
    (hP : P.Nodup) (u : α) [Decidable (u ∈ P)] : A.count u + B.count u + C.count u = if u ∈ P then 1 else 0 := by
  rw [← List.count_append, ← List.count_append, h.count_eq]
  split
  · exact List.count_eq_one_of_mem hP ‹_›
  · exact List.count_eq_zero.mpr ‹_›

/-- every other relevant unit is the target of exactly one in-state / walker cell in total:
its multiplicities in the three families add up to one -/
theorem cell_target_exactly_one_family (g : Grid) (s : Occ) (relevant : List Ident) (ac : Cell) (a : Ident)
    (inv : OccInv g s relevant ac a) (u : Ident) (hu : u ∈ relevant) (hua : u ≠ a) :
    (targetsVeto g s).count u + (targetsExcluded g s).count u + (targetsSurplus s).count u = 1 ∧
    (targetsBounding g s).count u + (targetsExcluded g s).count u + (targetsSurplus s).count u = 1 := by
  have hn : (relevant.erase a).Nodup := inv.relevant_nodup.erase a
  have hm : u ∈ relevant.erase a := (List.mem_erase_of_ne hua).mpr hu
  exact ⟨(count_of_perm_nodup (cell_partition_veto g s relevant ac a inv) hn u).trans (if_pos hm),
    (count_of_perm_nodup (cell_partition_bounding g s relevant ac a inv) hn u).trans (if_pos hm)⟩

/-- a deactivated / irrelevant active unit: no cell-based in-state at all -/
theorem no_active_no_instates (g : Grid) (s : Occ) (h : s.active = none) :
    cellVetoTagger s = [] ∧ cellBoundingTagger g s = [] ∧ excludedCellsTagger g s = [] ∧
    surplusCellsTagger s = [] ∧ vetoTargets g s = [] := by
  simp [cellVetoTagger, cellBoundingTagger, excludedCellsTagger, surplusCellsTagger, vetoTargets, h]

/-- every in-state of the four taggers starts with the active unit -/
theorem instates_start_with_active (g : Grid) (s : Occ) (ac : Cell) (a : Ident) (h : s.active = some (ac, a)) :
    ∀ i ∈ cellVetoTagger s ++ cellBoundingTagger g s ++ excludedCellsTagger g s ++ surplusCellsTagger s,
      i.head? = some a := by
  intro i hi
  simp only [cellVetoTagger, cellBoundingTagger, excludedCellsTagger, surplusCellsTagger, h,
    List.mem_append, List.mem_map, List.mem_flatMap, List.mem_singleton] at hi
  rcases hi with ((rfl | ⟨c, _, rfl⟩) | ⟨c, _, o, _, rfl⟩) | ⟨x, _, rfl⟩ <;> rfl

open JF.FactorMaps

/-- **C10, factor half, inter-object factor types.**  For an accepted file, an inter-object type
`ty`, composite objects with more than one point mass and a valid active point mass `(r, i)`:
the in-states are the lines of the type that contain `i` (as an index of the first object;
`entries` = in file order, once per occurrence), instantiated once per other composite object `o`
— and nothing else. -/
theorem factor_spec_inter (s : Setting) (lines : List Line) (fs : Factors) (ty : String) (r i : Nat)
    (h : instantiate s lines [] = .ok fs) (hinter : InterType s lines ty) (hn : s.nPer ≠ 1)
    (hr : r < s.nRoots) (hi : i < s.nPer) :
    yieldFactor s fs ty [r, i] =
      .ok ((others s r).flatMap fun o => (entries i (linesOf lines ty)).map (inst s.nPer r o)) := by
  obtain ⟨tm, hl, hb, g⟩ := lookup_inter h hinter
  have hn1 : (s.nPer == 1) = false := by simpa using hn
  have hm := g.map i
  simp only [hi, if_true] at hm
  simp only [yieldFactor, hl, hb, hn1, Bool.false_eq_true, if_false, yieldNonLocal, hr, hi, and_self,
    if_true, others]
  congr 2
  funext o
  rw [← hm]
  exact match_lookup_eq_getL tm.map i _

/-- **C10, factor half, intra-object factor types.**  The in-states for `(r, i)` are the lines of the
type containing `i`, instantiated once, within the active composite object.  If no line of the
type contains `i` the real code raises `KeyError` (a loud error outcome) instead of yielding
nothing. -/
theorem factor_spec_intra (s : Setting) (lines : List Line) (fs : Factors) (ty : String) (r i : Nat)
    (h : instantiate s lines [] = .ok fs) (hintra : IntraType s lines ty)
    (hr : r < s.nRoots) (hi : i < s.nPer) :
    yieldFactor s fs ty [r, i] =
      if entries i (linesOf lines ty) = [] then .error "KeyError"
      else .ok ((entries i (linesOf lines ty)).map (inst s.nPer r r)) := by
  obtain ⟨tm, hl, hb, g⟩ := lookup_intra h hintra
  have hgl := g.map i
  simp only [hi, if_true] at hgl
  simp only [yieldFactor, hl, hb, yieldLocal, hr, if_true]
  cases hlk : tm.map.lookup i with
  | none =>
    have : entries i (linesOf lines ty) = [] := by
      rw [← hgl]; exact (lookup_none_iff g.noEmpty i).mp hlk
    simp [this]
  | some ls =>
    have hls : ls = entries i (linesOf lines ty) := by rw [← hgl, lookup_some_getL hlk]
    have hne' : entries i (linesOf lines ty) ≠ [] := hls ▸ g.noEmpty i ls hlk
    simp only [hne', if_false]
    subst hls
    congr 1
    apply List.map_congr_left
    intro S' hS'
    have hS'L : S' ∈ linesOf lines ty := by
      simp only [entries, List.mem_flatMap] at hS'
      obtain ⟨S'', h1, h2⟩ := hS'
      rw [List.eq_of_mem_replicate h2]; exact h1
    exact (inst_same (hintra.2 S' hS'L)).symm

/-- an intra-object type asked for an index beyond the composite object: `KeyError` -/
theorem factor_intra_index_out_of_range (s : Setting) (lines : List Line) (fs : Factors) (ty : String)
    (r i : Nat) (h : instantiate s lines [] = .ok fs) (hintra : IntraType s lines ty)
    (hr : r < s.nRoots) (hi : ¬ i < s.nPer) :
    yieldFactor s fs ty [r, i] = .error "KeyError" := by
  obtain ⟨tm, hl, hb, g⟩ := lookup_intra h hintra
  have hgl := g.map i
  simp only [hi, if_false] at hgl
  have := (lookup_none_iff g.noEmpty i).mpr hgl
  simp [yieldFactor, hl, hb, yieldLocal, hr, this]

/-- **C10, factor half, no composite objects (`n = 1`).**  An inter-object type of the file (the
shipped `[0, 1], Coulomb`) yields the pair of the active point mass with every other point mass,
once each; the content of the lines is not consulted. -/
theorem factor_spec_no_composite (s : Setting) (lines : List Line) (fs : Factors) (ty : String) (r : Nat)
    (h : instantiate s lines [] = .ok fs) (hinter : InterType s lines ty) (hn : s.nPer = 1)
    (hr : r < s.nRoots) :
    yieldFactor s fs ty [r] = .ok ((others s r).map fun o => [[r], [o]]) := by
  obtain ⟨tm, hl, hb, _⟩ := lookup_inter h hinter
  have hn1 : (s.nPer == 1) = true := by simpa using hn
  simp only [yieldFactor, hl, hb, hn1, if_true, yieldNoComposite, hr, others]
  congr 2
  exact List.filter_congr fun o _ => by simp [bne]

/-- a factor type that does not occur in the file falls back on the all-pairs map -/
theorem factor_default (s : Setting) (lines : List Line) (fs : Factors) (ty : String) (r i : Nat)
    (h : instantiate s lines [] = .ok fs) (habs : linesOf lines ty = []) (hn : s.nPer ≠ 1)
    (hr : r < s.nRoots) (hi : i < s.nPer) :
    yieldFactor s fs ty [r, i] =
      .ok ((others s r).flatMap fun o => (List.range s.nPer).map fun l => [[r, i], [o, l]]) := by
  have hg := good_of_instantiate h
  have hl : fs.lookup ty = none := by
    cases hl : fs.lookup ty with
    | none => rfl
    | some tm => exact absurd habs (hg.present _ _ hl).nonempty
  have hn1 : (s.nPer == 1) = false := by simpa using hn
  simp [yieldFactor, hl, hn1, yieldAllComposite, hr, hi, others]

/-! ### the tagger: union over the active leaves, de-duplicated -/

/-- **C10, factor half, active composite object.**  The tagger yields every in-state that some
active leaf yields, and each exactly once (the in-state of a factor with several active members
is not duplicated). -/
theorem tagger_spec (s : Setting) (fs : Factors) (ty : String) (leaves : List FactorMaps.Ident) (l : List InState)
    (h : taggerYield s fs ty leaves = .ok l) :
    l.Nodup ∧ ∀ f, f ∈ l ↔ ∃ leaf ∈ leaves, ∃ l', yieldFactor s fs ty leaf = .ok l' ∧ f ∈ l' := by
  simp only [taggerYield] at h
  split at h
  · cases h
  · rename_i la hla
    injection h with h
    subst h
    exact ⟨nodup_dedupe _, fun f => by rw [mem_dedupe]; exact yieldAll_ok hla f⟩

/-- the tagger fails only if one of the leaves' maps fails, with that error -/
theorem tagger_error (s : Setting) (fs : Factors) (ty : String) (leaves : List FactorMaps.Ident) (e : String)
    (h : taggerYield s fs ty leaves = .error e) :
    ∃ leaf ∈ leaves, yieldFactor s fs ty leaf = .error e := by
  simp only [taggerYield] at h
  split at h
  · rename_i e' he'
    injection h with h
    subst h; exact yieldAll_error he'
  · cases h


/-- **the parser accepts exactly the well-formed files** (error outcomes `FactorSetError` for an
index `≥ 2n` and `AttributeError` for a type of mixed locality are the only ways to fail) -/
theorem instantiate_ok_iff (s : Setting) (lines : List Line) :
    (∃ fs, instantiate s lines [] = .ok fs) ↔ WellFormed s.nPer lines := by
  constructor
  · rintro ⟨fs, h⟩
    refine ⟨(good_of_instantiate h).bound, ?_⟩
    intro ln hln ln' hln' hty
    have hg := good_of_instantiate h
    have hS : ln.idx ∈ linesOf lines ln.ty := mem_linesOf.mpr ⟨ln, hln, rfl, rfl⟩
    have hS' : ln'.idx ∈ linesOf lines ln.ty := mem_linesOf.mpr ⟨ln', hln', hty.symm, rfl⟩
    obtain ⟨tm, _, g⟩ := lookup_of_lines h (List.ne_nil_of_mem hS)
    exact Option.some.inj ((g.loc _ hS).symm.trans (g.loc _ hS'))
  · intro hw
    exact instantiate_ok_of (good_nil s) (by simpa using hw)

/-- **C10, factor half, packaged.**  For a well-formed tidy file, composite objects of more than
one point mass, a factor type of the file and a valid active point mass `(r, i)`: the parser
accepts the file, the map yields without error, no in-state twice, and an in-state is yielded iff
it is a line `S` of the type with `i ∈ S`, instantiated for `r` and one other composite object
`o ≠ r` (inter-object type) resp. within `r` (intra-object type). -/
theorem factor_file_total (s : Setting) (lines : List Line) (ty : String) (r i : Nat)
    (hw : WellFormed s.nPer lines) (ht : Tidy s.nPer lines) (hn : s.nPer ≠ 1)
    (hty : linesOf lines ty ≠ []) (hr : r < s.nRoots) (hi : i < s.nPer) :
    ∃ fs l, instantiate s lines [] = .ok fs ∧ yieldFactor s fs ty [r, i] = .ok l ∧ l.Nodup ∧
      ∀ f, f ∈ l ↔ ∃ S ∈ linesOf lines ty, i ∈ S ∧
        ((InterType s lines ty ∧ ∃ o, o < s.nRoots ∧ o ≠ r ∧ f = inst s.nPer r o S) ∨
         (IntraType s lines ty ∧ f = inst s.nPer r r S)) := by
  obtain ⟨fs, h⟩ := (instantiate_ok_iff s lines).mpr hw
  have hset : ∀ S ∈ linesOf lines ty, S.Nodup := by
    intro S hS
    obtain ⟨ln, hln, _, rfl⟩ := mem_linesOf.mp hS
    exact ht.1 ln hln
  obtain ⟨S0, hS0⟩ := List.exists_mem_of_ne_nil _ hty
  obtain ⟨ln0, hln0, hty0, rfl⟩ := mem_linesOf.mp hS0
  have hlines : (linesOf lines ty).Nodup := hty0 ▸ ht.2.1 ln0 hln0
  -- index sets: "once per occurrence" is "the lines that contain `i`"
  have hent := entries_of_nodup i _ hset
  by_cases hintra : IntraType s lines ty
  · have hne : (linesOf lines ty).filter (fun S => S.contains i) ≠ [] := by
      have hloc : isLocalLine s.nPer ln0.idx = true := by
        simp only [isLocalLine, List.all_eq_true, decide_eq_true_eq]
        exact hintra.2 _ hS0
      obtain ⟨S, hS, hiS⟩ := ht.2.2 ln0 hln0 hloc i hi
      exact List.ne_nil_of_mem (List.mem_filter.mpr ⟨hty0 ▸ hS, by simpa using hiS⟩)
    refine ⟨fs, _, h, by rw [factor_spec_intra s lines fs ty r i h hintra hr hi, hent, if_neg hne],
      nodup_inst_same _ _ (hlines.filter _) fun S hS => hintra.2 S (List.mem_filter.mp hS).1, fun f => ?_⟩
    simp only [List.mem_map, List.mem_filter, List.contains_iff_mem]
    constructor
    · rintro ⟨S, ⟨hS, hiS⟩, rfl⟩
      exact ⟨S, hS, hiS, Or.inr ⟨hintra, rfl⟩⟩
    · rintro ⟨S, hS, hiS, (⟨⟨S', hS', t, ht', htn⟩, _⟩ | ⟨_, rfl⟩)⟩
      · exact absurd (hintra.2 S' hS' t ht') (by omega)
      · exact ⟨S, ⟨hS, hiS⟩, rfl⟩
  · have hinter : InterType s lines ty := by
      by_contra hni
      exact hintra ⟨hty, fun S hS t ht' => by_contra fun hlt => hni ⟨S, hS, t, ht', by omega⟩⟩
    -- every line of an inter-object type reaches into the other object
    have hreach : ∀ S ∈ linesOf lines ty, ∃ t ∈ S, s.nPer ≤ t := by
      obtain ⟨tm, _, hb, g⟩ := lookup_inter h hinter
      intro S hS
      have := (g.loc S hS).symm.trans hb
      simp only [Option.some.injEq, isLocalLine, List.all_eq_false] at this
      obtain ⟨t, ht, htn⟩ := this
      exact ⟨t, ht, by simpa using htn⟩
    refine ⟨fs, _, h, by rw [factor_spec_inter s lines fs ty r i h hinter hn hr hi, hent],
      nodup_inst_others _ _ (nodup_others s r) (fun o ho => (mem_others.mp ho).2) (hlines.filter _)
        fun S hS => hreach S (List.mem_filter.mp hS).1, fun f => ?_⟩
    simp only [List.mem_flatMap, List.mem_map, List.mem_filter, List.contains_iff_mem, mem_others]
    constructor
    · rintro ⟨o, ⟨ho, hor⟩, S, ⟨hS, hiS⟩, rfl⟩
      exact ⟨S, hS, hiS, Or.inl ⟨hinter, o, ho, hor, rfl⟩⟩
    · rintro ⟨S, hS, hiS, (⟨_, o, ho, hor, rfl⟩ | ⟨hintra', _⟩)⟩
      · exact ⟨o, ⟨ho, hor⟩, S, ⟨hS, hiS⟩, rfl⟩
      · exact (hintra hintra').elim

/-- **every shipped factor-set file is well formed and tidy** for the composite-object size it is
written for (so `factor_file_total` applies to all of them: in particular the `KeyError` outcome
cannot occur with a shipped file).  The table `shipped` is compared with the files of the tree
under test by the correspondence run. -/
theorem shipped_wellformed_tidy : ∀ f ∈ shipped, WellFormed f.2.1 f.2.2 ∧ Tidy f.2.1 f.2.2 := by
  decide +kernel


/-- **Symmetry of an inter-object factor.**  In a well-formed file whose type `ty` is mirrored, let
`f = inst r o S` be an in-state yielded for the active point mass `(r, i)` (`S` a line of the
type, `i ∈ S`) and let `(o, j)` be one of its members in the other composite object
(`j + n ∈ S`).  Then the type has a line `S'` containing `j` whose instantiation for the active
composite object `o` and the other one `r` is the same factor (the same identifiers, possibly in
another order) — so by `factor_spec_inter` it is yielded when `(o, j)` is the active point mass:
both members see the factor. -/
theorem factor_symmetric (n : Nat) (lines : List Line) (ty : String) (r o j : Nat) (S : List Nat)
    (hw : WellFormed n lines) (hm : Mirrored n lines ty) (hS : S ∈ linesOf lines ty)
    (hj : j + n ∈ S) :
    ∃ S' ∈ linesOf lines ty, j ∈ S' ∧ (inst n o r S').Perm (inst n r o S) := by
  obtain ⟨S', hS', hp⟩ := hm S hS
  have hb : ∀ t ∈ S, t < 2 * n := by
    obtain ⟨ln, hln, _, rfl⟩ := mem_linesOf.mp hS
    exact hw.1 ln hln
  refine ⟨S', hS', ?_, ?_⟩
  · refine hp.symm.subset ?_
    simp only [mirror, List.mem_map]
    exact ⟨j + n, hj, by rw [if_neg (by omega)]; omega⟩
  · rw [← inst_mirror n r o S hb]
    exact hp.map _

/-- every inter-object type of every shipped file is mirrored -/
theorem shipped_mirrored : ∀ f ∈ shipped, ∀ ln ∈ f.2.2, isLocalLine f.2.1 ln.idx = false →
    Mirrored f.2.1 f.2.2 ln.ty := by
  decide +kernel

/-! ## non-vacuity: concrete instances of the hypotheses, and the named error outcomes -/

section Examples

/-- a 3 x 4 periodic grid with one neighbour layer -/
def exGrid : Grid := ⟨[3, 4], 1⟩
/-- six relevant units; `[4]` is active in cell (1,1); cell (2,3) is full (cap 2) with one surplus unit -/
def exOcc : Occ :=
  { occ := fun c => if c = [0, 0] then [[0]] else if c = [2, 3] then [[1], [2]] else if c = [1, 3] then [[5]] else []
    surplus := [([2, 3], [[3]])]
    active := some ([1, 1], [4]) }

/-- the invariant is satisfiable by a non-trivial state (several units per cell, surplus, all three families non-empty) -/
example : OccInv exGrid exOcc [[0], [1], [2], [3], [4], [5]] [1, 1] [4] :=
  ⟨rfl, by decide, by decide, by decide, by decide⟩
example : targetsVeto exGrid exOcc = [[5], [1], [2]] ∧ targetsBounding exGrid exOcc = [[5], [1], [2]] ∧
    targetsExcluded exGrid exOcc = [[0]] ∧ targetsSurplus exOcc = [[3]] := by decide +kernel
/-- the neighbourhood wraps around the torus in the first direction (3 cells, one layer: everything is nearby) -/
example : vetoDomain exGrid = [[0, 2], [1, 2], [2, 2]] := by decide
/-- occupant cap 2: the mediator hands two targets to the cell-veto handler (the leaf-unit handler then raises a
`TypeError`: an error outcome outside the property), cf. `vetoArgs_single` -/
example : vetoArgs exOcc [2, 3] = [some [1], some [2]] := by decide

/-- `factor_set_dipoles_atomic.txt` -/
def exDipoles : List Line := [⟨[0, 1], "Harmonic"⟩, ⟨[0, 3], "Repulsive"⟩, ⟨[1, 2], "Repulsive"⟩, ⟨[0, 2], "Coulomb"⟩,
  ⟨[0, 3], "Coulomb"⟩, ⟨[1, 2], "Coulomb"⟩, ⟨[1, 3], "Coulomb"⟩]

example : WellFormed 2 exDipoles ∧ Tidy 2 exDipoles := by decide +kernel
example : InterType ⟨3, 2⟩ exDipoles "Coulomb" ∧ IntraType ⟨3, 2⟩ exDipoles "Harmonic" := by
  unfold InterType IntraType; decide
/-- the hypotheses of `factor_file_total` hold for a shipped file, three dipoles, active point mass (1, 0) -/
example : ∃ fs, instantiate ⟨3, 2⟩ exDipoles [] = .ok fs ∧
    yieldFactor ⟨3, 2⟩ fs "Coulomb" [1, 0] =
      .ok [[[1, 0], [0, 0]], [[1, 0], [0, 1]], [[1, 0], [2, 0]], [[1, 0], [2, 1]]] ∧
    yieldFactor ⟨3, 2⟩ fs "Harmonic" [1, 0] = .ok [[[1, 0], [1, 1]]] :=
  ⟨_, rfl, by decide, by decide⟩

/-- **named error outcome.**  A well-formed file whose intra-object type does not mention point mass 2 of a
three-atom composite object: the real code (and the model) raise `KeyError` when that point mass is active,
instead of yielding no in-state.  (`Tidy` excludes it; none of the shipped files is affected.) -/
theorem intra_type_unmentioned_leaf_keyerror :
    WellFormed 3 [⟨[0, 1], "Harmonic"⟩] ∧ ¬ Tidy 3 [⟨[0, 1], "Harmonic"⟩] ∧
    ∃ fs, instantiate ⟨2, 3⟩ [⟨[0, 1], "Harmonic"⟩] [] = .ok fs ∧
      yieldFactor ⟨2, 3⟩ fs "Harmonic" [0, 2] = .error "KeyError" :=
  ⟨by decide, by decide, _, rfl, by decide⟩

/-- files the parser rejects: an index of a third composite object, a type of mixed locality -/
example : instantiate ⟨2, 2⟩ [⟨[0, 4], "Coulomb"⟩] [] = .error "FactorSetError" ∧
    instantiate ⟨2, 2⟩ [⟨[0, 1], "Bond"⟩, ⟨[0, 2], "Bond"⟩] [] = .error "AttributeError" := by decide

/-- an active composite object (both leaves active): the merged Coulomb factor of `factor_set_dipoles_dipole.txt`
is yielded once per other dipole, not once per active leaf -/
example : ∃ fs, instantiate ⟨3, 2⟩ [⟨[0, 1, 2, 3], "Coulomb"⟩] [] = .ok fs ∧
    taggerYield ⟨3, 2⟩ fs "Coulomb" [[1, 0], [1, 1]] =
      .ok [[[1, 0], [1, 1], [0, 0], [0, 1]], [[1, 0], [1, 1], [2, 0], [2, 1]]] :=
  ⟨_, rfl, by decide⟩

/-- non-vacuity: `[0, 3]` and `[1, 2]` of the Repulsive type are each other's mirror image;
a file without the second line is not mirrored -/
example : Mirrored 2 exDipoles "Repulsive" ∧ ¬ Mirrored 2 [⟨[0, 3], "Repulsive"⟩] "Repulsive" := by decide

end Examples

end JF.C10
