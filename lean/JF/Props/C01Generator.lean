import JF.Lemmas.C01Generator
import JF.Lemmas.C01GeneratorCircle
import JF.Lemmas.C01GeneratorTorus
/-!
# C01 — from the balance identity to stationarity of `exp(−βU) ⊗ uniform` in the generator sense

The infinitesimal part of the step from `C01.global_balance_identity` to stationarity of the Boltzmann weight.

**Setting.** Abstract configuration space `X`; lifting variable `k : Fin n` (the active unit, one direction of motion);
test functions `f : X → Fin n → ℝ`; factors `M : F` (a finite type) with energies `UM M`, `U = Σ_M UM M`; a `Calculus X n`:
derivations `D k` ("`∂/∂x_k` along the direction of motion"), additive and homogeneous on a submodule `S` of
differentiable functions, and an integral `I`, additive and homogeneous on a submodule `V` of integrable functions
(Mathlib's integrals and derivatives are total functions that are linear only on such domains, so the domains are part of
the structure; `Calculus.ofLinear` is the special case `S = V = ⊤` of honest linear maps).

**Generator** of the lifted, factorised event-chain process (`gen`):
`(L f)(x, k) = (D k f(·,k))(x) + Σ_M β · max 0 (q M x k) · Σ_j P_M x k j · (f x j − f x k)`,
`q M x k` the derivative of the energy of factor `M` when unit `k` moves (C03), `P_M x k j = liftP (sch M) (q M x) k j` the
probability that the lifting scheme of factor `M` (any of the three of C05, a different one per factor if wanted) hands the
motion from `k` to `j`. `liftP` is tied to the model of `get_active_identifier` by `choose_returns_unit_iff`,
`choose_never_returns_positive` and `liftP_is_selection_probability`.

**Theorem** `boltzmann_stationary_generator`: (H1) `U = Σ_M UM M`, `q M x k = (D k (UM M)) x`; (H2) `Σ_k q M x k = 0` for
every factor and configuration (C05's `total tbl = 0`); (H3) integration by parts
`I (e^{−βU} · D k g) = β · I (e^{−βU} · g · D k U)` for `g ∈ S`; then for every `f` in the domain
(`f(·,k) ∈ S`, the three integrands in `V`): `Σ_k I (fun x => exp (−β U x) * (L f) x k) = 0`.
Proof (`stationary_of_balanced`, for any flow-balanced lifting kernel in place of `liftP`): linearity of `I`, (H3), and
pointwise `Balanced.jump_sum` (`JF/Lemmas/C01Generator.lean`); the three schemes are flow-balanced by C01's `inflow_eq` and
`prob_row_sum`. No Leibniz rule is needed; `ibp_of_leibniz` shows that (H3) itself follows from the Leibniz rule, the
chain rule for the weight and `I (D k h) = 0` (no boundary on a torus). Thinning (C04) gives the same generator
(`genThinned_eq`).

**(H3) discharged in two instances** (two units, one pair factor). `Circle`: reduced to the separation coordinate
`s = x₂ − x₁ ∈ ℝ/L` (the centre of mass decouples for a translation-invariant pair energy: when unit 0 moves `ds/dt = −1`,
when unit 1 moves `ds/dt = +1`, so `D k g = sgn k · g'`); test functions `C¹` and `L`-periodic; `I = ∫_0^L`; the boundary
term vanishes by periodicity (`circle_pair_stationary`). `Torus`: no reduction, `X = ℝ × ℝ`, `D k = ∂/∂x_k`,
`I = ∫_0^L ∫_0^L`; integration by parts in `x₂` on the inner integral, in `x₁` after swapping the order of integration
(`torus_pair_stationary`, for every translation-invariant pair energy: `∂₁U + ∂₂U = 0` is (H2)).

**Not given**: that the generator `L` with this domain generates a semigroup, that the piecewise-deterministic process of
the implementation is the process of that semigroup, the global-in-time statement `∫ P_t f dμ = ∫ f dμ` (it needs a core
for the generator), irreducibility / ergodicity, convergence of histograms, anything about floating point or about several
directions of motion and their resampling. `I` and `D` are abstract except in the `Circle` and `Torus` instances.
-/
namespace JF.C01Generator
open JF JF.Lifting JF.C05 JF.C01 Real

/-- derivations `D k` (one per unit) and an integral `I` on functions `X → ℝ`, each with the submodule on which it is
linear -/
structure Calculus (X : Type) (n : Nat) where
  /-- differentiable functions -/
  S : Submodule ℝ (X → ℝ)
  D : Fin n → (X → ℝ) → (X → ℝ)
  D_add : ∀ k {f g}, f ∈ S → g ∈ S → D k (f + g) = D k f + D k g
  D_smul : ∀ k (c : ℝ) {f}, f ∈ S → D k (c • f) = c • D k f
  /-- integrable functions -/
  V : Submodule ℝ (X → ℝ)
  I : (X → ℝ) → ℝ
  I_add : ∀ {f g}, f ∈ V → g ∈ V → I (f + g) = I f + I g
  I_smul : ∀ (c : ℝ) {f}, f ∈ V → I (c • f) = c * I f

namespace Calculus
variable {X : Type} {n : Nat} (C : Calculus X n)

theorem I_zero : C.I 0 = 0 := by
  have := C.I_smul 0 C.V.zero_mem
  simpa using this

theorem D_zero (k : Fin n) : C.D k 0 = 0 := by
  have := C.D_smul k 0 C.S.zero_mem
  simpa using this

theorem I_sum {κ : Type} (s : Finset κ) (g : κ → X → ℝ) (hg : ∀ k ∈ s, g k ∈ C.V) :
    C.I (∑ k ∈ s, g k) = ∑ k ∈ s, C.I (g k) := by
  classical
  induction s using Finset.induction_on with
  | empty => simpa using C.I_zero
  | insert a s ha ih =>
    rw [Finset.sum_insert ha, Finset.sum_insert ha,
      C.I_add (hg a (Finset.mem_insert_self a s))
        (C.V.sum_mem fun k hk => hg k (Finset.mem_insert_of_mem hk)),
      ih fun k hk => hg k (Finset.mem_insert_of_mem hk)]

theorem D_sum {κ : Type} (k : Fin n) (s : Finset κ) (g : κ → X → ℝ) (hg : ∀ a ∈ s, g a ∈ C.S) :
    C.D k (∑ a ∈ s, g a) = ∑ a ∈ s, C.D k (g a) := by
  classical
  induction s using Finset.induction_on with
  | empty => simpa using C.D_zero k
  | insert a s ha ih =>
    rw [Finset.sum_insert ha, Finset.sum_insert ha,
      C.D_add k (hg a (Finset.mem_insert_self a s))
        (C.S.sum_mem fun b hb => hg b (Finset.mem_insert_of_mem hb)),
      ih fun b hb => hg b (Finset.mem_insert_of_mem hb)]

def ofLinear (D : Fin n → (X → ℝ) →ₗ[ℝ] (X → ℝ)) (I : (X → ℝ) →ₗ[ℝ] ℝ) : Calculus X n where
  S := ⊤
  D k := D k
  D_add k _ _ _ _ := map_add (D k) _ _
  D_smul k c _ _ := map_smul (D k) c _
  V := ⊤
  I := I
  I_add _ _ := map_add I _ _
  I_smul c _ _ := by rw [map_smul, smul_eq_mul]

end Calculus

variable {X F : Type} [Fintype F] {n : Nat}

/-- jump part of the generator: factor `M` fires for the active unit `k` at rate `β max 0 (q M x k)` (C02–C04) and its
lifting scheme hands the motion to `j` with probability `liftP (sch M) (q M x) k j` (C05) -/
noncomputable def jumpPart (β : ℝ) (sch : F → Scheme) (q : F → X → Fin n → ℝ) (f : X → Fin n → ℝ) (x : X) (k : Fin n) : ℝ :=
  ∑ M, β * max 0 (q M x k) * ∑ j, liftP (sch M) (q M x) k j * (f x j - f x k)

/-- **generator of the lifted, factorised event-chain process** (one direction of motion): transport of the active unit
plus the jump part -/
noncomputable def gen (D : Fin n → (X → ℝ) → (X → ℝ)) (β : ℝ) (sch : F → Scheme) (q : F → X → Fin n → ℝ)
    (f : X → Fin n → ℝ) (x : X) (k : Fin n) : ℝ :=
  D k (fun y => f y k) x + jumpPart β sch q f x k

/-- the same with thinning (C04): events of factor `M` are proposed at the bounding rate `b M x k` and confirmed with
probability `β max 0 (q M x k) / b M x k` -/
noncomputable def genThinned (D : Fin n → (X → ℝ) → (X → ℝ)) (β : ℝ) (sch : F → Scheme) (q b : F → X → Fin n → ℝ)
    (f : X → Fin n → ℝ) (x : X) (k : Fin n) : ℝ :=
  D k (fun y => f y k) x +
    ∑ M, b M x k * (β * max 0 (q M x k) / b M x k) * ∑ j, liftP (sch M) (q M x) k j * (f x j - f x k)

/-- **Thinning does not change the generator** (`C01.thinned_rate`). -/
theorem genThinned_eq (D : Fin n → (X → ℝ) → (X → ℝ)) (β : ℝ) (sch : F → Scheme) (q b : F → X → Fin n → ℝ)
    (hb : ∀ M x k, 0 < b M x k) : genThinned D β sch q b = gen D β sch q := by
  funext f x k
  unfold genThinned gen jumpPart
  congr 1
  apply Finset.sum_congr rfl
  intro M _
  have h := thinned_rate (q M x k) (b M x k) (hb M x k)
  have e : b M x k * (β * max 0 (q M x k) / b M x k) = β * (b M x k * (max 0 (q M x k) / b M x k)) := by ring
  rw [e, h]

/-- under domination (C04's `Dominates`) the confirmation ratio is a probability -/
theorem confirm_prob_mem (β q b : ℝ) (hβ : 0 ≤ β) (hb : 0 < b) (hdom : β * max 0 q ≤ b) :
    0 ≤ β * max 0 q / b ∧ β * max 0 q / b ≤ 1 :=
  ⟨div_nonneg (mul_nonneg hβ (le_max_left _ _)) hb.le, (div_le_one hb).mpr hdom⟩

/-- **Infinitesimal stationarity of `exp(−βU) ⊗ uniform(lifting variable)` for any flow-balanced lifting kernel** `P`:
`hDU` says that the factor derivatives `q` add up to the derivative of `U`, `hbal` is all that is needed of the lifting
scheme (it contains (H2)), `hibp` is (H3) for the slices of `f`; `J` names the jump part; `hV1 hV2 hV3` say that the
three integrands are integrable. -/
theorem stationary_of_balanced (C : Calculus X n) (β : ℝ) (P : F → X → Fin n → Fin n → ℝ) (U : X → ℝ)
    (q : F → X → Fin n → ℝ) (hDU : ∀ k x, C.D k U x = ∑ M, q M x k) (hbal : ∀ M x, Balanced (q M x) (P M x))
    (f : X → Fin n → ℝ)
    (hibp : ∀ k, C.I (fun x => exp (-β * U x) * C.D k (fun y => f y k) x) =
      β * C.I (fun x => exp (-β * U x) * f x k * C.D k U x))
    (J : X → Fin n → ℝ) (hJ : ∀ x k, J x k = ∑ M, β * max 0 (q M x k) * ∑ j, P M x k j * (f x j - f x k))
    (hV1 : ∀ k, (fun x => exp (-β * U x) * C.D k (fun y => f y k) x) ∈ C.V)
    (hV2 : ∀ k, (fun x => exp (-β * U x) * f x k * C.D k U x) ∈ C.V)
    (hV3 : ∀ k, (fun x => exp (-β * U x) * J x k) ∈ C.V) :
    ∑ k, C.I (fun x => exp (-β * U x) * (C.D k (fun y => f y k) x + J x k)) = 0 := by
  -- per unit: split the generator and integrate the transport part by parts (H3)
  have h1 : ∀ k, C.I (fun x => exp (-β * U x) * (C.D k (fun y => f y k) x + J x k)) =
      C.I (β • (fun x => exp (-β * U x) * f x k * C.D k U x) + fun x => exp (-β * U x) * J x k) := by
    intro k
    rw [C.I_add (C.V.smul_mem β (hV2 k)) (hV3 k), C.I_smul β (hV2 k), ← hibp k, ← C.I_add (hV1 k) (hV3 k)]
    congr 1; funext x; simp only [Pi.add_apply]; ring
  rw [Finset.sum_congr rfl fun k _ => h1 k,
    ← C.I_sum Finset.univ _ fun k _ => C.V.add_mem (C.V.smul_mem β (hV2 k)) (hV3 k)]
  -- the summed integrand vanishes pointwise: `Balanced.jump_sum`
  convert C.I_zero
  funext x
  simp only [Finset.sum_apply, Pi.add_apply, Pi.smul_apply, smul_eq_mul, Pi.zero_apply]
  have hj : ∑ k, J x k = -β * ∑ k, f x k * C.D k U x := by
    simp only [hJ, hDU]; exact Balanced.jump_sum (fun M => hbal M x) β (f x)
  have e : ∀ k, β * (exp (-β * U x) * f x k * C.D k U x) + exp (-β * U x) * J x k =
      exp (-β * U x) * (β * (f x k * C.D k U x) + J x k) := fun k => by ring
  rw [Finset.sum_congr rfl fun k _ => e k, ← Finset.mul_sum, Finset.sum_add_distrib, ← Finset.mul_sum, hj]
  ring

/-- **Infinitesimal stationarity of `exp(−βU) ⊗ uniform(lifting variable)`** (C01): the three schemes of C05 are
flow-balanced when (H2) holds (`liftP_balanced`). (H1) `hUS hU hq`, (H2) `hz`, (H3) `hibp`; `hfS hV1 hV2 hV3` say that
`f` is in the domain (differentiable slices, integrable integrands). -/
theorem boltzmann_stationary_generator (C : Calculus X n) (β : ℝ) (sch : F → Scheme)
    (UM : F → X → ℝ) (U : X → ℝ) (q : F → X → Fin n → ℝ)
    (hUS : ∀ M, UM M ∈ C.S) (hU : U = ∑ M, UM M) (hq : ∀ M x k, q M x k = C.D k (UM M) x)
    (hz : ∀ M x, ∑ k, q M x k = 0)
    (hibp : ∀ k g, g ∈ C.S →
      C.I (fun x => exp (-β * U x) * C.D k g x) = β * C.I (fun x => exp (-β * U x) * g x * C.D k U x))
    (f : X → Fin n → ℝ) (hfS : ∀ k, (fun x => f x k) ∈ C.S)
    (hV1 : ∀ k, (fun x => exp (-β * U x) * C.D k (fun y => f y k) x) ∈ C.V)
    (hV2 : ∀ k, (fun x => exp (-β * U x) * f x k * C.D k U x) ∈ C.V)
    (hV3 : ∀ k, (fun x => exp (-β * U x) * jumpPart β sch q f x k) ∈ C.V) :
    ∑ k, C.I (fun x => exp (-β * U x) * gen C.D β sch q f x k) = 0 := by
  refine stationary_of_balanced C β (fun M x => liftP (sch M) (q M x)) U q (fun k x => ?_)
    (fun M x => liftP_balanced (sch M) (q M x) (hz M x)) f (fun k => hibp k _ (hfS k)) (jumpPart β sch q f) (fun _ _ => rfl) hV1 hV2 hV3
  rw [hU, C.D_sum k Finset.univ UM (fun M _ => hUS M), Finset.sum_apply]
  exact Finset.sum_congr rfl (fun M _ => (hq M x k).symm)

theorem boltzmann_stationary_generator_thinned (C : Calculus X n) (β : ℝ) (sch : F → Scheme)
    (UM : F → X → ℝ) (U : X → ℝ) (q b : F → X → Fin n → ℝ) (hb : ∀ M x k, 0 < b M x k)
    (hUS : ∀ M, UM M ∈ C.S) (hU : U = ∑ M, UM M) (hq : ∀ M x k, q M x k = C.D k (UM M) x)
    (hz : ∀ M x, ∑ k, q M x k = 0)
    (hibp : ∀ k g, g ∈ C.S →
      C.I (fun x => exp (-β * U x) * C.D k g x) = β * C.I (fun x => exp (-β * U x) * g x * C.D k U x))
    (f : X → Fin n → ℝ) (hfS : ∀ k, (fun x => f x k) ∈ C.S)
    (hV1 : ∀ k, (fun x => exp (-β * U x) * C.D k (fun y => f y k) x) ∈ C.V)
    (hV2 : ∀ k, (fun x => exp (-β * U x) * f x k * C.D k U x) ∈ C.V)
    (hV3 : ∀ k, (fun x => exp (-β * U x) * jumpPart β sch q f x k) ∈ C.V) :
    ∑ k, C.I (fun x => exp (-β * U x) * genThinned C.D β sch q b f x k) = 0 := by
  rw [genThinned_eq C.D β sch q b hb]
  exact boltzmann_stationary_generator C β sch UM U q hUS hU hq hz hibp f hfS hV1 hV2 hV3

/-- for linear maps `D k`, `I` on all functions no domain hypotheses are left -/
theorem boltzmann_stationary_generator_linear (D : Fin n → (X → ℝ) →ₗ[ℝ] (X → ℝ)) (I : (X → ℝ) →ₗ[ℝ] ℝ)
    (β : ℝ) (sch : F → Scheme) (UM : F → X → ℝ) (U : X → ℝ) (q : F → X → Fin n → ℝ)
    (hU : U = ∑ M, UM M) (hq : ∀ M x k, q M x k = D k (UM M) x)
    (hz : ∀ M x, ∑ k, q M x k = 0)
    (hibp : ∀ k g, I (fun x => exp (-β * U x) * D k g x) = β * I (fun x => exp (-β * U x) * g x * D k U x))
    (f : X → Fin n → ℝ) :
    ∑ k, I (fun x => exp (-β * U x) * gen (fun k => D k) β sch q f x k) = 0 :=
  boltzmann_stationary_generator (Calculus.ofLinear D I) β sch UM U q (fun _ => Submodule.mem_top) hU hq hz
    (fun k g _ => hibp k g) f (fun _ => Submodule.mem_top) (fun _ => Submodule.mem_top)
    (fun _ => Submodule.mem_top) (fun _ => Submodule.mem_top)

/-- **Where (H3) comes from**: the Leibniz rule for the product with the weight, the chain rule
`D k e^{−βU} = −β e^{−βU} D k U`, and `I (D k h) = 0` (periodic box: no boundary term) give integration by parts. -/
theorem ibp_of_leibniz (C : Calculus X n) (β : ℝ) (U : X → ℝ) (k : Fin n) (g : X → ℝ)
    (hleib : C.D k (fun x => exp (-β * U x) * g x) =
      fun x => exp (-β * U x) * C.D k g x + g x * C.D k (fun y => exp (-β * U y)) x)
    (hchain : C.D k (fun y => exp (-β * U y)) = fun x => -β * (exp (-β * U x) * C.D k U x))
    (hper : C.I (C.D k (fun x => exp (-β * U x) * g x)) = 0)
    (h1 : (fun x => exp (-β * U x) * C.D k g x) ∈ C.V)
    (h2 : (fun x => exp (-β * U x) * g x * C.D k U x) ∈ C.V) :
    C.I (fun x => exp (-β * U x) * C.D k g x) = β * C.I (fun x => exp (-β * U x) * g x * C.D k U x) := by
  have e : C.D k (fun x => exp (-β * U x) * g x) =
      (fun x => exp (-β * U x) * C.D k g x) + (-β) • (fun x => exp (-β * U x) * g x * C.D k U x) := by
    rw [hleib, hchain]; funext x; simp only [Pi.add_apply, Pi.smul_apply, smul_eq_mul]; ring
  rw [e, C.I_add h1 (C.V.smul_mem _ h2), C.I_smul _ h2] at hper
  linarith

section connection
variable (o : Ops ℝ) (h0 : o.ofInt 0 = 0)
include h0

/-- the model of `get_active_identifier` (after the insertion loop over the table at this configuration) returns unit `j`
iff the scheme selects `j`'s index of the negative list -/
theorem choose_returns_unit_iff (sch : Scheme) (q : Fin n → ℝ) (hz : ∑ k, q k = 0) {k j : Fin n} (hk : 0 < q k)
    (hj : ¬ 0 < q j) {u u2 : ℝ} (hd : DrawOK sch u u2) :
    choose o sch (tableOf q) k u u2 = .ok j ↔ chooseIdx o sch (tableOf q) k u u2 = .ok (negIdxOf q j) := by
  obtain ⟨hlt, he⟩ := negOf_tableOf_getElem q hj
  have := choose_ok_iff o h0 (valid_tableOf q hz hk) sch hd (tableOf_ids_nodup q) hlt
  rwa [he] at this

theorem choose_never_returns_positive (sch : Scheme) (q : Fin n → ℝ) (hz : ∑ k, q k = 0) {k j : Fin n} (hk : 0 < q k)
    (hj : 0 < q j) {u u2 : ℝ} (hd : DrawOK sch u u2) : choose o sch (tableOf q) k u u2 ≠ .ok j := by
  intro h
  have := choose_negative_of_nodup o h0 (valid_tableOf q hz hk) sch hd (tableOf_ids_nodup q) h (q j)
    (by rw [← tableOf_getElem q j]; exact List.getElem_mem _)
  linarith

/-- **`liftP` is the probability that the modelled scheme hands the motion from `k` to `j`**: the Lebesgue measure of the
set of uniform draws for which it selects `j` -/
theorem liftP_is_selection_probability (sch : Scheme) (q : Fin n → ℝ) (hz : ∑ k, q k = 0) {k j : Fin n} (hk : 0 < q k)
    (hj : ¬ 0 < q j) (w : ℝ) :
    MeasureTheory.volume (selSet o sch (tableOf q) k (negIdxOf q j) w) = ENNReal.ofReal (liftP sch q k j) := by
  rw [liftP_eq_prob sch q k hj]
  exact selection_measure o h0 (valid_tableOf q hz hk) sch w (negOf_tableOf_getElem q hj).1

/-- non-vacuity of the section's parameters: an `Ops ℝ` whose literal zero is `0` (C05 gives the same witness) -/
noncomputable example : {o : Ops ℝ // o.ofInt 0 = 0} :=
  ⟨⟨fun n => n, fun x => x, fun x _ => x, fun _ => 0, fun _ => false, fun _ => 0, fun x => x⟩, by simp⟩

end connection

/-- the jump part for one pair factor (two units): whatever the scheme, the active unit hands the motion to the other
one, at rate `β max 0 (q k)` -/
theorem jumpPart_pair_factor {X : Type} (β : ℝ) (sch : Scheme) (q : Unit → X → Fin 2 → ℝ)
    (hz : ∀ M x, ∑ k, q M x k = 0) (f : X → Fin 2 → ℝ) (x : X) (k : Fin 2) :
    jumpPart β (fun _ : Unit => sch) q f x k = β * max 0 (q () x k) * (f x k.rev - f x k) := by
  unfold jumpPart
  rw [Finset.univ_unique, Finset.sum_singleton, mul_assoc,
    pair_jump sch (q default x) (hz default x) (f x) k, mul_assoc]

theorem continuous_weight_mul_jumpPart_pair {X : Type} [TopologicalSpace X] (β : ℝ) (sch : Scheme) {U : X → ℝ}
    {q : Unit → X → Fin 2 → ℝ} (hz : ∀ M x, ∑ k, q M x k = 0) {f : X → Fin 2 → ℝ}
    (hw : Continuous fun x => exp (-β * U x)) (hq : ∀ k, Continuous fun x => q () x k)
    (hf : ∀ k, Continuous fun x => f x k) (k : Fin 2) :
    Continuous fun x => exp (-β * U x) * jumpPart β (fun _ : Unit => sch) q f x k := by
  simp only [jumpPart_pair_factor β sch q hz]
  exact hw.mul ((continuous_const.mul (continuous_const.max (hq k))).mul ((hf k.rev).sub (hf k)))

namespace Circle
open intervalIntegral

/-- `ds/dt` of the separation `s = x₂ − x₁` when unit `k` moves with velocity `+1` -/
def sgn : Fin 2 → ℝ := ![-1, 1]

/-- `C¹` `L`-periodic functions of the separation, `D k g = sgn k · g'`, `I = ∫_0^L` on continuous functions -/
noncomputable def circleCalculus (L : ℝ) : Calculus ℝ 2 where
  S := { carrier := {g | Smooth L g}
         add_mem' := fun hf hg => Smooth.add hf hg
         zero_mem' := Smooth.zero L
         smul_mem' := fun c _ hg => Smooth.smul c hg }
  D k g := fun s => sgn k * deriv g s
  D_add k f g hf hg := funext fun s => by rw [Smooth.deriv_add hf hg]; exact mul_add _ _ _
  D_smul k c f hf := funext fun s => by rw [Smooth.deriv_smul c hf]; exact mul_left_comm _ _ _
  V := { carrier := {h | Continuous h}
         add_mem' := fun hf hg => Continuous.add hf hg
         zero_mem' := continuous_const
         smul_mem' := fun c _ hg => Continuous.const_smul hg c }
  I h := ∫ s in (0:ℝ)..L, h s
  I_add {f g} hf hg := by
    simp only [Pi.add_apply]
    exact integral_add (Continuous.intervalIntegrable hf _ _) (Continuous.intervalIntegrable hg _ _)
  I_smul c f _ := by
    simp only [Pi.smul_apply, smul_eq_mul]
    exact integral_const_mul c _

/-- derivative of the pair energy `U(s)` when unit `k` moves -/
noncomputable def pairQ (U : ℝ → ℝ) : Unit → ℝ → Fin 2 → ℝ := fun _ s k => sgn k * deriv U s

theorem pairQ_sum_zero (U : ℝ → ℝ) (M : Unit) (s : ℝ) : ∑ k, pairQ U M s k = 0 := by
  simp [pairQ, sgn, Fin.sum_univ_two]

theorem jumpPart_pair (β : ℝ) (sch : Scheme) (U : ℝ → ℝ) (f : ℝ → Fin 2 → ℝ) (s : ℝ) (k : Fin 2) :
    jumpPart β (fun _ : Unit => sch) (pairQ U) f s k = β * max 0 (sgn k * deriv U s) * (f s k.rev - f s k) :=
  jumpPart_pair_factor β sch (pairQ U) (pairQ_sum_zero U) f s k

/-- the generator of the pair on the circle in closed form -/
theorem gen_circle_pair (L β : ℝ) (sch : Scheme) (U : ℝ → ℝ) (f : ℝ → Fin 2 → ℝ) (s : ℝ) (k : Fin 2) :
    gen (circleCalculus L).D β (fun _ : Unit => sch) (pairQ U) f s k =
      sgn k * deriv (fun y => f y k) s + β * max 0 (sgn k * deriv U s) * (f s k.rev - f s k) := by
  unfold gen
  rw [jumpPart_pair]
  rfl

/-- (H3) on the circle, and non-vacuity of `ibp_of_leibniz`: its hypotheses hold there (product rule, chain rule for the
weight, the integral of a derivative of a periodic function over a period vanishes) -/
theorem circle_ibp_via_leibniz (L β : ℝ) {U : ℝ → ℝ} (hU : Smooth L U) (k : Fin 2) {g : ℝ → ℝ} (hg : Smooth L g) :
    (circleCalculus L).I (fun s => exp (-β * U s) * (circleCalculus L).D k g s) =
      β * (circleCalculus L).I (fun s => exp (-β * U s) * g s * (circleCalculus L).D k U s) := by
  have hcw : Continuous fun s => exp (-β * U s) := Real.continuous_exp.comp (continuous_const.mul hU.continuous)
  have hcU' := hU.continuous_deriv
  have hcg := hg.continuous
  have hcg' := hg.continuous_deriv
  have hw : ∀ s, HasDerivAt (fun s => exp (-β * U s)) (exp (-β * U s) * (-β * deriv U s)) s :=
    hasDerivAt_weight β hU.differentiable
  have hwg : ∀ s, HasDerivAt (fun s => exp (-β * U s) * g s)
      (exp (-β * U s) * (-β * deriv U s) * g s + exp (-β * U s) * deriv g s) s :=
    fun s => (hw s).mul (hg.differentiable s).hasDerivAt
  have hchain : (circleCalculus L).D k (fun y => exp (-β * U y)) =
      fun s => -β * (exp (-β * U s) * (circleCalculus L).D k U s) := by
    funext s
    show sgn k * deriv (fun y => exp (-β * U y)) s = -β * (exp (-β * U s) * (sgn k * deriv U s))
    rw [(hw s).deriv]; ring
  refine ibp_of_leibniz (circleCalculus L) β U k g ?_ hchain ?_ ?_ ?_
  · funext s
    show sgn k * deriv (fun x => exp (-β * U x) * g x) s =
      exp (-β * U s) * (sgn k * deriv g s) + g s * (sgn k * deriv (fun y => exp (-β * U y)) s)
    rw [(hwg s).deriv, (hw s).deriv]; ring
  · show ∫ s in (0:ℝ)..L, sgn k * deriv (fun x => exp (-β * U x) * g x) s = 0
    have hd : deriv (fun x => exp (-β * U x) * g x) =
        fun s => exp (-β * U s) * (-β * deriv U s) * g s + exp (-β * U s) * deriv g s :=
      funext fun s => (hwg s).deriv
    rw [integral_const_mul, integral_deriv_eq_sub (fun s _ => (hwg s).differentiableAt)
      (by rw [hd]; exact (((hcw.mul (continuous_const.mul hcU')).mul hcg).add (hcw.mul hcg')).intervalIntegrable _ _)]
    have hUL : U L = U 0 := by simpa using hU.2 0
    have hgL : g L = g 0 := by simpa using hg.2 0
    simp only [hUL, hgL, sub_self, mul_zero]
  · exact hcw.mul (continuous_const.mul hcg')
  · exact (hcw.mul hcg).mul (continuous_const.mul hcU')

/-- **Stationarity for two point masses on a circle** (separation coordinate): every `C¹` `L`-periodic pair energy `U`,
every `β`, each lifting scheme, `C¹` `L`-periodic test functions. All hypotheses of `boltzmann_stationary_generator`
are discharged. -/
theorem circle_pair_stationary (L β : ℝ) (sch : Scheme) {U : ℝ → ℝ} (hU : Smooth L U)
    (f : ℝ → Fin 2 → ℝ) (hf : ∀ k, Smooth L (fun s => f s k)) :
    ∑ k, ∫ s in (0:ℝ)..L,
      exp (-β * U s) * gen (circleCalculus L).D β (fun _ : Unit => sch) (pairQ U) f s k = 0 := by
  have hw : Continuous fun s => exp (-β * U s) := Real.continuous_exp.comp (continuous_const.mul hU.continuous)
  have hq : ∀ k, Continuous fun s => sgn k * deriv U s := fun k => continuous_const.mul hU.continuous_deriv
  exact boltzmann_stationary_generator (circleCalculus L) β (fun _ : Unit => sch) (fun _ => U) U (pairQ U)
    (fun _ => hU) (by simp) (fun _ _ _ => rfl) (pairQ_sum_zero U)
    (fun k g hg => circle_ibp_via_leibniz L β hU k hg) f hf
    (fun k => hw.mul (continuous_const.mul (hf k).continuous_deriv))
    (fun k => (hw.mul (hf k).continuous).mul (hq k))
    (continuous_weight_mul_jumpPart_pair β sch (pairQ_sum_zero U) hw hq fun k => (hf k).continuous)

/-- the thinned process on the circle: bounding rate `β max 0 q + 1` (positive and dominating for `β ≥ 0`); non-vacuity
of `genThinned_eq` / `boltzmann_stationary_generator_thinned` -/
theorem circle_pair_stationary_thinned (L β : ℝ) (hβ : 0 ≤ β) (sch : Scheme) {U : ℝ → ℝ} (hU : Smooth L U)
    (f : ℝ → Fin 2 → ℝ) (hf : ∀ k, Smooth L (fun s => f s k)) :
    ∑ k, ∫ s in (0:ℝ)..L,
      exp (-β * U s) * genThinned (circleCalculus L).D β (fun _ : Unit => sch) (pairQ U)
        (fun M s k => β * max 0 (pairQ U M s k) + 1) f s k = 0 := by
  rw [genThinned_eq _ _ _ _ _ (fun M s k => by
    have : 0 ≤ β * max 0 (pairQ U M s k) := mul_nonneg hβ (le_max_left _ _)
    linarith)]
  exact circle_pair_stationary L β sch hU f hf

/-- the cosine pair energy `U(s) = 1 − cos(2π s / L)` -/
theorem cosine_pair_stationary (L β : ℝ) (hL : L ≠ 0) (sch : Scheme)
    (f : ℝ → Fin 2 → ℝ) (hf : ∀ k, Smooth L (fun s => f s k)) :
    ∑ k, ∫ s in (0:ℝ)..L, exp (-β * (1 - cos (2 * π * s / L))) *
      gen (circleCalculus L).D β (fun _ : Unit => sch)
        (fun _ s k => sgn k * (2 * π / L * sin (2 * π * s / L))) f s k = 0 := by
  have hq : (fun (_ : Unit) (s : ℝ) (k : Fin 2) => sgn k * (2 * π / L * sin (2 * π * s / L))) = pairQ (cosU L) := by
    funext _ s k; rw [pairQ, deriv_cosU]
  rw [hq]
  exact circle_pair_stationary L β sch (cosU_smooth hL) f hf

/-- non-vacuity: `C¹` `L`-periodic test functions that are not constant, one per value of the lifting variable -/
theorem trig_test_smooth {L : ℝ} (hL : L ≠ 0) :
    ∀ k : Fin 2, Smooth L (fun s => (![fun s => sin (2 * π * s / L), fun s => cos (2 * π * s / L)] : Fin 2 → ℝ → ℝ) k s) :=
  Fin.forall_fin_two.mpr ⟨sin_smooth hL, cos_smooth hL⟩

/-- non-vacuity of `cosine_pair_stationary` (and through it of `boltzmann_stationary_generator`): circle of length 2,
`β = 3`, the inside-first scheme, test functions `sin(π s)`, `cos(π s)`; the event rates are not identically zero -/
example : ∑ k, ∫ s in (0:ℝ)..2, exp (-3 * (1 - cos (2 * π * s / 2))) *
      gen (circleCalculus 2).D 3 (fun _ : Unit => Scheme.inside)
        (fun _ s k => sgn k * (2 * π / 2 * sin (2 * π * s / 2)))
        (fun s k => (![fun s => sin (2 * π * s / 2), fun s => cos (2 * π * s / 2)] : Fin 2 → ℝ → ℝ) k s) s k = 0 :=
  cosine_pair_stationary 2 3 two_ne_zero .inside _ (trig_test_smooth two_ne_zero)

example : (3:ℝ) * max 0 (sgn 1 * (2 * π / 2 * sin (2 * π * (1/2) / 2))) = 3 * π := by
  have : 2 * π * (1/2) / 2 = π / 2 := by ring
  rw [this, sin_pi_div_two]
  simp only [sgn, Matrix.cons_val_one, Matrix.cons_val_zero]
  rw [max_eq_right (by positivity)]
  ring

end Circle

namespace Torus
open intervalIntegral Circle

noncomputable def dk (k : Fin 2) (G : ℝ × ℝ → ℝ) : ℝ × ℝ → ℝ := if k = 0 then d1 G else d2 G

@[simp] theorem dk_zero (G : ℝ × ℝ → ℝ) : dk 0 G = d1 G := by simp [dk]
@[simp] theorem dk_one (G : ℝ × ℝ → ℝ) : dk 1 G = d2 G := by simp [dk]

theorem continuous_dk {L : ℝ} {G : ℝ × ℝ → ℝ} (hG : Smooth2 L G) (k : Fin 2) : Continuous (dk k G) := by
  unfold dk; split
  · exact hG.continuous_d1
  · exact hG.continuous_d2

/-- functions of both positions, `C¹` and `L`-periodic in each; `D k = ∂/∂x_k`; `I = ∫_0^L ∫_0^L` on continuous
functions -/
noncomputable def torusCalculus (L : ℝ) : Calculus (ℝ × ℝ) 2 where
  S := { carrier := {G | Smooth2 L G}
         add_mem' := fun hf hg => Smooth2.add hf hg
         zero_mem' := Smooth2.zero L
         smul_mem' := fun c _ hg => Smooth2.smul c hg }
  D := dk
  D_add k f g hf hg := by
    unfold dk; split
    · exact d1_add hf hg
    · exact d2_add hf hg
  D_smul k c f hf := by
    unfold dk; split
    · exact d1_smul c hf
    · exact d2_smul c hf
  V := { carrier := {h | Continuous h}
         add_mem' := fun hf hg => Continuous.add hf hg
         zero_mem' := continuous_const
         smul_mem' := fun c _ hg => Continuous.const_smul hg c }
  I := I2 L
  I_add hf hg := I2_add L hf hg
  I_smul c f _ := I2_smul L c f

theorem torus_ibp (L β : ℝ) {U : ℝ × ℝ → ℝ} (hU : Smooth2 L U) (k : Fin 2) {g : ℝ × ℝ → ℝ} (hg : Smooth2 L g) :
    (torusCalculus L).I (fun p => exp (-β * U p) * (torusCalculus L).D k g p) =
      β * (torusCalculus L).I (fun p => exp (-β * U p) * g p * (torusCalculus L).D k U p) := by
  show I2 L (fun p => exp (-β * U p) * dk k g p) = β * I2 L (fun p => exp (-β * U p) * g p * dk k U p)
  unfold dk; split
  · exact torus_ibp_d1 L β hU hg
  · exact torus_ibp_d2 L β hU hg

/-- **Stationarity for two point masses on a circle, both positions as variables**: every pair energy `U` that is `C¹`,
`L`-periodic in each position and translation invariant (`hti`: hypothesis (H2)); every `β`; each lifting scheme; test
functions `C¹` and periodic in each position. All hypotheses of `boltzmann_stationary_generator` are discharged. -/
theorem torus_pair_stationary (L β : ℝ) (sch : Scheme) {U : ℝ × ℝ → ℝ} (hU : Smooth2 L U)
    (hti : ∀ p, d1 U p + d2 U p = 0)
    (f : ℝ × ℝ → Fin 2 → ℝ) (hf : ∀ k, Smooth2 L (fun p => f p k)) :
    ∑ k, ∫ a in (0:ℝ)..L, ∫ b in (0:ℝ)..L,
      exp (-β * U (a, b)) *
        gen (torusCalculus L).D β (fun _ : Unit => sch) (fun _ p k => dk k U p) f (a, b) k = 0 := by
  have hw : Continuous fun p => exp (-β * U p) := Real.continuous_exp.comp (continuous_const.mul hU.continuous)
  have hz : ∀ (M : Unit) (p : ℝ × ℝ), ∑ k, (fun (_ : Unit) p k => dk k U p) M p k = 0 := by
    intro _ p; simp only [Fin.sum_univ_two, dk_zero, dk_one]; exact hti p
  exact boltzmann_stationary_generator (torusCalculus L) β (fun _ : Unit => sch) (fun _ => U) U
    (fun _ p k => dk k U p) (fun _ => hU) (by simp) (fun _ _ _ => rfl) hz
    (fun k g hg => torus_ibp L β hU k hg) f hf
    (fun k => hw.mul (continuous_dk (hf k) k))
    (fun k => (hw.mul (hf k).continuous).mul (continuous_dk hU k))
    (continuous_weight_mul_jumpPart_pair β sch hz hw (continuous_dk hU) fun k => (hf k).continuous)

theorem dk_pairEnergy (u : ℝ → ℝ) (k : Fin 2) (p : ℝ × ℝ) : dk k (pairEnergy u) p = sgn k * deriv u (p.2 - p.1) := by
  have h01 : k = 0 ∨ k = 1 := by fin_cases k <;> simp
  rcases h01 with rfl | rfl
  · rw [dk_zero, d1_pairEnergy]; simp [sgn]
  · rw [dk_one, d2_pairEnergy]; simp [sgn]

/-- the generator for a pair energy `u(x₂ − x₁)` in closed form -/
theorem gen_torus_pair (L β : ℝ) (sch : Scheme) (u : ℝ → ℝ) (f : ℝ × ℝ → Fin 2 → ℝ) (p : ℝ × ℝ) (k : Fin 2) :
    gen (torusCalculus L).D β (fun _ : Unit => sch) (fun _ p k => dk k (pairEnergy u) p) f p k =
      dk k (fun y => f y k) p + β * max 0 (sgn k * deriv u (p.2 - p.1)) * (f p k.rev - f p k) := by
  unfold gen
  rw [jumpPart_pair_factor β sch _ (fun _ p => by
    simp only [Fin.sum_univ_two, dk_zero, dk_one, d1_pairEnergy, d2_pairEnergy]; ring), dk_pairEnergy]
  rfl

theorem torus_separation_energy_stationary (L β : ℝ) (sch : Scheme) {u : ℝ → ℝ} (hu : Smooth L u)
    (f : ℝ × ℝ → Fin 2 → ℝ) (hf : ∀ k, Smooth2 L (fun p => f p k)) :
    ∑ k, ∫ a in (0:ℝ)..L, ∫ b in (0:ℝ)..L,
      exp (-β * u (b - a)) *
        gen (torusCalculus L).D β (fun _ : Unit => sch) (fun _ p k => dk k (pairEnergy u) p) f (a, b) k = 0 :=
  torus_pair_stationary L β sch (pairEnergy_smooth hu)
    (fun p => by rw [d1_pairEnergy, d2_pairEnergy]; ring) f hf

theorem torus_cosine_stationary (L β : ℝ) (hL : L ≠ 0) (sch : Scheme)
    (f : ℝ × ℝ → Fin 2 → ℝ) (hf : ∀ k, Smooth2 L (fun p => f p k)) :
    ∑ k, ∫ a in (0:ℝ)..L, ∫ b in (0:ℝ)..L,
      exp (-β * (1 - cos (2 * π * (b - a) / L))) *
        gen (torusCalculus L).D β (fun _ : Unit => sch) (fun _ p k => dk k (pairEnergy (cosU L)) p) f (a, b) k = 0 :=
  torus_separation_energy_stationary L β sch (cosU_smooth hL) f hf

/-- non-vacuity: test functions on the torus, `C¹`, periodic in each position, not constant, depending on both -/
theorem trig_test_smooth2 {L : ℝ} (hL : L ≠ 0) :
    ∀ k : Fin 2, Smooth2 L (fun p : ℝ × ℝ =>
      (![fun p => sin (2 * π * p.1 / L) * cos (2 * π * p.2 / L), fun p => cos (2 * π * p.1 / L) + sin (2 * π * p.2 / L)]
        : Fin 2 → ℝ × ℝ → ℝ) k p) := by
  have h1 : ContDiff ℝ 1 (Prod.fst : ℝ × ℝ → ℝ) := contDiff_fst
  have h2 : ContDiff ℝ 1 (Prod.snd : ℝ × ℝ → ℝ) := contDiff_snd
  have hs1 := (sin_smooth hL).1.comp h1
  have hc1 := (cos_smooth hL).1.comp h1
  have hs2 := (sin_smooth hL).1.comp h2
  have hc2 := (cos_smooth hL).1.comp h2
  refine Fin.forall_fin_two.mpr ⟨⟨hs1.mul hc2, fun a b => ?_, fun a b => ?_⟩, ⟨hc1.add hs2, fun a b => ?_, fun a b => ?_⟩⟩
  · exact congrArg (· * cos (2 * π * b / L)) ((sin_smooth hL).2 a)
  · exact congrArg (sin (2 * π * a / L) * ·) ((cos_smooth hL).2 b)
  · exact congrArg (· + sin (2 * π * b / L)) ((cos_smooth hL).2 a)
  · exact congrArg (cos (2 * π * a / L) + ·) ((sin_smooth hL).2 b)

/-- non-vacuity of `torus_cosine_stationary` (and through it of `torus_pair_stationary`,
`boltzmann_stationary_generator`) -/
example : ∑ k, ∫ a in (0:ℝ)..2, ∫ b in (0:ℝ)..2,
      exp (-3 * (1 - cos (2 * π * (b - a) / 2))) *
        gen (torusCalculus 2).D 3 (fun _ : Unit => Scheme.outside) (fun _ p k => dk k (pairEnergy (cosU 2)) p)
          (fun p k => (![fun p => sin (2 * π * p.1 / 2) * cos (2 * π * p.2 / 2),
            fun p => cos (2 * π * p.1 / 2) + sin (2 * π * p.2 / 2)] : Fin 2 → ℝ × ℝ → ℝ) k p) (a, b) k = 0 :=
  torus_cosine_stationary 2 3 two_ne_zero .outside _ (trig_test_smooth2 two_ne_zero)

end Torus

/-- non-vacuity of `boltzmann_stationary_generator_linear`: one configuration, two units, `D k g = ±g`, `I` = evaluation,
`β = 1`, `U = 1`; (H1)–(H3) hold with event rates `q = (1, −1)` that are not zero. A toy: the meaningful instances are
`Circle` and `Torus`. -/
example (f : Unit → Fin 2 → ℝ) :
    ∑ k, (LinearMap.proj () : (Unit → ℝ) →ₗ[ℝ] ℝ) (fun x => exp (-1 * (fun _ => (1:ℝ)) x) *
      gen (fun k => ((Circle.sgn k • LinearMap.id : (Unit → ℝ) →ₗ[ℝ] (Unit → ℝ)) : (Unit → ℝ) → (Unit → ℝ)))
        1 (fun _ : Unit => Scheme.ratio) (fun _ _ k => Circle.sgn k) f x k) = 0 :=
  boltzmann_stationary_generator_linear (fun k => Circle.sgn k • LinearMap.id) (LinearMap.proj ()) 1
    (fun _ : Unit => Scheme.ratio) (fun _ _ => 1) (fun _ => 1) (fun _ _ k => Circle.sgn k)
    (by funext x; simp) (fun _ _ k => by simp)
    (fun _ _ => by simp [Circle.sgn, Fin.sum_univ_two])
    (fun k g => by simp; ring) f

end JF.C01Generator
