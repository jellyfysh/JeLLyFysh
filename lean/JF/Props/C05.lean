import JF.Lemmas.Lifting
import Mathlib.MeasureTheory.Measure.Lebesgue.Basic
/-!
# C05 — Lifting schemes route probability flow so that every unit's outflow is matched

Exact reading of `JF.Model.Lifting` (the model of `jellyfysh/lifting/*.py`) over an arbitrary linearly
ordered field `K`, for any `Ops K` whose literal `0` is the field's zero (`Ops.rat` is one).  The binary64
reading of the same definitions is what the driver `jf_lift` runs against the real classes, bit for bit.

Vocabulary (from `JF/Lemmas/Lifting.lean`).  A table `tbl : List (K × ι)` lists `(derivative, identifier)`
in insertion order; unit number `a` (an index into `tbl`) is the active one.
`negOf tbl` is the list of the non-positive entries, negated, in insertion order (what the code keeps in
`_negative_lifting_rates`/`_associated_identifiers`); "unit `k`" below is an index into `negOf tbl`,
`n_k = nrate tbl k = |derivative of unit k|`, `N k = n_0 + … + n_{k-1}`, `S = total (negOf tbl)`,
`P a = posSum (tbl.take a)` the positive derivatives inserted before `a`, `q a = rate tbl a`.

For tables of ANY size and insertion order whose derivatives sum to zero: the scheme selects unit `k` iff the
position it computes lies in `(N k, N (k+1)]` (`chooseIdx_iff`); the selected unit has a strictly negative
derivative and no error outcome occurs (`choose_negative`) — under `0 < u` (inside, ratio) resp. `u < 1`
(outside), and at the excluded end point the code does select a zero-derivative unit
(`inside_zero_draw_selects_zero_rate`, `ratio_zero_draw_selects_zero_rate`,
`outside_unit_draw_selects_zero_rate`); for a fixed active unit the draws selecting `k` form an interval of
length `prob` inside the unit interval (`sel_interval`, as a Lebesgue measure `selection_measure`); and
`∑_{a : q a > 0} q a * prob sch tbl a k = n_k` for each of the three schemes, the global balance of the lifted
flow (`flow_balance`, `flow_balance_measure`), while the probabilities of one valid active unit sum to one
(`prob_row_sum`).  `binary64_*` are the six known findings
(`known_findings/C05.json`) as kernel-evaluated theorems about the binary64 reading of the model.

Nothing is left `_partial`.  Rounding is not covered here: in binary64 the table does not sum to zero exactly,
the partial sums round, and the fall-through branch can fire (`binary64_*_fall_through`).  What the schemes
still guarantee when every operation rounds is in `JF/Props/C05Float.lean` (`choose_safe`,
`zero_rate_selected_iff`, `flow_error_draw`, `flow_error_inside_binary64`).
-/
namespace JF.C05
open JF JF.Lifting

set_option linter.unusedSectionVars false
variable {K : Type} [Field K] [LinearOrder K] [IsStrictOrderedRing K] {ι : Type}

def rate (tbl : List (K × ι)) (a : Nat) : K := (tbl.map Prod.fst).getD a 0

theorem rate_eq (tbl : List (K × ι)) {a : Nat} (ha : a < tbl.length) : rate tbl a = (tbl[a]).1 := by
  simp [rate, List.getD_eq_getElem?_getD, ha]

def P (tbl : List (K × ι)) (a : Nat) : K := posSum (tbl.take a)
def N (tbl : List (K × ι)) (k : Nat) : K := cumB (negOf tbl) k
def S (tbl : List (K × ι)) : K := total (negOf tbl)
def nrate (tbl : List (K × ι)) (k : Nat) : K := ((negOf tbl).map Prod.fst).getD k 0

theorem nrate_eq (tbl : List (K × ι)) {k : Nat} (hk : k < (negOf tbl).length) :
    nrate tbl k = ((negOf tbl)[k]).1 := by
  simp [nrate, List.getD_eq_getElem?_getD, hk]

theorem nrate_nonneg (tbl : List (K × ι)) (k : Nat) : 0 ≤ nrate tbl k := by
  unfold nrate
  rw [List.getD_eq_getElem?_getD]
  cases h : ((negOf tbl).map Prod.fst)[k]? with
  | none => exact le_rfl
  | some x =>
    obtain ⟨e, he, rfl⟩ := List.mem_map.mp (List.mem_of_getElem? h)
    exact negOf_nonneg tbl e he

private theorem N_succ (tbl : List (K × ι)) {k : Nat} (hk : k < (negOf tbl).length) :
    N tbl (k + 1) = N tbl k + nrate tbl k := by
  rw [nrate_eq tbl hk]; exact cumB_succ _ hk

/-- hypotheses of the property: the table sums to zero, the active unit has a positive derivative -/
structure Valid (tbl : List (K × ι)) (a : Nat) : Prop where
  sum_zero : total tbl = 0
  pos : 0 < rate tbl a

theorem Valid.lt {tbl : List (K × ι)} {a : Nat} (V : Valid tbl a) : a < tbl.length := by
  by_contra hn
  have h := V.pos
  simp [rate, List.getD_eq_getElem?_getD, not_lt.mp hn] at h

theorem S_eq_posSum {tbl : List (K × ι)} (hz : total tbl = 0) : S tbl = posSum tbl := by
  rw [total_eq_posSum_sub, sub_eq_zero] at hz
  exact hz.symm

theorem P_nonneg (tbl : List (K × ι)) (a : Nat) : 0 ≤ P tbl a := posSum_nonneg _

theorem P_add_rate_le_S {tbl : List (K × ι)} {a : Nat} (V : Valid tbl a) : P tbl a + rate tbl a ≤ S tbl := by
  rw [S_eq_posSum V.sum_zero, rate_eq tbl V.lt]
  exact posSum_take_add_le tbl V.lt (by rw [← rate_eq tbl V.lt]; exact V.pos)

theorem S_pos {tbl : List (K × ι)} {a : Nat} (V : Valid tbl a) : 0 < S tbl :=
  (add_pos_of_nonneg_of_pos (P_nonneg tbl a) V.pos).trans_le (P_add_rate_le_S V)

/-- admissible draws: CPython's `random()` lies in `[0, 1)`; the inside and ratio schemes need the draw to
be non-zero, the outside scheme needs it to be below one (`inside_zero_draw_selects_zero_rate` etc.) -/
def DrawOK : Scheme → K → K → Prop
  | .inside, u, _ => 0 < u ∧ u ≤ 1
  | .outside, u, _ => 0 ≤ u ∧ u < 1
  | .ratio, _, u2 => 0 < u2 ∧ u2 ≤ 1

/-- the position each scheme hands to the common loop, in the exact reading -/
def specPos (sch : Scheme) (tbl : List (K × ι)) (a : Nat) (u u2 : K) : K :=
  match sch with
  | .inside => P tbl a + rate tbl a * u
  | .outside => S tbl - (P tbl a + rate tbl a * u)
  | .ratio => S tbl * u2

section ops
variable (o : Ops K) (h0 : o.ofInt 0 = 0)
include h0

omit h0 in
private theorem Valid.ofInt {tbl : List (K × ι)} {a : Nat} (V : Valid tbl a) (h0 : o.ofInt 0 = 0) :
    o.ofInt 0 < (tbl[a]'V.lt).1 := by
  rw [h0, ← rate_eq tbl V.lt]; exact V.pos

theorem choose_eq {tbl : List (K × ι)} {a : Nat} (V : Valid tbl a) (sch : Scheme) (u u2 : K) :
    choose o sch tbl a u u2 = (chooseIdx o sch tbl a u u2).bind (lookup (negOf tbl)) := by
  rw [choose_g o sch tbl a u u2 V.lt (V.ofInt o h0), chooseIdx_g o sch tbl a u u2 V.lt (V.ofInt o h0),
    negL_eq_negOf o h0]
  exact select_eq_bind o _ _

theorem posOf_eq_specPos {tbl : List (K × ι)} {a : Nat} (V : Valid tbl a) (sch : Scheme) (u u2 : K) :
    posOf o sch tbl a u u2 = specPos sch tbl a u u2 := by
  cases sch <;>
    simp only [posOf, specPos, P, S, rate_eq tbl V.lt, posIn_eq o h0 V.lt, sumNeg_eq o h0, pyUniform_zero o h0]

theorem chooseIdx_eq {tbl : List (K × ι)} {a : Nat} (V : Valid tbl a) (sch : Scheme) (u u2 : K) :
    chooseIdx o sch tbl a u u2 = selectIdx o (specPos sch tbl a u u2) (negOf tbl) := by
  rw [chooseIdx_g o sch tbl a u u2 V.lt (V.ofInt o h0), negL_eq_negOf o h0, posOf_eq_specPos o h0 V]

/-- for a position in `(0, total]`: `sel_spec` puts the index read into its window `(N_k, N_{k+1}]`, and the windows are
disjoint -/
theorem selectIdx_iff (l : List (K × ι)) (hl : NonNeg l) (p : K) (hp0 : 0 < p) (hp1 : p ≤ total l) (k : Nat) :
    selectIdx o p l = .ok k ↔ k < l.length ∧ cumB l k < p ∧ p ≤ cumB l (k + 1) := by
  have hne : l ≠ [] := by rintro rfl; exact (hp0.trans_le hp1).false
  obtain ⟨h1, h2⟩ := sel_spec id (fun _ _ => Iff.rfl) o p hne
    (by simpa only [id, acc_eq, h0, zero_add] using acc_monotone hl 0)
  simp only [id, acc_eq, h0, zero_add, cumB_length] at h1 h2
  have g1 : cumB l (sel o p l) < p := h1.elim (fun h => by rw [h, cumB_zero]; exact hp0) id
  have g2 : p ≤ cumB l (sel o p l + 1) := h2.elim id fun h => absurd hp1 (not_le.2 h.2)
  rw [selectIdx_eq_sel o p hne, Except.ok.injEq]
  constructor
  · rintro rfl; exact ⟨sel_lt o p hne, g1, g2⟩
  · rintro ⟨_, k1, k2⟩
    rcases lt_trichotomy (sel o p l) k with h | h | h
    · exact absurd (g2.trans (cumB_mono hl h)) (not_le.2 k1)
    · exact h
    · exact absurd (k2.trans (cumB_mono hl h)) (not_le.2 g1)

omit h0 in
private theorem specPos_mem {tbl : List (K × ι)} {a : Nat} (V : Valid tbl a) (sch : Scheme) {u u2 : K}
    (hd : DrawOK sch u u2) : 0 < specPos sch tbl a u u2 ∧ specPos sch tbl a u u2 ≤ S tbl := by
  have hq := V.pos
  have hP := P_nonneg tbl a
  have hS := P_add_rate_le_S V
  cases sch <;> obtain ⟨hu0, hu1⟩ := hd
  · exact ⟨add_pos_of_nonneg_of_pos hP (mul_pos hq hu0),
      (add_le_add le_rfl (mul_le_of_le_one_right hq.le hu1)).trans hS⟩
  · exact ⟨sub_pos.2 ((add_lt_add_of_le_of_lt le_rfl (mul_lt_of_lt_one_right hq hu1)).trans_le hS),
      sub_le_self _ (add_nonneg hP (mul_nonneg hq.le hu0))⟩
  · exact ⟨mul_pos (S_pos V) hu0, mul_le_of_le_one_right (S_pos V).le hu1⟩

/-- **Pointwise characterisation.**  Each scheme selects unit `k` iff the position it computes lies in
`(N k, N (k+1)]`. -/
theorem chooseIdx_iff {tbl : List (K × ι)} {a : Nat} (V : Valid tbl a) (sch : Scheme) {u u2 : K}
    (hd : DrawOK sch u u2) (k : Nat) :
    chooseIdx o sch tbl a u u2 = .ok k ↔
      k < (negOf tbl).length ∧ N tbl k < specPos sch tbl a u u2 ∧ specPos sch tbl a u u2 ≤ N tbl (k + 1) := by
  obtain ⟨hp0, hp1⟩ := specPos_mem V sch hd
  rw [chooseIdx_eq o h0 V]
  exact selectIdx_iff o h0 _ (negOf_nonneg tbl) _ hp0 hp1 k

theorem inside_iff {tbl : List (K × ι)} {a : Nat} (V : Valid tbl a) {u : K} (hu0 : 0 < u) (hu1 : u ≤ 1)
    (u2 : K) (k : Nat) :
    chooseIdx o .inside tbl a u u2 = .ok k ↔
      k < (negOf tbl).length ∧ N tbl k < P tbl a + rate tbl a * u ∧ P tbl a + rate tbl a * u ≤ N tbl (k + 1) :=
  chooseIdx_iff o h0 V .inside (u2 := u2) ⟨hu0, hu1⟩ k

theorem outside_iff {tbl : List (K × ι)} {a : Nat} (V : Valid tbl a) {u : K} (hu0 : 0 ≤ u) (hu1 : u < 1)
    (u2 : K) (k : Nat) :
    chooseIdx o .outside tbl a u u2 = .ok k ↔
      k < (negOf tbl).length ∧ N tbl k < S tbl - (P tbl a + rate tbl a * u) ∧
        S tbl - (P tbl a + rate tbl a * u) ≤ N tbl (k + 1) :=
  chooseIdx_iff o h0 V .outside (u2 := u2) ⟨hu0, hu1⟩ k

theorem ratio_iff {tbl : List (K × ι)} {a : Nat} (V : Valid tbl a) (u : K) {u2 : K} (hu0 : 0 < u2) (hu1 : u2 ≤ 1)
    (k : Nat) :
    chooseIdx o .ratio tbl a u u2 = .ok k ↔
      k < (negOf tbl).length ∧ N tbl k < S tbl * u2 ∧ S tbl * u2 ≤ N tbl (k + 1) :=
  chooseIdx_iff o h0 V .ratio (u := u) ⟨hu0, hu1⟩ k

/-- some unit is always selected, whatever the draws: no error outcome (under `DrawOK` no fall-through either:
`chooseIdx_iff`) -/
theorem chooseIdx_total {tbl : List (K × ι)} {a : Nat} (V : Valid tbl a) (sch : Scheme) (u u2 : K) :
    ∃ k, chooseIdx o sch tbl a u u2 = .ok k := by
  have hne : negOf tbl ≠ [] := fun h => (S_pos V).ne' (by rw [S, h, total_nil])
  exact ⟨_, (chooseIdx_eq o h0 V sch u u2).trans (selectIdx_eq_sel o _ hne)⟩

/-- **The selected unit has a strictly negative derivative** (index form) -/
theorem chooseIdx_negative {tbl : List (K × ι)} {a : Nat} (V : Valid tbl a) (sch : Scheme) {u u2 : K}
    (hd : DrawOK sch u u2) {k : Nat} (h : chooseIdx o sch tbl a u u2 = .ok k) :
    k < (negOf tbl).length ∧ 0 < nrate tbl k := by
  obtain ⟨hk, h1, h2⟩ := (chooseIdx_iff o h0 V sch hd k).mp h
  rw [N_succ tbl hk] at h2
  exact ⟨hk, (lt_add_iff_pos_right _).1 (h1.trans_le h2)⟩

/-- **The selected unit has a strictly negative derivative** (identifier form): the move never fails, and the
identifier it returns is the identifier of a table entry whose derivative is `< 0`. -/
theorem choose_negative {tbl : List (K × ι)} {a : Nat} (V : Valid tbl a) (sch : Scheme) {u u2 : K}
    (hd : DrawOK sch u u2) :
    ∃ r i, (r, i) ∈ tbl ∧ r < 0 ∧ choose o sch tbl a u u2 = .ok i := by
  obtain ⟨k, hk⟩ := chooseIdx_total o h0 V sch u u2
  obtain ⟨hlt, hpos⟩ := chooseIdx_negative o h0 V sch hd hk
  rw [nrate_eq tbl hlt] at hpos
  have hmem : (negOf tbl)[k] ∈ negL o tbl := by rw [negL_eq_negOf o h0]; exact List.getElem_mem hlt
  obtain ⟨r, hm, -, he⟩ := mem_negL o hmem
  refine ⟨r, _, hm, neg_pos.1 (by rwa [he] at hpos), ?_⟩
  rw [choose_eq o h0 V, hk]
  simp [Except.bind, lookup, hlt]

/-- with pairwise distinct identifiers: whatever entry of the table carries the returned identifier, its
derivative is negative -/
theorem choose_negative_of_nodup {tbl : List (K × ι)} {a : Nat} (V : Valid tbl a) (sch : Scheme) {u u2 : K}
    (hd : DrawOK sch u u2) (hnd : (tbl.map Prod.snd).Nodup) {i : ι}
    (h : choose o sch tbl a u u2 = .ok i) : ∀ r, (r, i) ∈ tbl → r < 0 := by
  obtain ⟨r', i', hm, hr, hc⟩ := choose_negative o h0 V sch hd
  rw [h] at hc
  cases hc
  intro r hmem
  have : r = r' := by
    have hinj := List.inj_on_of_nodup_map hnd hmem hm rfl
    exact (Prod.mk.inj hinj).1
  rw [this]; exact hr

/-- with pairwise distinct identifiers, "the move returns the identifier of unit `k`" and "the move selects
unit `k`" are the same event, so the statements about `chooseIdx` (intervals, probabilities, balance)
are statements about the identifier that `get_active_identifier` returns -/
theorem choose_ok_iff {tbl : List (K × ι)} {a : Nat} (V : Valid tbl a) (sch : Scheme) {u u2 : K}
    (hd : DrawOK sch u u2) (hnd : (tbl.map Prod.snd).Nodup) {k : Nat} (hk : k < (negOf tbl).length) :
    choose o sch tbl a u u2 = .ok ((negOf tbl)[k]).2 ↔ chooseIdx o sch tbl a u u2 = .ok k := by
  obtain ⟨k', hk'⟩ := chooseIdx_total o h0 V sch u u2
  have hlt := (chooseIdx_negative o h0 V sch hd hk').1
  have hnd' : ((negOf tbl).map Prod.snd).Nodup := hnd.sublist (negL_eq_negOf o h0 tbl ▸ negL_ids_sublist o tbl)
  rw [choose_eq o h0 V, hk']
  simp only [Except.bind, lookup, List.getElem?_eq_getElem hlt, Except.ok.injEq]
  constructor
  · intro h
    have e1 : k' < ((negOf tbl).map Prod.snd).length := by simpa using hlt
    have e2 : k < ((negOf tbl).map Prod.snd).length := by simpa using hk
    have h1 : ((negOf tbl).map Prod.snd)[k'] = ((negOf tbl).map Prod.snd)[k] := by simpa using h
    exact (hnd'.getElem_inj_iff.mp h1).symm ▸ rfl
  · intro h; subst h; rfl

end ops

/-! ### the excluded end points: the code does select a zero-derivative unit there -/

section boundary
variable (o : Ops K) (h0 : o.ofInt 0 = 0)
include h0

/-- a position `≤ 0` stops the loop at a zero-rate entry heading the negative list (`0.0 <= 0.0`) -/
private theorem choose_of_specPos_nonpos {tbl : List (K × ι)} {a : Nat} (V : Valid tbl a) (sch : Scheme) {u u2 : K}
    (hp : specPos sch tbl a u u2 ≤ 0) {i : ι} {rest : List (K × ι)} (hneg : negOf tbl = (0, i) :: rest) :
    choose o sch tbl a u u2 = .ok i := by
  rw [choose_eq o h0 V, chooseIdx_eq o h0 V, hneg]
  unfold selectIdx
  rw [walkIdx_first _ _ _ _ (by simpa [h0] using hp)]
  simp [Except.bind, lookup]

/-- **Inside first, draw `u = 0`** with the active unit first among the positive ones: if the first
non-positive entry of the table has derivative zero, that unit is selected (`0.0 <= 0.0` in the loop).
So `0 < u` in `choose_negative` cannot be dropped. -/
theorem inside_zero_draw_selects_zero_rate {tbl : List (K × ι)} {a : Nat} (V : Valid tbl a)
    (hfirst : P tbl a = 0) {i : ι} {rest : List (K × ι)} (hneg : negOf tbl = (0, i) :: rest) (u2 : K) :
    choose o .inside tbl a 0 u2 = .ok i :=
  choose_of_specPos_nonpos o h0 V .inside (by simp [specPos, hfirst]) hneg

/-- **Ratio, own draw `u2 = 0`**: a zero-derivative unit heading the negative list is selected. -/
theorem ratio_zero_draw_selects_zero_rate {tbl : List (K × ι)} {a : Nat} (V : Valid tbl a)
    {i : ι} {rest : List (K × ι)} (hneg : negOf tbl = (0, i) :: rest) (u : K) :
    choose o .ratio tbl a u 0 = .ok i :=
  choose_of_specPos_nonpos o h0 V .ratio (by simp [specPos]) hneg

/-- **Outside first, draw `u = 1`** (the closed end of `uniform`, reached in binary64 by rounding) with the
active unit last among the positive ones: a zero-derivative unit heading the negative list is selected. -/
theorem outside_unit_draw_selects_zero_rate {tbl : List (K × ι)} {a : Nat} (V : Valid tbl a)
    (hlast : P tbl a + rate tbl a = S tbl) {i : ι} {rest : List (K × ι)} (hneg : negOf tbl = (0, i) :: rest)
    (u2 : K) :
    choose o .outside tbl a 1 u2 = .ok i :=
  choose_of_specPos_nonpos o h0 V .outside (by simp [specPos, hlast]) hneg

end boundary

/-- the window `[c, d]` of positions `P a + q a * u` for which unit `k` is selected
(inside: `[N k, N (k+1)]`; outside: its reflection) -/
def window (sch : Scheme) (tbl : List (K × ι)) (k : Nat) : K × K :=
  match sch with
  | .inside => (N tbl k, N tbl (k + 1))
  | .outside => (S tbl - N tbl (k + 1), S tbl - N tbl k)
  | .ratio => (N tbl k, N tbl (k + 1))

/-- lower end of the interval of draws selecting `k` (draw = `u` for inside/outside, `u2` for ratio) -/
def lo (sch : Scheme) (tbl : List (K × ι)) (a k : Nat) : K :=
  match sch with
  | .ratio => N tbl k / S tbl
  | _ => (max (P tbl a) (window sch tbl k).1 - P tbl a) / rate tbl a

def hi (sch : Scheme) (tbl : List (K × ι)) (a k : Nat) : K :=
  match sch with
  | .ratio => N tbl (k + 1) / S tbl
  | _ => (min (P tbl a + rate tbl a) (window sch tbl k).2 - P tbl a) / rate tbl a

/-- the probability that the scheme selects unit `k` when `a` is active: the length of the interval of
draws (Lebesgue measure of the selection set, `sel_interval`) -/
def prob (sch : Scheme) (tbl : List (K × ι)) (a k : Nat) : K := max 0 (hi sch tbl a k - lo sch tbl a k)

/-- which draw the scheme's choice depends on, and how the interval is closed -/
def inInterval (sch : Scheme) (l h u u2 : K) : Prop :=
  match sch with
  | .inside => l < u ∧ u ≤ h
  | .outside => l ≤ u ∧ u < h
  | .ratio => l < u2 ∧ u2 ≤ h

theorem N_le_S (tbl : List (K × ι)) (k : Nat) : N tbl k ≤ S tbl := cumB_le_total (negOf_nonneg tbl) k
theorem N_nonneg (tbl : List (K × ι)) (k : Nat) : 0 ≤ N tbl k := cumB_nonneg (negOf_nonneg tbl) k
theorem N_mono (tbl : List (K × ι)) {j k : Nat} (h : j ≤ k) : N tbl j ≤ N tbl k :=
  cumB_mono (negOf_nonneg tbl) h
theorem N_zero (tbl : List (K × ι)) : N tbl 0 = 0 := cumB_zero _
theorem N_length (tbl : List (K × ι)) : N tbl (negOf tbl).length = S tbl := cumB_length _

/-! The draw `u` and the position `P + q·u` are related by an increasing affine map, so a comparison of the draw with
`(x - P) / q` is a comparison of the position with `x`. -/

private theorem sub_div_lt_iff {P q x u : K} (hq : 0 < q) : (x - P) / q < u ↔ x < P + q * u := by
  rw [div_lt_iff₀ hq, sub_lt_iff_lt_add', mul_comm]

private theorem lt_sub_div_iff {P q x u : K} (hq : 0 < q) : u < (x - P) / q ↔ P + q * u < x := by
  rw [lt_div_iff₀ hq, lt_sub_iff_add_lt', mul_comm]

private theorem sub_div_le_iff {P q x u : K} (hq : 0 < q) : (x - P) / q ≤ u ↔ x ≤ P + q * u := by
  rw [← not_lt, lt_sub_div_iff hq, not_lt]

private theorem le_sub_div_iff {P q x u : K} (hq : 0 < q) : u ≤ (x - P) / q ↔ P + q * u ≤ x := by
  rw [← not_lt, sub_div_lt_iff hq, not_lt]

theorem lo_nonneg_hi_le_one {tbl : List (K × ι)} {a : Nat} (V : Valid tbl a) (sch : Scheme) (k : Nat) :
    0 ≤ lo sch tbl a k ∧ hi sch tbl a k ≤ 1 := by
  have hq := V.pos
  have hw : ∀ c d : K, 0 ≤ (max (P tbl a) c - P tbl a) / rate tbl a ∧
      (min (P tbl a + rate tbl a) d - P tbl a) / rate tbl a ≤ 1 := fun c d =>
    ⟨div_nonneg (sub_nonneg.2 (le_max_left _ _)) hq.le,
      (div_le_one hq).2 (sub_le_iff_le_add'.2 (min_le_left _ _))⟩
  cases sch
  · exact hw (N tbl k) (N tbl (k + 1))
  · exact hw (S tbl - N tbl (k + 1)) (S tbl - N tbl k)
  · exact ⟨div_nonneg (N_nonneg tbl k) (S_pos V).le, (div_le_one (S_pos V)).2 (N_le_S tbl (k + 1))⟩

section ops2
variable (o : Ops K) (h0 : o.ofInt 0 = 0)
include h0

/-- **The set of draws selecting `k` is an interval inside the unit interval**: `(lo, hi]` for inside and
ratio, `[lo, hi)` for outside. -/
theorem sel_interval {tbl : List (K × ι)} {a : Nat} (V : Valid tbl a) (sch : Scheme) {u u2 : K}
    (hd : DrawOK sch u u2) {k : Nat} (hk : k < (negOf tbl).length) :
    (chooseIdx o sch tbl a u u2 = .ok k ↔ inInterval sch (lo sch tbl a k) (hi sch tbl a k) u u2) ∧
      0 ≤ lo sch tbl a k ∧ hi sch tbl a k ≤ 1 := by
  have hq := V.pos
  refine ⟨?_, lo_nonneg_hi_le_one V sch k⟩
  rw [chooseIdx_iff o h0 V sch hd k]
  cases sch <;> obtain ⟨hu0, hu1⟩ := hd <;> simp only [specPos, lo, hi, window, inInterval, hk, true_and]
  · -- inside: the position `P + q·u` runs through `(P, P + q]`, so only the window's end points matter
    have h1 : P tbl a < P tbl a + rate tbl a * u := lt_add_of_pos_right _ (mul_pos hq hu0)
    have h2 : P tbl a + rate tbl a * u ≤ P tbl a + rate tbl a :=
      (add_le_add_iff_left _).2 (mul_le_of_le_one_right hq.le hu1)
    rw [sub_div_lt_iff hq, le_sub_div_iff hq, max_lt_iff, le_min_iff]
    simp only [h1, h2, true_and]
  · -- outside: the reflected position `S - (P + q·u)`, with `P + q·u` in `[P, P + q)`
    have h1 : P tbl a ≤ P tbl a + rate tbl a * u := le_add_of_nonneg_right (mul_nonneg hq.le hu0)
    have h2 : P tbl a + rate tbl a * u < P tbl a + rate tbl a :=
      (add_lt_add_iff_left _).2 (mul_lt_of_lt_one_right hq hu1)
    rw [sub_div_le_iff hq, lt_sub_div_iff hq, max_le_iff, lt_min_iff, lt_sub_comm, sub_le_comm]
    simp only [h1, h2, true_and]
    exact and_comm
  · have hS := S_pos V
    rw [div_lt_iff₀ hS, le_div_iff₀ hS, mul_comm]

end ops2

theorem P_succ (tbl : List (K × ι)) (a : Nat) : P tbl (a + 1) = P tbl a + max 0 (rate tbl a) := by
  induction tbl generalizing a with
  | nil => simp [P, rate, posSum]
  | cons x t ih =>
    cases a with
    | zero => exact (posSum_cons_max x []).trans (add_comm _ _)
    | succ a =>
      show posSum (x :: t.take (a + 1)) = posSum (x :: t.take a) + max 0 (rate t a)
      rw [posSum_cons_max, posSum_cons_max, add_assoc]
      exact congrArg _ (ih a)

/-- for the two schemes that compare positions, `rate · prob` is the overlap of the active unit's interval
`[P a, P a + q a]` with the window of `k` -/
theorem rate_mul_prob {tbl : List (K × ι)} {a : Nat} (hq : 0 < rate tbl a) {sch : Scheme} (hs : sch ≠ .ratio) (k : Nat) :
    rate tbl a * prob sch tbl a k =
      overlap (P tbl a) (rate tbl a) (window sch tbl k).1 (window sch tbl k).2 := by
  have hlo : lo sch tbl a k = (max (P tbl a) (window sch tbl k).1 - P tbl a) / rate tbl a := by
    cases sch <;> first | rfl | exact absurd rfl hs
  have hhi : hi sch tbl a k = (min (P tbl a + rate tbl a) (window sch tbl k).2 - P tbl a) / rate tbl a := by
    cases sch <;> first | rfl | exact absurd rfl hs
  rw [prob, hlo, hhi, overlap, ← sub_div, mul_max_of_nonneg _ _ hq.le, mul_zero, mul_div_cancel₀ _ hq.ne',
    sub_sub_sub_cancel_right]

/-- a sum over the positive units telescopes along `P`: the intervals `[P a, P a + q a]` of the positive units tile
`[0, posSum]`, so if unit `a` contributes the increment of `g` over its interval the sum is the increment over the whole -/
private theorem sum_pos_telescope (tbl : List (K × ι)) (g : K → K) (t : Nat → K)
    (h : ∀ a, 0 < rate tbl a → t a = g (P tbl a + rate tbl a) - g (P tbl a)) :
    ∑ a ∈ Finset.range tbl.length, (if 0 < rate tbl a then t a else 0) = g (posSum tbl) - g 0 := by
  have hg : ∑ a ∈ Finset.range tbl.length, (g (P tbl (a + 1)) - g (P tbl a)) = g (posSum tbl) - g 0 := by
    rw [Finset.sum_range_sub fun a => g (P tbl a), P, P, List.take_length, List.take_zero]
    rfl
  rw [← hg]
  refine Finset.sum_congr rfl fun a _ => ?_
  rw [P_succ]
  split
  · next hq => rw [h a hq, max_eq_right hq.le]
  · next hq => rw [max_eq_left (not_lt.mp hq), add_zero, sub_self]

/-- inside and outside: for a window inside `[0, posSum]` the overlaps add up to its length -/
private theorem sum_window (tbl : List (K × ι)) {sch : Scheme} (hs : sch ≠ .ratio) (k : Nat)
    (h0c : 0 ≤ (window sch tbl k).1) (hcd : (window sch tbl k).1 ≤ (window sch tbl k).2)
    (hd : (window sch tbl k).2 ≤ posSum tbl) :
    ∑ a ∈ Finset.range tbl.length, (if 0 < rate tbl a then rate tbl a * prob sch tbl a k else 0) =
      (window sch tbl k).2 - (window sch tbl k).1 := by
  rw [sum_pos_telescope tbl (clamp (window sch tbl k).1 (window sch tbl k).2) _ fun a hq =>
    (rate_mul_prob hq hs k).trans (overlap_eq_clamp _ _ _ _ hq.le hcd), clamp_of_ge hd, clamp_of_le h0c hcd]

/-- **Global balance of the lifted flow.**  For every table (any size, any insertion order, zeros allowed)
whose derivatives sum to zero: summed over the active units `a` weighted by their positive derivative `q a`,
the probability of selecting `k` equals `n_k`, the magnitude of `k`'s derivative. -/
theorem flow_balance (sch : Scheme) (tbl : List (K × ι)) (hz : total tbl = 0) {k : Nat}
    (hk : k < (negOf tbl).length) :
    ∑ a ∈ Finset.range tbl.length, (if 0 < rate tbl a then rate tbl a * prob sch tbl a k else 0) =
      nrate tbl k := by
  have hS := S_eq_posSum hz
  have hN : N tbl (k + 1) - N tbl k = nrate tbl k := by rw [N_succ tbl hk, add_sub_cancel_left]
  have hmono : N tbl k ≤ N tbl (k + 1) := N_mono tbl (Nat.le_succ k)
  cases sch
  · exact (sum_window tbl (sch := .inside) nofun k (N_nonneg tbl k) hmono (hS ▸ N_le_S tbl (k + 1))).trans hN
  · exact (sum_window tbl (sch := .outside) nofun k (sub_nonneg.2 (N_le_S tbl (k + 1))) (sub_le_sub_left hmono _)
      (hS ▸ sub_le_self _ (N_nonneg tbl k))).trans ((sub_sub_sub_cancel_left _ _ _).trans hN)
  · -- ratio: the same probability `n_k / S` whatever the active unit
    have hSn : 0 ≤ S tbl := total_nonneg (negOf_nonneg tbl)
    have hprob : ∀ a, prob .ratio tbl a k = nrate tbl k / S tbl := fun a => by
      show max 0 (N tbl (k + 1) / S tbl - N tbl k / S tbl) = _
      rw [← sub_div, hN, max_eq_right (div_nonneg (nrate_nonneg tbl k) hSn)]
    rw [sum_pos_telescope tbl (· * (nrate tbl k / S tbl)) _ fun a _ => by rw [hprob, add_mul, add_sub_cancel_left],
      zero_mul, sub_zero, ← hS]
    rcases hSn.eq_or_lt with hS0 | hS0
    · have : nrate tbl k = 0 :=
        le_antisymm (hN ▸ (sub_le_self _ (N_nonneg tbl k)).trans ((N_le_S tbl (k + 1)).trans_eq hS0.symm))
          (nrate_nonneg tbl k)
      rw [this, zero_div, mul_zero]
    · exact mul_div_cancel₀ _ hS0.ne'

/-- **The selection probabilities of a valid active unit sum to one** (all three schemes): the windows of the
units tile `[0, S]`, which contains the active unit's interval, so the clamps telescope to its length. -/
theorem prob_row_sum (sch : Scheme) {tbl : List (K × ι)} {a : Nat} (V : Valid tbl a) :
    ∑ k ∈ Finset.range (negOf tbl).length, prob sch tbl a k = 1 := by
  have hq := V.pos
  have hPS := P_add_rate_le_S V
  have hP := P_nonneg tbl a
  have hmono : ∀ k, N tbl k ≤ N tbl (k + 1) := fun k => N_mono tbl (Nat.le_succ k)
  set c := clamp (P tbl a) (P tbl a + rate tbl a)
  have hcS : c (S tbl) = P tbl a + rate tbl a := clamp_of_ge hPS
  have hc0 : c 0 = P tbl a := clamp_of_le hP (le_add_of_nonneg_right hq.le)
  cases sch
  · -- inside: the windows `[N k, N (k+1)]` run upwards from `0` to `S`
    have h1 : ∀ k, rate tbl a * prob .inside tbl a k = c (N tbl (k + 1)) - c (N tbl k) := fun k =>
      (rate_mul_prob hq (sch := .inside) nofun k).trans (overlap_eq_clamp' _ _ _ _ hq.le (hmono k))
    apply mul_left_cancel₀ hq.ne'
    rw [Finset.mul_sum, Finset.sum_congr rfl fun k _ => h1 k, Finset.sum_range_sub fun k => c (N tbl k),
      N_length, N_zero, hcS, hc0, add_sub_cancel_left, mul_one]
  · -- outside: the windows `[S − N (k+1), S − N k]` run downwards from `S` to `0`
    have h1 : ∀ k, rate tbl a * prob .outside tbl a k = c (S tbl - N tbl k) - c (S tbl - N tbl (k + 1)) := fun k =>
      (rate_mul_prob hq (sch := .outside) nofun k).trans
        (overlap_eq_clamp' _ _ _ _ hq.le (sub_le_sub_left (hmono k) _))
    apply mul_left_cancel₀ hq.ne'
    rw [Finset.mul_sum, Finset.sum_congr rfl fun k _ => h1 k, Finset.sum_range_sub' fun k => c (S tbl - N tbl k),
      N_length, N_zero, sub_zero, sub_self, hcS, hc0, add_sub_cancel_left, mul_one]
  · -- ratio: `prob = (N (k+1) − N k) / S`
    have hS := S_pos V
    have h1 : ∀ k, prob .ratio tbl a k = N tbl (k + 1) / S tbl - N tbl k / S tbl := fun k =>
      max_eq_right (sub_nonneg.mpr (div_le_div_of_nonneg_right (hmono k) hS.le))
    rw [Finset.sum_congr rfl fun k _ => h1 k, Finset.sum_range_sub fun k => N tbl k / S tbl,
      N_length, N_zero, zero_div, sub_zero, div_self hS.ne']

section measure
open MeasureTheory

/-- the set of admissible draws (of the draw the scheme's choice depends on: `u` for inside/outside, `u2` for
ratio; the other one is the parameter `w`) for which unit `k` is selected when `a` is active -/
def selSet (o : Ops ℝ) (sch : Scheme) (tbl : List (ℝ × ι)) (a k : Nat) (w : ℝ) : Set ℝ :=
  match sch with
  | .ratio => {u2 | DrawOK .ratio w u2 ∧ chooseIdx o .ratio tbl a w u2 = .ok k}
  | s => {u | DrawOK s u w ∧ chooseIdx o s tbl a u w = .ok k}

private theorem drawOK_of_inInterval {sch : Scheme} {l h u u2 : K} (hl : 0 ≤ l) (hh : h ≤ 1)
    (hi : inInterval sch l h u u2) : DrawOK sch u u2 := by
  cases sch <;> obtain ⟨h1, h2⟩ := hi
  · exact ⟨hl.trans_lt h1, h2.trans hh⟩
  · exact ⟨hl.trans h1, h2.trans_le hh⟩
  · exact ⟨hl.trans_lt h1, h2.trans hh⟩

theorem drawOK_and_chooseIdx_iff (o : Ops K) (h0 : o.ofInt 0 = 0) {tbl : List (K × ι)} {a : Nat} (V : Valid tbl a)
    (sch : Scheme) {u u2 : K} {k : Nat} (hk : k < (negOf tbl).length) :
    DrawOK sch u u2 ∧ chooseIdx o sch tbl a u u2 = .ok k ↔
      inInterval sch (lo sch tbl a k) (hi sch tbl a k) u u2 := by
  obtain ⟨hl, hh⟩ := lo_nonneg_hi_le_one V sch k
  constructor
  · rintro ⟨hd, hc⟩
    exact (sel_interval o h0 V sch hd hk).1.mp hc
  · intro h
    have hd := drawOK_of_inInterval hl hh h
    exact ⟨hd, (sel_interval o h0 V sch hd hk).1.mpr h⟩

/-- **The probability of selecting `k` is `prob`**: the Lebesgue measure of the set of uniform draws for which
the scheme selects unit `k` with `a` active (the excluded end point of the draw is a null set). -/
theorem selection_measure (o : Ops ℝ) (h0 : o.ofInt 0 = 0) {tbl : List (ℝ × ι)} {a : Nat} (V : Valid tbl a)
    (sch : Scheme) (w : ℝ) {k : Nat} (hk : k < (negOf tbl).length) :
    volume (selSet o sch tbl a k w) = ENNReal.ofReal (prob sch tbl a k) := by
  have hmax : ∀ x : ℝ, ENNReal.ofReal (max 0 x) = ENNReal.ofReal x := by
    intro x
    rcases le_total 0 x with h | h
    · rw [max_eq_right h]
    · rw [max_eq_left h, ENNReal.ofReal_of_nonpos h, ENNReal.ofReal_zero]
  cases sch
  · have : selSet o .inside tbl a k w = Set.Ioc (lo .inside tbl a k) (hi .inside tbl a k) :=
      Set.ext fun _ => drawOK_and_chooseIdx_iff o h0 V .inside hk
    rw [this, Real.volume_Ioc, prob, hmax]
  · have : selSet o .outside tbl a k w = Set.Ico (lo .outside tbl a k) (hi .outside tbl a k) :=
      Set.ext fun _ => drawOK_and_chooseIdx_iff o h0 V .outside hk
    rw [this, Real.volume_Ico, prob, hmax]
  · have : selSet o .ratio tbl a k w = Set.Ioc (lo .ratio tbl a k) (hi .ratio tbl a k) :=
      Set.ext fun _ => drawOK_and_chooseIdx_iff o h0 V .ratio hk
    rw [this, Real.volume_Ioc, prob, hmax]

/-- **Global balance, measure form**: `flow_balance` with the probability read as the Lebesgue measure of the
set of uniform draws. -/
theorem flow_balance_measure (o : Ops ℝ) (h0 : o.ofInt 0 = 0) (sch : Scheme) (tbl : List (ℝ × ι))
    (hz : total tbl = 0) (w : ℝ) {k : Nat} (hk : k < (negOf tbl).length) :
    ∑ a ∈ Finset.range tbl.length,
      (if 0 < rate tbl a then rate tbl a * (volume (selSet o sch tbl a k w)).toReal else 0) = nrate tbl k := by
  rw [← flow_balance sch tbl hz hk]
  apply Finset.sum_congr rfl
  intro a _
  split
  · next h =>
    rw [selection_measure o h0 ⟨hz, h⟩ sch w hk, ENNReal.toReal_ofReal (show 0 ≤ prob sch tbl a k from le_max_left _ _)]
  · rfl

/-- non-vacuity: an `Ops ℝ` with literal zero `0` exists (only `ofInt 0` is read by the exact lifting model) -/
noncomputable example : {o : Ops ℝ // o.ofInt 0 = 0} :=
  ⟨⟨fun n => n, fun x => x, fun x _ => x, fun _ => 0, fun _ => false, fun _ => 0, fun x => x⟩, by simp⟩

end measure

/-- a reset forgets everything: the state after `reset` does not depend on the history, so a move
(`reset`, insertion loop, `get_active_identifier`) depends on nothing but the table and the draws -/
theorem reset_forgets {α ι : Type} (o : Ops α) (s s' : Lifting α ι) :
    Lifting.reset o s = Lifting.reset o s' := rfl

/-- the choice is a function of the table, the active unit and the draws (for every scalar type, so also
in binary64): stated for the record, it holds by construction of a pure function -/
theorem choose_deterministic {α ι : Type} [Add α] [Sub α] [Mul α] [Neg α] [LT α] [DecidableLT α] [LE α]
    [DecidableLE α] [BEq α] (o : Ops α) (sch : Scheme) (tbl tbl' : List (α × ι)) (a a' : Nat) (u u' u2 u2' : α)
    (h1 : tbl = tbl') (h2 : a = a') (h3 : u = u') (h4 : u2 = u2') :
    choose o sch tbl a u u2 = choose o sch tbl' a' u' u2' := by subst h1 h2 h3 h4; rfl

/-- the ratio scheme's choice does not depend on which unit is active nor on that unit's draw -/
theorem ratio_independent (o : Ops K) (h0 : o.ofInt 0 = 0) {tbl : List (K × ι)} {a a' : Nat} (V : Valid tbl a)
    (V' : Valid tbl a') (u u' u2 : K) :
    choose o .ratio tbl a u u2 = choose o .ratio tbl a' u' u2 := by
  rw [choose_eq o h0 V, choose_eq o h0 V', chooseIdx_eq o h0 V, chooseIdx_eq o h0 V']
  rfl

/-- an active unit whose derivative is not positive trips the `assert` of `Lifting.insert` -/
theorem choose_assertion (o : Ops K) (h0 : o.ofInt 0 = 0) (sch : Scheme) (tbl : List (K × ι)) {a : Nat}
    (ha : a < tbl.length) (hq : ¬ 0 < (tbl[a]).1) (u u2 : K) :
    choose o sch tbl a u u2 = .error .assertion :=
  choose_assertion_g o sch tbl ha (by rwa [h0]) u u2

/-- without an active unit every scheme raises `LiftingSchemeError` (for every scalar type) -/
theorem get_notRecorded {α ι : Type} [Add α] [Sub α] [Mul α] [Neg α] [LT α] [DecidableLT α] [LE α]
    [DecidableLE α] [BEq α] (o : Ops α) (s : Lifting α ι) (h : s.recorded = false) (u2 : α) :
    getInside o s = .error .notRecorded ∧ (getOutside o s).2 = .error .notRecorded ∧
      (getOutside o s).1 = s ∧ getRatio o s u2 = .error .notRecorded := by
  simp [getInside, getOutside, getRatio, h]

/-! ### the binary64 reading: the known findings as theorems about the float model

The same definitions, instantiated with native binary64 (`Ops.float`, what the driver runs and the
correspondence compares bit for bit with the real classes), evaluated by the kernel on the witnesses of
`known_findings/C05.json`.  The first three are the float faces of the three `*_selects_zero_rate` theorems; the last three
(fall-through to a zero-derivative last entry) have no exact counterpart — `chooseIdx_iff` shows that in
exact arithmetic the loop never falls through; in binary64 the naive running sum of the loop, the position and
(outside, ratio) CPython's compensated `sum()` round differently. -/

def fb (b : UInt64) : Float := Float.ofBits b

def okIs (r : Except LiftErr Nat) (i : Nat) : Bool := match r with | .ok j => j == i | _ => false

/-- known finding `inside:position<=0:zero-derivative-first-entry-selected`:
derivatives [1.0, 0.0, -1.0] (identifiers 10, 11, …), active unit number 0, `u = 0.0`,
`u2 = 0.5`: the unit with identifier 11, whose derivative is `0.0`, is selected -/
theorem binary64_inside_zero_draw :
    okIs (choose Ops.float .inside
     [(fb 4607182418800017408, 10),
      (fb 0, 11),
      (fb 13830554455654793216, 12)]
      0 (fb 0) (fb 4602678819172646912)) 11 = true := by
  decide +kernel

/-- known finding `ratio:position<=0:zero-derivative-first-entry-selected`:
derivatives [1.0, 0.0, -1.0] (identifiers 10, 11, …), active unit number 0, `u = 0.3`,
`u2 = 0.0`: the unit with identifier 11, whose derivative is `0.0`, is selected -/
theorem binary64_ratio_zero_draw :
    okIs (choose Ops.float .ratio
     [(fb 4607182418800017408, 10),
      (fb 0, 11),
      (fb 13830554455654793216, 12)]
      0 (fb 4599075939470750515) (fb 0)) 11 = true := by
  decide +kernel

/-- known finding `outside:position<=0:zero-derivative-first-entry-selected`:
derivatives [1.0, 8.673617379884035e-19, 0.0, -1.0, -8.673617379884035e-19] (identifiers 10, 11, …), active unit number 1, `u = 0.5`,
`u2 = 0.5`: the unit with identifier 12, whose derivative is `0.0`, is selected -/
theorem binary64_outside_absorbed_draw :
    okIs (choose Ops.float .outside
     [(fb 4607182418800017408, 10),
      (fb 4336966441157787648, 11),
      (fb 0, 12),
      (fb 13830554455654793216, 13),
      (fb 13560338478012563456, 14)]
      1 (fb 4602678819172646912) (fb 4602678819172646912)) 12 = true := by
  decide +kernel

/-- known finding `inside:fall-through:zero-derivative-last-entry-selected`:
derivatives [1.0, 1.6653345369377348e-16, -1.0, -8.326672684688674e-17, -8.326672684688674e-17, 0.0] (identifiers 10, 11, …), active unit number 1, `u = 0.9`,
`u2 = 0.5`: the unit with identifier 15, whose derivative is `0.0`, is selected -/
theorem binary64_inside_fall_through :
    okIs (choose Ops.float .inside
     [(fb 4607182418800017408, 10),
      (fb 4370743438363066368, 11),
      (fb 13830554455654793216, 12),
      (fb 13589611875590471680, 13),
      (fb 13589611875590471680, 14),
      (fb 0, 15)]
      1 (fb 4606281698874543309) (fb 4602678819172646912)) 15 = true := by
  decide +kernel

/-- known finding `outside:fall-through:zero-derivative-last-entry-selected`:
derivatives [1.0, 1.6653345369377348e-16, -1.0, -8.326672684688674e-17, -8.326672684688674e-17, 0.0] (identifiers 10, 11, …), active unit number 0, `u = 0.0`,
`u2 = 0.5`: the unit with identifier 15, whose derivative is `0.0`, is selected -/
theorem binary64_outside_fall_through :
    okIs (choose Ops.float .outside
     [(fb 4607182418800017408, 10),
      (fb 4370743438363066368, 11),
      (fb 13830554455654793216, 12),
      (fb 13589611875590471680, 13),
      (fb 13589611875590471680, 14),
      (fb 0, 15)]
      0 (fb 0) (fb 4602678819172646912)) 15 = true := by
  decide +kernel

/-- known finding `ratio:fall-through:zero-derivative-last-entry-selected`:
derivatives [1.0, 8.326672684688674e-17, 8.326672684688674e-17, 8.326672684688674e-17, 8.326672684688674e-17, -1.0, -8.326672684688674e-17, -8.326672684688674e-17, -8.326672684688674e-17, -8.326672684688674e-17, 0.0] (identifiers 10, 11, …), active unit number 0, `u = 0.5`,
`u2 = 0.9999999999999999`: the unit with identifier 20, whose derivative is `0.0`, is selected -/
theorem binary64_ratio_fall_through :
    okIs (choose Ops.float .ratio
     [(fb 4607182418800017408, 10),
      (fb 4366239838735695872, 11),
      (fb 4366239838735695872, 12),
      (fb 4366239838735695872, 13),
      (fb 4366239838735695872, 14),
      (fb 13830554455654793216, 15),
      (fb 13589611875590471680, 16),
      (fb 13589611875590471680, 17),
      (fb 13589611875590471680, 18),
      (fb 13589611875590471680, 19),
      (fb 0, 20)]
      0 (fb 4602678819172646912) (fb 4607182418800017407)) 20 = true := by
  decide +kernel

theorem flow_balance_rat (sch : Scheme) (tbl : List (ℚ × ι)) (hz : total tbl = 0) {k : Nat}
    (hk : k < (negOf tbl).length) :
    ∑ a ∈ Finset.range tbl.length, (if 0 < rate tbl a then rate tbl a * prob sch tbl a k else 0) =
      nrate tbl k := flow_balance sch tbl hz hk

theorem choose_negative_rat {tbl : List (ℚ × ι)} {a : Nat} (V : Valid tbl a) (sch : Scheme) {u u2 : ℚ}
    (hd : DrawOK sch u u2) :
    ∃ r i, (r, i) ∈ tbl ∧ r < 0 ∧ choose Ops.rat sch tbl a u u2 = .ok i :=
  choose_negative Ops.rat (by simp [Ops.rat]) V sch hd

/-- a 2+3 table with a zero entry, a duplicated magnitude and units of both signs interleaved -/
def exTbl : List (ℚ × Nat) := [(0, 7), (3/4, 1), (-1/2, 4), (1/4, 2), (-1/2, 9), (0, 3)]

/-- non-vacuity of `Valid`: both positive units of `exTbl` are admissible active units -/
example : Valid exTbl 1 ∧ Valid exTbl 3 :=
  ⟨⟨by decide +kernel, by decide +kernel⟩, ⟨by decide +kernel, by decide +kernel⟩⟩

/-- non-vacuity of `DrawOK` -/
example : DrawOK .inside (1/2 : ℚ) 0 ∧ DrawOK .outside (0 : ℚ) 0 ∧ DrawOK .ratio (0 : ℚ) 1 := by
  norm_num [DrawOK]

/-- non-vacuity of the hypotheses of the three boundary theorems: `exTbl` with unit 1 active has no positive
unit before it and a zero-derivative unit (identifier 7) heading its negative list -/
example : P exTbl 1 = 0 ∧ negOf exTbl = (0, 7) :: [(1/2, 4), (1/2, 9), (0, 3)] ∧
    P exTbl 3 + rate exTbl 3 = S exTbl := by
  decide +kernel

end JF.C05
