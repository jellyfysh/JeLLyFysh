import JF.Props.C09PoolsClosed
import JF.Lemmas.C09PoolsClosed2Run
import JF.Lemmas.C09PoolsClosed2Formula
/-!
# C09, last clause (no `TagActivatorError`) for composite objects without cells: what part B of `JF/Props/C09PoolsClosed.lean` leaves

The very first call of `get_event_handlers_to_run` along `Reach2` (`cs = []`; no `Fits2`, no `selSound` needed: on the initial state,
at rest, the factor and active-root-unit taggers yield nothing), hence B at EVERY call of every run; the instances for the other
shipped wirings of this world (`Hyp2` and `selSound` are evaluated for each); non-vacuity of B on the 7-leg `Reach2` run `reach7` of
`dipole_motion.ini` with both mode switches (`JF/Lemmas/C09PoolsClosed2Run.lean`); `hard_disk_dipoles.ini` (81 dipoles) through the
closed formula of `JF/Lemmas/C09PoolsClosed2Formula.lean`.

Nothing here is `_partial`.  Remaining hypotheses are those of part B: `Hyp2` (decidable), `Fits2`, what `SysStep2` assumes.
-/
namespace JF.C09Pools.Closed2
open JF JF.Act JF.Heap JF.Sched JF.Med JF.CW2 JF.C14 JF.MediatorLoop JF.Sys JF.Sys2 JF.Composite JF.C12 JF.SystemInv2 JF.C09Pools

section
variable {env : CW2.Env ℚ} {mw : ModeWiring} {S : TaggerIdx} {needs : HandlerId → Bool}

theorem yield2_rest_le (env : CW2.Env ℚ) {cs : List (CObj ℚ)} (hg : AllGood env.d env.L cs) (hr : AllRest cs) (T : TaggerIdx)
    (cls : TaggerClass) :
    (CW2.yieldCls env T cls cs).length ≤ (match cls with | .noInState | .activeGlobalState => 1 | _ => 0) := by
  have hb : branches env.nPer (flags cs) = [] := by unfold branches; rw [independent_rest env.nPer hg hr]; rfl
  unfold CW2.yieldCls CW2.yieldF
  simp only [hb]
  cases cls <;> simp [FactorMaps.taggerYield, FactorMaps.yieldAll, CellTaggers.dedupe]

/-- **demand ≤ pool in the very first call** (`cs = []`: the state is the initial one, at rest): every tagger of the wiring —
in particular the start-of-run tagger `S`, the only one that is asked — yields at most `pool` in-states.  No `Fits2`, no `selSound`:
on a state at rest the factor taggers and the active-root-unit taggers yield nothing. -/
theorem demand_le_pool_first2 (pc : PoolCfg) (hw : pc.w = mw.w) (ok : shortfalls pc = [])
    {s : Sys2} (hi : Init2 env mw s) (T : TaggerIdx) (hT : T < mw.w.n) :
    (CW2.yieldCls env T (mw.w.tagger T).cls s.cs).length ≤ (mw.w.tagger T).pool := by
  have hp := pool_ge_of_no_shortfall ok (T := T) (by rw [hw]; exact hT)
  rw [hw] at hp
  refine Nat.le_trans ?_ hp
  have hy := yield2_rest_le env hi.good hi.rest T (mw.w.tagger T).cls
  unfold demandBound
  rw [hw]
  generalize (mw.w.tagger T).cls = cls at hy ⊢
  cases cls <;> (dsimp only at hy ⊢; omega)

/-- **B for the very first call: the first pass of `SingleProcessMediator.run` does not raise `TagActivatorError`** along
`Reach2` (`cs = []`; whatever the candidate times; the leg is not assumed to succeed) -/
theorem no_pool_exhausted_first2 (pc : PoolCfg) (H : Hyp2 env mw S) (hw : pc.w = mw.w) (ok : shortfalls pc = [])
    {os : List (Oracle XTime)} {s : Sys2} (hr : Reach2 env mw S needs os [] s) {o : Oracle XTime}
    (hy : o.yields = fun T => CW2.yieldCls env T (mw.w.tagger T).cls s.cs) :
    leg (mwire mw.w S needs) (specI xcfg) s.med o ≠ .error .tagActivatorError := by
  rcases joint_inv2 H hr with ⟨_, hi⟩ | ⟨cs0, cl, E, tl, sq, he, _⟩
  · refine first_leg_ne_tagErr mw.w H.hS hi.med ?_
    rw [hy]
    exact demand_le_pool_first2 pc hw ok hi S (start_spec H.hS).1
  · simp at he

/-- **B at EVERY call**: no pass of `SingleProcessMediator.run` along `Reach2` — the first one included — raises
`TagActivatorError` (`hgo`: the run has not committed the end-of-run event) -/
theorem no_pool_exhausted_every_call2 (pc : PoolCfg) (H : Hyp2 env mw S) (hw : pc.w = mw.w) (ok : shortfalls pc = [])
    (hsel : selSound mw pc S = true) {os : List (Oracle XTime)} {cs : List (Committed XTime)} {s : Sys2}
    (hr : Reach2 env mw S needs os cs s) (hgo : ∀ cl, cs.getLast? = some cl → cl.stop = false)
    (fit : Fits2 pc env s.cs) {o : Oracle XTime}
    (hy : o.yields = fun T => CW2.yieldCls env T (mw.w.tagger T).cls s.cs) :
    leg (mwire mw.w S needs) (specI xcfg) s.med o ≠ .error .tagActivatorError := by
  cases hl : cs.getLast? with
  | none =>
    have := List.getLast?_eq_none_iff.mp hl
    subst this
    exact no_pool_exhausted_first2 pc H hw ok hr hy
  | some cl => exact no_pool_exhausted_closed2 pc H hw ok hsel hr hl (hgo cl hl) fit hy

end

end JF.C09Pools.Closed2


namespace JF.C09Pools.Closed2
open JF JF.Act JF.Act.Gen JF.Heap JF.Sched JF.Med JF.CW2 JF.C14 JF.MediatorLoop JF.Sys JF.Sys2 JF.Composite JF.C12 JF.SystemInv2
  JF.C09Pools JF.C09Pools.Gen

theorem hyp2_atom_factors (env : CW2.Env ℚ) (hL : BoxOK env.d env.L) : Hyp2 env mcfg_dipoles_atom_factors 6 :=
  ⟨hL, cfg_sound_dipoles_atom_factors, by decide +kernel, by decide +kernel, modeSound_dipoles_atom_factors⟩
theorem hyp2_dipole_factors_inside_first (env : CW2.Env ℚ) (hL : BoxOK env.d env.L) :
    Hyp2 env mcfg_dipoles_dipole_factors_inside_first 6 :=
  ⟨hL, cfg_sound_dipoles_dipole_factors_inside_first, by decide +kernel, by decide +kernel, modeSound_dipoles_dipole_factors_inside_first⟩
theorem hyp2_dipole_factors_outside_first (env : CW2.Env ℚ) (hL : BoxOK env.d env.L) :
    Hyp2 env mcfg_dipoles_dipole_factors_outside_first 6 :=
  ⟨hL, cfg_sound_dipoles_dipole_factors_outside_first, by decide +kernel, by decide +kernel, modeSound_dipoles_dipole_factors_outside_first⟩
theorem hyp2_dipole_factors_ratio (env : CW2.Env ℚ) (hL : BoxOK env.d env.L) : Hyp2 env mcfg_dipoles_dipole_factors_ratio 6 :=
  ⟨hL, cfg_sound_dipoles_dipole_factors_ratio, by decide +kernel, by decide +kernel, modeSound_dipoles_dipole_factors_ratio⟩
theorem hyp2_single_molecule (env : CW2.Env ℚ) (hL : BoxOK env.d env.L) : Hyp2 env mcfg_water_single_molecule 5 :=
  ⟨hL, cfg_sound_water_single_molecule, by decide +kernel, by decide +kernel, modeSound_water_single_molecule⟩

theorem selSound_atom_factors : selSound mcfg_dipoles_atom_factors pool_dipoles_atom_factors 6 = true := by decide +kernel
theorem selSound_dipole_factors_inside_first :
    selSound mcfg_dipoles_dipole_factors_inside_first pool_dipoles_dipole_factors_inside_first 6 = true := by decide +kernel
theorem selSound_dipole_factors_outside_first :
    selSound mcfg_dipoles_dipole_factors_outside_first pool_dipoles_dipole_factors_outside_first 6 = true := by decide +kernel
theorem selSound_dipole_factors_ratio : selSound mcfg_dipoles_dipole_factors_ratio pool_dipoles_dipole_factors_ratio 6 = true := by
  decide +kernel
theorem selSound_single_molecule : selSound mcfg_water_single_molecule pool_water_single_molecule 5 = true := by decide +kernel

section
variable {needs : HandlerId → Bool} {os : List (Oracle XTime)} {cs : List (Committed XTime)} {s : Sys2} {o : Oracle XTime}

/-- **`dipoles/atom_factors.ini`: no pass of any run raises `TagActivatorError`** (first call included) -/
theorem no_pool_exhausted_atom_factors (env : CW2.Env ℚ) (hL : BoxOK env.d env.L)
    (hr : Reach2 env mcfg_dipoles_atom_factors 6 needs os cs s) (hgo : ∀ cl, cs.getLast? = some cl → cl.stop = false)
    (fit : Fits2 pool_dipoles_atom_factors env s.cs)
    (hy : o.yields = fun T => CW2.yieldCls env T (mcfg_dipoles_atom_factors.w.tagger T).cls s.cs) :
    leg (mwire mcfg_dipoles_atom_factors.w 6 needs) (specI xcfg) s.med o ≠ .error .tagActivatorError :=
  no_pool_exhausted_every_call2 pool_dipoles_atom_factors (hyp2_atom_factors env hL) rfl shortfalls_dipoles_atom_factors
    selSound_atom_factors hr hgo fit hy

/-- **`dipoles/dipole_factors_inside_first.ini`** -/
theorem no_pool_exhausted_dipole_factors_inside_first (env : CW2.Env ℚ) (hL : BoxOK env.d env.L)
    (hr : Reach2 env mcfg_dipoles_dipole_factors_inside_first 6 needs os cs s)
    (hgo : ∀ cl, cs.getLast? = some cl → cl.stop = false) (fit : Fits2 pool_dipoles_dipole_factors_inside_first env s.cs)
    (hy : o.yields = fun T => CW2.yieldCls env T (mcfg_dipoles_dipole_factors_inside_first.w.tagger T).cls s.cs) :
    leg (mwire mcfg_dipoles_dipole_factors_inside_first.w 6 needs) (specI xcfg) s.med o ≠ .error .tagActivatorError :=
  no_pool_exhausted_every_call2 pool_dipoles_dipole_factors_inside_first (hyp2_dipole_factors_inside_first env hL) rfl
    shortfalls_dipoles_dipole_factors_inside_first selSound_dipole_factors_inside_first hr hgo fit hy

/-- **`dipoles/dipole_factors_outside_first.ini`** -/
theorem no_pool_exhausted_dipole_factors_outside_first (env : CW2.Env ℚ) (hL : BoxOK env.d env.L)
    (hr : Reach2 env mcfg_dipoles_dipole_factors_outside_first 6 needs os cs s)
    (hgo : ∀ cl, cs.getLast? = some cl → cl.stop = false) (fit : Fits2 pool_dipoles_dipole_factors_outside_first env s.cs)
    (hy : o.yields = fun T => CW2.yieldCls env T (mcfg_dipoles_dipole_factors_outside_first.w.tagger T).cls s.cs) :
    leg (mwire mcfg_dipoles_dipole_factors_outside_first.w 6 needs) (specI xcfg) s.med o ≠ .error .tagActivatorError :=
  no_pool_exhausted_every_call2 pool_dipoles_dipole_factors_outside_first (hyp2_dipole_factors_outside_first env hL) rfl
    shortfalls_dipoles_dipole_factors_outside_first selSound_dipole_factors_outside_first hr hgo fit hy

/-- **`dipoles/dipole_factors_ratio.ini`** -/
theorem no_pool_exhausted_dipole_factors_ratio (env : CW2.Env ℚ) (hL : BoxOK env.d env.L)
    (hr : Reach2 env mcfg_dipoles_dipole_factors_ratio 6 needs os cs s) (hgo : ∀ cl, cs.getLast? = some cl → cl.stop = false)
    (fit : Fits2 pool_dipoles_dipole_factors_ratio env s.cs)
    (hy : o.yields = fun T => CW2.yieldCls env T (mcfg_dipoles_dipole_factors_ratio.w.tagger T).cls s.cs) :
    leg (mwire mcfg_dipoles_dipole_factors_ratio.w 6 needs) (specI xcfg) s.med o ≠ .error .tagActivatorError :=
  no_pool_exhausted_every_call2 pool_dipoles_dipole_factors_ratio (hyp2_dipole_factors_ratio env hL) rfl
    shortfalls_dipoles_dipole_factors_ratio selSound_dipole_factors_ratio hr hgo fit hy

/-- **`water/single_molecule.ini`** (one molecule of three point masses) -/
theorem no_pool_exhausted_single_molecule (env : CW2.Env ℚ) (hL : BoxOK env.d env.L)
    (hr : Reach2 env mcfg_water_single_molecule 5 needs os cs s) (hgo : ∀ cl, cs.getLast? = some cl → cl.stop = false)
    (fit : Fits2 pool_water_single_molecule env s.cs)
    (hy : o.yields = fun T => CW2.yieldCls env T (mcfg_water_single_molecule.w.tagger T).cls s.cs) :
    leg (mwire mcfg_water_single_molecule.w 5 needs) (specI xcfg) s.med o ≠ .error .tagActivatorError :=
  no_pool_exhausted_every_call2 pool_water_single_molecule (hyp2_single_molecule env hL) rfl shortfalls_water_single_molecule
    selSound_single_molecule hr hgo fit hy

/-- **`dipoles/dipole_motion.ini`, first call included** -/
theorem no_pool_exhausted_dipole_motion_every_call (env : CW2.Env ℚ) (hL : BoxOK env.d env.L)
    (hr : Reach2 env mcfg_dipoles_dipole_motion 10 needs os cs s) (hgo : ∀ cl, cs.getLast? = some cl → cl.stop = false)
    (fit : Fits2 pool_dipoles_dipole_motion env s.cs)
    (hy : o.yields = fun T => CW2.yieldCls env T (mcfg_dipoles_dipole_motion.w.tagger T).cls s.cs) :
    leg (mwire mcfg_dipoles_dipole_motion.w 10 needs) (specI xcfg) s.med o ≠ .error .tagActivatorError :=
  no_pool_exhausted_every_call2 pool_dipoles_dipole_motion (hyp2_dipole_motion env hL) rfl shortfalls_dipoles_dipole_motion
    selSound_dipole_motion hr hgo fit hy

end

end JF.C09Pools.Closed2

/-! ## non-vacuity of B: the theorems apply to the 7-leg run of `dipole_motion.ini` of `JF/Lemmas/C09PoolsClosed2Run.lean`

start of run — `leaf_to_root` — `coulomb_root` — `end_of_chain` (root mode) — `root_to_leaf` — `harmonic_leaf` — `end_of_chain` (leaf
mode): `Reach2` holds (`reach7`), `Hyp2` (`hyp`), `Fits2` (`fits`), so B1/B2 speak about every boundary of this run. -/

namespace JF.C09Pools.Closed2.Example
open JF JF.Act JF.Act.Gen JF.Heap JF.Sched JF.Med JF.CW2 JF.C14 JF.MediatorLoop JF.Sys JF.Sys2 JF.Composite JF.C12 JF.SystemInv2
  JF.C09Pools JF.C09Pools.Gen

/-- the first call does not raise, whatever the candidate times -/
example (cand : HandlerId → XTime) : leg M (specI xcfg) s0.med (mkO s0.cs cand) ≠ .error .tagActivatorError :=
  no_pool_exhausted_first2 pc hyp rfl shortfalls_dipoles_dipole_motion (needs := needs) (.init s0 init0) rfl

/-- after leg 2 (`leaf_to_root` committed: ROOT mode) the next call does not raise; the activated `repulsive_root` (pool 2) yields
exactly two in-states on that state — the bound is attained —, while the deactivated `repulsive_leaf` (pool 1) WOULD yield two: the
activation-awareness is needed -/
example (cand : HandlerId → XTime) : leg M (specI xcfg) s2.med (mkO s2.cs cand) ≠ .error .tagActivatorError :=
  no_pool_exhausted_dipole_motion env box reach2 (cl := c2) List.getLast?_concat ok2.2.2.1 (fits _ (by decide +kernel)) rfl
example : (CW2.yieldCls env 4 (cfg.tagger 4).cls s2.cs).length = 2 ∧ (cfg.tagger 4).pool = 2 ∧
    (CW2.yieldCls env 2 (cfg.tagger 2).cls s2.cs).length = 2 ∧ (cfg.tagger 2).pool = 1 ∧
    aGet (aStep cfg (absOf s2.mid) 6) 4 = true ∧ aGet (aStep cfg (absOf s2.mid) 6) 2 = false := by decide +kernel

/-- B1 at the end of the run (leaf mode again), B2 for an eighth call, and the every-call form for the whole run -/
example : ∃ E, owner cfg.wires c7.handler = some E ∧
    ∀ T, T < 11 → aGet (aStep cfg (absOf s7.mid) E) T = true →
      (CW2.yieldCls env T (cfg.tagger T).cls s7.cs).length ≤ (cfg.tagger T).pool :=
  demand_le_pool_dipole_motion env box reach7 List.getLast?_concat ok7.2.2.1 (fits _ (by decide +kernel))
example (cand : HandlerId → XTime) : leg M (specI xcfg) s7.med (mkO s7.cs cand) ≠ .error .tagActivatorError :=
  no_pool_exhausted_dipole_motion_every_call env box reach7
    cs7c_go (fits _ (by decide +kernel)) rfl

end JF.C09Pools.Closed2.Example

/-! ## `hard_disk_dipoles/hard_disk_dipoles.ini` (81 dipoles)

`shortfalls_hard_disk_dipoles_hard_disk_dipoles` (like every row of `shipped_shortfalls`) goes through the closed formula
(`demandBoundF`), not through the enumeration of the one-chain states: `sphere` (inter-object, pool 160) has the bound `80 · 2 = 160` — attained —, `dipole`
(intra-object, pool 1) the bound 1. -/

namespace JF.C09Pools.Closed2
open JF JF.Act JF.Act.Gen JF.Heap JF.Sched JF.Med JF.CW2 JF.C14 JF.MediatorLoop JF.Sys JF.Sys2 JF.Composite JF.C12 JF.SystemInv2
  JF.C09Pools JF.C09Pools.Gen

/-- the formula values: `sphere` 160 = its pool (the bound is attained: `poolcorr` measures 160 on the real tagger), `dipole` 1 -/
example : demandBoundF pool_hard_disk_dipoles_hard_disk_dipoles 0 = 160 ∧ demandBoundF pool_hard_disk_dipoles_hard_disk_dipoles 1 = 1 ∧
    (cfg_hard_disk_dipoles_hard_disk_dipoles.tagger 0).pool = 160 := by decide +kernel

/-- the formula is not trivially satisfied: with the pool of `sphere` lowered by one `shortfallsF` reports it -/
example : shortfallsF { pool_hard_disk_dipoles_hard_disk_dipoles with
    w := { cfg_hard_disk_dipoles_hard_disk_dipoles with taggers := cfg_hard_disk_dipoles_hard_disk_dipoles.taggers.map fun t =>
      if t.tag == "sphere" then { t with pool := 159 } else t } } = [(0, 159, 160)] := by decide +kernel

/-- on the small configurations the formula and the brute-force bound agree (two dipoles: `coulomb` 1·1, `harmonic` 1, `repulsive` 1·1) -/
example : (List.range 3).map (demandBoundF pool_dipoles_dipole_factors_ratio) =
    (List.range 3).map (demandBound pool_dipoles_dipole_factors_ratio) := by decide +kernel
example : shortfallsF pool_dipoles_dipole_motion = [] ∧ shortfallsF pool_water_single_molecule = [] ∧
    shortfallsF pool_hard_disk_dipoles_single_hard_disk_dipole = [] :=
  ⟨shortfallsF_at 10 rfl rfl, shortfallsF_at 15 rfl rfl, shortfallsF_at 18 rfl rfl⟩

theorem hyp2_hard_disk_dipoles (env : CW2.Env ℚ) (hL : BoxOK env.d env.L) : Hyp2 env mcfg_hard_disk_dipoles_hard_disk_dipoles 5 :=
  ⟨hL, cfg_sound_hard_disk_dipoles_hard_disk_dipoles, by decide +kernel, by decide +kernel, modeSound_hard_disk_dipoles_hard_disk_dipoles⟩

theorem selSound_hard_disk_dipoles :
    selSound mcfg_hard_disk_dipoles_hard_disk_dipoles pool_hard_disk_dipoles_hard_disk_dipoles 5 = true := by decide +kernel

/-- **`hard_disk_dipoles/hard_disk_dipoles.ini`: no pass of any run raises `TagActivatorError`** (81 dipoles; first call included) -/
theorem no_pool_exhausted_hard_disk_dipoles (env : CW2.Env ℚ) (hL : BoxOK env.d env.L) {needs : HandlerId → Bool}
    {os : List (Oracle XTime)} {cs : List (Committed XTime)} {s : Sys2} {o : Oracle XTime}
    (hr : Reach2 env mcfg_hard_disk_dipoles_hard_disk_dipoles 5 needs os cs s)
    (hgo : ∀ cl, cs.getLast? = some cl → cl.stop = false) (fit : Fits2 pool_hard_disk_dipoles_hard_disk_dipoles env s.cs)
    (hy : o.yields = fun T => CW2.yieldCls env T (mcfg_hard_disk_dipoles_hard_disk_dipoles.w.tagger T).cls s.cs) :
    leg (mwire mcfg_hard_disk_dipoles_hard_disk_dipoles.w 5 needs) (specI xcfg) s.med o ≠ .error .tagActivatorError :=
  no_pool_exhausted_every_call2 pool_hard_disk_dipoles_hard_disk_dipoles (hyp2_hard_disk_dipoles env hL) rfl
    shortfalls_hard_disk_dipoles_hard_disk_dipoles selSound_hard_disk_dipoles hr hgo fit hy

end JF.C09Pools.Closed2
