import JF.Model.Sampling
import JF.Props.C14
import Mathlib.Algebra.Order.Archimedean.Basic
import Mathlib.Tactic.NormNum
/-!
# C17 — Samples and end of run occur at nominal times on a fully time-sliced state
Exact reading (`Ops.rat`) of the sampling clock, the sample count, and the sampled out-state.
The float reading of `clock` is compared bit for bit with the real handler on every run of `./check C17`;
its rounding (one rounding of the remainder per step, C14) is measured by the oracle.
-/
namespace JF.C17
open JF JF.Sampling JF.C14

/-- nominal time of the `k`-th clock tick -/
def nominal (delta : ℚ) (zeroFirst : Bool) (k : ℕ) : ℚ :=
  if zeroFirst then ((k : ℚ) - 1) * delta else (k : ℚ) * delta

theorem clockInit_val (delta : ℚ) (zf : Bool) :
    val (clockInit Ops.rat delta zf) = nominal delta zf 0 ∧ Normalised (clockInit Ops.rat delta zf) := by
  cases zf
  · simp only [clockInit, nominal, Bool.not_false, if_true, rat_ofInt]
    refine ⟨by simp [val], ⟨0, by simp⟩, by simp, by simp⟩
  · have := fromFloat_exact (-delta)
    have e : clockInit Ops.rat delta true = Time.fromFloat Ops.rat (-delta) := by simp [clockInit]
    rw [e]
    refine ⟨?_, this.2⟩
    rw [this.1]; simp [nominal]

/-- **The `k`-th sample time is exactly `k` times the interval** (from 0 or from one interval), and normalised. -/
theorem clock_val (delta : ℚ) (zf : Bool) (k : ℕ) :
    val (clock Ops.rat delta zf k) = nominal delta zf k ∧ Normalised (clock Ops.rat delta zf k) := by
  induction k with
  | zero => exact clockInit_val delta zf
  | succ k ih =>
    simp only [clock]
    refine ⟨?_, add_normalised _ _ ih.2⟩
    rw [add_val, ih.1]
    cases zf <;> simp [nominal] <;> ring

theorem endTime_val (tEnd : ℚ) : val (endTime Ops.rat tEnd) = tEnd ∧ Normalised (endTime Ops.rat tEnd) :=
  fromFloat_exact tEnd

/-- the comparison the scheduler makes between the sampling and the end-of-run candidate is the comparison of the
nominal time with the end time -/
theorem clock_lt_end (delta tEnd : ℚ) (zf : Bool) (k : ℕ) :
    Time.lt (clock Ops.rat delta zf k) (endTime Ops.rat tEnd) = true ↔ nominal delta zf k < tEnd := by
  rw [lt_iff _ _ (clock_val delta zf k).2 (endTime_val tEnd).2, (clock_val delta zf k).1, (endTime_val tEnd).1]

/-- **Number of samples.** If the loop stops with `n` samples before running out of fuel, then exactly the ticks
`k0+1 … k0+n` lie strictly before the end time and tick `k0+n+1` does not. -/
theorem samples_spec (delta tEnd : ℚ) (zf : Bool) (fuel k0 n : ℕ)
    (h : samplesBeforeEnd Ops.rat delta tEnd zf fuel k0 = n) (hn : n < fuel) :
    (∀ j, j < n → nominal delta zf (k0 + j + 1) < tEnd) ∧ ¬ (nominal delta zf (k0 + n + 1) < tEnd) := by
  induction fuel generalizing k0 n with
  | zero => omega
  | succ fuel ih =>
    simp only [samplesBeforeEnd] at h
    by_cases hc : Time.lt (clock Ops.rat delta zf (k0 + 1)) (endTime Ops.rat tEnd) = true
    · rw [if_pos hc] at h
      have hlt := (clock_lt_end delta tEnd zf (k0 + 1)).mp hc
      subst h
      obtain ⟨a, b⟩ := ih (k0 + 1) _ rfl (by omega)
      refine ⟨?_, ?_⟩
      · intro j hj
        cases j with
        | zero => simpa using hlt
        | succ j =>
          have := a j (by omega)
          have e : k0 + (j + 1) + 1 = k0 + 1 + j + 1 := by omega
          rw [e]; exact this
      · rw [show ∀ m, k0 + (1 + m) + 1 = k0 + 1 + m + 1 by omega]; exact b
    · rw [if_neg hc] at h
      subst h
      refine ⟨by intro j hj; omega, ?_⟩
      intro hlt
      exact hc ((clock_lt_end delta tEnd zf (k0 + 1)).mpr (by simpa using hlt))

theorem nominal_strictMono {delta : ℚ} (hd : 0 < delta) (zf : Bool) {i j : Nat} (h : i < j) :
    nominal delta zf i < nominal delta zf j := by
  have : (i : ℚ) < (j : ℚ) := by exact_mod_cast h
  cases zf
  · exact mul_lt_mul_of_pos_right this hd
  · exact mul_lt_mul_of_pos_right (sub_lt_sub_right this 1) hd

/-- the count loop's answer `m` (`samples_spec`) against a number `n` of ticks `≤ tEnd` whose next tick is `≥ tEnd`:
equal, or one more at a tie -/
theorem count_of_bounds {delta tEnd : ℚ} (hd : 0 < delta) {zf : Bool} {n m : Nat}
    (h1 : ∀ j, j < n → nominal delta zf (j + 1) ≤ tEnd) (h2 : tEnd ≤ nominal delta zf (n + 1))
    (a : ∀ j, j < m → nominal delta zf (j + 1) < tEnd) (b : ¬ nominal delta zf (m + 1) < tEnd) :
    n = m ∨ (n = m + 1 ∧ nominal delta zf n = tEnd) := by
  have hmn : m ≤ n := by
    by_contra hc'
    have := a n (by omega)
    linarith
  have hn1 : n ≤ m + 1 := by
    by_contra hc'
    have h3 := h1 (m + 1) (by omega)
    have h4 := nominal_strictMono hd zf (i := m + 1) (j := m + 1 + 1) (by omega)
    exact b (by linarith)
  rcases Nat.lt_or_ge m n with hlt | hge
  · right
    have hnm : n = m + 1 := by omega
    subst hnm
    exact ⟨rfl, le_antisymm (h1 m (by omega)) (not_lt.mp b)⟩
  · left; omega

theorem nominal_succ_ge {delta : ℚ} (hd : 0 ≤ delta) (zf : Bool) (k : ℕ) : (k : ℚ) * delta ≤ nominal delta zf (k + 1) := by
  cases zf
  · exact mul_le_mul_of_nonneg_right (by push_cast; linarith) hd
  · show (k : ℚ) * delta ≤ (((k + 1 : ℕ) : ℚ) - 1) * delta
    rw [Nat.cast_succ, add_sub_cancel_right]

theorem samples_terminate (delta tEnd : ℚ) (zf : Bool) (hd : 0 < delta) :
    ∃ fuel, samplesBeforeEnd Ops.rat delta tEnd zf fuel 0 < fuel := by
  -- a tick with index beyond tEnd/delta + 1 is not before the end
  obtain ⟨N, hN⟩ := exists_nat_gt (tEnd / delta + 1)
  have key : ∀ fuel k0, k0 + fuel ≥ N + 1 → samplesBeforeEnd Ops.rat delta tEnd zf (fuel + 1) k0 < fuel + 1 := by
    intro fuel
    induction fuel with
    | zero =>
      intro k0 hk
      have hk' : (N : ℚ) + 1 ≤ (k0 : ℚ) := by exact_mod_cast hk
      have h1 : tEnd < (k0 : ℚ) * delta := (div_lt_iff₀ hd).mp (by linarith)
      simp only [samplesBeforeEnd]
      rw [if_neg (by rw [clock_lt_end]; exact not_lt.mpr (h1.le.trans (nominal_succ_ge hd.le zf k0)))]; omega
    | succ fuel ih =>
      intro k0 hk
      rw [samplesBeforeEnd]
      split
      · have := ih (k0 + 1) (by omega); omega
      · omega
  exact ⟨N + 2, by have := key (N + 1) 0 (by omega); simpa using this⟩

/-- **The written state is fully time-sliced**: every unit of the sampled out-state that moves (velocity and time stamp
present) carries exactly the sample time. -/
theorem sample_sliced (L : List ℚ) (t : Time ℚ) (us : List (PUnit ℚ)) (u : PUnit ℚ)
    (hu : u ∈ sampleOutState Ops.rat L t us) (hv : u.vel.isSome) (hts : u.ts.isSome) : u.ts = some t := by
  simp only [sampleOutState, List.mem_map] at hu
  obtain ⟨w, _, rfl⟩ := hu
  unfold Kin.timeSlice at hv hts ⊢
  cases hwv : w.vel with
  | none => simp [hwv] at hv
  | some v =>
    cases hwt : w.ts with
    | none => simp [hwv, hwt] at hts
    | some ts => simp

/-- non-vacuity: interval 1/2, end time 2, first sample at one interval: ticks 1/2, 1, 3/2 are before the end -/
example : samplesBeforeEnd Ops.rat (1/2) 2 false 10 0 = 3 := by decide +kernel
example : nominal (1/2) false 3 < 2 ∧ ¬ nominal (1/2) false 4 < 2 := by norm_num [nominal]

end JF.C17
