import JF.Props.C14Float
import JF.Lemmas.RoundedInf
import Mathlib.Order.WithBot
/-!
# C14, rounding-abstract reading WITH infinity

`JF/Props/C14Float.lean` proves C14's clauses for every `FloatModel` over `R fm`, the FINITE representable values.  The
property's last clause — "infinity is absorbing and larger than every finite time" — and the `+inf` in its quantifier
("all displacements from denormals to 2^40 and +inf, all pairs of times") need the non-finite values.  Here the SAME model
(`JF/Model/Time.lean`, branch for branch after `jellyfysh/base/time.py`) is read over `RX fm = fin x | pinf | ninf | nan`
(`JF/Lemmas/RoundedInf.lean`: IEEE rules on the non-finite values, C library rules for `floor`/`fmod`, `math.isinf`).
NaN is in the carrier because the code CAN produce it: `divmod(inf, 1.0) = (nan, nan)` and `inf - inf = nan`.

What `time.py` does with `inf` (module-level `inf = Time(float_inf, float_inf)`):

* `t + inf`            `isinf(other)` branch: `Time(other, other)`, whatever `t` is                     `add_inf`
* `inf + d`, `d` finite  first branch: `divmod(inf + d, 1.0) = (nan, nan)`, result `Time(nan, nan)`       `inf_add_fin`   (d)
* `inf + inf`          `isinf(other)` branch: `inf`                                                    `inf_add_inf`
* comparisons          `inf` is `>` every finite time, `==`, `<=`, `>=` itself                          `cmp_withTop`
* `from_float(inf)`    `isinf(time)` branch: `Time(inf, inf)`                                          `fromFloat_inf`
* `inf - t = +inf`, `t - inf = -inf`, `inf - inf = nan`                                                `sub_*`         (d)

All theorems are `∀ fm : FloatModel`; the last section instantiates `FloatModel.binary64` (proved instance).
The finite clauses of `C14Float` are NOT re-proved: `fin`/`emb` is a homomorphism (`transfer`), and each finite clause is its
`C14F` theorem rewritten along it.
-/
namespace JF.C14FloatInf
open JF JF.R JF.RX JF.C14F

variable {fm : FloatModel}

abbrev oX (fm : FloatModel) : Ops (RX fm) := Ops.roundedX fm
abbrev oF (fm : FloatModel) : Ops (R fm) := Ops.rounded fm

/-- a finite time read in the extended carrier (the identity on the data) -/
def emb (t : Time (R fm)) : Time (RX fm) := ⟨fin t.q, fin t.r⟩
/-- the module-level `inf = Time(float_inf, float_inf)` -/
def infT : Time (RX fm) := ⟨pinf, pinf⟩
/-- `Time(-inf, -inf)` (what `from_float(-inf)` and `t + (-inf)` return; outside the property's quantifier) -/
def ninfT : Time (RX fm) := ⟨ninf, ninf⟩
def nanT : Time (RX fm) := ⟨nan, nan⟩

/-- Python's default `__ne__` (`Time` defines no `__ne__`): the negation of `__eq__` -/
def ne {α : Type} [BEq α] (T U : Time α) : Bool := !(Time.eq T U)

/-- The times the property speaks about: a finite normalised representable time (`C14F.Rep`), or `inf`. -/
inductive Proper (fm : FloatModel) : Time (RX fm) → Prop
  | fin (t : Time (R fm)) (h : Rep fm t) : Proper fm (emb t)
  | inf : Proper fm infT

/-- The displacements the property quantifies over: finite in `[0, 2^40]` (representable or not), or `+inf`. -/
inductive Disp (fm : FloatModel) : RX fm → Prop
  | fin (d : R fm) (h0 : 0 ≤ toQ d) (h1 : toQ d ≤ 2 ^ 40) : Disp fm (fin d)
  | inf : Disp fm pinf

/-- neither field is NaN -/
def NoNaN (T : Time (RX fm)) : Prop := T.q.isNaN = false ∧ T.r.isNaN = false

/-- The value of a time in `ℚ ∪ {∞}`: `quotient + remainder` (not rounded) for two finite fields, `⊤` for `inf`.
(Junk `⊤` on the improper pairs — a NaN field, `-inf`, mixed — which is why the theorems about `valX` assume `Proper`.) -/
def valX : Time (RX fm) → WithTop ℚ
  | ⟨fin q, fin r⟩ => ((toQ q + toQ r : ℚ) : WithTop ℚ)
  | _ => ⊤

@[simp] theorem valX_emb (t : Time (R fm)) : valX (emb t) = ((val t : ℚ) : WithTop ℚ) := rfl
@[simp] theorem valX_inf : valX (infT : Time (RX fm)) = ⊤ := rfl

theorem Proper.noNaN {T : Time (RX fm)} (h : Proper fm T) : NoNaN T := by
  cases h <;> exact ⟨rfl, rfl⟩

theorem Proper.valX_eq_top_iff {T : Time (RX fm)} (h : Proper fm T) : valX T = ⊤ ↔ T = infT := by
  cases h with
  | fin t ht => simp [emb, infT, valX]
  | inf => simp

/-! ## (c) restriction to the finite values: ONE transfer lemma, then the clauses of `C14Float` as they are -/

theorem add_fin (t : Time (R fm)) (d : R fm) :
    Time.add (oX fm) (emb t) (fin d) = emb (Time.add (oF fm) t d) := by
  simp only [Time.add, emb, X_isInf_fin, rounded_isInf, fin_add, pydivmod1_fin]
  rfl

theorem fromFloat_fin (x : R fm) : Time.fromFloat (oX fm) (fin x) = emb (Time.fromFloat (oF fm) x) := by
  simp only [Time.fromFloat, emb, X_isInf_fin, rounded_isInf, pydivmod1_fin]
  rfl

theorem sub_fin (t u : Time (R fm)) : Time.sub (emb t) (emb u) = fin (Time.sub t u) := rfl
theorem eq_fin (t u : Time (R fm)) : Time.eq (emb t) (emb u) = Time.eq t u := rfl
theorem lt_fin (t u : Time (R fm)) : Time.lt (emb t) (emb u) = Time.lt t u := by
  show (decide ((fin t.q : RX fm) < fin u.q) || ((fin t.q : RX fm) == fin u.q) && decide ((fin t.r : RX fm) < fin u.r))
    = (decide (t.q < u.q) || (t.q == u.q) && decide (t.r < u.r))
  simp only [RX.decide_lt, ltb_fin, beq_def, beq_fin]
theorem cLt_fin (t u : Time (R fm)) : Time.cLt (emb t) (emb u) = Time.cLt t u := lt_fin t u
theorem gt_fin (t u : Time (R fm)) : Time.gt (emb t) (emb u) = Time.gt t u := by
  simp only [Time.gt, lt_fin, eq_fin]
theorem le_fin (t u : Time (R fm)) : Time.le (emb t) (emb u) = Time.le t u := by
  simp only [Time.le, lt_fin, eq_fin]
theorem ge_fin (t u : Time (R fm)) : Time.ge (emb t) (emb u) = Time.ge t u := by
  simp only [Time.ge, lt_fin]
theorem ne_fin (t u : Time (R fm)) : ne (emb t) (emb u) = ne t u := by
  simp only [ne, eq_fin]

/-- THE transfer lemma: on finite operands every operation of `Time` over `RX fm` is the operation of `C14Float`'s
reading over `R fm` (no hypothesis: any fields, any sign, representable or not). -/
theorem transfer (fm : FloatModel) :
    (∀ (t : Time (R fm)) (d : R fm), Time.add (oX fm) (emb t) (fin d) = emb (Time.add (oF fm) t d)) ∧
    (∀ x : R fm, Time.fromFloat (oX fm) (fin x) = emb (Time.fromFloat (oF fm) x)) ∧
    (∀ t u : Time (R fm), Time.sub (emb t) (emb u) = fin (Time.sub t u)) ∧
    (∀ t u : Time (R fm),
      Time.lt (emb t) (emb u) = Time.lt t u ∧ Time.eq (emb t) (emb u) = Time.eq t u ∧
      Time.gt (emb t) (emb u) = Time.gt t u ∧ Time.le (emb t) (emb u) = Time.le t u ∧
      Time.ge (emb t) (emb u) = Time.ge t u ∧ ne (emb t) (emb u) = ne t u ∧
      Time.cLt (emb t) (emb u) = Time.cLt t u) :=
  ⟨add_fin, fromFloat_fin, sub_fin,
    fun t u => ⟨lt_fin t u, eq_fin t u, gt_fin t u, le_fin t u, ge_fin t u, ne_fin t u, cLt_fin t u⟩⟩

section finite
variable {t u : Time (R fm)} {d d' : R fm}

theorem add_normalised (ht : Rep fm t) (hq : |toQ t.q| ≤ 2 ^ 52) (hd0 : 0 ≤ toQ d) (hd1 : toQ d ≤ 2 ^ 40) :
    Proper fm (Time.add (oX fm) (emb t) (fin d)) := by
  rw [add_fin]; exact .fin _ (C14F.add_normalised ht hq hd0 hd1)

/-- `C14F.add_one_rounding`, restricted: the value of the sum is `q + fl(r + d)` -/
theorem add_one_rounding (ht : Rep fm t) (hq : |toQ t.q| ≤ 2 ^ 52) (hd0 : 0 ≤ toQ d) (hd1 : toQ d ≤ 2 ^ 40) :
    valX (Time.add (oX fm) (emb t) (fin d)) = ((toQ t.q + fm.rnd (toQ t.r + toQ d) : ℚ) : WithTop ℚ) := by
  rw [add_fin, valX_emb, C14F.add_one_rounding ht hq hd0 hd1]

theorem add_error (ht : Rep fm t) (hq : |toQ t.q| ≤ 2 ^ 52) (hdF : toQ d ∈ fm.F)
    (hd0 : 0 ≤ toQ d) (hd1 : toQ d ≤ 2 ^ 40) :
    ∃ v : ℚ, valX (Time.add (oX fm) (emb t) (fin d)) = (v : WithTop ℚ) ∧
      |v - (val t + toQ d)| ≤ fm.eps * (toQ t.r + toQ d) :=
  ⟨_, by rw [add_fin, valX_emb], C14F.add_error ht hq hdF hd0 hd1⟩

theorem add_mono (ht : Rep fm t) (hq : |toQ t.q| ≤ 2 ^ 52) (hd0 : 0 ≤ toQ d) (hd'1 : toQ d' ≤ 2 ^ 40)
    (h : toQ d ≤ toQ d') :
    Time.le (Time.add (oX fm) (emb t) (fin d)) (Time.add (oX fm) (emb t) (fin d')) = true := by
  rw [add_fin, add_fin, le_fin]; exact C14F.add_mono ht hq hd0 hd'1 h

theorem add_ge (ht : Rep fm t) (hq : |toQ t.q| ≤ 2 ^ 52) (hd0 : 0 ≤ toQ d) (hd1 : toQ d ≤ 2 ^ 40) :
    Time.le (emb t) (Time.add (oX fm) (emb t) (fin d)) = true := by
  rw [add_fin, le_fin]; exact C14F.add_ge ht hq hd0 hd1

theorem fromFloat_exact (x : R fm) (hx : toQ x ∈ fm.F) (h0 : 0 ≤ toQ x) :
    valX (Time.fromFloat (oX fm) (fin x)) = ((toQ x : ℚ) : WithTop ℚ) ∧
      Proper fm (Time.fromFloat (oX fm) (fin x)) := by
  have h := C14F.fromFloat_exact x hx h0
  rw [fromFloat_fin, valX_emb, h.1]
  exact ⟨rfl, .fin _ h.2⟩

/-- `C14F.sub_error`, restricted: the difference of two finite times is finite and within `4 eps max(1, |difference|)` -/
theorem sub_error (ht : Rep fm t) (hu : Rep fm u) (hqt : |toQ t.q| ≤ 2 ^ 52) (hqu : |toQ u.q| ≤ 2 ^ 52) :
    ∃ s : R fm, Time.sub (emb t) (emb u) = fin s ∧
      |toQ s - (val t - val u)| ≤ 4 * fm.eps * max 1 |val t - val u| :=
  ⟨_, sub_fin t u, C14F.sub_error ht hu hqt hqu⟩

theorem sub_self (ht : Rep fm t) : ∃ s : R fm, Time.sub (emb t) (emb t) = fin s ∧ toQ s = 0 :=
  ⟨_, sub_fin t t, C14F.sub_self t ht⟩

end finite

/-! ## (a) `inf` and `+` -/

/-- `t + inf` is `inf` for EVERY left operand (finite, `inf`, even `Time(nan, nan)`): the `isinf(other)` branch returns
`Time(other, other)` without reading `self`.  An instance of the generic `C14.add_inf`. -/
theorem add_inf (T : Time (RX fm)) : Time.add (oX fm) T pinf = infT :=
  C14.add_inf (oX fm) T pinf rfl

/-- `inf + inf = inf` (again the `isinf(other)` branch) -/
theorem inf_add_inf : Time.add (oX fm) (infT : Time (RX fm)) pinf = infT := add_inf _

/-- the same branch for `-inf` (not a displacement of the property's quantifier): `Time(-inf, -inf)` -/
theorem add_ninf (T : Time (RX fm)) : Time.add (oX fm) T ninf = ninfT :=
  C14.add_inf (oX fm) T ninf rfl

/-- a remainder whose sum with `d` has a NaN `fmod` (`±inf`, NaN) gives `Time(q + nan, nan) = Time(nan, nan)`, whatever `q` -/
theorem add_fin_of_fmod_nan (T : Time (RX fm)) (d : R fm)
    (h : (oX fm).fmod (T.r + fin d) ((oX fm).ofInt 1) = nan) : Time.add (oX fm) T (fin d) = nanT := by
  have hq : T.q + nan = nan := by cases T.q <;> rfl
  simp only [Time.add, X_isInf_fin, pydivmod1_of_fmod_nan _ h, hq]
  rfl

/-- **(d)** `inf + d` for a FINITE `d` — any finite `d`, no hypothesis — takes the first branch of `__add__`:
`inf + d = inf`, `divmod(inf, 1.0) = (nan, nan)`, result `Time(inf + nan, nan) = Time(nan, nan)`.
`inf` is NOT absorbing as a left operand of `+`. -/
theorem inf_add_fin (d : R fm) : Time.add (oX fm) (infT : Time (RX fm)) (fin d) = nanT :=
  add_fin_of_fmod_nan _ d rfl

/-- the same as a two-step run: a time that BECAME `inf` through an addition is lost by the next finite addition -/
theorem add_inf_then_fin (T : Time (RX fm)) (d : R fm) :
    Time.add (oX fm) (Time.add (oX fm) T pinf) (fin d) = nanT := by
  rw [add_inf, inf_add_fin]

/-- … and stays lost: NaN propagates through every further finite addition; only `+ inf` resets it (`add_inf`) -/
theorem nan_add_fin (d : R fm) : Time.add (oX fm) (nanT : Time (RX fm)) (fin d) = nanT :=
  add_fin_of_fmod_nan _ d rfl

/-- `Time(-inf, -inf) + d` for finite `d` is `Time(nan, nan)` too (`divmod(-inf, 1.0) = (nan, nan)`) -/
theorem ninf_add_fin (d : R fm) : Time.add (oX fm) (ninfT : Time (RX fm)) (fin d) = nanT :=
  add_fin_of_fmod_nan _ d rfl

theorem nanT_not_proper : ¬ Proper fm (nanT : Time (RX fm)) := fun h => by
  have := h.noNaN; simp [NoNaN, nanT, isNaN] at this

theorem inf_add_fin_ne_inf (d : R fm) : Time.add (oX fm) (infT : Time (RX fm)) (fin d) ≠ infT := by
  rw [inf_add_fin]; simp [nanT, infT]

/-- **no NaN on the property's inputs**: a finite normalised time with `|q| ≤ 2^52` plus a displacement of the quantifier
(finite in `[0, 2^40]`, or `+inf`) is again a time of the property's domain — finite normalised, or `inf`. -/
theorem add_proper {t : Time (R fm)} {D : RX fm} (ht : Rep fm t) (hq : |toQ t.q| ≤ 2 ^ 52) (hD : Disp fm D) :
    Proper fm (Time.add (oX fm) (emb t) D) := by
  cases hD with
  | fin d h0 h1 => exact add_normalised ht hq h0 h1
  | inf => rw [add_inf]; exact .inf

theorem add_noNaN {t : Time (R fm)} {D : RX fm} (ht : Rep fm t) (hq : |toQ t.q| ≤ 2 ^ 52) (hD : Disp fm D) :
    NoNaN (Time.add (oX fm) (emb t) D) := (add_proper ht hq hD).noNaN

/-- with `inf` as the LEFT operand, the result is a time of the domain exactly when the displacement is `+inf` -/
theorem inf_add_proper_iff {D : RX fm} (hD : Disp fm D) :
    Proper fm (Time.add (oX fm) (infT : Time (RX fm)) D) ↔ D = pinf := by
  cases hD with
  | fin d h0 h1 =>
    rw [inf_add_fin]
    exact ⟨fun h => absurd h nanT_not_proper, fun h => by cases h⟩
  | inf => rw [add_inf]; exact ⟨fun _ => rfl, fun _ => .inf⟩

/-- absorbing, as a value: whatever finite time it is added to, `+inf` gives the value `⊤` -/
theorem valX_add_inf (T : Time (RX fm)) : valX (Time.add (oX fm) T pinf) = ⊤ := by rw [add_inf]; rfl

/-! ## (b) `inf` and the comparisons -/

section cmp_inf
variable (t : Time (R fm))

/-- `<` and `==` of a finite time (no hypothesis at all on its fields) against `inf`, of `inf` against a finite time and of
`inf` against itself.  `<=`, `!=`, `>`, `>=` and the comparison of `heap.c` are Boolean functions of these two. -/
theorem fin_lt_inf : Time.lt (emb t) infT = true := rfl
theorem fin_eq_inf : Time.eq (emb t) infT = false := rfl
theorem inf_lt_fin : Time.lt infT (emb t) = false := rfl
theorem inf_eq_fin : Time.eq infT (emb t) = false := rfl
theorem fin_le_inf : Time.le (emb t) infT = true := by simp [Time.le, fin_lt_inf]
end cmp_inf

theorem inf_lt_inf : Time.lt (infT : Time (RX fm)) infT = false := rfl
theorem inf_eq_inf : Time.eq (infT : Time (RX fm)) infT = true := rfl

/-- `cmp_withTop`: on the times of the property's domain (finite normalised representable, or `inf`) all six comparisons of
`Time`, and the comparison of `heap.c`, are the order of the values in `WithTop ℚ`. -/
theorem cmp_withTop {T U : Time (RX fm)} (hT : Proper fm T) (hU : Proper fm U) :
    (Time.lt T U = true ↔ valX T < valX U) ∧ (Time.le T U = true ↔ valX T ≤ valX U) ∧
    (Time.eq T U = true ↔ valX T = valX U) ∧ (ne T U = true ↔ valX T ≠ valX U) ∧
    (Time.gt T U = true ↔ valX T > valX U) ∧ (Time.ge T U = true ↔ valX T ≥ valX U) ∧
    (Time.cLt T U = true ↔ valX T < valX U) := by
  -- `<` and `==`, case by case; the other five are Boolean functions of these two (`C14.cmp_of_lt_eq`)
  have key : (Time.lt T U = true ↔ valX T < valX U) ∧ (Time.eq T U = true ↔ valX T = valX U) := by
    cases hT with
    | fin t ht =>
      cases hU with
      | fin u hu =>
        rw [lt_fin, eq_fin, valX_emb, valX_emb, WithTop.coe_lt_coe, WithTop.coe_eq_coe]
        exact ⟨C14F.lt_iff ht.normalised hu.normalised, C14F.eq_iff ht.normalised hu.normalised⟩
      | inf =>
        exact ⟨iff_of_true (fin_lt_inf t) (WithTop.coe_lt_top _),
          iff_of_false (Bool.eq_false_iff.mp (fin_eq_inf t)) WithTop.coe_ne_top⟩
    | inf =>
      cases hU with
      | fin u hu =>
        exact ⟨iff_of_false (Bool.eq_false_iff.mp (inf_lt_fin u)) not_top_lt,
          iff_of_false (Bool.eq_false_iff.mp (inf_eq_fin u)) WithTop.top_ne_coe⟩
      | inf => exact ⟨iff_of_false (Bool.eq_false_iff.mp inf_lt_inf) (lt_irrefl _), iff_of_true inf_eq_inf rfl⟩
  obtain ⟨hgt, hle, hge, hc⟩ := C14.cmp_of_lt_eq key.1 key.2
  exact ⟨key.1, hle, key.2, by rw [ne, Bool.not_eq_true', ← Bool.not_eq_true, key.2], hgt, hge, hc⟩

/-- every time of the domain is `<= inf`; the finite ones are `< inf` -/
theorem le_inf {T : Time (RX fm)} (hT : Proper fm T) : Time.le T infT = true := by
  rw [(cmp_withTop hT .inf).2.1]; exact le_top

theorem lt_inf_iff {T : Time (RX fm)} (hT : Proper fm T) : Time.lt T infT = true ↔ T ≠ infT := by
  rw [(cmp_withTop hT .inf).1, valX_inf, lt_top_iff_ne_top, Ne, hT.valX_eq_top_iff]

/-! ### monotonicity and `add_ge` with the displacement `+inf` included -/

/-- `add_mono` over the whole quantifier: displacements finite in `[0, 2^40]` or `+inf`, ordered by the IEEE `<=`. -/
theorem add_mono_ext {t : Time (R fm)} {D D' : RX fm} (ht : Rep fm t) (hq : |toQ t.q| ≤ 2 ^ 52)
    (hD : Disp fm D) (hD' : Disp fm D') (h : D ≤ D') :
    Time.le (Time.add (oX fm) (emb t) D) (Time.add (oX fm) (emb t) D') = true := by
  cases hD' with
  | inf => rw [add_inf]; exact le_inf (add_proper ht hq hD)
  | fin d' h0' h1' =>
    cases hD with
    | fin d h0 h1 => exact add_mono ht hq h0 h1' ((fin_le d d').mp h)
    | inf => exact absurd h (by simp [le_def, leb])

/-- `add_ge` over the whole quantifier -/
theorem add_ge_ext {t : Time (R fm)} {D : RX fm} (ht : Rep fm t) (hq : |toQ t.q| ≤ 2 ^ 52) (hD : Disp fm D) :
    Time.le (emb t) (Time.add (oX fm) (emb t) D) = true := by
  cases hD with
  | fin d h0 h1 => exact add_ge ht hq h0 h1
  | inf => rw [add_inf]; exact fin_le_inf t


/-- `from_float(inf) = Time(inf, inf)`: the `isinf` branch, equal to the module-level `inf` -/
theorem fromFloat_inf : Time.fromFloat (oX fm) (pinf : RX fm) = infT := by
  simp [Time.fromFloat, infT]
/-- `from_float(-inf) = Time(-inf, -inf)` -/
theorem fromFloat_ninf : Time.fromFloat (oX fm) (ninf : RX fm) = ninfT := by
  simp [Time.fromFloat, ninfT]
/-- `from_float(nan) = Time(nan, nan)`: `isinf(nan)` is false, `divmod(nan, 1.0) = (nan, nan)` -/
theorem fromFloat_nan : Time.fromFloat (oX fm) (nan : RX fm) = nanT := by
  simp only [Time.fromFloat, X_isInf_nan, pydivmod1_of_fmod_nan (nan : RX fm) rfl]; rfl

/-! ## (d) subtraction involving `inf`, and what a `Time(nan, nan)` does to the comparisons -/

/-- `inf - t = +inf` for every finite `t` (`inf - q + inf - r`) -/
theorem sub_inf_fin (t : Time (R fm)) : Time.sub infT (emb t) = (pinf : RX fm) := rfl
/-- `t - inf = -inf` for every finite `t` (`q - inf + r - inf`) -/
theorem sub_fin_inf (t : Time (R fm)) : Time.sub (emb t) infT = (ninf : RX fm) := rfl
/-- **(d)** `inf - inf` is NaN (`inf - inf + inf - inf`, the first subtraction already is) -/
theorem sub_inf_inf : Time.sub (infT : Time (RX fm)) infT = nan := rfl

/-- a difference with a `Time(nan, nan)` on either side is NaN -/
theorem sub_nan_left (U : Time (RX fm)) : Time.sub nanT U = (nan : RX fm) := rfl
theorem sub_nan_right (U : Time (RX fm)) : Time.sub U nanT = (nan : RX fm) := by
  obtain ⟨q, r⟩ := U
  cases q <;> cases r <;> rfl

/-- an unordered pair (`<` and `==` both false): `<=` is false and `!=`, `>`, `>=` are TRUE (`__gt__` is `not lt and ne`,
`__ge__` is `not lt`) -/
theorem cmp_of_unordered {T U : Time (RX fm)} (hl : Time.lt T U = false) (he : Time.eq T U = false) :
    Time.lt T U = false ∧ Time.le T U = false ∧ Time.eq T U = false ∧
    ne T U = true ∧ Time.gt T U = true ∧ Time.ge T U = true ∧ Time.cLt T U = false :=
  ⟨hl, by simp [Time.le, hl, he], he, by simp [ne, he], by simp [Time.gt, hl, he], by simp [Time.ge, hl], hl⟩

/-- `Time(nan, nan)` as the LEFT operand is unordered with every time, itself included -/
theorem nan_cmp (U : Time (RX fm)) :
    Time.lt nanT U = false ∧ Time.le nanT U = false ∧ Time.eq nanT U = false ∧
    ne nanT U = true ∧ Time.gt nanT U = true ∧ Time.ge nanT U = true ∧ Time.cLt nanT U = false :=
  cmp_of_unordered rfl rfl

/-- `Time(nan, nan)` as the RIGHT operand: the same table -/
theorem cmp_nan (U : Time (RX fm)) :
    Time.lt U nanT = false ∧ Time.le U nanT = false ∧ Time.eq U nanT = false ∧
    ne U nanT = true ∧ Time.gt U nanT = true ∧ Time.ge U nanT = true ∧ Time.cLt U nanT = false := by
  obtain ⟨q, r⟩ := U
  exact cmp_of_unordered (by cases q <;> cases r <;> rfl) (by cases q <;> rfl)

/-- **(d)** consequence for the result of `inf + d`: it is `>` AND `>=` `inf` while `inf` is `>` and `>=` it, and it is not
`==` itself — after one finite addition to `inf` the comparisons no longer order the times. -/
theorem inf_add_fin_cmp (d : R fm) :
    Time.gt (Time.add (oX fm) (infT : Time (RX fm)) (fin d)) infT = true ∧
    Time.gt infT (Time.add (oX fm) (infT : Time (RX fm)) (fin d)) = true ∧
    Time.eq (Time.add (oX fm) (infT : Time (RX fm)) (fin d)) (Time.add (oX fm) (infT : Time (RX fm)) (fin d)) = false ∧
    Time.le (Time.add (oX fm) (infT : Time (RX fm)) (fin d)) infT = false := by
  rw [inf_add_fin]
  exact ⟨(nan_cmp infT).2.2.2.2.1, (cmp_nan infT).2.2.2.2.1, (nan_cmp nanT).2.2.1, (nan_cmp infT).2.1⟩

/-! ## times are values: `update` with `inf` (register reading, generic `C14.update_value`) -/

/-- `regs[i].update(inf)` (with `inf` held in register `j`) makes register `i` compare as `inf` -/
theorem update_inf (z : Time (RX fm)) (s : Time.Regs (RX fm)) (i j : Nat) (hi : i < s.length)
    (hj : s.get z j = infT) : (s.update z i j).get z i = infT := by
  rw [C14.update_value z s i j hi, hj]


section examples
example : Proper fx (Time.add (oX fx) (emb tBig) pinf) := add_proper tBig_rep tBig_q .inf
example : Proper fx (Time.add (oX fx) (emb tBig) (fin dLarge)) :=
  add_proper tBig_rep tBig_q (.fin _ dLarge_nonneg dLarge_le)
example : Disp fx (fin dSmall) := .fin _ dSmall_nonneg dSmall_le
example : Time.le (Time.add (oX fx) (emb tBig) (fin dLarge)) (Time.add (oX fx) (emb tBig) pinf) = true :=
  add_mono_ext tBig_rep tBig_q (.fin _ dLarge_nonneg dLarge_le) .inf (by simp [le_def, leb])
example : Time.lt (emb tBig) (infT : Time (RX fx)) = true ↔ valX (emb tBig) < valX (infT : Time (RX fx)) :=
  (cmp_withTop (.fin _ tBig_rep) .inf).1
example : valX (emb tBig) < valX (infT : Time (RX fx)) := by
  rw [← (cmp_withTop (.fin _ tBig_rep) .inf).1]; exact fin_lt_inf _
example : Time.lt (emb tNeg) (emb tBig) = true ↔ valX (emb tNeg) < valX (emb tBig) :=
  (cmp_withTop (.fin _ tNeg_rep) (.fin _ tBig_rep)).1
example : Time.add (oX fx) (infT : Time (RX fx)) (fin dSmall) = nanT := inf_add_fin _
end examples


section binary64

/-- binary64: finite normalised time (quotient up to `2^52`) plus any displacement of the quantifier, `+inf` included,
never gives a NaN field -/
theorem add_proper_binary64 {t : Time (R b64)} {D : RX b64} (ht : Rep b64 t) (hq : |toQ t.q| ≤ 2 ^ 52)
    (hD : Disp b64 D) : Proper b64 (Time.add (oX b64) (emb t) D) := add_proper ht hq hD

theorem add_inf_binary64 (T : Time (RX b64)) : Time.add (oX b64) T pinf = infT := add_inf T

theorem cmp_withTop_binary64 {T U : Time (RX b64)} (hT : Proper b64 T) (hU : Proper b64 U) :
    (Time.lt T U = true ↔ valX T < valX U) ∧ (Time.le T U = true ↔ valX T ≤ valX U) ∧
    (Time.eq T U = true ↔ valX T = valX U) ∧ (ne T U = true ↔ valX T ≠ valX U) ∧
    (Time.gt T U = true ↔ valX T > valX U) ∧ (Time.ge T U = true ↔ valX T ≥ valX U) ∧
    (Time.cLt T U = true ↔ valX T < valX U) := cmp_withTop hT hU

/-- binary64, (d): `inf + d = Time(nan, nan)` for every finite double `d`; `inf - inf = nan` -/
theorem inf_add_fin_binary64 (d : R b64) : Time.add (oX b64) (infT : Time (RX b64)) (fin d) = nanT := inf_add_fin d
theorem sub_inf_inf_binary64 : Time.sub (infT : Time (RX b64)) infT = nan := sub_inf_inf

/-- one addition in the extended carrier is off by at most `2^-53 (r + d)`, whatever the quotient -/
theorem add_error_binary64 {t : Time (R b64)} {d : R b64} (ht : Rep b64 t) (hq : |toQ t.q| ≤ 2 ^ 52)
    (hdF : toQ d ∈ b64.F) (hd0 : 0 ≤ toQ d) (hd1 : toQ d ≤ 2 ^ 40) :
    ∃ v : ℚ, valX (Time.add (oX b64) (emb t) (fin d)) = (v : WithTop ℚ) ∧
      |v - (val t + toQ d)| ≤ (toQ t.r + toQ d) / 2 ^ 53 :=
  ⟨_, by rw [add_fin, valX_emb], C14F.add_error_binary64 ht hq hdF hd0 hd1⟩

/-- `q = 2^52`, `r = 1 - 2^-53`, `d = +inf` -/
example : Time.add (oX b64) (emb tBig64) pinf = infT := add_inf _
example : Proper b64 (Time.add (oX b64) (emb tBig64) pinf) := add_proper tBig64_rep tBig64_q .inf
/-- `d = 2^-60`: the addition really rounds, and stays in the domain -/
example : Proper b64 (Time.add (oX b64) (emb tBig64) (fin dTiny64)) :=
  add_proper tBig64_rep tBig64_q (.fin _ dTiny64_nonneg dTiny64_le)
example : Time.lt (emb tBig64) (infT : Time (RX b64)) = true := fin_lt_inf _
example : Time.le (emb tBig64) (Time.add (oX b64) (emb tBig64) pinf) = true := add_ge_ext tBig64_rep tBig64_q .inf
example : valX (Time.add (oX b64) (emb tBig64) (fin dTiny64)) < valX (Time.add (oX b64) (emb tBig64) pinf) := by
  have hP := add_proper tBig64_rep tBig64_q
    (.fin dTiny64 dTiny64_nonneg dTiny64_le : Disp b64 (fin dTiny64))
  rw [← (cmp_withTop hP (add_proper tBig64_rep tBig64_q .inf)).1, add_inf, lt_inf_iff hP, add_fin]
  simp [emb, infT]
/-- the concrete input of (d): `inf + 1.0` -/
example : Time.add (oX b64) (infT : Time (RX b64)) (fin (ofQ 1)) = nanT := inf_add_fin _
example : Time.add (oX b64) (Time.add (oX b64) (emb tBig64) pinf) (fin (ofQ 1)) = nanT := add_inf_then_fin _ _
end binary64

end JF.C14FloatInf
