import JF.Props.SystemInv
import JF.Lemmas.SystemInvMP2Sys1
import JF.Lemmas.SystemInvResume2Generic
/-!
# The joint invariants of the composed system along dumped-and-resumed runs

`JF/Props/SystemInv.lean` states the joint invariant (`joint_inv`) and its closed corollaries for the runs `JF.Sys.Reach` of the
composed system whose mediator uses the spec-level scheduler (`specI xcfg`).  `JF/Props/C19Loop.lean` proves that a run of the
mediator loop with the heap scheduler that is pickled and restored at any leg boundaries makes the commits of the uninterrupted
run.  This file puts the two together.

**What is modelled.**  C19's model of dump/resume: the mediator runs with the heap scheduler instance `heapI xcfg W` (model of
`HeapScheduler` on the model of `heap.c`); a dump at a leg boundary replaces the mediator state `st` by `dumpH xcfg st`: the
scheduler is pickled and rebuilt (`HSched.pickle`: `__getstate__` reads the entries of the C heap in array order, `__setstate__`
re-inserts them into a fresh heap), every other component — activator bookkeeping, `_event_handler_with_shortest_event_time`,
and here also the world of the composed system (point masses `us`, occupancy `occ`, and the ghost fields `ids`, `usPrev`, `mid`)
— is restored as it was (trusted base "`dill` is the identity on ordinary objects", exercised by C19's correspondence check).
`ReachD` = the runs of the composed system (`SysStepH`: field for field `JF.Sys.SysStep`, heap scheduler) dumped and resumed
any number of times at any leg boundaries.  They are the runs `T1.ReachD` of the instance `T1` of `SysGen.CSys`
(`JF/Lemmas/SystemInvMP2Sys1.lean`), and the bridges are those of `JF/Lemmas/SystemInvResume2Generic.lean` for `T1`: a `ReachD` run
without time ties has a spec-level twin `JF.Sys.Reach` (`reachD_reach`), hence the theorems of `SystemInv` hold for it
(`…_resumed`).

**The no-tie hypothesis** is `NoTies xcfg xcfg.finite (fun _ => none) cs` (`JF/Props/MediatorLoop.lean`) — at no
`get_succeeding_event` of the run are two finite pending candidate times of different handlers equal/incomparable (`NoTie` on the
ghost dictionary after the pushes of the leg).  It is needed only to go from the heap instance to the spec instance, in which the
joint invariants are stated (with a tie the heap scheduler returns *a* minimal event, the spec scheduler possibly another one),
not for resume = uninterrupted.  The hypotheses `TieFree`/`TieFreeAll` of the original theorems (a sampling/dumping/any event not
committed at the time of the pending cell-boundary candidate) are kept as they are.

**Not covered.**  The list scheduler (its pickling is the identity: `C19Loop.resume_list`); the invariants under time ties among
pending events (would need the joint invariant stated over the heap instance); the identity of `dill` on everything that is not
the C heap (trusted base); the multi-process mediator; runs that leave the loop with an exception (a `ReachD` run consists of
successful legs); `sched_mirrors_running_closed` and `guard_never_fires_closed` (they speak about the spec scheduler state
itself; the heap versions are `JF.MediatorLoop.heap_sched_mirrors_running` / `guard_never_fires` with `SysGen.reachD_minv`).
-/
namespace JF.SystemInvResume
open JF JF.Act JF.Heap JF.Sched JF.Med JF.CW JF.C14 JF.MediatorLoop JF.Kin JF.Sys JF.SystemInv
open JF.C19Loop (Step oraclesOf dumpH dumpWith StRel ExRel RunRel runD runLegsE heapBisim leg_congr)

/-- the composed system between two legs, with the heap scheduler (field for field `JF.Sys.Sys`) -/
structure SysH where
  /-- activator bookkeeping, heap scheduler, `_event_handler_with_shortest_event_time` -/
  med : MedState (HSched XTime)
  us : List (PUnit ℚ)
  occ : Occ.State
  ids : HandlerId → IdTuple
  usPrev : List (PUnit ℚ)
  mid : Act

def SysH.toSys (s : SysH) (m : MedState (SSched XTime)) : Sys := ⟨m, s.us, s.occ, s.ids, s.usPrev, s.mid⟩

def SysH.ofSys (s : Sys) (m : MedState (HSched XTime)) : SysH := ⟨m, s.us, s.occ, s.ids, s.usPrev, s.mid⟩

section defs
variable (env : Env ℚ) (geo : Geo env) (c : Wiring) (S : TaggerIdx) (needs : HandlerId → Bool)

/-- one leg of the composed system with the heap scheduler: field for field `JF.Sys.SysStep` (`occ1` is `occNext` unfolded) -/
structure SysStepH (W : Nat) (s : SysH) (o : Oracle XTime) (cm : Committed XTime) (s' : SysH) : Prop where
  occ1 : (if s.med.act.started then occAfter env (hasOccOf c) s.occ s.us else some s.occ) = some s'.occ
  yields : o.yields = fun T => yieldCls env (c.tagger T).cls ⟨s.us, s'.occ⟩
  leg : leg (mwire c S needs) (heapI xcfg W) s.med o = .ok (s'.med, cm)
  cands : CandsOK env geo c s.us s.med.sched.last o cm.created
  ev : ∃ t, cm.time = .fin t ∧ Commits env geo (kindOfH c cm.handler) t s.us s'.us
  ids' : s'.ids = assign s.ids cm.created
  prev : s'.usPrev = s.us
  mid' : s'.mid = midAct (mwire c S needs) s.med o

/-- `ss` lists the legs (with their oracle values) and the dump/resume round trips in the order in which they happen; no leg after
the end-of-run commit -/
inductive ReachD (W : Nat) : List (Step XTime) → List (Committed XTime) → SysH → Prop
  | init (s : SysH) (hmed : s.med = MedState.init (heapI xcfg W) c.wires)
      (h : Init env c (s.toSys (MedState.init (specI xcfg) c.wires))) : ReachD W [] [] s
  | step {ss : List (Step XTime)} {cs : List (Committed XTime)} {s s' : SysH} {o : Oracle XTime} {cm : Committed XTime}
      (prev : ReachD W ss cs s) (hgo : ∀ cl, cs.getLast? = some cl → cl.stop = false)
      (hstep : SysStepH env geo c S needs W s o cm s') : ReachD W (ss ++ [.leg o]) (cs ++ [cm]) s'
  | dump {ss : List (Step XTime)} {cs : List (Committed XTime)} {s : SysH}
      (prev : ReachD W ss cs s) : ReachD W (ss ++ [.dump]) cs { s with med := dumpH (W := W) xcfg s.med }

end defs

section main
variable {env : Env ℚ} {geo : Geo env} {c : Wiring} {S : TaggerIdx} {needs : HandlerId → Bool} {W : Nat}

theorem reachD1_of {ss : List (Step XTime)} {cs : List (Committed XTime)} {sH : SysH}
    (hr : ReachD env geo c S needs W ss cs sH) :
    (SystemInvMP.T1 env geo c S needs).ReachD W ss cs sH.med ⟨sH.us, sH.occ, sH.ids, sH.usPrev, sH.mid⟩ := by
  induction hr with
  | init s hmed h => exact .init (T := SystemInvMP.T1 env geo c S needs) _ _ hmed h
  | step _ hgo hstep ih =>
    exact .step (T := SystemInvMP.T1 env geo c S needs) ih hgo hstep.leg
      (show SystemInvMP.RStep1 env geo c S needs _ _ _ _ _ _ from
        ⟨hstep.occ1, hstep.yields, hstep.cands, hstep.ev, hstep.ids', hstep.prev, hstep.mid'⟩)
  | dump _ ih => exact .dump ih

theorem reachD1_to {ss : List (Step XTime)} {cs : List (Committed XTime)} {m : MedState (HSched XTime)}
    {x : (SystemInvMP.T1 env geo c S needs).X} (hr : (SystemInvMP.T1 env geo c S needs).ReachD W ss cs m x) :
    ReachD env geo c S needs W ss cs ⟨m, x.us, x.occ, x.ids, x.usPrev, x.mid⟩ := by
  induction hr with
  | init m x hm h => exact .init _ hm h
  | step _ hgo hleg hw ih =>
    have hw' : SystemInvMP.RStep1 env geo c S needs _ _ _ _ _ _ := hw
    exact .step ih hgo ⟨hw'.occ1, hw'.yields, hleg, hw'.cands, hw'.ev, hw'.ids', hw'.prev, hw'.mid'⟩
  | dump _ ih => exact .dump ih

/-- **heap → spec.**  A dumped-and-resumed run of the composed system with the heap scheduler, without time ties among the
finite pending candidate times (`NoTies`), has a spec-level twin: a run `JF.Sys.Reach` on the oracle values of its legs with
the same commits `cs`, the same world and ghost fields, the same activator state and the same preceding handler. -/
theorem reachD_reach (hs : Static (mwire c S needs)) (hW : 0 < W) {ss : List (Step XTime)} {cs : List (Committed XTime)}
    {sH : SysH} (hr : ReachD env geo c S needs W ss cs sH) (nt : NoTies xcfg xcfg.finite (fun _ => none) cs) :
    ∃ m : MedState (SSched XTime), JF.Sys.Reach env geo c S needs (oraclesOf ss) cs (sH.toSys m) ∧
      m.act = sH.med.act ∧ m.preceding = sH.med.preceding := by
  obtain ⟨m, hreach, hact, hpre⟩ := SysGen.reachD_reach (T := SystemInvMP.T1 env geo c S needs) hs hW (reachD1_of hr) nt
  exact ⟨m, SystemInvMP.reach1_to hreach, hact, hpre⟩

/-- **resume = uninterrupted for the composed system, leg for leg** (no tie hypothesis): for a run that is dumped and resumed
any number of times there is an uninterrupted run of the composed system with the heap scheduler (`ss.filter notDump`: the same
legs on the same oracle values, no dump) with exactly the same commits `cs`, ending in the same world and ghost fields
and in a mediator state with the same activator bookkeeping, the same preceding handler and a
scheduler with the same live part (`LiveEq`: observationally equal for ever, `C19Loop.StRel.obsEqI`) -/
theorem resumed_is_uninterrupted (hs : Static (mwire c S needs)) (hW : 0 < W) {ss : List (Step XTime)}
    {cs : List (Committed XTime)} {sH : SysH} (hr : ReachD env geo c S needs W ss cs sH) :
    ∃ m' : MedState (HSched XTime), ReachD env geo c S needs W (ss.filter notDump) cs { sH with med := m' } ∧
      StRel (LiveEq xcfg) m' sH.med := by
  obtain ⟨m', hr', rel⟩ :=
    SysGen.resumed_is_uninterrupted (T := SystemInvMP.T1 env geo c S needs) hs hW (reachD1_of hr)
  exact ⟨m', reachD1_to hr', rel⟩

/-- the commits of a dumped-and-resumed run of the composed system are exactly the commits of the uninterrupted mediator loop
`runLegsE` with the heap scheduler on the oracle values of its legs (no tie hypothesis) -/
theorem resumed_commits_uninterrupted (hs : Static (mwire c S needs)) (hW : 0 < W) {ss : List (Step XTime)}
    {cs : List (Committed XTime)} {sH : SysH} (hr : ReachD env geo c S needs W ss cs sH) :
    (runLegsE (mwire c S needs) (heapI xcfg W) (MedState.init (heapI xcfg W) (mwire c S needs).w) (oraclesOf ss)).1 = cs :=
  SysGen.resumed_commits_uninterrupted (T := SystemInvMP.T1 env geo c S needs) hs hW (reachD1_of hr)

/-- … and while the run has not ended, the uninterrupted loop ends without exception in a mediator state with the same activator
bookkeeping, the same preceding handler and the same live part of the heap (`C19Loop.resume_repeated`) -/
theorem resumed_runRel_uninterrupted (hs : Static (mwire c S needs)) (hW : 0 < W) {ss : List (Step XTime)}
    {cs : List (Committed XTime)} {sH : SysH} (hr : ReachD env geo c S needs W ss cs sH) (hne : ∀ cl ∈ cs, cl.stop = false) :
    RunRel (LiveEq xcfg)
      (runLegsE (mwire c S needs) (heapI xcfg W) (MedState.init (heapI xcfg W) (mwire c S needs).w) (oraclesOf ss))
      (cs, .ok sH.med) :=
  Eq.mp (congrArg _ ((SysGen.resumed_mediator_runD (T := SystemInvMP.T1 env geo c S needs) (reachD1_of hr)).2 hne))
    (C19Loop.resume_repeated xcfg_strictWeak hW hs C19Loop.Reach.init ss)

/-- the joint invariant holds after every leg of every dumped-and-resumed run, for the spec-level twin of the mediator -/
theorem joint_inv_resumed (H : Hyp env c S) (hW : 0 < W) {ss : List (Step XTime)} {cs : List (Committed XTime)} {sH : SysH}
    (hr : ReachD env geo c S needs W ss cs sH) (ntH : NoTies xcfg xcfg.finite (fun _ => none) cs) (nt : TieFree c cs) :
    ∃ m : MedState (SSched XTime), m.act = sH.med.act ∧ m.preceding = sH.med.preceding ∧
      JInv env geo c S needs cs (sH.toSys m) := by
  obtain ⟨m, hreach, ha, hp⟩ := reachD_reach (hyp_static H) hW hr ntH
  exact ⟨m, ha, hp, joint_inv H hreach nt⟩

theorem c09_fresh_closed_resumed (H : Hyp env c S) (hW : 0 < W) {ss : List (Step XTime)} {cs : List (Committed XTime)}
    {sH : SysH} (hr : ReachD env geo c S needs W ss cs sH) (ntH : NoTies xcfg xcfg.finite (fun _ => none) cs)
    (nt : TieFree c cs) (h2 : 2 ≤ cs.length) :
    ∃ hc : Consistent env (hasOccOf c) ⟨sH.usPrev, sH.occ⟩,
      (∀ T, (world env c).live T → Fresh (world env c) ⟨sH.mid, sH.ids, ⟨⟨sH.usPrev, sH.occ⟩, hc⟩⟩ T) ∧
      Act.Run c (world env c) (Tr env c) S ⟨sH.mid, sH.ids, ⟨⟨sH.usPrev, sH.occ⟩, hc⟩⟩ := by
  obtain ⟨m, hreach, _, _⟩ := reachD_reach (hyp_static H) hW hr ntH
  exact c09_fresh_closed H hreach nt h2

theorem c09_fresh_every_leg_resumed (H : Hyp env c S) (hW : 0 < W) {ss : List (Step XTime)} {cs : List (Committed XTime)}
    {sH : SysH} (hr : ReachD env geo c S needs W ss cs sH) (ntH : NoTies xcfg xcfg.finite (fun _ => none) cs)
    (nt : TieFree c cs) {k : Nat} {cm : Committed XTime} (hk : cs[k + 1]? = some cm) :
    ∃ (s1 : Sys) (hc : Consistent env (hasOccOf c) ⟨s1.usPrev, s1.occ⟩),
      (∀ T, (world env c).live T → Fresh (world env c) ⟨s1.mid, s1.ids, ⟨⟨s1.usPrev, s1.occ⟩, hc⟩⟩ T) ∧
      (∀ x, (pendPushed (pendOf (fun _ => none) (cs.take (k + 1))) cm x).isSome ↔ ∃ T, x ∈ (getT s1.mid T).running) := by
  obtain ⟨m, hreach, _, _⟩ := reachD_reach (hyp_static H) hW hr ntH
  exact c09_fresh_every_leg H hreach nt hk

theorem c11_active_in_recorded_cell_closed_resumed (H : Hyp env c S) (hW : 0 < W) {ss : List (Step XTime)}
    {cs : List (Committed XTime)} {sH : SysH} (hr : ReachD env geo c S needs W ss cs sH)
    (ntH : NoTies xcfg xcfg.finite (fun _ => none) cs) (nt : TieFree c cs) (hO : hasOccOf c = true) {cl : Committed XTime}
    (hl : cs.getLast? = some cl) :
    OldActiveStays env sH.occ sH.usPrev sH.usPrev ∧
    (kindOfH c cl.handler ≠ .cellBoundary → NoTieAll c (pendOf (fun _ => none) cs.dropLast) cl →
      OldActiveStays env sH.occ sH.usPrev sH.us) := by
  obtain ⟨m, hreach, _, _⟩ := reachD_reach (hyp_static H) hW hr ntH
  exact c11_active_in_recorded_cell_closed H hreach nt hO hl

theorem staysInRecordedCell_closed_resumed (H : Hyp env c S) (hW : 0 < W) {ss : List (Step XTime)}
    {cs : List (Committed XTime)} {sH : SysH} (hr : ReachD env geo c S needs W ss cs sH)
    (ntH : NoTies xcfg xcfg.finite (fun _ => none) cs) (nt : TieFree c cs) (hO : hasOccOf c = true) {cl : Committed XTime}
    (hl : cs.getLast? = some cl) (hq : kindOfH c cl.handler = .sampling ∨ kindOfH c cl.handler = .dumping) :
    StaysInRecordedCell env sH.occ sH.us := by
  obtain ⟨m, hreach, _, _⟩ := reachD_reach (hyp_static H) hW hr ntH
  exact staysInRecordedCell_closed H hreach nt hO hl hq

theorem c11_occinv_closed_resumed (H : Hyp env c S) (hW : 0 < W) {ss : List (Step XTime)} {cs : List (Committed XTime)}
    {sH : SysH} (hr : ReachD env geo c S needs W ss cs sH) (ntH : NoTies xcfg xcfg.finite (fun _ => none) cs)
    (nta : TieFreeAll c cs) (hO : hasOccOf c = true) :
    C11.OccInv (relW env sH.usPrev) (cellW env sH.usPrev) sH.occ := by
  obtain ⟨m, hreach, _, _⟩ := reachD_reach (hyp_static H) hW hr ntH
  exact c11_occinv_closed H hreach nta hO

theorem candOK_closed_resumed (H : Hyp env c S) (hW : 0 < W) (hdq : dumpQuiet c = true) {ss : List (Step XTime)}
    {cs : List (Committed XTime)} {sH : SysH} (hr : ReachD env geo c S needs W ss cs sH)
    (ntH : NoTies xcfg xcfg.finite (fun _ => none) cs) (nt : TieFree c cs) :
    MediatorLoop.Legs (CandOK xcfg) (fun _ => none) xcfg.bot cs := by
  obtain ⟨m, hreach, _, _⟩ := reachD_reach (hyp_static H) hW hr ntH
  exact candOK_closed H hdq hreach nt

theorem commit_times_sorted_closed_resumed (H : Hyp env c S) (hW : 0 < W) (hdq : dumpQuiet c = true)
    {ss : List (Step XTime)} {cs : List (Committed XTime)} {sH : SysH} (hr : ReachD env geo c S needs W ss cs sH)
    (ntH : NoTies xcfg xcfg.finite (fun _ => none) cs) (nt : TieFree c cs) :
    cs.Pairwise (fun a b => xcfg.lt b.time a.time = false) := by
  obtain ⟨m, hreach, _, _⟩ := reachD_reach (hyp_static H) hW hr ntH
  exact commit_times_sorted_closed H hdq hreach nt

theorem no_sample_skipped_resumed (H : Hyp env c S) (hW : 0 < W) {ss : List (Step XTime)} {cs : List (Committed XTime)}
    {sH : SysH} (hr : ReachD env geo c S needs W ss cs sH) (ntH : NoTies xcfg xcfg.finite (fun _ => none) cs)
    {k : Nat} {cm : Committed XTime} (hk : cs[k]? = some cm)
    {hs : HandlerId} {ts : XTime} (hkind : kindOfH c hs = .sampling)
    (hp : pendPushed (pendOf (fun _ => none) (cs.take k)) cm hs = some ts) (hfin : xcfg.finite ts = true) :
    xcfg.lt ts cm.time = false ∧ (cm.handler = hs → cm.time = ts) := by
  obtain ⟨m, hreach, _, _⟩ := reachD_reach (hyp_static H) hW hr ntH
  exact no_sample_skipped H hreach hk hkind hp hfin

theorem c08_closed_resumed (H : Hyp env c S) (hW : 0 < W) {ss : List (Step XTime)} {cs : List (Committed XTime)}
    {sH : SysH} (hr : ReachD env geo c S needs W ss cs sH) (ntH : NoTies xcfg xcfg.finite (fun _ => none) cs)
    (nt : TieFree c cs) {cl : Committed XTime} (hl : cs.getLast? = some cl) :
    ∃ (hc : Consistent env (hasOccOf c) ⟨sH.usPrev, sH.occ⟩) (born : HandlerId → G env c),
      C08.Reach8 c.wires (world env c) (motionOf env c) S ⟨⟨sH.mid, sH.ids, ⟨⟨sH.usPrev, sH.occ⟩, hc⟩⟩, born⟩ ∧
      C08.Current (motionOf env c) ⟨⟨sH.mid, sH.ids, ⟨⟨sH.usPrev, sH.occ⟩, hc⟩⟩, born⟩ ∧
      ∀ E, owner c.wires cl.handler = some E → motionBound (c.tagger E) = true →
        ∀ u ∈ (motionOf env c).units (sH.ids cl.handler), SameMotion env.L (born cl.handler).1.us sH.usPrev u := by
  obtain ⟨m, hreach, _, _⟩ := reachD_reach (hyp_static H) hW hr ntH
  exact c08_closed H hreach nt hl

theorem c08_stale_trashed_closed_resumed (H : Hyp env c S) (hW : 0 < W) {ss : List (Step XTime)}
    {cs : List (Committed XTime)} {sH : SysH} (hr : ReachD env geo c S needs W ss cs sH)
    (ntH : NoTies xcfg xcfg.finite (fun _ => none) cs) (nt : TieFree c cs) {k j : Nat} {ck cj : Committed XTime}
    (hk : cs[k]? = some ck) {E : TaggerIdx} (hE : owner c.wires ck.handler = some E)
    (hm : affects (c.tagger E) .motion = true) {h : HandlerId} {T : TaggerIdx} (hT : owner c.wires h = some T)
    (hb : motionBound (c.tagger T) = true)
    (hp : (pendPushed (pendOf (fun _ => none) (cs.take k)) ck h).isSome) :
    h ∈ ck.trashed ∧
    (k < j → cs[j]? = some cj → cj.handler = h →
      ∃ (i : Nat) (ci : Committed XTime), k < i ∧ i ≤ j ∧ cs[i]? = some ci ∧ h ∈ ci.created.map Prod.fst) := by
  obtain ⟨m, hreach, _, _⟩ := reachD_reach (hyp_static H) hW hr ntH
  exact c08_stale_trashed_closed H hreach nt hk hE hm hT hb hp

/-- **spec → heap (non-vacuity).**  Take any run `JF.Sys.Reach` of the composed system with the spec-level scheduler
without time ties, and insert dump/resume round trips at any leg boundaries, any number of them (`ss` is an arbitrary list of
legs and dumps whose legs carry the oracle values of the run): the result is a dumped-and-resumed run
`ReachD` of the composed system with the heap scheduler, with the same commits and the same world and ghost fields.  So the
hypotheses of the `…_resumed` theorems are satisfiable whenever those of the originals are. -/
theorem reach_reachD (hs : Static (mwire c S needs)) (hW : 0 < W) : ∀ (ss : List (Step XTime)) {cs : List (Committed XTime)}
    {s : Sys}, JF.Sys.Reach env geo c S needs (oraclesOf ss) cs s → NoTies xcfg xcfg.finite (fun _ => none) cs →
    ∃ mH : MedState (HSched XTime), ReachD env geo c S needs W ss cs (SysH.ofSys s mH) ∧
      mH.act = s.med.act ∧ mH.preceding = s.med.preceding := by
  intro ss cs s hr nt
  obtain ⟨mH, hD, hact, hpre⟩ :=
    SysGen.reach_reachD (T := SystemInvMP.T1 env geo c S needs) hs hW ss (SystemInvMP.reach1_of hr) nt
  exact ⟨mH, reachD1_to hD, hact, hpre⟩

end main

/-! ## Non-vacuity on the concrete 6-leg run of `JF.SystemInv.Example` (coulomb_atoms, cell_bounded) -/

namespace Example
open JF.SystemInv.Example

/-- counter range of a C `unsigned int` -/
abbrev W32 : Nat := 4294967296

/-- `NoTies` holds for the six commits (start of run at 0, sampling at 1/28, cell boundary at 1/14, lifting at
5/56, sampling at 3/28, lifting at 1/8): at no `get_succeeding_event` do two finite pending candidate times coincide -/
theorem noTies6 : NoTies xcfg xcfg.finite (fun _ => none) cs6 :=
  noTies_of_check _ _ [] (fun h t e => by cases e) (by decide +kernel)

theorem noTies4 : NoTies xcfg xcfg.finite (fun _ => none) cs4 := by
  have h : NoTies xcfg xcfg.finite (fun _ => none) (cs4 ++ [c5] ++ [c6]) := by rw [cs4_eq]; exact noTies6
  exact ((noTies_snoc _ _ _).mp ((noTies_snoc _ _ _).mp h).1).1

/-- the six legs with dumps before the first leg, after legs 1, 3 (twice in a row), 4 and 6 -/
def steps6 : List (Step XTime) :=
  [.dump, .leg (mkO s0.us occ0 cand1), .dump, .leg (mkO s1.us occ1 cand2), .leg (mkO s2.us occ2 cand3), .dump, .dump,
   .leg (mkO s3.us occ3 cand4), .dump, .leg (mkO s4.us occ4 cand5), .leg (mkO s5.us occ5 cand6), .dump]

/-- the first four legs with dumps after legs 1 and 3 -/
def steps4 : List (Step XTime) :=
  [.leg (mkO s0.us occ0 cand1), .dump, .leg (mkO s1.us occ1 cand2), .leg (mkO s2.us occ2 cand3), .dump,
   .leg (mkO s3.us occ3 cand4)]

theorem dumped6 : ∃ mH : MedState (HSched XTime), ReachD env geo cfg 7 needs W32 steps6 cs6 (SysH.ofSys s6 mH) ∧
    mH.act = s6.med.act ∧ mH.preceding = s6.med.preceding :=
  reach_reachD (hyp_static hyp) (by decide) steps6
    (show JF.Sys.Reach env geo cfg 7 needs (oraclesOf steps6) cs6 s6 from reach6) noTies6

theorem dumped4 : ∃ mH : MedState (HSched XTime), ReachD env geo cfg 7 needs W32 steps4 cs4 (SysH.ofSys s4 mH) ∧
    mH.act = s4.med.act ∧ mH.preceding = s4.med.preceding :=
  reach_reachD (hyp_static hyp) (by decide) steps4
    (show JF.Sys.Reach env geo cfg 7 needs (oraclesOf steps4) cs4 s4 from reach4) noTies4

example : ∃ (mH : MedState (HSched XTime)) (m : MedState (SSched XTime)), m.act = mH.act ∧ m.preceding = mH.preceding ∧
    JInv env geo cfg 7 needs cs6 ((SysH.ofSys s6 mH).toSys m) := by
  obtain ⟨mH, hD, _, _⟩ := dumped6
  obtain ⟨m, h1, h2, h3⟩ := joint_inv_resumed hyp (by decide) hD noTies6 tieFree6
  exact ⟨mH, m, h1, h2, h3⟩

/-- C09 in the middle of the fourth leg of the dumped run (dumps after legs 1 and 3) -/
example : ∃ hc : Consistent env (hasOccOf cfg) ⟨s4.usPrev, s4.occ⟩,
    ∀ T, (world env cfg).live T → Fresh (world env cfg) ⟨s4.mid, s4.ids, ⟨⟨s4.usPrev, s4.occ⟩, hc⟩⟩ T := by
  obtain ⟨mH, hD, _, _⟩ := dumped4
  obtain ⟨hc, h, _⟩ := c09_fresh_closed_resumed hyp (by decide) hD noTies4 tieFree4 (by decide)
  exact ⟨hc, h⟩

/-- C11's full invariant in the middle of leg 6 of the dumped run -/
example : C11.OccInv (relW env s6.usPrev) (cellW env s6.usPrev) s6.occ := by
  obtain ⟨mH, hD, _, _⟩ := dumped6
  exact c11_occinv_closed_resumed hyp (by decide) hD noTies6 tieFreeAll6 rfl

example : cs6.Pairwise (fun a b => xcfg.lt b.time a.time = false) := by
  obtain ⟨mH, hD, _, _⟩ := dumped6
  exact commit_times_sorted_closed_resumed hyp (by decide) dumpQuiet_shipped.1 hD noTies6 tieFree6

/-- `c08_closed` for the `coulomb_surplus` event committed in leg 6 of the dumped run -/
example : ∃ born : HandlerId → G env cfg,
    ∀ u ∈ (motionOf env cfg).units (s6.ids c6.handler), SameMotion env.L (born c6.handler).1.us s6.usPrev u := by
  obtain ⟨mH, hD, _, _⟩ := dumped6
  obtain ⟨_, born, _, _, h⟩ := c08_closed_resumed hyp (by decide) hD noTies6 tieFree6 (cl := c6) List.getLast?_concat
  exact ⟨born, h 3 (by rw [ok6.handler]; decide) (by decide)⟩

example : ∃ mH m' : MedState (HSched XTime), ReachD env geo cfg 7 needs W32 (steps6.filter notDump) cs6 (SysH.ofSys s6 m') ∧
    StRel (LiveEq xcfg) m' mH := by
  obtain ⟨mH, hD, _, _⟩ := dumped6
  obtain ⟨m', h1, h2⟩ := resumed_is_uninterrupted (hyp_static hyp) (by decide) hD
  exact ⟨mH, m', h1, h2⟩

example : (runLegsE M (heapI xcfg W32) (MedState.init (heapI xcfg W32) M.w) os6).1 = cs6 := by
  obtain ⟨mH, hD, _, _⟩ := dumped6
  exact resumed_commits_uninterrupted (hyp_static hyp) (by decide) hD

end Example

end JF.SystemInvResume
