import JF.Props.C19
import JF.Props.C06
import JF.Lemmas.HeapObsSched
/-!
# C19, the link to the heap scheduler: the unpickled `HeapScheduler` is observationally equal to the original

`JF.C19.resume_same` reduces "a dumped run resumes to exactly the run that was never interrupted" to
observational equality (`ObsEq`) of the one component that pickling *rebuilds* instead of copying: the C heap
inside `HeapScheduler` (`__getstate__` reads the entries in array order, `__setstate__` re-inserts them into a
fresh heap).  C06's `pickle_id` shows that the rebuilt array has the same live part (indices `1 … length - 1`),
the same counters and the same last returned time.  Here the remaining step is proved: the two states may differ
in the allocated size (a fresh heap starts with 64 entries, the old one may have grown) and in the memory beyond
`length`, and **no future answer depends on that**.

`JF.Sched.LiveEq` (`JF/Lemmas/HeapObsSched.lean`: same live part) is kept by every operation, with equal results
(`push_liveEq`, `trash_liveEq`, `get_liveEq`; `JF/Lemmas/HeapObs.lean` has the loop-by-loop simulation of `heap.c`), so it
implies `ObsEq` (`liveEq_obsEq`) for **all** future operation sequences, protocol-respecting or not: `LiveEq` contains the
heap invariant of C06, and `insert`, `root`, `delete_events` preserve that invariant for arbitrary arguments.
`pickle_obsEq`, `resume_same_heap` are the statement for every state reached by a protocol-respecting history (which may
itself contain earlier pickle round trips).

The scheduler instance reports to the client what `get_succeeding_event` returns to the mediator: the handler, or
an exception.  `liveEq_results` is the finer statement on the full outcomes (time, and which of the two errors).
-/
namespace JF.C19
open JF JF.Heap JF.Sched

section Link
variable {κ : Type} {cfg : Cfg κ}

/-- what the caller of `get_succeeding_event` sees: the returned handler, or `none` for an exception (empty
scheduler, or the monotonicity assertion) -/
def resHandler : GetRes κ → Option Nat
  | .ok h _ => some h
  | .empty => none
  | .guard _ _ => none

/-- the model of `HeapScheduler` (C counter range `W`) as a `JF.C19.Sched` -/
def heapSched (cfg : Cfg κ) (W : Nat) : Sched (HSched κ) κ Nat where
  apply s
    | .push t h => (.unit, s.push cfg W t h)
    | .trash h => (.unit, s.trash h)
    | .get => (.got (resHandler (s.get cfg).2), (s.get cfg).1)

/-- the model of `ListScheduler`; a `trash_event` of a handler without event raises (`.got none`) and leaves the list
unchanged -/
def listSched (cfg : Cfg κ) : Sched (LSched κ) κ Nat where
  apply s
    | .push t h => (.unit, s.push t h)
    | .trash h =>
      match s.trash h with
      | some s' => (.unit, s')
      | none => (.got none, s)
    | .get => (.got (resHandler (s.get cfg).2), (s.get cfg).1)

/-- the full outcomes (handler, time, kind of error) of the `get`s of an operation sequence -/
def results (cfg : Cfg κ) (W : Nat) : HSched κ → List (Op κ Nat) → List (GetRes κ)
  | _, [] => []
  | s, .push t h :: ops => results cfg W (s.push cfg W t h) ops
  | s, .trash h :: ops => results cfg W (s.trash h) ops
  | s, .get :: ops => (s.get cfg).2 :: results cfg W (s.get cfg).1 ops

theorem liveEq_step (o : StrictWeak cfg) (W : Nat) {a b : HSched κ} (E : LiveEq cfg a b) (op : Op κ Nat) :
    ((heapSched cfg W).apply a op).1 = ((heapSched cfg W).apply b op).1 ∧
    LiveEq cfg ((heapSched cfg W).apply a op).2 ((heapSched cfg W).apply b op).2 := by
  cases op with
  | push t h => exact ⟨rfl, push_liveEq o E W t h⟩
  | trash h => exact ⟨rfl, trash_liveEq E h⟩
  | get =>
    obtain ⟨E', e⟩ := get_liveEq o E
    exact ⟨by show Out.got _ = Out.got _; rw [e], E'⟩

/-- **same live part ⇒ observationally equal**, for all future operation sequences (no protocol assumption):
the allocated size and the memory beyond `length` never influence an answer -/
theorem liveEq_obsEq (o : StrictWeak cfg) (W : Nat) {a b : HSched κ} (E : LiveEq cfg a b) :
    ObsEq (heapSched cfg W) (heapSched cfg W) a b :=
  ObsEq.of_step (LiveEq cfg) (fun _ _ op E => liveEq_step o W E op) E

/-- the finer statement: the same handlers **at the same times**, and the same kind of error -/
theorem liveEq_results (o : StrictWeak cfg) (W : Nat) {a b : HSched κ} (E : LiveEq cfg a b) (ops : List (Op κ Nat)) :
    results cfg W a ops = results cfg W b ops := by
  induction ops generalizing a b with
  | nil => rfl
  | cons op ops ih =>
    cases op with
    | push t h => exact ih (push_liveEq o E W t h)
    | trash h => exact ih (trash_liveEq E h)
    | get =>
      obtain ⟨E', e⟩ := get_liveEq o E
      simp only [results]
      rw [e, ih E']

variable (o : StrictWeak cfg) {W : Nat} (hW : 0 < W) (ops : List (C06.Op κ))
  (hp : C06.Protocol (fun _ => none : Live κ) ops)
include o hW hp

/-- **pickle round trip = nothing happened**, as far as any future sequence of scheduler calls can tell: after every
protocol-respecting history from the initial state (pushes, trashes, gets, earlier pickle round trips), every key
order `StrictWeak`, every content of fresh memory and every counter range `W ≥ 1`. -/
theorem pickle_obsEq :
    ObsEq (heapSched cfg W) (heapSched cfg W) (C06.hRun cfg W (HSched.init cfg) ops)
      ((C06.hRun cfg W (HSched.init cfg) ops).pickle cfg) :=
  liveEq_obsEq o W (pickle_liveEq o (C06.history_rel o hW ops hp).1)

/-- … with times and error kinds -/
theorem pickle_results (fut : List (Op κ Nat)) :
    results cfg W (C06.hRun cfg W (HSched.init cfg) ops) fut =
      results cfg W ((C06.hRun cfg W (HSched.init cfg) ops).pickle cfg) fut :=
  liveEq_results o W (pickle_liveEq o (C06.history_rel o hW ops hp).1) fut

/-- **C19 for the heap scheduler**: any deterministic client (mediator, activator, handlers, random stream — state
`R`) continued on the unpickled scheduler sees the same answers for ever, in the same order, and is in the same state
after any number of steps, as the client that was never interrupted. -/
theorem resume_same_heap {R : Type} (c : Client R κ Nat) (n : Nat) (r : R) :
    runClient (heapSched cfg W) c n r (C06.hRun cfg W (HSched.init cfg) ops) =
      runClient (heapSched cfg W) c n r ((C06.hRun cfg W (HSched.init cfg) ops).pickle cfg) :=
  resume_same _ _ c n r _ _ (pickle_obsEq o hW ops hp)

omit o hW hp in
/-- the list scheduler is pickled attribute by attribute (`pickle = id` on the model): trivially the same -/
theorem resume_same_list {R : Type} (c : Client R κ Nat) (n : Nat) (r : R) (s : LSched κ) :
    runClient (listSched cfg) c n r s = runClient (listSched cfg) c n r (C06.lStep cfg s .pickle) :=
  resume_same _ _ c n r _ _ (ObsEq.refl _ _)

end Link

section Examples
open JF.C06 (exCfg)

/-- `Protocol` is decidable (for the concrete history below) -/
def decProtocol {κ : Type} : (live : Live κ) → (ops : List (C06.Op κ)) → Decidable (C06.Protocol live ops)
  | _, [] => isTrue trivial
  | live, .push t h :: ops =>
    have := decProtocol (live.set h (some t)) ops
    have : Decidable (live h = none) := decidable_of_iff ((live h).isNone = true) (by cases live h <;> simp)
    (inferInstance : Decidable (h ≠ 0 ∧ live h = none ∧ C06.Protocol (live.set h (some t)) ops))
  | live, .trash h :: ops => decProtocol (C06.specStep live (.trash h)) ops
  | live, .get :: ops => decProtocol (C06.specStep live .get) ops
  | live, .pickle :: ops => decProtocol (C06.specStep live .pickle) ops

/-- 70 pushes (the block grows from 64 to 128 entries), handlers 30 and 31 at exactly the same time `(1, 30)`;
then the 29 earlier events are trashed and a `get` removes them lazily from the root: 41 live entries are left in a
block of 128, with a tie at the top -/
def exGrown : List (C06.Op (Time Nat)) :=
  (List.range 70).map (fun i => .push ⟨1, if i + 1 = 31 then 30 else i + 1⟩ (i + 1)) ++
  (List.range 29).map (fun i => .trash (i + 1)) ++ [.get]

/-- what happens after the dump: the tie is served, both tied handlers are trashed one after the other, one is
pushed again -/
def exFuture : List (Op (Time Nat) Nat) :=
  [.get, .trash 30, .get, .trash 31, .get, .push ⟨2, 0⟩ 30, .get, .push ⟨1, 1⟩ 31, .get]

theorem exGrown_protocol : C06.Protocol (fun _ => none) exGrown :=
  @of_decide_eq_true _ (decProtocol _ _) (by decide +kernel)

def exState : HSched (Time Nat) := C06.hRun exCfg 4294967296 (HSched.init exCfg) exGrown

/-- a concrete deterministic client: it replays `exFuture` and remembers how many handlers it was given -/
def exClient : Client (Nat × Nat) (Time Nat) Nat where
  next r := exFuture.getD r.1 .get
  feed r out := (r.1 + 1, match out with | .got (some _) => r.2 + 1 | _ => r.2)

/-- Everything the examples below need to know of `exState`, evaluated in one go: running `exGrown` is by far the dearest
part of each of these facts, and within one evaluation the kernel runs it once. -/
theorem exState_eval :
    (exState.heap.mem.size = 128 ∧ (exState.pickle exCfg).heap.mem.size = 64 ∧
      exState.heap.length = 42 ∧ (exState.pickle exCfg).heap.length = 42 ∧
      (get exCfg exState.heap 42).h = 62 ∧ (get exCfg (exState.pickle exCfg).heap 42).h = 99) ∧
    outputs (heapSched exCfg 4294967296) exState exFuture =
      [.got (some 30), .unit, .got (some 31), .unit, .got (some 32), .unit, .got (some 32), .unit, .got none] ∧
    (runClient (heapSched exCfg 4294967296) exClient 9 (0, 0) exState).2 = (9, 4) := by
  decide +kernel

/-- the two states really differ where `LiveEq` allows it: the original block has 128 entries, the rebuilt one 64;
both have length 42; the first slot beyond the live part holds a stale entry (handler 62) in the original and fresh
memory (the bogus handler 99 of `exCfg.garbage`) in the rebuilt heap -/
example : exState.heap.mem.size = 128 ∧ (exState.pickle exCfg).heap.mem.size = 64 ∧
    exState.heap.length = 42 ∧ (exState.pickle exCfg).heap.length = 42 ∧
    (get exCfg exState.heap 42).h = 62 ∧ (get exCfg (exState.pickle exCfg).heap 42).h = 99 := exState_eval.1

theorem exOrd : StrictWeak exCfg := C06.timeCfg_strictWeak 0 1000 _ (fun a => Nat.zero_le a)

/-- … and the answers to `exFuture` are the same on either state (evaluated on the original; on the rebuilt one by
`pickle_obsEq`): of the two handlers at exactly the same time `(1, 30)`, 30 is served before 31 in both; the last `get`
trips the monotonicity assertion in both -/
example : outputs (heapSched exCfg 4294967296) exState exFuture =
      [.got (some 30), .unit, .got (some 31), .unit, .got (some 32), .unit, .got (some 32), .unit, .got none] ∧
    outputs (heapSched exCfg 4294967296) (exState.pickle exCfg) exFuture =
      [.got (some 30), .unit, .got (some 31), .unit, .got (some 32), .unit, .got (some 32), .unit, .got none] :=
  ⟨exState_eval.2.1, (pickle_obsEq exOrd (by decide) exGrown exGrown_protocol exFuture).symm.trans exState_eval.2.1⟩

example : ObsEq (heapSched exCfg 4294967296) (heapSched exCfg 4294967296) exState (exState.pickle exCfg) :=
  pickle_obsEq exOrd (by decide) exGrown exGrown_protocol

example (n : Nat) : runClient (heapSched exCfg 4294967296) exClient n (0, 0) exState =
    runClient (heapSched exCfg 4294967296) exClient n (0, 0) (exState.pickle exCfg) :=
  resume_same_heap exOrd (by decide) exGrown exGrown_protocol exClient n (0, 0)

/-- … and it is not a trivial client: after 9 steps it has been given a handler 4 times (on the rebuilt state as on the
original, by `resume_same_heap`) -/
example : (runClient (heapSched exCfg 4294967296) exClient 9 (0, 0) (exState.pickle exCfg)).2 = (9, 4) :=
  (congrArg Prod.snd (resume_same_heap exOrd (by decide) exGrown exGrown_protocol exClient 9 (0, 0))).symm.trans
    exState_eval.2.2

end Examples
end JF.C19
