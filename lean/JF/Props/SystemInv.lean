import JF.Lemmas.SystemRunMain
import JF.Lemmas.RunChk
import JF.Lemmas.SystemRunOcc
import JF.Props.C17
import JF.Gen.WiringsSound
import Mathlib.Tactic.IntervalCases
/-!
# One joint invariant for the composed system of the concrete coulomb_atoms world

System (`JF/Model/SystemRun.lean`, `JF/Lemmas/SystemRunStep.lean`, namespace `JF.Sys`): a run `Reach os cs s` is any number of legs
`SysStep`, each one pass of `SingleProcessMediator.run` = `JF.Med.leg` on the concrete state of `JF.CW` (point masses + one
`SingleActiveCellOccupancy`); the clauses of a leg are described at the head of `JF/Lemmas/SystemRunStep.lean`.

Hypotheses: `JF.Sys.Hyp` (exact reading, `WiringSound c`, `Supported c`, `cbWired c S`); a geometry `geo : Geo env`
(`JF/Lemmas/SystemRunGeo.lean`; instance `axisGeoPos`: cuboid box, ≥ 2 cells per direction, motion along one axis in the positive
direction); and the no-tie hypothesis `TieFree cs`: no sampling / dumping event is committed at exactly the time of a pending
cell-boundary candidate.  At such a tie C09's freshness really fails for a moment in the exact reading
(`JF.Footprints.Example.quiet_commit_needs_premise`): the hypothesis cannot be dropped.  Ties with other events (interaction, end of
chain, …) are harmless for everything but C11's full `OccInv`, for which `TieFreeAll` is assumed.

Main theorem `joint_inv`: by one induction over the legs, `Big` (`JF/Lemmas/SystemRunStep.lean`) holds after every leg.  Its core:
the state in the middle of the leg is a state of `JF.Act.Run` for the transition relation `JF.CW.Tr`, whose premise
`StaysInRecordedCell` is derived along the run — hence C09's `Fresh` for every live tagger (`JF.Act.run_inv`), `FootprintsSound`
coming from `Supported` (`JF.Footprints.footprintsSound_concrete`) — and of C08's `Reach8` for the concrete motion relation
`motionOf`, both hypotheses of `StepOK8` derived.

Left out: the NEGATIVE direction of motion.  In the exact reading every rational is a coordinate, and between the recorded `cell_max`
of the lower neighbour and the lower edge of the cell there IS a sliver in which the unit has left its cell before the event fires
(`JF.C11.boundary_neg_partial`; `JF.C11.stays_in_cell_neg` needs the representability predicate `F` of the time-sliced coordinates),
so `Geo.stays` is false there and no negative-direction instance of `Geo` exists in this reading.  The positive direction is the only
one the shipped coulomb_atoms configurations use (start-of-run and end-of-chain handlers give velocities `+speed · e_d`).
Also not derived: `Smooth` for the cell-boundary event (the written coordinate is congruent to the time-sliced one — side
condition of `Commits` as in C07), the sampling candidates being the ticks of C17's clock (`CandsOK` only asks them to be
normalised and not before the last commit), liveness (that a pending sampling event IS eventually committed).
-/
namespace JF.SystemInv
open JF JF.Act JF.Heap JF.Sched JF.Med JF.CW JF.C14 JF.MediatorLoop JF.Kin JF.Sys

section
variable {env : Env ℚ} {geo : Geo env} {c : Wiring} {S : TaggerIdx} {needs : HandlerId → Bool}

def JInv (env : Env ℚ) (geo : Geo env) (c : Wiring) (S : TaggerIdx) (needs : HandlerId → Bool)
    (cs : List (Committed XTime)) (s : Sys) : Prop :=
  (cs = [] ∧ Init env c s) ∨
  ∃ cs0 cl E tl a pos v ts, cs = cs0 ++ [cl] ∧ Big env geo c S needs cs cl s E tl a pos v ts

theorem tieFree_snoc {cs : List (Committed XTime)} {cm : Committed XTime} (h : TieFree c (cs ++ [cm])) :
    TieFree c cs ∧ TieFreeLeg c (pendOf (fun _ => none) cs) cm :=
  SysLeg.everyLeg_snoc (P := fun pre cm => TieFreeLeg c (pendOf (fun _ => none) pre) cm) h

theorem tieFree_take {cs : List (Committed XTime)} (h : TieFree c cs) (k : Nat) : TieFree c (cs.take k) :=
  SysLeg.everyLeg_take (P := fun pre cm => TieFreeLeg c (pendOf (fun _ => none) pre) cm) h k

theorem tieFree_last {cs : List (Committed XTime)} (nt : TieFree c cs) {cl : Committed XTime} (hl : cs.getLast? = some cl) :
    TieFreeLeg c (pendOf (fun _ => none) cs.dropLast) cl :=
  SysLeg.everyLeg_last (P := fun pre cm => TieFreeLeg c (pendOf (fun _ => none) pre) cm) nt hl

/-- the joint invariant holds after every leg of every run -/
theorem joint_inv (H : Hyp env c S) {os : List (Oracle XTime)} {cs : List (Committed XTime)} {s : Sys}
    (hr : Reach env geo c S needs os cs s) (nt : TieFree c cs) : JInv env geo c S needs cs s := by
  induction hr with
  | init s h => exact Or.inl ⟨rfl, h⟩
  | @step os cs s s' o cm prev hgo hstep ih =>
    obtain ⟨nt0, _⟩ := tieFree_snoc nt
    right
    rcases ih nt0 with ⟨rfl, hi⟩ | ⟨cs0, cl, E, tl, a, pos, v, ts, rfl, big⟩
    · obtain ⟨E', tl', a', pos', v', ts', hb⟩ := first_step H hi hstep
      exact ⟨[], cm, E', tl', a', pos', v', ts', rfl, hb⟩
    · have hgo' : cl.stop = false := hgo cl (by simp)
      have ntl : TieFreeLeg c (pendOf (fun _ => none) (cs0 ++ [cl]).dropLast) cl := by
        rw [List.dropLast_concat]; exact (tieFree_snoc nt0).2
      obtain ⟨E', tl', a', pos', v', ts', hb⟩ := big_step H big hgo' ntl hstep
      exact ⟨cs0 ++ [cl], cm, E', tl', a', pos', v', ts', rfl, hb⟩

/-- the mediator component of a run is a run of `JF.Med.leg` from the initial state: the theorems of
`JF/Props/MediatorLoop.lean` apply to it -/
theorem reach_medRun {os : List (Oracle XTime)} {cs : List (Committed XTime)} {s : Sys}
    (hr : Reach env geo c S needs os cs s) :
    MediatorLoop.Run (mwire c S needs) (specI xcfg) (MedState.init (specI xcfg) (mwire c S needs).w) os cs s.med := by
  induction hr with
  | init s h => rw [h.med]; exact .nil _
  | step _ _ hstep ih => exact run_snoc ih hstep.leg

theorem reach_leg {os : List (Oracle XTime)} {cs : List (Committed XTime)} {s : Sys}
    (hr : Reach env geo c S needs os cs s) {k : Nat} {cm : Committed XTime} (hk : cs[k]? = some cm) :
    ∃ s0 s1 o, os[k]? = some o ∧ Reach env geo c S needs (os.take k) (cs.take k) s0 ∧
      (∀ cl, (cs.take k).getLast? = some cl → cl.stop = false) ∧ SysStep env geo c S needs s0 o cm s1 := by
  induction hr with
  | init s h => simp at hk
  | @step os cs s s' o cm' prev hgo hstep ih =>
    have hlen : os.length = cs.length := by
      clear ih hk hgo hstep
      induction prev with
      | init => rfl
      | step _ _ _ ih => simp [ih]
    by_cases hlt : k < cs.length
    · rw [List.getElem?_append_left hlt] at hk
      rw [List.getElem?_append_left (hlen ▸ hlt), List.take_append_of_le_length (Nat.le_of_lt hlt),
        List.take_append_of_le_length (hlen ▸ Nat.le_of_lt hlt)]
      exact ih hk
    · obtain rfl : k = cs.length := by
        have := (List.getElem?_eq_some_iff.mp hk).1
        simp at this; omega
      simp only [List.getElem?_concat_length, Option.some.injEq] at hk
      subst hk
      rw [← hlen, List.getElem?_concat_length, List.take_left' rfl, hlen, List.take_left' rfl]
      exact ⟨s, s', o, rfl, prev, hgo, hstep⟩

theorem jinv_big {cs : List (Committed XTime)} {s : Sys} (h : JInv env geo c S needs cs s) {cl : Committed XTime}
    (hl : cs.getLast? = some cl) : ∃ E tl a pos v ts, Big env geo c S needs cs cl s E tl a pos v ts := by
  rcases h with ⟨rfl, _⟩ | ⟨cs0, cl', E, tl, a, pos, v, ts, rfl, big⟩
  · simp at hl
  · have : cl' = cl := by simpa using hl
    subst this
    exact ⟨E, tl, a, pos, v, ts, big⟩

theorem legs_snoc {κ : Type} {P : Pend κ → κ → Committed κ → Prop} (cs : List (Committed κ)) (p : Pend κ) (l : κ)
    (c : Committed κ) : MediatorLoop.Legs P p l (cs ++ [c]) ↔ MediatorLoop.Legs P p l cs ∧ P (pendOf p cs) (lastOf l cs) c :=
  (Legs.append cs [c] p l).trans (and_congr Iff.rfl ⟨fun h => h.1, fun h => ⟨h, trivial⟩⟩)

theorem legs_get {κ : Type} {P : Pend κ → κ → Committed κ → Prop} (cs : List (Committed κ)) (p : Pend κ) (l : κ)
    (legs : MediatorLoop.Legs P p l cs) (k : Nat) (c : Committed κ) (hk : cs[k]? = some c) :
    P (pendOf p (cs.take k)) (lastOf l (cs.take k)) c :=
  (legs.at hk).1

theorem pending_not_skipped {M : MWire} (hst : Med.Static M) {os : List (Oracle XTime)} {cs : List (Committed XTime)}
    {st : MedState (SSched XTime)} (hr : MediatorLoop.Run M (specI xcfg) (MedState.init (specI xcfg) M.w) os cs st)
    {k : Nat} {cm : Committed XTime} (hk : cs[k]? = some cm) {hs : HandlerId} {ts : XTime}
    (hp : pendPushed (pendOf (fun _ => none) (cs.take k)) cm hs = some ts) (hfin : xcfg.finite ts = true) :
    xcfg.lt ts cm.time = false ∧ (cm.handler = hs → cm.time = ts) := by
  have ok := legs_get _ _ _
    (MediatorLoop.run_inv (specLaws xcfg_strictWeak) hst hr (minv_init (specLaws xcfg_strictWeak) M)).2 k cm hk
  refine ⟨ok.minimal hs ts hp hfin, fun he => ?_⟩
  have := ok.pending
  rw [he, hp] at this
  exact (Option.some.inj this).symm

theorem pending_iff_running {M : MWire} (hst : Med.Static M) {os : List (Oracle XTime)} {cs : List (Committed XTime)}
    {st st' : MedState (SSched XTime)} (hr : MediatorLoop.Run M (specI xcfg) (MedState.init (specI xcfg) M.w) os cs st)
    {o : Oracle XTime} {cm : Committed XTime} (e : leg M (specI xcfg) st o = .ok (st', cm)) (x : HandlerId) :
    (pendPushed (pendOf (fun _ => none) cs) cm x).isSome ↔ ∃ T, x ∈ (getT (midAct M st o) T).running :=
  let ⟨_, f⟩ := Med.leg_facts (specLaws xcfg_strictWeak) hst
    (MediatorLoop.run_inv (specLaws xcfg_strictWeak) hst hr (minv_init (specLaws xcfg_strictWeak) M)).1 e
  f.mirr x

/-- the mediator's invariant for the composed system: after every leg of every run the spec-level scheduler holds exactly the finite
pending events, one per handler, and a handler has a pending event iff it is a running handler of some tagger -/
theorem sched_mirrors_running_closed (H : Hyp env c S) {os : List (Oracle XTime)} {cs : List (Committed XTime)} {s : Sys}
    (hr : Reach env geo c S needs os cs s) :
    (∀ h t, (t, h) ∈ s.med.sched.live ↔ pendOf (fun _ => none) cs h = some t ∧ xcfg.finite t = true) ∧
    s.med.sched.live.Pairwise (fun a b => a.2 ≠ b.2) ∧
    (∀ h, (pendOf (fun _ => none : Pend XTime) cs h).isSome ↔ ∃ T, h ∈ (getT s.med.act.ts T).running) ∧
    (∀ h, (∀ T, h ∉ (getT s.med.act.ts T).running) → ∀ t, (t, h) ∉ s.med.sched.live) :=
  spec_sched_mirrors_running xcfg_strictWeak (hyp_static H) (reach_medRun hr)

/-- C09 for the composed system: after every leg but the first, the state in the middle of that leg — the activator's lists `s.mid`, the identifiers
handed out `s.ids`, the concrete global state `⟨s.usPrev, s.occ⟩` the leg's candidates were computed on — is consistent, and every
live tagger is `Fresh` there (its pending events are what it generates from scratch for that state) -/
theorem c09_fresh_closed (H : Hyp env c S) {os : List (Oracle XTime)} {cs : List (Committed XTime)} {s : Sys}
    (hr : Reach env geo c S needs os cs s) (nt : TieFree c cs) (h2 : 2 ≤ cs.length) :
    ∃ hc : Consistent env (hasOccOf c) ⟨s.usPrev, s.occ⟩,
      (∀ T, (world env c).live T → Fresh (world env c) ⟨s.mid, s.ids, ⟨⟨s.usPrev, s.occ⟩, hc⟩⟩ T) ∧
      Act.Run c (world env c) (Tr env c) S ⟨s.mid, s.ids, ⟨⟨s.usPrev, s.occ⟩, hc⟩⟩ := by
  rcases joint_inv H hr nt with ⟨rfl, _⟩ | ⟨cs0, cl, E, tl, a, pos, v, ts, rfl, big⟩
  · simp at h2
  · obtain ⟨hc, hph⟩ := big.phase
    rcases hph with ⟨h1, _⟩ | hrun
    · omega
    · exact ⟨hc, (runInv H hrun).fresh, hrun⟩

/-- … and the pending events in the middle of every leg but the first are exactly those of the running handlers of that moment
(`s1`: the state after that leg) -/
theorem c09_fresh_every_leg (H : Hyp env c S) {os : List (Oracle XTime)} {cs : List (Committed XTime)} {s : Sys}
    (hr : Reach env geo c S needs os cs s) (nt : TieFree c cs) {k : Nat} {cm : Committed XTime}
    (hk : cs[k + 1]? = some cm) :
    ∃ (s1 : Sys) (hc : Consistent env (hasOccOf c) ⟨s1.usPrev, s1.occ⟩),
      (∀ T, (world env c).live T → Fresh (world env c) ⟨s1.mid, s1.ids, ⟨⟨s1.usPrev, s1.occ⟩, hc⟩⟩ T) ∧
      (∀ x, (pendPushed (pendOf (fun _ => none) (cs.take (k + 1))) cm x).isSome ↔ ∃ T, x ∈ (getT s1.mid T).running) := by
  obtain ⟨s0, s1, o, _, hr0, hgo, hst⟩ := reach_leg hr hk
  have hr1 := Reach.step hr0 hgo hst
  have htake : cs.take (k + 1) ++ [cm] = cs.take (k + 2) := by
    rw [List.take_add_one (i := k + 1), hk]; rfl
  have nt1 : TieFree c (cs.take (k + 1) ++ [cm]) := by rw [htake]; exact tieFree_take nt _
  have hklt : k + 1 < cs.length := (List.getElem?_eq_some_iff.mp hk).1
  have hlen : 2 ≤ (cs.take (k + 1) ++ [cm]).length := by
    rw [List.length_append, List.length_take, Nat.min_eq_left (Nat.le_of_lt hklt)]; simp
  obtain ⟨hc, hfr, _⟩ := c09_fresh_closed H hr1 nt1 hlen
  refine ⟨s1, hc, hfr, ?_⟩
  rw [hst.mid']
  exact pending_iff_running (hyp_static H) (reach_medRun hr0) hst.leg

/-- C11's mirror for the active unit, and the premise `StaysInRecordedCell` of `Tr` (the two readings of `OldActiveStays`), after
every leg of every run of a wiring with an occupancy; the second for a commit that is not the cell-boundary event, at a time that is
not the time of a pending cell-boundary candidate (`NoTieAll`).
The run supplies what `JF.Links.active_unit_stays_in_recorded_cell` takes as hypotheses: `hb` (a pending cell-boundary candidate
`ts + timeToBoundary`) from C09, `hleg` (minimality) from the scheduler (`big_step`, field `stays`). -/
theorem c11_active_in_recorded_cell_closed (H : Hyp env c S) {os : List (Oracle XTime)} {cs : List (Committed XTime)}
    {s : Sys} (hr : Reach env geo c S needs os cs s) (nt : TieFree c cs) (hO : hasOccOf c = true) {cl : Committed XTime}
    (hl : cs.getLast? = some cl) :
    OldActiveStays env s.occ s.usPrev s.usPrev ∧
    (kindOfH c cl.handler ≠ .cellBoundary → NoTieAll c (pendOf (fun _ => none) cs.dropLast) cl →
      OldActiveStays env s.occ s.usPrev s.us) := by
  obtain ⟨E, tl, a, pos, v, ts, big⟩ := jinv_big (joint_inv H hr nt) hl
  refine ⟨big.mirror hO, fun hk hnt => big.stays hO ?_ hnt⟩
  rw [← kindOfH_of_owner big.owner]; exact hk

/-- the premise `StaysInRecordedCell` of `Tr` for every run: after a sampling / dumping commit the active
unit, time-sliced to the event time, is still in the cell the occupancy has recorded for it -/
theorem staysInRecordedCell_closed (H : Hyp env c S) {os : List (Oracle XTime)} {cs : List (Committed XTime)}
    {s : Sys} (hr : Reach env geo c S needs os cs s) (nt : TieFree c cs) (hO : hasOccOf c = true) {cl : Committed XTime}
    (hl : cs.getLast? = some cl) (hq : kindOfH c cl.handler = .sampling ∨ kindOfH c cl.handler = .dumping) :
    StaysInRecordedCell env s.occ s.us := by
  obtain ⟨E, tl, a, pos, v, ts, big⟩ := jinv_big (joint_inv H hr nt) hl
  exact big.staysRecorded hO (by rw [← kindOfH_of_owner big.owner]; exact hq) (tieFree_last nt hl)

/-- the stronger no-tie hypothesis of `c11_occinv_closed`: NO event other than the cell-boundary event itself is committed at
exactly the time of a pending cell-boundary candidate (as `hne` of `JF.Links.active_unit_stays_in_recorded_cell`).  At such a tie a
lifting would re-insert the previous active unit, which then stands ON the cell boundary, under its old cell. -/
def TieFreeAll (c : Wiring) (cs : List (Committed XTime)) : Prop :=
  ∀ k cm, cs[k]? = some cm → kindOfH c cm.handler ≠ .cellBoundary → NoTieAll c (pendOf (fun _ => none) (cs.take k)) cm

theorem tieFree_of_all {cs : List (Committed XTime)} (h : TieFreeAll c cs) : TieFree c cs := by
  intro k cm hk hq
  apply h k cm hk
  rcases hq with hq | hq <;> rw [hq] <;> decide

theorem tieFreeAll_snoc {cs : List (Committed XTime)} {cm : Committed XTime} (h : TieFreeAll c (cs ++ [cm])) :
    TieFreeAll c cs :=
  (SysLeg.everyLeg_snoc
    (P := fun pre (cm : Committed XTime) => kindOfH c cm.handler ≠ .cellBoundary → NoTieAll c (pendOf (fun _ => none) pre) cm) h).1

theorem tieFreeAll_last {cs : List (Committed XTime)} (nt : TieFreeAll c cs) {cl : Committed XTime}
    (hl : cs.getLast? = some cl) (hk : kindOfH c cl.handler ≠ .cellBoundary) :
    NoTieAll c (pendOf (fun _ => none) cs.dropLast) cl :=
  SysLeg.everyLeg_last
    (P := fun pre (cm : Committed XTime) => kindOfH c cm.handler ≠ .cellBoundary → NoTieAll c (pendOf (fun _ => none) pre) cm) nt hl hk

/-- **C11's invariant passes to the state the next leg works on**: the occupancy after the `update` that the next call of
`get_event_handlers_to_run` performs, with the positions after the last commit — whether or not that leg is ever made (the pool
theorems of `JF/Props/C09PoolsClosed.lean` need it before the leg is known to succeed) -/
theorem occInv_next (H : Hyp env c S) {os : List (Oracle XTime)} {cs : List (Committed XTime)} {s : Sys}
    (hr : Reach env geo c S needs os cs s) (nta : TieFreeAll c cs) (hO : hasOccOf c = true)
    (ih0 : C11.OccInv (relW env s.usPrev) (cellW env s.usPrev) s.occ) {occ' : Occ.State}
    (hocc : occNext env (hasOccOf c) s = some occ') : C11.OccInv (relW env s.us) (cellW env s.us) occ' := by
  unfold occNext at hocc
  rcases joint_inv H hr (tieFree_of_all nta) with ⟨rfl, hi⟩ | ⟨cs0, cl, E, tl, a, pos, v, ts, rfl, big⟩
  · have hst : s.med.act.started = false := by rw [hi.med]; rfl
    rw [hst] at hocc
    simp only [Bool.false_eq_true, if_false, Option.some.injEq] at hocc
    rw [← hocc, ← hi.prev]
    exact ih0
  · rw [big.started, hO] at hocc
    simp only [if_true] at hocc
    obtain ⟨hc, _⟩ := big.phase
    have hkE : kindOfH c cl.handler = (c.tagger E).kind := kindOfH_of_owner big.owner
    refine occ_step H.ho ih0 (by rw [hO] at hc; exact hc) big.kinPrev big.kin big.commit (big.mirror hO)
      (fun hncb => big.stays hO hncb ?_) hocc
    exact tieFreeAll_last nta (by simp) (by rw [hkE]; exact hncb)

/-- C11's full invariant along every run of a wiring with an occupancy, for the state the leg works on (`s.usPrev`, the
occupancy `s.occ` just updated): `JF.C11.OccInv` — every relevant non-active point mass is recorded exactly once, in the cell that
contains its position, the active unit in no list, no cell exceeds the occupant limit.  The premise of
`JF.C11.update_inv` / `reach_inv` ("between two updates only a continuing active unit changes its cell") is derived:
units at rest do not move (C07), and the unit that stops being active has not left its recorded cell (the joint invariant, under
the no-tie hypothesis `TieFreeAll`). -/
theorem c11_occinv_closed (H : Hyp env c S) {os : List (Oracle XTime)} {cs : List (Committed XTime)} {s : Sys}
    (hr : Reach env geo c S needs os cs s) (nta : TieFreeAll c cs) (hO : hasOccOf c = true) :
    C11.OccInv (relW env s.usPrev) (cellW env s.usPrev) s.occ := by
  induction hr with
  | init s h =>
    obtain ⟨cap, hocc⟩ := h.occInit
    rw [h.prev, hocc]
    exact init_occInv env s.us cap
  | @step os cs s s' o cm prev hgo hstep ih =>
    rw [hstep.prev]
    exact occInv_next H prev (tieFreeAll_snoc nta) hO (ih (tieFreeAll_snoc nta)) hstep.occ1

/-- `JF.MediatorLoop.CandOK` holds along every run: every pushed candidate time is not before the previous commit.  For the
cell-boundary handler this is derived (`candOK_created`) under `dumpQuiet` (decidable, true for the shipped wirings); for the
other handlers it is the constraint `CandsOK` on the oracle. -/
theorem candOK_closed (H : Hyp env c S) (hdq : dumpQuiet c = true) {os : List (Oracle XTime)}
    {cs : List (Committed XTime)} {s : Sys} (hr : Reach env geo c S needs os cs s) (nt : TieFree c cs) :
    MediatorLoop.Legs (CandOK xcfg) (fun _ => none) xcfg.bot cs := by
  induction hr with
  | init => trivial
  | @step os cs s s' o cm prev hgo hstep ih =>
    obtain ⟨nt0, _⟩ := tieFree_snoc nt
    rw [legs_snoc]
    refine ⟨ih nt0, ?_⟩
    show ∀ q ∈ cm.pushed, xcfg.lt q.2 (lastOf xcfg.bot cs) = false
    rcases joint_inv H prev nt0 with ⟨rfl, _⟩ | ⟨cs0, cl, E, tl, a, pos, v, ts, rfl, big⟩
    · intro q _; exact xcfg_strictWeak.bot_min q.2
    · rw [lastOf_snoc, leg_pushed hstep.leg]
      obtain ⟨_, S⟩ := Med.leg_steps.mp hstep.leg
      intro q hq
      obtain ⟨p, hp, rfl⟩ := List.mem_map.mp hq
      exact candOK_created H hdq big S.act hstep.cands p hp

/-- commit times never decrease (C07's time order for the composed system), from `candOK_closed` and the mediator's invariant — not
from the scheduler's own monotonicity assertion -/
theorem commit_times_sorted_closed (H : Hyp env c S) (hdq : dumpQuiet c = true) {os : List (Oracle XTime)}
    {cs : List (Committed XTime)} {s : Sys} (hr : Reach env geo c S needs os cs s) (nt : TieFree c cs) :
    cs.Pairwise (fun a b => xcfg.lt b.time a.time = false) :=
  commit_times_sorted_pairwise xcfg_strictWeak (specLaws xcfg_strictWeak) (hyp_static H) (reach_medRun hr)
    (candOK_closed H hdq hr nt)

/-- … and the assertion `_event_time_increasing` of the scheduler never fires in the next leg, whatever the oracle, as long as
the candidates of the handlers that leg hands out obey `CandsOK` -/
theorem guard_never_fires_closed (H : Hyp env c S) (hdq : dumpQuiet c = true) {os : List (Oracle XTime)}
    {cs : List (Committed XTime)} {s : Sys} (hr : Reach env geo c S needs os cs s) (nt : TieFree c cs) (o : Oracle XTime)
    (hc : ∀ a1 created, getToRun (mwire c S needs).w (mwire c S needs).S s.med.act s.med.preceding o.yields =
        (a1, .ok created) → CandsOK env geo c s.us s.med.sched.last o created) (h : HandlerId) :
    leg (mwire c S needs) (specI xcfg) s.med o ≠ .error (.schedGuard h) := by
  refine guard_never_fires (specLaws xcfg_strictWeak) (hyp_static H) (reach_medRun hr) o ?_ h
  intro x hx
  rcases joint_inv H hr nt with ⟨rfl, _⟩ | ⟨cs0, cl, E, tl, a, pos, v, ts, rfl, big⟩
  · exact xcfg_strictWeak.bot_min _
  · rw [lastOf_snoc]
    obtain ⟨a1, created, hg, q, hq, rfl⟩ := mem_createdOf hx
    exact candOK_created H hdq big hg (hc _ _ hg) q hq

/-- the C17 link.  In every leg `k` of every run: while a sampling candidate with time `t_s` is pending
(in the middle of the leg), the event committed by the leg is not later than `t_s` (minimality, C06), and when the sampling
handler itself commits, it commits at exactly `t_s` — the candidate time it returned when it was handed out
(`JF.MediatorLoop.pend_origin`).  With `commit_times_sorted_closed`: no event after `t_s` is committed before the sample. -/
theorem no_sample_skipped (H : Hyp env c S) {os : List (Oracle XTime)} {cs : List (Committed XTime)} {s : Sys}
    (hr : Reach env geo c S needs os cs s) {k : Nat} {cm : Committed XTime} (hk : cs[k]? = some cm)
    {hs : HandlerId} {ts : XTime} (_ : kindOfH c hs = .sampling)
    (hp : pendPushed (pendOf (fun _ => none) (cs.take k)) cm hs = some ts) (hfin : xcfg.finite ts = true) :
    xcfg.lt ts cm.time = false ∧ (cm.handler = hs → cm.time = ts) :=
  pending_not_skipped (hyp_static H) (reach_medRun hr) hk hp hfin

/-- the same in the rational order of the exact reading -/
theorem no_sample_skipped_val (H : Hyp env c S) {os : List (Oracle XTime)} {cs : List (Committed XTime)} {s : Sys}
    (hr : Reach env geo c S needs os cs s) {k : Nat} {cm : Committed XTime} (hk : cs[k]? = some cm)
    {hs : HandlerId} {ts t : Time ℚ} (hkind : kindOfH c hs = .sampling)
    (hp : pendPushed (pendOf (fun _ => none) (cs.take k)) cm hs = some (.fin ts)) (hts : Normalised ts)
    (ht : cm.time = .fin t) (htn : Normalised t) : val t ≤ val ts := by
  have := (no_sample_skipped H hr hk hkind hp rfl).1
  rw [ht] at this
  exact (xlt_false_iff hts htn).mp this

/-- C08's first sentence for every run: the in-state of a committed interaction / cell-veto event is current.
`born h` = the concrete state in the middle of the leg in which `h` was handed out last, i.e. the state its candidate was computed
from (determined by `JF.C08.commit8` along the run `Reach8`).  If the tagger of the handler `cl.handler` the leg committed is an
interaction or cell-veto tagger, every unit of its in-state moves in the state the leg committed on (`s.usPrev`) as it did in
`born cl.handler` — same velocity, same position if at rest, on the same straight line (modulo the box) if moving (`SameMotion`);
`Current` says this of every pending handler of every such tagger. -/
theorem c08_closed (H : Hyp env c S) {os : List (Oracle XTime)} {cs : List (Committed XTime)} {s : Sys}
    (hr : Reach env geo c S needs os cs s) (nt : TieFree c cs) {cl : Committed XTime} (hl : cs.getLast? = some cl) :
    ∃ (hc : Consistent env (hasOccOf c) ⟨s.usPrev, s.occ⟩) (born : HandlerId → G env c),
      C08.Reach8 c.wires (world env c) (motionOf env c) S ⟨⟨s.mid, s.ids, ⟨⟨s.usPrev, s.occ⟩, hc⟩⟩, born⟩ ∧
      C08.Current (motionOf env c) ⟨⟨s.mid, s.ids, ⟨⟨s.usPrev, s.occ⟩, hc⟩⟩, born⟩ ∧
      ∀ E, owner c.wires cl.handler = some E → motionBound (c.tagger E) = true →
        ∀ u ∈ (motionOf env c).units (s.ids cl.handler), SameMotion env.L (born cl.handler).1.us s.usPrev u := by
  obtain ⟨E0, tl, a, pos, v, ts, big⟩ := jinv_big (joint_inv H hr nt) hl
  obtain ⟨hc, born, hr8⟩ := big.cur
  have hcur := (C08.current_of_reach (hyp_static (needs := needs) H).wf hr8).1
  refine ⟨hc, born, hr8, hcur, fun E hE hb u hu => ?_⟩
  obtain rfl : E0 = E := Option.some.inj (big.owner.symm.trans hE)
  exact hcur E0 ⟨by rw [← c.wires_length]; exact owner_lt big.owner, hb⟩ cl.handler big.running u hu

/-- C08's second sentence for every run.  If leg `k` commits an event that may
change the motion of a unit (`affects · .motion`: anything but sampling, dumping, end of run, cell boundary) while the event of a
handler `h` of an interaction / cell-veto tagger is pending — i.e. `h`'s candidate was computed before that commit —, then `h`'s
event is in the trash list of leg `k`, and if `h` commits in a later leg `j`, it was handed out again (its candidate recomputed from
the then current state) in some leg `i` with `k < i ≤ j`.  Clause (h) comes from `WiringSound` through the run of `JF.Act.Run`
the joint invariant carries. -/
theorem c08_stale_trashed_closed (H : Hyp env c S) {os : List (Oracle XTime)} {cs : List (Committed XTime)} {s : Sys}
    (hr : Reach env geo c S needs os cs s) (nt : TieFree c cs) {k j : Nat} {ck cj : Committed XTime}
    (hk : cs[k]? = some ck) {E : TaggerIdx} (hE : owner c.wires ck.handler = some E)
    (hm : affects (c.tagger E) .motion = true) {h : HandlerId} {T : TaggerIdx} (hT : owner c.wires h = some T)
    (hb : motionBound (c.tagger T) = true)
    (hp : (pendPushed (pendOf (fun _ => none) (cs.take k)) ck h).isSome) :
    h ∈ ck.trashed ∧
    (k < j → cs[j]? = some cj → cj.handler = h →
      ∃ (i : Nat) (ci : Committed XTime), k < i ∧ i ≤ j ∧ cs[i]? = some ci ∧ h ∈ ci.created.map Prod.fst) := by
  have htr : h ∈ ck.trashed := by
    obtain ⟨s0, s1, o, _, hr0, hgo, hst⟩ := reach_leg hr hk
    have nt0 := tieFree_take nt k
    rcases joint_inv H hr0 nt0 with ⟨he, hi⟩ | ⟨cs0, cl, E0, tl, a, pos, v, ts, he, big⟩
    · -- the first leg: only the start-of-run handler is pending
      rw [he] at hp
      obtain ⟨_, f⟩ := SysLeg.leg_facts (hyp_static H) (SysLeg.minv_of_init hi.med) hst.leg hst.mid'
      exact absurd ((f.first H.hS hi.med).2.2 h hp) (SysLeg.not_bound_of_start hT hb)
    · have hl : (cs.take k).getLast? = some cl := by rw [he]; simp
      obtain ⟨E0, f⟩ := SysLeg.leg_facts (hyp_static H) big.med hst.leg hst.mid'
      obtain rfl : E0 = E := Option.some.inj (f.owner.symm.trans hE)
      obtain ⟨_, _, hrun', _⟩ := mid_step H big (hgo cl hl) (tieFree_last nt0 hl) hst (f.update big.started big.prec big.owner)
      exact f.trashed_of hT hp (run_clause_h c (world env c) (Tr env c) S H.sound H.hS (hyp_fps H) (liveIs env c) hrun'
        (List.ne_nil_of_mem f.running)
        (by intro hk; simp [affects, hk] at hm) hm (by rw [← c.wires_length]; exact owner_lt hT) hb)
  refine ⟨htr, fun hkj hj hc => ?_⟩
  exact trashed_never_committed_run (specLaws xcfg_strictWeak) (hyp_static H) (reach_medRun hr) hk htr hkj hj hc

end

/-! ## the four shipped coulomb_atoms wirings satisfy the hypotheses (by `decide`) -/

open JF.Act.Gen JF.Footprints

theorem hyp_cell_bounded (env : Env ℚ) (ho : env.o = Ops.rat) : Hyp env cfg_coulomb_atoms_cell_bounded 7 :=
  ⟨ho, cfg_sound_coulomb_atoms_cell_bounded, by decide, supported_cell_bounded, by decide +kernel⟩
theorem hyp_cell_veto (env : Env ℚ) (ho : env.o = Ops.rat) : Hyp env cfg_coulomb_atoms_cell_veto 7 :=
  ⟨ho, cfg_sound_coulomb_atoms_cell_veto, by decide, supported_cell_veto, by decide +kernel⟩
theorem hyp_power_bounded (env : Env ℚ) (ho : env.o = Ops.rat) : Hyp env cfg_coulomb_atoms_power_bounded 3 :=
  ⟨ho, cfg_sound_coulomb_atoms_power_bounded, by decide, supported_power_bounded, by decide +kernel⟩
theorem hyp_power_bounded_dump (env : Env ℚ) (ho : env.o = Ops.rat) : Hyp env cfg_coulomb_atoms_power_bounded_dump 4 :=
  ⟨ho, cfg_sound_coulomb_atoms_power_bounded_dump, by decide, supported_power_bounded_dump, by decide +kernel⟩

theorem dumpQuiet_shipped : dumpQuiet cfg_coulomb_atoms_cell_bounded = true ∧ dumpQuiet cfg_coulomb_atoms_cell_veto = true ∧
    dumpQuiet cfg_coulomb_atoms_power_bounded = true ∧ dumpQuiet cfg_coulomb_atoms_power_bounded_dump = true := by
  decide +kernel

/-- the side condition `cbWired` is not trivially true: if the cell-boundary handler is driven by a tagger of another class, it fails -/
example : cbWired { cfg_coulomb_atoms_cell_bounded with taggers := cfg_coulomb_atoms_cell_bounded.taggers.map fun t =>
    if t.kind == .cellBoundary then { t with cls := .cellVeto } else t } 7 = false := by decide +kernel

section
variable {geo : ∀ env : Env ℚ, Geo env} {needs : HandlerId → Bool}

/-- C09 for every run of `coulomb_atoms/cell_bounded.ini` in the composed system (any geometry instance, any number of point
masses, any cell grid) -/
theorem c09_fresh_cell_bounded (env : Env ℚ) (ho : env.o = Ops.rat) {os : List (Oracle XTime)} {cs : List (Committed XTime)}
    {s : Sys} (hr : Reach env (geo env) cfg_coulomb_atoms_cell_bounded 7 needs os cs s)
    (nt : TieFree cfg_coulomb_atoms_cell_bounded cs) (h2 : 2 ≤ cs.length) :
    ∃ hc : Consistent env (hasOccOf cfg_coulomb_atoms_cell_bounded) ⟨s.usPrev, s.occ⟩,
      ∀ T, (world env cfg_coulomb_atoms_cell_bounded).live T →
        Fresh (world env cfg_coulomb_atoms_cell_bounded) ⟨s.mid, s.ids, ⟨⟨s.usPrev, s.occ⟩, hc⟩⟩ T :=
  let ⟨hc, h, _⟩ := c09_fresh_closed (hyp_cell_bounded env ho) hr nt h2; ⟨hc, h⟩

theorem c09_fresh_cell_veto (env : Env ℚ) (ho : env.o = Ops.rat) {os : List (Oracle XTime)} {cs : List (Committed XTime)}
    {s : Sys} (hr : Reach env (geo env) cfg_coulomb_atoms_cell_veto 7 needs os cs s)
    (nt : TieFree cfg_coulomb_atoms_cell_veto cs) (h2 : 2 ≤ cs.length) :
    ∃ hc : Consistent env (hasOccOf cfg_coulomb_atoms_cell_veto) ⟨s.usPrev, s.occ⟩,
      ∀ T, (world env cfg_coulomb_atoms_cell_veto).live T →
        Fresh (world env cfg_coulomb_atoms_cell_veto) ⟨s.mid, s.ids, ⟨⟨s.usPrev, s.occ⟩, hc⟩⟩ T :=
  let ⟨hc, h, _⟩ := c09_fresh_closed (hyp_cell_veto env ho) hr nt h2; ⟨hc, h⟩

/-- a wiring without a cell-boundary handler needs no no-tie hypothesis -/
theorem tieFree_of_no_cb {c : Wiring} (h : (List.range c.n).all (fun E => (c.tagger E).kind != .cellBoundary) = true)
    (cs : List (Committed XTime)) : TieFree c cs := by
  intro k cm _ _ hb hkb
  exfalso
  unfold kindOfH at hkb
  cases ho : owner c.wires hb with
  | none => rw [ho] at hkb; cases hkb
  | some E =>
    rw [ho] at hkb
    have hE : E < c.n := by rw [← c.wires_length]; exact owner_lt ho
    have := List.all_eq_true.mp h E (List.mem_range.mpr hE)
    simp [hkb] at this

theorem c09_fresh_power_bounded (env : Env ℚ) (ho : env.o = Ops.rat) {os : List (Oracle XTime)} {cs : List (Committed XTime)}
    {s : Sys} (hr : Reach env (geo env) cfg_coulomb_atoms_power_bounded 3 needs os cs s) (h2 : 2 ≤ cs.length) :
    ∃ hc : Consistent env (hasOccOf cfg_coulomb_atoms_power_bounded) ⟨s.usPrev, s.occ⟩,
      ∀ T, (world env cfg_coulomb_atoms_power_bounded).live T →
        Fresh (world env cfg_coulomb_atoms_power_bounded) ⟨s.mid, s.ids, ⟨⟨s.usPrev, s.occ⟩, hc⟩⟩ T :=
  let ⟨hc, h, _⟩ := c09_fresh_closed (hyp_power_bounded env ho) hr (tieFree_of_no_cb (by decide) cs) h2; ⟨hc, h⟩

theorem c09_fresh_power_bounded_dump (env : Env ℚ) (ho : env.o = Ops.rat) {os : List (Oracle XTime)}
    {cs : List (Committed XTime)} {s : Sys}
    (hr : Reach env (geo env) cfg_coulomb_atoms_power_bounded_dump 4 needs os cs s) (h2 : 2 ≤ cs.length) :
    ∃ hc : Consistent env (hasOccOf cfg_coulomb_atoms_power_bounded_dump) ⟨s.usPrev, s.occ⟩,
      ∀ T, (world env cfg_coulomb_atoms_power_bounded_dump).live T →
        Fresh (world env cfg_coulomb_atoms_power_bounded_dump) ⟨s.mid, s.ids, ⟨⟨s.usPrev, s.occ⟩, hc⟩⟩ T :=
  let ⟨hc, h, _⟩ := c09_fresh_closed (hyp_power_bounded_dump env ho) hr (tieFree_of_no_cb (by decide) cs) h2; ⟨hc, h⟩

end

/-! ## non-vacuity: a run of `coulomb_atoms/cell_bounded.ini` with three point masses

The configuration of `JF.Footprints.Example`: one-dimensional box of length 1, seven cells (one layer of nearby cells),
`maximum_number_occupants = 1`, every unit relevant, units 0, 1, 2 at 1/14, 3/14, 9/14 (cells 0, 1, 4).  Six legs of the composed
system, computed by `JF.Med.leg` in one evaluation of the run (`run0`); every hypothesis of the theorems above holds for the run. -/

namespace Example
open JF.C11

abbrev cfg : Wiring := cfg_coulomb_atoms_cell_bounded

def g7 : Grid := ⟨7, 1 / 7, by decide, by norm_num⟩

def env : Env ℚ :=
  { o := Ops.rat, L := [g7.L], grid := ⟨[7], 1⟩
    cellOf := fun p => (g7.idx (p.headD 0)).toNat
    relevant := fun _ => true }

def box : AxisBox env where
  grids := [g7]
  hn2 := by intro g hg; simp at hg; subst hg; decide
  hL := rfl
  hcell := by
    intro p q hp hq h
    have hpl : p.length = 1 := hp.length
    have hql : q.length = 1 := hq.length
    obtain ⟨x, rfl⟩ := List.length_eq_one_iff.mp hpl
    obtain ⟨y, rfl⟩ := List.length_eq_one_iff.mp hql
    have := h 0 (by simp) (by simp) (by simp)
    simp only [List.getElem_cons_zero] at this
    show (g7.idx x).toNat = (g7.idx y).toNat
    rw [this]

def geo : Geo env := axisGeoPos box

/-- the handlers of the taggers with an in-state: cell bounding, nearby, cell boundary, surplus (0–3), end of chain (5) -/
def needs : HandlerId → Bool := fun h => decide (h < 4 ∨ h = 5)

abbrev M : MWire := mwire cfg 7 needs

theorem hyp : Hyp env cfg 7 := hyp_cell_bounded env rfl

def us0 : List (PUnit ℚ) := [⟨[1/14], none, none⟩, ⟨[3/14], none, none⟩, ⟨[9/14], none, none⟩]
def occ0 : Occ.State := Occ.init 1 (unitsOf env us0)
example : (unitsOf env us0).map (fun u => (u.id, u.relevant, u.cell)) = [(0, true, 0), (1, true, 1), (2, true, 4)] := by
  decide +kernel
def s0 : Sys := Sys.init cfg us0 occ0

theorem init0 : Init env cfg s0 where
  med := rfl
  wf := by intro u hu; simp [s0, Sys.init, us0] at hu; rcases hu with rfl | rfl | rfl <;> simp [WFU, env]
  box := by
    intro u hu; simp [s0, Sys.init, us0] at hu
    rcases hu with rfl | rfl | rfl <;> norm_num [InBox, env, Grid.L, g7]
  rest := by intro u hu; simp [s0, Sys.init, us0] at hu; rcases hu with rfl | rfl | rfl <;> rfl
  occId := (init_active _ _).1
  occCell := (init_active _ _).2
  occInit := ⟨1, rfl⟩
  prev := rfl

theorem ok_of_toOption {ε α : Type} {e : Except ε α} {x : α} (h : e.toOption = some x) : e = .ok x := by
  cases e with
  | error _ => simp [Except.toOption] at h
  | ok y => simp only [Except.toOption, Option.some.injEq] at h; rw [h]

def legR (s : Sys) (o : Oracle XTime) (h : (leg M (specI xcfg) s.med o).toOption.isSome = true) :
    MedState (SSched XTime) × Committed XTime := (leg M (specI xcfg) s.med o).toOption.get h

def nextS (s : Sys) (o : Oracle XTime) (h : (leg M (specI xcfg) s.med o).toOption.isSome = true)
    (us' : List (PUnit ℚ)) (occ' : Occ.State) : Sys :=
  ⟨(legR s o h).1, us', occ', assign s.ids (legR s o h).2.created, s.us, midAct M s.med o⟩

/-- the leg as an equation.  `s'` and `c` are variables, equated with what the leg computes: a definition `c5 := (legR s4 _ h5).2`
is then opened by its equation and never compared with its body by evaluation -/
theorem leg_of (s : Sys) (o : Oracle XTime) (h : (leg M (specI xcfg) s.med o).toOption.isSome = true)
    (us' : List (PUnit ℚ)) (occ' : Occ.State) {s' : Sys} {c : Committed XTime} (hs' : s' = nextS s o h us' occ')
    (hc : c = (legR s o h).2) : leg M (specI xcfg) s.med o = .ok (s'.med, c) := by
  subst hs' hc
  exact ok_of_toOption (Option.some_get h).symm

def mkO (us : List (PUnit ℚ)) (occ' : Occ.State) (cand : HandlerId → XTime) : Oracle XTime :=
  ⟨fun T => yieldCls env (cfg.tagger T).cls ⟨us, occ'⟩, cand⟩

theorem step_of (s : Sys) (occ' : Occ.State) (cand : HandlerId → XTime)
    (h : (leg M (specI xcfg) s.med (mkO s.us occ' cand)).toOption.isSome = true) (us' : List (PUnit ℚ))
    (hocc : occNext env (hasOccOf cfg) s = some occ')
    (hc : CandsOK env geo cfg s.us s.med.sched.last (mkO s.us occ' cand) (legR s _ h).2.created)
    (hev : ∃ t, (legR s _ h).2.time = .fin t ∧ Commits env geo (kindOfH cfg (legR s _ h).2.handler) t s.us us') :
    SysStep env geo cfg 7 needs s (mkO s.us occ' cand) (legR s _ h).2 (nextS s _ h us' occ') where
  occ1 := hocc
  yields := rfl
  leg := ok_of_toOption (Option.some_get h).symm
  cands := hc
  ev := hev
  ids' := rfl
  prev := rfl
  mid' := rfl

theorem normT (q : ℤ) (r : ℚ) (h0 : 0 ≤ r) (h1 : r < 1) : Normalised ⟨q, r⟩ := ⟨⟨q, rfl⟩, h0, h1⟩

theorem smooth_of_check {L : List ℚ} {us : List (PUnit ℚ)} {t : Time ℚ} {d : Nat} {x : ℚ}
    (h : (us.all fun u => !isMoving u || decide ((timeSlice Ops.rat L t u).pos[d]? = some x)) = true) :
    Smooth L us (.snap t d x) := by
  intro u hu hm hd hd'
  have := List.all_eq_true.mp h u hu
  simp only [hm, Bool.not_true, Bool.false_or, decide_eq_true_eq] at this
  rw [List.getElem?_eq_getElem hd'] at this
  exact Cong.of_eq (Option.some.inj this)

theorem velOK1 : geo.velOK [1] :=
  ⟨rfl, 0, by simp, by norm_num, by intro d' hd' hne; simp at hd'; omega⟩

/-! What a leg needs beyond `JF.Med.leg` itself is a Boolean (`legB`), evaluated with the leg:
`CandsOK` for the handlers handed out, and that the event is allowed for the committing handler at the committed time. -/

def candsB (us : List (PUnit ℚ)) (last : XTime) (o : Oracle XTime) (created : List (HandlerId × IdTuple)) : Bool :=
  created.all fun q =>
    if kindOfH cfg q.1 = .cellBoundary then
      (List.range us.length).any fun a => decide (q.2 = some [[a]]) && (us[a]?).any fun u => u.vel.any fun v =>
        u.ts.any fun ts => decide (o.cand q.1 = .fin (Time.add Ops.rat ts (geo.ttb u.pos v)))
    else SysLeg.normXb (o.cand q.1) && !xcfg.lt (o.cand q.1) last

theorem candsOK_of_check {us : List (PUnit ℚ)} {last : XTime} {o : Oracle XTime} {created : List (HandlerId × IdTuple)}
    (h : candsB us last o created = true) : CandsOK env geo cfg us last o created := by
  intro q hq
  have hq' := List.all_eq_true.mp h q hq
  constructor
  · intro hk
    simp only [if_pos hk, List.any_eq_true, Bool.and_eq_true, Option.any_eq_true, decide_eq_true_eq] at hq'
    obtain ⟨a, _, h1, u, hu, v, hv, ts, hts, hc⟩ := hq'
    exact ⟨a, u, v, ts, h1, hu, hv, hts, hc⟩
  · intro hk
    rw [if_neg hk, Bool.and_eq_true, Bool.not_eq_true'] at hq'
    exact ⟨SysLeg.normXb_spec hq'.1, hq'.2⟩

def legB (s : Sys) (o : Oracle XTime) (cm : Committed XTime) (ev : Kin.Ev ℚ) : Bool :=
  candsB s.us s.med.sched.last o cm.created && decide (cm.time = .fin ev.time) && allowedEv (kindOfH cfg cm.handler) ev

theorem legB_spec {s : Sys} {o : Oracle XTime} {c : Committed XTime} {ev : Kin.Ev ℚ} (h : legB s o c ev = true) :
    CandsOK env geo cfg s.us s.med.sched.last o c.created ∧ c.time = .fin ev.time ∧
      allowedEv (kindOfH cfg c.handler) ev = true := by
  unfold legB at h
  simp only [Bool.and_eq_true, decide_eq_true_eq] at h
  exact ⟨candsOK_of_check h.1.1, h.1.2, h.2⟩

/-- `c` and `s'` enter through equations for the reason given at `leg_of` -/
theorem step_of_check (s : Sys) (occ' : Occ.State) (cand : HandlerId → XTime)
    (h : (leg M (specI xcfg) s.med (mkO s.us occ' cand)).toOption.isSome = true) (ev : Kin.Ev ℚ) {c : Committed XTime}
    {s' : Sys} (hc : c = (legR s _ h).2) (hs' : s' = nextS s _ h (Kin.step env.o env.L s.us ev) occ')
    (hocc : occNext env (hasOccOf cfg) s = some occ') (hb : legB s (mkO s.us occ' cand) c ev = true)
    (hadm : EvAdm env geo s.us ev) : SysStep env geo cfg 7 needs s (mkO s.us occ' cand) c s' := by
  subst hc hs'
  obtain ⟨h1, h2, h3⟩ := legB_spec hb
  exact step_of s occ' cand h _ hocc h1 ⟨_, h2, Or.inl ⟨ev, h3, rfl, hadm, rfl⟩⟩

theorem hoccS (s : Sys) (hs : s.med.act.started = true) (h : (occAfter env (hasOccOf cfg) s.occ s.us).isSome = true) :
    occNext env (hasOccOf cfg) s = some ((occAfter env (hasOccOf cfg) s.occ s.us).get h) := by
  unfold occNext; rw [if_pos hs]; exact (Option.some_get h).symm

theorem cb_handler {hb : HandlerId} (h : kindOfH cfg hb = .cellBoundary) : hb = 2 := by
  unfold kindOfH at h
  cases ho : owner cfg.wires hb with
  | none => rw [ho] at h; cases h
  | some E =>
    rw [ho] at h
    have hE : E < 8 := owner_lt ho
    have hm := owner_mem ho
    revert h hm
    interval_cases E <;> intro h hm <;> first | (exact absurd h (by decide)) | skip
    have : (getW cfg.wires 2).pool = [2] := by decide
    rw [this] at hm
    simpa using hm

/-! ## the six legs

Every state is defined as the result of the leg before it (`sₖ := nextS sₖ₋₁ _ hₖ …`, and `hₖ`, "leg `k` succeeds", has to precede
it), so whatever mentions `sₖ` runs the first `k` legs again.  The kernel therefore computes the run ONCE, in `run0` (`JF.runChk`: the
legs one after the other, with what is evaluated of each of them, `chkL`); `hₖ` and `okₖ` are read off it. -/

def cand1 : HandlerId → XTime := fun _ => .fin ⟨0, 0⟩
def cand2 : HandlerId → XTime := fun h =>
  if h = 2 then .fin (Time.add Ops.rat ⟨0, 0⟩ (axisTtb [g7] [1/14] [1]))
  else if h = 4 then .fin ⟨0, 1/28⟩ else if h = 1 then .fin ⟨0, 1/2⟩ else if h = 5 then .fin ⟨10, 0⟩
  else if h = 6 then .fin ⟨100, 0⟩ else .inf
def cand3 : HandlerId → XTime := fun h => if h = 4 then .fin ⟨0, 3/28⟩ else .inf
def cand4 : HandlerId → XTime := fun h =>
  if h = 2 then .fin (Time.add Ops.rat ⟨0, 1/14⟩ (axisTtb [g7] [1/7] [1]))
  else if h = 1 then .fin ⟨0, 5/56⟩ else .inf
def cand5 : HandlerId → XTime := fun h =>
  if h = 2 then .fin (Time.add Ops.rat ⟨0, 5/56⟩ (axisTtb [g7] [3/14] [1]))
  else if h = 3 then .fin ⟨0, 1/8⟩ else .inf
def cand6 : HandlerId → XTime := fun h => if h = 4 then .fin ⟨0, 1/2⟩ else .inf

/-- `NoTieAll` for the one cell-boundary handler (2) of the wiring, decided -/
def noTieB (p : Pend XTime) (c : Committed XTime) : Bool :=
  decide (kindOfH cfg c.handler = .cellBoundary) || decide (pendPushed p c 2 ≠ some c.time)

theorem noTie_of_check {p : Pend XTime} {c : Committed XTime} (h : noTieB p c = true)
    (hk : kindOfH cfg c.handler ≠ .cellBoundary) : NoTieAll cfg p c := by
  intro hb hkb
  obtain rfl := cb_handler hkb
  simpa [noTieB, hk] using h

/-- a leg of the example run: the candidate times, the committed event, the handler expected to commit, and something observed in
the same evaluation (`obs p c mid ids`: the dictionary before the leg, its record, the activator's lists in the middle of it, the
identifiers handed out) -/
structure LegIn where
  cand : HandlerId → XTime
  ev : Kin.Ev ℚ
  handler : HandlerId
  obs : Pend XTime → Committed XTime → Act → (HandlerId → IdTuple) → Bool := fun _ _ _ _ => true

/-- what is evaluated of the leg `x` from `s` on the oracle `o` with record `c`, the legs before it having committed `cs`: `legB`, the
committing handler, that the run goes on, no tie, and the observation -/
def chkL (x : LegIn) (cs : List (Committed XTime)) (s : Sys) (o : Oracle XTime) (c : Committed XTime) : Bool :=
  legB s o c x.ev && decide (c.handler = x.handler) && !c.stop && noTieB (pendOf (fun _ => none) cs) c &&
    x.obs (pendOf (fun _ => none) cs) c (midAct M s.med o) (assign s.ids c.created)

def LegIn.step (x : LegIn) := (x.cand, x.ev, chkL x)

/-- the occupancy a leg from `s` works with -/
def occN (s : Sys) : Occ.State := (occNext env (hasOccOf cfg) s).getD s.occ

theorem occN_eq {s : Sys} {occ' : Occ.State} (h : occNext env (hasOccOf cfg) s = some occ') : occ' = occN s := by
  rw [occN, h]; rfl

/-- the run in one evaluation, the state together with the records committed so far: a leg from `s` on the candidates `cand` has to
succeed; then `d` is evaluated on it, and the run goes on from `nextS` after the event `ev` -/
abbrev rc := runChk
  (fun (s : Sys × List (Committed XTime)) (cand : HandlerId → XTime) =>
    (leg M (specI xcfg) s.1.med (mkO s.1.us (occN s.1) cand)).toOption.isSome = true)
  (fun s cand (d : List (Committed XTime) → Sys → Oracle XTime → Committed XTime → Bool) h =>
    d s.2 s.1 (mkO s.1.us (occN s.1) cand) (legR s.1 _ h).2)
  (fun s _ (ev : Kin.Ev ℚ) h => (nextS s.1 _ h (Kin.step env.o env.L s.1.us ev) (occN s.1), s.2 ++ [(legR s.1 _ h).2]))

/-- what the checked run says of the leg `x` from `s` to `s'` with record `c`, the legs before it having committed `cs`; and the
checked rest of the run -/
structure LegOK (x : LegIn) (rest : List _) (cs : List (Committed XTime)) (s : Sys) (occ' : Occ.State) (c : Committed XTime)
    (s' : Sys) : Prop where
  check : legB s (mkO s.us occ' x.cand) c x.ev = true
  handler : c.handler = x.handler
  go : c.stop = false
  noTie : noTieB (pendOf (fun _ => none) cs) c = true
  obs : x.obs (pendOf (fun _ => none) cs) c s'.mid s'.ids = true
  rest : rc (s', cs ++ [c]) rest = true

section
variable {x : LegIn} {rest : List _} {cs : List (Committed XTime)} {s s' : Sys} {occ' : Occ.State} {c : Committed XTime}

/-- `c` and `s'` enter through equations for the reason given at `leg_of` -/
theorem ok_of (R : rc (s, cs) (x.step :: rest) = true) (hocc : occNext env (hasOccOf cfg) s = some occ')
    (h : (leg M (specI xcfg) s.med (mkO s.us occ' x.cand)).toOption.isSome = true) (hc : c = (legR s _ h).2)
    (hs' : s' = nextS s _ h (Kin.step env.o env.L s.us x.ev) occ') : LegOK x rest cs s occ' c s' := by
  obtain rfl := occN_eq hocc
  subst hc hs'
  have := runChk_chk R h
  simp only [chkL, Bool.and_eq_true, decide_eq_true_eq, Bool.not_eq_true'] at this
  obtain ⟨⟨⟨⟨h1, h2⟩, h3⟩, h4⟩, h5⟩ := this
  exact ⟨h1, h2, h3, h4, h5, runChk_tail R h⟩

theorem LegOK.tieFreeAll (k : LegOK x rest cs s occ' c s') (h : TieFreeAll cfg cs) : TieFreeAll cfg (cs ++ [c]) :=
  SysLeg.everyLeg_concat
    (P := fun pre (cm : Committed XTime) => kindOfH cfg cm.handler ≠ .cellBoundary → NoTieAll cfg (pendOf (fun _ => none) pre) cm)
    h (noTie_of_check k.noTie)

end

@[reducible] def leg1 : LegIn := { cand := cand1, ev := .start ⟨0, 0⟩ 0 [1], handler := 7 }
@[reducible] def leg2 : LegIn := { cand := cand2, ev := .keep ⟨0, 1/28⟩, handler := 4 }
@[reducible] def leg3 : LegIn :=
  { cand := cand3, ev := .snap ⟨0, 1/14⟩ 0 (1/7), handler := 2
    obs := fun p c _ _ => decide (pendPushed p c 4 = some (.fin ⟨0, 3/28⟩)) }
@[reducible] def leg4 : LegIn :=
  { cand := cand4, ev := .lift ⟨0, 5/56⟩ 1, handler := 1
    obs := fun p c mid ids => decide (((getT mid 0).running.map ids = [some [[0], [2]]] ∧
      (getT mid 1).running.map ids = [some [[0], [1]]] ∧ (getT mid 2).running.map ids = [some [[0]]]) ∧
      (pendPushed p c 0).isSome = true) }
@[reducible] def leg5 : LegIn :=
  { cand := cand5, ev := .keep ⟨0, 3/28⟩, handler := 4, obs := fun _ c _ _ => (c.created.map Prod.fst).contains 3 }
@[reducible] def leg6 : LegIn :=
  { cand := cand6, ev := .lift ⟨0, 1/8⟩ 0, handler := 3
    obs := fun _ _ _ ids => decide ((motionOf env cfg).units (ids 3) = [1, 0]) }

/-- the legs after leg `k` -/
def L5 := [leg6.step]
def L4 := leg5.step :: L5
def L3 := leg4.step :: L4
def L2 := leg3.step :: L3
def L1 := leg2.step :: L2

/-- the six legs in one evaluation -/
theorem run0 : rc (s0, []) (leg1.step :: L1) = true := by decide +kernel

/-! leg 1: the start-of-run handler (7) is handed out, commits at time 0: unit 0 starts moving with velocity 1 -/

theorem h1 : (leg M (specI xcfg) s0.med (mkO s0.us occ0 cand1)).toOption.isSome = true := (runChk_head run0 :)
def us1 : List (PUnit ℚ) := Kin.step Ops.rat env.L us0 (.start ⟨0, 0⟩ 0 [1])
def s1 : Sys := nextS s0 _ h1 us1 occ0
def c1 : Committed XTime := (legR s0 _ h1).2

theorem ok1 : LegOK leg1 L1 [] s0 occ0 c1 s1 := ok_of run0 rfl h1 c1.eq_1 s1.eq_1

theorem step1 : SysStep env geo cfg 7 needs s0 (mkO s0.us occ0 cand1) c1 s1 :=
  step_of_check s0 occ0 cand1 h1 _ (by rw [c1]) rfl rfl ok1.check ⟨by decide, velOK1, init0.rest⟩

/-! leg 2: everything is created; the sampling event (1/28) commits while the cell-boundary candidate 1/14 is pending -/

def occ1 : Occ.State := (occAfter env (hasOccOf cfg) s1.occ s1.us).get (by decide +kernel)
theorem hocc1 : occNext env (hasOccOf cfg) s1 = some occ1 := hoccS s1 (leg_started step1.leg) _
theorem h2 : (leg M (specI xcfg) s1.med (mkO s1.us occ1 cand2)).toOption.isSome = true := occN_eq hocc1 ▸ (runChk_head ok1.rest :)
def us2 : List (PUnit ℚ) := Kin.step env.o env.L s1.us (.keep ⟨0, 1/28⟩)
def s2 : Sys := nextS s1 _ h2 us2 occ1
def c2 : Committed XTime := (legR s1 _ h2).2

theorem ok2 : LegOK leg2 L2 ([] ++ [c1]) s1 occ1 c2 s2 := ok_of ok1.rest hocc1 h2 c2.eq_1 s2.eq_1

theorem step2 : SysStep env geo cfg 7 needs s1 (mkO s1.us occ1 cand2) c2 s2 :=
  step_of_check s1 occ1 cand2 h2 _ (by rw [c2]) rfl hocc1 ok2.check trivial

/-! leg 3: the sampling handler is handed out again (next sample at 3/28); the cell-boundary event of unit 0 (time 1/14) commits -/

def occ2 : Occ.State := (occAfter env (hasOccOf cfg) s2.occ s2.us).get (by decide +kernel)
theorem hocc2 : occNext env (hasOccOf cfg) s2 = some occ2 := hoccS s2 (leg_started step2.leg) _
theorem h3 : (leg M (specI xcfg) s2.med (mkO s2.us occ2 cand3)).toOption.isSome = true := occN_eq hocc2 ▸ (runChk_head ok2.rest :)
def us3 : List (PUnit ℚ) := Kin.step env.o env.L s2.us (.snap ⟨0, 1/14⟩ 0 (1/7))
def s3 : Sys := nextS s2 _ h3 us3 occ2
def c3 : Committed XTime := (legR s2 _ h3).2

theorem ok3 : LegOK leg3 L3 ([] ++ [c1] ++ [c2]) s2 occ2 c3 s3 := ok_of ok2.rest hocc2 h3 c3.eq_1 s3.eq_1

theorem step3 : SysStep env geo cfg 7 needs s2 (mkO s2.us occ2 cand3) c3 s3 :=
  step_of_check s2 occ2 cand3 h3 _ (by rw [c3]) rfl hocc2 ok3.check
    ⟨fun _ => by norm_num [env, Grid.L, g7], smooth_of_check (by decide +kernel)⟩

/-! leg 4: the cell taggers are re-created on the new cell; the `coulomb_nearby` event (0, 1) is accepted: lifting 0 → 1 -/

def occ3 : Occ.State := (occAfter env (hasOccOf cfg) s3.occ s3.us).get (by decide +kernel)
theorem hocc3 : occNext env (hasOccOf cfg) s3 = some occ3 := hoccS s3 (leg_started step3.leg) _
theorem h4 : (leg M (specI xcfg) s3.med (mkO s3.us occ3 cand4)).toOption.isSome = true := occN_eq hocc3 ▸ (runChk_head ok3.rest :)
def us4 : List (PUnit ℚ) := Kin.step env.o env.L s3.us (.lift ⟨0, 5/56⟩ 1)
def s4 : Sys := nextS s3 _ h4 us4 occ3
def c4 : Committed XTime := (legR s3 _ h4).2

theorem ok4 : LegOK leg4 L4 ([] ++ [c1] ++ [c2] ++ [c3]) s3 occ3 c4 s4 := ok_of ok3.rest hocc3 h4 c4.eq_1 s4.eq_1

theorem step4 : SysStep env geo cfg 7 needs s3 (mkO s3.us occ3 cand4) c4 s4 :=
  step_of_check s3 occ3 cand4 h4 _ (by rw [c4]) rfl hocc3 ok4.check (by decide +kernel : 1 < s3.us.length)

/-! leg 5: the cell taggers are re-created for the new active unit 1 (unit 0 sits in the surplus of cell 1); the pending sampling
event (3/28) commits -/

def occ4 : Occ.State := (occAfter env (hasOccOf cfg) s4.occ s4.us).get (by decide +kernel)
theorem hocc4 : occNext env (hasOccOf cfg) s4 = some occ4 := hoccS s4 (leg_started step4.leg) _
theorem h5 : (leg M (specI xcfg) s4.med (mkO s4.us occ4 cand5)).toOption.isSome = true := occN_eq hocc4 ▸ (runChk_head ok4.rest :)
def us5 : List (PUnit ℚ) := Kin.step env.o env.L s4.us (.keep ⟨0, 3/28⟩)
def s5 : Sys := nextS s4 _ h5 us5 occ4
def c5 : Committed XTime := (legR s4 _ h5).2

theorem ok5 : LegOK leg5 L5 ([] ++ [c1] ++ [c2] ++ [c3] ++ [c4]) s4 occ4 c5 s5 := ok_of ok4.rest hocc4 h5 c5.eq_1 s5.eq_1

theorem step5 : SysStep env geo cfg 7 needs s4 (mkO s4.us occ4 cand5) c5 s5 :=
  step_of_check s4 occ4 cand5 h5 _ (by rw [c5]) rfl hocc4 ok5.check trivial

/-! leg 6: the `coulomb_surplus` event (1, 0), handed out in leg 5 and still pending after the sampling commit, is accepted -/

def occ5 : Occ.State := (occAfter env (hasOccOf cfg) s5.occ s5.us).get (by decide +kernel)
theorem hocc5 : occNext env (hasOccOf cfg) s5 = some occ5 := hoccS s5 (leg_started step5.leg) _
theorem h6 : (leg M (specI xcfg) s5.med (mkO s5.us occ5 cand6)).toOption.isSome = true := occN_eq hocc5 ▸ (runChk_head ok5.rest :)
def us6 : List (PUnit ℚ) := Kin.step env.o env.L s5.us (.lift ⟨0, 1/8⟩ 0)
def s6 : Sys := nextS s5 _ h6 us6 occ5
def c6 : Committed XTime := (legR s5 _ h6).2

theorem ok6 : LegOK leg6 [] ([] ++ [c1] ++ [c2] ++ [c3] ++ [c4] ++ [c5]) s5 occ5 c6 s6 :=
  ok_of ok5.rest hocc5 h6 c6.eq_1 s6.eq_1

theorem step6 : SysStep env geo cfg 7 needs s5 (mkO s5.us occ5 cand6) c6 s6 :=
  step_of_check s5 occ5 cand6 h6 _ (by rw [c6]) rfl hocc5 ok6.check (by decide +kernel : 0 < s5.us.length)

def os6 : List (Oracle XTime) :=
  [] ++ [mkO s0.us occ0 cand1] ++ [mkO s1.us occ1 cand2] ++ [mkO s2.us occ2 cand3] ++ [mkO s3.us occ3 cand4] ++
    [mkO s4.us occ4 cand5] ++ [mkO s5.us occ5 cand6]
def cs6 : List (Committed XTime) := [] ++ [c1] ++ [c2] ++ [c3] ++ [c4] ++ [c5] ++ [c6]
def os4 : List (Oracle XTime) := os6.take 4
def cs4 : List (Committed XTime) := cs6.take 4

theorem cs4_eq : cs4 = [] ++ [c1] ++ [c2] ++ [c3] ++ [c4] := rfl

theorem reach1 : Reach env geo cfg 7 needs ([] ++ [mkO s0.us occ0 cand1]) ([] ++ [c1]) s1 :=
  .step (.init s0 init0) (by simp) step1
theorem reach2 : Reach env geo cfg 7 needs ([] ++ [mkO s0.us occ0 cand1] ++ [mkO s1.us occ1 cand2]) ([] ++ [c1] ++ [c2]) s2 :=
  .step reach1 (SysLeg.go_snoc rfl ok1.go) step2
theorem reach3 : Reach env geo cfg 7 needs
    ([] ++ [mkO s0.us occ0 cand1] ++ [mkO s1.us occ1 cand2] ++ [mkO s2.us occ2 cand3]) ([] ++ [c1] ++ [c2] ++ [c3]) s3 :=
  .step reach2 (SysLeg.go_snoc rfl ok2.go) step3
theorem reach4 : Reach env geo cfg 7 needs os4 cs4 s4 :=
  .step reach3 (SysLeg.go_snoc rfl ok3.go) step4
theorem reach5 : Reach env geo cfg 7 needs (os4 ++ [mkO s4.us occ4 cand5]) (cs4 ++ [c5]) s5 :=
  .step reach4 (SysLeg.go_snoc cs4_eq ok4.go) step5
theorem reach6 : Reach env geo cfg 7 needs os6 cs6 s6 :=
  .step reach5 (SysLeg.go_snoc rfl ok5.go) step6

/-- the committed handlers and times: start of run at 0, sampling at 1/28, cell boundary at 1/14, `coulomb_nearby` at 5/56,
sampling at 3/28, `coulomb_surplus` at 1/8 -/
example : cs6.map (·.handler) = [7, 4, 2, 1, 4, 3] ∧
    cs6.map (·.time) = [.fin ⟨0, 0⟩, .fin ⟨0, 1/28⟩, .fin ⟨0, 1/14⟩, .fin ⟨0, 5/56⟩, .fin ⟨0, 3/28⟩, .fin ⟨0, 1/8⟩] := by
  simp only [cs6, List.nil_append, List.cons_append, List.map_cons, List.map_nil, ok1.handler, ok2.handler, ok3.handler, ok4.handler,
    ok5.handler, ok6.handler, (legB_spec ok1.check).2.1, (legB_spec ok2.check).2.1, (legB_spec ok3.check).2.1,
    (legB_spec ok4.check).2.1, (legB_spec ok5.check).2.1, (legB_spec ok6.check).2.1, Kin.Ev.time, and_self]

/-- the pending cell-boundary candidate is 1/14, then 3/14, then 9/56 -/
theorem tieFreeAll6 : TieFreeAll cfg cs6 :=
  ok6.tieFreeAll (ok5.tieFreeAll (ok4.tieFreeAll (ok3.tieFreeAll (ok2.tieFreeAll (ok1.tieFreeAll fun k cm hk => by simp at hk)))))

theorem tieFree6 : TieFree cfg cs6 := tieFree_of_all tieFreeAll6

theorem tieFree4 : TieFree cfg cs4 := tieFree_take tieFree6 4

example : JInv env geo cfg 7 needs cs6 s6 := joint_inv hyp reach6 tieFree6

/-- C09 in the middle of the fourth leg, and it speaks about non-empty pending lists: the cell-bounding tagger's event carries
the tuple (0, 2), the nearby tagger's (0, 1), the cell-boundary tagger's (0,) -/
example : ∃ hc : Consistent env (hasOccOf cfg) ⟨s4.usPrev, s4.occ⟩,
    ∀ T, (world env cfg).live T → Fresh (world env cfg) ⟨s4.mid, s4.ids, ⟨⟨s4.usPrev, s4.occ⟩, hc⟩⟩ T :=
  let ⟨hc, h, _⟩ := c09_fresh_closed hyp reach4 tieFree4 (by decide); ⟨hc, h⟩
example : (getT s4.mid 0).running.map s4.ids = [some [[0], [2]]] ∧ (getT s4.mid 1).running.map s4.ids = [some [[0], [1]]] ∧
    (getT s4.mid 2).running.map s4.ids = [some [[0]]] := (of_decide_eq_true ok4.obs).1

/-- the premise `StaysInRecordedCell` of `Tr` after the sampling commit (leg 2): unit 0, time-sliced to 1/28, is still in its recorded cell 0 -/
example : StaysInRecordedCell env s2.occ s2.us :=
  staysInRecordedCell_closed hyp reach2 (tieFree_take (k := 2) tieFree6) rfl (cl := c2) List.getLast?_concat
    (Or.inl (by rw [ok2.handler]; decide))
example : movers s2.us = [0] ∧ s2.occ.activeCell = some 0 := by decide +kernel

/-- C11's mirror in the middle of leg 4 (unit 0 in its recorded cell 1), and after the lifting (a commit that is not the
cell-boundary event, at a time — 5/56 — that is not the pending cell-boundary candidate 3/14): unit 0, time-sliced to 5/56, is
still in cell 1 when the occupancy re-inserts it there in the next leg -/
example : OldActiveStays env s4.occ s4.usPrev s4.usPrev ∧ OldActiveStays env s4.occ s4.usPrev s4.us := by
  have h := c11_active_in_recorded_cell_closed hyp reach4 tieFree4 rfl (cl := c4)
    (by rw [cs4_eq]; exact List.getLast?_concat)
  have hk : kindOfH cfg c4.handler ≠ .cellBoundary := by rw [ok4.handler]; decide
  exact ⟨h.1, h.2 hk (tieFreeAll6 3 c4 rfl hk)⟩
example : movers s4.usPrev = [0] ∧ s4.occ.activeCell = some 1 ∧ movers s4.us = [1] := by decide +kernel

/-- C11's full invariant in the middle of leg 6: unit 1 is active in cell 1, unit 0 (which stopped in cell 1 at the lifting of leg
4) is in the surplus of cell 1, unit 2 is the occupant of cell 4 — as `OccInv` for the positions of that moment says -/
example : C11.OccInv (relW env s6.usPrev) (cellW env s6.usPrev) s6.occ := c11_occinv_closed hyp reach6 tieFreeAll6 rfl
example : s6.occ.activeId = some 1 ∧ s6.occ.activeCell = some 1 ∧ s6.occ.surplus = [(1, [0])] ∧ s6.occ.occupants 4 = [2] ∧
    cellW env s6.usPrev 0 = 1 ∧ cellW env s6.usPrev 1 = 1 ∧ cellW env s6.usPrev 2 = 4 := by decide +kernel

/-- commit times and the C17 link on the run: in leg 3 the sampling candidate 3/28 is pending, the committed time 1/14 is not later -/
example : cs6.Pairwise (fun a b => xcfg.lt b.time a.time = false) :=
  commit_times_sorted_closed hyp dumpQuiet_shipped.1 reach6 tieFree6
example : xcfg.lt (.fin ⟨0, 3/28⟩) c3.time = false :=
  (no_sample_skipped hyp reach6 (k := 2) (cm := c3) rfl (hs := 4) (ts := .fin ⟨0, 3/28⟩) (by decide)
    (of_decide_eq_true ok3.obs) rfl).1

/-- the lifting of leg 4 (tagger 1, motion-changing) finds the cell-bounding event of handler 0
pending — it is in the trash list of that leg -/
example : (0 : HandlerId) ∈ c4.trashed :=
  (c08_stale_trashed_closed hyp reach6 tieFree6 (k := 3) (j := 3) (ck := c4) (cj := c4) rfl (E := 1)
    (by rw [ok4.handler]; decide) (by decide) (h := 0) (T := 0) (by decide) (by decide) (of_decide_eq_true ok4.obs).2).1

/-- the `coulomb_surplus` event of handler 3 committed in leg 6 was computed in leg 5 (unit 1 at 3/14 with time stamp
5/56, unit 0 at rest); in between the sampling event time-sliced unit 1 to 13/56: both units of the in-state still move as they
did (unit 1 on its line, unit 0 where it was) -/
example : ∃ born : HandlerId → G env cfg,
    ∀ u ∈ (motionOf env cfg).units (s6.ids c6.handler), SameMotion env.L (born c6.handler).1.us s6.usPrev u :=
  let ⟨_, born, _, _, h⟩ := c08_closed hyp reach6 tieFree6 (cl := c6) List.getLast?_concat
  ⟨born, h 3 (by rw [ok6.handler]; decide) (by decide)⟩
example : c6.handler = 3 ∧ (motionOf env cfg).units (s6.ids 3) = [1, 0] ∧ (c5.created.map Prod.fst).contains 3 = true ∧
    (s6.usPrev[1]?.map (·.pos)) = some [13/56] :=
  ⟨ok6.handler, of_decide_eq_true ok6.obs, ok5.obs, by decide +kernel⟩

end Example

end JF.SystemInv
