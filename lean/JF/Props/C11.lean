import JF.Model.Occupancy
import JF.Lemmas.Occupancy
import JF.Lemmas.OccupancyInv
import JF.Lemmas.CellsWrap
/-!
# C11 — The cell-occupancy bookkeeping always mirrors the true particle positions

Model: `JF.Model.Occupancy` (`SingleActiveCellOccupancy.initialize / update / __getitem__ /
yield_surplus / yield_active_cells`, the one-direction core of `CellBoundaryEventHandler`).

The world the occupancy has to mirror is given by
* `rel : UId → Bool`   — `u` is a unit on the cell level of the global state that passes the charge filter,
* `cellOf : UId → Cell` — the cell that contains the *current* position of `u`.

`OccInv rel cellOf s` (`JF/Lemmas/OccupancyInv.lean`) is the property statement; `init_inv` / `update_inv` / `reach_inv` show that it
holds at every leg of every history whose legs satisfy the two premises the mediator provides
(non-active units do not move; when the identity of the active unit changes, the previous active
unit is still inside its recorded cell), and that under it no error branch of `update` is taken.
The premises themselves are what `boundary_*` (exact arithmetic) and the run-level oracle address.

Scope.  `reach_inv` is conditional on the premise `hmove` of every step.  That the mediator's legs satisfy it
("no event is committed after the crossing time while the cell-boundary candidate is live", i.e. the scheduler
returns the minimum and the cell-boundary tagger's candidate is fresh) belongs to the system model and is proved
there, for every run of the composed mediator loop without ties at the crossing time (`TieFreeAll`):
`JF.SystemInv.c11_occinv_closed` (`JF/Props/SystemInv.lean`), `c11_occinv_closed3` (`JF/Props/SystemInv3Occ.lean`).
`boundary_pos` / `stays_in_cell_pos` / `boundary_neg_partial` / `stays_in_cell_neg` give the kinematic half in exact
arithmetic (the candidate time is the crossing time; before it the unit is in its cell; the event puts it into the
neighbour), for a velocity with a single non-zero component; the negative direction is closed by the adjacency of the
recorded extents (no representable scalar between the neighbour's `cell_max` and the cell's lower edge).  The tie case (another
event at exactly the crossing time that changes the active unit) and binary64 rounding of the time
slice are outside these theorems; the run-level oracle checks the premise on every leg of real runs.
-/
namespace JF.C11
open JF JF.Occ

/-- **`initialize` establishes the property** for every duplicate-free list of units, every cap. -/
theorem init_inv (cap : Int) (units : List UnitIn) (hnd : (units.map (·.id)).Nodup) :
    OccInv (relOf units) (cellOfUnits units) (Occ.init cap units) := by
  obtain ⟨hw, hr⟩ := empty_inv cap
  have := foldl_inv units (State.empty cap) (fun _ => none) hw hr rfl rfl hnd (fun _ _ => rfl)
  obtain ⟨h1, h2, h3, _, h5⟩ := this
  refine ⟨h1, Or.inl ⟨h2, h3⟩, ?_⟩
  intro u c
  have := h5 u c
  simp only [Occ.init] at this h2 ⊢
  rw [this]
  simp [h2]

/-- **`update` preserves the property** for every new active unit (relevant or not, taken from the
occupants or from the surplus, in the same or another cell, identity changed or not), and never
raises.  Premises (what the mediator guarantees between two calls): every unit other than a
*continuing* active unit is still in the cell it was in (`hmove`; for the previous active unit of a
lifting this is "it has not left its recorded cell"), and the caller passes the true relevance and
the true cell of the new active unit. -/
theorem update_inv {rel : UId → Bool} {cellOf cellOf' : UId → Cell} {s : State} (new : UnitIn)
    (h : OccInv rel cellOf s)
    (hrel : new.relevant = rel new.id) (hcell : new.cell = cellOf' new.id)
    (hmove : ∀ u, ¬(u = new.id ∧ s.activeId = some u) → cellOf' u = cellOf u) :
    ∃ s', update s new = .ok s' ∧ OccInv rel cellOf' s' := by
  unfold update
  by_cases hid : s.activeId = some new.id
  · have : (some new.id != s.activeId) = false := by simp [hid]
    simp only [this, Bool.false_eq_true, if_false]
    refine ⟨_, rfl, wf_of_fields h.wf rfl rfl rfl, ?_, ?_⟩
    · rcases h.active with ⟨ha, _⟩ | ⟨a, ha, _, hra⟩
      · rw [ha] at hid; cases hid
      · rw [ha] at hid; cases hid
        exact Or.inr ⟨new.id, ha, by simp [hcell], hra⟩
    · intro u c
      have := h.count u c
      simp only [recCount, surAt] at this ⊢
      rw [this]
      by_cases hu : u = new.id
      · subst hu; simp [hid]
      · simp only [hmove u (fun hh => hu hh.1)]
  · have : (some new.id != s.activeId) = true := by
      simp only [bne_iff_ne, ne_eq]; exact fun hh => hid hh.symm
    simp only [this, if_true]
    have hall : ∀ u, cellOf' u = cellOf u := fun u => hmove u (fun hh => hid (hh.1 ▸ hh.2))
    have hfun : cellOf' = cellOf := funext hall
    subst hfun
    obtain ⟨s1, he, hw1, hr1⟩ := reinsertOld_spec h
    rw [he]
    exact activate_inv new hw1 hr1 hrel hcell


/-- The legs of a run as the occupancy sees them: `initialize` on a duplicate-free list of units, then
any number of `update` calls.  Between two calls the world may change (`cellOf ↦ cellOf'`) subject to
the two premises of `update_inv`: only a *continuing* active unit changes its cell. -/
inductive Reach (rel : UId → Bool) : State → (UId → Cell) → Prop
  | init (cap : Int) (units : List UnitIn) (hnd : (units.map (·.id)).Nodup) (hrel : rel = relOf units) :
      Reach rel (Occ.init cap units) (cellOfUnits units)
  | step {s : State} {cellOf : UId → Cell} (new : UnitIn) (cellOf' : UId → Cell) (s' : State) :
      Reach rel s cellOf → new.relevant = rel new.id → new.cell = cellOf' new.id →
      (∀ u, ¬(u = new.id ∧ s.activeId = some u) → cellOf' u = cellOf u) →
      update s new = .ok s' → Reach rel s' cellOf'

/-- **Main theorem**: the property holds at every leg of every such history (any grid, any cap, any
charge filter, any sequence of new active units). -/
theorem reach_inv {rel : UId → Bool} {s : State} {cellOf : UId → Cell} (h : Reach rel s cellOf) :
    OccInv rel cellOf s := by
  induction h with
  | init cap units hnd hrel => subst hrel; exact init_inv cap units hnd
  | step new cellOf' s' _ hrel hcell hmove hupd ih =>
    obtain ⟨s'', he, hinv⟩ := update_inv new ih hrel hcell hmove
    rw [he] at hupd; cases hupd; exact hinv

/-- … and the next `update` never ends in one of the error branches. -/
theorem reach_update_ok {rel : UId → Bool} {s : State} {cellOf cellOf' : UId → Cell} (h : Reach rel s cellOf)
    (new : UnitIn) (hrel : new.relevant = rel new.id) (hcell : new.cell = cellOf' new.id)
    (hmove : ∀ u, ¬(u = new.id ∧ s.activeId = some u) → cellOf' u = cellOf u) :
    ∃ s', update s new = .ok s' :=
  let ⟨s', he, _⟩ := update_inv new (reach_inv h) hrel hcell hmove
  ⟨s', he⟩

/-! ### what the invariant says about the public answers -/

section api
variable {rel : UId → Bool} {cellOf : UId → Cell} {s : State}

/-- whoever is listed under a cell (occupant or surplus) is a relevant non-active unit whose position
is in that cell -/
theorem recorded_sound (h : OccInv rel cellOf s) {u : UId} {c : Cell} (hp : 0 < recCount s u c) :
    rel u = true ∧ s.activeId ≠ some u ∧ c = cellOf u := by
  have hcnt := h.count u c
  dsimp only at hcnt
  by_cases hc : rel u = true ∧ s.activeId ≠ some u
  · simp only [if_pos hc, Option.some.injEq] at hcnt
    by_cases hcc : cellOf u = c
    · exact ⟨hc.1, hc.2, hcc.symm⟩
    · simp only [if_neg hcc] at hcnt; omega
  · simp only [if_neg hc] at hcnt
    simp at hcnt; omega

theorem getItem_sound (h : OccInv rel cellOf s) {u : UId} {c : Cell} (hm : u ∈ getItem s c) :
    rel u = true ∧ s.activeId ≠ some u ∧ c = cellOf u := by
  apply recorded_sound h
  have : 0 < (s.occupants c).count u := List.count_pos_iff.mpr hm
  simp only [recCount]; omega

theorem surplus_sound (h : OccInv rel cellOf s) {k : Cell} {l : List UId} (hm : (k, l) ∈ s.surplus)
    {u : UId} (hu : u ∈ l) : rel u = true ∧ s.activeId ≠ some u ∧ k = cellOf u := by
  apply recorded_sound h
  have hg := Dict.get?_of_mem _ h.wf.keys_nodup hm
  have : 0 < l.count u := List.count_pos_iff.mpr hu
  simp only [recCount, surAt, hg, Option.getD_some]; omega

theorem count_yieldSurplus (h : OccInv rel cellOf s) (u : UId) :
    (yieldSurplus s).count u = (surAt s (cellOf u)).count u := by
  apply Dict.count_values _ h.wf.keys_nodup
  intro k l hm hk
  by_contra hne
  have hu : u ∈ l := List.count_pos_iff.mp (Nat.pos_of_ne_zero hne)
  exact hk (surplus_sound h hm hu).2.2

/-- every relevant non-active unit is recorded exactly once, and that under the cell containing its
position -/
theorem recorded_exactly_once (h : OccInv rel cellOf s) {u : UId} (hr : rel u = true)
    (ha : s.activeId ≠ some u) :
    (getItem s (cellOf u)).count u + (yieldSurplus s).count u = 1 ∧
    ∀ c, c ≠ cellOf u → u ∉ getItem s c := by
  constructor
  · rw [count_yieldSurplus h]
    have := h.count u (cellOf u)
    simpa [recCount, hr, ha, getItem] using this
  · intro c hc hm
    exact hc (getItem_sound h hm).2.2

/-- the active unit and irrelevant units are in no list -/
theorem not_recorded (h : OccInv rel cellOf s) {u : UId} (hn : rel u = false ∨ s.activeId = some u) :
    (∀ c, u ∉ getItem s c) ∧ u ∉ yieldSurplus s := by
  have key : ∀ c, recCount s u c = 0 := by
    intro c
    rw [h.count u c]
    rcases hn with hn | hn <;> simp [hn]
  constructor
  · intro c hm
    have : 0 < (s.occupants c).count u := List.count_pos_iff.mpr hm
    have := key c
    simp only [recCount] at this; omega
  · intro hm
    have h1 : 0 < (yieldSurplus s).count u := List.count_pos_iff.mpr hm
    rw [count_yieldSurplus h] at h1
    have := key (cellOf u)
    simp only [recCount] at this; omega

/-- the active unit is reported with the cell containing its position -/
theorem active_recorded (h : OccInv rel cellOf s) {a : UId} (ha : s.activeId = some a) :
    yieldActiveCells s = [(some (cellOf a), some a)] ∧ rel a = true := by
  rcases h.active with ⟨hn, _⟩ | ⟨a', ha', hc, hr⟩
  · rw [hn] at ha; cases ha
  · rw [ha'] at ha; cases ha
    simp [yieldActiveCells, hc, ha', hr]

/-- without a relevant active unit nothing is reported -/
theorem no_active (h : OccInv rel cellOf s) (ha : s.activeId = none) : yieldActiveCells s = [] := by
  rcases h.active with ⟨_, hc⟩ | ⟨a', ha', _, _⟩
  · simp [yieldActiveCells, hc]
  · rw [ha'] at ha; cases ha

/-- no cell lists more occupants than the limit -/
theorem cap_respected (h : OccInv rel cellOf s) (hc : 0 < s.cap) (c : Cell) :
    ((getItem s c).length : Int) ≤ s.cap := h.wf.cap hc c

end api

/-! ### non-vacuity: a concrete history through all kinds of `update` -/

/-- four units, unit 3 irrelevant, cap 1: units 0 and 1 share cell 1 (so 1 goes to the surplus) -/
def exUnits : List UnitIn := [⟨0, true, 1⟩, ⟨1, true, 1⟩, ⟨2, true, 0⟩, ⟨3, false, 2⟩]

example : OccInv (relOf exUnits) (cellOfUnits exUnits) (Occ.init 1 exUnits) :=
  init_inv 1 exUnits (by decide)

example : yieldSurplus (Occ.init 1 exUnits) = [1] ∧ getItem (Occ.init 1 exUnits) 1 = [0] := by decide

/-- the state after an `update` that does not raise -/
def upd! (s : State) (n : UnitIn) : State :=
  match update s n with
  | .ok s' => s'
  | .error _ => s

def ex0 : State := Occ.init 1 exUnits
/-- activate the surplus unit 1 (cell 1) -/
def ex1 : State := upd! ex0 ⟨1, true, 1⟩
/-- it crosses into cell 2 (same identifier) -/
def ex2 : State := upd! ex1 ⟨1, true, 2⟩
/-- lifting to unit 0 (an occupant of cell 1); unit 1 is re-inserted under its recorded cell 2 -/
def ex3 : State := upd! ex2 ⟨0, true, 1⟩
/-- lifting to the irrelevant unit 3 -/
def ex4 : State := upd! ex3 ⟨3, false, 2⟩

/-- a history through all kinds of `update` satisfies the premises of `Reach.step` -/
example : ∃ cellOf, Reach (relOf exUnits) ex4 cellOf ∧ ex4.activeId = none ∧ getItem ex4 2 = [1] ∧
    getItem ex4 1 = [0] ∧ ex2.activeCell = some 2 ∧ yieldSurplus ex1 = [] := by
  let c0 := cellOfUnits exUnits
  let c1 : UId → Cell := fun u => if u = 1 then 2 else c0 u
  have r0 : Reach (relOf exUnits) ex0 c0 := .init 1 exUnits (by decide) rfl
  have r1 : Reach (relOf exUnits) ex1 c0 :=
    .step (s := ex0) ⟨1, true, 1⟩ c0 ex1 r0 (by decide) (by decide) (fun _ _ => rfl) (by rfl)
  have r2 : Reach (relOf exUnits) ex2 c1 :=
    .step (s := ex1) ⟨1, true, 2⟩ c1 ex2 r1 (by decide) (by decide)
      (by intro u hu; simp only [c1]; split
          · rename_i h; subst h; exact absurd ⟨rfl, by decide⟩ hu
          · rfl) (by rfl)
  have r3 : Reach (relOf exUnits) ex3 c1 :=
    .step (s := ex2) ⟨0, true, 1⟩ c1 ex3 r2 (by decide) (by decide) (fun _ _ => rfl) (by rfl)
  have r4 : Reach (relOf exUnits) ex4 c1 :=
    .step (s := ex3) ⟨3, false, 2⟩ c1 ex4 r3 (by decide) (by decide) (fun _ _ => rfl) (by rfl)
  exact ⟨_, r4, by decide, by decide, by decide, by decide, by decide⟩

/-- `update_inv` applied to a concrete leg: the cell crossing `ex1 → ex2` of the active unit 1 -/
example : ∃ s', update ex1 ⟨1, true, 2⟩ = .ok s' ∧
    OccInv (relOf exUnits) (fun u => if u = 1 then 2 else cellOfUnits exUnits u) s' := by
  have r0 : Reach (relOf exUnits) ex0 (cellOfUnits exUnits) := .init 1 exUnits (by decide) rfl
  have r1 : Reach (relOf exUnits) ex1 (cellOfUnits exUnits) :=
    .step (s := ex0) ⟨1, true, 1⟩ _ ex1 r0 (by decide) (by decide) (fun _ _ => rfl) (by rfl)
  refine update_inv ⟨1, true, 2⟩ (reach_inv r1) (by decide) (by decide) ?_
  intro u hu
  split
  · rename_i h; subst h; exact absurd ⟨rfl, by decide⟩ hu
  · rfl

/-- The premise of `update_inv` is necessary: if the previous active unit has left its recorded cell
without a cell-boundary event (here unit 1, recorded in cell 2, really in cell 0) when the active
unit changes, `update` files it under the old cell and the property fails. -/
example : ¬ OccInv (relOf exUnits) (fun u => if u = 1 then 0 else cellOfUnits exUnits u) ex3 := by
  intro h
  have := h.count 1 0
  revert this
  decide

/-- the charge filter in the exact reading: a unit is relevant iff no charge is named or its charge is
non-zero -/
theorem isRelevant_rat (given : Bool) (q : ℚ) :
    isRelevant Ops.rat given q = true ↔ (given = true → q ≠ 0) := by
  cases given <;> simp [isRelevant]

/-! ### the cell-boundary event in exact arithmetic (motion along one axis, either sign)

The theorems of this section address the premise of `update_inv` / `Reach.step` ("the active unit is in its
recorded cell until a cell-boundary event, and then in the neighbour"): the candidate time computed by
`CellBoundaryEventHandler.send_event_time` is the exact crossing time, and `send_out_state` puts
the unit on a point that `position_to_cell` maps to the neighbour. -/

theorem line_up {x v c : ℚ} (hv : 0 < v) (hc : x < c) :
    0 < (c - x) / v ∧ (∀ τ, 0 ≤ τ → τ < (c - x) / v → x ≤ x + v * τ ∧ x + v * τ < c) ∧
      x + v * ((c - x) / v) = c := by
  refine ⟨div_pos (sub_pos.mpr hc) hv, fun τ h0 h1 => ?_, by rw [mul_div_cancel₀ _ hv.ne']; ring⟩
  have := (lt_div_iff₀ hv).mp h1
  rw [mul_comm] at this
  exact ⟨le_add_of_nonneg_right (mul_nonneg hv.le h0), lt_sub_iff_add_lt'.mp this⟩

/-- the mirror image: moving down from `x` with `v < 0` to `c < x` -/
theorem line_down {x v c : ℚ} (hv : v < 0) (hc : c < x) :
    0 < (x - c) / (-v) ∧ (∀ τ, 0 ≤ τ → τ < (x - c) / (-v) → c < x + v * τ ∧ x + v * τ ≤ x) ∧
      x + v * ((x - c) / (-v)) = c := by
  have h := line_up (x := -x) (neg_pos.mpr hv) (neg_lt_neg hc)
  rw [neg_sub_neg] at h
  refine ⟨h.1, fun τ h0 h1 => ?_, by rw [← neg_inj, neg_add, ← neg_mul]; exact h.2.2⟩
  have := h.2.1 τ h0 h1
  rw [neg_mul, ← neg_add, neg_le_neg_iff, neg_lt_neg_iff] at this
  exact ⟨this.2, this.1⟩

/-- the lower neighbour `(i + n − 1) mod n` of cell `i` among `n ≥ 2` cells: the cell above it is cell `i`, or — for
`i = 0`, through the periodic boundary — the one past the last -/
theorem prev_succ {i n : ℕ} (hi : i < n) (hn2 : 2 ≤ n) :
    (i = 0 ∧ (i + n - 1) % n + 1 = n) ∨ (0 < i ∧ (i + n - 1) % n + 1 = i) := by
  rcases Nat.eq_zero_or_pos i with rfl | hp
  · rw [Nat.zero_add, Nat.mod_eq_of_lt (by omega)]
    exact Or.inl ⟨rfl, by omega⟩
  · have : i + n - 1 = (i - 1) + n := by omega
    rw [this, Nat.add_mod_right, Nat.mod_eq_of_lt (by omega)]
    exact Or.inr ⟨hp, by omega⟩

/-- negative direction: the time `send_event_time` computes is that of the straight line from `x` down to a target `t`:
the lower neighbour's `cell_max`, seen below the box (`− L`) from cell 0, whose lower neighbour is the last cell.  Seen
from there the neighbour's upper edge is the lower edge of cell `i`. -/
theorem timeToBoundary_down_eq (g : Grid) {i : ℕ} (hi : i < g.n) (hn2 : 2 ≤ g.n) {x v cmaxPrev : ℚ} (bMin : ℚ)
    (hx0 : g.cmin i ≤ x) (hx1 : x < g.cmin (i + 1)) (hv : v < 0)
    (hc0 : g.cmin ((i + g.n - 1) % g.n) ≤ cmaxPrev) (hc1 : cmaxPrev < g.cmin ((i + g.n - 1) % g.n + 1)) :
    ∃ t, (t = cmaxPrev ∨ t = cmaxPrev - g.L ∧ i = 0) ∧ t < g.cmin i ∧
      g.cmin ((i + g.n - 1) % g.n + 1) = g.cmin i + (cmaxPrev - t) ∧
      timeToBoundary Ops.rat g.L x v bMin cmaxPrev = ((x - t) / (-v), cmaxPrev) := by
  simp only [timeToBoundary, rat_ofInt, Int.cast_zero, not_lt.mpr hv.le, if_false]
  have hc0' := g.cmin_succ ((i + g.n - 1) % g.n)
  rcases prev_succ hi hn2 with ⟨rfl, hj⟩ | ⟨_, hj⟩
  · -- `x < side ≤ L - side ≤ cmaxPrev`
    rw [hj] at hc0' hc1 ⊢
    have h2 : 2 * g.side ≤ g.L := mul_le_mul_of_nonneg_right (by exact_mod_cast hn2) g.hside.le
    have hL : g.cmin g.n = g.L := rfl
    rw [g.cmin_succ, g.cmin_zero] at hx1
    refine ⟨cmaxPrev - g.L, Or.inr ⟨rfl, rfl⟩, by rw [g.cmin_zero]; exact sub_neg.mpr hc1,
      by rw [g.cmin_zero, hL, zero_add, sub_sub_cancel], ?_⟩
    rw [if_pos (by linarith), sub_add]
  · rw [hj] at hc1 ⊢
    refine ⟨cmaxPrev, Or.inl rfl, hc1, by rw [sub_self, add_zero], ?_⟩
    rw [if_neg (not_lt.mpr (sub_nonneg.mpr (hc1.le.trans hx0)))]

/-- **Cell-boundary event, positive direction, exact arithmetic.**  A unit at `x` inside cell `i`
moving with `v > 0`: the scheduled time is positive, strictly before it the unit is still in cell
`i`, the stored boundary is the neighbour's `cell_min`, which `position_to_cell` maps to the
neighbour `(i+1) mod n` (through the periodic boundary too), and overwriting the coordinate by the
boundary agrees with the time-sliced coordinate modulo the box length.
(`hpos` excludes the one-cell direction with the unit exactly on `0`, where the time is `0`.) -/
theorem boundary_pos (g : Grid) (i : ℕ) (hi : i < g.n) (x v bMax : ℚ)
    (hx0 : g.cmin i ≤ x) (hx1 : x < g.cmin (i + 1)) (hv : 0 < v) (hpos : i + 1 = g.n → 0 < x) :
    let r := timeToBoundary Ops.rat g.L x v (g.cmin ((i + 1) % g.n)) bMax
    0 < r.1 ∧ (∀ τ, 0 ≤ τ → τ < r.1 → g.cmin i ≤ x + v * τ ∧ x + v * τ < g.cmin (i + 1)) ∧
    r.2 = g.cmin ((i + 1) % g.n) ∧ g.idx r.2 = ((i + 1) % g.n : ℕ) ∧
    (x + v * r.1 = r.2 ∨ x + v * r.1 = r.2 + g.L) := by
  obtain ⟨k1, k2, k3⟩ := line_up hv hx1
  have k2' : ∀ τ, 0 ≤ τ → τ < (g.cmin (i + 1) - x) / v → g.cmin i ≤ x + v * τ ∧ x + v * τ < g.cmin (i + 1) :=
    fun τ h0 h1 => ⟨hx0.trans (k2 τ h0 h1).1, (k2 τ h0 h1).2⟩
  have hidx : g.idx (g.cmin ((i + 1) % g.n)) = ((i + 1) % g.n : ℕ) :=
    g.idx_eq (Nat.mod_lt _ g.hn) le_rfl (by rw [g.cmin_succ]; linarith [g.hside])
  simp only [timeToBoundary, rat_ofInt, Int.cast_zero, hv, if_true]
  -- whether or not the neighbour is reached through the periodic boundary, the separation is `cmin (i + 1) - x`
  rcases Nat.lt_or_ge (i + 1) g.n with hlt | hge
  · rw [Nat.mod_eq_of_lt hlt] at hidx ⊢
    rw [if_neg (not_lt.mpr (sub_pos.mpr hx1).le)]
    exact ⟨k1, k2', trivial, hidx, Or.inl k3⟩
  · have hin : i + 1 = g.n := by omega
    have hL : g.cmin (i + 1) = g.L := by rw [hin]; rfl
    have hmod : (i + 1) % g.n = 0 := by rw [hin, Nat.mod_self]
    rw [hmod, g.cmin_zero] at hidx ⊢
    rw [zero_sub, if_pos (neg_lt_zero.mpr (hpos hin)), neg_add_eq_sub, ← hL]
    exact ⟨k1, k2', trivial, hidx, Or.inr (k3.trans (zero_add _).symm)⟩

/-- Consequence for a leg of the run: any event committed strictly before the scheduled cell-boundary
time finds the time-sliced coordinate `correct_position_entry(x + v τ)` (`_time_slice_unit`; `JF.pywrap`, which is
`(x + v τ) % L` in this exact reading) still in the recorded cell `i`. -/
theorem stays_in_cell_pos (g : Grid) (i : ℕ) (hi : i < g.n) (x v bMax : ℚ)
    (hx0 : g.cmin i ≤ x) (hx1 : x < g.cmin (i + 1)) (hv : 0 < v) (hpos : i + 1 = g.n → 0 < x)
    (τ : ℚ) (h0 : 0 ≤ τ)
    (h1 : τ < (timeToBoundary Ops.rat g.L x v (g.cmin ((i + 1) % g.n)) bMax).1) :
    g.idx (pywrap Ops.rat (x + v * τ) g.L) = i := by
  obtain ⟨_, hb, _⟩ := boundary_pos g i hi x v bMax hx0 hx1 hv hpos
  obtain ⟨b0, b1⟩ := hb τ h0 h1
  rw [pywrap_rat_of_mem ((g.cmin_nonneg i).trans b0) (b1.trans_le (g.cmin_le_L (Nat.succ_le_of_lt hi)))]
  exact g.idx_eq hi b0 b1

/-- **Cell-boundary event, negative direction, exact arithmetic.**  The handler aims at the lower
neighbour's `cell_max`, for which only the constructor's post-condition is used
(`position_to_cell(cell_max) = that cell`, hypotheses `hc0 hc1`).  The scheduled time is positive, the
stored boundary is that `cell_max`, `position_to_cell` maps it to the neighbour `(i-1) mod n`
(through the periodic boundary too), the overwritten coordinate agrees with the time-sliced one
modulo the box length, and the unit is in cell `i` at least until it reaches the lower edge of its
cell, which happens strictly before the event.
`_partial`: between the lower edge of cell `i` and the neighbour's `cell_max` the exact reading has a
sliver in which the unit is already outside cell `i` before the event fires; in binary64 the two
numbers are adjacent floats (`CuboidCells.__init__` nudges them), so no representable position lies
in between — that closing step is `stays_in_cell_neg` (hypothesis `hgap`). -/
theorem boundary_neg_partial (g : Grid) (i : ℕ) (hi : i < g.n) (hn2 : 2 ≤ g.n) (x v bMin cmaxPrev : ℚ)
    (hx0 : g.cmin i ≤ x) (hx1 : x < g.cmin (i + 1)) (hv : v < 0)
    (hc0 : g.cmin ((i + g.n - 1) % g.n) ≤ cmaxPrev) (hc1 : cmaxPrev < g.cmin ((i + g.n - 1) % g.n + 1)) :
    let r := timeToBoundary Ops.rat g.L x v bMin cmaxPrev
    0 < r.1 ∧ r.2 = cmaxPrev ∧ g.idx r.2 = ((i + g.n - 1) % g.n : ℕ) ∧
    (x + v * r.1 = r.2 ∨ x + v * r.1 = r.2 - g.L) ∧
    (∀ τ, 0 ≤ τ → τ ≤ (x - g.cmin i) / (-v) → g.idx (x + v * τ) = i) ∧
    (x - g.cmin i) / (-v) < r.1 := by
  obtain ⟨t, ht, ht1, _, hr⟩ := timeToBoundary_down_eq g hi hn2 bMin hx0 hx1 hv hc0 hc1
  have hv' : 0 < -v := neg_pos.mpr hv
  obtain ⟨k1, _, k3⟩ := line_down hv (ht1.trans_le hx0)
  rw [hr]
  dsimp only
  refine ⟨k1, rfl, g.idx_eq (Nat.mod_lt _ g.hn) hc0 hc1, ?_, fun τ h0 h1 => ?_,
    div_lt_div_of_pos_right (sub_lt_sub_left ht1 x) hv'⟩
  · rw [k3]
    rcases ht with rfl | ⟨rfl, _⟩
    · exact Or.inl rfl
    · exact Or.inr rfl
  · have e : x + v * τ = x - τ * -v := by ring
    rw [e]
    exact g.idx_eq hi (le_sub_comm.mpr ((le_div_iff₀ hv').mp h1))
      ((sub_le_self x (mul_nonneg h0 hv'.le)).trans_lt hx1)

/-! non-vacuity of the two boundary theorems: three cells of side 1/3, unit in the last / first cell -/

def exGrid : Grid := ⟨3, 1 / 3, by decide, by norm_num⟩

example : let r := timeToBoundary Ops.rat exGrid.L (5 / 6) 2 (exGrid.cmin ((2 + 1) % 3)) 0
    r = (1 / 12, 0) ∧ exGrid.idx r.2 = 0 := by
  have := boundary_pos exGrid 2 (by decide) (5 / 6) 2 0 (by decide +kernel)
    (by decide +kernel) (by norm_num) (by intro _; norm_num)
  exact ⟨by decide +kernel, this.2.2.2.1⟩

example : exGrid.idx (pywrap Ops.rat (5 / 6 + 2 * (1 / 24)) exGrid.L) = 2 :=
  stays_in_cell_pos exGrid 2 (by decide) (5 / 6) 2 0 (by decide +kernel)
    (by decide +kernel) (by norm_num) (by intro _; norm_num) (1 / 24) (by norm_num)
    (by decide +kernel)

example : let r := timeToBoundary Ops.rat exGrid.L (1 / 6) (-2) 0 (99 / 100)
    0 < r.1 ∧ r.2 = 99 / 100 ∧ exGrid.idx r.2 = 2 :=
  let h := boundary_neg_partial exGrid 0 (by decide) (by decide) (1 / 6) (-2) 0 (99 / 100)
    (by decide +kernel) (by decide +kernel) (by norm_num)
    (by decide +kernel) (by decide +kernel)
  ⟨h.1, h.2.1, h.2.2.1⟩


/-- **Cell-boundary event, negative direction, closed by the adjacency of the recorded extents.**
`F` is the set of representable scalars (any set). `CuboidCells.__init__` nudges `cell_max` of the lower neighbour to the
scalar directly below `cell_min` of cell `i` (C16 part D, `cells_abut`: `next_up(cell_max) = cell_min`), i.e. **no representable
scalar lies strictly between them** — hypothesis `hgap` (for `i = 0` the neighbour is the last cell and the statement is
`last_cell_reaches_top`: no representable scalar in `(cell_max, L)`). Then the sliver that made `boundary_neg_partial` partial is
empty: every *representable* time-sliced coordinate `correct_position_entry(x + v τ)` observed strictly before the scheduled
cell-boundary time is still in the recorded cell `i`. -/
theorem stays_in_cell_neg (g : Grid) (i : ℕ) (hi : i < g.n) (hn2 : 2 ≤ g.n) (x v bMin cmaxPrev : ℚ)
    (hx0 : g.cmin i ≤ x) (hx1 : x < g.cmin (i + 1)) (hv : v < 0)
    (hc0 : g.cmin ((i + g.n - 1) % g.n) ≤ cmaxPrev) (hc1 : cmaxPrev < g.cmin ((i + g.n - 1) % g.n + 1))
    (F : ℚ → Prop) (hgap : ∀ y, F y → cmaxPrev < y → g.cmin ((i + g.n - 1) % g.n + 1) ≤ y)
    (τ : ℚ) (h0 : 0 ≤ τ) (h1 : τ < (timeToBoundary Ops.rat g.L x v bMin cmaxPrev).1)
    (hF : F (pywrap Ops.rat (x + v * τ) g.L)) :
    g.idx (pywrap Ops.rat (x + v * τ) g.L) = i := by
  obtain ⟨t, ht, ht1, hedge, hr⟩ := timeToBoundary_down_eq g hi hn2 bMin hx0 hx1 hv hc0 hc1
  rw [hr] at h1
  rw [hedge] at hgap
  obtain ⟨hy0, hy1⟩ := (line_down hv (ht1.trans_le hx0)).2.1 τ h0 h1
  have hyL : x + v * τ < g.L := hy1.trans_lt (hx1.trans_le (g.cmin_le_L hi))
  have hc : 0 ≤ cmaxPrev := (g.cmin_nonneg _).trans hc0
  rcases ht with rfl | ⟨rfl, rfl⟩
  · -- the line ends at `cmaxPrev ≥ 0`: no wrap, and the gap above `cmaxPrev` reaches up to the lower edge of cell `i`
    rw [sub_self, add_zero] at hgap
    rw [pywrap_rat_of_mem (hc.trans hy0.le) hyL] at hF ⊢
    exact g.idx_eq hi (hgap _ hF hy0) (hy1.trans_lt hx1)
  · -- cell 0: the line ends below the box
    rw [g.cmin_zero, zero_add, sub_sub_cancel] at hgap
    by_cases hneg : x + v * τ < 0
    · -- the wrapped coordinate would lie in `(cmaxPrev, L)`, which the gap excludes
      have h0L : -g.L ≤ x + v * τ := (neg_le_sub_iff_le_add.mpr (le_add_of_nonneg_left hc)).trans hy0.le
      rw [pywrap_rat_of_neg h0L hneg] at hF
      exact absurd ((le_add_iff_nonneg_left _).mp (hgap _ hF (sub_lt_iff_lt_add.mp hy0))) (not_le.mpr hneg)
    · rw [pywrap_rat_of_mem (not_lt.mp hneg) hyL]
      exact g.idx_eq hi (by rw [g.cmin_zero]; exact not_lt.mp hneg) (hy1.trans_lt hx1)


/-- non-vacuity of `stays_in_cell_neg`: three cells of side 1/3, unit in cell 0 moving down, scalars = hundredths; the last cell's
`cell_max` is 99/100 and no hundredth lies in (99/100, 1) -/
example : exGrid.idx (pywrap Ops.rat (1 / 10 + (-2) * (1 / 50)) exGrid.L) = 0 :=
  stays_in_cell_neg exGrid 0 (by decide) (by decide) (1 / 10) (-2) 0 (99 / 100)
    (by decide +kernel) (by decide +kernel) (by norm_num)
    (by decide +kernel) (by decide +kernel)
    (fun y => ∃ k : ℤ, y = k / 100)
    (by
      rintro y ⟨k, rfl⟩ h
      have h' : (99 : ℚ) < k := by linarith
      have : (100 : ℤ) ≤ k := by exact_mod_cast (by exact_mod_cast h' : (99 : ℤ) < k)
      have : (100 : ℚ) ≤ k := by exact_mod_cast this
      norm_num [Grid.cmin, exGrid]; linarith)
    (1 / 50) (by norm_num) (by decide +kernel)
    ⟨6, by decide +kernel⟩

end JF.C11
