import JF.Props.C19Heap
import JF.Props.MediatorLoop
/-!
# C19 at the level of the composed mediator loop: a pickled-and-restored run continues identically

Model: `JF/Model/Mediator.lean` (`JF.Med.leg`, `runLegs`: the loop of `SingleProcessMediator.run`, composed of the
activator model, a scheduler behind the interface `SchedI`, and `_event_handler_with_shortest_event_time`).

What a dump/resume does to the real mediator: the mediating method of the dumping event handler
(`Mediator.mediate_dumping_event_handler` → `DumpingOutputHandler.write`: `dill.dump([mediator, setting, uuid,
random.getstate()], file)`) is the last statement of the loop body of `SingleProcessMediator.run`, so the pickled mediator is
the mediator **at a leg boundary**; `resume.py` does `dill.load`, restores `setting`/`uuid`/the random state and calls
`mediator.run()`, which enters the loop at its top.  The whole object graph of the mediator goes through `dill`.

* **Modelled as the identity (trusted base, "`dill` on ordinary objects")**: the activator with its bookkeeping (`MedState.act`:
  tag activators, pools of running / not running handlers, activation flags), `_event_handler_with_shortest_event_time`
  (`MedState.preceding`), the event handlers with their stored in-states and the global state (not components of this machine:
  their answers are the `Oracle` values, the same for both runs), the dictionary `_minimal_valid_counter` and
  `_last_returned_event` of `HeapScheduler` (copied by `__getstate__`/`__setstate__` as they are; in `HSched.pickle` they are the
  untouched fields `mv`, `last`), and the whole `ListScheduler` (no custom pickling; `pickleL = id`, `resume_list`).  These
  identities are exercised, not proved, by C19's correspondence (real dump / `resume.main()` runs compared bit for bit).
* **Proved**: the one component that is *rebuilt* — the C heap of `HeapScheduler` (`__getstate__` reads `entry(0), entry(1), …`
  until the `NULL` handler, `__setstate__` inserts them one by one into a fresh `heap.c` heap; `HSched.pickle`, model in
  `JF/Model/Sched.lean`).  The rebuilt heap differs from the original (allocated size, memory beyond `length`), and the proof
  that no future answer of the scheduler depends on the difference rests on `LiveEq` and `push_liveEq`, `get_liveEq`,
  `trash_liveEq`, `pickle_liveEq` of `JF/Lemmas/HeapObsSched.lean`.  Nothing here goes through the spec-level scheduler or needs
  a no-tie hypothesis.

The argument: a leg uses the scheduler only through `SchedI`, so it respects any bisimulation of scheduler states (`leg_congr`);
`LiveEq` is one for the heap instance (`heapBisim`) and pickling stays inside it on reachable states (`good_dump`); whence
`resume_repeated` (any number of dumps at any leg boundaries), `resume_same_loop`, `resume_at_boundary`.  `resume_list` is the
list-scheduler version (identity).

Hypotheses of the heap theorems: `StrictWeak cfg` (the time order), `0 < W` (counter range of a C `unsigned int`),
`Med.Static M` (duplicate-free create lists and disjoint pools; holds for every configuration with `WiringSound`:
`JF.MediatorLoop.static_of_wiringSound`) — the hypotheses under which `JF.MediatorLoop` proves the loop invariant `MInv`,
which is what makes every reachable scheduler state refine C06's reference model (`Rel`), the premise of `pickle_liveEq`.
-/
namespace JF.C19Loop
open JF JF.Act JF.Heap JF.Sched JF.Med JF.MediatorLoop

variable {κ : Type}

/-! ### 1. what the mediator can observe of a scheduler through `SchedI` -/

/-- the three calls of `SingleProcessMediator.run` -/
inductive IOp (κ : Type) where
  | push (t : κ) (h : HandlerId)
  | get
  | trash (h : HandlerId)

/-- their full outcomes: nothing for `push_event`; handler **and time**, or which of the two `SchedulerError`s, for
`get_succeeding_event`; whether `trash_event` raised -/
inductive IOut (κ : Type) where
  | unit
  | got (r : GetRes κ)
  | trashed (ok : Bool)

/-- one call (a `trash_event` that raises leaves the scheduler as it was) -/
def istep (I : SchedI κ) (s : I.σ) : IOp κ → IOut κ × I.σ
  | .push t h => (.unit, I.push s t h)
  | .get => (.got (I.get s).2, (I.get s).1)
  | .trash h =>
    match I.trash s h with
    | some s' => (.trashed true, s')
    | none => (.trashed false, s)

def iouts (I : SchedI κ) : I.σ → List (IOp κ) → List (IOut κ)
  | _, [] => []
  | s, op :: ops => (istep I s op).1 :: iouts I (istep I s op).2 ops

/-- **observational equality through the interface**: every sequence of calls has the same outcomes (handlers, times,
kinds of error) on both states — of possibly different instances -/
def ObsEqI (I J : SchedI κ) (a : I.σ) (b : J.σ) : Prop := ∀ ops, iouts I a ops = iouts J b ops

def OptRel {α β : Type} (Q : α → β → Prop) : Option α → Option β → Prop
  | some a, some b => Q a b
  | none, none => True
  | _, _ => False

/-- a relation between scheduler states that every call preserves and that forces equal outcomes -/
structure Bisim (I J : SchedI κ) (Q : I.σ → J.σ → Prop) : Prop where
  push : ∀ {a : I.σ} {b : J.σ} (t : κ) (h : HandlerId), Q a b → Q (I.push a t h) (J.push b t h)
  get : ∀ {a : I.σ} {b : J.σ}, Q a b → (I.get a).2 = (J.get b).2 ∧ Q (I.get a).1 (J.get b).1
  trash : ∀ {a : I.σ} {b : J.σ} (h : HandlerId), Q a b → OptRel Q (I.trash a h) (J.trash b h)

section obs
variable {I J : SchedI κ}

theorem ObsEqI.step {a : I.σ} {b : J.σ} (h : ObsEqI I J a b) (op : IOp κ) :
    (istep I a op).1 = (istep J b op).1 ∧ ObsEqI I J (istep I a op).2 (istep J b op).2 := by
  constructor
  · have := h [op]; simpa [iouts] using this
  · intro ops
    have := h (op :: ops)
    simp only [iouts, List.cons.injEq] at this
    exact this.2

/-- observational equality is itself a bisimulation (the largest one: `Bisim.obsEq`) -/
theorem obsEqI_bisim : Bisim I J (ObsEqI I J) where
  push t h q := (q.step (.push t h)).2
  get {a b} q := by
    obtain ⟨h1, h2⟩ := q.step .get
    exact ⟨by simpa [istep] using h1, h2⟩
  trash {a b} h q := by
    obtain ⟨h1, h2⟩ := q.step (.trash h)
    cases ha : I.trash a h <;> cases hb : J.trash b h <;> simp only [istep, ha, hb] at h1 h2 <;> simp only [OptRel]
    · cases h1
    · cases h1
    · exact h2

theorem Bisim.obsEq {Q : I.σ → J.σ → Prop} (B : Bisim I J Q) {a : I.σ} {b : J.σ} (q : Q a b) : ObsEqI I J a b := by
  intro ops
  induction ops generalizing a b with
  | nil => rfl
  | cons op ops ih =>
    cases op with
    | push t h => simp only [iouts, istep]; rw [ih (B.push t h q)]
    | get =>
      obtain ⟨e, q'⟩ := B.get q
      simp only [iouts, istep]; rw [e, ih q']
    | trash h =>
      have := B.trash h q
      simp only [iouts, istep]
      cases ha : I.trash a h <;> cases hb : J.trash b h <;> rw [ha, hb] at this <;> simp only [OptRel] at this
      · simp only; rw [ih q]
      · simp only; rw [ih this]

end obs

/-! ### 2. one leg respects observational equality of the scheduler component -/

def ExRel {ε α β : Type} (P : α → β → Prop) : Except ε α → Except ε β → Prop
  | .ok a, .ok b => P a b
  | .error e, .error e' => e = e'
  | _, _ => False

theorem ExRel.cases {ε α β : Type} {P : α → β → Prop} {x : Except ε α} {y : Except ε β} (h : ExRel P x y) :
    (∃ e, x = .error e ∧ y = .error e) ∨ ∃ a b, x = .ok a ∧ y = .ok b ∧ P a b := by
  cases x <;> cases y <;> simp only [ExRel] at h
  · exact Or.inl ⟨_, congrArg _ h, rfl⟩
  · exact Or.inr ⟨_, _, rfl, rfl, h⟩

/-- two mediator states that differ at most in the scheduler component, and there by `Q` -/
structure StRel {σ τ : Type} (Q : σ → τ → Prop) (s : MedState σ) (s' : MedState τ) : Prop where
  act : s.act = s'.act
  preceding : s.preceding = s'.preceding
  sched : Q s.sched s'.sched

section congr
variable {I J : SchedI κ} {Q : I.σ → J.σ → Prop}

theorem pushLoop_congr (B : Bisim I J Q) (M : MWire) (o : Oracle κ) :
    ∀ (created : List (HandlerId × IdTuple)) (a : I.σ) (b : J.σ), Q a b →
      ExRel Q (pushLoop M I o a created) (pushLoop M J o b created) := by
  intro created
  induction created with
  | nil => intro a b q; exact q
  | cons x rest ih =>
    intro a b q
    obtain ⟨h, ids⟩ := x
    unfold pushLoop
    by_cases hc : (M.needsInState h != ids.isSome) = true
    · rw [if_pos hc, if_pos hc]; exact rfl
    · rw [if_neg hc, if_neg hc]; exact ih _ _ (B.push _ _ q)

theorem trashAll_congr (B : Bisim I J Q) :
    ∀ (hs : List HandlerId) (a : I.σ) (b : J.σ), Q a b → ExRel Q (trashAll I a hs) (trashAll J b hs) := by
  intro hs
  induction hs with
  | nil => intro a b q; exact q
  | cons h hs ih =>
    intro a b q
    have := B.trash h q
    unfold trashAll
    cases ha : I.trash a h <;> cases hb : J.trash b h <;> rw [ha, hb] at this <;> simp only [OptRel] at this
    · exact rfl
    · exact ih _ _ this

/-- **`leg` is a function of the scheduler only through its observable interface**: from two mediator states with the same
activator bookkeeping and the same preceding handler whose scheduler states are related by a bisimulation (in particular:
observationally equal, `leg_respects_obsEq`), one leg on the same oracle value raises the same exception, or succeeds with
exactly the same record (handed-out handlers, pushes, **committed handler and time**, trash list, stop flag) and again
related states -/
theorem leg_congr (B : Bisim I J Q) (M : MWire) (o : Oracle κ) {st : MedState I.σ} {st' : MedState J.σ}
    (r : StRel Q st st') :
    ExRel (fun x y => x.2 = y.2 ∧ StRel Q x.1 y.1) (leg M I st o) (leg M J st' o) := by
  obtain ⟨a, s, p⟩ := st
  obtain ⟨a', s', p'⟩ := st'
  obtain ⟨e1, e2, q⟩ := r
  simp only at e1 e2 q
  subst e1 e2
  unfold leg
  simp only
  cases (getToRun M.w M.S a p o.yields).2 with
  | tagActivatorError => exact rfl
  | assertionError => exact rfl
  | keyError => exact rfl
  | ok created =>
    simp only
    rcases (pushLoop_congr B M o created s s' q).cases with ⟨e, hp, hp'⟩ | ⟨s1, s1', hp, hp', h1⟩
    · rw [hp, hp']; exact rfl
    · rw [hp, hp']
      simp only
      obtain ⟨g1, g2⟩ := B.get h1
      rw [← g1]
      cases (I.get s1).2 with
      | empty => exact rfl
      | guard h t => exact rfl
      | ok h t =>
        simp only
        cases (getTrashable M.w (getToRun M.w M.S a p o.yields).1 h).2 with
        | keyError => exact rfl
        | assertionError => exact rfl
        | ok trashed =>
          simp only
          rcases (trashAll_congr B trashed _ _ g2).cases with ⟨e, ht, ht'⟩ | ⟨s2, s2', ht, ht', h3⟩
          · rw [ht, ht']; exact rfl
          · rw [ht, ht']; exact ⟨rfl, rfl, rfl, h3⟩

theorem leg_respects_obsEq (M : MWire) (o : Oracle κ) {st : MedState I.σ} {st' : MedState J.σ}
    (r : StRel (ObsEqI I J) st st') :
    ExRel (fun x y => x.2 = y.2 ∧ StRel (ObsEqI I J) x.1 y.1) (leg M I st o) (leg M J st' o) :=
  leg_congr obsEqI_bisim M o r

end congr

/-! ### 3. whole runs, with the exception that ended them, and runs with dumps in between -/

/-- `JF.Med.runLegs`, keeping the exception that left the loop (`runLegsE_runLegs`: forgetting it gives `runLegs`) -/
def runLegsE (M : MWire) (I : SchedI κ) :
    MedState I.σ → List (Oracle κ) → List (Committed κ) × Except Err (MedState I.σ)
  | st, [] => ([], .ok st)
  | st, o :: os =>
    match leg M I st o with
    | .error e => ([], .error e)
    | .ok (st', c) =>
      if c.stop then ([c], .ok st')
      else
        let r := runLegsE M I st' os
        (c :: r.1, r.2)

theorem runLegsE_runLegs (M : MWire) (I : SchedI κ) : ∀ (os : List (Oracle κ)) (st : MedState I.σ),
    runLegs M I st os = ((runLegsE M I st os).1, (runLegsE M I st os).2.toOption) := by
  intro os
  induction os with
  | nil => intro st; rfl
  | cons o os ih =>
    intro st
    unfold runLegs runLegsE
    cases leg M I st o with
    | error e => rfl
    | ok x =>
      obtain ⟨st', c⟩ := x
      simp only
      by_cases hc : c.stop = true
      · rw [if_pos hc, if_pos hc]; rfl
      · rw [if_neg hc, if_neg hc, ih st']

/-- one step of an interrupted run: a leg of the loop, or a dump followed by a resume (the mediator is pickled at the end of a
leg — `mediate_dumping_event_handler` is the last statement of the loop body — and the run is continued on the unpickled
copy: `resume.py` loads the mediator and calls `run`, which enters the loop at its top) -/
inductive Step (κ : Type) where
  | leg (o : Oracle κ)
  | dump

def oraclesOf : List (Step κ) → List (Oracle κ)
  | [] => []
  | .leg o :: ss => o :: oraclesOf ss
  | .dump :: ss => oraclesOf ss

/-- the mediator after a dump/resume, `pk` being what pickling does to the scheduler object.  Every other component —
activator bookkeeping (`act`), `_event_handler_with_shortest_event_time` (`preceding`) — is restored as it was: this is the
modelling assumption "`dill` is the identity on ordinary objects" (trusted base, exercised by the real dump/resume runs of
C19's check) -/
def dumpWith {σ : Type} (pk : σ → σ) (st : MedState σ) : MedState σ := { st with sched := pk st.sched }

def runD (M : MWire) (I : SchedI κ) (pk : I.σ → I.σ) :
    MedState I.σ → List (Step κ) → List (Committed κ) × Except Err (MedState I.σ)
  | st, [] => ([], .ok st)
  | st, .dump :: ss => runD M I pk (dumpWith pk st) ss
  | st, .leg o :: ss =>
    match leg M I st o with
    | .error e => ([], .error e)
    | .ok (st', c) =>
      if c.stop then ([c], .ok st')
      else
        let r := runD M I pk st' ss
        (c :: r.1, r.2)

/-- same commits (all fields), same exception, related final states -/
def RunRel {σ τ : Type} (Q : σ → τ → Prop) (r : List (Committed κ) × Except Err (MedState σ))
    (r' : List (Committed κ) × Except Err (MedState τ)) : Prop :=
  r.1 = r'.1 ∧ ExRel (StRel Q) r.2 r'.2

theorem runLegsE_cons (M : MWire) (I : SchedI κ) (st : MedState I.σ) (o : Oracle κ) (os : List (Oracle κ)) :
    runLegsE M I st (o :: os) =
      match leg M I st o with
      | .error e => ([], .error e)
      | .ok (st', c) => if c.stop then ([c], .ok st') else (c :: (runLegsE M I st' os).1, (runLegsE M I st' os).2) := by
  rw [runLegsE]

theorem runD_leg (M : MWire) (I : SchedI κ) (pk : I.σ → I.σ) (st : MedState I.σ) (o : Oracle κ) (ss : List (Step κ)) :
    runD M I pk st (.leg o :: ss) =
      match leg M I st o with
      | .error e => ([], .error e)
      | .ok (st', c) => if c.stop then ([c], .ok st') else (c :: (runD M I pk st' ss).1, (runD M I pk st' ss).2) := by
  rw [runD]

theorem oraclesOf_legs (os : List (Oracle κ)) : oraclesOf (os.map .leg) = os := by
  induction os with
  | nil => rfl
  | cons o os ih => exact congrArg (o :: ·) ih

theorem runD_id (M : MWire) (I : SchedI κ) : ∀ (ss : List (Step κ)) (st : MedState I.σ),
    runD M I id st ss = runLegsE M I st (oraclesOf ss) := by
  intro ss
  induction ss with
  | nil => intro st; rfl
  | cons x ss ih =>
    intro st
    cases x with
    | dump => exact ih st
    | leg o =>
      rw [runD_leg]
      show _ = runLegsE M I st (o :: oraclesOf ss)
      rw [runLegsE_cons]
      cases leg M I st o with
      | error e => rfl
      | ok y =>
        obtain ⟨s', c⟩ := y
        simp only
        rw [ih s']

section runs
variable {I J : SchedI κ} {Q : I.σ → J.σ → Prop}

/-- **dump/resume round trips are invisible**, generically: if on every state satisfying an invariant `G` of the loop
(preserved by legs and by dumps) pickling the scheduler keeps it `Q`-related to whatever it was related to, `Q` a bisimulation,
then the run with round trips at any leg boundaries makes the commits of the uninterrupted run on the same oracle values,
raises the same exception, and ends in a related state.  (The uninterrupted run may itself start from a related state, of
another instance.) -/
theorem runD_congr (B : Bisim I J Q) (M : MWire) (pk : J.σ → J.σ) (G : MedState J.σ → Prop)
    (Gleg : ∀ {st st' : MedState J.σ} {o : Oracle κ} {c : Committed κ}, G st → leg M J st o = .ok (st', c) → G st')
    (Gpk : ∀ {a : I.σ} {st : MedState J.σ}, G st → Q a st.sched → G (dumpWith pk st) ∧ Q a (pk st.sched)) :
    ∀ (ss : List (Step κ)) {st0 : MedState I.σ} {st : MedState J.σ}, StRel Q st0 st → G st →
      RunRel Q (runLegsE M I st0 (oraclesOf ss)) (runD M J pk st ss) := by
  intro ss
  induction ss with
  | nil => intro st0 st r _; exact ⟨rfl, r⟩
  | cons x ss ih =>
    intro st0 st r g
    cases x with
    | dump =>
      obtain ⟨g', q⟩ := Gpk g r.sched
      exact ih (st := dumpWith pk st) ⟨r.act, r.preceding, q⟩ g'
    | leg o =>
      unfold runD oraclesOf runLegsE
      rcases (leg_congr B M o r).cases with ⟨e, h1, h2⟩ | ⟨⟨s1, c⟩, ⟨s1', c'⟩, h1, h2, hc, hr⟩
      · rw [h1, h2]; exact ⟨rfl, rfl⟩
      · rw [h1, h2]
        cases hc
        simp only
        by_cases hs : c.stop = true
        · rw [if_pos hs, if_pos hs]; exact ⟨rfl, hr⟩
        · rw [if_neg hs, if_neg hs]
          obtain ⟨i1, i2⟩ := ih hr (Gleg g h2)
          exact ⟨congrArg (c :: ·) i1, i2⟩

/-- the case without dumps, two instances -/
theorem runLegsE_congr (B : Bisim I J Q) (M : MWire) (os : List (Oracle κ)) {st : MedState I.σ} {st' : MedState J.σ}
    (r : StRel Q st st') : RunRel Q (runLegsE M I st os) (runLegsE M J st' os) := by
  have h := runD_congr B M id (fun _ => True) (fun _ _ => trivial) (fun _ q => ⟨trivial, q⟩) (os.map .leg) r trivial
  rwa [runD_id, oraclesOf_legs] at h

end runs

/-! ### 4. the heap scheduler: the one component that pickling rebuilds -/

section heap
variable {cfg : Cfg κ} {W : Nat} {M : MWire}

/-- the mediator after a dump/resume with the heap scheduler: `HeapScheduler.__getstate__` reads the entries of the C heap
in array order, `__setstate__` re-inserts them into a fresh heap (`HSched.pickle`, C06's model); `_minimal_valid_counter`
and `_last_returned_event` are ordinary attributes -/
abbrev dumpH (cfg : Cfg κ) (st : MedState (heapI cfg W).σ) : MedState (heapI cfg W).σ := dumpWith (HSched.pickle cfg) st

/-- "same live part" (`JF.Sched.LiveEq`: same entries at the indices `1 … length - 1`, same counters, same last returned time;
allocated size and memory beyond `length` free) is a bisimulation of the heap instance — ties included, no reference to the
spec scheduler -/
theorem heapBisim (o : StrictWeak cfg) (W : Nat) : Bisim (heapI cfg W) (heapI cfg W) (LiveEq cfg) where
  push t h q := push_liveEq o q W t (h + 1)
  get q := by
    obtain ⟨E, e⟩ := get_liveEq o q
    exact ⟨by show dec _ = dec _; rw [e], E⟩
  trash h q := trash_liveEq q (h + 1)

theorem liveEq_obsEqI (o : StrictWeak cfg) (W : Nat) {a b : HSched κ} (E : LiveEq cfg a b) :
    ObsEqI (heapI cfg W) (heapI cfg W) a b := (heapBisim o W).obsEq E

/-- the invariant of the composed loop (`JF.Med.MInv`, heap instance) for some ghost dictionary -/
def Good (M : MWire) (cfg : Cfg κ) (W : Nat) (st : MedState (heapI cfg W).σ) : Prop :=
  ∃ (p : Pend κ) (l : κ), MInv M (I := heapI cfg W) (HRelM cfg W) st p l

/-- **reachable states** of the loop with the heap scheduler, earlier dump/resume round trips included -/
inductive Reach (M : MWire) (cfg : Cfg κ) (W : Nat) : MedState (heapI cfg W).σ → Prop
  | init : Reach M cfg W (MedState.init (heapI cfg W) M.w)
  | leg {st st' : MedState (heapI cfg W).σ} {o : Oracle κ} {c : Committed κ} :
      Reach M cfg W st → leg M (heapI cfg W) st o = .ok (st', c) → Reach M cfg W st'
  | dump {st : MedState (heapI cfg W).σ} : Reach M cfg W st → Reach M cfg W (dumpH cfg st)

theorem good_leg (o : StrictWeak cfg) (hW : 0 < W) (hs : Static M) {st st' : MedState (heapI cfg W).σ} {or : Oracle κ}
    {c : Committed κ} (g : Good M cfg W st) (e : leg M (heapI cfg W) st or = .ok (st', c)) : Good M cfg W st' := by
  obtain ⟨p, l, inv⟩ := g
  exact ⟨_, _, inv.leg (heapLaws o hW) hs e⟩

/-- a dump keeps the invariant (`pickle_spec`, `JF/Lemmas/HeapPickle.lean`) and the live part (`pickle_liveEq`) -/
theorem good_dump (o : StrictWeak cfg) {st : MedState (heapI cfg W).σ} (g : Good M cfg W st) :
    Good M cfg W (dumpH cfg st) ∧ LiveEq cfg st.sched (HSched.pickle cfg st.sched) := by
  obtain ⟨p, l, inv⟩ := g
  obtain ⟨P1, _, P3, _⟩ := pickle_spec o inv.rel.1
  exact ⟨⟨p, l, inv.pool, ⟨P1, by show (HSched.pickle cfg st.sched).last = l; rw [P3]; exact inv.rel.2⟩, inv.mirror⟩,
    pickle_liveEq o inv.rel.1⟩

theorem reach_good (o : StrictWeak cfg) (hW : 0 < W) (hs : Static M) {st : MedState (heapI cfg W).σ}
    (r : Reach M cfg W st) : Good M cfg W st := by
  induction r with
  | init => exact ⟨_, _, minv_init (heapLaws o hW) M⟩
  | leg _ e ih => exact good_leg o hW hs ih e
  | dump _ ih => exact (good_dump o ih).1

theorem reach_of_run {st0 st : MedState (heapI cfg W).σ} {os : List (Oracle κ)} {cs : List (Committed κ)}
    (hrun : Run M (heapI cfg W) st0 os cs st) : Reach M cfg W st0 → Reach M cfg W st := by
  induction hrun with
  | nil _ => exact id
  | cons hleg _ ih => exact fun r0 => ih (r0.leg hleg)

variable (o : StrictWeak cfg) (hW : 0 < W) (hs : Static M)
include o hW hs

theorem pickle_obsEqI {st : MedState (heapI cfg W).σ} (r : Reach M cfg W st) :
    ObsEqI (heapI cfg W) (heapI cfg W) st.sched (HSched.pickle cfg st.sched) :=
  liveEq_obsEqI o W (good_dump o (reach_good o hW hs r)).2

/-- in the formulation of `JF/Props/C19Heap.lean` (`JF.C19.ObsEq` of `JF.C19.heapSched`): the premise of `JF.C19.resume_same`
holds at every reachable state of the composed loop (the loop invariant plays the role of `C06.Protocol` in
`JF.C19.pickle_obsEq`) -/
theorem pickle_obsEq_reach {st : MedState (heapI cfg W).σ} (r : Reach M cfg W st) :
    C19.ObsEq (C19.heapSched cfg W) (C19.heapSched cfg W) st.sched (HSched.pickle cfg st.sched) :=
  C19.liveEq_obsEq o W (good_dump o (reach_good o hW hs r)).2

/-- **C19, repeated dumps** (the general statement): from any reachable state of the composed loop with the heap scheduler, the
run with dump/resume round trips at any leg boundaries (`ss`: legs and dumps in any order, also several dumps in a row) makes
exactly the commits of the uninterrupted run on the same oracle values (created handlers, pushes, committed handler,
committed time, trash list, stop flag of every leg — ties between candidate times included), leaves the loop with the same
exception if any, and ends in a state with the same activator bookkeeping, the same preceding handler and a scheduler with
the same live part (hence observationally equal: `StRel.obsEqI`) -/
theorem resume_repeated {st : MedState (heapI cfg W).σ} (r : Reach M cfg W st) (ss : List (Step κ)) :
    RunRel (LiveEq cfg) (runLegsE M (heapI cfg W) st (oraclesOf ss)) (runD M (heapI cfg W) (HSched.pickle cfg) st ss) :=
  runD_congr (heapBisim o W) M _ (Good M cfg W) (fun g e => good_leg o hW hs g e)
    (fun g q => ⟨(good_dump o g).1, q.trans (good_dump o g).2⟩) ss
    ⟨rfl, rfl, LiveEq.refl (reach_good o hW hs r).choose_spec.choose_spec.rel.1.inv⟩ (reach_good o hW hs r)

/-- **resume = uninterrupted**: replace the scheduler of any reachable mediator state by its pickled-and-restored copy and
continue with any oracle list: same commits, same exception, final states related as in `resume_repeated` -/
theorem resume_same_loop {st : MedState (heapI cfg W).σ} (r : Reach M cfg W st) (os : List (Oracle κ)) :
    RunRel (LiveEq cfg) (runLegsE M (heapI cfg W) st os) (runLegsE M (heapI cfg W) (dumpH cfg st) os) :=
  runLegsE_congr (heapBisim o W) M os ⟨rfl, rfl, (good_dump o (reach_good o hW hs r)).2⟩

/-- the same for the states reached by the runs of `JF.MediatorLoop` from the initial state -/
theorem resume_same_loop_run {st : MedState (heapI cfg W).σ} {os0 : List (Oracle κ)} {cs0 : List (Committed κ)}
    (hrun : Run M (heapI cfg W) (MedState.init (heapI cfg W) M.w) os0 cs0 st) (os : List (Oracle κ)) :
    RunRel (LiveEq cfg) (runLegsE M (heapI cfg W) st os) (runLegsE M (heapI cfg W) (dumpH cfg st) os) :=
  resume_same_loop o hW hs (reach_of_run hrun Reach.init) os

/-- the same in terms of the model's own `runLegs` (which forgets the exception) -/
theorem resume_same_runLegs {st : MedState (heapI cfg W).σ} (r : Reach M cfg W st) (os : List (Oracle κ)) :
    (runLegs M (heapI cfg W) st os).1 = (runLegs M (heapI cfg W) (dumpH cfg st) os).1 ∧
    OptRel (StRel (LiveEq cfg)) (runLegs M (heapI cfg W) st os).2 (runLegs M (heapI cfg W) (dumpH cfg st) os).2 := by
  obtain ⟨h1, h2⟩ := resume_same_loop o hW hs r os
  rw [runLegsE_runLegs, runLegsE_runLegs]
  refine ⟨h1, ?_⟩
  rcases h2.cases with ⟨e, e1, e2⟩ | ⟨a, b, e1, e2, h⟩
  · simp only [e1, e2]; trivial
  · simp only [e1, e2]; exact h

omit o hW hs in
/-- a run with dumps that was not ended by the end-of-run handler continues on further steps where it stands (and an invariant
`G` of legs and dumps holds where it stands) -/
theorem runD_append (I : SchedI κ) (pk : I.σ → I.σ) (G : MedState I.σ → Prop)
    (Gleg : ∀ {st st' : MedState I.σ} {o : Oracle κ} {c : Committed κ}, G st → leg M I st o = .ok (st', c) → G st')
    (Gpk : ∀ {st : MedState I.σ}, G st → G (dumpWith pk st)) :
    ∀ (ss1 ss2 : List (Step κ)) (st st1 : MedState I.σ) (cs1 : List (Committed κ)), G st →
    runD M I pk st ss1 = (cs1, .ok st1) → (∀ c ∈ cs1, c.stop = false) →
    G st1 ∧ runD M I pk st (ss1 ++ ss2) = (cs1 ++ (runD M I pk st1 ss2).1, (runD M I pk st1 ss2).2) := by
  intro ss1
  induction ss1 with
  | nil =>
    intro ss2 st st1 cs1 g e _
    simp only [runD, Prod.mk.injEq, Except.ok.injEq] at e
    obtain ⟨rfl, rfl⟩ := e
    exact ⟨g, rfl⟩
  | cons x ss1 ih =>
    intro ss2 st st1 cs1 g e hn
    cases x with
    | dump => exact ih ss2 _ st1 cs1 (Gpk g) e hn
    | leg o =>
      rw [runD_leg] at e
      rw [List.cons_append, runD_leg]
      cases hl : leg M I st o with
      | error err => rw [hl] at e; simp at e
      | ok y =>
        obtain ⟨s', c⟩ := y
        rw [hl] at e
        simp only at e ⊢
        by_cases hc : c.stop = true
        · rw [if_pos hc] at e
          simp only [Prod.mk.injEq] at e
          have := hn c (by rw [← e.1]; simp)
          rw [hc] at this; cases this
        · rw [if_neg hc] at e
          rw [if_neg hc]
          simp only [Prod.mk.injEq] at e
          obtain ⟨rfl, e2⟩ := e
          obtain ⟨g1, this⟩ := ih ss2 s' st1 _ (Gleg g hl) (Prod.ext rfl e2) (fun c' hc' => hn c' (List.mem_cons_of_mem _ hc'))
          rw [this]; exact ⟨g1, rfl⟩

omit o hW hs in
/-- the case without dumps (`runD_id`) -/
theorem runLegsE_append (I : SchedI κ) (G : MedState I.σ → Prop)
    (Gleg : ∀ {st st' : MedState I.σ} {o : Oracle κ} {c : Committed κ}, G st → leg M I st o = .ok (st', c) → G st') :
    ∀ (os1 os2 : List (Oracle κ)) (st st1 : MedState I.σ) (cs1 : List (Committed κ)), G st →
    runLegsE M I st os1 = (cs1, .ok st1) → (∀ c ∈ cs1, c.stop = false) →
    G st1 ∧ runLegsE M I st (os1 ++ os2) = (cs1 ++ (runLegsE M I st1 os2).1, (runLegsE M I st1 os2).2) := by
  intro os1 os2 st st1 cs1 g e hn
  have h := runD_append I id G Gleg (fun g => g) (os1.map .leg) (os2.map .leg) st st1 cs1 g
    (by rw [runD_id, oraclesOf_legs]; exact e) hn
  rwa [← List.map_append, runD_id, runD_id, oraclesOf_legs, oraclesOf_legs] at h

/-- **a pickle at an arbitrary leg boundary**: run `os1` (the run has not ended), dump and resume, continue on `os2`: the
commits of the two parts, put together, are exactly the commits of the uninterrupted run on `os1 ++ os2`, with the same
exception and related final states -/
theorem resume_at_boundary {st st1 : MedState (heapI cfg W).σ} (r : Reach M cfg W st) (os1 os2 : List (Oracle κ))
    {cs1 : List (Committed κ)} (e : runLegsE M (heapI cfg W) st os1 = (cs1, .ok st1)) (hn : ∀ c ∈ cs1, c.stop = false) :
    RunRel (LiveEq cfg) (runLegsE M (heapI cfg W) st (os1 ++ os2))
      (cs1 ++ (runLegsE M (heapI cfg W) (dumpH cfg st1) os2).1, (runLegsE M (heapI cfg W) (dumpH cfg st1) os2).2) := by
  obtain ⟨r1, e'⟩ := runLegsE_append (heapI cfg W) (Reach M cfg W) Reach.leg os1 os2 st st1 cs1 r e hn
  rw [e']
  obtain ⟨h1, h2⟩ := resume_same_loop o hW hs r1 os2
  exact ⟨by show cs1 ++ _ = cs1 ++ _; rw [h1], h2⟩

omit hW hs in
/-- so the theorems above apply again to whatever happens after the final states -/
theorem StRel.obsEqI {a b : MedState (heapI cfg W).σ} (r : StRel (LiveEq cfg) a b) :
    StRel (ObsEqI (heapI cfg W) (heapI cfg W)) a b := ⟨r.act, r.preceding, liveEq_obsEqI o W r.sched⟩

end heap

/-! ### 5. the list scheduler: no custom pickling -/

/-- `ListScheduler` has no `__getstate__`/`__setstate__`: its `_times` list and `_last_returned_event` are pickled as
ordinary attributes; C06's model of its pickle round trip (`JF.C06.lStep … .pickle`) is the identity -/
def pickleL (cfg : Cfg κ) : (listI cfg).σ → (listI cfg).σ := fun s => C06.lStep cfg s .pickle

theorem pickleL_id (cfg : Cfg κ) (s : (listI cfg).σ) : pickleL cfg s = s := rfl

/-- for every state, reachable or not (trivial, but it is the other scheduler a shipped configuration can name) -/
theorem resume_list (M : MWire) (cfg : Cfg κ) : ∀ (ss : List (Step κ)) (st : MedState (listI cfg).σ),
    runD M (listI cfg) (pickleL cfg) st ss = runLegsE M (listI cfg) st (oraclesOf ss) :=
  runD_id M (listI cfg)

/-! ### 6. non-vacuity: the small wiring of `JF.MediatorLoop.Example`, with time ties, dumped in the middle -/

namespace Example
open JF.MediatorLoop.Example

/-- the factor tagger 0 yields two factors, so both of its handlers (0 and 1) run at the same time -/
def ys2 : TaggerIdx → List IdTuple := fun T => if T = 0 then [some [[5], [6]], some [[5], [7]]] else [none]

/-- ten oracle values: start of run at 0; then handlers 1 and 0 get the SAME candidate time 10 and sampling (handler 2)
commits at 5 — at this leg boundary the two tied events are pending; the tie is served (handler 1 first) in the next leg;
new ties at 12 and at 25; an infinite candidate time (1000) for handler 0; end of run (handler 3) at 30 -/
def q0 : Oracle Nat := ⟨ys2, fun _ => 0⟩
def q1 : Oracle Nat := ⟨ys2, fun h => if h < 2 then 10 else if h = 2 then 5 else 30⟩
def q2 : Oracle Nat := ⟨ys2, fun _ => 20⟩
def q3 : Oracle Nat := ⟨ys2, fun _ => 12⟩
def q4 : Oracle Nat := ⟨ys2, fun h => if h = 0 then 1000 else 13⟩
def q5 : Oracle Nat := ⟨ys2, fun _ => 25⟩
def q6 : Oracle Nat := ⟨ys2, fun _ => 40⟩
def q7 : Oracle Nat := ⟨ys2, fun _ => 50⟩
def qs : List (Oracle Nat) := [q0, q1, q2, q3, q4, q5, q6, q7, q7, q7]

abbrev H : SchedI Nat := heapI natCfg 4294967296
abbrev st0 : MedState H.σ := MedState.init H M.w

abbrev Same (a b : List (Committed Nat)) : Prop :=
  a.map (·.created) = b.map (·.created) ∧ a.map (·.pushed) = b.map (·.pushed) ∧ a.map (·.handler) = b.map (·.handler) ∧
  a.map (·.time) = b.map (·.time) ∧ a.map (·.trashed) = b.map (·.trashed) ∧ a.map (·.stop) = b.map (·.stop)
def errOf {α : Type} : Except Err α → Option Err
  | .ok _ => none
  | .error e => some e

def plain := runLegsE M H st0 qs

theorem plain_eq :
    plain.1.map (·.handler) = [4, 2, 1, 0, 1, 2, 0, 3] ∧ plain.1.map (·.time) = [0, 5, 10, 12, 13, 20, 25, 30] ∧
    plain.1.map (·.pushed) = [[(4, 0)], [(1, 10), (0, 10), (2, 5), (3, 30)], [(2, 20)], [(0, 12), (1, 12)],
      [(1, 13), (0, 1000)], [(0, 25), (1, 25)], [(2, 40)], [(1, 50), (0, 50)]] ∧
    plain.1.map (·.trashed) = [[4], [2], [1, 0], [0, 1], [1, 0], [2], [0, 1], [1, 0, 2, 3]] ∧
    plain.1.map (·.stop) = [false, false, false, false, false, false, false, true] ∧ errOf plain.2 = none := by
  decide +kernel

/-- the same oracle values with dumps before the first leg, after legs 2 (the tied events of handlers 1 and 0 are pending),
3 (twice in a row), 5, 8 -/
def steps : List (Step Nat) :=
  [.dump, .leg q0, .leg q1, .dump, .leg q2, .dump, .dump, .leg q3, .leg q4, .dump, .leg q5, .leg q6, .leg q7, .dump,
   .leg q7, .leg q7]
def dumped := runD M H (HSched.pickle natCfg) st0 steps

/-- related runs have the same records, field by field, and end with the same exception.  The second run is given through
its two components: with `r'.1`, `r'.2` in the conclusion and a pair for `r'`, the unifier runs the pair's components. -/
theorem same_of_runRel {σ τ : Type} {Q : σ → τ → Prop} {r : List (Committed Nat) × Except Err (MedState σ)}
    {r' : List (Committed Nat) × Except Err (MedState τ)} {cs' : List (Committed Nat)} {x' : Except Err (MedState τ)}
    (h : RunRel Q r r') (e : r' = (cs', x')) : Same cs' r.1 ∧ errOf x' = errOf r.2 := by
  subst e
  obtain ⟨h1, h2⟩ := h
  simp only at h1 h2
  refine ⟨by rw [h1]; exact ⟨rfl, rfl, rfl, rfl, rfl, rfl⟩, ?_⟩
  rcases h2.cases with ⟨e, e1, e2⟩ | ⟨a, b, e1, e2, _⟩
  · rw [e1, e2]; rfl
  · rw [e1, e2]; rfl

example : RunRel (LiveEq natCfg) plain dumped := resume_repeated natOrd (by decide) static Reach.init steps

example : Same dumped.1 plain.1 ∧ errOf dumped.2 = errOf plain.2 :=
  same_of_runRel (resume_repeated natOrd (by decide) static Reach.init steps) (Prod.eta _).symm

/-- the dump in the middle, spelled out: two legs, dump/resume, the other legs -/
def first := runLegsE M H st0 [q0, q1]
theorem first_eval : first.2.toOption.isSome = true ∧ ∀ c ∈ first.1, c.stop = false := by decide +kernel
theorem first_ok : first.2.toOption.isSome = true := first_eval.1
def stMid : MedState H.σ := first.2.toOption.get first_ok
theorem first_eq : first = (first.1, .ok stMid) :=
  (Prod.eta first).symm.trans (congrArg (Prod.mk first.1) (ok_of_toOption (Option.some_get first_ok).symm))
def second := runLegsE M H (dumpH natCfg stMid) [q2, q3, q4, q5, q6, q7, q7, q7]

/-- the dumped and the restored state really differ where `LiveEq` allows it: both heaps have length 5 (entries of the
handlers 2 — dead, trashed —, 1, 0 — both at time 10 — and 3; objects are numbered `h + 1`), the first slot beyond holds a
stale copy of the end-of-run entry in the original and fresh memory (the bogus handler 99 of `natCfg.garbage`) in the rebuilt
heap -/
example : stMid.sched.heap.length = 5 ∧ (dumpH natCfg stMid).sched.heap.length = 5 ∧
    (Heap.get natCfg stMid.sched.heap 2).key = 10 ∧ (Heap.get natCfg stMid.sched.heap 3).key = 10 ∧
    (Heap.get natCfg stMid.sched.heap 5).h = 4 ∧ (Heap.get natCfg (dumpH natCfg stMid).sched.heap 5).h = 99 := by
  decide +kernel

theorem plain_split : RunRel (LiveEq natCfg) plain (first.1 ++ second.1, second.2) :=
  resume_at_boundary natOrd (by decide) static Reach.init [q0, q1] [q2, q3, q4, q5, q6, q7, q7, q7] first_eq first_eval.2

example : RunRel (LiveEq natCfg) plain (first.1 ++ second.1, second.2) := plain_split

example : Same (first.1 ++ second.1) plain.1 ∧ errOf second.2 = errOf plain.2 :=
  same_of_runRel plain_split rfl

/-- a run that ends with an exception: after the sampling commit at 5 the new sampling candidate is at 3, the scheduler's
monotonicity assertion fires — in the dumped run exactly as in the uninterrupted one -/
def qBad : Oracle Nat := ⟨ys2, fun _ => 3⟩
example : errOf (runLegsE M H st0 [q0, q1, qBad, q3]).2 = some (.schedGuard 2) ∧
    errOf (runD M H (HSched.pickle natCfg) st0 [.leg q0, .leg q1, .dump, .leg qBad, .leg q3]).2 = some (.schedGuard 2) ∧
    Same (runD M H (HSched.pickle natCfg) st0 [.leg q0, .leg q1, .dump, .leg qBad, .leg q3]).1
      (runLegsE M H st0 [q0, q1, qBad, q3]).1 :=
  have h := same_of_runRel
    (resume_repeated natOrd (by decide) static Reach.init [.leg q0, .leg q1, .dump, .leg qBad, .leg q3]) (Prod.eta _).symm
  have e : errOf (runLegsE M H st0 [q0, q1, qBad, q3]).2 = some (.schedGuard 2) := by decide +kernel
  ⟨e, h.2.trans e, h.1⟩

example : runD M (listI natCfg) (pickleL natCfg) (MedState.init (listI natCfg) M.w) steps =
    runLegsE M (listI natCfg) (MedState.init (listI natCfg) M.w) qs := resume_list M natCfg steps _

end Example

end JF.C19Loop
