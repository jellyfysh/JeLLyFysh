import JF.Lemmas.SystemRun2Main
import JF.Props.SystemInv
import JF.Props.C17
import Mathlib.Tactic.IntervalCases
/-!
# One joint invariant for the composed system of composite objects without cells

A run `Reach2 os cs s` (model `JF/Model/SystemRun2.lean`; the step relation `SysStep2` is described at the head of
`JF/Lemmas/SystemRun2Step.lean`) starts from a state at rest that satisfies C12's `AllGood` (`Init2`) and is any number of legs;
no leg follows the end-of-run commit.

**Hypotheses** (`JF.Sys2.Hyp2`): a box (`BoxOK`), and the four decidable side conditions
`WiringSound mw.w`, `start? = some S`, `Supported2 mw`, `ModeSound mw`.  There is no no-tie hypothesis (this world has no
cell-boundary event).  `Hyp2` holds by evaluation for `dipoles/dipole_motion.ini` (`hyp2_dipole_motion`,
`JF/Props/C09PoolsClosed.lean`) and for `dipoles/atom_factors.ini`, the three `dipoles/dipole_factors_*.ini`,
`water/single_molecule.ini` and `hard_disk_dipoles.ini` (`hyp2_atom_factors` … `hyp2_hard_disk_dipoles`,
`JF/Props/C09PoolsClosed2.lean`); non-vacuity: the seven-leg run `reach7` of `dipole_motion.ini` (`JF/Lemmas/C09PoolsClosed2Run.lean`,
namespace `JF.C09Pools.Closed2.Example`).

**Main theorem** `joint_inv2`: by one induction over the legs, `Big2` holds after every leg.  The mode premise
`modeStep g.mode e = some g'.mode` of the transition relation `Tr2` (`JF/Lemmas/ConcreteWorld2Inv.lean`) is not assumed: it is
derived at every step of the run (`mode_step_of_run`).

Not covered: composite objects with a cell system (`dipoles/cell_*.ini`, the other water files: neither `JF.CW2` nor this system has
an occupancy); `AdmW` and the start mode are conditions of the step relation (they say what the handlers do, C12); the candidate
times are not tied to the potentials.
-/
namespace JF.SystemInv2
open JF JF.Act JF.Sched JF.Med JF.CW2 JF.C14 JF.Sys JF.Sys2 JF.C12
open JF.MediatorLoop hiding Run
open JF.Heap hiding Inv
open JF.Composite hiding pendOf

section
variable {env : Env ℚ} {mw : ModeWiring} {S : TaggerIdx} {needs : HandlerId → Bool}

def JInv2 (env : Env ℚ) (mw : ModeWiring) (S : TaggerIdx) (needs : HandlerId → Bool)
    (cs : List (Committed XTime)) (s : Sys2) : Prop :=
  (cs = [] ∧ Init2 env mw s) ∨
  ∃ cs0 cl E tl sq, cs = cs0 ++ [cl] ∧ Big2 env mw S needs cs cl s E tl sq

theorem joint_inv2 (H : Hyp2 env mw S) {os : List (Oracle XTime)} {cs : List (Committed XTime)} {s : Sys2}
    (hr : Reach2 env mw S needs os cs s) : JInv2 env mw S needs cs s := by
  induction hr with
  | init s h => exact Or.inl ⟨rfl, h⟩
  | @step os cs s s' o cm prev hgo hstep ih =>
    right
    rcases ih with ⟨rfl, hi⟩ | ⟨cs0, cl, E, tl, sq, rfl, big⟩
    · obtain ⟨E', tl', sq', hb⟩ := first_step2 H hi hstep
      exact ⟨[], cm, E', tl', sq', rfl, hb⟩
    · have hgo' : cl.stop = false := hgo cl (by simp)
      obtain ⟨E', tl', hb⟩ := big_step2 H big hgo' hstep
      exact ⟨cs0 ++ [cl], cm, E', tl', sq, rfl, hb⟩

/-- the mediator component of a run is a run of `JF.Med.leg` from the initial state: all theorems of
`JF/Props/MediatorLoop.lean` apply to it -/
theorem reach_medRun2 {os : List (Oracle XTime)} {cs : List (Committed XTime)} {s : Sys2}
    (hr : Reach2 env mw S needs os cs s) :
    MediatorLoop.Run (mwire mw.w S needs) (specI xcfg) (MedState.init (specI xcfg) (mwire mw.w S needs).w) os cs s.med := by
  induction hr with
  | init s h => rw [h.med]; exact .nil _
  | step _ _ hstep ih => exact run_snoc ih hstep.leg

theorem reach_leg2 {os : List (Oracle XTime)} {cs : List (Committed XTime)} {s : Sys2}
    (hr : Reach2 env mw S needs os cs s) {k : Nat} {cm : Committed XTime} (hk : cs[k]? = some cm) :
    ∃ os0 s0 s1 o, Reach2 env mw S needs os0 (cs.take k) s0 ∧
      (∀ cl, (cs.take k).getLast? = some cl → cl.stop = false) ∧ SysStep2 env mw S needs s0 o cm s1 := by
  induction hr with
  | init s h => simp at hk
  | @step os cs s s' o cm' prev hgo hstep ih =>
    by_cases hlt : k < cs.length
    · rw [List.getElem?_append_left hlt] at hk
      rw [List.take_append_of_le_length (Nat.le_of_lt hlt)]
      exact ih hk
    · obtain rfl : k = cs.length := by
        have := (List.getElem?_eq_some_iff.mp hk).1
        simp at this; omega
      simp only [List.getElem?_concat_length, Option.some.injEq] at hk
      subst hk
      rw [List.take_left' rfl]
      exact ⟨os, s, s', o, prev, hgo, hstep⟩

theorem jinv_big2 {cs : List (Committed XTime)} {s : Sys2} (h : JInv2 env mw S needs cs s) {cl : Committed XTime}
    (hl : cs.getLast? = some cl) : ∃ E tl sq, Big2 env mw S needs cs cl s E tl sq := by
  rcases h with ⟨rfl, _⟩ | ⟨cs0, cl', E, tl, sq, rfl, big⟩
  · simp at hl
  · have : cl' = cl := by simpa using hl
    subst this
    exact ⟨E, tl, sq, big⟩

/-- **the mediator invariant**: after every leg of every run the spec-level scheduler holds exactly the finite pending events,
one per handler, and a handler has a pending event iff it is a running handler of some tagger -/
theorem sched_mirrors_running_closed2 (H : Hyp2 env mw S) {os : List (Oracle XTime)} {cs : List (Committed XTime)} {s : Sys2}
    (hr : Reach2 env mw S needs os cs s) :
    (∀ h t, (t, h) ∈ s.med.sched.live ↔ pendOf (fun _ => none) cs h = some t ∧ xcfg.finite t = true) ∧
    s.med.sched.live.Pairwise (fun a b => a.2 ≠ b.2) ∧
    (∀ h, (pendOf (fun _ => none : Pend XTime) cs h).isSome ↔ ∃ T, h ∈ (getT s.med.act.ts T).running) ∧
    (∀ h, (∀ T, h ∉ (getT s.med.act.ts T).running) → ∀ t, (t, h) ∉ s.med.sched.live) :=
  spec_sched_mirrors_running xcfg_strictWeak (hyp2_static H) (reach_medRun2 hr)

/-- C09 for composite objects, without a `FootprintsSound` hypothesis and without a mode hypothesis: after
every leg but the first, in the state in the middle of that leg (the concrete global state `s.csPrev` the leg's candidates were
computed on, with the mode read off the activation flags of `s.mid`) every live tagger is `Fresh`: its pending events are what
it generates from scratch for that state. -/
theorem c09_fresh_closed2 (H : Hyp2 env mw S) {os : List (Oracle XTime)} {cs : List (Committed XTime)} {s : Sys2}
    (hr : Reach2 env mw S needs os cs s) (h2 : 2 ≤ cs.length) :
    ∃ hi : Inv env ⟨s.csPrev, ofW (mw.mode (absOf s.mid))⟩,
      (∀ T, (world2 env mw).live T → Fresh (world2 env mw) ⟨s.mid, s.ids, ⟨_, hi⟩⟩ T) ∧
      Act.Run mw.w (world2 env mw) (Tr2 env mw) S ⟨s.mid, s.ids, ⟨_, hi⟩⟩ := by
  rcases joint_inv2 H hr with ⟨rfl, _⟩ | ⟨cs0, cl, E, tl, sq, rfl, big⟩
  · simp at h2
  · obtain ⟨hi, hph⟩ := big.phase
    rcases hph with ⟨h1, _⟩ | ⟨h, hrun⟩
    · omega
    · exact ⟨hi, (Act.run_inv mw.w (world2 env mw) (Tr2 env mw) S H.sound H.hS (hyp2_fps H) (liveIs2 env mw) hrun.toRun).fresh,
        hrun.toRun⟩

/-- … and the pending events in the middle of a leg are exactly those of the running handlers of that moment: pending = fresh
yield at every leg `k ≥ 1` (`s1` the state after it) -/
theorem c09_fresh_every_leg2 (H : Hyp2 env mw S) {os : List (Oracle XTime)} {cs : List (Committed XTime)} {s : Sys2}
    (hr : Reach2 env mw S needs os cs s) {k : Nat} {cm : Committed XTime} (hk : cs[k + 1]? = some cm) :
    ∃ (s1 : Sys2) (hi : Inv env ⟨s1.csPrev, ofW (mw.mode (absOf s1.mid))⟩),
      (∀ T, (world2 env mw).live T → Fresh (world2 env mw) ⟨s1.mid, s1.ids, ⟨_, hi⟩⟩ T) ∧
      (∀ x, (pendPushed (pendOf (fun _ => none) (cs.take (k + 1))) cm x).isSome ↔ ∃ T, x ∈ (getT s1.mid T).running) := by
  obtain ⟨os0, s0, s1, o, hr0, hgo, hst⟩ := reach_leg2 hr hk
  have hr1 := Reach2.step hr0 hgo hst
  have hklt : k + 1 < cs.length := (List.getElem?_eq_some_iff.mp hk).1
  have hlen : 2 ≤ (cs.take (k + 1) ++ [cm]).length := by
    rw [List.length_append, List.length_take, Nat.min_eq_left (Nat.le_of_lt hklt)]; simp
  obtain ⟨hi, hfr, _⟩ := c09_fresh_closed2 H hr1 hlen
  refine ⟨s1, hi, hfr, ?_⟩
  rw [hst.mid']
  exact SystemInv.pending_iff_running (hyp2_static H) (reach_medRun2 hr0) hst.leg

/-- the mode premise of `Tr2`, derived for every run: every commit after the start-of-run event that does not end the run is a
transition of `TrRaw2` between the concrete states with the modes read off the activation flags — before the commit the flags in the
middle of the leg, after it the flags of the next leg (`aStep`) -/
theorem mode_premise_closed2 (H : Hyp2 env mw S) {os : List (Oracle XTime)} {cs : List (Committed XTime)} {s : Sys2}
    (hr : Reach2 env mw S needs os cs s) (h2 : 2 ≤ cs.length) {cl : Committed XTime} (hl : cs.getLast? = some cl)
    (hgo : cl.stop = false) :
    ∃ E, owner mw.w.wires cl.handler = some E ∧
      TrRaw2 env mw E ⟨s.csPrev, ofW (mw.mode (absOf s.mid))⟩ ⟨s.cs, ofW (mw.mode (aStep mw.w (absOf s.mid) E))⟩ := by
  obtain ⟨E, tl, sq, big⟩ := jinv_big2 (joint_inv2 H hr) hl
  refine ⟨E, big.owner, ?_⟩
  obtain ⟨hi, hph⟩ := big.phase
  rcases hph with ⟨h1, _⟩ | ⟨h, hrun⟩
  · omega
  · obtain ⟨e, hk, _, ⟨ha, _⟩, hcs⟩ := big.commit
    exact ⟨e, s.cmode E, hk, mode_step_of_run H hrun (List.ne_nil_of_mem big.running)
      (SysLeg.not_endOfRun_of_go big.owner big.stopEq hgo) hk, ha, hcs⟩

/-- For a tagger whose handler class commits a kind that depends on the mode at
the request of the candidate time (the end of chain) and that has a pending handler in the middle of a leg, `cmode` — the mode of
the flags when that candidate was requested — is the mode of the flags now.  (So the step relation could equally be stated with the
current flags.) -/
theorem mode_at_request_is_current2 (H : Hyp2 env mw S) {os : List (Oracle XTime)} {cs : List (Committed XTime)} {s : Sys2}
    (hr : Reach2 env mw S needs os cs s) (h2 : 2 ≤ cs.length) {T : TaggerIdx} (hp : isPoly (mw.hmode T) = true)
    (hrun : (getT s.mid T).running ≠ []) : s.cmode T = mw.mode (absOf s.mid) := by
  rcases joint_inv2 H hr with ⟨rfl, _⟩ | ⟨cs0, cl, E, tl, sq, rfl, big⟩
  · simp at h2
  · obtain ⟨hi, hph⟩ := big.phase
    rcases hph with ⟨h1, _⟩ | ⟨h, hrunk⟩
    · omega
    · exact (modeStep_of_modeSound mw (world2 env mw) (Tr2 env mw) S H.ms H.sound H.hS (hyp2_fps H) (liveIs2 env mw)
        hrunk).poly T hp hrun

/-- C12 at every leg of every run, with no at-rest / which-leaves-move / mode hypothesis: after every
commit every composite object satisfies C12's invariant `Good` (hence `RootConsistent`: the root's velocity is the mean of the
point masses' velocities, its position their mean modulo the box), and has `number_of_nodes_per_root_node` point masses -/
theorem c12_rootConsistent_closed2 (H : Hyp2 env mw S) {os : List (Oracle XTime)} {cs : List (Committed XTime)} {s : Sys2}
    (hr : Reach2 env mw S needs os cs s) :
    AllGood env.d env.L s.cs ∧ Uniform env.nPer s.cs ∧ ∀ c ∈ s.cs, RootConsistent env.L c := by
  rcases joint_inv2 H hr with ⟨rfl, hi⟩ | ⟨cs0, cl, E, tl, sq, rfl, big⟩
  · exact ⟨hi.good, hi.unif, fun c hc => good_rootConsistent (hi.good c hc)⟩
  · exact ⟨big.good, big.unif, fun c hc => good_rootConsistent (big.good c hc)⟩

/-- C07's one-chain clause at every leg of every run: after every commit exactly one chain moves —
one point mass (leaf mode) or all point masses of one composite object (root mode), with one velocity — and if the run goes on,
the mode is the one the activation flags show in the next leg -/
theorem c07_one_chain_closed2 (H : Hyp2 env mw S) {os : List (Oracle XTime)} {cs : List (Committed XTime)} {s : Sys2}
    (hr : Reach2 env mw S needs os cs s) {cl : Committed XTime} (hl : cs.getLast? = some cl) :
    ∃ E sq m, owner mw.w.wires cl.handler = some E ∧ OneChainM s.cs sq m ∧ OneChain s.cs sq ∧
      (cl.stop = false → m = ofW (mw.mode (aStep mw.w (absOf s.mid) E))) := by
  obtain ⟨E, tl, sq, big⟩ := jinv_big2 (joint_inv2 H hr) hl
  obtain ⟨m, hc, hm⟩ := big.chain
  exact ⟨E, sq, m, big.owner, hc, (oneChain_iff _ _).mpr ⟨m, hc⟩, hm⟩

/-- the same in the form of `JF.C12.chain_clause` -/
theorem c07_chain_clause_closed2 (H : Hyp2 env mw S) {os : List (Oracle XTime)} {cs : List (Committed XTime)} {s : Sys2}
    (hr : Reach2 env mw S needs os cs s) (hne : cs ≠ []) :
    ∃ (i : Nat) (c : CObj ℚ) (v : List ℚ), s.cs[i]? = some c ∧
      (∀ (k : Nat) (ck : CObj ℚ) (l : PUnit ℚ), s.cs[k]? = some ck → l ∈ ck.leaves → l.vel ≠ none → k = i ∧ l.vel = some v) ∧
      ((∃ (j : Nat) (a : PUnit ℚ), c.leaves[j]? = some a ∧ a.vel = some v ∧
          ∀ (k : Nat) (l : PUnit ℚ), c.leaves[k]? = some l → l.vel ≠ none → k = j) ∨
       (c.leaves ≠ [] ∧ ∀ l ∈ c.leaves, l.vel = some v)) := by
  obtain ⟨cl, hl⟩ := Option.isSome_iff_exists.mp (List.getLast?_isSome.mpr hne)
  obtain ⟨_, sq, _, _, _, hc, _⟩ := c07_one_chain_closed2 H hr hl
  obtain ⟨i, c, v, h1, _, h3, h4⟩ := chain_clause hc
  exact ⟨i, c, v, h1, h3, h4⟩

/-- the squared speed of the chain is conserved from leg to leg -/
theorem c07_speed_conserved2 (H : Hyp2 env mw S) {os : List (Oracle XTime)} {cs : List (Committed XTime)} {s : Sys2}
    (hr : Reach2 env mw S needs os cs s) (hne : cs ≠ []) (hgo : ∀ cl, cs.getLast? = some cl → cl.stop = false)
    {o : Oracle XTime} {cm : Committed XTime} {s' : Sys2} (hstep : SysStep2 env mw S needs s o cm s') :
    ∃ sq, OneChain s.cs sq ∧ OneChain s'.cs sq := by
  rcases joint_inv2 H hr with ⟨rfl, _⟩ | ⟨cs0, cl, E, tl, sq, rfl, big⟩
  · exact absurd rfl hne
  · obtain ⟨E', tl', big'⟩ := big_step2 H big (hgo cl (by simp)) hstep
    obtain ⟨m, hc, _⟩ := big.chain
    obtain ⟨m', hc', _⟩ := big'.chain
    exact ⟨sq, (oneChain_iff _ _).mpr ⟨m, hc⟩, (oneChain_iff _ _).mpr ⟨m', hc'⟩⟩

/-- `CandOK` (`JF/Props/MediatorLoop.lean`) holds along every run, by the constraint `CandsOK2` on the oracle -/
theorem candOK_closed2 (H : Hyp2 env mw S) {os : List (Oracle XTime)} {cs : List (Committed XTime)} {s : Sys2}
    (hr : Reach2 env mw S needs os cs s) : MediatorLoop.Legs (CandOK xcfg) (fun _ => none) xcfg.bot cs := by
  induction hr with
  | init => trivial
  | @step os cs s s' o cm prev hgo hstep ih =>
    rw [SystemInv.legs_snoc]
    refine ⟨ih, ?_⟩
    show ∀ q ∈ cm.pushed, xcfg.lt q.2 (lastOf xcfg.bot cs) = false
    rcases joint_inv2 H prev with ⟨rfl, _⟩ | ⟨cs0, cl, E, tl, sq, rfl, big⟩
    · intro q _; exact xcfg_strictWeak.bot_min q.2
    · rw [lastOf_snoc, leg_pushed hstep.leg]
      intro q hq
      obtain ⟨p, hp, rfl⟩ := List.mem_map.mp hq
      exact big.med.rel.last ▸ (hstep.cands p hp).2

/-- commit times never decrease (C07's time order for the composed system), from `candOK_closed2` and the mediator invariant —
not from the scheduler's own monotonicity assertion -/
theorem commit_times_sorted_closed2 (H : Hyp2 env mw S) {os : List (Oracle XTime)} {cs : List (Committed XTime)} {s : Sys2}
    (hr : Reach2 env mw S needs os cs s) : cs.Pairwise (fun a b => xcfg.lt b.time a.time = false) :=
  commit_times_sorted_pairwise xcfg_strictWeak (specLaws xcfg_strictWeak) (hyp2_static H) (reach_medRun2 hr)
    (candOK_closed2 H hr)

/-- … and the assertion `_event_time_increasing` of the scheduler never fires in the next leg, whatever the oracle, as long as
the candidates of the handlers that leg hands out obey `CandsOK2` -/
theorem guard_never_fires_closed2 (H : Hyp2 env mw S) {os : List (Oracle XTime)} {cs : List (Committed XTime)} {s : Sys2}
    (hr : Reach2 env mw S needs os cs s) (o : Oracle XTime)
    (hc : ∀ a1 created, getToRun (mwire mw.w S needs).w (mwire mw.w S needs).S s.med.act s.med.preceding o.yields =
        (a1, .ok created) → CandsOK2 s.med.sched.last o created) (h : HandlerId) :
    leg (mwire mw.w S needs) (specI xcfg) s.med o ≠ .error (.schedGuard h) := by
  refine guard_never_fires (specLaws xcfg_strictWeak) (hyp2_static H) (reach_medRun2 hr) o ?_ h
  intro x hx
  rcases joint_inv2 H hr with ⟨rfl, _⟩ | ⟨cs0, cl, E, tl, sq, rfl, big⟩
  · exact xcfg_strictWeak.bot_min _
  · rw [lastOf_snoc]
    obtain ⟨a1, created, hg, q, hq, rfl⟩ := mem_createdOf hx
    exact big.med.rel.last ▸ (hc _ _ hg q hq).2

/-- The C17 link.  In every leg `k` of every run: while a sampling candidate with time `t_s` is pending
(in the middle of the leg), the event committed by the leg is not later than `t_s` (minimality, C06), and when the sampling
handler itself commits, it commits at exactly `t_s` — the candidate time it returned when it was handed out.  With
`commit_times_sorted_closed2`: no event after `t_s` is committed before the sample. -/
theorem no_sample_skipped2 (H : Hyp2 env mw S) {os : List (Oracle XTime)} {cs : List (Committed XTime)} {s : Sys2}
    (hr : Reach2 env mw S needs os cs s) {k : Nat} {cm : Committed XTime} (hk : cs[k]? = some cm)
    {hs : HandlerId} {ts : XTime} (_ : kindOfH mw.w hs = .sampling)
    (hp : pendPushed (pendOf (fun _ => none) (cs.take k)) cm hs = some ts) (hfin : xcfg.finite ts = true) :
    xcfg.lt ts cm.time = false ∧ (cm.handler = hs → cm.time = ts) :=
  SystemInv.pending_not_skipped (hyp2_static H) (reach_medRun2 hr) hk hp hfin

/-- the same in the rational order of the exact reading -/
theorem no_sample_skipped_val2 (H : Hyp2 env mw S) {os : List (Oracle XTime)} {cs : List (Committed XTime)} {s : Sys2}
    (hr : Reach2 env mw S needs os cs s) {k : Nat} {cm : Committed XTime} (hk : cs[k]? = some cm)
    {hs : HandlerId} {ts t : Time ℚ} (hkind : kindOfH mw.w hs = .sampling)
    (hp : pendPushed (pendOf (fun _ => none) (cs.take k)) cm hs = some (.fin ts)) (hts : Normalised ts)
    (ht : cm.time = .fin t) (htn : Normalised t) : val t ≤ val ts := by
  have := (no_sample_skipped2 H hr hk hkind hp rfl).1
  rw [ht] at this
  exact (xlt_false_iff hts htn).mp this

/-- C08's first sentence for every run: the in-state of a committed interaction event is current.
With `born h` = the concrete state in the middle of the leg in which `h` was handed out last, i.e. the state its candidate was
computed from: if the tagger of the handler `cl.handler` the leg committed is an interaction tagger, every unit of its in-state
(`branchUnits`) moves in the state the leg committed on (`s.csPrev`) as it did in `born cl.handler` (`SameMotion2`).  More
generally (`Current`) this holds for every pending handler of every such tagger.  Both hypotheses of C08's `StepOK8` are discharged
(`mid_cur2`). -/
theorem c08_closed2 (H : Hyp2 env mw S) {os : List (Oracle XTime)} {cs : List (Committed XTime)} {s : Sys2}
    (hr : Reach2 env mw S needs os cs s) {cl : Committed XTime} (hl : cs.getLast? = some cl) :
    ∃ (hi : Inv env ⟨s.csPrev, ofW (mw.mode (absOf s.mid))⟩) (born : HandlerId → G env),
      C08.Reach8 mw.w.wires (world2 env mw) (motion2 env mw) S ⟨⟨s.mid, s.ids, ⟨_, hi⟩⟩, born⟩ ∧
      C08.Current (motion2 env mw) ⟨⟨s.mid, s.ids, ⟨_, hi⟩⟩, born⟩ ∧
      ∀ E, owner mw.w.wires cl.handler = some E → motionBound (mw.w.tagger E) = true →
        ∀ u ∈ (motion2 env mw).units (s.ids cl.handler),
          SameMotion2 env.d env.L (born cl.handler).1.cs s.csPrev u := by
  obtain ⟨E0, tl, sq, big⟩ := jinv_big2 (joint_inv2 H hr) hl
  obtain ⟨hi, born, hr8⟩ := big.cur
  have hcur := (C08.current_of_reach (hyp2_static (needs := needs) H).wf hr8).1
  refine ⟨hi, born, hr8, hcur, fun E hE hb u hu => ?_⟩
  obtain rfl : E0 = E := Option.some.inj (big.owner.symm.trans hE)
  exact hcur E0 ⟨by rw [← mw.w.wires_length]; exact owner_lt big.owner, hb⟩ cl.handler big.running u hu

/-- C08's second sentence for every run, without the footprint hypothesis.  If leg `k` commits an
event that may change the motion of a unit (`affects · .motion`: anything but sampling, dumping, end of run) while the event of a
handler `h` of an interaction tagger is pending — i.e. `h`'s candidate was computed before that commit —, then `h`'s event is in
the trash list of leg `k`, and if `h` commits in a later leg `j`, it was handed out again (its candidate recomputed from the then
current state) in some leg `i` with `k < i ≤ j`. -/
theorem c08_stale_trashed_closed2 (H : Hyp2 env mw S) {os : List (Oracle XTime)} {cs : List (Committed XTime)} {s : Sys2}
    (hr : Reach2 env mw S needs os cs s) {k j : Nat} {ck cj : Committed XTime}
    (hk : cs[k]? = some ck) {E : TaggerIdx} (hE : owner mw.w.wires ck.handler = some E)
    (hm : affects (mw.w.tagger E) .motion = true) {h : HandlerId} {T : TaggerIdx} (hT : owner mw.w.wires h = some T)
    (hb : motionBound (mw.w.tagger T) = true)
    (hp : (pendPushed (pendOf (fun _ => none) (cs.take k)) ck h).isSome) :
    h ∈ ck.trashed ∧
    (k < j → cs[j]? = some cj → cj.handler = h →
      ∃ (i : Nat) (ci : Committed XTime), k < i ∧ i ≤ j ∧ cs[i]? = some ci ∧ h ∈ ci.created.map Prod.fst) := by
  have htr : h ∈ ck.trashed := by
    obtain ⟨os0, s0, s1, o, hr0, hgo, hst⟩ := reach_leg2 hr hk
    rcases joint_inv2 H hr0 with ⟨he, hi⟩ | ⟨cs0, cl, E0, tl, sq, he, big⟩
    · -- the first leg: only the start-of-run handler is pending
      rw [he] at hp
      obtain ⟨_, f⟩ := SysLeg.leg_facts (hyp2_static H) (SysLeg.minv_of_init hi.med) hst.leg hst.mid'
      exact absurd ((f.first H.hS hi.med).2.2 h hp) (SysLeg.not_bound_of_start hT hb)
    · have hl : (cs.take k).getLast? = some cl := by rw [he]; simp
      obtain ⟨E0, f⟩ := SysLeg.leg_facts (hyp2_static H) big.med hst.leg hst.mid'
      obtain rfl : E0 = E := Option.some.inj (f.owner.symm.trans hE)
      obtain ⟨_, hi', h', hrun'⟩ := mid_run2 H big (hgo cl hl) hst (f.update big.started big.prec big.owner)
      exact f.trashed_of hT hp (Footprints2.clause_h_concrete2 env H.hL mw S H.sound H.hS H.sup hrun'.toRun
        (List.ne_nil_of_mem f.running) (by intro hk; simp [affects, hk] at hm) hm
        (by rw [← mw.w.wires_length]; exact owner_lt hT) hb)
  refine ⟨htr, fun hkj hj hc => ?_⟩
  exact trashed_never_committed_run (specLaws xcfg_strictWeak) (hyp2_static H) (reach_medRun2 hr) hk htr hkj hj hc

end

end JF.SystemInv2
