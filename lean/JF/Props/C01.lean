import JF.Props.C05
/-!
# C01 — Sampled configurations follow the Boltzmann distribution of the configured model

The algebraic core of global balance of the lifted, factorised event-chain process, assembled from

* events of factor `M` fire for the active unit `a` at rate `β · max 0 (q_{M,a})` (C02: the candidate distance inverts the
  accumulated uphill energy at an exponentially distributed budget; C03: `q` is the directional derivative of the factor
  energy; C04: thinning with a dominating bound realises exactly this rate);
* at an event the lifting scheme hands the motion to unit `k` with the probability `prob` whose flow identity is C05's
  `flow_balance` (cell-veto proposals: C18 `selection_probability`).

`global_balance_identity`: for every unit `i`, summed over all factors, the probability flow into the lifted state
"`i` moves" minus the flow out of it equals `−β Σ_M q_{M,i} = −β (v · ∇_i U)`, the transport term that the
straight-line motion of `i` contributes — the stationarity condition of `exp(−βU) ⊗ uniform(lifting variables)`.

Generator-level stationarity of the Boltzmann weight follows from the same per-factor balance (`inflow_eq`) in
`JF/Props/C01Generator.lean`. Not formalised:
semigroup / process identification, ergodicity, convergence of histograms. The statistical clause of the property is
probed by the run-level oracle of `harness/props/c01.py` as a search for a failing history only.
-/
namespace JF.C01
open JF JF.Lifting JF.C05

variable {K : Type} [Field K] [LinearOrder K] [IsStrictOrderedRing K] {ι : Type}

def evRate (β : K) (tbl : List (K × ι)) (a : Nat) : K := β * max 0 (rate tbl a)

/-- probability flow into the `k`-th unit of the negative list: over all active units, event rate times selection
probability of the lifting scheme -/
def inflow (β : K) (sch : Scheme) (tbl : List (K × ι)) (k : Nat) : K :=
  ∑ a ∈ Finset.range tbl.length, evRate β tbl a * prob sch tbl a k

/-- **Per-factor balance, receiving side**: the flow into a unit of non-positive derivative `−n_k` equals `β n_k`. -/
theorem inflow_eq (β : K) (sch : Scheme) (tbl : List (K × ι)) (hz : total tbl = 0) {k : Nat}
    (hk : k < (negOf tbl).length) : inflow β sch tbl k = β * nrate tbl k := by
  rw [← flow_balance sch tbl hz hk, inflow, Finset.mul_sum]
  apply Finset.sum_congr rfl
  intro a _
  unfold evRate
  split
  · next h => rw [max_eq_right h.le, mul_assoc]
  · next h => rw [max_eq_left (not_lt.mp h), mul_zero, zero_mul]

/-- how the unit under consideration appears in one factor: with positive derivative at table index `a`
(it can only lose the motion there), or as the `k`-th entry of the negative list (it can only receive it) -/
inductive Role where
  | pos (a : Nat)
  | neg (k : Nat)

structure Factor (K ι : Type) where
  tbl : List (K × ι)
  role : Role

/-- the derivative `q_{M,i}` of the factor energy for the unit under consideration -/
def Factor.deriv (f : Factor K ι) : K :=
  match f.role with
  | .pos a => rate f.tbl a
  | .neg k => - nrate f.tbl k

def Factor.WF (f : Factor K ι) : Prop :=
  total f.tbl = 0 ∧
  match f.role with
  | .pos a => 0 < rate f.tbl a
  | .neg k => k < (negOf f.tbl).length

/-- net probability flow into the lifted state "this unit moves" contributed by one factor:
a unit of positive derivative is never selected (C05 `choose_negative_of_nodup`), so it only loses flow at its own event
rate; a unit of non-positive derivative fires no event (`max 0 q = 0`) and receives `inflow` -/
def Factor.netInflow (β : K) (sch : Scheme) (f : Factor K ι) : K :=
  match f.role with
  | .pos a => - evRate β f.tbl a
  | .neg k => inflow β sch f.tbl k - β * max 0 (- nrate f.tbl k)

/-- **Per-factor balance**: net inflow = `−β q_{M,i}`, whichever sign the derivative has. -/
theorem factor_balance (β : K) (sch : Scheme) (f : Factor K ι) (hf : f.WF) :
    f.netInflow β sch = - β * f.deriv := by
  obtain ⟨hz, hr⟩ := hf
  unfold Factor.netInflow Factor.deriv
  cases hrole : f.role with
  | pos a =>
    rw [hrole] at hr
    simp only [evRate]
    rw [max_eq_right (le_of_lt hr), neg_mul]
  | neg k =>
    rw [hrole] at hr
    simp only []
    rw [inflow_eq β sch f.tbl hz hr, max_eq_left (neg_nonpos.mpr (nrate_nonneg f.tbl k)), mul_zero, sub_zero,
      neg_mul_neg]

/-- **Global balance identity** (C01). Summed over all factors the unit takes part in (one lifting scheme here; a mix
is covered by applying this per scheme), the net probability flow into the lifted state equals minus `β` times the
total derivative `Σ_M q_{M,i}` — the transport term of the straight-line motion. -/
theorem global_balance_identity (β : K) (sch : Scheme) (fs : List (Factor K ι)) (h : ∀ f ∈ fs, f.WF) :
    (fs.map (Factor.netInflow β sch)).sum = - β * (fs.map Factor.deriv).sum := by
  induction fs with
  | nil => simp
  | cons f t ih =>
    simp only [List.map_cons, List.sum_cons]
    rw [factor_balance β sch f (h f (List.mem_cons_self ..)), ih (fun g hg => h g (List.mem_cons_of_mem _ hg))]
    ring

omit [IsStrictOrderedRing K] in
/-- thinning (C04) does not change the realised rate: proposing at a dominating rate `b > 0` and confirming with
probability `max 0 q / b` realises `max 0 q` -/
theorem thinned_rate (q b : K) (hb : 0 < b) : b * (max 0 q / b) = max 0 q :=
  mul_div_cancel₀ _ hb.ne'

/-- non-vacuity: a three-unit factor (derivatives 2, −1/2, −3/2) seen from the second negative unit, and a pair factor
(1, −1) seen from its positive unit -/
example : (⟨[((2:ℚ), 0), (-1/2, 1), (-3/2, 2)], .neg 1⟩ : Factor ℚ ℕ).WF := by
  refine ⟨by norm_num [total], ?_⟩
  show 1 < (negOf [((2:ℚ), 0), (-1/2, 1), (-3/2, 2)]).length
  norm_num [negOf]
example : (⟨[((1:ℚ), 0), (-1, 1)], .pos 0⟩ : Factor ℚ ℕ).WF := by
  refine ⟨by norm_num [total], ?_⟩
  show (0:ℚ) < rate [((1:ℚ), 0), (-1, 1)] 0
  norm_num [rate]

end JF.C01
