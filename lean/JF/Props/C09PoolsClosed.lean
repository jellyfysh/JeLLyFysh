import JF.Lemmas.C09PoolsClosedCW
import JF.Lemmas.C09PoolsClosedCW2
import JF.Gen.WiringsSound
import JF.Lemmas.C09PoolsShipped
/-!
# C09, last clause, CLOSED on the runs of the composed systems: no pool is ever exhausted — without a demand hypothesis

`JF/Props/C09Pools.lean` proves demand bounds for the yield functions of the concrete worlds, states the decidable obligation
`shortfalls pc = []` ("pool ≥ bound") per shipped `.ini`, and composes the two only under the hypothesis "every yield respects
`demandBound` on the visited states" (`shipped_no_pool_exhausted_partial`).  This module discharges that hypothesis along the runs of
the composed mediator loop, with the joint invariants of `JF/Props/SystemInv.lean` / `JF/Props/SystemInv2.lean`.

## A. coulomb_atoms world (`JF.Sys.Reach`, point masses + one `SingleActiveCellOccupancy`)

Setting: a run `Reach env geo pc.w S needs os cs s` under `JF.Sys.Hyp` (`JF/Lemmas/SystemRunStep.lean`), `TieFreeAll` (the strong
no-tie hypothesis under which C11's FULL `OccInv` holds; for wirings without a cell-boundary handler it holds by itself: `tieFreeAll_of_no_cb`), `CellOfInGrid env`
(C10Closed: `position_to_cell` of a position in the box is a cell of the grid; `GridBox.inGrid`), the generated obligation
`shortfalls pc = []`, and `Fits pc env s` (the generated numbers describe THIS environment: number of point masses, cell system,
occupant limit, number of charged point masses — invariants of the legs, `fits_step`).

`NextLeg env c s o occ'`: the inputs of the NEXT pass of the loop body — the occupancy `occ'` after the `update` the next call of
`get_event_handlers_to_run` performs, and the yields `o.yields` COMPUTED from `⟨s.us, occ'⟩` (`CW.yieldCls`).  The next leg is NOT
assumed to succeed.

## B. composite objects without cells (`JF.Sys2.Reach2`), activation-aware (namespace `JF.C09Pools.Closed2`)

Setting: a run `Reach2 env mw S needs os cs s` under `JF.Sys2.Hyp2` (`JF/Lemmas/SystemRun2Step.lean`; NO no-tie hypothesis in this
world), `pc.w = mw.w`, `shortfalls pc = []`, `Fits2 pc env s.cs` (numbers of composite objects / point masses per object ≠ 1, factor maps and factor types of
the generated data are those of the environment) and the decidable **`selSound mw pc S`**: in every reachable activation state an
activated tagger with `sel = 0` (asked in leaf mode only) sees leaf mode — the mode READ OFF THE FLAGS, `ModeWiring.mode` — and one
with `sel = 1` sees root mode.

## Not in this file
* B: the very FIRST call (`cs = []`, only the start-of-run tagger is asked), the instances for the other shipped wirings of this world
  and a concrete multi-leg `Reach2` run as non-vacuity witness are in `JF/Props/C09PoolsClosed2.lean`.
* A: `Fits` is a hypothesis about the reached state (it speaks about quantities no leg changes: `fits_step`, `fits_step_back`,
  `fits_reach`); the exact reading (`env.o = Ops.rat`), the positive direction of motion and `TieFreeAll` are
  hypotheses of `JF/Props/SystemInv.lean` as well.
* composite objects WITH cells (`dipoles/cell_*.ini`, water): the bounds are not composed with the runs `Reach3` of that world.
-/
namespace JF.C09Pools.Closed
open JF JF.Act JF.Heap JF.Sched JF.Med JF.CW JF.C14 JF.MediatorLoop JF.Kin JF.Sys JF.SystemInv JF.CellTaggers JF.C10C11
  JF.C10Closed JF.C09Pools

section
variable {env : Env ℚ} {geo : Geo env} {S : TaggerIdx} {needs : HandlerId → Bool}

/-- the inputs of the next pass of the loop body: the occupancy after the activator's `update` (none in the first call), and the
yields of the taggers computed on the current point masses and that occupancy -/
structure NextLeg (env : Env ℚ) (c : Wiring) (s : Sys) (o : Oracle XTime) (occ' : Occ.State) : Prop where
  occ1 : occNext env (hasOccOf c) s = some occ'
  yields : o.yields = fun T => yieldCls env (c.tagger T).cls ⟨s.us, occ'⟩

/-- a wiring without a cell-boundary handler needs no no-tie hypothesis -/
theorem tieFreeAll_of_no_cb {c : Wiring} (h : (List.range c.n).all (fun E => (c.tagger E).kind != .cellBoundary) = true)
    (cs : List (Committed XTime)) : TieFreeAll c cs := by
  intro k cm _ _ hb hkb
  exfalso
  unfold kindOfH at hkb
  cases ho : owner c.wires hb with
  | none => rw [ho] at hkb; cases hkb
  | some E =>
    rw [ho] at hkb
    have hE : E < c.n := by rw [← c.wires_length]; exact owner_lt ho
    have := List.all_eq_true.mp h E (List.mem_range.mpr hE)
    simp [hkb] at this

/-- **A1 — the demand hypothesis `hy` of `JF/Props/C09Pools.lean`, discharged**: on the state the next leg's taggers yield on, every tagger yields at most
`demandBound` in-states -/
theorem demand_le_bound_closed (pc : PoolCfg) (H : Hyp env pc.w S) (hG : hasOccOf pc.w = true → CellOfInGrid env)
    {os : List (Oracle XTime)} {cs : List (Committed XTime)} {s : Sys} (hr : Reach env geo pc.w S needs os cs s)
    (nta : TieFreeAll pc.w cs) (fit : Fits pc env s) {o : Oracle XTime} {occ' : Occ.State} (nl : NextLeg env pc.w s o occ')
    (T : TaggerIdx) : (o.yields T).length ≤ demandBound pc T := by
  rw [nl.yields]
  refine yield_le_demandBound pc env H.sup s.us occ' fit.nPer fit.nRoots (next_movers H hr (tieFree_of_all nta)) ?_ T
  intro hO
  obtain ⟨o', h1, h2, h3, h4⟩ := fit.occ hO
  exact ⟨⟨o', h1, h2, by rw [occNext_cap nl.occ1]; exact h3, h4⟩, occInv_next H hr nta hO (c11_occinv_closed H hr nta hO) nl.occ1,
    inGrid_of_inBox (hG hO) (box_us_closed H hr (tieFree_of_all nta))⟩

/-- **A2 — demand ≤ pool**: with the generated obligation, every tagger yields at most as many in-states as its pool holds -/
theorem demand_le_pool_closed (pc : PoolCfg) (H : Hyp env pc.w S) (hG : hasOccOf pc.w = true → CellOfInGrid env) (ok : shortfalls pc = [])
    {os : List (Oracle XTime)} {cs : List (Committed XTime)} {s : Sys} (hr : Reach env geo pc.w S needs os cs s)
    (nta : TieFreeAll pc.w cs) (fit : Fits pc env s) {o : Oracle XTime} {occ' : Occ.State} (nl : NextLeg env pc.w s o occ')
    (T : TaggerIdx) (hT : T < pc.w.n) : (o.yields T).length ≤ (pc.w.tagger T).pool :=
  Nat.le_trans (demand_le_bound_closed pc H hG hr nta fit nl T) (pool_ge_of_no_shortfall ok hT)

/-- **A3 — `no_pool_exhausted_closed`: the next pass of `SingleProcessMediator.run` does not raise `TagActivatorError`**, for every
run of the composed system, whatever candidate times the handlers return: NO demand hypothesis, and the leg is not assumed to
succeed.  (`hgo`: the last leg did not commit the end-of-run event — after it there is no next pass.) -/
theorem no_pool_exhausted_closed (pc : PoolCfg) (H : Hyp env pc.w S) (hG : hasOccOf pc.w = true → CellOfInGrid env) (ok : shortfalls pc = [])
    {os : List (Oracle XTime)} {cs : List (Committed XTime)} {s : Sys} (hr : Reach env geo pc.w S needs os cs s)
    (nta : TieFreeAll pc.w cs) (hgo : ∀ cl, cs.getLast? = some cl → cl.stop = false) (fit : Fits pc env s)
    {o : Oracle XTime} {occ' : Occ.State} (nl : NextLeg env pc.w s o occ') :
    leg (mwire pc.w S needs) (specI xcfg) s.med o ≠ .error .tagActivatorError := by
  have hdem := demand_le_pool_closed pc H hG ok hr nta fit nl
  obtain ⟨st, _, _⟩ := wiringSound_parts H.sound H.hS
  rcases joint_inv H hr (tieFree_of_all nta) with ⟨rfl, hi⟩ | ⟨cs0, cl, E, tl, a, pos, v, ts, rfl, big⟩
  · exact first_leg_ne_tagErr pc.w H.hS hi.med (hdem S (start_spec H.hS).1)
  · obtain ⟨hc, hph⟩ := big.phase
    have hocc : occAfter env (hasOccOf pc.w) s.occ s.us = some occ' := by
      have := nl.occ1; unfold occNext at this; rw [big.started] at this; simpa using this
    have hc' : Consistent env (hasOccOf pc.w) ⟨s.us, occ'⟩ :=
      consistent_after (g := ⟨s.usPrev, s.occ⟩) (g' := ⟨s.us, occ'⟩) hc hocc
    have hy : (fun T => (world env pc.w).yieldOf T ⟨⟨s.us, occ'⟩, hc'⟩) = o.yields := by rw [nl.yields]; rfl
    refine big.medBig.leg_ne_tagErr H.sound H.hS (hyp_fps H) (liveIs env pc.w) (hgo cl (by simp)) (hph.imp_left And.right) hy
      fun T hT _ => ?_
    have := hdem T (st.creates_lt E T hT)
    rw [← hy] at this; exact this

/-- **A4 — at every leg of every run** the taggers were asked for at most `pool` in-states each (the oracle of leg `k` is the
computed yield of that leg: `SysStep.yields`) -/
theorem demand_le_pool_every_leg (pc : PoolCfg) (H : Hyp env pc.w S) (hG : hasOccOf pc.w = true → CellOfInGrid env) (ok : shortfalls pc = [])
    {os : List (Oracle XTime)} {cs : List (Committed XTime)} {s : Sys} (hr : Reach env geo pc.w S needs os cs s)
    (nta : TieFreeAll pc.w cs) (fit : Fits pc env s) {k : Nat} {cm : Committed XTime} (hk : cs[k]? = some cm) :
    ∃ s0 s1 o, SysStep env geo pc.w S needs s0 o cm s1 ∧
      ∀ T, T < pc.w.n → (o.yields T).length ≤ (pc.w.tagger T).pool := by
  have hm : cm ∈ cs := List.mem_of_getElem? hk
  clear hk
  induction hr with
  | init s h => cases hm
  | @step os cs s s' o cm' prev hgo hstep ih =>
    have nta0 := tieFreeAll_snoc nta
    have fit0 := fits_step_back H.ho hstep fit
    rcases List.mem_append.mp hm with h | h
    · exact ih nta0 fit0 h
    · rw [List.mem_singleton] at h
      subst h
      exact ⟨s, s', o, hstep, fun T hT => demand_le_pool_closed pc H hG ok prev nta0 fit0 ⟨hstep.occ1, hstep.yields⟩ T hT⟩

end


open JF.Act.Gen JF.C09Pools.Gen

section
variable {geo : ∀ env : Env ℚ, Geo env} {needs : HandlerId → Bool}

/-- **`coulomb_atoms/cell_bounded.ini`: no run raises `TagActivatorError`** (any geometry instance; the environment has the
generated cell system `3 × 5 × 7`, occupant limit 1, two point masses, both charged: `Fits`) -/
theorem no_pool_exhausted_cell_bounded (env : Env ℚ) (ho : env.o = Ops.rat) (hG : CellOfInGrid env)
    {os : List (Oracle XTime)} {cs : List (Committed XTime)} {s : Sys}
    (hr : Reach env (geo env) cfg_coulomb_atoms_cell_bounded 7 needs os cs s) (nta : TieFreeAll cfg_coulomb_atoms_cell_bounded cs)
    (hgo : ∀ cl, cs.getLast? = some cl → cl.stop = false) (fit : Fits pool_coulomb_atoms_cell_bounded env s)
    {o : Oracle XTime} {occ' : Occ.State} (nl : NextLeg env cfg_coulomb_atoms_cell_bounded s o occ') :
    (∀ T, T < 8 → (o.yields T).length ≤ (cfg_coulomb_atoms_cell_bounded.tagger T).pool) ∧
    leg (mwire cfg_coulomb_atoms_cell_bounded 7 needs) (specI xcfg) s.med o ≠ .error .tagActivatorError :=
  ⟨demand_le_pool_closed pool_coulomb_atoms_cell_bounded (hyp_cell_bounded env ho) (fun _ => hG) shortfalls_coulomb_atoms_cell_bounded hr nta fit nl,
   no_pool_exhausted_closed pool_coulomb_atoms_cell_bounded (hyp_cell_bounded env ho) (fun _ => hG) shortfalls_coulomb_atoms_cell_bounded hr nta
    hgo fit nl⟩

/-- **`coulomb_atoms/cell_veto.ini`** -/
theorem no_pool_exhausted_cell_veto (env : Env ℚ) (ho : env.o = Ops.rat) (hG : CellOfInGrid env)
    {os : List (Oracle XTime)} {cs : List (Committed XTime)} {s : Sys}
    (hr : Reach env (geo env) cfg_coulomb_atoms_cell_veto 7 needs os cs s) (nta : TieFreeAll cfg_coulomb_atoms_cell_veto cs)
    (hgo : ∀ cl, cs.getLast? = some cl → cl.stop = false) (fit : Fits pool_coulomb_atoms_cell_veto env s)
    {o : Oracle XTime} {occ' : Occ.State} (nl : NextLeg env cfg_coulomb_atoms_cell_veto s o occ') :
    (∀ T, T < 8 → (o.yields T).length ≤ (cfg_coulomb_atoms_cell_veto.tagger T).pool) ∧
    leg (mwire cfg_coulomb_atoms_cell_veto 7 needs) (specI xcfg) s.med o ≠ .error .tagActivatorError :=
  ⟨demand_le_pool_closed pool_coulomb_atoms_cell_veto (hyp_cell_veto env ho) (fun _ => hG) shortfalls_coulomb_atoms_cell_veto hr nta fit nl,
   no_pool_exhausted_closed pool_coulomb_atoms_cell_veto (hyp_cell_veto env ho) (fun _ => hG) shortfalls_coulomb_atoms_cell_veto hr nta hgo fit nl⟩

/-- **`coulomb_atoms/power_bounded.ini`**: no internal state, no cell-boundary handler — neither a no-tie hypothesis nor
`CellOfInGrid` is needed -/
theorem no_pool_exhausted_power_bounded (env : Env ℚ) (ho : env.o = Ops.rat)
    {os : List (Oracle XTime)} {cs : List (Committed XTime)} {s : Sys}
    (hr : Reach env (geo env) cfg_coulomb_atoms_power_bounded 3 needs os cs s)
    (hgo : ∀ cl, cs.getLast? = some cl → cl.stop = false) (fit : Fits pool_coulomb_atoms_power_bounded env s)
    {o : Oracle XTime} {occ' : Occ.State} (nl : NextLeg env cfg_coulomb_atoms_power_bounded s o occ') :
    (∀ T, T < 5 → (o.yields T).length ≤ (cfg_coulomb_atoms_power_bounded.tagger T).pool) ∧
    leg (mwire cfg_coulomb_atoms_power_bounded 3 needs) (specI xcfg) s.med o ≠ .error .tagActivatorError :=
  have nta : TieFreeAll cfg_coulomb_atoms_power_bounded cs := tieFreeAll_of_no_cb (by decide) cs
  ⟨demand_le_pool_closed pool_coulomb_atoms_power_bounded (hyp_power_bounded env ho) (fun h => absurd h (by decide)) shortfalls_coulomb_atoms_power_bounded hr nta fit nl,
   no_pool_exhausted_closed pool_coulomb_atoms_power_bounded (hyp_power_bounded env ho) (fun h => absurd h (by decide)) shortfalls_coulomb_atoms_power_bounded hr nta
    hgo fit nl⟩

/-- **`coulomb_atoms/power_bounded_dump.ini`** -/
theorem no_pool_exhausted_power_bounded_dump (env : Env ℚ) (ho : env.o = Ops.rat)
    {os : List (Oracle XTime)} {cs : List (Committed XTime)} {s : Sys}
    (hr : Reach env (geo env) cfg_coulomb_atoms_power_bounded_dump 4 needs os cs s)
    (hgo : ∀ cl, cs.getLast? = some cl → cl.stop = false) (fit : Fits pool_coulomb_atoms_power_bounded_dump env s)
    {o : Oracle XTime} {occ' : Occ.State} (nl : NextLeg env cfg_coulomb_atoms_power_bounded_dump s o occ') :
    (∀ T, T < 6 → (o.yields T).length ≤ (cfg_coulomb_atoms_power_bounded_dump.tagger T).pool) ∧
    leg (mwire cfg_coulomb_atoms_power_bounded_dump 4 needs) (specI xcfg) s.med o ≠ .error .tagActivatorError :=
  have nta : TieFreeAll cfg_coulomb_atoms_power_bounded_dump cs := tieFreeAll_of_no_cb (by decide) cs
  ⟨demand_le_pool_closed pool_coulomb_atoms_power_bounded_dump (hyp_power_bounded_dump env ho) (fun h => absurd h (by decide))
    shortfalls_coulomb_atoms_power_bounded_dump hr nta fit nl,
   no_pool_exhausted_closed pool_coulomb_atoms_power_bounded_dump (hyp_power_bounded_dump env ho) (fun h => absurd h (by decide))
    shortfalls_coulomb_atoms_power_bounded_dump hr nta hgo fit nl⟩

end

/-! ## A — non-vacuity: `cell_bounded.ini` with two point masses in SystemInv's example environment

One-dimensional box, seven cells, occupant limit 1; point masses 0 and 1 at 1/14 and 9/14.  The generated `PoolCfg` of
`cell_bounded.ini` with the cell system of this environment (`pcEx`; pools and everything else as shipped) has no shortfall.  After the
first leg (start of run: unit 0 starts moving) every hypothesis of `no_pool_exhausted_closed` holds, `NextLeg` is inhabited, and the
second call of `get_event_handlers_to_run` — the commit of the start-of-run event, which creates ALL other taggers — does not raise. -/

namespace Example
open JF.SystemInv.Example JF.C10Closed.Example

def pcEx : PoolCfg := { pool_coulomb_atoms_cell_bounded with occs := [{ level := 1, grid := ⟨[7], 1⟩, cap := 1, nRel := 2 }] }
theorem okEx : shortfalls pcEx = [] := by decide +kernel

def us0' : List (PUnit ℚ) := [⟨[1/14], none, none⟩, ⟨[9/14], none, none⟩]
def occ0' : Occ.State := Occ.init 1 (unitsOf env us0')
def s0' : Sys := Sys.init cfg us0' occ0'

theorem init0' : Init env cfg s0' where
  med := rfl
  wf := by intro u hu; simp [s0', Sys.init, us0'] at hu; rcases hu with rfl | rfl <;> simp [WFU, env]
  box := by
    intro u hu; simp [s0', Sys.init, us0'] at hu
    rcases hu with rfl | rfl <;> norm_num [InBox, env, C11.Grid.L, g7]
  rest := by intro u hu; simp [s0', Sys.init, us0'] at hu; rcases hu with rfl | rfl <;> rfl
  occId := (init_active _ _).1
  occCell := (init_active _ _).2
  occInit := ⟨1, rfl⟩
  prev := rfl

theorem fit0' : Fits pcEx env s0' :=
  ⟨rfl, rfl, fun _ => ⟨_, rfl, rfl, by decide +kernel, by decide +kernel⟩⟩

/-- the very first call does not raise, whatever the candidate times -/
example (cand : HandlerId → XTime) :
    leg M (specI xcfg) s0'.med (mkO s0'.us occ0' cand) ≠ .error .tagActivatorError :=
  no_pool_exhausted_closed pcEx hyp (fun _ => inGrid) okEx (geo := geo) (.init s0' init0') (fun _ _ hk _ => by simp at hk) (by simp) fit0'
    ⟨rfl, rfl⟩

theorem h1' : (leg M (specI xcfg) s0'.med (mkO s0'.us occ0' cand1)).toOption.isSome = true := by decide +kernel
def us1' : List (PUnit ℚ) := Kin.step Ops.rat env.L us0' (.start ⟨0, 0⟩ 0 [1])
def s1' : Sys := nextS s0' _ h1' us1' occ0'
def c1' : Committed XTime := (legR s0' _ h1').2

theorem step1' : SysStep env geo cfg 7 needs s0' (mkO s0'.us occ0' cand1) c1' s1' := by
  refine step_of s0' occ0' cand1 h1' us1' rfl ?_ ⟨⟨0, 0⟩, by decide +kernel, ?_⟩
  · have hcr : (legR s0' _ h1').2.created = [(7, none)] := by decide +kernel
    rw [hcr]
    intro q hq
    simp only [List.mem_singleton] at hq
    subst hq
    refine ⟨fun h => absurd h (by decide), fun _ => ⟨normT 0 0 (by norm_num) (by norm_num), by decide +kernel⟩⟩
  · have hk : kindOfH cfg (legR s0' _ h1').2.handler = .startOfRun := by decide +kernel
    rw [hk]
    exact Or.inl ⟨.start ⟨0, 0⟩ 0 [1], rfl, rfl, ⟨by decide, velOK1, init0'.rest⟩, rfl⟩

theorem reach1' : Reach env geo cfg 7 needs ([] ++ [mkO s0'.us occ0' cand1]) ([] ++ [c1']) s1' :=
  .step (.init s0' init0') (by simp) step1'

theorem tieFreeAll1' : TieFreeAll cfg ([] ++ [c1']) := by
  intro k cm hk hq hb hkb
  have := cb_handler hkb
  subst this
  have hk1 : k < 1 := (List.getElem?_eq_some_iff.mp hk).1
  have : k = 0 := by omega
  subst this
  simp only [List.nil_append, List.getElem?_cons_zero, Option.some.injEq] at hk
  subst hk
  decide +kernel

theorem fit1' : Fits pcEx env s1' := fits_step rfl step1' fit0'

/-- the occupancy the second call works with: unit 0 has become the active unit of cell 0 -/
def occ1' : Occ.State := (occAfter env (hasOccOf cfg) s1'.occ s1'.us).get (by decide +kernel)
theorem next1' (cand : HandlerId → XTime) : NextLeg env cfg s1' (mkO s1'.us occ1' cand) occ1' :=
  ⟨hoccS s1' (by decide +kernel) _, rfl⟩

/-- **the commit of the start-of-run event creates every other tagger and does not raise**, whatever the candidate times; the
cell-bounding tagger (pool 1) is asked for exactly one in-state — `(0, 1)`: unit 1 sits in the non-nearby cell 4 — the bound is attained -/
example (cand : HandlerId → XTime) :
    leg M (specI xcfg) s1'.med (mkO s1'.us occ1' cand) ≠ .error .tagActivatorError :=
  no_pool_exhausted_closed pcEx hyp (fun _ => inGrid) okEx reach1' tieFreeAll1' (by intro cl hl; simp at hl; subst hl; decide +kernel) fit1'
    (next1' cand)
example : (mkO s1'.us occ1' cand1).yields 0 = [some [[0], [1]]] ∧ (cfg.tagger 0).pool = 1 ∧ demandBound pcEx 0 = 1 := by
  decide +kernel

end Example

end JF.C09Pools.Closed


namespace JF.C09Pools.Closed2
open JF JF.Act JF.Heap JF.Sched JF.Med JF.CW2 JF.C14 JF.MediatorLoop JF.Sys JF.Sys2 JF.Composite JF.C12 JF.SystemInv2 JF.C09Pools

section
variable {env : CW2.Env ℚ} {mw : ModeWiring} {S : TaggerIdx} {needs : HandlerId → Bool}

theorem supported2_clsOK {mw : ModeWiring} (hs : Supported2 mw = true) {T : TaggerIdx} (hT : T < mw.w.n) :
    CW2.clsOK (mw.w.tagger T).cls = true := by
  unfold Supported2 at hs
  simp only [Bool.and_eq_true] at hs
  have := List.all_eq_true.mp hs.1.2 (mw.w.tagger T) (by
    unfold Wiring.tagger
    rw [List.getElem?_eq_getElem hT]
    exact List.getElem_mem hT)
  simp only [Bool.and_eq_true] at this
  exact this.1

/-- **the activation flags in the middle of the NEXT leg are a reachable activation state** of the wiring (so that the decidable
conditions over `reach` — `WiringSound`, `ModeSound`, `selSound` — speak about them) -/
theorem next_flags_reach (H : Hyp2 env mw S) {cs : List (Committed XTime)} {cl : Committed XTime} {s : Sys2} {E : TaggerIdx}
    {tl : Time ℚ} {sq : ℚ} (big : Big2 env mw S needs cs cl s E tl sq) (hgo : cl.stop = false) :
    E < mw.w.n ∧ aStep mw.w (absOf s.mid) E ∈ reach mw.w S := by
  obtain ⟨_, hclosed, _⟩ := wiringSound_parts H.sound H.hS
  obtain ⟨hi, hph⟩ := big.phase
  rcases hph with ⟨_, hES, _, _, ids0, out, hfirst, _⟩ | ⟨h, hrunK⟩
  · subst hES
    refine ⟨(start_spec H.hS).1, ?_⟩
    rw [absOf_of_first hfirst]
    exact mem_reachFrom_of_mem mw.w (fuel mw.w) (List.mem_singleton.mpr rfl)
  · have ih := Act.run_inv mw.w (world2 env mw) (Tr2 env mw) S H.sound H.hS (hyp2_fps H) (liveIs2 env mw) hrunK.toRun
    obtain ⟨hEn, _, hcan⟩ := ih.canCommit_pending H.hS (liveIs2 env mw).live (List.ne_nil_of_mem big.running)
      (SysLeg.not_endOfRun_of_go big.owner big.stopEq hgo)
    exact ⟨hEn, closed_step hclosed ih.reach hEn hcan⟩

/-- **B1 — demand ≤ pool along `Reach2`, activation-aware, NO demand hypothesis.**  After every leg of every run (that did not end
the run), on the global state the NEXT call of `get_event_handlers_to_run` sees (`s.cs`), every tagger that is ACTIVATED in the
activation flags of that call (`aStep mw.w (absOf s.mid) E`: the flags in the middle of the last leg after the activate / deactivate
lists of the committing tagger `E`) yields at most as many in-states as its pool holds.  The mode of the flags bounds which factor
taggers are activated (`selSound`, decidable), the one-chain clause of the joint invariant (`Big2.chain`) says that the state IS a
one-chain state of that mode. -/
theorem demand_le_pool_closed2 (pc : PoolCfg) (H : Hyp2 env mw S) (hw : pc.w = mw.w) (ok : shortfalls pc = [])
    (hsel : selSound mw pc S = true) {os : List (Oracle XTime)} {cs : List (Committed XTime)} {s : Sys2}
    (hr : Reach2 env mw S needs os cs s) {cl : Committed XTime} (hl : cs.getLast? = some cl) (hgo : cl.stop = false)
    (fit : Fits2 pc env s.cs) :
    ∃ E, owner mw.w.wires cl.handler = some E ∧
      ∀ T, T < mw.w.n → aGet (aStep mw.w (absOf s.mid) E) T = true →
        (CW2.yieldCls env T (mw.w.tagger T).cls s.cs).length ≤ (mw.w.tagger T).pool := by
  obtain ⟨E, tl, sq, big⟩ := jinv_big2 (joint_inv2 H hr) hl
  refine ⟨E, big.owner, fun T hT ha => ?_⟩
  obtain ⟨_, hσ⟩ := next_flags_reach H big hgo
  obtain ⟨m, hc, hm⟩ := big.chain
  have hm' := hm hgo
  have hs := selSound_spec hsel hσ hT ha
  have hcls : CW2.clsOK (mw.w.tagger T).cls = true := supported2_clsOK H.sup hT
  have hb := yield2_le_demandBound pc env s.cs fit big.good big.unif hc T (by rw [hw]; exact hcls)
    ⟨fun h0 => by rw [hm', hs.1 h0]; rfl, fun h1 => by rw [hm', hs.2 h1]; rfl⟩
  have hp := pool_ge_of_no_shortfall ok (T := T) (by rw [hw]; exact hT)
  rw [hw] at hb hp
  exact Nat.le_trans hb hp

/-- **B2 — the next pass of `SingleProcessMediator.run` does not raise `TagActivatorError`** along `Reach2` (after at least one
leg; the leg is not assumed to succeed, the candidate times are arbitrary): activation-aware, no demand hypothesis -/
theorem no_pool_exhausted_closed2 (pc : PoolCfg) (H : Hyp2 env mw S) (hw : pc.w = mw.w) (ok : shortfalls pc = [])
    (hsel : selSound mw pc S = true) {os : List (Oracle XTime)} {cs : List (Committed XTime)} {s : Sys2}
    (hr : Reach2 env mw S needs os cs s) {cl : Committed XTime} (hl : cs.getLast? = some cl) (hgo : cl.stop = false)
    (fit : Fits2 pc env s.cs) {o : Oracle XTime}
    (hy : o.yields = fun T => CW2.yieldCls env T (mw.w.tagger T).cls s.cs) :
    leg (mwire mw.w S needs) (specI xcfg) s.med o ≠ .error .tagActivatorError := by
  obtain ⟨E', hE', hdem⟩ := demand_le_pool_closed2 pc H hw ok hsel hr hl hgo fit
  obtain ⟨E, tl, sq, big⟩ := jinv_big2 (joint_inv2 H hr) hl
  have hEE : E' = E := by rw [big.owner] at hE'; exact (Option.some.inj hE').symm
  subst hEE
  obtain ⟨st, _, _⟩ := wiringSound_parts H.sound H.hS
  obtain ⟨m, hc, hm⟩ := big.chain
  have hi' : CW2.Inv env ⟨s.cs, ofW (mw.mode (aStep mw.w (absOf s.mid) E'))⟩ :=
    ⟨big.good, big.unif, Or.inr ⟨sq, by rw [← hm hgo]; exact hc⟩⟩
  obtain ⟨hi, hph⟩ := big.phase
  have hyW : (fun T => (world2 env mw).yieldOf T ⟨_, hi'⟩) = o.yields := by
    rw [hy]; exact funext fun T => world2_yieldOf env mw T _
  exact big.medBig.leg_ne_tagErr H.sound H.hS (hyp2_fps H) (liveIs2 env mw) hgo
    (hph.imp (fun h => ⟨h.2.1, h.2.2.2.2⟩) fun ⟨_, r⟩ => r.toRun) hyW fun T hT ha =>
      (congrArg List.length (world2_yieldOf env mw T _)).trans_le (hdem T (st.creates_lt E' T hT) ha)

end

end JF.C09Pools.Closed2


namespace JF.C09Pools.Closed2
open JF JF.Act JF.Act.Gen JF.Heap JF.Sched JF.Med JF.CW2 JF.C14 JF.MediatorLoop JF.Sys JF.Sys2 JF.Composite JF.C12 JF.SystemInv2
  JF.C09Pools JF.C09Pools.Gen

/-- the activation-aware link holds for `dipole_motion.ini`: the leaf-mode factor taggers
(`harmonic_leaf`, `coulomb_leaf`, `repulsive_leaf`: `sel = 0`) are activated only in the leaf-mode activation state, the root-mode ones
(`coulomb_root`, `repulsive_root`: `sel = 1`) only in the root-mode one -/
theorem selSound_dipole_motion : selSound mcfg_dipoles_dipole_motion pool_dipoles_dipole_motion 10 = true := by decide +kernel

/-- … and it is not trivially true: if `repulsive_leaf` (pool 1; it would yield 2 in-states on a root-mode state) were asked in
both modes, or if `root_to_leaf` did not deactivate `repulsive_root`, the condition fails -/
example : selSound mcfg_dipoles_dipole_motion { pool_dipoles_dipole_motion with sel := [0, 0, 1, 1, 1, 2, 2, 2, 2, 2, 2] } 10 = false := by
  decide +kernel

theorem hyp2_dipole_motion (env : CW2.Env ℚ) (hL : BoxOK env.d env.L) : Hyp2 env mcfg_dipoles_dipole_motion 10 :=
  ⟨hL, cfg_sound_dipoles_dipole_motion, by decide, by decide, modeSound_dipoles_dipole_motion⟩

/-- **B for `dipoles/dipole_motion.ini`**: along every run, after every leg that did not end the run, every tagger that is ACTIVATED
in the next call of `get_event_handlers_to_run` yields at most `pool` in-states on the state that call sees — in particular
`repulsive_leaf` (pool 1) is never asked on a root-mode state, where it would yield 2 -/
theorem demand_le_pool_dipole_motion (env : CW2.Env ℚ) (hL : BoxOK env.d env.L) {needs : HandlerId → Bool}
    {os : List (Oracle XTime)} {cs : List (Committed XTime)} {s : Sys2}
    (hr : Reach2 env mcfg_dipoles_dipole_motion 10 needs os cs s) {cl : Committed XTime} (hl : cs.getLast? = some cl)
    (hgo : cl.stop = false) (fit : Fits2 pool_dipoles_dipole_motion env s.cs) :
    ∃ E, owner mcfg_dipoles_dipole_motion.w.wires cl.handler = some E ∧
      ∀ T, T < 11 → aGet (aStep mcfg_dipoles_dipole_motion.w (absOf s.mid) E) T = true →
        (CW2.yieldCls env T (mcfg_dipoles_dipole_motion.w.tagger T).cls s.cs).length ≤
          (mcfg_dipoles_dipole_motion.w.tagger T).pool :=
  demand_le_pool_closed2 pool_dipoles_dipole_motion (hyp2_dipole_motion env hL) rfl shortfalls_dipoles_dipole_motion
    selSound_dipole_motion hr hl hgo fit

/-- **… hence no run of `dipole_motion.ini` leaves the loop with `TagActivatorError`** at any pass after the first -/
theorem no_pool_exhausted_dipole_motion (env : CW2.Env ℚ) (hL : BoxOK env.d env.L) {needs : HandlerId → Bool}
    {os : List (Oracle XTime)} {cs : List (Committed XTime)} {s : Sys2}
    (hr : Reach2 env mcfg_dipoles_dipole_motion 10 needs os cs s) {cl : Committed XTime} (hl : cs.getLast? = some cl)
    (hgo : cl.stop = false) (fit : Fits2 pool_dipoles_dipole_motion env s.cs) {o : Oracle XTime}
    (hy : o.yields = fun T => CW2.yieldCls env T (mcfg_dipoles_dipole_motion.w.tagger T).cls s.cs) :
    leg (mwire mcfg_dipoles_dipole_motion.w 10 needs) (specI xcfg) s.med o ≠ .error .tagActivatorError :=
  no_pool_exhausted_closed2 pool_dipoles_dipole_motion (hyp2_dipole_motion env hL) rfl shortfalls_dipoles_dipole_motion
    selSound_dipole_motion hr hl hgo fit hy

/-- `Fits2` is satisfiable for the generated data of `dipole_motion.ini`: two dipoles, the factor maps of the shipped factor file -/
example : Fits2 pool_dipoles_dipole_motion
    ⟨[1], 1, 2, pool_dipoles_dipole_motion.fs, pool_dipoles_dipole_motion.ftypeOf⟩
    [⟨⟨[0], none, none⟩, [⟨[0], none, none⟩, ⟨[0], none, none⟩]⟩, ⟨⟨[0], none, none⟩, [⟨[0], none, none⟩, ⟨[0], none, none⟩]⟩] :=
  ⟨rfl, by decide, rfl, by with_reducible rfl, fun _ => rfl⟩

end JF.C09Pools.Closed2
