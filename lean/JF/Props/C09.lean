/-
C09 — Pending candidate events equal what a fresh start from the current state creates.

Model: `JF/Model/Activator.lean` (TagActivator bookkeeping, yields are inputs), `JF/Model/Wiring.lean`
(configuration data + the decidable side condition `WiringSound`).  Lemmas: `JF/Lemmas/Activator*.lean`.

(a) bookkeeping, unconditional: for EVERY sequence of activator operations and EVERY yields no handler is lost or duplicated,
    `update` returns only handlers that were not running, `trash` returns exactly the running ones, and the error outcome
    (TagActivatorError) occurs iff a create demands more handlers than the not-running list holds (`update_error_iff`; for
    duplicate-free create lists, which `WiringSound` demands).
(b) freshness, conditional on `StepOK` of every step: `fresh_after_every_commit` (induction over ALL runs) and its corollaries.
(c) `WiringSound` is decided per shipped .ini in the GENERATED module `JF/Gen/WiringsSound.lean`
    (`cfg_sound_<name> : WiringSound cfg_<name> = true := by decide +kernel`); here: it rejects realistic mutations.
(d) `WiringSound ∧ FootprintsSound ⇒ StepOK at every step`, hence C09 for every run of such a wiring: `fresh_of_wiringSound`.
-/
import JF.Model.Wiring
import JF.Lemmas.ActivatorFresh
import JF.Lemmas.ActivatorWiring
namespace JF.C09
open JF.Act

/-- the operations the mediator performs on the activator -/
inductive Op where
  | first (S : TaggerIdx) (yields : TaggerIdx → List IdTuple)
  | update (E : TaggerIdx) (yields : TaggerIdx → List IdTuple)
  | trash (E : TaggerIdx)

/-- `none` = the operation raised `TagActivatorError` -/
def runOp (w : Wires) (s : Act) : Op → Option Act
  | .first S ys => (first w s S ys).map Prod.fst
  | .update E ys => (update w s E ys).map Prod.fst
  | .trash E => some (trash w s E).1

def runOps (w : Wires) : Act → List Op → Option Act
  | s, [] => some s
  | s, op :: ops => match runOp w s op with
    | none => none
    | some s' => runOps w s' ops

theorem poolInv_runOps {w : Wires} {s s' : Act} (ops : List Op) (h : PoolInv w s) (e : runOps w s ops = some s') :
    PoolInv w s' := by
  induction ops generalizing s with
  | nil => simp only [runOps, Option.some.injEq] at e; exact e ▸ h
  | cons op ops ih =>
    unfold runOps at e
    split at e
    · cases e
    · next s1 h1 =>
      refine ih ?_ e
      cases op with
      | first S ys =>
        simp only [runOp, Option.map_eq_some_iff] at h1
        obtain ⟨r, hr, rfl⟩ := h1
        exact poolInv_first h hr
      | update E ys =>
        simp only [runOp, Option.map_eq_some_iff] at h1
        obtain ⟨r, hr, rfl⟩ := h1
        exact poolInv_update h hr
      | trash E =>
        simp only [runOp, Option.some.injEq] at h1
        exact h1 ▸ poolInv_trash E h

/-- **no handler is ever lost or duplicated**: after any sequence of operations with any yields, for every tagger the
running and not-running lists together are a permutation of the tagger's handler pool -/
theorem no_handler_lost_or_duplicated (w : Wires) (ops : List Op) (s : Act) (e : runOps w (initAct w) ops = some s)
    (T : TaggerIdx) : ((getT s T).running ++ (getT s T).notRunning).Perm (getW w T).pool :=
  (poolInv_runOps ops (poolInv_init w) e).2 T

/-- **`update` returns a handler only if it was not running**: the returned handlers are pairwise distinct, each sat in the
not-running list of a tagger of the create list, and none of them was in any running list -/
theorem update_returns_only_not_running {w : Wires} (wf : WFw w) (pok : PoolsOK w) {s s' : Act} (pinv : PoolInv w s)
    {E : TaggerIdx} {yields : TaggerIdx → List IdTuple} {out : List (HandlerId × IdTuple)}
    (e : update w s E yields = some (s', out)) :
    (out.map Prod.fst).Nodup ∧
    ∀ h ∈ out.map Prod.fst, (∃ T ∈ (getW w E).creates, h ∈ (getT s T).notRunning) ∧ ∀ U, h ∉ (getT s U).running :=
  create_keys pok pinv (wf E).1 (wf E).2 e

/-- **`trash` returns exactly the running handlers of the trashed taggers**, which afterwards run nothing -/
theorem trash_returns_exactly_running (w : Wires) (s : Act) (E : TaggerIdx) :
    (∀ h, h ∈ (trash w s E).2 ↔ ∃ T ∈ (getW w E).trashes, h ∈ (getT s T).running) ∧
    (∀ T ∈ (getW w E).trashes, (getT (trash w s E).1 T).running = []) ∧
    (∀ T, T ∉ (getW w E).trashes → getT (trash w s E).1 T = getT s T) :=
  ⟨fun h => trashLoop_out_mem _ _ h, fun T hT => by rw [trash_running, kept, if_pos hT], fun _ hT => trashLoop_frame _ _ hT⟩

theorem trash_returns_in_order (w : Wires) (s : Act) (E : TaggerIdx) (nd : (getW w E).trashes.Nodup) :
    (trash w s E).2 = (getW w E).trashes.flatMap fun T => (getT s T).running :=
  trashLoop_out _ _ nd

theorem update_error_iff {w : Wires} (wf : WFw w) {s : Act} (hl : s.length = w.length) (E : TaggerIdx)
    (yields : TaggerIdx → List IdTuple) :
    update w s E yields = none ↔
      ∃ T ∈ (getW w E).creates,
        (getT s T).notRunning.length <
          (if actAfter w E T (getT s T).activated then yields T else []).length := by
  have hr : ∀ U ∈ (getW w E).creates, U < (applyActivation w s E).length := by
    intro U hU; rw [applyActivation_length, hl]; exact (wf E).2 U hU
  unfold update
  rw [createLoop_none (wf E).1 hr]
  refine exists_congr fun T => and_congr_right fun hT => ?_
  rw [applyActivation_notRunning, getT_applyActivation _ _ _ _ (by rw [hl]; exact (wf E).2 T hT)]
  exact Iff.rfl

section fresh
variable {G : Type}

/-- all states a run can reach whose every commit satisfies the step hypotheses: the first call returns the start-of-run
handler, the start-of-run event is committed (`StartOK`), then any number of commits (`StepOK`) -/
inductive Reach (w : Wires) (W : World G) (S : TaggerIdx) : RS G → Prop where
  | start (ids0 : HandlerId → IdTuple) (g0 g1 : G) (s0 : Act) (out : List (HandlerId × IdTuple)) (rs1 : RS G)
      (hfirst : first w (initAct w) S (fun T => W.yieldOf T g0) = some (s0, out))
      (ok : StartOK w W ⟨s0, assign ids0 out, g0⟩ S g1)
      (hcommit : commit w W ⟨s0, assign ids0 out, g0⟩ S g1 = some rs1) : Reach w W S rs1
  | step (rs rs' : RS G) (E : TaggerIdx) (g' : G) (prev : Reach w W S rs)
      (ok : StepOK w W rs E g') (hcommit : commit w W rs E g' = some rs') : Reach w W S rs'

/-- **C09**: after every committed event, for every tagger the property speaks about, the multiset of (views of the) in-state
identifier tuples of the pending events equals what the tagger generates from scratch for the current state -/
theorem fresh_after_every_commit {w : Wires} {W : World G} {S : TaggerIdx} (wf : WFw w) (pok : PoolsOK w)
    (hS : ∀ T, W.live T → T ≠ S) {rs : RS G} (h : Reach w W S rs) :
    (∀ T, W.live T → Fresh W rs T) ∧ PoolInv w rs.act := by
  induction h with
  | start ids0 g0 g1 s0 out rs1 hfirst ok hcommit =>
    have p0 : PoolInv w s0 := poolInv_first (poolInv_init w) hfirst
    exact ⟨fresh_start wf pok p0 (fun T hl => first_running_nil hfirst (hS T hl)) ok hcommit, commit_poolInv p0 hcommit⟩
  | step rs rs' E g' _ ok hcommit ih =>
    exact ⟨fresh_step wf pok ih.2 ih.1 ok hcommit, commit_poolInv ih.2 hcommit⟩

/-- count form (sampling, end of chain, end of run, dumping, mode switch): as many pending events as the tagger would generate -/
theorem pending_count_eq {W : World G} {rs : RS G} {T : TaggerIdx} (h : Fresh W rs T) :
    (getT rs.act T).running.length = (yieldEff (getT rs.act T) (W.yieldOf T rs.g)).length :=
  h.length_running

/-- for an interaction-type tagger (`view = id`): a factor is pending exactly as often as the tagger generates it from scratch —
none missing, none duplicated -/
theorem no_factor_missing_or_duplicated {W : World G} {rs : RS G} {T : TaggerIdx} (hv : ∀ x, W.view T x = x)
    (h : Fresh W rs T) (f : IdTuple) :
    ((getT rs.act T).running.map rs.ids).count f = (yieldEff (getT rs.act T) (W.yieldOf T rs.g)).count f := by
  unfold Fresh at h
  rw [show W.view T = id from funext hv] at h
  simpa using h.count_eq f

theorem deactivated_nothing_pending {W : World G} {rs : RS G} {T : TaggerIdx} (h : Fresh W rs T)
    (hd : (getT rs.act T).activated = false) : (getT rs.act T).running = [] :=
  fresh_nil_of_deactivated h hd

/-- the number of event handlers demanded never exceeds what the tagger owns: in a reachable state the pending handlers of
a tagger are distinct members of its pool, so a fresh tagger's yield is no longer than the pool -/
theorem demand_never_exceeds_pool {w : Wires} {W : World G} {rs : RS G} (pinv : PoolInv w rs.act)
    {T : TaggerIdx} (h : Fresh W rs T) :
    (yieldEff (getT rs.act T) (W.yieldOf T rs.g)).length ≤ (getW w T).pool.length := by
  rw [← pending_count_eq h, ← (pinv.2 T).length_eq]
  simp

end fresh

/-! ### the hypotheses are satisfiable: a two-tagger wiring (one factor tagger, the start-of-run tagger) and a run of it -/

namespace Example
/-- tagger 0: interaction (creates/trashes itself, pool {0,1}); tagger 1: start of run (creates 0, trashes itself, pool {2}) -/
def w : Wires := [⟨[0], [0], [], [], [0, 1]⟩, ⟨[0], [1], [], [], [2]⟩]
/-- global state = the active particle `g`; the factor tagger yields the two factors `(g, g+1)`, `(g, g+2)` -/
def W : World Nat :=
  { yieldOf := fun T g => if T = 0 then [some [[g], [g + 1]], some [[g], [g + 2]]] else [none]
    view := fun _ x => x
    live := fun T => T = 0 }

theorem wf : WFw w := by
  intro E
  match E with
  | 0 => exact ⟨by decide, by decide⟩
  | 1 => exact ⟨by decide, by decide⟩
  | n + 2 => exact ⟨by simp [getW, w, TWire.empty], by simp [getW, w, TWire.empty]⟩

theorem pok : PoolsOK w :=
  poolsOK_poolsFrom 0 [⟨"", .unknown, "", .unknown, [0], [0], [], [], 2, none⟩, ⟨"", .unknown, "", .unknown, [0], [1], [], [], 1, none⟩]

def s0 : Act := ((first w (initAct w) 1 (fun T => W.yieldOf T 5)).get (by decide)).1
def out0 : List (HandlerId × IdTuple) := ((first w (initAct w) 1 (fun T => W.yieldOf T 5)).get (by decide)).2
def rs0 : RS Nat := ⟨s0, assign (fun _ => none) out0, 5⟩
def rs1 : RS Nat := (commit w W rs0 1 5).get (by decide)
def rs2 : RS Nat := (commit w W rs1 0 7).get (by decide)

/-- a run: start, commit of the start-of-run event, then a lifting from particle 5 to particle 7 — every hypothesis holds -/
example : Reach w W 1 rs2 := by
  refine .step rs1 rs2 0 7 (.start (fun _ => none) 5 5 s0 out0 rs1 (Option.some_get (x := first w (initAct w) 1 (fun T => W.yieldOf T 5)) (by decide)).symm ?_ (by simp [rs1, rs0])) ?_ (by simp [rs2])
  · intro T hl; left; rw [show T = 0 from hl]; decide
  · refine ⟨?_, ?_, ?_⟩ <;> intro T hl <;> rw [show T = 0 from hl] <;> intro h1 h2
    · exact absurd (by decide) h2
    · exact absurd (by decide) h2
    · exact absurd (by decide) h1

/-- and the conclusion is not vacuous there: the two pending handlers carry the two factors of particle 7 -/
example : (getT rs2.act 0).running.map rs2.ids = [some [[7], [8]], some [[7], [9]]] := by decide
end Example

/-! ## `WiringSound` rejects realistic mutations of a shipped configuration

`coulomb_atoms/cell_veto.ini` written out by hand (the generated copy is `JF.Act.Gen.cfg_coulomb_atoms_cell_veto`), and three
mutations of it. -/

namespace Mutations
def tg (tag : String) (cls : TaggerClass) (kind : HandlerKind) (cr tr : List Nat) (label : Option Nat) : TaggerW :=
  ⟨tag, cls, "", kind, cr, tr, [], [], 1, label⟩

/-- taggers: 0 cell veto, 1 nearby, 2 cell boundary, 3 surplus, 4 sampling, 5 end of chain, 6 end of run, 7 start of run;
parameters: the create list of the cell-boundary tagger, the trash list of the end-of-chain tagger, the create list of sampling -/
def cellVeto (cbCreate eocTrash sampCreate : List Nat) : Wiring :=
  { name := "cell_veto", labels := ["single_active_cell_occupancy"],
    taggers := [
      tg "coulomb_cell_veto" .cellVeto .cellVeto [1, 0, 2, 3] [1, 0, 2, 3] (some 0),
      tg "coulomb_nearby" .excludedCells .interaction [1, 0, 2, 3] [1, 0, 2, 3] (some 0),
      tg "cell_boundary" .cellBoundary .cellBoundary cbCreate [1, 0, 2, 3] (some 0),
      tg "coulomb_surplus" .surplusCells .interaction [1, 0, 2, 3] [1, 0, 2, 3] (some 0),
      tg "sampling" .noInState .sampling sampCreate [4] none,
      tg "end_of_chain" .activeGlobalState .endOfChain [5, 1, 0, 2, 3] eocTrash none,
      tg "end_of_run" .noInState .endOfRun [6] [5, 1, 0, 2, 4, 3, 6] none,
      tg "start_of_run" .noInState .startOfRun [5, 1, 0, 2, 4, 3, 6] [7] none ] }

/-- as shipped -/
example : WiringSound (cellVeto [1, 0, 2, 3] [5, 1, 0, 2, 3] [4]) = true := by decide +kernel
/-- `coulomb_surplus` dropped from the create list of `[CellBoundary]` -/
example : WiringSound (cellVeto [1, 0, 2] [5, 1, 0, 2, 3] [4]) = false := by decide +kernel
/-- `coulomb_nearby` dropped from the trash list of `[EndOfChain]` -/
example : WiringSound (cellVeto [1, 0, 2, 3] [5, 0, 2, 3] [4]) = false := by decide +kernel
/-- `[Sampling]` re-creates the wrong tagger (`end_of_chain` instead of `sampling`) -/
example : WiringSound (cellVeto [1, 0, 2, 3] [5, 1, 0, 2, 3] [5]) = false := by decide +kernel
end Mutations

/-- **C09 for every configuration with `WiringSound cfg = true`** (in particular every shipped one: `cfg_sound_<name>`), for
every run of it in any world whose transitions respect the footprint tables -/
theorem fresh_of_wiringSound {G : Type} (c : Wiring) (W : World G) (Tr : TaggerIdx → G → G → Prop) (S : TaggerIdx)
    (sound : WiringSound c = true) (hS : c.start? = some S) (fps : FootprintsSound c W Tr) (hlive : LiveIs c W)
    {rs : RS G} (h : Run c W Tr S rs) : ∀ T, W.live T → Fresh W rs T :=
  (run_inv c W Tr S sound hS fps hlive h).fresh

/-! ### non-vacuity of the link: a three-tagger configuration, a world whose transitions respect the footprints, a run -/

namespace LinkExample
/-- 0: a factor tagger, 1: sampling, 2: start of run -/
def tiny : Wiring :=
  { name := "tiny", labels := [],
    taggers := [
      ⟨"coulomb", .factorTypeMap, "", .interaction, [0], [0], [], [], 2, none⟩,
      ⟨"sampling", .noInState, "", .sampling, [1], [1], [], [], 1, none⟩,
      ⟨"start_of_run", .noInState, "", .startOfRun, [0, 1], [2], [], [], 1, none⟩ ] }

example : WiringSound tiny = true := by decide +kernel

/-- global state = the active particle; the factor tagger yields the factor `(g, g+1)`; identifier view for the factor tagger,
count view for the others -/
def W : World Nat :=
  { yieldOf := fun T g => if T = 0 then [some [[g], [g + 1]]] else [none]
    view := fun T x => if T = 0 then x else none
    live := fun T => T < tiny.n ∧ (tiny.tagger T).kind ≠ .startOfRun }

/-- a sampling event leaves the active particle unchanged; any other event may change it -/
def Tr : TaggerIdx → Nat → Nat → Prop := fun E g g' => E = 1 → g' = g

theorem liveIs : LiveIs tiny W := fun _ => Iff.rfl

theorem fps : FootprintsSound tiny W Tr := by
  constructor
  intro E T g g' htr hd
  by_cases hT : T = 0
  · subst hT
    match E with
    | 0 => exact absurd hd (by decide)
    | 1 => rw [htr rfl]
    | 2 => exact absurd hd (by decide)
    | n + 3 =>
      have : tiny.tagger (n + 3) = ⟨"", .unknown, "", .unknown, [], [], [], [], 0, none⟩ := by
        simp [Wiring.tagger, tiny]
      rw [this] at hd
      exact absurd hd (by decide)
  · simp [W, hT]

def s0 : Act := ((first tiny.wires (initAct tiny.wires) 2 (fun T => W.yieldOf T 5)).get (by decide)).1
def out0 : List (HandlerId × IdTuple) := ((first tiny.wires (initAct tiny.wires) 2 (fun T => W.yieldOf T 5)).get (by decide)).2
def rs1 : RS Nat := (commit tiny.wires W ⟨s0, assign (fun _ => none) out0, 5⟩ 2 5).get (by decide)
def rs2 : RS Nat := (commit tiny.wires W rs1 1 5).get (by decide)     -- a sampling event
def rs3 : RS Nat := (commit tiny.wires W rs2 0 8).get (by decide)     -- a lifting 5 → 8

theorem run3 : Run tiny W Tr 2 rs3 := by
  refine .step rs2 rs3 0 8 (.step rs1 rs2 1 5 (.start (fun _ => none) 5 5 s0 out0 rs1
    (Option.some_get (x := first tiny.wires (initAct tiny.wires) 2 (fun T => W.yieldOf T 5)) (by decide)).symm (by simp [rs1]))
    (by decide) (by decide) (fun _ => rfl) (by simp [rs2])) (by decide) (by decide) (fun h => absurd h (by decide)) (by simp [rs3])

/-- the theorem applies, and its conclusion is about a non-empty pending list -/
example : ∀ T, W.live T → Fresh W rs3 T :=
  fresh_of_wiringSound tiny W Tr 2 (by decide +kernel) (by decide) fps liveIs run3
example : (getT rs3.act 0).running.map rs3.ids = [some [[8], [9]]] := by decide
end LinkExample

end JF.C09
