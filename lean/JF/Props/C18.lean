import JF.Lemmas.WalkerGeom
import JF.Lemmas.WalkerHandler
import JF.Lemmas.WalkerMeasure
/-!
# C18 — Cell-veto proposals pick target cells exactly in proportion to their bound rates

Exact reading (`Ops.rat`) of the model `JF.Walker` of `event_handler/walker.py` and of the selection /
arithmetic part of `CellVetoEventHandler`.  The float reading of the same definitions is what the driver runs
bit for bit against the real classes.

Part 1 (Walker): for every non-empty vector of non-negative rates with positive sum
* the constructor terminates without an exception (`build_ok`; the pairing loop stops because a list is
  empty, `pairing_terminates`), the table has `n` rows (`rows_eq_n`), `total_rate` is the sum
  (`total_rate_eq_sum`), every left-over item has rate exactly the mean (inside `build_ok`'s proof:
  `JF.Walker.pairLoop_leftovers`);
* `mass`: summed over the rows, the length of the draw interval on which item `i` is returned is `rate_i`;
  `sample_interval` says that these lengths are the lengths of the sets of draws `x ∈ (0, mean]` on which
  `sample_cell` returns `i` (the pointwise sampling rule is `sample_pointwise`), hence
  `selection_probability : (1/n) Σ_rows length_i(row)/mean = rate_i / total`;
* `zero_rate_never_selected` for draws `0 < x ≤ mean`, and `zero_rate_selected_at_draw_zero`: at the draw
  `x = 0` a zero-rate item *is* returned (finding F4; exact and binary64 reading);
* `selection_probability_measure`: the same probability statement with Lebesgue measure on the real draws
  (`measureProbability`), `selection_probabilities_sum_to_one`, `leftover_exact`.

Part 2 (cell-veto handler, see the section comment below): `send_event_time_sound`, `translate_is_offset`,
`targets_distinct`, `offset_proposal_rate`, `bounding_rate_positive`, `sendCore_never_asserts`.

Not covered by theorems: the binary64 table satisfies `mass` only up to rounding (the run-time
correspondence ties the float behaviour bit for bit, the oracle bounds the deviation by `(n+10)·2⁻⁵⁰`); the
system-level conjunct `vetoCellCurrent` of DESIGN.md (the active cell of a *pending* cell-veto event is still
current at commit time) belongs to the system model and is not proved here; "the possible targets are exactly the
non-nearby cells of the active cell" is proved here only as injectivity of the offset map (`targets_distinct`): this model
has no nearby set of a non-zero cell; on the integer torus of the cell taggers it is `JF.C10.veto_domain_translate`.
-/
namespace JF.C18
open JF JF.Walker

/-- the property's quantifier: `n ≥ 1` non-negative rates with positive total -/
structure Valid (rates : List ℚ) : Prop where
  ne : rates ≠ []
  nonneg : ∀ r ∈ rates, 0 ≤ r
  pos : 0 < rates.sum

/-- non-vacuity: zeros, equal rates and widely differing magnitudes are allowed -/
example : Valid [0, 1, 1, 1/10^30, 10^30, 0] := ⟨List.cons_ne_nil _ _, by decide +kernel, by decide +kernel⟩

variable {rates : List ℚ} {t : Table ℚ}

/-- `Walker.__init__` raises nothing on valid rates -/
theorem build_ok (V : Valid rates) : ∃ t, build Ops.rat rates = .ok t ∧ BuildSpec rates t :=
  build_rat rates V.ne V.nonneg V.pos

theorem spec_of_build (V : Valid rates) (hb : build Ops.rat rates = .ok t) : BuildSpec rates t := by
  obtain ⟨t', hb', hs⟩ := build_ok V
  rw [hb] at hb'; cases hb'; exact hs

/-- termination of `while len(small_list) and len(large_list)`: started with enough fuel (the model uses
`len(walker_items)`), the loop ends because one of the lists is empty, and any larger fuel gives the same
result -/
theorem pairing_terminates (m : ℚ) (S L : List (Item ℚ)) (k : Nat) :
    ((pairLoop m (S.length + L.length) S L).2.1 = [] ∨ (pairLoop m (S.length + L.length) S L).2.2 = []) ∧
    pairLoop m (S.length + L.length + k) S L = pairLoop m (S.length + L.length) S L :=
  ⟨(pairLoop_done m _ S L le_rfl).1, (pairLoop_done m _ S L le_rfl).2 k⟩

/-- `total_rate` is the sum of the rates (the compensated `sum` of CPython 3.12 is exact in exact arithmetic) -/
theorem total_rate_eq_sum (V : Valid rates) (hb : build Ops.rat rates = .ok t) : t.total = rates.sum :=
  (spec_of_build V hb).total

theorem mean_rate_eq (V : Valid rates) (hb : build Ops.rat rates = .ok t) :
    t.mean = rates.sum / rates.length ∧ 0 < t.mean := by
  have h := (spec_of_build V hb).mean
  refine ⟨h, ?_⟩
  rw [h]
  have : 0 < rates.length := List.length_pos_iff.mpr V.ne
  exact div_pos V.pos (by exact_mod_cast this)

theorem rows_eq_n (V : Valid rates) (hb : build Ops.rat rates = .ok t) : t.rows.length = rates.length :=
  (spec_of_build V hb).len

/-- every row is a pair `(small, large)` with `0 ≤ small.rate ≤ mean`, `large.rate = mean - small.rate`
and two different items, or a single entry with rate `mean` -/
theorem rows_wellformed (V : Valid rates) (hb : build Ops.rat rates = .ok t) : ∀ row ∈ t.rows, RowOK t.mean row :=
  (spec_of_build V hb).rows

/-- mass conservation per item -/
theorem mass (V : Valid rates) (hb : build Ops.rat rates = .ok t) (i : Nat) :
    contribRows i t.rows = rates.getD i 0 :=
  (spec_of_build V hb).mass i

/-- the pointwise sampling rule of `sample_cell` on a well-formed row, for every draw `x ≤ mean` -/
theorem sample_pointwise {m : ℚ} {row : Row ℚ} (hrow : RowOK m row) (x : ℚ) (hx : x ≤ m) :
    sampleRow row x = match row with
      | .pair s l => if x ≤ s.rate then .ok s.item else .ok l.item
      | .single y => .ok y.item := by
  cases row with
  | pair s l => simp only [sampleRow]
  | single y =>
    have : y.rate = m := hrow
    simp only [sampleRow, this, hx, if_true]

/-- the set of draws in `(0, mean]` on which a row returns item `i` is a union of at most two disjoint
half-open intervals; their lengths add up to `contrib i row` (`contrib_eq_lengths`) -/
theorem sample_interval {m : ℚ} {row : Row ℚ} (hrow : RowOK m row) (i : Nat) :
    {x : ℚ | 0 < x ∧ x ≤ m ∧ sampleRow row x = .ok i} = match row with
      | .pair s l => (if s.item = i then Set.Ioc 0 s.rate else ∅) ∪ (if l.item = i then Set.Ioc s.rate m else ∅)
      | .single y => if y.item = i then Set.Ioc 0 m else ∅ := by
  cases row with
  | pair s l => exact sampleRow_pair_draws 0 m s l i hrow.1 hrow.2.1
  | single y => exact sampleRow_single_draws 0 m y i hrow

theorem contrib_eq_lengths {m : ℚ} {row : Row ℚ} (hrow : RowOK m row) (i : Nat) :
    contrib i row = match row with
      | .pair s l => (if s.item = i then s.rate - 0 else 0) + (if l.item = i then m - s.rate else 0)
      | .single y => if y.item = i then m - 0 else 0 := by
  cases row with
  | pair s l => obtain ⟨-, -, hl, -⟩ := hrow; simp only [contrib, hl, sub_zero]
  | single y => have hy : y.rate = m := hrow; simp only [contrib, hy, sub_zero]

/-- the selection probability of item `i`: a uniformly chosen row, then a uniform draw on `(0, mean]`;
`contrib i row / mean` is the fraction of the draws on which `row` returns `i` (`sample_interval`) -/
def selectionProbability (t : Table ℚ) (i : Nat) : ℚ :=
  (1 / (t.rows.length : ℚ)) * (t.rows.map fun row => contrib i row / t.mean).sum

theorem sum_map_div {ι : Type} (f : ι → ℚ) (m : ℚ) (l : List ι) :
    (l.map fun r => f r / m).sum = (l.map f).sum / m := by
  simp only [div_eq_mul_inv, List.sum_map_mul_right]

/-- **each item is selected with probability rate/total** -/
theorem selection_probability (V : Valid rates) (hb : build Ops.rat rates = .ok t) (i : Nat) :
    selectionProbability t i = rates.getD i 0 / rates.sum := by
  have hlen : (rates.length : ℚ) ≠ 0 := by exact_mod_cast (List.length_pos_iff.mpr V.ne).ne'
  have hs := V.pos.ne'
  unfold selectionProbability
  rw [sum_map_div, rows_eq_n V hb, (mean_rate_eq V hb).1, show (t.rows.map (contrib i)).sum = _ from mass V hb i]
  field_simp

/-- identifiers that are not items have probability zero -/
theorem selection_probability_of_index_out_of_range (V : Valid rates) (hb : build Ops.rat rates = .ok t) (i : Nat)
    (hi : rates.length ≤ i) : selectionProbability t i = 0 := by
  rw [selection_probability V hb]
  have : rates.getD i 0 = 0 := by simp [List.getD_eq_getElem?_getD, List.getElem?_eq_none hi]
  rw [this]; simp

/-- `sample_cell` raises nothing for any row index `k < n` and any draw `x ≤ mean` -/
theorem sample_ok (V : Valid rates) (hb : build Ops.rat rates = .ok t) (k : Nat) (hk : k < rates.length) (x : ℚ)
    (hx : x ≤ t.mean) : ∃ j, sampleCell t k x = .ok j := by
  have hn := rows_eq_n V hb
  have hk' : k < t.rows.length := by omega
  have hrow := rows_wellformed V hb _ (List.getElem_mem hk')
  simp only [sampleCell, List.getElem?_eq_getElem hk']
  generalize t.rows[k] = row at hrow
  cases row with
  | pair s l => simp only [sampleRow]; split <;> exact ⟨_, rfl⟩
  | single y =>
    have hy : y.rate = t.mean := hrow
    exact ⟨y.item, by simp only [sampleRow, hy, hx, if_true]⟩

/-- whatever `sample_cell` returns for a draw `0 < x ≤ mean` has a positive rate: the row returns it on an
interval of positive length, which is part of the item's rate (`mass`) -/
theorem sampled_has_positive_rate (V : Valid rates) (hb : build Ops.rat rates = .ok t) (k j : Nat) (x : ℚ)
    (hx0 : 0 < x) (hxm : x ≤ t.mean) (hs : sampleCell t k x = .ok j) : 0 < rates.getD j 0 := by
  have hrows := rows_wellformed V hb
  simp only [sampleCell] at hs
  cases hk : t.rows[k]? with
  | none => rw [hk] at hs; cases hs
  | some row =>
    rw [hk] at hs
    have hmem : row ∈ t.rows := List.mem_of_getElem? hk
    rw [← mass V hb j]
    exact (contrib_pos_of_sampled (hrows row hmem) hx0 hxm hs).trans_le
      (List.single_le_sum (List.forall_mem_map.mpr fun r hr => contrib_nonneg (hrows r hr) (mean_rate_eq V hb).2.le j)
        _ (List.mem_map_of_mem hmem))

/-- **items with zero rate are never selected** by a draw `0 < x ≤ mean`, whatever row is chosen -/
theorem zero_rate_never_selected (V : Valid rates) (hb : build Ops.rat rates = .ok t) (i : Nat)
    (hi : rates.getD i 0 = 0) (k : Nat) (x : ℚ) (hx0 : 0 < x) (hxm : x ≤ t.mean) :
    sampleCell t k x ≠ .ok i :=
  fun hs => (sampled_has_positive_rate V hb k i x hx0 hxm hs).ne' hi

/-- non-vacuity of `zero_rate_never_selected` and, at the excluded end of the draw range, **finding F4**:
for the rates `[0, 1]` the table is `[(item 0 : 0, item 1 : 1/2), (item 1 : 1/2)]`, and the draw `x = 0` on
row 0 returns item 0, whose rate is zero.  Exact reading. -/
theorem zero_rate_selected_at_draw_zero :
    ∃ t, build Ops.rat [0, 1] = .ok t ∧ Valid [0, 1] ∧ ([0, 1] : List ℚ).getD 0 0 = 0 ∧ sampleCell t 0 0 = .ok 0 :=
  ⟨⟨1, 1/2, [.pair ⟨0, 0⟩ ⟨1, 1/2⟩, .single ⟨1, 1/2⟩]⟩, by decide +kernel,
    ⟨List.cons_ne_nil _ _, by decide +kernel, by decide +kernel⟩, rfl, by decide +kernel⟩

/-- finding F4 in the binary64 reading (what the real class does): `Walker([0.0, 1.0])`, row 0,
`random.uniform` returning `0.0` → the zero-rate item 0 -/
theorem zero_rate_selected_at_draw_zero_float :
    (match build Ops.float [0.0, 1.0] with
      | .ok t => sampleCell t 0 0.0
      | .error _ => .error .index) = .ok 0 := by decide +kernel

/-! ## Part 2: the cell-veto handler

For an initialised handler (`initHandler` succeeded on the estimator's bounds `est`) and a successful
`send_event_time`:
* `send_event_time_sound`: the candidate time is the time stamp plus `expovariate / (total · |cf| · speed)` where
  `total` is the sum of `max(bound, 0)` over the walker's domain for the direction of motion and the sign of the
  charge factor; the target cell is `translate(active cell, sampled offset)`, which on a cell system with exact
  cell boundaries is the cell whose identifier is the component-wise sum modulo the grid (`translate_is_offset`);
  the confirmation bound `_bounding_event_rate` is the stored bound of the sampled offset for that direction and
  sign times `|cf|`, and the stored bound is the estimator's (`upper`, `-lower`);
* `offset_proposal_rate`: the rate at which offset `j` is proposed, `total·|cf|·speed·P(j)`, equals
  `max(bound_j, 0)·|cf|·speed`;
* `bounding_rate_positive`: for a draw `0 < x ≤ mean` the sampled offset has a positive bound, so
  `assert self._bounding_event_rate > 0.0` cannot fail (at `x = 0` it can: finding F4).
-/

/-- the total stored by the constructor is the sum, whatever the rates (no validity needed) -/
theorem build_total {rates : List ℚ} {t : Table ℚ} (hb : build Ops.rat rates = .ok t) : t.total = rates.sum := by
  unfold build at hb
  cases rates with
  | nil => exact absurd hb (by simp)
  | cons r rs =>
    simp only at hb
    split at hb
    · exact absurd hb (by simp)
    · split at hb
      · exact absurd hb (by simp)
      · split at hb
        · exact absurd hb (by simp)
        · simp only [Except.ok.injEq] at hb
          subst hb
          simp only [pysum_rat]

/-- **offset → target cell**: on a periodic cell system with exact cell boundaries, `translate(cell, offset)`
raises nothing and returns the cell whose identifier is the component-wise sum of the two identifiers modulo
the numbers of cells per side — for every grid, every cell and every offset -/
theorem translate_is_offset (g : Grid ℚ) (hex : ∀ D ∈ g.dims, DimExact D) (c r : Nat) :
    ∃ target, translate Ops.rat g c r = .ok target ∧ target < numCells g.ns ∧
      cellId g.ns target = offsetId g.ns (cellId g.ns c) (cellId g.ns r) :=
  ⟨_, translate_rat g hex c r, addIdx_lt g.ns (ns_pos g hex) c r, cellId_addIdx g.ns (ns_pos g hex) c r⟩

/-- non-vacuity of `DimExact`: 4 cells of side 1/4 in a box of length 1 -/
example : DimExact ⟨4, 1, [0, 1/4, 2/4, 3/4], [1/4, 2/4, 3/4, 1]⟩ :=
  ⟨by decide, 1/4, by norm_num, by norm_num, by decide +kernel, by decide +kernel⟩

/-- **what `send_event_time` returns** (initialised handler, exact cell system) -/
theorem send_event_time_sound {g : Grid ℚ} {est : List (List (ℚ × ℚ))} {h : Handler ℚ}
    (hi : initHandler Ops.rat g est = .ok h) (hex : ∀ D ∈ g.dims, DimExact D)
    {vel pos : List ℚ} {cf : ℚ} {ts : Time ℚ} {k : Nat} {x e : ℚ} {p : Proposal ℚ}
    (hs : sendEventTime Ops.rat h vel cf pos ts k x e = .ok p) :
    ∃ dir active walker j,
      -- the unit moves along `dir` with positive speed, its cell is `active`
      (List.range vel.length).filter (fun d => vel[d]! != 0) = [dir] ∧ 0 < vel[dir]! ∧
      posToCell Ops.rat g pos = .ok active ∧
      -- the walker is the one of the direction of motion and of the sign of the charge factor; `j` is sampled from it
      (if 0 < cf then h.upper[dir]? else h.lower[dir]?) = some walker ∧ sampleCell walker k x = .ok j ∧
      -- proposals come at the total rate times the speed
      (dir < g.dims.length →
        walker.total = (walkerRates h.bounds (if 0 < cf then (·.1) else (·.2)) dir).sum) ∧
      walker.total * |cf| * vel[dir]! ≠ 0 ∧
      p.time.q + p.time.r = ts.q + ts.r + e / (walker.total * |cf| * vel[dir]!) ∧
      -- the target is the cell at the sampled offset from the active cell
      translate Ops.rat g active (domainOf g.ns g.nl)[j]! = .ok p.target ∧
      cellId g.ns p.target = offsetId g.ns (cellId g.ns active) (cellId g.ns (domainOf g.ns g.nl)[j]!) ∧
      -- the confirmation bound is the estimator's bound for that offset, direction and sign
      p.boundingRate = (if 0 < cf then ((est[j]!)[dir]!).1 else -((est[j]!)[dir]!).2) * |cf| ∧ 0 < p.boundingRate := by
  obtain ⟨hg, hdom, hbounds, hwalk⟩ := initHandler_spec g est h hi
  -- `send_event_time` up to the call of `sendCore`
  obtain ⟨dir, active, walker, h1, h2, h3, h4, hcore⟩ : ∃ dir active walker,
      (List.range vel.length).filter (fun d => vel[d]! != 0) = [dir] ∧ 0 < vel[dir]! ∧
      posToCell Ops.rat h.grid pos = .ok active ∧
      (if 0 < cf then h.upper[dir]? else h.lower[dir]?) = some walker ∧
      sendCore Ops.rat h dir vel[dir]! active walker (fun b => if 0 < cf then b.1 else b.2) |cf| ts k x e = .ok p := by
    unfold sendEventTime at hs
    simp only [rat_ofInt, Int.cast_zero] at hs
    split at hs
    · rename_i dir hdir
      by_cases hsp : 0 < vel[dir]!
      · rw [decide_eq_true hsp, Bool.not_true, if_neg Bool.false_ne_true] at hs
        cases hact : posToCell Ops.rat h.grid pos with
        | error er => rw [hact] at hs; cases hs
        | ok active =>
          simp only [hact] at hs
          by_cases hc : 0 < cf
          · rw [if_pos hc] at hs
            simp only [if_pos hc, abs_of_pos hc]
            cases hw : h.upper[dir]? with
            | none => rw [hw] at hs; cases hs
            | some walker => exact ⟨dir, active, walker, hdir, hsp, rfl, hw, by simpa only [hw] using hs⟩
          · rw [if_neg hc] at hs
            simp only [if_neg hc, abs_of_nonpos (not_lt.mp hc)]
            cases hw : h.lower[dir]? with
            | none => rw [hw] at hs; cases hs
            | some walker =>
              simp only [hw, Int.cast_neg, Int.cast_one, mul_neg, mul_one] at hs
              exact ⟨dir, active, walker, hdir, hsp, rfl, hw, hs⟩
      · rw [decide_eq_false hsp, Bool.not_false, if_pos rfl] at hs; cases hs
    · cases hs
  obtain ⟨j, h5, h6, h7, h8, h9, h10⟩ := sendCore_spec hcore
  rw [hg] at h3 h8
  rw [hdom] at h8
  refine ⟨dir, active, walker, j, h1, h2, h3, h4, h5, ?_, h9, h10, h8, ?_, ?_, h7⟩
  · intro hd
    obtain ⟨⟨tu, htu, hbu⟩, ⟨tl, htl, hbl⟩⟩ := hwalk dir hd
    by_cases hc : 0 < cf
    · simp only [hc, if_true] at h4 ⊢
      rw [htu] at h4; cases h4; exact build_total hbu
    · simp only [hc, if_false] at h4 ⊢
      rw [htl] at h4; cases h4; exact build_total hbl
  · obtain ⟨t', ht', -, hid⟩ := translate_is_offset g hex active (domainOf g.ns g.nl)[j]!
    rw [ht'] at h8; cases h8; exact hid
  · rw [h6, hbounds, storedBound]

/-- **each offset is proposed at its own bound rate**: the total proposal rate `total·|cf|·speed` times the
probability that the walker selects offset `j` is `max(bound_j, 0)·|cf|·speed` -/
theorem offset_proposal_rate {bounds : List (List (ℚ × ℚ))} {sel : ℚ × ℚ → ℚ} {d : Nat} {walker : Table ℚ}
    (V : Valid (walkerRates bounds sel d)) (hb : build Ops.rat (walkerRates bounds sel d) = .ok walker)
    (j : Nat) (hj : j < bounds.length) (cf speed : ℚ) :
    walker.total * |cf| * speed * selectionProbability walker j = max (sel ((bounds[j]!)[d]!)) 0 * |cf| * speed := by
  rw [selection_probability V hb, total_rate_eq_sum V hb, walkerRates_getD, if_pos hj]
  linear_combination |cf| * speed * mul_div_cancel₀ (max (sel ((bounds[j]!)[d]!)) 0) V.pos.ne' 

/-- **the confirmation bound is positive for every draw `0 < x ≤ mean`**: the `assert` on
`_bounding_event_rate` cannot fail, because zero-rate offsets are never sampled -/
theorem bounding_rate_positive {bounds : List (List (ℚ × ℚ))} {sel : ℚ × ℚ → ℚ} {d : Nat} {walker : Table ℚ}
    (V : Valid (walkerRates bounds sel d)) (hb : build Ops.rat (walkerRates bounds sel d) = .ok walker)
    (k j : Nat) (x : ℚ) (hx0 : 0 < x) (hxm : x ≤ walker.mean) (hs : sampleCell walker k x = .ok j)
    (cf' : ℚ) (hcf : 0 < cf') : 0 < sel ((bounds[j]!)[d]!) * cf' := by
  have hpos := sampled_has_positive_rate V hb k j x hx0 hxm hs
  rw [walkerRates_getD] at hpos
  split at hpos
  · exact mul_pos ((lt_max_iff.mp hpos).resolve_right (lt_irrefl 0)) hcf
  · exact absurd hpos (lt_irrefl 0)

/-- the confirmation `assert self._bounding_event_rate > 0.0` (and every other `assert`) of the part of
`send_event_time` after the choice of the walker cannot fail for a draw `0 < x ≤ mean`, a positive absolute
charge factor and an exact cell system: the only possible exceptions are an `IndexError` for a row index
outside the table and a `ZeroDivisionError` for a zero speed -/
theorem sendCore_never_asserts {h : Handler ℚ} {sel : ℚ × ℚ → ℚ} {d : Nat} {walker : Table ℚ}
    (V : Valid (walkerRates h.bounds sel d)) (hb : build Ops.rat (walkerRates h.bounds sel d) = .ok walker)
    (hex : ∀ D ∈ h.grid.dims, DimExact D)
    (k : Nat) (x : ℚ) (hx0 : 0 < x) (hxm : x ≤ walker.mean) (cf' : ℚ) (hcf : 0 < cf')
    (speed : ℚ) (active : Nat) (ts : Time ℚ) (e : ℚ) :
    sendCore Ops.rat h d speed active walker sel cf' ts k x e ≠ .error .assertion := by
  unfold sendCore
  simp only [rat_ofInt, Int.cast_zero]
  cases hs : sampleCell walker k x with
  | error er => rw [sampleCell_error hs]; simp
  | ok j =>
    have hpos := bounding_rate_positive V hb k j x hx0 hxm hs cf' hcf
    simp only [hpos, decide_true, Bool.not_true, Bool.false_eq_true, if_false,
      translate_rat h.grid hex active h.domain[j]!]
    split <;> simp

theorem selection_probabilities_sum_to_one (V : Valid rates) (hb : build Ops.rat rates = .ok t) :
    ((List.range rates.length).map (selectionProbability t)).sum = 1 := by
  have h1 : ((List.range rates.length).map (selectionProbability t)) =
      (List.range rates.length).map (fun i => rates.getD i 0 / rates.sum) :=
    List.map_congr_left (fun i _ => selection_probability V hb i)
  have h2 : ∀ l : List ℚ, ((List.range l.length).map (fun i => l.getD i 0)).sum = l.sum := by
    intro l
    induction l with
    | nil => simp
    | cons a l ih =>
      rw [List.length_cons, List.range_succ_eq_map, List.map_cons, List.map_map, List.sum_cons, List.sum_cons]
      simp only [List.getD_cons_zero]
      congr 1
  rw [h1, sum_map_div, h2, div_self V.pos.ne']

/-- every left-over of the pairing loop has rate exactly the mean (so the constructor's two
`assert 1-1e-6 < rate/mean < 1+1e-6` see the ratio 1), and the loop has stopped because a stack is empty -/
theorem leftover_exact (V : Valid rates) :
    let m := rates.sum / rates.length
    let out := pairLoop m rates.length (smallOf m (mkItems 0 rates)) (largeOf m (mkItems 0 rates))
    (out.2.1 = [] ∨ out.2.2 = []) ∧ (∀ x ∈ out.2.1, x.rate = m) ∧ (∀ x ∈ out.2.2, x.rate = m) := by
  obtain ⟨hinv, hlen, hsum⟩ := split_spec rates V.ne V.nonneg _ rfl
  exact pairLoop_leftovers _ _ _ _ hinv hlen.le hsum

/-! ### the selection probability as a Lebesgue measure

`random.choice` picks each of the `n` rows with probability `1/n`; `random.uniform(0, mean)` is uniform on an
interval of length `mean`.  `drawSet mean row i ⊆ ℝ` is the set of draws in `(0, mean]` on which `sample_cell`
returns `i` from `row` (the model's `sampleRow`, read over the reals).  -/

open MeasureTheory in
/-- probability that `sample_cell` returns item `i`: `Σ_rows (1/n) · λ(drawSet row i) / λ((0, mean])` -/
noncomputable def measureProbability (t : Table ℚ) (i : Nat) : ℝ :=
  (1 / (t.rows.length : ℝ)) * (t.rows.map fun row => (volume (drawSet t.mean row i)).toReal / (t.mean : ℝ)).sum

/-- **P(item i) = rate_i / total**, as a statement about Lebesgue measure over the two random draws -/
theorem selection_probability_measure (V : Valid rates) (hb : build Ops.rat rates = .ok t) (i : Nat) :
    measureProbability t i = ((rates.getD i 0 / rates.sum : ℚ) : ℝ) := by
  obtain ⟨-, hmpos⟩ := mean_rate_eq V hb
  have hrows := rows_wellformed V hb
  rw [← selection_probability V hb i]
  unfold measureProbability selectionProbability
  have : (t.rows.map fun row => (MeasureTheory.volume (drawSet t.mean row i)).toReal / (t.mean : ℝ)) =
      t.rows.map fun row => (((contrib i row / t.mean : ℚ)) : ℝ) := by
    apply List.map_congr_left
    intro row hrow
    rw [volume_drawSet_toReal t.mean hmpos.le row i (hrows row hrow)]
    push_cast; rfl
  rw [this]
  push_cast [List.map_map, Function.comp_def]
  rfl

/-- from a given active cell, different offsets are mapped to different target cells (exact cell system), so
the possible targets are in one-to-one correspondence with the walker's domain -/
theorem targets_distinct (g : Grid ℚ) (hex : ∀ D ∈ g.dims, DimExact D) (c r₁ r₂ : Nat)
    (h₁ : r₁ < numCells g.ns) (h₂ : r₂ < numCells g.ns)
    (h : translate Ops.rat g c r₁ = translate Ops.rat g c r₂) : r₁ = r₂ := by
  rw [translate_rat g hex, translate_rat g hex, Except.ok.injEq] at h
  exact addIdx_injective g.ns (ns_pos g hex) c r₁ r₂ h₁ h₂ h

end JF.C18
